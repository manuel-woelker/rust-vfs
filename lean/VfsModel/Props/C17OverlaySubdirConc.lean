/-
  C17 for an overlay whose layers are SUB-DIRECTORY PATHS of in-memory filesystems
  (`OverlayFS::new(&[fs_u_root.join("layers/up")?, fs_l_root.join("low")?, …])`), under all
  interleavings of layer calls: `overlay_subdir_create_dir_all_concurrent`, the analogue of
  `overlay_create_dir_all_concurrent` (Props/C17OverlayConc.lean, layers = roots of memory
  filesystems). Object: the interleaving model VfsModel/OverlayConc.lean, program
  `OConc.createDirAll layers p`, layers `layersSub (u :: is) (idu :: ids) (bu :: bs)` = the
  directory `renderC b_i` of leaf `i`.

  Hypotheses: the leaves `u :: is` are pairwise distinct memory leaves holding `Mu0 :: Ms` (`OWN`);
  bases canonical (possibly empty = the root); the proper ancestors of the write base are
  directories of `Mu0` (`AncOK`); and the hypotheses of the root-layer theorem on the maps
  re-rooted at their bases (`sub (renderC bu) Mu0`, `subMs bs Ms`; Proofs/SubtreeSim.lean).
  Conclusion, at every moment of every schedule: (a) only leaf `u` changed, below the base as
  `Evolve` allows (entries persist except cleared markers of requested prefixes, new entries are
  directories at requested prefixes), and NOTHING outside the subtree at the write base changed
  (`Out`); (b) every thread that has returned has returned `Ok(())` and every non-empty prefix of
  its path is a directory of the n-layer view of the re-rooted maps; (c) when all have finished all
  results are `Ok(())` and every requested prefix is a directory of that view.

  Proof: the program over sub-directory layers refines the program over root layers call for call
  (`SConc.ref_createDirAll`), up to stutter steps (`create_dir_all` on the write path walks the
  prefixes of the base first: `DirectoryExists`, no change) and error-path labels; the thread
  specification `OConc.sp_createDirAll` of the root-layer program on the re-rooted world
  `absW spec w` is transferred along the refinement (`SConc.transfer`) to a `wpR` specification of
  the real program under the real rely `RC`; then `run_wpR`.

  NOT PROVED: two layers living in the SAME leaf (e.g. "/layers/up" and "/low" of one MemoryFS:
  `OWN` demands distinct leaves); PhysicalFS leaves; concurrent removals / file creation.
-/
import VfsModel.Proofs.OverlaySubdirConcProg
import VfsModel.Props.C17OverlaySubdirConcEval
namespace Vfs.C17
open Vfs Vfs.Overlay Vfs.OConc Vfs.SConc

def layersSub : List Nat → List Nat → List (List Str) → List VPath
  | i :: is, id :: ids, b :: bs =>
    { fs := leafFS i, fsId := id, path := renderC b } :: layersSub is ids bs
  | _, _, _ => []

/-- leaf ↦ base -/
def specOf : List Nat → List (List Str) → Nat → Option Str
  | i :: is, b :: bs, j => if j = i then some (renderC b) else specOf is bs j
  | _, _, _ => none

theorem _root_.Vfs.SConc.SpecFor.congr {spec spec' : Nat → Option Str} {is : List Nat} {bs : List (List Str)}
    (h : SpecFor spec is bs) (he : ∀ j ∈ is, spec' j = spec j) : SpecFor spec' is bs := by
  induction h with
  | nil => exact .nil
  | cons hb _ ih =>
    exact .cons (by rw [he _ (by simp)]; exact hb) (ih (fun j hj => he j (by simp [hj])))

theorem specFor_specOf : ∀ (is : List Nat) (bs : List (List Str)), is.Nodup →
    bs.length = is.length → SpecFor (specOf is bs) is bs
  | [], [], _, _ => .nil
  | [], _ :: _, _, h => by simp at h
  | _ :: _, [], _, h => by simp at h
  | i :: is, b :: bs, hnd, hl => by
    have hnd' := List.nodup_cons.1 hnd
    refine .cons (by simp [specOf]) ?_
    refine (specFor_specOf is bs hnd'.2 (by simpa using hl)).congr ?_
    intro j hj
    have : j ≠ i := fun e => hnd'.1 (e ▸ hj)
    simp [specOf, this]

theorem lrel_layers {spec : Nat → Option Str} (ls : List Nat) :
    ∀ (is ids : List Nat) (bs : List (List Str)), (∀ i ∈ is, i ∈ ls) → SpecFor spec is bs →
      (∀ b ∈ bs, ∀ c ∈ b, GoodComp c) → is.length = ids.length →
      LRel spec ls (layersSub is ids bs) (layersN is ids) := by
  intro is ids bs hsub hs
  induction hs generalizing ids with
  | nil => intro _ _; cases ids <;> exact .nil
  | @cons i b is bs hb _ ih =>
    intro hg hl
    cases ids with
    | nil => simp at hl
    | cons id ids =>
      exact .cons (hsub i (by simp)) hb (hg b (by simp))
        (ih ids (fun j hj => hsub j (by simp [hj])) (fun b' hb' => hg b' (by simp [hb']))
          (by simpa using hl))

section main
variable {u idu : Nat} {is ids : List Nat} {Ms : List FMap} {bu : List Str}
  {bs : List (List Str)} {paths : List (List Str)}

theorem overlay_subdir_create_dir_all_concurrent (w0 : World) (Mu0 : FMap)
    (hown : OWN w0 (u :: is) (idu :: ids) (Mu0 :: Ms)) (hlen : bs.length = is.length)
    (hbu : ∀ c ∈ bu, GoodComp c) (hbs : ∀ b ∈ bs, ∀ c ∈ b, GoodComp c)
    (hanc : AncOK (renderC bu) Mu0) (hp : PathsOK paths)
    (hroot : RootOk (sub (renderC bu) Mu0))
    (hnofile : ∀ cs ∈ paths, ∀ j, 1 ≤ j → j ≤ cs.length →
      ∀ e, viewN (sub (renderC bu) Mu0 :: subMs bs Ms) (renderC (cs.take j)) = some e →
        e.ftype = .dir)
    (hghost : ∀ q, Req paths q → (sub (renderC bu) Mu0).contains (marker q) = true →
      ∀ e, (sub (renderC bu) Mu0).find? q = some e → e.ftype = .dir)
    (hmark : ∀ q, Req paths q →
      ∀ e, (sub (renderC bu) Mu0).find? (marker q) = some e → e.ftype = .file)
    (schedule : List Nat) :
    let s := OConc.run
      (initSys (layersSub (u :: is) (idu :: ids) (bu :: bs)) w0 (paths.map renderC)) schedule
    ∃ Mu,
      -- (a)
      (s.world = w0.setLeafFiles u Mu ∧ OWN s.world (u :: is) (idu :: ids) (Mu :: Ms) ∧
        Evolve paths (sub (renderC bu) Mu0) (sub (renderC bu) Mu) ∧ Out bu Mu0 Mu) ∧
      -- (b)
      (s.threads.length = paths.length ∧
       ∀ (i : Nat) (cs : List Str) (r : Res Unit), paths[i]? = some cs →
        s.results[i]? = some (some r) →
        r = .ok () ∧ ∀ j, 1 ≤ j → j ≤ cs.length →
          ∃ e, viewN (sub (renderC bu) Mu :: subMs bs Ms) (renderC (cs.take j)) = some e ∧
            e.ftype = .dir) ∧
      -- (c)
      (s.finished = true →
        s.results = paths.map (fun _ => some (.ok ())) ∧
        ∀ cs ∈ paths, ∀ j, 1 ≤ j → j ≤ cs.length →
          ∃ e, viewN (sub (renderC bu) Mu :: subMs bs Ms) (renderC (cs.take j)) = some e ∧
            e.ftype = .dir) := by
  intro s
  have hnd : (u :: is).Nodup := hown.nodup
  have hl1 : is.length = ids.length := by have := hown.len_ids; simpa using this
  have hlM : is.length = Ms.length := by have := hown.len_ms; simpa using this
  have hl2 : is.length = (subMs bs Ms).length := by
    simp only [subMs, List.length_zipWith]; omega
  let spec := specOf (u :: is) (bu :: bs)
  have hspecAll : SpecFor spec (u :: is) (bu :: bs) :=
    specFor_specOf (u :: is) (bu :: bs) hnd (by simpa using hlen)
  obtain ⟨hspecu, hspec⟩ : spec u = some (renderC bu) ∧ SpecFor spec is bs := by
    cases hspecAll with
    | cons h1 h2 => exact ⟨h1, h2⟩
  have hL : LRel spec (u :: is) (layersSub is ids bs) (layersN is ids) :=
    lrel_layers (u :: is) is ids bs (fun i hi => by simp [hi]) hspec hbs hl1
  have hinv0 : CInv bu Mu0 := by
    refine ⟨hanc, ?_⟩
    obtain ⟨e, he, hd⟩ := hroot.root
    exact ⟨e, by rw [← find?_sub_nil]; exact he, hd⟩
  have g0 : GI (subMs bs Ms) paths (sub (renderC bu) Mu0) := GI_init _ hroot
    (fun q ⟨cs, hcs, j, h1, h2, hq⟩ e he => hnofile cs hcs j h1 h2 e (hq ▸ he)) hghost hmark
  let Q' : List Str → Res Unit → World → Prop := fun cs r w' =>
    ∃ mu', St u idu is ids (subMs bs Ms) w' mu' ∧
      (r = .ok () ∧ VisUpTo (subMs bs Ms) cs cs.length mu')
  have hrun := run_wpR (R := RC u idu is ids Ms bu paths) RC.refl (RC.trans hp) paths
    (OConc.createDirAll (layersSub (u :: is) (idu :: ids) (bu :: bs)) ∘ renderC)
    (fun cs r w' => ∃ r', RR EqV r r' ∧ Q' cs r' (absW spec w')) w0 (fun cs hcs =>
      have href : Ref spec (u :: is) u bu EqV
          (OConc.createDirAll (layersSub (u :: is) (idu :: ids) (bu :: bs)) (renderC cs))
          (OConc.createDirAll (layersN (u :: is) (idu :: ids)) (renderC cs)) :=
        ref_createDirAll (ls := u :: is) (by simp) hspecu hbu hL cs (hp cs hcs).1
      transfer hspecu hspec hp hbu href (Q' cs) w0 Mu0 hown hinv0
        (sp_createDirAll hp hl1 hl2 cs hcs _ g0 _ (abs_st hspecu hspec hown))) schedule
  rw [← List.map_map] at hrun
  obtain ⟨hrel, hlen', hres⟩ := hrun
  obtain ⟨Mu, (hw : s.world = _), hev, hout⟩ := hrel Mu0 hown
  have hownS : OWN s.world (u :: is) (idu :: ids) (Mu :: Ms) := by rw [hw]; exact hown.setHead Mu
  have hstA : St u idu is ids (subMs bs Ms) (absW spec s.world) (sub (renderC bu) Mu) :=
    abs_st hspecu hspec hownS
  have hb : ∀ (i : Nat) (cs : List Str) (r : Res Unit), paths[i]? = some cs →
      s.results[i]? = some (some r) →
      r = .ok () ∧ ∀ j, 1 ≤ j → j ≤ cs.length →
        ∃ e, viewN (sub (renderC bu) Mu :: subMs bs Ms) (renderC (cs.take j)) = some e ∧
          e.ftype = .dir := by
    intro i cs r hpi hr
    obtain ⟨r2, hrr, mu', hst', hr, hvis⟩ := hres i cs r hpi hr
    rw [St.unique hstA hst']
    subst hr
    refine ⟨?_, fun j h1 h2 => (hvis j h1 h2).view⟩
    cases r <;> simp [RR] at hrr
    rfl
  exact ⟨Mu, ⟨hw, hownS, hev, hout⟩, ⟨hlen', hb⟩, Sys.all_ok hlen' hb⟩

theorem sub_find (P : Str) (M : FMap) (cs : List Str) (hcs : ∀ c ∈ cs, GoodComp c) :
    (sub P M).find? (renderC cs) = M.find? (P ++ renderC cs) :=
  find?_sub P M _ (Canon.rooted ⟨cs, hcs, rfl⟩)

end main

example : layersSub [1, 0] [7, 8] [[['l', 'a', 'y', 'e', 'r', 's'], ['u', 'p']], [['l', 'o', 'w']]] = layS := rfl

theorem wS_setting : OWN wS [1, 0] [7, 8] [muS, mlS] :=
  .cons rfl (by decide) (.cons rfl (by decide) .nil)

theorem sub_muS : sub sUp muS = muC := by decide
theorem sub_mlS : sub sLow mlS = mlC := by decide

/-- the theorem instantiated on `wS`, for EVERY schedule: all results that exist are `Ok`; when
both threads have finished "/c", "/c/x", "/c/y" are directories of the view; leaf 1 changed only
below "/layers/up" -/
theorem wS_instance (schedule : List Nat) :
    ∃ Mu, (OConc.run sNewS schedule).world = wS.setLeafFiles 1 Mu ∧
      Evolve pathsC muC (sub sUp Mu) ∧
      Mu.find? sLayers = some dirEntryNow ∧ Mu.find? [] = some dirEntryNow ∧
      (∀ (i : Nat) (r : Res Unit), i < 2 → (OConc.run sNewS schedule).results[i]? = some (some r) →
        r = .ok ()) ∧
      ((OConc.run sNewS schedule).finished = true →
        (OConc.run sNewS schedule).results = [some (.ok ()), some (.ok ())] ∧
        ∀ q ∈ [kC, pX, pY], ∃ e, viewN [sub sUp Mu, mlC] q = some e ∧ e.ftype = .dir) := by
  have hbu : ∀ c ∈ [['l', 'a', 'y', 'e', 'r', 's'], ['u', 'p']], GoodComp c := by decide
  have hsUp : renderC [['l', 'a', 'y', 'e', 'r', 's'], ['u', 'p']] = sUp := by decide
  have hsLow : renderC [['l', 'o', 'w']] = sLow := by decide
  have hms : subMs [[['l', 'o', 'w']]] [mlS] = [mlC] := by
    simp only [subMs, List.zipWith, hsLow, sub_mlS]
  have hanc : AncOK sUp muS := by
    intro ps hps hP j hj
    have hps' : ps = [['l', 'a', 'y', 'e', 'r', 's'], ['u', 'p']] := by
      have h1 : splitSlash ((renderC ps).drop 1) = splitSlash (sUp.drop 1) := by rw [← hP]
      have hne : ps ≠ [] := by intro h0; subst h0; simp [sUp] at hP
      rw [splitSlash_drop_renderC ps hne (good_noSlash hps)] at h1
      rw [h1]; decide
    subst hps'
    have : j = 0 ∨ j = 1 := by simp at hj; omega
    rcases this with rfl | rfl
    · exact ⟨dirEntryNow, by decide, rfl⟩
    · exact ⟨dirEntryNow, by decide, rfl⟩
  obtain ⟨Mu, ⟨hw, _, hev, hout⟩, ⟨_, hb⟩, hc⟩ :=
    overlay_subdir_create_dir_all_concurrent (u := 1) (idu := 7) (is := [0]) (ids := [8])
      (Ms := [mlS]) (bu := [['l', 'a', 'y', 'e', 'r', 's'], ['u', 'p']]) (bs := [[['l', 'o', 'w']]])
      (paths := pathsC) wS muS wS_setting rfl hbu (by decide) (by rw [hsUp]; exact hanc) pathsC_ok
      (by rw [hsUp, sub_muS]; exact muC_root)
      (by rw [hsUp, sub_muS, hms]
          exact fun cs hcs j h1 h2 e he => muC_nofile _ ⟨cs, hcs, j, h1, h2, rfl⟩ e he)
      (by rw [hsUp, sub_muS]; exact muC_ghost) (by rw [hsUp, sub_muS]; exact muC_mark) schedule
  rw [hsUp, sub_muS] at hev
  rw [hsUp, hms] at hb hc
  refine ⟨Mu, hw, hev, ?_, ?_, ?_, ?_⟩
  · rw [hout sLayers (by rw [hsUp]; decide)]; decide
  · rw [hout [] (by rw [hsUp]; decide)]; decide
  · intro i r hi hres
    exact (hb i pathsC[i] r (List.getElem?_eq_getElem hi) hres).1
  · exact fun hfin => ⟨(hc hfin).1, of_req_pathsC (hc hfin).2⟩

end Vfs.C17

#print axioms Vfs.C17.overlay_subdir_create_dir_all_concurrent
#print axioms Vfs.C17.wS_instance
