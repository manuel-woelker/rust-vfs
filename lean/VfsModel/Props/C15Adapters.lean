/-
  C15 lifted through the adapters.
  `leaf_sim`: the model of AsyncMemoryFS (`aleafFS i`) and the sync MemoryFS with its timestamps
  unobserved (`qleafFS i`) are related filesystems in the form the parametricity theorems of
  Proofs/Sim.lean accept: worlds related by `RTS` (equal once every timestamp is forgotten; every leaf
  of the sync world a memory leaf with canonical keys, because `read_dir` must list canonical
  names), writers by `HM` (the same in-memory writer), results EQUAL (answers, error kinds, error
  paths). `stack_sim` carries this to async and sync stackings built in parallel (`StackRel`:
  altroots over a canonical sub-directory, overlays over a non-empty layer list, on the async side
  with AsyncOverlayFS's own `read_dir`, `Overlay.readDirA`).
  `async_stack_eq_sync_stack`, `async_stack_eq_sync_stack_history`: on the async stacking, with the
  async port's own `copyFileA`/`moveFileA`, every call of the path API (`Op`, sixteen operations) /
  every finite history gives the SAME observations as on the sync stacking, and `RTS`-related final
  worlds.

  HYPOTHESES of the final theorems: `StackRel fa fs` (which contains `Overlay.LayersOK` on both
  sides: layers with the same fsId carry the same filesystem, e.g. pairwise distinct fsIds; leaves
  need not be distinct); `Op.OK`; `RTS wa ws`; for `move_file` calls only: `RemovalCommutes` of the
  async source path (C15Async §6; proved there for memory-leaf paths, NOT proved here for paths of
  an arbitrary stacking — without it the theorem still holds with `VPath.moveFile` on both sides:
  `op_sim`, `runAll_sim`).

  NOT PROVED: the sync side is `qleafFS`, not `leafFS`. Where they differ, and why (all real
  differences of the model):
   * time setters: AsyncMemoryFS has none (C15Async `async_memory_has_no_timestamps`); they are
     also left out of `Op`.
   * metadata: `SimFS0` of Sim.lean demands EQUAL metadata, the async answer has no times; a
     parametricity theorem with "equal type and length" would need Sim.lean re-proved with a
     generalised field (the path operations only read `ftype`/`len`).
   * open_file: the sync `Mem.openFile` re-inserts the entry (access time), which moves it to the
     front of the association list that stands for the unobservable HashMap order; `read_dir`
     lists in that order, so after an `open_file` the model's sync and async listings agree only
     up to permutation. Sim.lean's `NamesRel` is list equality; a permutation-insensitive
     parametricity (walks in permuted orders!) is not available. C15Async
     `Mem_openFile_world_eraseTS` is the extensional bridge at the leaf.
  The bridge `qleafFS` → `leafFS` through the adapters (equal up to timestamps and listing order)
  is therefore NOT proved. Also outside: the writers are the sync `WHandle` on both sides (the
  record type fixes it; AWHandle poll-level behaviour is C15Async §1-4, `amemPublish_eraseTS` the
  bridge); the async physical port; executors / Pending (poll-level theorems of C15.lean).
-/
import VfsModel.Proofs.SubtreeSim
import VfsModel.Props.C15Async
namespace Vfs.C15

/-! ## 1. the leaf: AsyncMemoryFS against MemoryFS as a `SimFS` instance -/

/-- worlds that are equal once every timestamp is forgotten (the relation of C15Async, made
symmetric because the record type `FS` fixes the writer to the sync `WHandle`, whose flush stamps a
modification time on BOTH sides); every leaf is an in-memory leaf with canonical keys -/
def RTS (wa ws : World) : Prop :=
  wa.eraseTS = ws.eraseTS ∧ ∀ i l, ws.leaf? i = some l → l.kind = .mem ∧ KeysCanon l.files

def HM (h1 h2 : WHandle) : Prop := h1 = h2 ∧ h1.kind = .memFile

/-- the sync MemoryFS with its timestamps unobserved: `open_file` does not record the access
time, `metadata` answers with the three times erased, the three time setters and
`copy_file`/`move_file`/`move_dir` are the trait defaults (MemoryFS implements none of the latter
three; `leafFS` answers NotSupported there too). Every other field is the field of `leafFS`. -/
def qleafFS (i : Nat) : FS :=
  { leafFS i with
    openFile := fun p => onLeaf i fun l => match l.kind with
      | .mem => ((Mem.openFile l.files p).1, l.files)
      | .phys => (Phys.openFile l.files p, l.files)
    metadata := fun p => onLeaf i fun l => match l.kind with
      | .mem => ((Mem.metadata l.files p).map Meta.eraseTS, l.files)
      | .phys => ((Phys.metadata l.files p).map Meta.eraseTS, l.files)
    setCreationTime := fun _ _ => M.failK .notSupported
    setModificationTime := fun _ _ => M.failK .notSupported
    setAccessTime := fun _ _ => M.failK .notSupported
    copyFile := fun _ _ => M.failK .notSupported
    moveFile := fun _ _ => M.failK .notSupported
    moveDir := fun _ _ => M.failK .notSupported }

section maps
variable {ma ms : FMap} (E : ma.eraseTS = ms.eraseTS)
include E

theorem find_rel (k : Str) :
    (ma.find? k).map Entry.eraseTS = (ms.find? k).map Entry.eraseTS := by
  rw [← FMap.find?_eraseTS, ← FMap.find?_eraseTS, E]

theorem via2 {α} (F G : FMap → Str → Res α × FMap)
    (hF : ∀ m p, F m.eraseTS p = ((F m p).1, (F m p).2.eraseTS))
    (hG : ∀ m p, F m.eraseTS p = ((G m p).1, (G m p).2.eraseTS)) (p : Str) :
    (F ma p).1 = (G ms p).1 ∧ (F ma p).2.eraseTS = (G ms p).2.eraseTS := by
  have a := hF ma p
  have b := hG ms p
  rw [E] at a
  rw [a] at b
  exact ⟨congrArg (fun x => x.1) b, congrArg (fun x => x.2) b⟩

theorem via1 {α} (F G : FMap → Str → Res α)
    (hF : ∀ m p, F m.eraseTS p = F m p) (hG : ∀ m p, F m.eraseTS p = G m p) (p : Str) :
    F ma p = G ms p := by
  rw [← hF ma p, E, hG]

end maps

theorem AMem_createDir_comm (m : FMap) (p : Str) :
    AMem.createDir m.eraseTS p = ((AMem.createDir m p).1, (AMem.createDir m p).2.eraseTS) := by
  rw [AMem_createDir_eraseTS, AMem_createDir_eq, Mem.createDir_eq, onSlot_map_eraseTS]; rfl

theorem AMem_createFile_comm (m : FMap) (p : Str) :
    AMem.createFile m.eraseTS p = ((AMem.createFile m p).1, (AMem.createFile m p).2.eraseTS) := by
  rw [AMem_createFile_eraseTS, AMem_createFile_eq, Mem.createFile_eq, onSlot_map_eraseTS]; rfl

theorem AMem_metadata_comm (m : FMap) (p : Str) :
    AMem.metadata m.eraseTS p = AMem.metadata m p := by
  unfold AMem.metadata
  rw [FMap.find?_eraseTS]
  cases m.find? p <;> rfl

theorem AMem_openFile_comm (m : FMap) (p : Str) :
    AMem.openFile m.eraseTS p = AMem.openFile m p := by
  unfold AMem.openFile
  rw [FMap.find?_eraseTS]
  cases m.find? p <;> rfl

theorem keys_memPublish {m : FMap} (hk : KeysCanon m) (k : Str) (b : Bytes) :
    KeysCanon (memPublish m k b) := by
  rw [Mem.memPublish_eq]
  cases h : m.find? k with
  | none => exact hk
  | some e => exact Write.keysCanon _ hk (hk k ((FMap.mem_keys_iff m k).2 ⟨e, h⟩))

theorem leaf_rel {wa ws : World} (E : wa.eraseTS = ws.eraseTS) (i : Nat) :
    (wa.leaf? i).map Leaf.eraseTS = (ws.leaf? i).map Leaf.eraseTS := by
  rw [← World.leaf?_eraseTS, ← World.leaf?_eraseTS, E]

theorem rts_setLeaf {wa ws : World} (h : RTS wa ws) (i : Nat) (fa fs : FMap)
    (hf : fa.eraseTS = fs.eraseTS) (hk : KeysCanon fs) :
    RTS (wa.setLeafFiles i fa) (ws.setLeafFiles i fs) := by
  refine ⟨by rw [World.setLeafFiles_eraseTS, World.setLeafFiles_eraseTS, h.1, hf], ?_⟩
  intro j l hl
  by_cases hj : j = i
  · subst hj
    cases h0 : ws.leaf? j with
    | none => rw [World.setLeafFiles_none ws j fs h0, h0] at hl; cases hl
    | some l0 =>
      rw [World.setLeafFiles_same ws j l0 fs h0] at hl
      cases hl
      exact ⟨(h.2 j l0 h0).1, hk⟩
  · rw [World.leaf?_setLeafFiles_ne ws i j fs (fun e => hj e.symm)] at hl
    exact h.2 j l hl

/-- `RTS` leaf by leaf: both absent, or both in-memory leaves equal up to timestamps, the sync one
with canonical keys -/
theorem leafwise_rts : Leafwise RTS fun la ls =>
    la.kind = .mem ∧ ls.kind = .mem ∧ KeysCanon ls.files ∧ la.files.eraseTS = ls.files.eraseTS where
  look := by
    intro wa ws hr i
    have hl := leaf_rel hr.1 i
    cases ha : wa.leaf? i with
    | none =>
      cases hs : ws.leaf? i with
      | none => exact .inl ⟨rfl, rfl⟩
      | some ls => rw [ha, hs] at hl; cases hl
    | some la =>
      cases hs : ws.leaf? i with
      | none => rw [ha, hs] at hl; cases hl
      | some ls =>
        rw [ha, hs] at hl
        simp only [Option.map_some, Option.some.injEq, Leaf.eraseTS, Leaf.mk.injEq] at hl
        obtain ⟨hm, hkc⟩ := hr.2 i ls hs
        exact .inr ⟨la, ls, rfl, rfl, by rw [hl.1, hm], hm, hkc, hl.2⟩
  set := fun hr _ _ hl => rts_setLeaf hr _ _ _ hl.2.2.2 hl.2.2.1

theorem rts_publish {wa ws : World} (h : RTS wa ws) (i : Nat) (k : Str) (b : Bytes) :
    RTS (wa.publish memPublish i k b) (ws.publish memPublish i k b) := by
  rcases leafwise_rts.look h i with ⟨ea, es⟩ | ⟨la, ls, ea, es, _, _, hkc, hf⟩
  · simp only [World.publish, ea, es]; exact h
  · rw [World.publish_of_leaf _ _ _ _ ea, World.publish_of_leaf _ _ _ _ es]
    refine rts_setLeaf h i _ _ ?_ (keys_memPublish hkc k b)
    rw [← amemPublish_eraseTS, ← amemPublish_eraseTS, hf]

variable {PR : Option Str → Option Str → Prop} [ReflPR PR]

omit [ReflPR PR] in
theorem sim_onLeaf {α β} {Q : α → β → Prop} (i : Nat) (f : Leaf → Res α × FMap)
    (g : Leaf → Res β × FMap)
    (h : ∀ la ls : Leaf, la.kind = .mem → ls.kind = .mem → KeysCanon ls.files →
      la.files.eraseTS = ls.files.eraseTS →
      RelRes PR Q (f la).1 (g ls).1 ∧ (f la).2.eraseTS = (g ls).2.eraseTS ∧ KeysCanon (g ls).2) :
    SimM RTS PR Q (onLeaf i f) (onLeaf i g) :=
  simM_iff.2 <| leafwise_rts.onLeaf i f g fun la ls ⟨ha, hs, hkc, hf⟩ =>
    ⟨relRes_iff.1 (h la ls ha hs hkc hf).1, ha, hs, (h la ls ha hs hkc hf).2.2,
      (h la ls ha hs hkc hf).2.1⟩

theorem RelRes.of_eq {α} {r1 r2 : Res α} (h : r1 = r2) : RelRes PR (· = ·) r1 r2 := by
  subst h; exact RelRes.refl (fun _ => rfl) _

theorem simHandles : SimHandles RTS PR HM where
  write := by
    rintro h1 h2 bs ⟨rfl, hk⟩ wa ws hr
    rw [WHandle.write_mem h1 hk, WHandle.write_mem h1 hk]
    exact ⟨.ok ⟨rfl, rfl, hk⟩, hr⟩
  flush := by
    rintro h1 h2 ⟨rfl, hk⟩ wa ws hr
    simp only [WHandle.flush_eq, hk, if_true]
    exact ⟨.ok trivial, rts_publish hr _ _ _⟩
  seek := by
    rintro h1 h2 s ⟨rfl, hk⟩ wa ws hr
    rw [WHandle.seek_mem h1 hk, WHandle.seek_mem h1 hk]
    exact ⟨(RelRes.of_eq rfl).map fun _ _ hn => by subst hn; exact ⟨rfl, rfl, hk⟩, hr⟩

set_option hygiene false in
macro "leaf_prelude" : tactic => `(tactic|
  (refine sim_onLeaf _ _ _ fun la ls hka hks hkc E => ?_
   obtain ⟨ka, fa⟩ := la
   obtain ⟨ks, fs⟩ := ls
   simp only at hka hks hkc E
   subst hka
   subst hks
   dsimp only))

theorem leaf_sim0 (i : Nat) : SimFS0 RTS PR HM (aleafFS i) (qleafFS i) where
  readDir p _ := by
    show SimM RTS PR _ (onLeaf i _) (onLeaf i _)
    leaf_prelude
    have e : AMem.readDir fa p = Mem.readDir fs p := by
      unfold AMem.readDir; rw [← Mem.readDir_eraseTS fa, E, Mem.readDir_eraseTS]
    refine ⟨?_, E, hkc⟩
    rw [e]
    cases h : Mem.readDir fs p with
    | ok l => exact .ok ⟨rfl, readDir_names_good fs p hkc l h⟩
    | err k q => exact .err (ReflPR.refl _)
    | panic => exact .panic
  createDir p hp _ := by
    show SimM RTS PR _ (onLeaf i _) (onLeaf i _)
    leaf_prelude
    obtain ⟨h1, h2⟩ := via2 E AMem.createDir Mem.createDir AMem_createDir_comm
      AMem_createDir_eraseTS p
    exact ⟨RelRes.of_eq h1, h2, by rw [Mem.createDir_eq]; exact Write.keysCanon _ hkc hp⟩
  openFile p _ := by
    show SimM RTS PR _ (onLeaf i _) (onLeaf i _)
    leaf_prelude
    have h1 := via1 E AMem.openFile (fun m p => (Mem.openFile m p).1) AMem_openFile_comm
      AMem_openFile_eraseTS p
    exact ⟨RelRes.of_eq h1, E, hkc⟩
  createFile p hp := by
    show SimM RTS PR _ (onLeaf i _) (onLeaf i _)
    leaf_prelude
    obtain ⟨h1, h2⟩ := via2 E AMem.createFile Mem.createFile AMem_createFile_comm
      AMem_createFile_eraseTS p
    exact ⟨(RelRes.of_eq h1).map fun _ _ _ => ⟨rfl, rfl⟩, h2,
      by rw [Mem.createFile_eq]; exact Write.keysCanon _ hkc hp⟩
  appendFile p _ := by
    show SimM RTS PR _ (onLeaf i _) (onLeaf i _)
    leaf_prelude
    have h1 := via1 E AMem.appendFile Mem.appendFile (fun m p => Mem.appendFile_eraseTS m p)
      (fun m p => Mem.appendFile_eraseTS m p) p
    exact ⟨(RelRes.of_eq h1).map fun _ _ hb => by subst hb; exact ⟨rfl, rfl⟩, E, hkc⟩
  metadata p _ := by
    show SimM RTS PR _ (onLeaf i _) (onLeaf i _)
    leaf_prelude
    have h1 := via1 E AMem.metadata (fun m p => (Mem.metadata m p).map Meta.eraseTS)
      AMem_metadata_comm AMem_metadata_eraseTS p
    exact ⟨RelRes.of_eq h1, E, hkc⟩
  setCreationTime _ _ _ := SimM.failK _
  setModificationTime _ _ _ := SimM.failK _
  setAccessTime _ _ _ := SimM.failK _
  exists_ p _ := by
    show SimM RTS PR _ (onLeaf i _) (onLeaf i _)
    leaf_prelude
    have h1 : AMem.exists_ fa p = fs.contains p := by
      unfold AMem.exists_; rw [← FMap.contains_eraseTS fa, E, FMap.contains_eraseTS]
    exact ⟨RelRes.of_eq (by rw [h1]), E, hkc⟩
  removeFile p hp := by
    show SimM RTS PR _ (onLeaf i _) (onLeaf i _)
    leaf_prelude
    obtain ⟨h1, h2⟩ := via2 E Mem.removeFile Mem.removeFile Mem.removeFile_eraseTS
      Mem.removeFile_eraseTS p
    exact ⟨RelRes.of_eq h1, h2, by rw [Mem.removeFile_eq]; exact Write.keysCanon _ hkc hp⟩
  removeDir p hp _ := by
    show SimM RTS PR _ (onLeaf i _) (onLeaf i _)
    leaf_prelude
    obtain ⟨h1, h2⟩ := via2 E Mem.removeDir Mem.removeDir Mem.removeDir_eraseTS
      Mem.removeDir_eraseTS p
    exact ⟨RelRes.of_eq h1, h2, by rw [Mem.removeDir_eq]; exact Write.keysCanon _ hkc hp⟩
  moveFile _ _ _ _ := SimM.failK _
  moveDir _ _ _ _ := SimM.failK _

theorem leaf_sim (i : Nat) : SimFS RTS PR HM (aleafFS i) (qleafFS i) :=
  SimFS.of_strong simHandles (leaf_sim0 i) (fun _ _ _ _ => SimM.failK _)

/-! ## 2. stackings, built on both sides in parallel -/

/-- `AsyncOverlayFS` with its own `read_dir` (async_vfs/impls/overlay.rs:105-143, `Overlay.readDirA`) -/
def overlayFSA (layers : List VPath) : FS :=
  { Overlay.fs layers with readDir := Overlay.readDirA layers }

theorem overlayFSA_eq (layers : List VPath) : overlayFSA layers = Overlay.fs layers := by
  unfold overlayFSA
  rw [overlay_readDirA_eq_readDir]
  rfl

mutual
/-- async stacking (left) and sync stacking (right) of the same shape: memory leaves, altroots over
a canonical sub-directory, overlays (async: `overlayFSA`) over non-empty lists of layers -/
inductive StackRel : FS → FS → Prop
  | leaf (i : Nat) : StackRel (aleafFS i) (qleafFS i)
  | altroot {f1 f2 : FS} (id : Nat) (root : Str) : StackRel f1 f2 → Canon root →
      StackRel (Altroot.fs ⟨f1, id, root⟩) (Altroot.fs ⟨f2, id, root⟩)
  | overlay {l1 l2 : List VPath} : LayersRel l1 l2 → l1 ≠ [] → Overlay.LayersOK l1 →
      Overlay.LayersOK l2 → StackRel (overlayFSA l1) (Overlay.fs l2)
inductive LayersRel : List VPath → List VPath → Prop
  | nil : LayersRel [] []
  | cons {f1 f2 : FS} (id : Nat) (p : Str) {l1 l2 : List VPath} : StackRel f1 f2 → Canon p →
      LayersRel l1 l2 → LayersRel (⟨f1, id, p⟩ :: l1) (⟨f2, id, p⟩ :: l2)
end

set_option linter.unusedSectionVars false in
mutual
theorem stack_sim {f1 f2 : FS} : StackRel f1 f2 → SimFS RTS PR HM f1 f2
  | .leaf i => leaf_sim i
  | .altroot id root h hc => Altroot.sim_fs simHandles ⟨stack_sim h, rfl, rfl, hc⟩
  | .overlay hl hne h1 h2 => by
      rw [overlayFSA_eq]
      exact Overlay.sim_fs (layers_sim hl) hne simHandles h1 h2
theorem layers_sim {l1 l2 : List VPath} : LayersRel l1 l2 → ListRel (SimVPath RTS PR HM) l1 l2
  | .nil => .nil
  | .cons id p h hc hl => .cons ⟨stack_sim h, rfl, rfl, hc⟩ (layers_sim hl)
end

/-! ## 3. operations of the path API, histories -/

inductive Obs
  | unit | bool (b : Bool) | nat (n : Nat) | md (m : Meta) | names (l : List Str)
  | bytes (b : Bytes) | items (l : List (Res Str))

/-- calls of the path API on paths of one filesystem (path strings relative to its root) -/
inductive Op
  | exists_ (p : Str) | metadata (p : Str) | readDir (p : Str) | createDir (p : Str)
  | createDirAll (p : Str) | write (p : Str) (bs : Bytes) | append (p : Str) (bs : Bytes)
  | readToString (p : Str) | removeFile (p : Str) | removeDir (p : Str)
  | removeDirAll (fuel : Nat) (p : Str) | walk (fuel : Nat) (p : Str)
  | copyFile (s d : Str) | moveFile (s d : Str)
  | copyDir (fuel : Nat) (s d : Str) | moveDir (fuel : Nat) (s d : Str)

/-- the path arguments are canonical (what `VfsPath::join` produces); `create_dir`, `remove_dir`,
`remove_dir_all`, the destination of `copy_dir` and both arguments of `move_dir` are not the root -/
def Op.OK : Op → Prop
  | .exists_ p => Canon p | .metadata p => Canon p | .readDir p => Canon p
  | .createDir p => Canon p ∧ p ≠ [] | .createDirAll p => Canon p | .write p _ => Canon p
  | .append p _ => Canon p | .readToString p => Canon p | .removeFile p => Canon p
  | .removeDir p => Canon p ∧ p ≠ [] | .removeDirAll _ p => Canon p ∧ p ≠ []
  | .walk _ p => Canon p | .copyFile s d => Canon s ∧ Canon d | .moveFile s d => Canon s ∧ Canon d
  | .copyDir _ s d => Canon s ∧ Canon d ∧ d ≠ []
  | .moveDir _ s d => Canon s ∧ Canon d ∧ s ≠ [] ∧ d ≠ []

/-- one call on the filesystem `f` (identity `id`); `cp` / `mv` = the `copy_file` / `move_file`
of the port (`VPath.copyFile`/`moveFile` sync, `VPath.copyFileA`/`moveFileA` async) -/
def Op.run (cp mv : VPath → VPath → M Unit) (f : FS) (id : Nat) : Op → M Obs
  | .exists_ p => do let b ← (VPath.mk f id p).exists_; pure (.bool b)
  | .metadata p => do let m ← (VPath.mk f id p).metadata; pure (.md m)
  | .readDir p => do let l ← (VPath.mk f id p).readDir; pure (.names (l.map (·.path)))
  | .createDir p => do let _ ← (VPath.mk f id p).createDir; pure .unit
  | .createDirAll p => do let _ ← (VPath.mk f id p).createDirAll; pure .unit
  | .write p bs => do
      let _ ← (do let hd ← (VPath.mk f id p).createFile; hd.writeAllAndDrop bs : M Unit)
      pure .unit
  | .append p bs => do
      let _ ← (do let hd ← (VPath.mk f id p).appendFile; hd.writeAllAndDrop bs : M Unit)
      pure .unit
  | .readToString p => do let b ← (VPath.mk f id p).readToEndChecked; pure (.bytes b)
  | .removeFile p => do let _ ← (VPath.mk f id p).removeFile; pure .unit
  | .removeDir p => do let _ ← (VPath.mk f id p).removeDir; pure .unit
  | .removeDirAll fuel p => do let _ ← VPath.removeDirAll fuel (VPath.mk f id p); pure .unit
  | .walk fuel p => do
      let s ← (VPath.mk f id p).walkDir
      let l ← VPath.walkAll fuel s
      pure (.items (l.map fun x => x.map (·.path)))
  | .copyFile s d => do let _ ← cp (VPath.mk f id s) (VPath.mk f id d); pure .unit
  | .moveFile s d => do let _ ← mv (VPath.mk f id s) (VPath.mk f id d); pure .unit
  | .copyDir fuel s d => do
      let n ← VPath.copyDir fuel (VPath.mk f id s) (VPath.mk f id d); pure (.nat n)
  | .moveDir fuel s d => do
      let _ ← VPath.moveDir fuel (VPath.mk f id s) (VPath.mk f id d); pure .unit

/-- a call uses `cp` / `mv` only when it is `copy_file` / `move_file`, and then on its own paths.
(`cp`, `mv` are variables here so that the other fourteen cases close by unfolding `Op.run` alone.) -/
theorem Op.run_congr {cp cp' mv mv' : VPath → VPath → M Unit} (f : FS) (id : Nat) (op : Op)
    (hcp : ∀ s d, op = .copyFile s d → cp ⟨f, id, s⟩ ⟨f, id, d⟩ = cp' ⟨f, id, s⟩ ⟨f, id, d⟩)
    (hmv : ∀ s d, op = .moveFile s d → mv ⟨f, id, s⟩ ⟨f, id, d⟩ = mv' ⟨f, id, s⟩ ⟨f, id, d⟩) :
    op.run cp mv f id = op.run cp' mv' f id := by
  cases op with
  | copyFile s d =>
    simp only [Op.run]
    rw [hcp s d rfl]
  | moveFile s d =>
    simp only [Op.run]
    rw [hmv s d rfl]
  | _ => rfl

def runAll (cp mv : VPath → VPath → M Unit) (f : FS) (id : Nat) : List Op → M (List (Res Obs))
  | [] => pure []
  | op :: ops => do
    let x ← M.attempt (op.run cp mv f id)
    let xs ← runAll cp mv f id ops
    pure (x :: xs)

theorem runAll_congr {cp cp' mv mv' : VPath → VPath → M Unit} (f : FS) (id : Nat) (ops : List Op)
    (h : ∀ op ∈ ops, op.run cp mv f id = op.run cp' mv' f id) :
    runAll cp mv f id ops = runAll cp' mv' f id ops := by
  induction ops with
  | nil => rfl
  | cons op ops ih =>
    unfold runAll
    rw [h op List.mem_cons_self, ih fun o ho => h o (List.mem_cons_of_mem _ ho)]

abbrev PE : Option Str → Option Str → Prop := (· = ·)
abbrev BT : VPath → VPath → Prop := fun _ _ => True

theorem items_eq {l1 l2 : List (Res VPath)}
    (h : ListRel (RelRes PE (SimVP RTS PE HM BT)) l1 l2) :
    (l1.map fun x => x.map (·.path)) = (l2.map fun x => x.map (·.path)) := by
  induction h with
  | nil => rfl
  | @cons a b l1 l2 hab _ ih =>
    simp only [List.map_cons, ih]
    congr 1
    cases hab with
    | ok hq => simp only [Res.map, hq.1.path]
    | err hp => cases hp; rfl
    | panic => rfl

section ops
variable {f1 f2 : FS} (hfs : SimFS RTS PE HM f1 f2) (id : Nat)
include hfs

theorem vp_sim {p : Str} (hp : Canon p) : SimVPath RTS PE HM ⟨f1, id, p⟩ ⟨f2, id, p⟩ :=
  ⟨hfs, rfl, rfl, hp⟩

/-- every call of the path API: related filesystems give equal observations and related worlds -/
theorem op_sim (op : Op) (hok : op.OK) :
    SimM RTS PE (· = ·) (op.run VPath.copyFile VPath.moveFile f1 id)
      (op.run VPath.copyFile VPath.moveFile f2 id) := by
  have hh : SimHandles RTS PE HM := simHandles
  cases op with
  | exists_ p => exact SimM.bind_eq (VPath.sim_exists (vp_sim hfs id hok)) fun _ => SimM.pure rfl
  | metadata p => exact SimM.bind_eq (VPath.sim_metadata (vp_sim hfs id hok)) fun _ => SimM.pure rfl
  | readDir p =>
    refine SimM.bind (VPath.sim_readDir (B0 := BT) (B := BT) (vp_sim hfs id hok) trivial
      childClosed_true.step) fun l1 l2 hl => SimM.pure ?_
    rw [Overlay.paths_of_listRel hl]
  | createDir p =>
    exact SimM.bind_eq (VPath.sim_createDir (vp_sim hfs id hok.1) hok.2) fun _ => SimM.pure rfl
  | createDirAll p =>
    exact SimM.bind_eq (VPath.sim_createDirAll (vp_sim hfs id hok)) fun _ => SimM.pure rfl
  | write p bs =>
    exact SimM.bind_eq (VPath.sim_writeSession hh (vp_sim hfs id hok) bs) fun _ => SimM.pure rfl
  | append p bs =>
    exact SimM.bind_eq (VPath.sim_appendSession hh (vp_sim hfs id hok) bs) fun _ => SimM.pure rfl
  | readToString p =>
    exact SimM.bind_eq (VPath.sim_readToEndChecked (vp_sim hfs id hok)) fun _ => SimM.pure rfl
  | removeFile p =>
    exact SimM.bind_eq (VPath.sim_removeFile (vp_sim hfs id hok)) fun _ => SimM.pure rfl
  | removeDir p =>
    exact SimM.bind_eq (VPath.sim_removeDir (vp_sim hfs id hok.1) hok.2) fun _ => SimM.pure rfl
  | removeDirAll fuel p =>
    exact SimM.bind_eq (VPath.sim_removeDirAll fuel (vp_sim hfs id hok.1) hok.2) fun _ =>
      SimM.pure rfl
  | walk fuel p =>
    refine SimM.bind (VPath.sim_walkDir (B0 := BT) (B := BT) (vp_sim hfs id hok) trivial
      childClosed_true.step) fun s1 s2 hs => ?_
    refine SimM.bind (VPath.sim_walkAll childClosed_true fuel hs) fun l1 l2 hl => SimM.pure ?_
    rw [items_eq hl]
  | copyFile s d =>
    exact SimM.bind_eq (VPath.sim_copyFile hh (vp_sim hfs id hok.1) (vp_sim hfs id hok.2)
      (fun _ => rfl) (fun _ => rfl)) fun _ => SimM.pure rfl
  | moveFile s d =>
    exact SimM.bind_eq (VPath.sim_moveFile hh (vp_sim hfs id hok.1) (vp_sim hfs id hok.2))
      fun _ => SimM.pure rfl
  | copyDir fuel s d =>
    exact SimM.bind_eq (VPath.sim_copyDir hh fuel (vp_sim hfs id hok.1) (vp_sim hfs id hok.2.1)
      hok.2.2 (fun _ => rfl) (fun _ => rfl)) fun _ => SimM.pure rfl
  | moveDir fuel s d =>
    exact SimM.bind_eq (VPath.sim_moveDir hh fuel (vp_sim hfs id hok.1) (vp_sim hfs id hok.2.1)
      hok.2.2.1 hok.2.2.2 (fun _ => rfl) (fun _ => rfl)) fun _ => SimM.pure rfl

theorem runAll_sim (ops : List Op) (hok : ∀ op ∈ ops, op.OK) :
    SimM RTS PE (· = ·) (runAll VPath.copyFile VPath.moveFile f1 id ops)
      (runAll VPath.copyFile VPath.moveFile f2 id ops) := by
  induction ops with
  | nil => exact SimM.pure rfl
  | cons op ops ih =>
    unfold runAll
    refine SimM.bind (SimM.attempt (op_sim hfs id op (hok op (by simp)))) fun x1 x2 hx => ?_
    have := hx.eq_of_eq
    subst this
    exact SimM.bind_eq (ih fun o ho => hok o (by simp [ho])) fun _ => SimM.pure rfl

end ops

/-- the async port's own `copy_file` / `move_file` in place of the sync ones; `hrc`: C15Async §6,
proved there for paths of a memory leaf -/
theorem run_async_eq (f : FS) (id : Nat) (op : Op)
    (hrc : ∀ s d, op = .moveFile s d → RemovalCommutes ⟨f, id, s⟩) :
    op.run VPath.copyFileA VPath.moveFileA f id = op.run VPath.copyFile VPath.moveFile f id :=
  Op.run_congr f id op (fun _ _ _ => by rw [copyFileA_eq_copyFile])
    fun s d h => moveFileA_eq_moveFile _ _ (hrc s d h)

theorem runAll_async_eq (f : FS) (id : Nat) (ops : List Op)
    (hrc : ∀ s d, Op.moveFile s d ∈ ops → RemovalCommutes ⟨f, id, s⟩) :
    runAll VPath.copyFileA VPath.moveFileA f id ops = runAll VPath.copyFile VPath.moveFile f id ops :=
  runAll_congr f id ops fun op hop => run_async_eq f id op fun s d h => hrc s d (h ▸ hop)

/-- `fa` an async stacking (AsyncAltrootFS / AsyncOverlayFS with its own `read_dir`, over
AsyncMemoryFS leaves), `fs` the sync stacking of the same shape; the call runs the async port's
`copy_file`/`move_file` on the async side. From worlds equal up to timestamps: the same observation
(answer or error, error path included) and again worlds equal up to timestamps. -/
theorem async_stack_eq_sync_stack {fa fs : FS} (hst : StackRel fa fs) (id : Nat) (op : Op)
    (hok : op.OK) (hrc : ∀ s d, op = .moveFile s d → RemovalCommutes ⟨fa, id, s⟩)
    (wa ws : World) (hw : RTS wa ws) :
    (op.run VPath.copyFileA VPath.moveFileA fa id wa).1
        = (op.run VPath.copyFile VPath.moveFile fs id ws).1 ∧
      RTS (op.run VPath.copyFileA VPath.moveFileA fa id wa).2
        (op.run VPath.copyFile VPath.moveFile fs id ws).2 := by
  rw [run_async_eq fa id op hrc]
  obtain ⟨h1, h2⟩ := op_sim (stack_sim hst) id op hok wa ws hw
  exact ⟨h1.eq_of_eq, h2⟩

theorem async_stack_eq_sync_stack_history {fa fs : FS} (hst : StackRel fa fs) (id : Nat)
    (ops : List Op) (hok : ∀ op ∈ ops, op.OK)
    (hrc : ∀ s d, Op.moveFile s d ∈ ops → RemovalCommutes ⟨fa, id, s⟩)
    (wa ws : World) (hw : RTS wa ws) :
    (runAll VPath.copyFileA VPath.moveFileA fa id ops wa).1
        = (runAll VPath.copyFile VPath.moveFile fs id ops ws).1 ∧
      RTS (runAll VPath.copyFileA VPath.moveFileA fa id ops wa).2
        (runAll VPath.copyFile VPath.moveFile fs id ops ws).2 := by
  rw [runAll_async_eq fa id ops hrc]
  obtain ⟨h1, h2⟩ := runAll_sim (stack_sim hst) id ops hok wa ws hw
  exact ⟨h1.eq_of_eq, h2⟩

#print axioms async_stack_eq_sync_stack
#print axioms async_stack_eq_sync_stack_history

def exLa : List VPath := [⟨aleafFS 0, 0, []⟩, ⟨aleafFS 1, 1, []⟩]
def exLs : List VPath := [⟨qleafFS 0, 0, []⟩, ⟨qleafFS 1, 1, []⟩]
def exFa : FS := Altroot.fs ⟨overlayFSA exLa, 5, []⟩
def exFs : FS := Altroot.fs ⟨Overlay.fs exLs, 5, []⟩

theorem exLa_ok : Overlay.LayersOK exLa := by
  intro a ha b hb h
  simp only [exLa, List.mem_cons, List.not_mem_nil, or_false] at ha hb
  rcases ha with rfl | rfl <;> rcases hb with rfl | rfl <;> first | rfl | (simp at h)

theorem exLs_ok : Overlay.LayersOK exLs := by
  intro a ha b hb h
  simp only [exLs, List.mem_cons, List.not_mem_nil, or_false] at ha hb
  rcases ha with rfl | rfl <;> rcases hb with rfl | rfl <;> first | rfl | (simp at h)

theorem exStack : StackRel exFa exFs :=
  .altroot 5 [] (.overlay (.cons 0 [] (.leaf 0) C06.root_canonical (.cons 1 [] (.leaf 1) C06.root_canonical .nil))
    (by simp [exLa]) exLa_ok exLs_ok) C06.root_canonical

def adWs : World := { leaves := [⟨.mem, [([], dirEntryNow)]⟩, ⟨.mem, [([], dirEntryNow)]⟩] }
def adWa : World := { leaves := [⟨.mem, AMem.init⟩, ⟨.mem, AMem.init⟩] }

theorem exRTS : RTS adWa adWs := by
  refine ⟨rfl, fun i l h => ?_⟩
  have hk : KeysCanon [(([] : Str), dirEntryNow)] := by
    intro k hk
    simp [FMap.keys] at hk
    subst hk
    exact C06.root_canonical
  match i, h with
  | 0, h => cases h; exact ⟨rfl, hk⟩
  | 1, h => cases h; exact ⟨rfl, hk⟩
  | n + 2, h => simp [World.leaf?, adWs] at h

def sA : Str := ['/', 'a']
def sAF : Str := ['/', 'a', '/', 'f']
def sAG : Str := ['/', 'a', '/', 'g']

def adOps : List Op :=
  [.createDir sA, .write sAF [1, 2], .readToString sAF, .copyFile sAF sAG, .readDir sA,
   .walk 8 [], .metadata sAG, .removeDirAll 8 sA, .exists_ sA]

theorem exOps_ok : ∀ op ∈ adOps, op.OK := by
  have c1 : Canon sA := ⟨[['a']], by decide, rfl⟩
  have c2 : Canon sAF := ⟨[['a'], ['f']], by decide, rfl⟩
  have c3 : Canon sAG := ⟨[['a'], ['g']], by decide, rfl⟩
  intro op hop
  simp only [adOps, List.mem_cons, List.not_mem_nil, or_false] at hop
  rcases hop with rfl | rfl | rfl | rfl | rfl | rfl | rfl | rfl | rfl
  · exact ⟨c1, by decide⟩
  · exact c2
  · exact c2
  · exact ⟨c2, c3⟩
  · exact c1
  · exact C06.root_canonical
  · exact c3
  · exact ⟨c1, by decide⟩
  · exact c1

/-- the hypotheses of the history theorem hold on this world, and its conclusion there -/
example :
    (runAll VPath.copyFileA VPath.moveFileA exFa 5 adOps adWa).1
      = (runAll VPath.copyFile VPath.moveFile exFs 5 adOps adWs).1 ∧
    RTS (runAll VPath.copyFileA VPath.moveFileA exFa 5 adOps adWa).2
      (runAll VPath.copyFile VPath.moveFile exFs 5 adOps adWs).2 :=
  async_stack_eq_sync_stack_history exStack 5 adOps exOps_ok
    (fun s d h => by simp [adOps] at h) adWa adWs exRTS

/-- the history is not a list of refusals: the first five calls all succeed on the async stacking
(only five: the kernel does not reduce `walk` / `remove_dir_all` in reasonable time) -/
example : ((runAll VPath.copyFileA VPath.moveFileA exFa 5
      [.createDir sA, .write sAF [1, 2], .readToString sAF, .copyFile sAF sAG, .readDir sA] adWa).1.map
    fun r => r.map (fun x => x.isOk)) = .ok [true, true, true, true, true] := by decide +kernel

end Vfs.C15
