/-
  C14 over whole scripts, on the handles the n-layer overlay returns.

  Setting (that of Props/C04OverlaySessions.lean): `OWN w (u :: is) (idu :: ids) (mu :: ms)` — the
  layers are the roots of n ≥ 1 pairwise distinct memory leaves, `mu` the upper (write) map, `ms`
  the lower maps —, the path discipline `OpPath (ds ++ [n])`, `p = renderC (ds ++ [n])`, the overlay
  path `ovP u idu is ids oid p` with any identity `oid`.
   * Read handles. `opened_handle_good_overlay`: when the view shows a file with bytes `bs` at `p`
     (`VHolds … (some bs)`, in whichever layer), `open_file` through the overlay succeeds and every
     successful result is the good handle `⟨bs, 0⟩`; `…_first_layer` spells the hypothesis by
     layers (no whiteout marker, and the first layer that has `p` holds a file there: its bytes are
     served whatever deeper layers hold). `read_script_on_overlay`: hence `read_script_is_cursor`
     for that handle.
   * Write handles (additionally `OInv mu ms`, `ViewWF (oview (mu :: ms))`, `VReady`: the parent is a
     directory of the view, `p` absent or a file of the view). `opened_whandle_overlay`: a create /
     append session through the overlay gets the in-memory handle on the upper leaf in the start
     state of the specification — create `([], 0)`, append `(bs, |bs|)` for the bytes the view
     shows (copied up from the first layer that has them). `write_script_on_overlay`: hence
     `write_script_is_cursor`, `write_script_published`, `write_script_dropped` hold of the upper
     map. What the view shows afterwards is `C04.overlay_session_exact`.

  Not covered: layers that are not roots of memory leaves (sub-directories, physical / embedded
  lower layers, nested overlays).
-/
import VfsModel.Props.C04OverlaySessions
import VfsModel.Props.C14Scripts
import VfsModel.Props.C14ScriptsWrite
set_option linter.unusedSectionVars false
namespace Vfs.C14
open Vfs Vfs.Overlay Vfs.C02 Vfs.C09 Vfs.C04

section read
variable {w : World} {u idu : Nat} {mu : FMap} {is ids : List Nat} {ms : List FMap}
  (h : OWN w (u :: is) (idu :: ids) (mu :: ms)) {ds : List Str} {n : Str}
  (hp : OpPath (ds ++ [n])) (oid : Nat)
include h hp

theorem opened_handle_good_overlay (bs : Bytes)
    (hh : VHolds (oview (mu :: ms)) (renderC (ds ++ [n])) (some bs)) :
    (∃ w2, (ovP u idu is ids oid (renderC (ds ++ [n]))).openFile w
        = (.ok { content := bs, pos := 0 }, w2)) ∧
    ∀ r w', (ovP u idu is ids oid (renderC (ds ++ [n]))).openFile w = (.ok r, w') →
      r = { content := bs, pos := 0 } ∧ Good r ∧ r.pos = 0 := by
  obtain ⟨⟨w2, hopen⟩, _, _⟩ := overlay_read_holds h hp oid bs hh
  refine ⟨⟨w2, hopen⟩, fun r w' hr => ?_⟩
  have hopen' : (ovP u idu is ids oid (renderC (ds ++ [n]))).openFile w
      = (.ok { content := bs, pos := 0 }, w2) := hopen
  rw [hopen'] at hr
  simp only [Prod.mk.injEq, Res.ok.injEq] at hr
  rw [← hr.1]
  exact ⟨rfl, rfl, rfl⟩

theorem opened_handle_good_overlay_first_layer
    (hmk : mu.contains (marker (renderC (ds ++ [n]))) = false)
    {k : Nat} {m : FMap} (hfirst : FirstAt (mu :: ms) (renderC (ds ++ [n])) k m) {e : Entry}
    (he : m.find? (renderC (ds ++ [n])) = some e) (hf : e.ftype = .file) :
    (∃ w2, (ovP u idu is ids oid (renderC (ds ++ [n]))).openFile w
        = (.ok { content := e.content, pos := 0 }, w2)) ∧
    ∀ r w', (ovP u idu is ids oid (renderC (ds ++ [n]))).openFile w = (.ok r, w') →
      r = { content := e.content, pos := 0 } ∧ Good r ∧ r.pos = 0 :=
  opened_handle_good_overlay h hp oid e.content (vholds_of_firstAt hp hmk hfirst he hf)

theorem read_script_on_overlay (bs : Bytes)
    (hh : VHolds (oview (mu :: ms)) (renderC (ds ++ [n])) (some bs)) (hlen : bs.length < u64Max)
    (r : RHandle) (w' : World)
    (hopen : (ovP u idu is ids oid (renderC (ds ++ [n]))).openFile w = (.ok r, w'))
    (ops : List ROp) :
    runROps r ops = ((rspecRun bs 0 ops).map (fun o => (o.1.toModel, o.2)),
      { content := bs, pos := rspecPos bs 0 ops }) := by
  obtain ⟨hr, _, _⟩ := (opened_handle_good_overlay h hp oid bs hh).2 r w' hopen
  rw [hr]
  exact read_script_is_cursor { content := bs, pos := 0 } ops rfl hlen

theorem read_script_on_overlay_first_layer
    (hmk : mu.contains (marker (renderC (ds ++ [n]))) = false)
    {k : Nat} {m : FMap} (hfirst : FirstAt (mu :: ms) (renderC (ds ++ [n])) k m) {e : Entry}
    (he : m.find? (renderC (ds ++ [n])) = some e) (hf : e.ftype = .file)
    (hlen : e.content.length < u64Max) (r : RHandle) (w' : World)
    (hopen : (ovP u idu is ids oid (renderC (ds ++ [n]))).openFile w = (.ok r, w'))
    (ops : List ROp) :
    runROps r ops = ((rspecRun e.content 0 ops).map (fun o => (o.1.toModel, o.2)),
      { content := e.content, pos := rspecPos e.content 0 ops }) :=
  read_script_on_overlay h hp oid e.content (vholds_of_firstAt hp hmk hfirst he hf) hlen r w' hopen ops

end read

section write
variable {w : World} {u idu : Nat} {mu : FMap} {is ids : List Nat} {ms : List FMap}
  (h : OWN w (u :: is) (idu :: ids) (mu :: ms)) (inv : OInv mu ms)
  (hv : ViewWF (oview (mu :: ms))) {ds : List Str} {n : Str} (hp : OpPath (ds ++ [n])) (oid : Nat)
include h inv hv hp

theorem opened_whandle_overlay (c : Option Bytes) (hr : VReady (oview (mu :: ms)) ds n c)
    (s : Session) (b0 : Bytes) (n0 : Nat) (hst : startOf c s = some (b0, n0)) :
    ∃ w0 muS eS, s.opener (ovP u idu is ids oid (renderC (ds ++ [n]))) w
        = (.ok (memH u (renderC (ds ++ [n])) b0 n0), w0) ∧
      MemLeafAt w0 u muS ∧ muS.find? (renderC (ds ++ [n])) = some eS ∧ eS.ftype = .file := by
  obtain ⟨w0, muS, _, ⟨hopen, hleaf, eS, hfind, hfS⟩, _⟩ :=
    overlay_opens h inv hv hp oid c hr s b0 n0 hst
  exact ⟨w0, muS, eS, hopen, hleaf, hfind, hfS⟩

theorem overlay_create_starts_empty (c : Option Bytes) (a : List Act) :
    startOf c (.create a) = some ([], 0) := rfl

theorem overlay_append_starts_at_end (old : Bytes) (a : List Act) :
    startOf (some old) (.append a) = some (old, old.length) := rfl

theorem write_script_on_overlay (c : Option Bytes) (hr : VReady (oview (mu :: ms)) ds n c)
    (s : Session) (b0 : Bytes) (n0 : Nat) (hst : startOf c s = some (b0, n0)) (acts : List Act) :
    ∃ hd w0 muS eS, s.opener (ovP u idu is ids oid (renderC (ds ++ [n]))) w = (.ok hd, w0) ∧
      hd = memH u (renderC (ds ++ [n])) b0 n0 ∧
      MemLeafAt w0 u muS ∧ muS.find? (renderC (ds ++ [n])) = some eS ∧ eS.ftype = .file ∧
      traceActs hd w0 acts = (wspecTrace b0 n0 acts).map (fun o => (o.1.toModel, o.2)) ∧
      (∃ m1, applyActs hd w0 acts =
          (memH u (renderC (ds ++ [n])) (specRun b0 n0 acts).1 (specRun b0 n0 acts).2,
            w0.setLeafFiles u m1) ∧
        Holds m1 (renderC (ds ++ [n])) (some (specFlushed eS.content b0 n0 acts)) ∧
        (∀ k, k ≠ renderC (ds ++ [n]) → m1.find? k = muS.find? k)) ∧
      (∃ m2, C03.runActs hd acts w0 = (.ok (), w0.setLeafFiles u m2) ∧
        Holds m2 (renderC (ds ++ [n])) (some (specRun b0 n0 acts).1) ∧
        (∀ k, k ≠ renderC (ds ++ [n]) → m2.find? k = muS.find? k)) := by
  obtain ⟨w0, muS, eS, hopen, hleaf, hfind, hfS⟩ :=
    opened_whandle_overlay h inv hv hp oid c hr s b0 n0 hst
  exact ⟨_, w0, muS, eS, hopen, rfl, hleaf, hfind, hfS,
    (write_script_is_cursor b0 n0 acts w0).1,
    write_script_published hleaf eS hfind hfS b0 n0 acts,
    write_script_dropped hleaf eS hfind hfS b0 n0 acts⟩

end write

/-- "/d/x": layer 1 holds "1", layer 2 holds "2", the upper layer nothing — layer 1 is served -/
example : (xPx.openFile xw).1 = .ok { content := [49], pos := 0 } := by decide +kernel

example :
    (match xPx.openFile xw with
      | (.ok r, _) => (runROps r [.seek (.fromEnd (-1)), .read 4, .seek (.fromEnd 3), .read 2,
          .seek (.fromEnd (-2)), .seek (.start 0), .read 1, .read 1]).1
      | _ => []) =
    [(.inr (.ok 0), 0), (.inl (.ok [49]), 1), (.inr (.ok 4), 4), (.inl (.ok []), 4),
     (.inr (fail .io), 4), (.inr (.ok 0), 0), (.inl (.ok [49]), 1), (.inl (.ok []), 1)] := by
  decide +kernel

example : (xPx.appendFile xw).1 = .ok (memH 2 "/d/x".toList [49] 1) := by decide +kernel
example : (xPx.createFile xw).1 = .ok (memH 2 "/d/x".toList [] 0) := by decide +kernel

end Vfs.C14

#print axioms Vfs.C14.opened_handle_good_overlay
#print axioms Vfs.C14.opened_handle_good_overlay_first_layer
#print axioms Vfs.C14.read_script_on_overlay
#print axioms Vfs.C14.read_script_on_overlay_first_layer
#print axioms Vfs.C14.opened_whandle_overlay
#print axioms Vfs.C14.write_script_on_overlay
