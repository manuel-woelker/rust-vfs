/-
  C11 (nested trees) — `VfsPath::copy_dir` / `move_dir` on the in-memory backend reproduce the
  WHOLE source subtree at the destination, whatever its depth: every nested directory (empty
  ones included), every file byte for byte; `copy_dir` leaves the source unchanged and returns the
  number of entries copied; `move_dir` leaves no trace of the source. Source and destination on
  two different memory leaves or on the same leaf.

  Setting (as in Props/C11.lean): leaf `i` of the world is a memory leaf holding the map `ms`
  (`MemLeafAt w i ms`), leaf `j` one holding `md`; `i = j` (then `ms = md`) or `i ≠ j`; any `Arc`
  identities `sid`, `did`. `S` is the source path string, `D = renderC bs` the destination.
  `under P k`: `k = P` or `k = P/t`. `descendants ms S`: number of keys strictly below `S`.
  `core e = (type, bytes)`; `CD.shape e = (type, bytes if a file, else none)`;
  `stripAcc`: the entry with its access time erased (`copy_file` opens the source for reading, which
  stamps its access time — inside the backend, as the OS does).

  `CopyDirExact` / `MoveDirExact` of Props/C11.lean are FALSE as stated, for one reason only
  (`copyDirExact_false`, `moveDirExact_false`, counterexample `wBad`): a well-formed map may hold
  a DIRECTORY entry whose `content` field is not empty (nothing in `WF` forbids it; MemoryFS
  itself never creates one). `create_dir` at the destination makes a directory with no bytes, so
  `core` of the copy differs from `core` of the source. With the single further hypothesis
  `DirsBare ms S` they hold: `copyDirExact' : CopyDirExact'`, `moveDirExact' : MoveDirExact'`.
  Without it the theorems below state the conclusion with `CD.shape` on the source side (type
  equal; bytes equal for files; a copied directory has no bytes): nothing is lost.

  `copyDir_exact` — any `i`, `j`, any depth. Hypotheses: both leaves memory leaves; `WF ms`,
  `WF md`; `FMap.NodupKeys ms`; the components of `D` canonical; `S` a directory of `ms`; the keys
  at or below `S` canonical (`Canon`: what `VfsPath::join` can produce); `D` absent from `md`, its
  parent a directory (`FreshDest`); on one leaf: `D` not at or below `S`; `descendants ms S < fuel`.
  `copyDir_exact_cross`, `copyDir_exact_same`: the two cases. `graft_dir`, `graft_file`,
  `graft_none`, `graft_only`, `graft_empty_dir`: the grafting clause, item by item.
  `moveDir_exact` (`_cross`, `_same`) — additionally `S ≠ ""` and the fuel bounds of `MoveDirExact`
  (fuel is also the recursion depth of `remove_dir_all`: every key of the source leaf — on one
  leaf also every copied key — is shorter than `|S| + fuel`).
  `descendants_eq`: the count of Props/C11.lean is the count of the walk (`Wk.below`).
  Nothing is assumed about the storage order of the maps or about the depth.

  NOT PROVED HERE: other backends (overlay, altroot, physical) as source or destination of
  copy_dir; `NodupKeys` of the destination map afterwards when it was not assumed before;
  copy_dir INTO the own subtree (diverges, see `copyDir_into_itself_diverges_3` in Props/C11.lean).
-/
import VfsModel.Props.C11
import VfsModel.Proofs.CopyDirLemmas
import VfsModel.Proofs.RunEq
namespace Vfs.C11
open Vfs.CD (shape)
open Vfs.Wk (below)

theorem descendants_eq (m : FMap) (S : Str) :
    descendants m S = (m.keys.filter (below S)).length := by
  unfold descendants
  congr 1
  apply List.filter_congr
  intro k _
  by_cases h : k = S
  · subst h; simp [Wk.below_irrefl]
  · simp [under, below, h]

theorem copyDir_exact {w : World} {i j : Nat} {ms md : FMap}
    (hi : MemLeafAt w i ms) (hj : MemLeafAt w j md) (hwfs : WF ms) (hwfd : WF md)
    (hnd : FMap.NodupKeys ms) (sid did fuel : Nat) (S : Str) (bs : List Str)
    (hbs : ∀ c ∈ bs, GoodComp c) (hdir : ∃ se, ms.find? S = some se ∧ se.ftype = .dir)
    (hcanon : ∀ k e, ms.find? k = some e → under S k = true → Canon k)
    (hfresh : FreshDest md (renderC bs)) (hout : i = j → under S (renderC bs) = false)
    (hfuel : descendants ms S < fuel) :
    ∃ w' ms' md',
      VPath.copyDir fuel { fs := leafFS i, fsId := sid, path := S }
        { fs := leafFS j, fsId := did, path := renderC bs } w = (.ok (descendants ms S), w') ∧
      MemLeafAt w' i ms' ∧ MemLeafAt w' j md' ∧ WF ms' ∧ WF md' ∧
      (∀ l, l ≠ i → l ≠ j → w'.leaf? l = w.leaf? l) ∧
      -- the destination is a fresh directory
      md'.find? (renderC bs) = some dirEntryNow ∧
      -- the subtree is grafted below it: `D/t` exists iff `S/t` did; same type; a file has the
      -- same bytes, a directory none
      (∀ t, (md'.find? (renderC bs ++ '/' :: t)).map core =
        (ms.find? (S ++ '/' :: t)).map shape) ∧
      -- nothing else changes on the destination leaf
      (∀ k, under (renderC bs) k = false →
        (md'.find? k).map stripAcc = (md.find? k).map stripAcc) ∧
      -- the source leaf is unchanged
      (∀ k, (i = j → under (renderC bs) k = false) →
        (ms'.find? k).map stripAcc = (ms.find? k).map stripAcc) := by
  rw [descendants_eq] at hfuel ⊢
  obtain ⟨w', hrun, hoth, _, ms', md', hi', hj', h1, h2, _, h4, h5, h6, h7⟩ :=
    CD.copyDir_tree hi hj sid did fuel S bs (fun c hc => (hbs c hc).2.1) hwfs hwfd hnd hdir hcanon
      hfresh hout hfuel
  exact ⟨w', ms', md', hrun, hi', hj', h1, h2, hoth, h4, h5, h6, h7⟩

theorem copyDir_exact_cross {w : World} {i j : Nat} {ms md : FMap} (hij : i ≠ j)
    (hi : MemLeafAt w i ms) (hj : MemLeafAt w j md) (hwfs : WF ms) (hwfd : WF md)
    (hnd : FMap.NodupKeys ms) (sid did fuel : Nat) (S : Str) (bs : List Str)
    (hbs : ∀ c ∈ bs, GoodComp c) (hdir : ∃ se, ms.find? S = some se ∧ se.ftype = .dir)
    (hcanon : ∀ k e, ms.find? k = some e → under S k = true → Canon k)
    (hfresh : FreshDest md (renderC bs)) (hfuel : descendants ms S < fuel) :
    ∃ w' ms' md',
      VPath.copyDir fuel { fs := leafFS i, fsId := sid, path := S }
        { fs := leafFS j, fsId := did, path := renderC bs } w = (.ok (descendants ms S), w') ∧
      MemLeafAt w' i ms' ∧ MemLeafAt w' j md' ∧ WF ms' ∧ WF md' ∧
      (∀ l, l ≠ i → l ≠ j → w'.leaf? l = w.leaf? l) ∧
      md'.find? (renderC bs) = some dirEntryNow ∧
      (∀ t, (md'.find? (renderC bs ++ '/' :: t)).map core =
        (ms.find? (S ++ '/' :: t)).map shape) ∧
      (∀ k, under (renderC bs) k = false →
        (md'.find? k).map stripAcc = (md.find? k).map stripAcc) ∧
      (∀ k, (ms'.find? k).map stripAcc = (ms.find? k).map stripAcc) := by
  obtain ⟨w', ms', md', h1, h2, h3, h4, h5, h6, h7, h8, h9, h10⟩ :=
    copyDir_exact hi hj hwfs hwfd hnd sid did fuel S bs hbs hdir hcanon hfresh
      (fun h => absurd h hij) hfuel
  exact ⟨w', ms', md', h1, h2, h3, h4, h5, h6, h7, h8, h9, fun k => h10 k (fun h => absurd h hij)⟩

theorem copyDir_exact_same {w : World} {i : Nat} {m : FMap}
    (hi : MemLeafAt w i m) (hwf : WF m) (hnd : FMap.NodupKeys m) (sid did fuel : Nat) (S : Str)
    (bs : List Str) (hbs : ∀ c ∈ bs, GoodComp c)
    (hdir : ∃ se, m.find? S = some se ∧ se.ftype = .dir)
    (hcanon : ∀ k e, m.find? k = some e → under S k = true → Canon k)
    (hfresh : FreshDest m (renderC bs)) (hout : under S (renderC bs) = false)
    (hfuel : descendants m S < fuel) :
    ∃ w' m',
      VPath.copyDir fuel { fs := leafFS i, fsId := sid, path := S }
        { fs := leafFS i, fsId := did, path := renderC bs } w = (.ok (descendants m S), w') ∧
      MemLeafAt w' i m' ∧ WF m' ∧ (∀ l, l ≠ i → w'.leaf? l = w.leaf? l) ∧
      m'.find? (renderC bs) = some dirEntryNow ∧
      (∀ t, (m'.find? (renderC bs ++ '/' :: t)).map core = (m.find? (S ++ '/' :: t)).map shape) ∧
      -- everything outside the new subtree — the source subtree included — is unchanged
      (∀ k, under (renderC bs) k = false → (m'.find? k).map stripAcc = (m.find? k).map stripAcc) := by
  obtain ⟨w', ms', md', h1, h2, h3, h4, _, h6, h7, h8, h9, _⟩ :=
    copyDir_exact hi hi hwf hwf hnd sid did fuel S bs hbs hdir hcanon hfresh (fun _ => hout) hfuel
  have := h2.unique h3; subst this
  exact ⟨w', ms', h1, h2, h4, fun l hl => h6 l hl hl, h7, h8, h9⟩

section graft
variable {ms md' : FMap} {S D : Str}
  (h : ∀ t, (md'.find? (D ++ '/' :: t)).map core = (ms.find? (S ++ '/' :: t)).map shape)
include h

theorem graft_dir (t : Str) (e : Entry) (he : ms.find? (S ++ '/' :: t) = some e)
    (hd : e.ftype = .dir) :
    ∃ e', md'.find? (D ++ '/' :: t) = some e' ∧ e'.ftype = .dir ∧ e'.content = [] := by
  have := h t
  rw [he] at this
  cases hf : md'.find? (D ++ '/' :: t) with
  | none => rw [hf] at this; simp at this
  | some e' =>
    rw [hf] at this
    simp only [Option.map_some, Option.some.injEq, CD.shape_dir hd, core, Prod.mk.injEq] at this
    exact ⟨e', rfl, this.1, this.2⟩

theorem graft_file (t : Str) (e : Entry) (he : ms.find? (S ++ '/' :: t) = some e)
    (hf : e.ftype = .file) :
    ∃ e', md'.find? (D ++ '/' :: t) = some e' ∧ e'.ftype = .file ∧ e'.content = e.content := by
  have := h t
  rw [he] at this
  cases hq : md'.find? (D ++ '/' :: t) with
  | none => rw [hq] at this; simp at this
  | some e' =>
    rw [hq] at this
    simp only [Option.map_some, Option.some.injEq, CD.shape_file hf, core, Prod.mk.injEq] at this
    exact ⟨e', rfl, this.1, this.2⟩

theorem graft_none (t : Str) (he : ms.find? (S ++ '/' :: t) = none) :
    md'.find? (D ++ '/' :: t) = none := by
  have := h t
  rw [he] at this
  cases hq : md'.find? (D ++ '/' :: t) with
  | none => rfl
  | some e' => rw [hq] at this; simp at this

theorem graft_only (t : Str) (e' : Entry) (he : md'.find? (D ++ '/' :: t) = some e') :
    ∃ e, ms.find? (S ++ '/' :: t) = some e ∧ e.ftype = e'.ftype := by
  have := h t
  rw [he] at this
  cases hq : ms.find? (S ++ '/' :: t) with
  | none => rw [hq] at this; simp at this
  | some e =>
    rw [hq] at this
    simp only [Option.map_some, Option.some.injEq, core, shape, Prod.mk.injEq] at this
    exact ⟨e, rfl, this.1.symm⟩

theorem graft_empty_dir (t : Str) (e : Entry) (he : ms.find? (S ++ '/' :: t) = some e)
    (hd : e.ftype = .dir) (hempty : ∀ u, ms.find? (S ++ '/' :: (t ++ '/' :: u)) = none) :
    (∃ e', md'.find? (D ++ '/' :: t) = some e' ∧ e'.ftype = .dir) ∧
    ∀ u, md'.find? (D ++ '/' :: (t ++ '/' :: u)) = none := by
  obtain ⟨e', h1, h2, _⟩ := graft_dir h t e he hd
  exact ⟨⟨e', h1, h2⟩, fun u => graft_none h _ (hempty u)⟩

end graft

theorem moveDir_exact {w : World} {i j : Nat} {ms md : FMap}
    (hi : MemLeafAt w i ms) (hj : MemLeafAt w j md) (hwfs : WF ms) (hwfd : WF md)
    (hnd : FMap.NodupKeys ms) (sid did fuel : Nat) (S : Str) (bs : List Str) (hS : S ≠ [])
    (hbs : ∀ c ∈ bs, GoodComp c) (hdir : ∃ se, ms.find? S = some se ∧ se.ftype = .dir)
    (hcanon : ∀ k e, ms.find? k = some e → under S k = true → Canon k)
    (hfresh : FreshDest md (renderC bs)) (hout : i = j → under S (renderC bs) = false)
    (hfuel : descendants ms S < fuel)
    (hb1 : ∀ k e, ms.find? k = some e → k.length < S.length + fuel)
    (hb2 : i = j → ∀ k e, ms.find? k = some e → under S k = true →
      (renderC bs).length + k.length < 2 * S.length + fuel) :
    ∃ w' ms' md',
      VPath.moveDir fuel { fs := leafFS i, fsId := sid, path := S }
        { fs := leafFS j, fsId := did, path := renderC bs } w = (.ok (), w') ∧
      MemLeafAt w' i ms' ∧ MemLeafAt w' j md' ∧ WF ms' ∧ WF md' ∧
      (∀ l, l ≠ i → l ≠ j → w'.leaf? l = w.leaf? l) ∧
      -- no trace of the source
      (∀ k, under S k = true → ms'.find? k = none) ∧
      md'.find? (renderC bs) = some dirEntryNow ∧
      (∀ t, (md'.find? (renderC bs ++ '/' :: t)).map core =
        (ms.find? (S ++ '/' :: t)).map shape) ∧
      (∀ k, under (renderC bs) k = false → (i = j → under S k = false) →
        (md'.find? k).map stripAcc = (md.find? k).map stripAcc) ∧
      (∀ k, under S k = false → (i = j → under (renderC bs) k = false) →
        (ms'.find? k).map stripAcc = (ms.find? k).map stripAcc) := by
  rw [descendants_eq] at hfuel
  obtain ⟨w', hrun, hoth, ms', md', hi', hj', h1, h2, _, h4, h5, h6, h7, h8⟩ :=
    CD.moveDir_tree hi hj sid did fuel S bs (fun c hc => (hbs c hc).2.1) hwfs hwfd hnd hS hdir
      hcanon hfresh hout hfuel hb1 hb2
  exact ⟨w', ms', md', hrun, hi', hj', h1, h2, hoth, h4, h5, h6, h7, h8⟩

theorem moveDir_exact_cross {w : World} {i j : Nat} {ms md : FMap} (hij : i ≠ j)
    (hi : MemLeafAt w i ms) (hj : MemLeafAt w j md) (hwfs : WF ms) (hwfd : WF md)
    (hnd : FMap.NodupKeys ms) (sid did fuel : Nat) (S : Str) (bs : List Str) (hS : S ≠ [])
    (hbs : ∀ c ∈ bs, GoodComp c) (hdir : ∃ se, ms.find? S = some se ∧ se.ftype = .dir)
    (hcanon : ∀ k e, ms.find? k = some e → under S k = true → Canon k)
    (hfresh : FreshDest md (renderC bs)) (hfuel : descendants ms S < fuel)
    (hb1 : ∀ k e, ms.find? k = some e → k.length < S.length + fuel) :
    ∃ w' ms' md',
      VPath.moveDir fuel { fs := leafFS i, fsId := sid, path := S }
        { fs := leafFS j, fsId := did, path := renderC bs } w = (.ok (), w') ∧
      MemLeafAt w' i ms' ∧ MemLeafAt w' j md' ∧ WF ms' ∧ WF md' ∧
      (∀ l, l ≠ i → l ≠ j → w'.leaf? l = w.leaf? l) ∧
      (∀ k, under S k = true → ms'.find? k = none) ∧
      (∀ k, under S k = false → (ms'.find? k).map stripAcc = (ms.find? k).map stripAcc) ∧
      md'.find? (renderC bs) = some dirEntryNow ∧
      (∀ t, (md'.find? (renderC bs ++ '/' :: t)).map core =
        (ms.find? (S ++ '/' :: t)).map shape) ∧
      (∀ k, under (renderC bs) k = false →
        (md'.find? k).map stripAcc = (md.find? k).map stripAcc) := by
  obtain ⟨w', ms', md', h1, h2, h3, h4, h5, h6, h7, h8, h9, h10, h11⟩ :=
    moveDir_exact hi hj hwfs hwfd hnd sid did fuel S bs hS hbs hdir hcanon hfresh
      (fun h => absurd h hij) hfuel hb1 (fun h => absurd h hij)
  exact ⟨w', ms', md', h1, h2, h3, h4, h5, h6, h7, fun k hk => h11 k hk (fun h => absurd h hij),
    h8, h9, fun k hk => h10 k hk (fun h => absurd h hij)⟩

theorem moveDir_exact_same {w : World} {i : Nat} {m : FMap}
    (hi : MemLeafAt w i m) (hwf : WF m) (hnd : FMap.NodupKeys m) (sid did fuel : Nat) (S : Str)
    (bs : List Str) (hS : S ≠ []) (hbs : ∀ c ∈ bs, GoodComp c)
    (hdir : ∃ se, m.find? S = some se ∧ se.ftype = .dir)
    (hcanon : ∀ k e, m.find? k = some e → under S k = true → Canon k)
    (hfresh : FreshDest m (renderC bs)) (hout : under S (renderC bs) = false)
    (hfuel : descendants m S < fuel)
    (hb1 : ∀ k e, m.find? k = some e → k.length < S.length + fuel)
    (hb2 : ∀ k e, m.find? k = some e → under S k = true →
      (renderC bs).length + k.length < 2 * S.length + fuel) :
    ∃ w' m',
      VPath.moveDir fuel { fs := leafFS i, fsId := sid, path := S }
        { fs := leafFS i, fsId := did, path := renderC bs } w = (.ok (), w') ∧
      MemLeafAt w' i m' ∧ WF m' ∧ (∀ l, l ≠ i → w'.leaf? l = w.leaf? l) ∧
      (∀ k, under S k = true → m'.find? k = none) ∧
      m'.find? (renderC bs) = some dirEntryNow ∧
      (∀ t, (m'.find? (renderC bs ++ '/' :: t)).map core = (m.find? (S ++ '/' :: t)).map shape) ∧
      (∀ k, under S k = false → under (renderC bs) k = false →
        (m'.find? k).map stripAcc = (m.find? k).map stripAcc) := by
  obtain ⟨w', ms', md', h1, h2, h3, h4, _, h6, h7, h8, h9, h10, _⟩ :=
    moveDir_exact hi hi hwf hwf hnd sid did fuel S bs hS hbs hdir hcanon hfresh (fun _ => hout)
      hfuel hb1 (fun _ => hb2)
  have := h2.unique h3; subst this
  exact ⟨w', ms', h1, h2, h4, fun l hl => h6 l hl hl, h7, h8, h9,
    fun k hk1 hk2 => h10 k hk2 (fun _ => hk1)⟩

/-- directory entries at or below `S` carry no bytes (MemoryFS never creates one that does, but
`WF` does not say so) -/
def DirsBare (ms : FMap) (S : Str) : Prop :=
  ∀ k e, ms.find? k = some e → under S k = true → e.ftype = .dir → e.content = []

theorem shape_eq_core (e : Entry) (h : e.ftype = .dir → e.content = []) : shape e = core e := by
  cases hft : e.ftype with
  | file => simp [shape, core, hft]
  | dir => simp [shape, core, hft, h hft]

/-- `CopyDirExact` with the hypothesis `DirsBare ms S` added; everything else verbatim -/
def CopyDirExact' : Prop :=
  ∀ (w : World) (i j : Nat) (ms md : FMap) (sid did fuel : Nat) (S : Str) (bs : List Str),
    MemLeafAt w i ms → MemLeafAt w j md → WF ms → WF md → FMap.NodupKeys ms →
    (∀ c ∈ bs, GoodComp c) → (∃ se, ms.find? S = some se ∧ se.ftype = .dir) →
    (∀ k e, ms.find? k = some e → under S k = true → Canon k) →
    DirsBare ms S →
    FreshDest md (renderC bs) → (i = j → under S (renderC bs) = false) →
    descendants ms S < fuel →
    ∃ w' ms' md',
      VPath.copyDir fuel { fs := leafFS i, fsId := sid, path := S }
        { fs := leafFS j, fsId := did, path := renderC bs } w = (.ok (descendants ms S), w') ∧
      MemLeafAt w' i ms' ∧ MemLeafAt w' j md' ∧
      (md'.find? (renderC bs)).map core = some (.dir, []) ∧
      (∀ t, (md'.find? (renderC bs ++ '/' :: t)).map core = (ms.find? (S ++ '/' :: t)).map core) ∧
      (∀ k, under (renderC bs) k = false →
        (md'.find? k).map stripAcc = (md.find? k).map stripAcc) ∧
      (∀ k, (i = j → under (renderC bs) k = false) →
        (ms'.find? k).map stripAcc = (ms.find? k).map stripAcc)

theorem graft_core {ms md' : FMap} {S D : Str} (hbare : DirsBare ms S)
    (h : ∀ t, (md'.find? (D ++ '/' :: t)).map core = (ms.find? (S ++ '/' :: t)).map shape) (t : Str) :
    (md'.find? (D ++ '/' :: t)).map core = (ms.find? (S ++ '/' :: t)).map core := by
  rw [h t]
  cases hf : ms.find? (S ++ '/' :: t) with
  | none => rfl
  | some e =>
    simp only [Option.map_some]
    rw [shape_eq_core e (hbare _ e hf (CD.under_graft S t))]

theorem copyDirExact' : CopyDirExact' := by
  intro w i j ms md sid did fuel S bs hi hj hwfs hwfd hnd hbs hdir hcanon hbare hfresh hout hfuel
  obtain ⟨w', ms', md', h1, h2, h3, _, _, _, h7, h8, h9, h10⟩ :=
    copyDir_exact hi hj hwfs hwfd hnd sid did fuel S bs hbs hdir hcanon hfresh hout hfuel
  exact ⟨w', ms', md', h1, h2, h3, by rw [h7]; rfl, graft_core hbare h8, h9, h10⟩

/-- `MoveDirExact` with the hypothesis `DirsBare ms S` added; everything else verbatim -/
def MoveDirExact' : Prop :=
  ∀ (w : World) (i j : Nat) (ms md : FMap) (sid did fuel : Nat) (S : Str) (bs : List Str),
    MemLeafAt w i ms → MemLeafAt w j md → WF ms → WF md → FMap.NodupKeys ms → FMap.NodupKeys md →
    S ≠ [] → (∀ c ∈ bs, GoodComp c) → (∃ se, ms.find? S = some se ∧ se.ftype = .dir) →
    (∀ k e, ms.find? k = some e → under S k = true → Canon k) →
    DirsBare ms S →
    FreshDest md (renderC bs) → (i = j → under S (renderC bs) = false) →
    descendants ms S < fuel →
    (∀ k e, ms.find? k = some e → k.length < S.length + fuel) →
    (i = j → ∀ k e, ms.find? k = some e → under S k = true →
      (renderC bs).length + k.length < 2 * S.length + fuel) →
    ∃ w' ms' md',
      VPath.moveDir fuel { fs := leafFS i, fsId := sid, path := S }
        { fs := leafFS j, fsId := did, path := renderC bs } w = (.ok (), w') ∧
      MemLeafAt w' i ms' ∧ MemLeafAt w' j md' ∧
      (∀ k, under S k = true → ms'.find? k = none) ∧
      (md'.find? (renderC bs)).map core = some (.dir, []) ∧
      (∀ t, (md'.find? (renderC bs ++ '/' :: t)).map core = (ms.find? (S ++ '/' :: t)).map core) ∧
      (∀ k, under (renderC bs) k = false → (i = j → under S k = false) →
        (md'.find? k).map stripAcc = (md.find? k).map stripAcc) ∧
      (∀ k, under S k = false → (i = j → under (renderC bs) k = false) →
        (ms'.find? k).map stripAcc = (ms.find? k).map stripAcc)

theorem moveDirExact' : MoveDirExact' := by
  intro w i j ms md sid did fuel S bs hi hj hwfs hwfd hnd _ hS hbs hdir hcanon hbare hfresh hout
    hfuel hb1 hb2
  obtain ⟨w', ms', md', h1, h2, h3, _, _, _, h7, h8, h9, h10, h11⟩ :=
    moveDir_exact hi hj hwfs hwfd hnd sid did fuel S bs hS hbs hdir hcanon hfresh hout hfuel hb1 hb2
  exact ⟨w', ms', md', h1, h2, h3, h7, by rw [h8]; rfl, graft_core hbare h9, h10, h11⟩

def badE : Entry := { dirEntryNow with content := [1] }

/-- well-formed, unique keys, canonical — and `/s/d` is a directory whose `content` is `[1]` -/
def mBad : FMap := [("/s/d".toList, badE), ("/s".toList, dirEntryNow), ([], dirEntryNow)]

def wBad : World := { leaves := [{ kind := .mem, files := mBad }, { kind := .mem, files := Mem.init }] }

theorem mBad_wf : WF mBad := WF.of_check mBad (by decide)
theorem mBad_nodup : FMap.NodupKeys mBad := by decide

theorem canon_of_check (k : Str) (h : canonB k = true) : Canon k := .of_check h

theorem canon_keys (m : FMap) (h : m.keys.all canonB = true) (S : Str) :
    ∀ k e, m.find? k = some e → under S k = true → Canon k := by
  intro k e hk _
  have hmem : k ∈ m.keys := (FMap.mem_keys_iff m k).2 ⟨e, hk⟩
  exact canon_of_check k (List.all_eq_true.1 h k hmem)

theorem fresh_of_check (m : FMap) (d : Str)
    (h : (m.find? d).isNone && decide ('/' ∈ d) && isDirOpt (m.find? (parentInternal d)) = true) :
    FreshDest m d := by
  simp only [Bool.and_eq_true, Option.isNone_iff_eq_none, decide_eq_true_eq] at h
  exact ⟨h.1.1, h.1.2, isDirOpt_spec _ h.2⟩

theorem wBad_copy :
    ((at_ 0 "/s").copyDir 5 (at_ 1 "/t") wBad).2.leaf? 1 =
      some { kind := .mem, files := [("/t/d".toList, dirEntryNow), ("/t".toList, dirEntryNow),
        ([], { ftype := .dir, content := [], created := .now, modified := .unset, accessed := .unset })] } := by
  decide +kernel

theorem copyDirExact_false : ¬ CopyDirExact := by
  intro h
  obtain ⟨w', ms', md', hrun, _, hj', _, hg, _, _⟩ :=
    h wBad 0 1 mBad Mem.init 0 1 5 "/s".toList ["t".toList] rfl rfl mBad_wf WF.init_mem mBad_nodup
      (by decide) ⟨dirEntryNow, by decide, rfl⟩ (canon_keys mBad (by decide) _)
      (fresh_of_check _ _ (by decide)) (by decide) (by decide)
  have hw : w' = ((at_ 0 "/s").copyDir 5 (at_ 1 "/t") wBad).2 := (congrArg Prod.snd hrun).symm
  unfold MemLeafAt at hj'
  rw [hw, wBad_copy] at hj'
  injection hj' with hj'
  injection hj' with _ hj'
  have := hg "d".toList
  rw [← hj'] at this
  revert this
  decide

theorem wBad_move :
    ((at_ 0 "/s").moveDir 5 (at_ 1 "/t") wBad).2.leaf? 1 =
      some { kind := .mem, files := [("/t/d".toList, dirEntryNow), ("/t".toList, dirEntryNow),
        ([], { ftype := .dir, content := [], created := .now, modified := .unset, accessed := .unset })] } := by
  simp only [← moveDirK_eq]; decide +kernel

theorem moveDirExact_false : ¬ MoveDirExact := by
  intro h
  obtain ⟨w', ms', md', hrun, _, hj', _, _, hg, _, _⟩ :=
    h wBad 0 1 mBad Mem.init 0 1 5 "/s".toList ["t".toList] rfl rfl mBad_wf WF.init_mem mBad_nodup
      (by decide) (by decide) (by decide) ⟨dirEntryNow, by decide, rfl⟩
      (canon_keys mBad (by decide) _) (fresh_of_check _ _ (by decide)) (by decide) (by decide)
      (keys_bound mBad _ (by decide)) (fun h => absurd h (by decide))
  have hw : w' = ((at_ 0 "/s").moveDir 5 (at_ 1 "/t") wBad).2 := (congrArg Prod.snd hrun).symm
  unfold MemLeafAt at hj'
  rw [hw, wBad_move] at hj'
  injection hj' with hj'
  injection hj' with _ hj'
  have := hg "d".toList
  rw [← hj'] at this
  revert this
  decide

/-- leaf 0 (storage order deliberately not sorted):
`/r/` — `a/` (`b/` (`c/` (`f` "deep")), `e/` (EMPTY), `x` (empty file)), `ab` "1", `a.b` "22";
and `/other` "o" outside the tree -/
def mN : FMap :=
  [ ("/r/a/b/c/f".toList, fileE [100, 101, 101, 112]), ("/r/ab".toList, fileE [49]),
    ("/other".toList, fileE [111]), ("/r/a/e".toList, dirEntryNow), ("/r".toList, dirEntryNow),
    ("/r/a.b".toList, fileE [50, 50]), ("/r/a/b/c".toList, dirEntryNow), ("/r/a".toList, dirEntryNow),
    ("/r/a/x".toList, fileE []), ("/r/a/b".toList, dirEntryNow), ([], dirEntryNow) ]

def mK : FMap := [("/keep".toList, fileE [107]), ([], dirEntryNow)]

def wN : World := { leaves := [{ kind := .mem, files := mN }, { kind := .mem, files := mK }] }

/-- `mN` with its paths as `chars`: what the evaluations below run on -/
def mNc : FMap :=
  [ (chars "/r/a/b/c/f", fileE [100, 101, 101, 112]), (chars "/r/ab", fileE [49]),
    (chars "/other", fileE [111]), (chars "/r/a/e", dirEntryNow), (chars "/r", dirEntryNow),
    (chars "/r/a.b", fileE [50, 50]), (chars "/r/a/b/c", dirEntryNow), (chars "/r/a", dirEntryNow),
    (chars "/r/a/x", fileE []), (chars "/r/a/b", dirEntryNow), ([], dirEntryNow) ]

theorem mN_eq : mN = mNc := by decide +kernel
theorem wN_eq : wN = mem2 mNc mK := by rw [wN, mN_eq]; rfl

theorem mN_wf : WF mN := WF.of_check mN (by rw [mN_eq]; decide +kernel)
theorem mN_nodup : FMap.NodupKeys mN := by rw [mN_eq]; decide +kernel
theorem mK_wf : WF mK := WF.of_check mK (by decide +kernel)
theorem wN_leaf0 : MemLeafAt wN 0 mN := rfl
theorem wN_leaf1 : MemLeafAt wN 1 mK := rfl
theorem mN_canon (S : Str) : ∀ k e, mN.find? k = some e → under S k = true → Canon k :=
  canon_keys mN (by rw [mN_eq]; decide +kernel) S
theorem mN_bare (S : Str) : DirsBare mN S := by
  intro k e hk _
  have hmem : (k, e) ∈ mN := FMap.find?_mem mN k e hk
  revert hmem
  simp only [mN, List.mem_cons, Prod.mk.injEq, List.not_mem_nil, or_false]
  rintro (⟨_, rfl⟩ | ⟨_, rfl⟩ | ⟨_, rfl⟩ | ⟨_, rfl⟩ | ⟨_, rfl⟩ | ⟨_, rfl⟩ | ⟨_, rfl⟩ | ⟨_, rfl⟩ |
    ⟨_, rfl⟩ | ⟨_, rfl⟩ | ⟨_, rfl⟩) <;> decide

example : descendants mN "/r".toList = 8 := by rw [mN_eq]; decide +kernel

def nTree (top : String) : FMap :=
  [ (chars (top ++ "/a/b/c/f"), fileE [100, 101, 101, 112]), (chars (top ++ "/a/b/c"), dirEntryNow),
    (chars (top ++ "/a/b"), dirEntryNow), (chars (top ++ "/a/x"), fileE []),
    (chars (top ++ "/a/e"), dirEntryNow), (chars (top ++ "/a"), dirEntryNow),
    (chars (top ++ "/a.b"), fileE [50, 50]), (chars (top ++ "/ab"), fileE [49]), (chars top, dirEntryNow) ]

/-- leaf 0 after the walk of "/r": the files that were read have moved to the front -/
def mNw : FMap :=
  [ (chars "/r/a/b/c/f", fileE [100, 101, 101, 112]), (chars "/r/a/x", fileE []),
    (chars "/r/a.b", fileE [50, 50]), (chars "/r/ab", fileE [49]), (chars "/other", fileE [111]),
    (chars "/r/a/e", dirEntryNow), (chars "/r", dirEntryNow), (chars "/r/a/b/c", dirEntryNow),
    (chars "/r/a", dirEntryNow), (chars "/r/a/b", dirEntryNow), ([], dirEntryNow) ]

theorem n_copy_cross : (at_ 0 "/r").copyDir 9 (at_ 1 "/c") wN = (.ok 8, mem2 mNw (nTree "/c" ++ mK)) := by
  rw [wN_eq]; exact run_eq_of_fields (by decide +kernel)

theorem n_move_cross : (at_ 0 "/r").moveDir 12 (at_ 1 "/c") wN =
    (.ok (), mem2 [(chars "/other", fileE [111]), ([], dirEntryNow)] (nTree "/c" ++ mK)) := by
  simp only [← moveDirK_eq]; rw [wN_eq]; exact run_eq_of_fields (by decide +kernel)

example : ((at_ 0 "/r").copyDir 9 (at_ 1 "/c") wN).1 = .ok 8 := by rw [n_copy_cross]
/-- the bound `descendants < fuel` is exact: with fuel = 8 the loop runs out of fuel -/
example : ((at_ 0 "/r").copyDir 8 (at_ 1 "/c") wN).1 = .panic := by rw [wN_eq]; decide +kernel
example : view ((at_ 0 "/r").copyDir 9 (at_ 1 "/c") wN).2 1 =
    [("/c/a/b/c/f", .file, [100, 101, 101, 112]), ("/c/a/b/c", .dir, []), ("/c/a/b", .dir, []),
     ("/c/a/x", .file, []), ("/c/a/e", .dir, []), ("/c/a", .dir, []), ("/c/a.b", .file, [50, 50]),
     ("/c/ab", .file, [49]), ("/c", .dir, []), ("/keep", .file, [107]), ("", .dir, [])] := by
  rw [n_copy_cross]; decide +kernel
example : (view ((at_ 0 "/r").copyDir 9 (at_ 1 "/c") wN).2 0).isPerm (view wN 0) = true := by
  rw [n_copy_cross, wN_eq]; decide +kernel

example : ((at_ 0 "/r").copyDir 9 (at_ 0 "/r2") wN).1 = .ok 8 := by rw [wN_eq]; decide +kernel
example : (view ((at_ 0 "/r").copyDir 9 (at_ 0 "/r2") wN).2 0).isPerm
    ([("/r2/a/b/c/f", .file, [100, 101, 101, 112]), ("/r2/a/b/c", .dir, []), ("/r2/a/b", .dir, []),
      ("/r2/a/x", .file, []), ("/r2/a/e", .dir, []), ("/r2/a", .dir, []), ("/r2/a.b", .file, [50, 50]),
      ("/r2/ab", .file, [49]), ("/r2", .dir, [])] ++ view wN 0) = true := by rw [wN_eq]; decide +kernel
example : ((at_ 0 "/r/a").copyDir 9 (at_ 0 "/r/a2") wN).1 = .ok 5 := by rw [wN_eq]; decide +kernel
example : (view ((at_ 0 "/r/a").copyDir 9 (at_ 0 "/r/a2") wN).2 0).isPerm
    ([("/r/a2/b/c/f", .file, [100, 101, 101, 112]), ("/r/a2/b/c", .dir, []), ("/r/a2/b", .dir, []),
      ("/r/a2/x", .file, []), ("/r/a2/e", .dir, []), ("/r/a2", .dir, [])] ++ view wN 0) = true := by
  rw [wN_eq]; decide +kernel

example : ((at_ 0 "/r").moveDir 12 (at_ 1 "/c") wN).1 = .ok () := by rw [n_move_cross]
example : view ((at_ 0 "/r").moveDir 12 (at_ 1 "/c") wN).2 0 =
    [("/other", .file, [111]), ("", .dir, [])] := by
  rw [n_move_cross]; decide +kernel
example : view ((at_ 0 "/r").moveDir 12 (at_ 1 "/c") wN).2 1 =
    [("/c/a/b/c/f", .file, [100, 101, 101, 112]), ("/c/a/b/c", .dir, []), ("/c/a/b", .dir, []),
     ("/c/a/x", .file, []), ("/c/a/e", .dir, []), ("/c/a", .dir, []), ("/c/a.b", .file, [50, 50]),
     ("/c/ab", .file, [49]), ("/c", .dir, []), ("/keep", .file, [107]), ("", .dir, [])] := by
  rw [n_move_cross]; decide +kernel
example : view ((at_ 0 "/r").moveDir 12 (at_ 0 "/r2") wN).2 0 =
    [("/r2/a/b/c/f", .file, [100, 101, 101, 112]), ("/r2/a/b/c", .dir, []), ("/r2/a/b", .dir, []),
     ("/r2/a/x", .file, []), ("/r2/a/e", .dir, []), ("/r2/a", .dir, []), ("/r2/a.b", .file, [50, 50]),
     ("/r2/ab", .file, [49]), ("/r2", .dir, []), ("/other", .file, [111]), ("", .dir, [])] := by
  simp only [← moveDirK_eq]; rw [wN_eq]; decide +kernel

example : ∃ w' ms' md',
    VPath.copyDir 9 (at_ 0 "/r") { fs := leafFS 1, fsId := 1, path := renderC ["c".toList] } wN =
      (.ok (descendants mN "/r".toList), w') ∧
    MemLeafAt w' 0 ms' ∧ MemLeafAt w' 1 md' ∧ WF ms' ∧ WF md' ∧
    (∀ l, l ≠ 0 → l ≠ 1 → w'.leaf? l = wN.leaf? l) ∧
    md'.find? (renderC ["c".toList]) = some dirEntryNow ∧
    (∀ t, (md'.find? (renderC ["c".toList] ++ '/' :: t)).map core =
      (mN.find? ("/r".toList ++ '/' :: t)).map shape) ∧
    (∀ k, under (renderC ["c".toList]) k = false →
      (md'.find? k).map stripAcc = (mK.find? k).map stripAcc) ∧
    (∀ k, (ms'.find? k).map stripAcc = (mN.find? k).map stripAcc) :=
  copyDir_exact_cross (by decide) wN_leaf0 wN_leaf1 mN_wf mK_wf mN_nodup 0 1 9 "/r".toList ["c".toList]
    (by decide) ⟨dirEntryNow, by rw [mN_eq]; decide +kernel, rfl⟩ (mN_canon _) (fresh_of_check _ _ (by decide))
    (by rw [mN_eq]; decide +kernel)

example : ∃ w' m',
    VPath.copyDir 9 (at_ 0 "/r/a")
      { fs := leafFS 0, fsId := 0, path := renderC ["r".toList, "a2".toList] } wN =
      (.ok (descendants mN "/r/a".toList), w') ∧
    MemLeafAt w' 0 m' ∧ WF m' ∧ (∀ l, l ≠ 0 → w'.leaf? l = wN.leaf? l) ∧
    m'.find? (renderC ["r".toList, "a2".toList]) = some dirEntryNow ∧
    (∀ t, (m'.find? (renderC ["r".toList, "a2".toList] ++ '/' :: t)).map core =
      (mN.find? ("/r/a".toList ++ '/' :: t)).map shape) ∧
    (∀ k, under (renderC ["r".toList, "a2".toList]) k = false →
      (m'.find? k).map stripAcc = (mN.find? k).map stripAcc) :=
  copyDir_exact_same wN_leaf0 mN_wf mN_nodup 0 0 9 "/r/a".toList ["r".toList, "a2".toList]
    (by decide) ⟨dirEntryNow, by rw [mN_eq]; decide +kernel, rfl⟩ (mN_canon _) (fresh_of_check _ _ (by rw [mN_eq]; decide +kernel))
    (by decide) (by rw [mN_eq]; decide +kernel)

example : ∃ w' ms' md',
    VPath.copyDir 9 (at_ 0 "/r") { fs := leafFS 1, fsId := 1, path := renderC ["c".toList] } wN =
      (.ok (descendants mN "/r".toList), w') ∧
    MemLeafAt w' 0 ms' ∧ MemLeafAt w' 1 md' ∧
    (md'.find? (renderC ["c".toList])).map core = some (.dir, []) ∧
    (∀ t, (md'.find? (renderC ["c".toList] ++ '/' :: t)).map core =
      (mN.find? ("/r".toList ++ '/' :: t)).map core) ∧
    (∀ k, under (renderC ["c".toList]) k = false →
      (md'.find? k).map stripAcc = (mK.find? k).map stripAcc) ∧
    (∀ k, ((0 : Nat) = 1 → under (renderC ["c".toList]) k = false) →
      (ms'.find? k).map stripAcc = (mN.find? k).map stripAcc) :=
  copyDirExact' wN 0 1 mN mK 0 1 9 "/r".toList ["c".toList] wN_leaf0 wN_leaf1 mN_wf mK_wf mN_nodup
    (by decide) ⟨dirEntryNow, by rw [mN_eq]; decide +kernel, rfl⟩ (mN_canon _) (mN_bare _)
    (fresh_of_check _ _ (by decide)) (by decide) (by rw [mN_eq]; decide +kernel)

example : ∃ w' ms' md',
    VPath.moveDir 12 (at_ 0 "/r") { fs := leafFS 1, fsId := 1, path := renderC ["c".toList] } wN =
      (.ok (), w') ∧
    MemLeafAt w' 0 ms' ∧ MemLeafAt w' 1 md' ∧ WF ms' ∧ WF md' ∧
    (∀ l, l ≠ 0 → l ≠ 1 → w'.leaf? l = wN.leaf? l) ∧
    (∀ k, under "/r".toList k = true → ms'.find? k = none) ∧
    (∀ k, under "/r".toList k = false → (ms'.find? k).map stripAcc = (mN.find? k).map stripAcc) ∧
    md'.find? (renderC ["c".toList]) = some dirEntryNow ∧
    (∀ t, (md'.find? (renderC ["c".toList] ++ '/' :: t)).map core =
      (mN.find? ("/r".toList ++ '/' :: t)).map shape) ∧
    (∀ k, under (renderC ["c".toList]) k = false →
      (md'.find? k).map stripAcc = (mK.find? k).map stripAcc) :=
  moveDir_exact_cross (by decide) wN_leaf0 wN_leaf1 mN_wf mK_wf mN_nodup 0 1 12 "/r".toList ["c".toList]
    (by decide) (by decide) ⟨dirEntryNow, by rw [mN_eq]; decide +kernel, rfl⟩ (mN_canon _)
    (fresh_of_check _ _ (by decide)) (by rw [mN_eq]; decide +kernel) (keys_bound mN _ (by rw [mN_eq]; decide +kernel))

example : ∃ w' m',
    VPath.moveDir 12 (at_ 0 "/r") { fs := leafFS 0, fsId := 0, path := renderC ["r2".toList] } wN =
      (.ok (), w') ∧
    MemLeafAt w' 0 m' ∧ WF m' ∧ (∀ l, l ≠ 0 → w'.leaf? l = wN.leaf? l) ∧
    (∀ k, under "/r".toList k = true → m'.find? k = none) ∧
    m'.find? (renderC ["r2".toList]) = some dirEntryNow ∧
    (∀ t, (m'.find? (renderC ["r2".toList] ++ '/' :: t)).map core =
      (mN.find? ("/r".toList ++ '/' :: t)).map shape) ∧
    (∀ k, under "/r".toList k = false → under (renderC ["r2".toList]) k = false →
      (m'.find? k).map stripAcc = (mN.find? k).map stripAcc) :=
  moveDir_exact_same wN_leaf0 mN_wf mN_nodup 0 0 12 "/r".toList ["r2".toList] (by decide) (by decide)
    ⟨dirEntryNow, by rw [mN_eq]; decide +kernel, rfl⟩ (mN_canon _) (fresh_of_check _ _ (by rw [mN_eq]; decide +kernel)) (by decide)
    (by rw [mN_eq]; decide +kernel) (keys_bound mN _ (by rw [mN_eq]; decide +kernel))
    (fun k e hk _ => by
      have := keys_bound mN 12 (by rw [mN_eq]; decide +kernel) k e hk
      show 3 + k.length < 2 * 2 + 12
      omega)

/-- the source may be the ROOT of its filesystem (two leaves): the whole of leaf 1 under `/k2` of
leaf 0 -/
example : ((at_ 1 "").copyDir 5 (at_ 0 "/k2") wN).1 = .ok 1 := by rw [wN_eq]; decide +kernel
example : ∃ w' ms' md',
    VPath.copyDir 5 (at_ 1 "") { fs := leafFS 0, fsId := 0, path := renderC ["k2".toList] } wN =
      (.ok (descendants mK []), w') ∧
    MemLeafAt w' 1 ms' ∧ MemLeafAt w' 0 md' ∧ WF ms' ∧ WF md' ∧
    (∀ l, l ≠ 1 → l ≠ 0 → w'.leaf? l = wN.leaf? l) ∧
    md'.find? (renderC ["k2".toList]) = some dirEntryNow ∧
    (∀ t, (md'.find? (renderC ["k2".toList] ++ '/' :: t)).map core =
      (mK.find? ([] ++ '/' :: t)).map shape) ∧
    (∀ k, under (renderC ["k2".toList]) k = false →
      (md'.find? k).map stripAcc = (mN.find? k).map stripAcc) ∧
    (∀ k, (ms'.find? k).map stripAcc = (mK.find? k).map stripAcc) :=
  copyDir_exact_cross (by decide) wN_leaf1 wN_leaf0 mK_wf mN_wf (by decide +kernel)
    1 0 5 [] ["k2".toList] (by decide) ⟨dirEntryNow, by decide, rfl⟩
    (canon_keys mK (by decide) _) (fresh_of_check _ _ (by rw [mN_eq]; decide +kernel)) (by decide)

example (md' : FMap)
    (h : ∀ t, (md'.find? ("/c".toList ++ '/' :: t)).map core =
      (mN.find? ("/r".toList ++ '/' :: t)).map shape) :
    ∃ e', md'.find? "/c/a/e".toList = some e' ∧ e'.ftype = .dir ∧ e'.content = [] :=
  graft_dir h "a/e".toList dirEntryNow (by rw [mN_eq]; decide +kernel) rfl

end Vfs.C11
