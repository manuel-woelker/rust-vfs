/-
  C12 — Errors name the caller's path and classify consistently.

  Part 1 (labels). `ErrPathIn S m`: whenever `m` ends in an error, that error carries a path
  (never the placeholder `none`) and the path satisfies `S`. Proved for the operations of the
  `VfsPath` layer over an ARBITRARY filesystem record `p.fs`: nothing is assumed about the
  labels — or the absence of labels — on the errors of the backend.
  The one place where the layer does not relabel is `VfsPath::exists`; the operations that call
  it (`get_parent`, hence `create_dir` / `create_file`; `is_file`, `is_dir`, `remove_dir_all`)
  are therefore stated under `ExistsTotal p.fs` (the backend's `exists` never returns an
  error — true of MemoryFS, PhysicalFS, EmbeddedFS, and AltrootFS over such a filesystem), and
  the hypothesis is shown to be necessary.

  Part 2 (classes). Relabelling never changes the kind; trailing-slash joins are `InvalidPath`;
  trait defaults are `NotSupported`; an occupied path is `FileExists` / `DirectoryExists` by
  occupant; an entry missing from an existing directory is not-found on both backends.
-/
import VfsModel.Leaf
import VfsModel.PathOps
import VfsModel.Adapters
import VfsModel.Embedded
import VfsModel.Proofs.Hoare
import VfsModel.Proofs.PreservesOps
import VfsModel.Proofs.FMapLemmas
import VfsModel.Proofs.MemRun
import VfsModel.Props.C06
namespace Vfs.C12

def ErrPathIn {α} (S : Str → Prop) (m : M α) : Prop :=
  ∀ w k pth, (m w).1 = .err k pth → ∃ s, pth = some s ∧ S s

def NoErr {α} (m : M α) : Prop := ∀ w k pth, (m w).1 ≠ .err k pth

def ExistsTotal (fs : FS) : Prop := ∀ q, NoErr (fs.exists_ q)

theorem err_of_bind {α β} {m : M α} {f : α → M β} {w : World} {k : ErrKind} {pth : Option Str}
    (he : ((m >>= f) w).1 = .err k pth) :
    (m w).1 = .err k pth ∨ ∃ a w', m w = (.ok a, w') ∧ (f a w').1 = .err k pth := by
  change ((M.bind m f) w).1 = _ at he
  unfold M.bind at he
  split at he
  · rename_i a w' heq; exact Or.inr ⟨a, w', heq, he⟩
  · rename_i k' p' w' heq
    simp only [Res.err.injEq] at he
    rw [heq, he.1, he.2]; exact Or.inl rfl
  · cases he

theorem withPath_of_err {α} {m : M α} {w w' : World} {k : ErrKind} {l : Option Str} (p : Str)
    (h : m w = (.err k l, w')) : M.withPath p m w = (.err k (some p), w') := by
  rw [M.withPath_run, h]; rfl

namespace ErrPathIn
variable {α β : Type} {S T : Str → Prop}

theorem of_noErr {m : M α} (h : NoErr m) : ErrPathIn S m :=
  fun w k pth he => absurd he (h w k pth)

theorem mono {m : M α} (hst : ∀ s, S s → T s) (h : ErrPathIn S m) : ErrPathIn T m := by
  intro w k pth he
  obtain ⟨s, h1, h2⟩ := h w k pth he
  exact ⟨s, h1, hst s h2⟩

theorem pure (a : α) : ErrPathIn S (Pure.pure a : M α) := by
  intro w k pth he; cases he

theorem mpure (a : α) : ErrPathIn S (M.pure a) := by
  intro w k pth he; cases he

theorem failAt (k : ErrKind) (p : Str) (hp : S p) : ErrPathIn S (M.failAt k p : M α) := by
  intro w k' pth he
  simp only [M.failAt, Res.err.injEq] at he
  exact ⟨p, he.2.symm, hp⟩

theorem withPath (p : Str) (m : M α) (hp : S p) : ErrPathIn S (M.withPath p m) := by
  intro w k pth he
  rw [M.withPath_run] at he
  cases hr : (m w).1 with
  | ok a => simp [hr, Res.withPath] at he
  | err k' p' =>
    simp only [hr, Res.withPath, Res.err.injEq] at he
    exact ⟨p, he.2.symm, hp⟩
  | panic => simp [hr, Res.withPath] at he

theorem bind_or {m : M α} {f : α → M β} (hf : ∀ a, ErrPathIn S (f a)) {w : World} {k : ErrKind}
    {pth : Option Str} (he : ((m >>= f) w).1 = .err k pth) :
    (m w).1 = .err k pth ∨ ∃ s, pth = some s ∧ S s := by
  rcases err_of_bind he with h | ⟨a, w', _, h⟩
  · exact Or.inl h
  · exact Or.inr (hf a w' k pth h)

theorem bind {m : M α} {f : α → M β} (hm : ErrPathIn S m) (hf : ∀ a, ErrPathIn S (f a)) :
    ErrPathIn S (m >>= f) :=
  fun w k pth he => (bind_or hf he).elim (hm w k pth) id

theorem bindQ {m : M α} {f : α → M β} (Q : α → Prop) (hq : Returns m Q) (hm : ErrPathIn S m)
    (hf : ∀ a, Q a → ErrPathIn S (f a)) : ErrPathIn S (m >>= f) := by
  intro w k pth he
  rcases err_of_bind he with h | ⟨a, w', ha, h⟩
  · exact hm w k pth h
  · exact hf a (hq.post w a (by rw [ha])) w' k pth h

theorem ite {c : Prop} [Decidable c] {a b : M α} (ha : ErrPathIn S a) (hb : ErrPathIn S b) :
    ErrPathIn S (if c then a else b) := by
  split <;> assumption

end ErrPathIn

theorem NoErr.pure {α} (a : α) : NoErr (Pure.pure a : M α) := by
  intro w k pth he; cases he

theorem NoErr.attempt {α} (m : M α) : NoErr (M.attempt m) := by
  intro w k pth he; simp [M.attempt] at he

theorem NoErr.ret_ok {α} (a : α) : NoErr (M.ret (.ok a)) := by
  intro w k pth he; cases he

theorem NoErr.ret_panic {α} : NoErr (M.ret (.panic : Res α)) := by
  intro w k pth he; cases he

section SinglePath
variable (p : VPath)

theorem metadata_err : ErrPathIn (· = p.path) p.metadata := ErrPathIn.withPath _ _ rfl
theorem openFile_err : ErrPathIn (· = p.path) p.openFile := ErrPathIn.withPath _ _ rfl
theorem appendFile_err : ErrPathIn (· = p.path) p.appendFile := ErrPathIn.withPath _ _ rfl
theorem removeFile_err : ErrPathIn (· = p.path) p.removeFile := ErrPathIn.withPath _ _ rfl
theorem removeDir_err : ErrPathIn (· = p.path) p.removeDir := ErrPathIn.withPath _ _ rfl
theorem setCreationTime_err (t : Int) : ErrPathIn (· = p.path) (p.setCreationTime t) :=
  ErrPathIn.withPath _ _ rfl
theorem setModificationTime_err (t : Int) : ErrPathIn (· = p.path) (p.setModificationTime t) :=
  ErrPathIn.withPath _ _ rfl
theorem setAccessTime_err (t : Int) : ErrPathIn (· = p.path) (p.setAccessTime t) :=
  ErrPathIn.withPath _ _ rfl

theorem readDir_err : ErrPathIn (· = p.path) p.readDir := by
  unfold VPath.readDir
  exact ErrPathIn.bind (ErrPathIn.withPath _ _ rfl) (fun _ => ErrPathIn.pure _)

theorem walkDir_err : ErrPathIn (· = p.path) p.walkDir := by
  unfold VPath.walkDir
  exact ErrPathIn.bind (readDir_err p) (fun _ => ErrPathIn.pure _)

theorem readToEndChecked_err : ErrPathIn (· = p.path) p.readToEndChecked := by
  unfold VPath.readToEndChecked
  refine ErrPathIn.bind (metadata_err p) (fun md => ?_)
  refine ErrPathIn.ite (ErrPathIn.failAt _ _ rfl) ?_
  exact ErrPathIn.bind (openFile_err p) (fun h => ErrPathIn.withPath _ _ rfl)

/-- the four transfers are wrapped as a whole: every error names the source -/
theorem copyFile_err (src dst : VPath) : ErrPathIn (· = src.path) (src.copyFile dst) := by
  unfold VPath.copyFile; exact ErrPathIn.withPath _ _ rfl
theorem moveFile_err (src dst : VPath) : ErrPathIn (· = src.path) (src.moveFile dst) := by
  unfold VPath.moveFile; exact ErrPathIn.withPath _ _ rfl
theorem copyDir_err (fuel : Nat) (src dst : VPath) :
    ErrPathIn (· = src.path) (VPath.copyDir fuel src dst) := by
  unfold VPath.copyDir; exact ErrPathIn.withPath _ _ rfl
theorem moveDir_err (fuel : Nat) (src dst : VPath) :
    ErrPathIn (· = src.path) (VPath.moveDir fuel src dst) := by
  unfold VPath.moveDir; exact ErrPathIn.withPath _ _ rfl

end SinglePath

/-- without any hypothesis on the backend: an error of `get_parent` is either the raw error of
the backend's `exists` on the parent (handed on unchanged), or labelled with `p` or its parent -/
theorem getParent_err_general (p : VPath) (w : World) (k : ErrKind) (pth : Option Str)
    (he : (p.getParent w).1 = .err k pth) :
    (p.fs.exists_ (parentInternal p.path) w).1 = .err k pth ∨
      pth = some p.path ∨ pth = some (parentInternal p.path) := by
  unfold VPath.getParent at he
  refine (ErrPathIn.bind_or (S := fun s => s = p.path ∨ s = parentInternal p.path)
    (fun b => ?_) he).imp id ?_
  · refine ErrPathIn.ite (ErrPathIn.failAt _ _ (Or.inl rfl)) ?_
    refine ErrPathIn.bind ?_ (fun md => ?_)
    · exact ErrPathIn.mono (fun s hs => Or.inr hs) (metadata_err p.parent)
    · exact ErrPathIn.ite (ErrPathIn.failAt _ _ (Or.inl rfl)) (ErrPathIn.pure _)
  · rintro ⟨s, rfl, rfl | rfl⟩
    · exact Or.inl rfl
    · exact Or.inr rfl

/-- `get_parent`: its own two errors name `p`; the metadata error of the parent names the
parent; the error of `exists` (not relabelled) is excluded by the hypothesis -/
theorem getParent_err (p : VPath) (h : ExistsTotal p.fs) :
    ErrPathIn (fun s => s = p.path ∨ s = parentInternal p.path) p.getParent := by
  intro w k pth he
  rcases getParent_err_general p w k pth he with hx | rfl | rfl
  · exact absurd hx (h _ w k pth)
  · exact ⟨_, rfl, Or.inl rfl⟩
  · exact ⟨_, rfl, Or.inr rfl⟩

theorem createDir_err (p : VPath) (h : ExistsTotal p.fs) :
    ErrPathIn (fun s => s = p.path ∨ s = parentInternal p.path) p.createDir := by
  unfold VPath.createDir
  exact ErrPathIn.bind (getParent_err p h) (fun _ => ErrPathIn.withPath _ _ (Or.inl rfl))

theorem createFile_err (p : VPath) (h : ExistsTotal p.fs) :
    ErrPathIn (fun s => s = p.path ∨ s = parentInternal p.path) p.createFile := by
  unfold VPath.createFile
  exact ErrPathIn.bind (getParent_err p h) (fun _ => ErrPathIn.withPath _ _ (Or.inl rfl))

theorem createDir_err_general (p : VPath) (w : World) (k : ErrKind) (pth : Option Str)
    (he : (p.createDir w).1 = .err k pth) :
    (p.fs.exists_ (parentInternal p.path) w).1 = .err k pth ∨
      pth = some p.path ∨ pth = some (parentInternal p.path) := by
  unfold VPath.createDir at he
  rcases ErrPathIn.bind_or (S := (· = p.path)) (fun _ => ErrPathIn.withPath _ _ rfl) he
    with hg | ⟨s, rfl, rfl⟩
  · exact getParent_err_general p w k pth hg
  · exact Or.inr (Or.inl rfl)

/-- the hypothesis is needed: over a backend whose `exists` fails without a label (here the
trait-default record, every method `NotSupported`), `create_dir` reports the placeholder -/
theorem createDir_needs_existsTotal :
    ∃ p : VPath, ¬ ErrPathIn (fun s => s = p.path ∨ s = parentInternal p.path) p.createDir := by
  refine ⟨{ fs := default, fsId := 0, path := "/a".toList }, fun h => ?_⟩
  obtain ⟨s, hs, _⟩ := h default .notSupported none rfl
  cases hs

/-- the same for `exists` itself: it is the one operation that hands the backend's label on -/
theorem exists_not_relabelled (p : VPath) (w : World) : p.exists_ w = p.fs.exists_ p.path w := rfl

theorem isFile_err (p : VPath) (h : ExistsTotal p.fs) : ErrPathIn (· = p.path) p.isFile := by
  unfold VPath.isFile
  refine ErrPathIn.bind (ErrPathIn.of_noErr (h _)) (fun b => ?_)
  refine ErrPathIn.ite (ErrPathIn.pure _) ?_
  exact ErrPathIn.bind (metadata_err p) (fun _ => ErrPathIn.pure _)

theorem isDir_err (p : VPath) (h : ExistsTotal p.fs) : ErrPathIn (· = p.path) p.isDir := by
  unfold VPath.isDir
  refine ErrPathIn.bind (ErrPathIn.of_noErr (h _)) (fun b => ?_)
  refine ErrPathIn.ite (ErrPathIn.pure _) ?_
  exact ErrPathIn.bind (metadata_err p) (fun _ => ErrPathIn.pure _)

/-! ### `create_dir_all`: the error names the prefix whose creation failed -/

theorem createDirAllLoop_err (p : VPath) (l : List Str) :
    ErrPathIn (· ∈ l) (VPath.createDirAllLoop p l) := by
  induction l with
  | nil => intro w k pth he; cases he
  | cons d rest ih =>
    intro w k pth he
    rw [VPath.createDirAllLoop_cons] at he
    split at he
    · obtain ⟨s, h1, h2⟩ := ih _ k pth he
      exact ⟨s, h1, List.mem_cons_of_mem _ h2⟩
    · obtain ⟨s, h1, h2⟩ := ih _ k pth he
      exact ⟨s, h1, List.mem_cons_of_mem _ h2⟩
    · simp only [Res.err.injEq] at he
      exact ⟨d, he.2.symm, List.mem_cons_self⟩
    · cases he

theorem createDirAll_err (p : VPath) : ErrPathIn (· ∈ VPath.dirPrefixes p.path) p.createDirAll := by
  unfold VPath.createDirAll
  exact ErrPathIn.ite (ErrPathIn.pure _) (createDirAllLoop_err p _)

theorem dirPrefixes_prefix (path d : Str) (h : d ∈ VPath.dirPrefixes path) : d <+: path := by
  unfold VPath.dirPrefixes at h
  simp only [List.mem_map] at h
  obtain ⟨e, _, rfl⟩ := h
  exact List.take_prefix _ _

theorem dirPrefixes_boundary (path d : Str) (h : d ∈ VPath.dirPrefixes path) :
    d = path ∨ ∃ rest, path = d ++ '/' :: rest := by
  unfold VPath.dirPrefixes at h
  simp only [List.mem_map, List.mem_filter, List.mem_range, decide_eq_true_eq] at h
  obtain ⟨e, ⟨_, _, he⟩, rfl⟩ := h
  rcases he with rfl | he
  · left; exact List.take_length
  · right
    refine ⟨path.drop (e + 1), ?_⟩
    have hlt : e < path.length := by
      rcases Nat.lt_or_ge e path.length with h | h
      · exact h
      · rw [List.getElem?_eq_none h] at he; cases he
    have hget : path[e] = '/' := by
      rw [List.getElem?_eq_getElem hlt] at he; exact Option.some.inj he
    conv => lhs; rw [← List.take_append_drop e path]
    rw [List.drop_eq_getElem_cons hlt, hget]

/-! ### `remove_dir_all`: the error names `p` or something below `p` -/

def Below (base s : Str) : Prop := s = base ∨ (base ++ ['/']) <+: s

theorem Below.refl (base : Str) : Below base base := Or.inl rfl

theorem Below.child_trans (base n s : Str) (h : Below (base ++ '/' :: n) s) : Below base s := by
  right
  rcases h with rfl | h
  · exact ⟨n, by simp⟩
  · obtain ⟨t, rfl⟩ := h
    exact ⟨n ++ '/' :: t, by simp⟩

theorem readDir_children (p : VPath) :
    Returns p.readDir (fun l => ∀ c ∈ l, c.fs = p.fs ∧ ∃ n, c.path = p.path ++ '/' :: n) :=
  ((VPath.readDir_fs p).and (VPath.readDir_children p)).mono
    fun _ h c hc => ⟨(h.1 c hc).1, h.2 c hc⟩

theorem removeChildren_err_of (fuel : Nat)
    (hdir : ∀ p : VPath, ExistsTotal p.fs → ErrPathIn (Below p.path) (VPath.removeDirAll fuel p))
    (l : List VPath) (base : Str)
    (h : ∀ c ∈ l, ExistsTotal c.fs ∧ ∃ n, c.path = base ++ '/' :: n) :
    ErrPathIn (Below base) (VPath.removeChildren fuel l) := by
  induction l with
  | nil => rw [VPath.removeChildren_nil]; exact ErrPathIn.pure _
  | cons c rest ih =>
    rw [VPath.removeChildren_cons]
    obtain ⟨hc, n, hn⟩ := h c List.mem_cons_self
    have hsub : ∀ s, Below c.path s → Below base s := by
      intro s hs; rw [hn] at hs; exact Below.child_trans base n s hs
    have hrest := ih (fun x hx => h x (List.mem_cons_of_mem _ hx))
    refine ErrPathIn.bind
      (ErrPathIn.mono (fun s hs => hsub s (Or.inl hs)) (metadata_err c)) (fun md => ?_)
    dsimp only
    split
    · exact ErrPathIn.bind
        (ErrPathIn.mono (fun s hs => hsub s (Or.inl hs)) (removeFile_err c)) (fun _ => hrest)
    · exact ErrPathIn.bind (ErrPathIn.mono hsub (hdir c hc)) (fun _ => hrest)

theorem removeDirAll_err (fuel : Nat) (p : VPath) (h : ExistsTotal p.fs) :
    ErrPathIn (Below p.path) (VPath.removeDirAll fuel p) := by
  induction fuel generalizing p with
  | zero => rw [VPath.removeDirAll_zero]; exact ErrPathIn.of_noErr NoErr.ret_panic
  | succ fuel ih =>
    rw [VPath.removeDirAll_succ]
    refine ErrPathIn.bind (ErrPathIn.of_noErr (h _)) (fun b => ?_)
    split
    · exact ErrPathIn.pure _
    · refine ErrPathIn.bindQ _ (readDir_children p)
        (ErrPathIn.mono (fun s hs => Or.inl hs) (readDir_err p)) (fun children hc => ?_)
      refine ErrPathIn.bind ?_ (fun _ => ErrPathIn.mono (fun s hs => Or.inl hs) (removeDir_err p))
      exact removeChildren_err_of fuel ih children p.path (fun c hm => by
        obtain ⟨h1, n, h2⟩ := hc c hm
        exact ⟨by rw [h1]; exact h, n, h2⟩)

theorem removeChildren_err (fuel : Nat) (l : List VPath) (base : Str)
    (h : ∀ c ∈ l, ExistsTotal c.fs ∧ ∃ n, c.path = base ++ '/' :: n) :
    ErrPathIn (Below base) (VPath.removeChildren fuel l) :=
  removeChildren_err_of fuel (removeDirAll_err fuel) l base h

theorem onLeaf_unchanged {α} {i : Nat} {w : World} {l : Leaf} (hl : w.leaf? i = some l)
    {f : Leaf → Res α × FMap} {r : Res α} (h : f l = (r, l.files)) : onLeaf i f w = (r, w) := by
  rw [onLeaf_run hl, h, World.setLeafFiles_self w i l hl]

/-- a leaf filesystem's `exists` never returns an error (an index out of range is the panic
outcome of the model, not an error) -/
theorem leafFS_existsTotal (i : Nat) : ExistsTotal (leafFS i) := by
  intro q w k pth he
  simp only [leafFS, onLeaf] at he
  split at he
  · cases he
  · rename_i l _
    cases hk : l.kind <;> simp [hk] at he

theorem leafFS_exists_ok (i : Nat) (q : Str) (w : World) (h : w.leaf? i ≠ none) :
    ((leafFS i).exists_ q w).1.isOk = true := by
  simp only [leafFS, onLeaf]
  cases hl : w.leaf? i with
  | none => exact absurd hl h
  | some l => cases hk : l.kind <;> simp [Res.isOk, hk]

theorem embedded_existsTotal (s : Embedded.State) : ExistsTotal (Embedded.fs s) := by
  intro q w k pth he; cases he

/-- AltrootFS over a filesystem with a total `exists` has a total `exists`: a path that cannot
be translated simply does not exist -/
theorem altroot_existsTotal (root : VPath) (h : ExistsTotal root.fs) :
    ExistsTotal (Altroot.fs root) := by
  intro q w k pth he
  simp only [Altroot.fs] at he
  have hfs := (Altroot.path_fs root q).post
  cases heq : Altroot.path root q with
  | ok r =>
    simp only [heq] at he
    have := (hfs default r (by simp [M.ret, heq])).1
    unfold VPath.exists_ at he
    rw [this] at he
    exact h _ w k pth he
  | err k' p' => simp only [heq] at he; cases he
  | panic => simp only [heq] at he; cases he

theorem leaf_createDir_err (i fsId : Nat) (path : Str) :
    ErrPathIn (fun s => s = path ∨ s = parentInternal path)
      (VPath.createDir { fs := leafFS i, fsId := fsId, path := path }) :=
  createDir_err _ (leafFS_existsTotal i)

theorem leaf_removeDirAll_err (i fsId fuel : Nat) (path : Str) :
    ErrPathIn (Below path)
      (VPath.removeDirAll fuel { fs := leafFS i, fsId := fsId, path := path }) :=
  removeDirAll_err fuel _ (leafFS_existsTotal i)

theorem withPath_kind {α} (p : Str) (m : M α) (w : World) :
    (M.withPath p m w).1.kind? = (m w).1.kind? ∧
    (M.withPath p m w).1.isOk = (m w).1.isOk ∧
    (M.withPath p m w).1.isPanic = (m w).1.isPanic := by
  rw [M.withPath_run]
  cases (m w).1 <;> simp [Res.withPath, Res.kind?, Res.isOk, Res.isPanic]

/-- a join whose argument is longer than one character and ends in '/' is `InvalidPath`,
labelled with the argument; no other join fails -/
theorem join_trailing_slash_invalid (p : VPath) (arg : Str) :
    (∃ q, p.join arg = .ok q) ∨ p.join arg = .err .invalidPath (some arg) :=
  VPath.join_ok_or_invalid p arg

theorem join_err_iff (p : VPath) (arg : Str) (k : ErrKind) (pth : Option Str) :
    (p.join arg).kind? = some k ∧ (p.join arg).errPath? = some pth ↔
      trailingSlash arg ∧ k = .invalidPath ∧ pth = some arg := by
  -- `VfsPath::join` maps the string of a successful `join_internal` and hands its error on
  rw [← C06.join_err_iff p.path arg k pth, VPath.join]
  cases joinInternal p.path arg <;> simp [Res.map, Res.kind?, Res.errPath?]

/-- MemoryFS does not override `copy_file`, `move_file`, `move_dir` -/
theorem mem_defaults (i : Nat) (w : World) (l : Leaf) (s d : Str)
    (hl : w.leaf? i = some l) (hk : l.kind = .mem) :
    (leafFS i).copyFile s d w = (fail .notSupported, w) ∧
    (leafFS i).moveFile s d w = (fail .notSupported, w) ∧
    (leafFS i).moveDir s d w = (fail .notSupported, w) := by
  refine ⟨onLeaf_unchanged hl ?_, onLeaf_unchanged hl ?_, onLeaf_unchanged hl ?_⟩
  all_goals simp only [hk]

theorem overlay_defaults (layers : List VPath) (s d : Str) (w : World) :
    (Overlay.fs layers).copyFile s d w = (fail .notSupported, w) ∧
    (Overlay.fs layers).moveFile s d w = (fail .notSupported, w) ∧
    (Overlay.fs layers).moveDir s d w = (fail .notSupported, w) := ⟨rfl, rfl, rfl⟩

theorem altroot_defaults (root : VPath) (s d : Str) (w : World) :
    (Altroot.fs root).moveFile s d w = (fail .notSupported, w) ∧
    (Altroot.fs root).moveDir s d w = (fail .notSupported, w) ∧
    (Altroot.fs root).copyFile s [] w = (fail .notSupported, w) := ⟨rfl, rfl, rfl⟩

theorem embedded_defaults (st : Embedded.State) (s d : Str) (w : World) :
    (Embedded.fs st).copyFile s d w = (fail .notSupported, w) ∧
    (Embedded.fs st).moveFile s d w = (fail .notSupported, w) ∧
    (Embedded.fs st).moveDir s d w = (fail .notSupported, w) := ⟨rfl, rfl, rfl⟩

theorem notSupported_cls : ErrKind.notSupported.cls = .notSupported := rfl
theorem fileNotFound_cls : ErrKind.fileNotFound.cls = .notFound := rfl

theorem mem_createDir_occupied (m : FMap) (p : Str) (e : Entry)
    (hpar : Mem.ensureHasParent m p = .ok ()) (h : m.find? p = some e) :
    Mem.createDir m p = (fail (if e.ftype = .file then .fileExists else .dirExists), m) := by
  unfold Mem.createDir
  simp only [hpar, h]
  split <;> rfl

theorem mem_createDir_occupied_file (m : FMap) (p : Str) (e : Entry)
    (hpar : Mem.ensureHasParent m p = .ok ()) (h : m.find? p = some e) (hf : e.ftype = .file) :
    Mem.createDir m p = (fail .fileExists, m) := by
  rw [mem_createDir_occupied m p e hpar h, if_pos hf]

theorem mem_createDir_occupied_dir (m : FMap) (p : Str) (e : Entry)
    (hpar : Mem.ensureHasParent m p = .ok ()) (h : m.find? p = some e) (hf : e.ftype = .dir) :
    Mem.createDir m p = (fail .dirExists, m) := by
  rw [mem_createDir_occupied m p e hpar h, if_neg (by rw [hf]; decide)]

theorem phys_createDir_occupied (m : FMap) (p : Str) (e : Entry)
    (h : Phys.lookup m p = .ok (some e)) :
    Phys.createDir m p = (fail (if e.ftype = .file then .fileExists else .dirExists), m) := by
  unfold Phys.createDir
  simp only [h]
  split <;> rfl

theorem mem_missing (m : FMap) (p : Str) (ts : TS) (h : m.find? p = none) :
    Mem.metadata m p = fail .fileNotFound ∧
    Mem.openFile m p = (fail .fileNotFound, m) ∧
    Mem.appendFile m p = fail .fileNotFound ∧
    Mem.removeFile m p = (fail .fileNotFound, m) ∧
    Mem.readDir m p = fail .fileNotFound ∧
    Mem.removeDir m p = (fail .fileNotFound, m) ∧
    Mem.setCreated m p ts = (fail .fileNotFound, m) ∧
    Mem.setModified m p ts = (fail .fileNotFound, m) ∧
    Mem.setAccessed m p ts = (fail .fileNotFound, m) := by
  simp [Mem.metadata, Mem.openFile, Mem.appendFile, Mem.removeFile, Mem.readDir, Mem.removeDir,
    Mem.setCreated, Mem.setModified, Mem.setAccessed, h, fail]

theorem phys_lookup_missing (m : FMap) (p : Str) (hpar : Phys.resolveParent m p = .ok ())
    (h : m.find? p = none) : Phys.lookup m p = .ok none := by
  simp [Phys.lookup, hpar, h]

theorem phys_missing (m : FMap) (p d : Str) (upd : Entry → Entry)
    (hpar : Phys.resolveParent m p = .ok ()) (h : m.find? p = none) :
    Phys.metadata m p = fail .fileNotFound ∧
    Phys.openFile m p = fail .fileNotFound ∧
    Phys.appendFile m p = fail .fileNotFound ∧
    Phys.removeFile m p = (fail .fileNotFound, m) ∧
    Phys.readDir m p = fail .fileNotFound ∧
    Phys.removeDir m p = (fail .fileNotFound, m) ∧
    Phys.setTime upd m p = (fail .fileNotFound, m) ∧
    Phys.copyFile m p d = (fail .fileNotFound, m) ∧
    Phys.exists_ m p = false := by
  have hl := phys_lookup_missing m p hpar h
  simp [Phys.metadata, Phys.openFile, Phys.appendFile, Phys.removeFile, Phys.readDir,
    Phys.removeDir, Phys.setTime, Phys.copyFile, Phys.exists_, hl]

/-- a missing intermediate directory is not-found as well (ENOENT), a file in the way is the
other class (ENOTDIR) -/
theorem phys_missing_ancestor (m : FMap) (p : Str) (k : ErrKind) (pth : Option Str)
    (h : Phys.resolveParent m p = .err k pth) : (k = .fileNotFound ∨ k = .io) ∧ pth = none := by
  unfold Phys.resolveParent at h
  split at h
  · cases h
  · split at h <;> (simp only [fail, Res.err.injEq] at h; simp [← h.1, ← h.2])

theorem vpath_missing_mem (i fsId : Nat) (w : World) (l : Leaf) (p : Str)
    (hl : w.leaf? i = some l) (hk : l.kind = .mem) (h : l.files.find? p = none) :
    let vp : VPath := { fs := leafFS i, fsId := fsId, path := p }
    (vp.metadata w).1 = .err .fileNotFound (some p) ∧
    (vp.openFile w).1 = .err .fileNotFound (some p) ∧
    (vp.appendFile w).1 = .err .fileNotFound (some p) ∧
    (vp.removeFile w).1 = .err .fileNotFound (some p) ∧
    (vp.removeDir w).1 = .err .fileNotFound (some p) ∧
    (vp.readDir w).1 = .err .fileNotFound (some p) := by
  obtain ⟨h1, h2, h3, h4, h5, h6, _⟩ := mem_missing l.files p .now h
  simp only [VPath.metadata, VPath.openFile, VPath.appendFile, VPath.removeFile, VPath.removeDir,
    VPath.readDir, bind, M.bind, M.withPath, leafFS, onLeaf, hl, hk, h1, h2, h3, h4, h5, h6,
    Res.withPath, Res.map, fail, and_self]

theorem vpath_missing_phys (i fsId : Nat) (w : World) (l : Leaf) (p : Str)
    (hl : w.leaf? i = some l) (hk : l.kind = .phys)
    (hpar : Phys.resolveParent l.files p = .ok ()) (h : l.files.find? p = none) :
    let vp : VPath := { fs := leafFS i, fsId := fsId, path := p }
    (vp.metadata w).1 = .err .fileNotFound (some p) ∧
    (vp.openFile w).1 = .err .fileNotFound (some p) ∧
    (vp.appendFile w).1 = .err .fileNotFound (some p) ∧
    (vp.removeFile w).1 = .err .fileNotFound (some p) ∧
    (vp.removeDir w).1 = .err .fileNotFound (some p) ∧
    (vp.readDir w).1 = .err .fileNotFound (some p) := by
  obtain ⟨h1, h2, h3, h4, h5, h6, _⟩ := phys_missing l.files p [] id hpar h
  simp only [VPath.metadata, VPath.openFile, VPath.appendFile, VPath.removeFile, VPath.removeDir,
    VPath.readDir, bind, M.bind, M.withPath, leafFS, onLeaf, hl, hk, h1, h2, h3, h4, h5, h6,
    Res.withPath, Res.map, fail, and_self]

def exMap : FMap :=
  [ ([], { ftype := .dir, content := [], created := .now, modified := .unset, accessed := .unset }),
    ("/d".toList, dirEntryNow), ("/f".toList, fileEntryNow) ]

def exWorld : World := { leaves := [{ kind := .mem, files := exMap }] }
def exPath (s : String) : VPath := { fs := leafFS 0, fsId := 0, path := s.toList }

example : ((exPath "/nope").metadata exWorld).1 = .err .fileNotFound (some "/nope".toList) := by
  decide +kernel
example : ((exPath "/f/x").createDir exWorld).1 = .err .other (some "/f/x".toList) := by decide +kernel
example : ((exPath "/d").createDir exWorld).1 = .err .dirExists (some "/d".toList) := by decide +kernel
example : ((exPath "/f").createDir exWorld).1 = .err .fileExists (some "/f".toList) := by decide +kernel
example : ((exPath "/f/x/y").createDirAll exWorld).1 = .err .fileExists (some "/f".toList) := by
  decide +kernel
example : "/f".toList ∈ VPath.dirPrefixes "/f/x/y".toList := by decide +kernel
example : Mem.ensureHasParent exMap "/d".toList = .ok () ∧ exMap.find? "/nope".toList = none := by
  decide +kernel
example : Phys.resolveParent exMap "/d/zz".toList = .ok () ∧ exMap.find? "/d/zz".toList = none := by
  decide +kernel
example : ((exPath "/d").join "x/".toList).kind? = some .invalidPath ∧
    ((exPath "/d").join "x/".toList).errPath? = some (some "x/".toList) := by decide +kernel
example : Below "/d".toList "/d/x".toList := by right; exact ⟨"x".toList, by decide +kernel⟩

end Vfs.C12
