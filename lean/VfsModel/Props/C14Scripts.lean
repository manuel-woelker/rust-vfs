/-
  C14 over whole scripts of calls on a read handle.

  `rspecRead` / `rspecSeek` / `rspecRun` specify `std::io::Cursor<&[u8]>` as `Read + Seek`, written
  from the std documentation by structural recursion and independent of the model (no `RHandle.*`,
  `cursorRead`, `cursorSeek`, `List.drop`, `List.take` in it); `rspecRead_eq`, `rspecRead_length`,
  `rspecRead_getElem?` show it is the cursor std documents.
  `read_script_is_cursor`: for a good handle over fewer than 2^64 bytes, at any position, the trace
  of the model under any script of `read` / `seek` calls is the specification's trace, call by call
  (`ROut.toModel`: `bytes b ↦ Ok(b)`, `moved n ↦ Ok(n)`, `invalidSeek ↦ Err(io, no path)`), with the
  same position after every call. The property's clauses follow, each after an arbitrary script
  `pre`: `script_read_contiguous`, `script_read_past_end`, `script_seek_before_start`,
  `script_seek_past_end`; `reads_concat`: reads of positive sizes up to the first 0-byte read return
  exactly the rest of the content. `bad_script_all_fail`: on a bad handle (PhysicalFS `File::open`
  on a directory) every call of every script fails with `Err(io)` and nothing moves.

  Not covered: `seek(Start(o))` with `o` beyond a `u64` (`o : Nat` stands for a `u64`; specification
  and model accept any `o`); `read_to_end` inside scripts (single call: `C04.readToEnd_fresh`).
-/
import VfsModel.Props.C04
namespace Vfs.C14

inductive ROp where
  | read (n : Nat)
  | seek (s : SeekFrom)
  deriving DecidableEq, Repr

inductive ROut where
  | bytes (b : Bytes)
  | moved (pos : Nat)
  | invalidSeek
  deriving DecidableEq, Repr

/-- `Cursor::read` into a buffer of `n` bytes at position `pos`: the first `pos` bytes are
skipped (nothing is left when the position is at or past the end), then bytes are copied in order
until the buffer is full or the data ends -/
def rspecRead : Bytes → Nat → Nat → Bytes
  | [], _, _ => []
  | _ :: rest, pos + 1, n => rspecRead rest pos n
  | _ :: _, 0, 0 => []
  | b :: rest, 0, n + 1 => b :: rspecRead rest 0 n

def u64OfInt : Int → Option Nat
  | .ofNat t => if t < 18446744073709551616 then some t else none
  | .negSucc _ => none

/-- `Cursor::seek`: `Start(o)` sets the position; `Current(o)` / `End(o)` add the signed offset to
the position / the length, and fail when the result is negative or does not fit a `u64` -/
def rspecSeek (len pos : Nat) : SeekFrom → Option Nat
  | .start o => some o
  | .cur o => u64OfInt ((pos : Int) + o)
  | .fromEnd o => u64OfInt ((len : Int) + o)

def rspecStep (content : Bytes) (pos : Nat) : ROp → ROut × Nat
  | .read n => (.bytes (rspecRead content pos n), pos + (rspecRead content pos n).length)
  | .seek s =>
    match rspecSeek content.length pos s with
    | some t => (.moved t, t)
    | none => (.invalidSeek, pos)

def rspecRun (content : Bytes) (pos : Nat) : List ROp → List (ROut × Nat)
  | [] => []
  | op :: rest => rspecStep content pos op :: rspecRun content (rspecStep content pos op).2 rest

def rspecPos (content : Bytes) (pos : Nat) : List ROp → Nat
  | [] => pos
  | op :: rest => rspecPos content (rspecStep content pos op).2 rest

theorem rspecRead_eq (content : Bytes) (pos n : Nat) :
    rspecRead content pos n = (content.drop pos).take n := by
  induction content generalizing pos n with
  | nil => simp [rspecRead]
  | cons b rest ih =>
    cases pos with
    | succ p => simp [rspecRead, ih]
    | zero =>
      cases n with
      | zero => simp [rspecRead]
      | succ k => simp [rspecRead, ih]

theorem rspecRead_length (content : Bytes) (pos n : Nat) :
    (rspecRead content pos n).length = min n (content.length - pos) := by
  rw [rspecRead_eq, List.length_take, List.length_drop]

theorem rspecRead_getElem? (content : Bytes) (pos n j : Nat) (hj : j < min n (content.length - pos)) :
    (rspecRead content pos n)[j]? = content[pos + j]? := by
  rw [rspecRead_eq, List.getElem?_take, if_pos (by omega), List.getElem?_drop]

theorem rspecRead_past_end (content : Bytes) (pos n : Nat) (h : content.length ≤ pos) :
    rspecRead content pos n = [] := by
  apply List.eq_nil_of_length_eq_zero
  rw [rspecRead_length]; omega

theorem u64OfInt_eq (x : Int) :
    u64OfInt x = if x < 0 ∨ x ≥ 18446744073709551616 then none else some x.toNat := by
  cases x with
  | ofNat t =>
    show (if t < 18446744073709551616 then some t else none) =
      if (t : Int) < 0 ∨ (t : Int) ≥ 18446744073709551616 then none else some (t : Int).toNat
    rw [Int.toNat_natCast]
    by_cases ht : t < 18446744073709551616
    · rw [if_pos ht, if_neg (by omega)]
    · rw [if_neg ht, if_pos (by omega)]
  | negSucc t =>
    show none = _
    rw [if_pos (Or.inl (Int.negSucc_lt_zero t))]

theorem rspecSeek_cur (len pos : Nat) (o : Int) :
    rspecSeek len pos (.cur o) =
      if (pos : Int) + o < 0 ∨ (pos : Int) + o ≥ 18446744073709551616 then none
      else some ((pos : Int) + o).toNat := u64OfInt_eq _

theorem rspecSeek_end (len pos : Nat) (o : Int) :
    rspecSeek len pos (.fromEnd o) =
      if (len : Int) + o < 0 ∨ (len : Int) + o ≥ 18446744073709551616 then none
      else some ((len : Int) + o).toNat := u64OfInt_eq _

theorem rspecRun_append (content : Bytes) (pos : Nat) (a b : List ROp) :
    rspecRun content pos (a ++ b) = rspecRun content pos a ++ rspecRun content (rspecPos content pos a) b := by
  induction a generalizing pos with
  | nil => rfl
  | cons op rest ih => simp only [List.cons_append, rspecRun, rspecPos, ih]

theorem rspecPos_append (content : Bytes) (pos : Nat) (a b : List ROp) :
    rspecPos content pos (a ++ b) = rspecPos content (rspecPos content pos a) b := by
  induction a generalizing pos with
  | nil => rfl
  | cons op rest ih => simp only [List.cons_append, rspecPos, ih]

abbrev RAns := Res Bytes ⊕ Res Nat

def ROut.toModel : ROut → RAns
  | .bytes b => .inl (.ok b)
  | .moved n => .inr (.ok n)
  | .invalidSeek => .inr (fail .io)

def ROp.apply (r : RHandle) : ROp → RAns × RHandle
  | .read n => (.inl (r.read n).1, (r.read n).2)
  | .seek s => (.inr (r.seek s).1, (r.seek s).2)

def runROps (r : RHandle) : List ROp → List (RAns × Nat) × RHandle
  | [] => ([], r)
  | op :: rest =>
    (((op.apply r).1, (op.apply r).2.pos) :: (runROps (op.apply r).2 rest).1,
      (runROps (op.apply r).2 rest).2)

theorem runROps_append (r : RHandle) (a b : List ROp) :
    runROps r (a ++ b) =
      ((runROps r a).1 ++ (runROps (runROps r a).2 b).1, (runROps (runROps r a).2 b).2) := by
  induction a generalizing r with
  | nil => rfl
  | cons op rest ih => simp only [List.cons_append, runROps, ih]

theorem rspecSeek_eq_seekPos : @rspecSeek = @seekPos := by
  funext len pos s
  cases s with
  | start o => rfl
  | cur o => exact u64OfInt_eq _
  | fromEnd o => exact u64OfInt_eq _

theorem step_is_cursor (r : RHandle) (op : ROp) (hg : Good r) (hlen : r.content.length < u64Max) :
    op.apply r = ((rspecStep r.content r.pos op).1.toModel,
      { r with pos := (rspecStep r.content r.pos op).2 }) := by
  cases op with
  | read n =>
    have hcr : cursorRead r.content r.pos n = rspecRead r.content r.pos n := by
      rw [rspecRead_eq]; rfl
    simp only [ROp.apply, rspecStep, ROut.toModel, RHandle.read_eq r n hg hlen, hcr]
  | seek s =>
    simp only [ROp.apply, rspecStep, RHandle.seek_eq r s hg, rspecSeek_eq_seekPos]
    cases seekPos r.content.length r.pos s <;> rfl

theorem read_script_is_cursor (r : RHandle) (ops : List ROp) (hg : Good r)
    (hlen : r.content.length < u64Max) :
    runROps r ops =
      ((rspecRun r.content r.pos ops).map (fun o => (o.1.toModel, o.2)),
        { r with pos := rspecPos r.content r.pos ops }) := by
  induction ops generalizing r with
  | nil => rfl
  | cons op rest ih =>
    simp only [runROps, rspecRun, rspecPos, List.map_cons]
    rw [step_is_cursor r op hg hlen]
    simp only
    have hg' : Good { r with pos := (rspecStep r.content r.pos op).2 } := hg
    rw [ih _ hg' hlen]

theorem runROps_good (r : RHandle) (ops : List ROp) (hg : Good r) (hlen : r.content.length < u64Max) :
    (runROps r ops).2 = { r with pos := rspecPos r.content r.pos ops } := by
  rw [read_script_is_cursor r ops hg hlen]

theorem read_script_is_cursor_63 (r : RHandle) (ops : List ROp) (hg : Good r)
    (hlen : r.content.length < 2 ^ 63) :
    runROps r ops =
      ((rspecRun r.content r.pos ops).map (fun o => (o.1.toModel, o.2)),
        { r with pos := rspecPos r.content r.pos ops }) :=
  read_script_is_cursor r ops hg (by unfold u64Max; omega)

section after
variable (r : RHandle) (pre : List ROp) (hg : Good r) (hlen : r.content.length < u64Max)
include hg hlen

theorem runROps_snoc (op : ROp) :
    runROps r (pre ++ [op]) =
      ((runROps r pre).1 ++ [((rspecStep r.content (rspecPos r.content r.pos pre) op).1.toModel,
          (rspecStep r.content (rspecPos r.content r.pos pre) op).2)],
        { r with pos := (rspecStep r.content (rspecPos r.content r.pos pre) op).2 }) := by
  rw [runROps_append, runROps_good r pre hg hlen]
  have hg' : Good { r with pos := rspecPos r.content r.pos pre } := hg
  simp only [runROps]
  rw [step_is_cursor _ _ hg' hlen]

theorem script_read_contiguous (n : Nat) :
    let p := rspecPos r.content r.pos pre
    let k := min n (r.content.length - p)
    ∃ b, runROps r (pre ++ [.read n]) =
        ((runROps r pre).1 ++ [(.inl (.ok b), p + k)], { r with pos := p + k }) ∧
      b.length = k ∧ k ≤ n ∧ (0 < k → p + k ≤ r.content.length) ∧
      (∀ j, j < k → b[j]? = r.content[p + j]?) ∧
      b = (r.content.drop p).take k := by
  intro p k
  refine ⟨rspecRead r.content p n, ?_, rspecRead_length _ _ _, Nat.min_le_left _ _, by omega,
    fun j hj => rspecRead_getElem? _ _ _ _ hj, ?_⟩
  · rw [runROps_snoc r pre hg hlen]
    simp only [rspecStep, ROut.toModel, rspecRead_length]
    rfl
  · rw [rspecRead_eq]
    rw [List.take_eq_take_iff, List.length_drop]
    omega

theorem script_read_past_end (n : Nat) (hend : r.content.length ≤ rspecPos r.content r.pos pre) :
    runROps r (pre ++ [.read n]) =
      ((runROps r pre).1 ++ [(.inl (.ok []), rspecPos r.content r.pos pre)], (runROps r pre).2) := by
  rw [runROps_snoc r pre hg hlen, runROps_good r pre hg hlen]
  simp only [rspecStep, ROut.toModel, rspecRead_past_end _ _ _ hend, List.length_nil, Nat.add_zero]

theorem script_seek_before_start (s : SeekFrom)
    (hneg : (∃ o, s = .cur o ∧ (rspecPos r.content r.pos pre : Int) + o < 0) ∨
            (∃ o, s = .fromEnd o ∧ (r.content.length : Int) + o < 0)) :
    runROps r (pre ++ [.seek s]) =
      ((runROps r pre).1 ++ [(.inr (fail .io), rspecPos r.content r.pos pre)], (runROps r pre).2) := by
  rw [runROps_snoc r pre hg hlen, runROps_good r pre hg hlen]
  have hn : rspecSeek r.content.length (rspecPos r.content r.pos pre) s = none := by
    rcases hneg with ⟨o, rfl, h⟩ | ⟨o, rfl, h⟩
    · rw [rspecSeek_cur, if_pos (Or.inl h)]
    · rw [rspecSeek_end, if_pos (Or.inl h)]
  simp only [rspecStep, hn, ROut.toModel]

theorem script_seek_past_end (s : SeekFrom) (t : Nat)
    (htgt : s = .start t ∨
      (∃ o, s = .cur o ∧ (rspecPos r.content r.pos pre : Int) + o = t ∧ t < u64Max) ∨
      (∃ o, s = .fromEnd o ∧ (r.content.length : Int) + o = t ∧ t < u64Max)) :
    runROps r (pre ++ [.seek s]) =
      ((runROps r pre).1 ++ [(.inr (.ok t), t)], { r with pos := t }) := by
  rw [runROps_snoc r pre hg hlen]
  have hn : rspecSeek r.content.length (rspecPos r.content r.pos pre) s = some t := by
    unfold u64Max at htgt
    rcases htgt with rfl | ⟨o, rfl, h, hl⟩ | ⟨o, rfl, h, hl⟩
    · rfl
    · rw [rspecSeek_cur, if_neg (by omega), h]; rfl
    · rw [rspecSeek_end, if_neg (by omega), h]; rfl
  simp only [rspecStep, hn, ROut.toModel]

end after

def readOuts (r : RHandle) (ns : List Nat) : List Bytes :=
  (runROps r (ns.map .read)).1.filterMap fun a =>
    match a.1 with
    | .inl (.ok b) => some b
    | _ => none

theorem readOuts_cons (r : RHandle) (n : Nat) (ns : List Nat) (hg : Good r)
    (hlen : r.content.length < u64Max) :
    readOuts r (n :: ns) = rspecRead r.content r.pos n ::
      readOuts { r with pos := r.pos + (rspecRead r.content r.pos n).length } ns := by
  unfold readOuts
  simp only [List.map_cons, runROps]
  rw [step_is_cursor r (.read n) hg hlen]
  simp only [rspecStep, ROut.toModel, List.filterMap_cons]

/-- on a good handle the successive reads of a script are `C04.chunks` -/
theorem readOuts_eq_chunks (r : RHandle) (ns : List Nat) (hg : Good r)
    (hlen : r.content.length < u64Max) : readOuts r ns = (C04.chunks r ns).1 := by
  induction ns generalizing r with
  | nil => rfl
  | cons n ns ih =>
    have hg' : Good { r with pos := r.pos + (cursorRead r.content r.pos n).length } := hg
    rw [readOuts_cons r n ns hg hlen, C04.chunks, RHandle.read_eq r n hg hlen]
    simp only [rspecRead_eq]
    exact congrArg _ (ih _ hg' hlen)

theorem reads_concat_prefix (r : RHandle) (ns : List Nat) (hg : Good r)
    (hlen : r.content.length < u64Max) :
    (readOuts r ns).flatten = (r.content.drop r.pos).take ns.sum := by
  rw [readOuts_eq_chunks r ns hg hlen]
  exact (C04.reader_chunks r ns hg hlen).1

/-- where a script of reads stands: `Cursor::read` never moves past the end -/
theorem rspecPos_reads (content : Bytes) (pos : Nat) (ns : List Nat) :
    rspecPos content pos (ns.map .read) = pos + min ns.sum (content.length - pos) := by
  induction ns generalizing pos with
  | nil => simp [rspecPos]
  | cons n ns ih =>
    simp only [List.map_cons, rspecPos, rspecStep, ih, rspecRead_length, List.sum_cons]
    omega

/-- the read that follows reads of sizes `ns` -/
theorem readOuts_snoc (r : RHandle) (ns : List Nat) (n : Nat) (hg : Good r)
    (hlen : r.content.length < u64Max) :
    readOuts r (ns ++ [n]) = readOuts r ns ++
      [rspecRead r.content (r.pos + min ns.sum (r.content.length - r.pos)) n] := by
  unfold readOuts
  rw [List.map_append, List.map_singleton, runROps_snoc r _ hg hlen, rspecPos_reads,
    List.filterMap_append]
  rfl

theorem reads_concat (r : RHandle) (ns : List Nat) (hg : Good r)
    (hlen : r.content.length < u64Max) (hpos : ∀ n ∈ ns, 0 < n)
    (hlast : (readOuts r ns).getLast? = some []) :
    (readOuts r ns).flatten = r.content.drop r.pos := by
  rw [reads_concat_prefix r ns hg hlen]
  apply List.take_of_length_le
  rcases List.eq_nil_or_concat ns with rfl | ⟨ns', n, rfl⟩
  · cases hlast
  · -- the last read asked for `n > 0` bytes and got none: the reads before it reached the end
    rw [List.concat_eq_append] at hlast hpos ⊢
    rw [readOuts_snoc r ns' n hg hlen, List.getLast?_concat] at hlast
    have hl := rspecRead_length r.content (r.pos + min ns'.sum (r.content.length - r.pos)) n
    rw [Option.some.inj hlast] at hl
    have := hpos n (by simp)
    simp only [List.length_nil, List.length_drop, List.sum_append, List.sum_singleton] at hl ⊢
    omega

theorem reads_concat_fresh (content : Bytes) (ns : List Nat) (hlen : content.length < u64Max)
    (hpos : ∀ n ∈ ns, 0 < n)
    (hlast : (readOuts { content := content, pos := 0 } ns).getLast? = some []) :
    (readOuts { content := content, pos := 0 } ns).flatten = content := by
  have := reads_concat { content := content, pos := 0 } ns rfl hlen hpos hlast
  simpa using this

/-- conversely the 0-byte read does come: as soon as the sizes read so far add up to the rest of
the content, every further read returns 0 bytes -/
theorem reads_end_reached (r : RHandle) (ns : List Nat) (n : Nat) (hg : Good r)
    (hlen : r.content.length < u64Max) (hsum : r.content.length - r.pos ≤ ns.sum) :
    (readOuts r (ns ++ [n])).getLast? = some [] := by
  rw [readOuts_snoc r ns n hg hlen, List.getLast?_concat, rspecRead_past_end _ _ _ (by omega)]

theorem bad_script_all_fail (r : RHandle) (hb : r.bad = true) (ops : List ROp) :
    (runROps r ops).2 = r ∧
    ∀ a ∈ (runROps r ops).1, (a.1 = .inl (fail .io) ∨ a.1 = .inr (fail .io)) ∧ a.2 = r.pos := by
  induction ops with
  | nil => exact ⟨rfl, by simp [runROps]⟩
  | cons op rest ih =>
    have hstep : (op.apply r).2 = r ∧
        ((op.apply r).1 = .inl (fail .io) ∨ (op.apply r).1 = .inr (fail .io)) := by
      cases op with
      | read n => simp [ROp.apply, RHandle.read, hb]
      | seek s => simp [ROp.apply, RHandle.seek, hb]
    simp only [runROps, hstep.1]
    refine ⟨ih.1, ?_⟩
    intro a ha
    rcases List.mem_cons.1 ha with rfl | ha
    · exact ⟨hstep.2, rfl⟩
    · exact ih.2 a ha

def exScript : List ROp :=
  [.seek (.fromEnd (-2)), .read 5, .seek (.fromEnd 3), .read 4, .seek (.fromEnd (-7)),
   .seek (.cur (-100)), .seek (.cur (-8)), .read 1, .seek (.start 1), .read 2, .read 0,
   .seek (.fromEnd 0), .read 9]

example : rspecRun [10, 11, 12, 13, 14] 0 exScript =
    [(.moved 3, 3), (.bytes [13, 14], 5), (.moved 8, 8), (.bytes [], 8), (.invalidSeek, 8),
     (.invalidSeek, 8), (.moved 0, 0), (.bytes [10], 1), (.moved 1, 1), (.bytes [11, 12], 3),
     (.bytes [], 3), (.moved 5, 5), (.bytes [], 5)] := by decide

example : runROps { content := [10, 11, 12, 13, 14], pos := 0 } exScript =
    ([(.inr (.ok 3), 3), (.inl (.ok [13, 14]), 5), (.inr (.ok 8), 8), (.inl (.ok []), 8),
      (.inr (fail .io), 8), (.inr (fail .io), 8), (.inr (.ok 0), 0), (.inl (.ok [10]), 1),
      (.inr (.ok 1), 1), (.inl (.ok [11, 12]), 3), (.inl (.ok []), 3), (.inr (.ok 5), 5),
      (.inl (.ok []), 5)],
     { content := [10, 11, 12, 13, 14], pos := 5 }) := by decide

example : Good { content := [10, 11, 12, 13, 14], pos := 0 } ∧
    ([10, 11, 12, 13, 14] : Bytes).length < u64Max := by
  refine ⟨rfl, ?_⟩
  unfold u64Max; decide

example : readOuts { content := [10, 11, 12, 13, 14], pos := 0 } [2, 2, 2, 2] =
    [[10, 11], [12, 13], [14], []] := by decide

example : (readOuts { content := [10, 11, 12, 13, 14], pos := 0 } [2, 2, 2, 2]).getLast? = some [] := by
  decide

example : (runROps { content := [], pos := 0, bad := true } [.read 3, .seek (.start 1)]).1 =
    [(.inl (fail .io), 0), (.inr (fail .io), 0)] := by decide

end Vfs.C14

#print axioms Vfs.C14.read_script_is_cursor
#print axioms Vfs.C14.read_script_is_cursor_63
#print axioms Vfs.C14.script_read_contiguous
#print axioms Vfs.C14.script_read_past_end
#print axioms Vfs.C14.script_seek_before_start
#print axioms Vfs.C14.script_seek_past_end
#print axioms Vfs.C14.reads_concat
#print axioms Vfs.C14.reads_concat_fresh
#print axioms Vfs.C14.reads_concat_prefix
#print axioms Vfs.C14.reads_end_reached
#print axioms Vfs.C14.bad_script_all_fail
