/-
  Props/C11OverlaySource.lean on a concrete world: the hypotheses of `copyDir_from_overlay_exact`
  and `moveDir_from_overlay_exact` are satisfiable, and the result is evaluated.
  World: four memory leaves; leaves 2, 0, 1 are the upper layer and two lower layers of an overlay
  (layout of Props/C09Refine.lean), leaf 3 is the destination. A 3-call history through the
  overlay (a write session below a nested lower-only directory, two `remove_file`s of lower-layer
  files) produces a state in which the directory "/d/n" is spread over ALL THREE layers and
  "/d/b", "/d/n/q" are whited out; the invariants of that state come from
  `C05.overlay_history_walkable`, the concrete maps from `mapsOfN`.
-/
import VfsModel.Props.C11OverlaySource
import VfsModel.Proofs.RunEq
import VfsModel.Props.C05WalkView
namespace Vfs.C11
open Vfs Vfs.Overlay Vfs.C02 Vfs.C01 Vfs.C09 Vfs.C05 Vfs.Wk
open Vfs.C10 (mapsOfN world4)

section example4

/-! leaf 0 = layer 1, leaf 1 = layer 2, leaf 2 = upper layer, leaf 3 = the DESTINATION (not a layer).
layer 1: "/d", "/d/x" = "1", "/d/b" = "B", "/d/n", "/d/n/p" = [1];
layer 2: "/d", "/d/x" = "2" (shadowed), "/d/c" = "C", "/d/n", "/d/n/q" = [2], "/d/n/p" = [3] (shadowed);
upper:   "/top". -/
def yA : FMap :=
  [("/d/n/p".toList, C09.fileOf [1]), ("/d/n".toList, dirEntryNow), ("/d/x".toList, C09.fileOf [49]),
   ("/d/b".toList, C09.fileOf [66]), ("/d".toList, dirEntryNow), ([], dirEntryNow)]
def yB : FMap :=
  [("/d/n/p".toList, C09.fileOf [3]), ("/d/n/q".toList, C09.fileOf [2]), ("/d/n".toList, dirEntryNow),
   ("/d/x".toList, C09.fileOf [50]), ("/d/c".toList, C09.fileOf [67]), ("/d".toList, dirEntryNow),
   ([], dirEntryNow)]
def yU : FMap := [("/top".toList, C09.fileOf [84]), ([], dirEntryNow)]

def yw : World := world4 yA yB yU Mem.init

/-- a write session below the nested lower-only directory (so "/d/n" is spread over all three
layers), then two removals: "/d/b" (layer 1) and the nested "/d/n/q" (layer 2) get whiteouts -/
def yOps : List Mut :=
  [.write "/d/n/r".toList [7, 8], .removeFile "/d/b".toList, .removeFile "/d/n/q".toList]

theorem yw_setting : OWN yw [2, 0, 1] [7, 8, 9] [yU, yA, yB] :=
  .cons rfl (by decide) (.cons rfl (by decide) (.cons rfl (by decide) .nil))
theorem yw_wf : ∀ m ∈ [yU, yA, yB], WF m := by decide +kernel
theorem yw_inv : OInv yU [yA, yB] := OInv.initial yw_wf (noWhiteout_of_keys (by decide +kernel))
theorem yw_viewWF : ViewWF (oview [yU, yA, yB]) :=
  ViewWF.initial yw_wf (noWhiteout_of_keys (by decide +kernel)) (typeConsistent_of_keys (by decide +kernel))
theorem yw_names : NamesOK [yU, yA, yB] := namesOK_of_keys (by decide +kernel)
theorem yOps_ok : ∀ op ∈ yOps, OpOK op := by
  intro op hop
  apply opOK_of_check
  revert op
  decide +kernel
theorem yOps_o3 : C03.ViewO3Free xfs [2, 0, 1] yOps yw := by decide +kernel

def yw2 : World := (runOverlay xfs yOps yw).2

def yAc : FMap :=
  [(chars "/d/n/p", C09.fileOf [1]), (chars "/d/n", dirEntryNow), (chars "/d/x", C09.fileOf [49]),
   (chars "/d/b", C09.fileOf [66]), (chars "/d", dirEntryNow), ([], dirEntryNow)]
def yBc : FMap :=
  [(chars "/d/n/p", C09.fileOf [3]), (chars "/d/n/q", C09.fileOf [2]), (chars "/d/n", dirEntryNow),
   (chars "/d/x", C09.fileOf [50]), (chars "/d/c", C09.fileOf [67]), (chars "/d", dirEntryNow),
   ([], dirEntryNow)]

def yU2 : FMap :=
  [(chars "/.whiteout/d/n/q_wo", C09.fileOf []), (chars "/.whiteout/d/n", dirEntryNow),
   (chars "/.whiteout/d/b_wo", C09.fileOf []), (chars "/.whiteout/d", dirEntryNow),
   (chars "/.whiteout", dirEntryNow), (chars "/d/n/r", C09.fileOf [7, 8]),
   (chars "/d/n", dirEntryNow), (chars "/d", dirEntryNow), (chars "/top", C09.fileOf [84]),
   ([], dirEntryNow)]

theorem y_hist : runOverlay xfs yOps yw =
    ([.ok (), .ok (), .ok ()], world4 yAc yBc yU2 Mem.init) := run_eq_of_fields (by decide +kernel)

theorem yw2_is : yw2 = world4 yAc yBc yU2 Mem.init := by rw [yw2, y_hist]

theorem yw2_maps : mapsOfN yw2 [2, 0, 1] = [yU2, yAc, yBc] := by rw [yw2_is]; rfl

theorem yw2_setting : ∃ mu' ms', mu' :: ms' = mapsOfN yw2 [2, 0, 1] ∧
    OWN yw2 [2, 0, 1] [7, 8, 9] (mu' :: ms') ∧ OInv mu' ms' ∧ ViewWF (oview (mu' :: ms')) ∧
    NamesOK (mu' :: ms') := by
  have h := overlay_history_walkable yOps yOps_ok yw_setting yw_inv yw_viewWF yw_names yOps_o3
  -- the final world is put in by rewriting: the kernel, left to compare `yw2` with the
  -- projection `(runOverlay ..).2`, would evaluate the run once more
  rw [show Overlay.fs (layersN [2, 0, 1] [7, 8, 9]) = xfs from rfl, y_hist] at h
  obtain ⟨mu', ms', hown, inv', hv', hn'⟩ := h
  rw [yw2_is]
  exact ⟨mu', ms', (C03.mapsOfN_of_OWN hown).symm, hown, inv', hv', hn'⟩

example : ((mapsOfN yw2 [2, 0, 1]).head!.contains "/.whiteout/d/b_wo".toList,
    (mapsOfN yw2 [2, 0, 1]).head!.contains "/.whiteout/d/n/q_wo".toList) = (true, true) := by
  rw [yw2_maps]; decide +kernel

def yD : List Str :=
  ["/d/n".toList, "/d/x".toList, "/d/c".toList, "/d/n/r".toList, "/d/n/p".toList]

theorem yD_desc : DescList (ovisView (mapsOfN yw2 [2, 0, 1])) "/d".toList yD := by
  rw [yw2_maps]
  exact descList_overlay_check (by decide +kernel) (by decide +kernel) (by decide +kernel)

/-! Every read through the overlay stamps the access time of the entry it reaches, which moves
that entry to the front of its layer's map: the layers after a copy hold the same entries in
another order. -/
def yA3 : FMap :=
  [(chars "/d/n/p", C09.fileOf [1]), (chars "/d/x", C09.fileOf [49]), (chars "/d/n", dirEntryNow),
   (chars "/d/b", C09.fileOf [66]), (chars "/d", dirEntryNow), ([], dirEntryNow)]
def yB3 : FMap :=
  [(chars "/d/c", C09.fileOf [67]), (chars "/d/n/p", C09.fileOf [3]), (chars "/d/n/q", C09.fileOf [2]),
   (chars "/d/n", dirEntryNow), (chars "/d/x", C09.fileOf [50]), (chars "/d", dirEntryNow),
   ([], dirEntryNow)]
def yRest : FMap :=
  [(chars "/.whiteout/d/n/q_wo", C09.fileOf []), (chars "/.whiteout/d/n", dirEntryNow),
   (chars "/.whiteout/d/b_wo", C09.fileOf []), (chars "/.whiteout/d", dirEntryNow),
   (chars "/.whiteout", dirEntryNow), (chars "/d/n", dirEntryNow), (chars "/d", dirEntryNow),
   (chars "/top", C09.fileOf [84]), ([], dirEntryNow)]
def yTree (top : String) : FMap :=
  [(chars (top ++ "/n/p"), C09.fileOf [1]), (chars (top ++ "/n/r"), C09.fileOf [7, 8]),
   (chars (top ++ "/c"), C09.fileOf [67]), (chars (top ++ "/x"), C09.fileOf [49]),
   (chars (top ++ "/n"), dirEntryNow), (chars top, dirEntryNow)]

def ywCopied : World :=
  world4 yA3 yB3 ((chars "/d/n/r", C09.fileOf [7, 8]) :: yRest) (yTree "/copy" ++ Mem.init)

theorem y_copy_out : VPath.copyDir 6 ⟨xfs, 4, "/d".toList⟩ ⟨leafFS 3, 5, "/copy".toList⟩ yw2 =
    (.ok 5, ywCopied) := by
  rw [yw2_is]; exact run_eq_of_fields (by decide +kernel)

theorem y_copy_out_dry : VPath.copyDir 5 ⟨xfs, 4, "/d".toList⟩ ⟨leafFS 3, 5, "/copy".toList⟩ yw2 =
    (.panic, ywCopied) := by
  rw [yw2_is]; exact run_eq_of_fields (by decide +kernel)

example : ∃ w' mt',
    VPath.copyDir 6 ⟨xfs, 4, "/d".toList⟩ ⟨leafFS 3, 5, "/copy".toList⟩ yw2 = (.ok 5, w') ∧
    MemLeafAt w' 3 mt' ∧
    (∀ ts, ts ≠ [] → (∀ c ∈ ts, GoodComp c) →
      (mt'.find? (renderC (["copy".toList] ++ ts))).map vcore
        = (ovisView (mapsOfN yw2 [2, 0, 1]) (renderC (["d".toList] ++ ts))).map vcore) := by
  obtain ⟨mu', ms', hmaps, hown, inv', hv', hn'⟩ := yw2_setting
  have hleaf : MemLeafAt yw2 3 Mem.init := by rw [yw2_is]; rfl
  have hD : DescList (ovisView (mu' :: ms')) (renderC ["d".toList]) yD := by
    rw [hmaps]; exact yD_desc
  have hsrc : VIsDir (oview (mu' :: ms')) (renderC ["d".toList]) := by
    rw [hmaps, yw2_maps]; decide +kernel
  obtain ⟨w', mu2, ms2, mt', hrun, _, _, _, _, hl', _, hcopy, _⟩ :=
    copyDir_from_overlay_exact hown inv' hv' hn' (t := 3) (tid := 5) (id := 4) (by decide)
      (by decide) (ss := ["d".toList]) (dp := []) (n0 := "copy".toList) (by decide) hsrc
      (by decide) hleaf (show Mem.init.find? (renderC []) = some _ from rfl) rfl
      (fresh_of_wf WF.init_mem (by decide) (by decide)) hD (fuel := 6) (by decide)
  refine ⟨w', mt', hrun, hl', ?_⟩
  rw [← hmaps]
  exact hcopy

/-! … and evaluated by the kernel: 5 items; the copy holds n/, x, c and n/r, n/p — neither the
whited-out "b" and "n/q" nor ".whiteout"; "x" has the bytes of layer 1, "n/p" those of layer 1 -/
example : (VPath.copyDir 6 ⟨xfs, 4, "/d".toList⟩ ⟨leafFS 3, 5, "/copy".toList⟩ yw2).1 = .ok 5 := by
  rw [y_copy_out]

example : ((leafFS 3).readDir "/copy".toList
    (VPath.copyDir 6 ⟨xfs, 4, "/d".toList⟩ ⟨leafFS 3, 5, "/copy".toList⟩ yw2).2).1.map
      (fun l => (l.contains "b".toList, l.contains "n".toList, l.length)) = .ok (false, true, 3) := by
  rw [y_copy_out]; decide +kernel

example : ((leafFS 3).readDir "/copy/n".toList
    (VPath.copyDir 6 ⟨xfs, 4, "/d".toList⟩ ⟨leafFS 3, 5, "/copy".toList⟩ yw2).2).1.map
      (fun l => (l.contains "q".toList, l.contains "p".toList, l.contains "r".toList, l.length))
    = .ok (false, true, true, 2) := by
  rw [y_copy_out]; decide +kernel

example : C09.readAllN (leafFS 3) "/copy/x"
    (VPath.copyDir 6 ⟨xfs, 4, "/d".toList⟩ ⟨leafFS 3, 5, "/copy".toList⟩ yw2).2 = .ok [49] := by
  rw [y_copy_out]; decide +kernel

example : C09.readAllN (leafFS 3) "/copy/n/p"
    (VPath.copyDir 6 ⟨xfs, 4, "/d".toList⟩ ⟨leafFS 3, 5, "/copy".toList⟩ yw2).2 = .ok [1] := by
  rw [y_copy_out]; decide +kernel

/-- with one unit of fuel less the loop runs dry -/
example : (VPath.copyDir 5 ⟨xfs, 4, "/d".toList⟩ ⟨leafFS 3, 5, "/copy".toList⟩ yw2).1 = .panic := by
  rw [y_copy_out_dry]

example : ∃ w' mu' ms', VPath.moveDir 6 ⟨xfs, 4, "/d".toList⟩ ⟨leafFS 3, 5, "/moved".toList⟩ yw2
      = (.ok (), w') ∧ OWN w' [2, 0, 1] [7, 8, 9] (mu' :: ms') ∧
    oview (mu' :: ms') "/d".toList = none := by
  obtain ⟨mu', ms', hmaps, hown, inv', hv', hn'⟩ := yw2_setting
  have hleaf : MemLeafAt yw2 3 Mem.init := by rw [yw2_is]; rfl
  have hD : DescList (ovisView (mu' :: ms')) (renderC ["d".toList]) yD := by
    rw [hmaps]; exact yD_desc
  have hsrc : VIsDir (oview (mu' :: ms')) (renderC ["d".toList]) := by
    rw [hmaps, yw2_maps]; decide +kernel
  have hdepth : FuelOK (oview (mu' :: ms')) ["d".toList] 6 := by
    rw [hmaps, yw2_maps]; exact fuelOK_of_keys (by decide) (by decide +kernel)
  obtain ⟨w', mu2, ms2, mt', hrun, st2, _, _, _, _, _, _, hgone, _⟩ :=
    moveDir_from_overlay_exact hown inv' hv' hn' (t := 3) (tid := 5) (id := 4) (by decide)
      (by decide) (ss := ["d".toList]) (dp := []) (n0 := "moved".toList) (by decide) hsrc
      (by decide) hleaf (show Mem.init.find? (renderC []) = some _ from rfl) rfl
      (fresh_of_wf WF.init_mem (by decide) (by decide)) hD (fuel := 6) (by decide) hdepth
  exact ⟨w', mu2, ms2, hrun, st2.own, hgone _ (InSub.self (by decide))⟩

end example4

end Vfs.C11
