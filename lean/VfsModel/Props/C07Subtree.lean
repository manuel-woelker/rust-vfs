/-
  C07 — "the altroot view shows exactly the subtree below P, and every operation on path q of the
  altroot has the same outcome and the same effect as on P/q of the underlying filesystem":
  the SIMULATION form, for an altroot rooted at a directory `P` of a MEMORY filesystem, and its
  transfer to the `VfsPath` layer and to overlays whose layers are such altroots (C09/C10).

  Setting (Proofs/SubtreeSim.lean): two worlds related by `RSub spec`: for `spec i = .sub P`,
  leaf `i` of the LEFT world is a memory map `m` in which `P` is a directory, leaf `i` of the RIGHT
  world is the memory map `sub P m` (the keys at or below `P`, with `P` stripped; its keys are
  canonical; the proper ancestors of `P` are directories of `m`); all other leaves, the ghost log
  and the fault plan are equal. Results are related by `RelRes PRdrop Q`: both succeed with
  `Q`-related values, or both fail with the SAME error kind (the labels are equal, or the right
  one is absent: the altroot labels its errors with `P ++ q`, the bare memory filesystem leaves
  them unlabelled), or both panic. Write handles are related by `HSub spec` (same buffer and
  position, keys shifted by `P`). Path strings handed to the two sides are EQUAL and canonical.

    * `altroot_is_subtree_fs`: the altroot over `⟨leafFS i, P⟩` on the left is `SimFS`-related to
      the bare `leafFS i` on the right: all 15 trait methods (for `copy_file` in the
      `VfsPath`-level form, see Proofs/Sim.lean).
    * `altroot_is_subtree_vpath`: hence every `VfsPath` of the altroot filesystem is related to
      the `VfsPath` with the same string of the sub-filesystem, and by the parametricity theorems
      of Proofs/Sim.lean EVERY operation of the `VfsPath` layer is related; spelled out in
      `altroot_exists` … `altroot_walk`.
    * `altroot_view_exists`, `altroot_view_metadata`, `altroot_view_readDir`: "shows exactly the
      subtree": the observers through the altroot, on ONE world, computed from `sub P m` alone.
    * `overlay_over_subtrees`: an overlay whose layers are (roots of) altroots over directories
      `P_k` of memory leaves is `SimFS`-related to the overlay over the ROOTS of leaves holding
      `sub P_k m_k`; `exists_is_viewN_subtree`, `metadata_is_viewN_subtree`: `exists` /
      `metadata` of such an overlay is the n-layer union view of the sub-maps (`C09.exists_is_viewN`,
      `metadata_is_viewN` of Props/C09N.lean carried over: the one reason for that import).
    * `rsub_of_leaf`: the relation is inhabited for every world: replace the leaf by its sub-map.

  Excluded:
    * `create_dir("")` and `remove_dir("")` on the altroot's own root are outside the relation:
      the altroot answers `DirExists` for `create_dir("")` where MemoryFS answers `Other`
      (`root_create_dir_differs`), and `remove_dir("")` removes `P` itself.
    * overlays whose layers are sub-directory `VfsPath`s `⟨leafFS i, P⟩` used DIRECTLY (without an
      altroot in between): see Props/C09Subdir.lean (Proofs/OverlayShift.lean).
    * physical leaves.
-/
import VfsModel.Proofs.SubtreeSim
import VfsModel.Props.C09N
set_option linter.unusedSectionVars false
namespace Vfs.C07
open Vfs

theorem altroot_is_subtree_fs {spec : Nat → Role} {i : Nat} {P : Str} (hi : spec i = .sub P)
    (hP : Canon P) (id : Nat) :
    SimFS (RSub spec) PRdrop (HSub spec)
      (Altroot.fs { fs := leafFS i, fsId := id, path := P }) (leafFS i) :=
  altroot_sim_leaf (subRel_rsub spec) hi hP id

/-- the handle operations are related (the hypothesis `SimHandles` of the parametricity
theorems holds for this relation) -/
theorem subtree_handles (spec : Nat → Role) : SimHandles (RSub spec) PRdrop (HSub spec) :=
  simHandles_sub (subRel_rsub spec)

theorem altroot_is_subtree_vpath {spec : Nat → Role} {i : Nat} {P : Str} (hi : spec i = .sub P)
    (hP : Canon P) (id id' : Nat) {q : Str} (hq : Canon q) :
    SimVPath (RSub spec) PRdrop (HSub spec)
      { fs := Altroot.fs { fs := leafFS i, fsId := id, path := P }, fsId := id', path := q }
      { fs := leafFS i, fsId := id', path := q } :=
  ⟨altroot_is_subtree_fs hi hP id, rfl, rfl, hq⟩

section ops
variable {spec : Nat → Role} {i : Nat} {P : Str} (hi : spec i = .sub P) (hP : Canon P)
  (id id' : Nat)
include hi hP

theorem altroot_exists {q : Str} (hq : Canon q) :
    SimM (RSub spec) PRdrop (· = ·) (apath i id P id' q).exists_ (spath i id' q).exists_ :=
  VPath.sim_exists (altroot_is_subtree_vpath hi hP id id' hq)
theorem altroot_metadata {q : Str} (hq : Canon q) :
    SimM (RSub spec) PRdrop (· = ·) (apath i id P id' q).metadata (spath i id' q).metadata :=
  VPath.sim_metadata (altroot_is_subtree_vpath hi hP id id' hq)
theorem altroot_read_dir {q : Str} (hq : Canon q) :
    SimM (RSub spec) PRdrop
      (ListRel (SimVP (RSub spec) PRdrop (HSub spec) (fun _ _ => True)))
      (apath i id P id' q).readDir (spath i id' q).readDir :=
  VPath.sim_readDir (B0 := fun _ _ => True) (altroot_is_subtree_vpath hi hP id id' hq) trivial
    (fun _ _ _ _ _ => trivial)
theorem altroot_create_dir {q : Str} (hq : Canon q) (hne : q ≠ []) :
    SimM (RSub spec) PRdrop (· = ·) (apath i id P id' q).createDir (spath i id' q).createDir :=
  VPath.sim_createDir (altroot_is_subtree_vpath hi hP id id' hq) hne
theorem altroot_create_dir_all {q : Str} (hq : Canon q) :
    SimM (RSub spec) PRdrop (· = ·) (apath i id P id' q).createDirAll
      (spath i id' q).createDirAll :=
  VPath.sim_createDirAll (altroot_is_subtree_vpath hi hP id id' hq)
theorem altroot_create_file {q : Str} (hq : Canon q) :
    SimM (RSub spec) PRdrop (HSub spec) (apath i id P id' q).createFile
      (spath i id' q).createFile :=
  VPath.sim_createFile (altroot_is_subtree_vpath hi hP id id' hq)
theorem altroot_open_file {q : Str} (hq : Canon q) :
    SimM (RSub spec) PRdrop (· = ·) (apath i id P id' q).openFile (spath i id' q).openFile :=
  VPath.sim_openFile (altroot_is_subtree_vpath hi hP id id' hq)
theorem altroot_append_file {q : Str} (hq : Canon q) :
    SimM (RSub spec) PRdrop (HSub spec) (apath i id P id' q).appendFile
      (spath i id' q).appendFile :=
  VPath.sim_appendFile (altroot_is_subtree_vpath hi hP id id' hq)
theorem altroot_remove_file {q : Str} (hq : Canon q) :
    SimM (RSub spec) PRdrop (· = ·) (apath i id P id' q).removeFile (spath i id' q).removeFile :=
  VPath.sim_removeFile (altroot_is_subtree_vpath hi hP id id' hq)
theorem altroot_remove_dir {q : Str} (hq : Canon q) (hne : q ≠ []) :
    SimM (RSub spec) PRdrop (· = ·) (apath i id P id' q).removeDir (spath i id' q).removeDir :=
  VPath.sim_removeDir (altroot_is_subtree_vpath hi hP id id' hq) hne
theorem altroot_remove_dir_all (fuel : Nat) {q : Str} (hq : Canon q) (hne : q ≠ []) :
    SimM (RSub spec) PRdrop (· = ·) (VPath.removeDirAll fuel (apath i id P id' q))
      (VPath.removeDirAll fuel (spath i id' q)) :=
  VPath.sim_removeDirAll fuel (altroot_is_subtree_vpath hi hP id id' hq) hne
theorem altroot_read_to_end {q : Str} (hq : Canon q) :
    SimM (RSub spec) PRdrop (· = ·) (apath i id P id' q).readToEndChecked
      (spath i id' q).readToEndChecked :=
  VPath.sim_readToEndChecked (altroot_is_subtree_vpath hi hP id id' hq)
theorem altroot_write_session {q : Str} (hq : Canon q) (bs : Bytes) :
    SimM (RSub spec) PRdrop (· = ·)
      (do let hd ← (apath i id P id' q).createFile; hd.writeAllAndDrop bs : M Unit)
      (do let hd ← (spath i id' q).createFile; hd.writeAllAndDrop bs : M Unit) :=
  VPath.sim_writeSession (subtree_handles spec) (altroot_is_subtree_vpath hi hP id id' hq) bs
theorem altroot_append_session {q : Str} (hq : Canon q) (bs : Bytes) :
    SimM (RSub spec) PRdrop (· = ·)
      (do let hd ← (apath i id P id' q).appendFile; hd.writeAllAndDrop bs : M Unit)
      (do let hd ← (spath i id' q).appendFile; hd.writeAllAndDrop bs : M Unit) :=
  VPath.sim_appendSession (subtree_handles spec) (altroot_is_subtree_vpath hi hP id id' hq) bs
theorem altroot_copy_file {s d : Str} (hs : Canon s) (hd : Canon d) :
    SimM (RSub spec) PRdrop (· = ·) ((apath i id P id' s).copyFile (apath i id P id' d))
      ((spath i id' s).copyFile (spath i id' d)) :=
  VPath.sim_copyFile (subtree_handles spec) (altroot_is_subtree_vpath hi hP id id' hs)
    (altroot_is_subtree_vpath hi hP id id' hd) (fun _ => rfl) (fun _ => rfl)
theorem altroot_move_file {s d : Str} (hs : Canon s) (hd : Canon d) :
    SimM (RSub spec) PRdrop (· = ·) ((apath i id P id' s).moveFile (apath i id P id' d))
      ((spath i id' s).moveFile (spath i id' d)) :=
  VPath.sim_moveFile (subtree_handles spec) (altroot_is_subtree_vpath hi hP id id' hs)
    (altroot_is_subtree_vpath hi hP id id' hd)
theorem altroot_copy_dir (fuel : Nat) {s d : Str} (hs : Canon s) (hd : Canon d) (hne : d ≠ []) :
    SimM (RSub spec) PRdrop (· = ·)
      (VPath.copyDir fuel (apath i id P id' s) (apath i id P id' d))
      (VPath.copyDir fuel (spath i id' s) (spath i id' d)) :=
  VPath.sim_copyDir (subtree_handles spec) fuel (altroot_is_subtree_vpath hi hP id id' hs)
    (altroot_is_subtree_vpath hi hP id id' hd) hne (fun _ => rfl) (fun _ => rfl)
theorem altroot_move_dir (fuel : Nat) {s d : Str} (hs : Canon s) (hd : Canon d) (hns : s ≠ [])
    (hne : d ≠ []) :
    SimM (RSub spec) PRdrop (· = ·)
      (VPath.moveDir fuel (apath i id P id' s) (apath i id P id' d))
      (VPath.moveDir fuel (spath i id' s) (spath i id' d)) :=
  VPath.sim_moveDir (subtree_handles spec) fuel (altroot_is_subtree_vpath hi hP id id' hs)
    (altroot_is_subtree_vpath hi hP id id' hd) hns hne (fun _ => rfl) (fun _ => rfl)
/-- the whole walk below `q`: the same items (paths with equal strings, errors of equal kind) -/
theorem altroot_walk (fuel : Nat) {q : Str} (hq : Canon q) :
    SimM (RSub spec) PRdrop
      (ListRel (RelRes PRdrop (SimVP (RSub spec) PRdrop (HSub spec) (fun _ _ => True))))
      (do let s ← (apath i id P id' q).walkDir; VPath.walkAll fuel s)
      (do let s ← (spath i id' q).walkDir; VPath.walkAll fuel s) :=
  SimM.bind (VPath.sim_walkDir (B0 := fun _ _ => True)
      (altroot_is_subtree_vpath hi hP id id' hq) trivial (fun _ _ _ _ _ => trivial))
    fun _ _ hs => VPath.sim_walkAll childClosed_true fuel hs

end ops

def specOne (i : Nat) (P : Str) : Nat → Role := fun j => if j = i then .sub P else .free

/-- for EVERY world whose leaf `i` is a memory map `m` with `P` and its ancestors directories and
canonical keys below `P`, replacing the leaf by its sub-map gives a related world -/
theorem rsub_of_leaf (w : World) (i : Nat) (P : Str) (m : FMap) (h : MemLeafAt w i m)
    (hinv : Inv0 (sub P m)) (hanc : AncOK P m) :
    RSub (specOne i P) w (w.setLeafFiles i (sub P m)) := by
  refine ⟨rfl, rfl, rfl, fun j => ?_⟩
  unfold specOne
  by_cases hj : j = i
  · subst hj
    rw [if_pos rfl]
    exact ⟨m, h, h.set _, hinv, hanc⟩
  · rw [if_neg hj, World.leaf?_setLeafFiles_ne _ _ _ _ (fun e => hj e.symm)]
    rfl

section view
variable {w : World} {i : Nat} {P : Str} {m : FMap} (h : MemLeafAt w i m) (hinv : Inv0 (sub P m))
  (hanc : AncOK P m) (hP : Canon P) (id : Nat)
include h hinv hP

/-- `exists` through the altroot = membership in the sub-map; the world is unchanged -/
theorem altroot_view_exists {q : Str} (hq : Canon q) :
    (Altroot.fs { fs := leafFS i, fsId := id, path := P }).exists_ q w
      = (.ok ((sub P m).contains q), w) := by
  rw [run_exists_altroot h (Altroot.path_canon _ q hP hq), contains_sub P m q hq.rooted]

/-- `metadata` through the altroot = the entry of the sub-map (errors labelled `P ++ q`) -/
theorem altroot_view_metadata {q : Str} (hq : Canon q) :
    (Altroot.fs { fs := leafFS i, fsId := id, path := P }).metadata q w
      = ((Mem.metadata (sub P m) q).withPath (P ++ q), w) := by
  rw [run_metadata_altroot h (Altroot.path_canon _ q hP hq), metadata_shift P m hq.rooted]

include hanc in
/-- `read_dir` through the altroot succeeds exactly when the sub-map lists, with the same names -/
theorem altroot_view_readDir {q : Str} (hq : Canon q) :
    RelRes PRdrop NamesRel
      ((Altroot.fs { fs := leafFS i, fsId := id, path := P }).readDir q w).1
      (Mem.readDir (sub P m) q) ∧
    ((Altroot.fs { fs := leafFS i, fsId := id, path := P }).readDir q w).2 = w := by
  have hr := rsub_of_leaf w i P m h hinv hanc
  have hi : specOne i P i = .sub P := by unfold specOne; rw [if_pos rfl]
  have := (altroot_is_subtree_fs hi hP id).base.readDir q hq w _ hr
  rw [run_readDir (h.set (sub P m)) q] at this
  refine ⟨this.1, ?_⟩
  rw [C07.altroot_exact_readDir_run { fs := leafFS i, fsId := id, path := P } q hP hq w]
  show (match (leafFS i).readDir (P ++ q) w with
    | (.ok names, w') => (Res.ok (names.map filenameInternal), w')
    | (.err k _, w') => (.err k (some (P ++ q)), w')
    | (.panic, w') => (.panic, w')).2 = w
  rw [run_readDir h (P ++ q)]
  cases Mem.readDir m (P ++ q) <;> rfl

end view

/-- the exclusion is necessary: on its own root the altroot answers `DirExists`, MemoryFS `Other` -/
theorem root_create_dir_differs :
    let d : Entry := { ftype := .dir, content := [], created := .now, modified := .unset, accessed := .unset }
    let w1 : World := { leaves := [{ kind := .mem, files := [("/r".toList, d), ([], d)] }] }
    let w2 : World := { leaves := [{ kind := .mem, files := sub "/r".toList [("/r".toList, d), ([], d)] }] }
    (((Altroot.fs { fs := leafFS 0, fsId := 0, path := "/r".toList }).createDir [] w1).1.kind?,
     ((leafFS 0).createDir [] w2).1.kind?) = (some .dirExists, some .other) := by
  decide

/-! ### overlays whose layers are altroots over sub-directories of memory leaves (C09/C10) -/

open Vfs.Overlay Vfs.C09

/-- the layers: for each `k`, the ROOT of the altroot filesystem rooted at directory `Ps[k]` of
memory leaf `is[k]` (`idrs[k]`: the `fsId` of the underlying path, `ids[k]`: that of the layer) -/
def altLayers : List Nat → List Nat → List Nat → List Str → List VPath
  | i :: is, idr :: idrs, id :: ids, P :: Ps =>
    { fs := Altroot.fs { fs := leafFS i, fsId := idr, path := P }, fsId := id, path := [] }
      :: altLayers is idrs ids Ps
  | _, _, _, _ => []

inductive SubSpec (spec : Nat → Role) : List Nat → List Nat → List Nat → List Str → Prop
  | nil : SubSpec spec [] [] [] []
  | cons {i idr id : Nat} {P : Str} {is idrs ids : List Nat} {Ps : List Str} :
      spec i = .sub P → Canon P → SubSpec spec is idrs ids Ps →
      SubSpec spec (i :: is) (idr :: idrs) (id :: ids) (P :: Ps)

theorem altLayers_rel {spec : Nat → Role} {R : World → World → Prop} (hR : SubRel spec R)
    {is idrs ids : List Nat} {Ps : List Str} (h : SubSpec spec is idrs ids Ps) :
    ListRel (SimVPath R PRdrop (HSub spec)) (altLayers is idrs ids Ps) (layersN is ids) := by
  induction h with
  | nil => exact .nil
  | cons hi hP _ ih => exact .cons ⟨altroot_sim_leaf hR hi hP _, rfl, rfl, C06.root_canonical⟩ ih

/-- layers with pairwise distinct identities -/
theorem layersOK_of_nodup {l : List VPath} (h : (l.map (·.fsId)).Nodup) : LayersOK l := by
  induction l with
  | nil => intro a ha; cases ha
  | cons x l ih =>
    rw [List.map_cons, List.nodup_cons] at h
    have hx : ∀ b ∈ l, b.fsId ≠ x.fsId := fun b hb e => h.1 (e ▸ List.mem_map_of_mem hb)
    intro a ha b hb hab
    rcases List.mem_cons.1 ha with ea | ha' <;> rcases List.mem_cons.1 hb with eb | hb'
    · rw [ea, eb]
    · exact absurd (ea ▸ hab).symm (hx b hb')
    · exact absurd (eb ▸ hab) (hx a ha')
    · exact ih h.2 a ha' b hb' hab

theorem layersN_ids (is ids : List Nat) : ((layersN is ids).map (·.fsId)).Sublist ids := by
  induction is generalizing ids with
  | nil => exact List.nil_sublist _
  | cons i is ih =>
    cases ids with
    | nil => exact List.nil_sublist _
    | cons id ids => exact (ih ids).cons_cons id

theorem altLayers_ids : ∀ is idrs ids Ps, ((altLayers is idrs ids Ps).map (·.fsId)).Sublist ids
  | i :: is, idr :: idrs, id :: ids, P :: Ps => (altLayers_ids is idrs ids Ps).cons_cons id
  | [], _, _, _ | _ :: _, [], _, _ | _ :: _, _ :: _, [], _ | _ :: _, _ :: _, _ :: _, [] => by
    simp [altLayers]

theorem layersN_ok {is ids : List Nat} (hn : ids.Nodup) : LayersOK (layersN is ids) :=
  layersOK_of_nodup ((layersN_ids is ids).nodup hn)

theorem altLayers_ok {is idrs ids : List Nat} {Ps : List Str} (hn : ids.Nodup) :
    LayersOK (altLayers is idrs ids Ps) :=
  layersOK_of_nodup ((altLayers_ids is idrs ids Ps).nodup hn)

/-- `overlay_over_subtrees` for every relation the sub-tree simulation holds for -/
theorem overlay_over_subtrees_of {spec : Nat → Role} {R : World → World → Prop} (hR : SubRel spec R)
    {is idrs ids : List Nat} {Ps : List Str} (h : SubSpec spec is idrs ids Ps) (hne : is ≠ [])
    (hn : ids.Nodup) :
    SimFS R PRdrop (HSub spec) (Overlay.fs (altLayers is idrs ids Ps))
      (Overlay.fs (layersN is ids)) := by
  refine Overlay.sim_fs (altLayers_rel hR h) ?_ (simHandles_sub hR) (altLayers_ok hn)
    (layersN_ok hn)
  cases h with
  | nil => exact absurd rfl hne
  | cons _ _ _ => simp [altLayers]

/-- The overlay whose layers are altroots rooted at
directories `Ps[k]` of memory leaves `is[k]`, on the left world, is `SimFS`-related to the overlay
over the ROOTS of those leaves, on the right world (where they hold the sub-maps): all trait
methods, at equal canonical paths (`create_dir` / `remove_dir`: not on ""), same outcomes, related
effects. By Proofs/Sim.lean this extends to every `VfsPath` operation on the overlay. -/
theorem overlay_over_subtrees {spec : Nat → Role} {is idrs ids : List Nat} {Ps : List Str}
    (h : SubSpec spec is idrs ids Ps) (hne : is ≠ []) (hn : ids.Nodup) :
    SimFS (RSub spec) PRdrop (HSub spec) (Overlay.fs (altLayers is idrs ids Ps))
      (Overlay.fs (layersN is ids)) :=
  overlay_over_subtrees_of (subRel_rsub spec) h hne hn

theorem own_sub {spec : Nat → Role} {is idrs ids : List Nat} {Ps : List Str} {w1 w2 : World}
    (h : SubSpec spec is idrs ids Ps) (hr : RSub spec w1 w2) {ms : List FMap}
    (hown : OWN w1 is ids ms) : OWN w2 is ids (List.zipWith sub Ps ms) := by
  induction h generalizing ms with
  | nil => cases hown; exact .nil
  | cons hi _ _ ih =>
    cases hown with
    | @cons _ _ m0 _ _ _ hm hni hrest =>
      obtain ⟨m1, a1, a2, _⟩ := hr.leafAt hi
      cases MemLeafAt.unique a1 hm
      exact .cons a2 hni (ih hrest)

/-- `C09.exists_is_viewN` transferred. Layers = altroots over the directories
`Pu :: Ps` of the pairwise distinct memory leaves `u :: is` holding `mu :: ms`. For a canonical
non-root path, `exists` of the overlay answers whether the path is in the n-layer union view of
the SUB-MAPS `sub Pu mu :: zipWith sub Ps ms` (upper shadows lower, whiteout markers of the upper
sub-map respected); the world stays related to the right world. -/
theorem exists_is_viewN_subtree {spec : Nat → Role} {u idr idu : Nat} {Pu : Str}
    {is idrs ids : List Nat} {Ps : List Str}
    (h : SubSpec spec (u :: is) (idr :: idrs) (idu :: ids) (Pu :: Ps)) (hn : (idu :: ids).Nodup)
    {w1 w2 : World} (hr : RSub spec w1 w2) {mu : FMap} {ms : List FMap}
    (hown : OWN w1 (u :: is) (idu :: ids) (mu :: ms))
    (cs : List Str) (hne : cs ≠ []) (hcs : ∀ c ∈ cs, GoodComp c) :
    ((Overlay.fs (altLayers (u :: is) (idr :: idrs) (idu :: ids) (Pu :: Ps))).exists_
        (renderC cs) w1).1
      = .ok (viewN (sub Pu mu :: List.zipWith sub Ps ms) (renderC cs)).isSome ∧
    RSub spec ((Overlay.fs (altLayers (u :: is) (idr :: idrs) (idu :: ids) (Pu :: Ps))).exists_
        (renderC cs) w1).2 w2 := by
  have hown2 : OWN w2 (u :: is) (idu :: ids) (sub Pu mu :: List.zipWith sub Ps ms) :=
    own_sub h hr hown
  have := (overlay_over_subtrees h (by simp) hn).base.exists_ (renderC cs) ⟨cs, hcs, rfl⟩ w1 w2 hr
  rw [exists_is_viewN hown2 cs hne hcs] at this
  exact ⟨this.1.ok_inv, this.2⟩

/-- `C09.metadata_is_viewN` transferred -/
theorem metadata_is_viewN_subtree {spec : Nat → Role} {u idr idu : Nat} {Pu : Str}
    {is idrs ids : List Nat} {Ps : List Str}
    (h : SubSpec spec (u :: is) (idr :: idrs) (idu :: ids) (Pu :: Ps)) (hn : (idu :: ids).Nodup)
    {w1 w2 : World} (hr : RSub spec w1 w2) {mu : FMap} {ms : List FMap}
    (hown : OWN w1 (u :: is) (idu :: ids) (mu :: ms))
    (cs : List Str) (hne : cs ≠ []) (hcs : ∀ c ∈ cs, GoodComp c) :
    RelRes PRdrop (· = ·)
      ((Overlay.fs (altLayers (u :: is) (idr :: idrs) (idu :: ids) (Pu :: Ps))).metadata
        (renderC cs) w1).1
      (match viewN (sub Pu mu :: List.zipWith sub Ps ms) (renderC cs) with
       | some e => .ok e.meta
       | none => .err .fileNotFound none) ∧
    RSub spec ((Overlay.fs (altLayers (u :: is) (idr :: idrs) (idu :: ids) (Pu :: Ps))).metadata
        (renderC cs) w1).2 w2 := by
  have hown2 : OWN w2 (u :: is) (idu :: ids) (sub Pu mu :: List.zipWith sub Ps ms) :=
    own_sub h hr hown
  have := (overlay_over_subtrees h (by simp) hn).base.metadata (renderC cs) ⟨cs, hcs, rfl⟩ w1 w2 hr
  rw [metadata_is_viewN hown2 cs hne hcs] at this
  exact this

def xDir : Entry :=
  { ftype := .dir, content := [], created := .now, modified := .unset, accessed := .unset }
def xFile (b : Bytes) : Entry :=
  { ftype := .file, content := b, created := .now, modified := .now, accessed := .unset }

/-- a memory map with a populated subtree "/r" (a directory "/r/d", a file "/r/a") next to
entries outside it -/
def xM : FMap :=
  [("/r/d".toList, xDir), ("/r/a".toList, xFile [104, 105]), ("/r".toList, xDir),
   ("/etc".toList, xDir), ("/etc/passwd".toList, xFile [1, 2, 3]), ([], xDir)]
def xP : Str := "/r".toList
def xW1 : World := { leaves := [{ kind := .mem, files := xM }] }
def xW2 : World := { leaves := [{ kind := .mem, files := sub xP xM }] }
def xRoot : VPath := { fs := leafFS 0, fsId := 7, path := xP }

/-- the sub-map: exactly the subtree, re-rooted -/
example : sub xP xM = [("/d".toList, xDir), ("/a".toList, xFile [104, 105]), ([], xDir)] := by decide +kernel

theorem xP_canon : Canon xP := ⟨["r".toList], by decide, by decide⟩

theorem xInv : Inv0 (sub xP xM) := .of_check (by decide +kernel)

theorem ancOK_one (c : Str) (hc : GoodComp c) (m : FMap) (e : Entry) (he : m.find? [] = some e)
    (hd : e.ftype = .dir) : AncOK (renderC [c]) m := by
  intro ps hps hP j hj
  have : ps = [c] :=
    (C06.renderC_injective [c] ps (by simpa using hc.noSlash) (good_noSlash hps) hP).symm
  subst this
  have hj0 : j = 0 := by simp at hj; exact hj
  subst hj0
  exact ⟨e, he, hd⟩

theorem xAnc : AncOK xP xM := ancOK_one "r".toList (by decide) xM xDir (by decide +kernel) rfl

theorem xRel : RSub (specOne 0 xP) xW1 xW2 := rsub_of_leaf xW1 0 xP xM rfl xInv xAnc

example : specOne 0 xP 0 = .sub xP := rfl

/-- what "related" means for a pair of worlds with one leaf, as a decidable check: the right leaf
is the sub-map of the left leaf -/
def subOf (w1 w2 : World) : Bool :=
  decide (w2.leaves.map (·.files) = w1.leaves.map (fun l => sub xP l.files))

example : subOf xW1 xW2 = true := by decide +kernel

/-- `create_dir("/x")` through the altroot and on the bare sub-filesystem: both succeed, the right
leaf is again the sub-map of the left leaf, the entries outside "/r" are untouched -/
example :
    ((Altroot.fs xRoot).createDir "/x".toList xW1).1 = .ok () ∧
    ((leafFS 0).createDir "/x".toList xW2).1 = .ok () ∧
    subOf ((Altroot.fs xRoot).createDir "/x".toList xW1).2 ((leafFS 0).createDir "/x".toList xW2).2
      = true ∧
    (((Altroot.fs xRoot).createDir "/x".toList xW1).2.leaves.map
      fun l => (l.files.find? "/r/x".toList, l.files.find? "/etc/passwd".toList, l.files.find? "/x".toList))
      = [(some dirEntryNow, some (xFile [1, 2, 3]), none)] := by
  decide +kernel

/-- a failing call: same error kind on both sides (`create_dir` of an existing directory), label
`P ++ q` on the altroot side, none on the bare side, nothing changes -/
example :
    ((Altroot.fs xRoot).createDir "/d".toList xW1).1 = .err .dirExists (some "/r/d".toList) ∧
    ((leafFS 0).createDir "/d".toList xW2).1 = .err .dirExists none ∧
    subOf ((Altroot.fs xRoot).createDir "/d".toList xW1).2 ((leafFS 0).createDir "/d".toList xW2).2
      = true := by
  decide +kernel

/-- a write session through the `VfsPath` layer: `create_file("/a")`, `write_all`, drop -/
example :
    ((do let hd ← (apath 0 7 xP 1 "/a".toList).createFile; hd.writeAllAndDrop [9, 9, 9] : M Unit) xW1).1
      = .ok () ∧
    ((do let hd ← (spath 0 1 "/a".toList).createFile; hd.writeAllAndDrop [9, 9, 9] : M Unit) xW2).1
      = .ok () ∧
    subOf ((do let hd ← (apath 0 7 xP 1 "/a".toList).createFile; hd.writeAllAndDrop [9, 9, 9] : M Unit) xW1).2
      ((do let hd ← (spath 0 1 "/a".toList).createFile; hd.writeAllAndDrop [9, 9, 9] : M Unit) xW2).2
      = true ∧
    (((do let hd ← (apath 0 7 xP 1 "/a".toList).createFile; hd.writeAllAndDrop [9, 9, 9] : M Unit) xW1).2.leaves.map
      fun l => (l.files.find? "/r/a".toList).map (·.content)) = [some [9, 9, 9]] := by
  decide +kernel

example :
    ((Altroot.fs xRoot).removeFile "/a".toList xW1).1 = .ok () ∧
    ((leafFS 0).removeFile "/a".toList xW2).1 = .ok () ∧
    subOf ((Altroot.fs xRoot).removeFile "/a".toList xW1).2 ((leafFS 0).removeFile "/a".toList xW2).2
      = true ∧
    (((Altroot.fs xRoot).removeFile "/a".toList xW1).2.leaves.map fun l => l.files.keys)
      = [["/r/d".toList, "/r".toList, "/etc".toList, "/etc/passwd".toList, []]] := by
  decide +kernel

/-- the observers through the altroot, computed by `altroot_view_exists` -/
example : (Altroot.fs xRoot).exists_ "/a".toList xW1 = (.ok true, xW1) := by
  rw [show xRoot = { fs := leafFS 0, fsId := 7, path := xP } from rfl,
    altroot_view_exists (w := xW1) (i := 0) (m := xM) rfl xInv xP_canon 7
      ⟨["a".toList], by decide, by decide⟩]
  rfl
/-- … "/etc" of the underlying filesystem is not visible through the altroot -/
example : ((Altroot.fs xRoot).exists_ "/etc".toList xW1).1 = .ok false := by decide +kernel
example : ((Altroot.fs xRoot).readDir [] xW1).1 = .ok ["d".toList, "a".toList] ∧
    Mem.readDir (sub xP xM) [] = .ok ["d".toList, "a".toList] := by
  decide +kernel

/-! a 2-layer overlay over sub-directories of two memory leaves -/

def yM0 : FMap := [("/up/f".toList, xFile [1]), ("/up".toList, xDir), ("/junk".toList, xDir), ([], xDir)]
def yM1 : FMap :=
  [("/lo/g".toList, xFile [2]), ("/lo/f".toList, xFile [3]), ("/lo".toList, xDir), ([], xDir)]
def yW1 : World := { leaves := [{ kind := .mem, files := yM0 }, { kind := .mem, files := yM1 }] }
def yW2 : World :=
  { leaves := [{ kind := .mem, files := sub "/up".toList yM0 }, { kind := .mem, files := sub "/lo".toList yM1 }] }
def ySpec : Nat → Role
  | 0 => .sub "/up".toList
  | 1 => .sub "/lo".toList
  | _ => .free

theorem yInv0 : Inv0 (sub "/up".toList yM0) := .of_check (by decide +kernel)
theorem yInv1 : Inv0 (sub "/lo".toList yM1) := .of_check (by decide +kernel)

theorem yRel : RSub ySpec yW1 yW2 := by
  refine ⟨rfl, rfl, rfl, fun j => ?_⟩
  match j with
  | 0 => exact ⟨yM0, rfl, rfl, yInv0, ancOK_one "up".toList (by decide) yM0 xDir (by decide +kernel) rfl⟩
  | 1 => exact ⟨yM1, rfl, rfl, yInv1, ancOK_one "lo".toList (by decide) yM1 xDir (by decide +kernel) rfl⟩
  | n + 2 => rfl

theorem ySub : SubSpec ySpec [0, 1] [7, 8] [1, 2] ["/up".toList, "/lo".toList] :=
  .cons rfl ⟨["up".toList], by decide, by decide⟩
    (.cons rfl ⟨["lo".toList], by decide, by decide⟩ .nil)

theorem yOwn : OWN yW1 [0, 1] [1, 2] [yM0, yM1] :=
  .cons rfl (by decide) (.cons rfl (by simp) .nil)

/-- the hypotheses of `exists_is_viewN_subtree` hold; its conclusion for "/g" (lower layer only)
and "/f" (both layers); cross-checked by evaluating the overlay directly -/
example :
    ((Overlay.fs (altLayers [0, 1] [7, 8] [1, 2] ["/up".toList, "/lo".toList])).exists_
        (renderC ["g".toList]) yW1).1
      = .ok (viewN [sub "/up".toList yM0, sub "/lo".toList yM1] (renderC ["g".toList])).isSome :=
  (exists_is_viewN_subtree ySub (by decide) yRel yOwn ["g".toList] (by simp) (by decide)).1

example : (viewN [sub "/up".toList yM0, sub "/lo".toList yM1] (renderC ["g".toList])).isSome = true ∧
    (viewN [sub "/up".toList yM0, sub "/lo".toList yM1] (renderC ["f".toList])).map (·.content)
      = some [1] ∧
    (viewN [sub "/up".toList yM0, sub "/lo".toList yM1] (renderC ["junk".toList])) = none := by
  decide +kernel

example : ((Overlay.fs (altLayers [0, 1] [7, 8] [1, 2] ["/up".toList, "/lo".toList])).exists_
    "/g".toList yW1).1 = .ok true := by decide +kernel

end Vfs.C07
