/-
  C17 for an ALTROOT over MemoryFS, under ALL interleavings — "Any number of threads calling
  create_dir_all concurrently on arbitrary, possibly overlapping paths of one filesystem (with no
  concurrent removals and no files in the way) all return success under every interleaving, and
  afterwards every requested path and each of its ancestors is a directory."

  Object: the interleaving model VfsModel/OverlayConc.lean (`Prog`, `Sys`, `step`, `run`): one
  atomic step = one `FileSystem` trait call of the in-memory leaf (`exists`, `metadata`,
  `create_dir` of MemoryFS — the linearizable calls of C16).  `AltrootFS` (src/impls/altroot.rs)
  holds no state: `create_dir(d)` = `self.path(d)?.create_dir()`, i.e. `VfsPath::create_dir` on the
  leaf path `root.join(&d[1..])` = three leaf calls (`exists(parent)`, `metadata(parent)`,
  `create_dir`); `VfsPath::create_dir_all` on an altroot path is that once per prefix, ignoring
  exactly `DirectoryExists` (`cdaWith`).  The program is `AConc.altCreateDirAll root p`
  (Proofs/AltrootConcThread.lean).

  1. The small-step program is the modelled code (arbitrary `root`, every path string, no
     hypothesis): `small_step_is_altroot_createDirAll` :
       `(altCreateDirAll root p).run = VPath.createDirAll ⟨Altroot.fs root, id, p⟩`;
     `altroot_one_thread_alone` : one thread scheduled `callsFrom` times has returned the result of
     that shallow definition, in its final world.

  2. `altroot_create_dir_all_concurrent` : leaf `u` of the world is a memory leaf holding `m0`
     (`MemLeafAt`), `WF m0`; the altroot's root is the path `/p1/…/pn` (canonical components, n ≥ 0)
     of that leaf (`root.fs = leafFS u`, `root.path = renderC ps`) and is a directory of `m0`; any
     number of threads, thread i = `create_dir_all(renderC cs_i)` on the altroot, components of
     `cs_i` canonical (`GoodComp`: non-empty, no '/', not "." / ".."); no FILE of `m0` sits at a
     leaf key `/p1/…/pn/c1/…/cj` (j ≥ 1) of a requested prefix (`hnofile`, the "no files in the
     way" of C17).  Then for EVERY schedule, at every moment, there is a map `mu` with
       (a) `s.world = w0.setLeafFiles u mu` (all other leaves and the ghost fields untouched), the
           leaf still a memory leaf, `GrowA ps paths m0 mu` (every entry of `m0` persists unchanged;
           every new entry is a directory at a requested leaf key), `WF mu`;
       (b) every thread that has returned has returned `Ok(())`, and the root and every prefix of
           ITS path below the root is a directory of `mu`;
       (c) when all threads have finished all results are `Ok(())` and every requested prefix is a
           directory of `mu`.
     `altroot_frame` : consequence of (a): a key that is not STRICTLY below the root (not
     `renderC (ps ++ qs)`, `qs ≠ []` canonical) has in `mu` exactly what it had in `m0` (also: absent
     stays absent); `altroot_other_leaves`: the other leaves of the world are untouched.
     `altroot_sees_dirs` : (c) read through the altroot: afterwards `VfsPath::is_dir` on the
     altroot path of every requested prefix answers `Ok(true)` (run on the final world).
     Proof: the rely-guarantee calculus of Proofs/OverlayConcCalc.lean with the relation `GrowA`,
     instantiated with no lower layers; one thread: `AConc.sp_altCreateDirAll`.

  3. Non-vacuity: world `wA` (leaf 0 = {"", "/srv", "/srv/data", file "/srv/data/f", file "/x"}),
     root "/srv/data", threads `create_dir_all("/a/b")`, `create_dir_all("/a/c")` (6 leaf calls each):
     `wA_instance` instantiates (2) for every schedule; `wA_all_interleavings` : ALL C(12,6) = 924
     interleavings (`OConc.interleavings 6 6`) end with both `Ok`, "/srv/data/a", "/srv/data/a/b",
     "/srv/data/a/c" directories and the five old entries unchanged — kernel-evaluated; one
     interleaving spelled out (`wA_one`).

  `wA_file_in_the_way` : `hnofile` is needed — with a FILE at "/srv/data/a" both threads return
     `Err(FileExists)`.

  NOT PROVED: anything about PhysicalFS leaves, concurrent removals / file creation, a root that is
  not canonical (".."-components in `root.path`), or requested paths with non-canonical components.
  This module cannot be imported together with Props/C17.lean: both declare `Vfs.C17.pAB` and
  `Vfs.C17.pAC`.
-/
import VfsModel.Proofs.AltrootConcThread
import VfsModel.Proofs.ScheduleSweep
namespace Vfs.C17
open Vfs Vfs.OConc Vfs.AConc

/-! ## 1. the small-step program is the modelled code -/

/-- all calls of the small-step program, one after the other, are `VfsPath::create_dir_all` on
the altroot path — arbitrary root, every path string -/
theorem small_step_is_altroot_createDirAll (root : VPath) (id : Nat) (p : Str) :
    (altCreateDirAll root p).run
      = VPath.createDirAll { fs := Altroot.fs root, fsId := id, path := p } :=
  run_altCreateDirAll root id p

/-- one thread alone, scheduled until it has made all its calls -/
theorem altroot_one_thread_alone (root : VPath) (id : Nat) (p : Str) (w : World) :
    OConc.run (altInitSys root w [p])
        (List.replicate ((altCreateDirAll root p).callsFrom w) 0)
      = { world := (VPath.createDirAll { fs := Altroot.fs root, fsId := id, path := p } w).2,
          threads := [.done (VPath.createDirAll { fs := Altroot.fs root, fsId := id, path := p } w).1] } := by
  rw [← small_step_is_altroot_createDirAll root id p]
  exact alone_run _ w

/-! ## 2. all interleavings -/

/-- **altroot_create_dir_all_concurrent** (C17 for AltrootFS over MemoryFS, every interleaving of
leaf calls). See the header for the reading of (a), (b), (c). -/
theorem altroot_create_dir_all_concurrent (w0 : World) (u : Nat) (m0 : FMap) (root : VPath)
    (ps : List Str) (paths : List (List Str))
    (hleaf : MemLeafAt w0 u m0) (hfs : root.fs = leafFS u) (hrp : root.path = renderC ps)
    (hps : ∀ c ∈ ps, GoodComp c) (hpaths : ∀ cs ∈ paths, ∀ c ∈ cs, GoodComp c)
    (hwf : WF m0) (hrootdir : IsDirU m0 root.path)
    (hnofile : ∀ cs ∈ paths, ∀ j, 1 ≤ j → j ≤ cs.length →
      ∀ e, m0.find? (renderC (ps ++ cs.take j)) = some e → e.ftype = .dir)
    (schedule : List Nat) :
    let s := OConc.run (altInitSys root w0 (paths.map renderC)) schedule
    ∃ mu,
      -- (a)
      (s.world = w0.setLeafFiles u mu ∧ MemLeafAt s.world u mu ∧ GrowA ps paths m0 mu ∧ WF mu) ∧
      -- (b)
      (s.threads.length = paths.length ∧
       ∀ (i : Nat) (cs : List Str) (r : Res Unit), paths[i]? = some cs →
        s.results[i]? = some (some r) →
        r = .ok () ∧ ∀ j, j ≤ cs.length → IsDirU mu (renderC (ps ++ cs.take j))) ∧
      -- (c)
      (s.finished = true →
        s.results = paths.map (fun _ => some (.ok ())) ∧
        ∀ cs ∈ paths, ∀ j, j ≤ cs.length → IsDirU mu (renderC (ps ++ cs.take j))) := by
  obtain ⟨rfs, idr, rpath⟩ := root
  simp only at hfs hrp hrootdir
  subst hfs; subst hrp
  intro s
  have hown : St u 0 [] [] [] w0 m0 := .cons hleaf (by simp) .nil
  have g0 : GIA ps paths m0 := by
    rintro q ⟨cs, hcs, j, h1, h2, rfl⟩ e he
    exact hnofile cs hcs j h1 h2 e he
  have hrun := run_WP GrowA.refl (fun _ _ _ => GrowA.trans) paths
    (altCreateDirAll { fs := leafFS u, fsId := idr, path := renderC ps } ∘ renderC)
    (fun cs r mu' => r = .ok () ∧ DirUpTo ps cs cs.length mu') w0 m0 hown
    (fun cs hcs => sp_altCreateDirAll idr hps hpaths cs hcs m0 g0 hrootdir) schedule
  rw [← List.map_map] at hrun
  obtain ⟨mu, hw, hst, hev, hlen, hb⟩ := hrun
  exact ⟨mu, ⟨hw, OWN.hu hst, hev, hev.wf hwf⟩, ⟨hlen, hb⟩, Sys.all_ok hlen hb⟩

/-- nothing outside the subtree strictly below the root changed (consequence of (a)): such a key
holds in `mu` exactly what it held in `m0` -/
theorem altroot_frame {ps : List Str} {paths : List (List Str)} {m0 mu : FMap}
    (hpaths : ∀ cs ∈ paths, ∀ c ∈ cs, GoodComp c) (h : GrowA ps paths m0 mu) (k : Str)
    (hk : ¬ ∃ qs : List Str, qs ≠ [] ∧ (∀ c ∈ qs, GoodComp c) ∧ k = renderC (ps ++ qs)) :
    mu.find? k = m0.find? k := by
  rcases Option.eq_none_or_eq_some (mu.find? k) with hf | ⟨e, hf⟩
  · rcases Option.eq_none_or_eq_some (m0.find? k) with h0 | ⟨e0, h0⟩
    · rw [hf, h0]
    · rw [h.keeps k e0 h0] at hf; cases hf
  · rcases h.news k e hf with h0 | ⟨_, cs, hcs, j, h1, h2, rfl⟩
    · rw [hf, h0]
    · exact absurd ⟨cs.take j, take_ne_nil h1 h2,
        fun c hc => hpaths cs hcs c (List.mem_of_mem_take hc), rfl⟩ hk

/-- inside the subtree too, every old entry is still there, unchanged -/
theorem altroot_keeps {ps : List Str} {paths : List (List Str)} {m0 mu : FMap}
    (h : GrowA ps paths m0 mu) (k : Str) (e : Entry) (hk : m0.find? k = some e) :
    mu.find? k = some e := h.keeps k e hk

/-- the other leaves and the ghost fields never change (consequence of (a)) -/
theorem altroot_other_leaves (w0 : World) (u : Nat) (mu : FMap) (i : Nat) (hi : i ≠ u) :
    (w0.setLeafFiles u mu).leaf? i = w0.leaf? i ∧ (w0.setLeafFiles u mu).log = w0.log ∧
    (w0.setLeafFiles u mu).fault = w0.fault ∧ (w0.setLeafFiles u mu).fired = w0.fired :=
  ⟨World.leaf?_setLeafFiles_ne w0 u i mu (fun h => hi h.symm), rfl, rfl, rfl⟩

/-- a directory of the leaf below the root is a directory for the altroot: `VfsPath::is_dir` on
the altroot path answers `Ok(true)` and leaves the world as it is -/
theorem altroot_isDir_of_leaf (w : World) (u : Nat) (mu : FMap) (root : VPath) (ps qs : List Str)
    (id : Nat) (hleaf : MemLeafAt w u mu) (hfs : root.fs = leafFS u) (hrp : root.path = renderC ps)
    (hps : ∀ c ∈ ps, GoodComp c) (hqs : ∀ c ∈ qs, GoodComp c)
    (hd : IsDirU mu (renderC (ps ++ qs))) :
    VPath.isDir { fs := Altroot.fs root, fsId := id, path := renderC qs } w = (.ok true, w) := by
  obtain ⟨rfs, idr, rpath⟩ := root
  simp only at hfs hrp
  subst hfs; subst hrp
  obtain ⟨e, he, hdd⟩ := hd
  have hpath := Altroot.path_renderC { fs := leafFS u, fsId := idr, path := renderC ps } ps qs rfl
    hps hqs
  unfold VPath.isDir
  simp only [bind, M.bind, VPath.exists_, run_exists_altroot hleaf hpath, contains_of_find he,
    VPath.metadata, M.withPath, run_metadata_altroot hleaf hpath, Mem.metadata, he, Res.withPath,
    Bool.not_true, Bool.false_eq_true, ↓reduceIte, pure, M.pure, Entry.meta, hdd, decide_true]

/-- (c) seen through the altroot: when all threads have finished, `is_dir` on the altroot path of
every requested prefix answers `Ok(true)` in the final world -/
theorem altroot_sees_dirs (w0 : World) (u : Nat) (m0 : FMap) (root : VPath)
    (ps : List Str) (paths : List (List Str))
    (hleaf : MemLeafAt w0 u m0) (hfs : root.fs = leafFS u) (hrp : root.path = renderC ps)
    (hps : ∀ c ∈ ps, GoodComp c) (hpaths : ∀ cs ∈ paths, ∀ c ∈ cs, GoodComp c)
    (hwf : WF m0) (hrootdir : IsDirU m0 root.path)
    (hnofile : ∀ cs ∈ paths, ∀ j, 1 ≤ j → j ≤ cs.length →
      ∀ e, m0.find? (renderC (ps ++ cs.take j)) = some e → e.ftype = .dir)
    (schedule : List Nat) (id : Nat)
    (hfin : (OConc.run (altInitSys root w0 (paths.map renderC)) schedule).finished = true) :
    ∀ cs ∈ paths, ∀ j, j ≤ cs.length →
      VPath.isDir { fs := Altroot.fs root, fsId := id, path := renderC (cs.take j) }
          (OConc.run (altInitSys root w0 (paths.map renderC)) schedule).world
        = (.ok true, (OConc.run (altInitSys root w0 (paths.map renderC)) schedule).world) := by
  obtain ⟨mu, ⟨_, hl, _, _⟩, _, hc⟩ := altroot_create_dir_all_concurrent w0 u m0 root ps paths hleaf
    hfs hrp hps hpaths hwf hrootdir hnofile schedule
  intro cs hcs j hj
  exact altroot_isDir_of_leaf _ u mu root ps (cs.take j) id hl hfs hrp hps
    (fun c hc => hpaths cs hcs c (List.mem_of_mem_take hc)) ((hc hfin).2 cs hcs j hj)

/-! ## 3. the example -/

def fileOfA (b : Bytes) : Entry := { fileEntryNow with content := b }
def kSrv : Str := ['/', 's', 'r', 'v']
def kData : Str := kSrv ++ ['/', 'd', 'a', 't', 'a']
def kF : Str := kData ++ ['/', 'f']
def kX : Str := ['/', 'x']
def kA : Str := kData ++ ['/', 'a']
def kAB : Str := kA ++ ['/', 'b']
def kAC : Str := kA ++ ['/', 'c']

/-- leaf 0: "/srv/data" (the altroot's root) with a file in it, a file "/x" outside -/
def mA : FMap :=
  [(kF, fileOfA [49]), (kData, dirEntryNow), (kSrv, dirEntryNow), (kX, fileOfA [50]), ([], dirEntryNow)]
def wA : World := { leaves := [{ kind := .mem, files := mA }] }
def rootA : VPath := { fs := leafFS 0, fsId := 3, path := kData }
def psA : List Str := [['s', 'r', 'v'], ['d', 'a', 't', 'a']]
def pathsA : List (List Str) := [[['a'], ['b']], [['a'], ['c']]]
def pAB : Str := ['/', 'a', '/', 'b']
def pAC : Str := ['/', 'a', '/', 'c']

example : pathsA.map renderC = [pAB, pAC] := by decide
example : renderC psA = kData := by decide

/-- T0 = `create_dir_all("/a/b")`, T1 = `create_dir_all("/a/c")` on `AltrootFS::new("/srv/data")` -/
def sA : Sys := altInitSys rootA wA [pAB, pAC]

/-- both threads returned `Ok(())`; "/srv/data/a", "/srv/data/a/b", "/srv/data/a/c" are
directories of the leaf; the five old entries are as before; eight entries in all -/
def goodA (s : Sys) : Bool :=
  s.results = [some (.ok ()), some (.ok ())] &&
  (s.world.leaves.map fun l => ([kA, kAB, kAC].map fun q => (l.files.find? q).map (·.ftype))) ==
    [[some .dir, some .dir, some .dir]] &&
  (s.world.leaves.map fun l => mA.all fun (k, e) => l.files.find? k == some e) == [true] &&
  (s.world.leaves.map fun l => l.files.length) == [8]

theorem mA_wf : WF mA := by
  refine ⟨⟨dirEntryNow, by decide, rfl⟩, ?_⟩
  intro k e hk hne
  have hmem : k = kF ∨ k = kData ∨ k = kSrv ∨ k = kX ∨ k = [] := by
    have h1 : k ∈ FMap.keys mA := (FMap.mem_keys_iff _ _).2 ⟨e, hk⟩
    have h2 : FMap.keys mA = [kF, kData, kSrv, kX, []] := by decide
    rw [h2] at h1
    simpa using h1
  rcases hmem with rfl | rfl | rfl | rfl | rfl
  · exact ⟨by decide, dirEntryNow, by decide, rfl⟩
  · exact ⟨by decide, dirEntryNow, by decide, rfl⟩
  · exact ⟨by decide, dirEntryNow, by decide, rfl⟩
  · exact ⟨by decide, dirEntryNow, by decide, rfl⟩
  · exact absurd rfl hne

theorem pathsA_good : ∀ cs ∈ pathsA, ∀ c ∈ cs, GoodComp c := by decide

/-- the hypotheses of `altroot_create_dir_all_concurrent` hold in `wA`: the theorem instantiated,
for EVERY schedule -/
theorem wA_instance (schedule : List Nat) :
    ∃ mu, (OConc.run sA schedule).world = wA.setLeafFiles 0 mu ∧ GrowA psA pathsA mA mu ∧ WF mu ∧
      mu.find? kX = some (fileOfA [50]) ∧ mu.find? kF = some (fileOfA [49]) ∧
      (∀ (i : Nat) (r : Res Unit), i < 2 → (OConc.run sA schedule).results[i]? = some (some r) →
        r = .ok ()) ∧
      ((OConc.run sA schedule).finished = true →
        (OConc.run sA schedule).results = [some (.ok ()), some (.ok ())] ∧
        ∀ q ∈ [kData, kA, kAB, kAC], IsDirU mu q) := by
  have hnofile : ∀ cs ∈ pathsA, ∀ j, 1 ≤ j → j ≤ cs.length →
      ∀ e, mA.find? (renderC (psA ++ cs.take j)) = some e → e.ftype = .dir := by
    intro cs hcs j h1 h2 e he
    simp only [pathsA, List.mem_cons, List.not_mem_nil, or_false] at hcs
    have hnone : mA.find? (renderC (psA ++ cs.take j)) = none := by
      rcases hcs with rfl | rfl
      · have : j = 1 ∨ j = 2 := by simp at h2; omega
        rcases this with rfl | rfl <;> decide
      · have : j = 1 ∨ j = 2 := by simp at h2; omega
        rcases this with rfl | rfl <;> decide
    rw [hnone] at he; cases he
  obtain ⟨mu, ⟨hw, _, hev, hwf⟩, ⟨_, hb⟩, hc⟩ := altroot_create_dir_all_concurrent wA 0 mA rootA
    psA pathsA rfl rfl (by decide) (by decide) pathsA_good mA_wf ⟨dirEntryNow, by decide, rfl⟩
    hnofile schedule
  refine ⟨mu, hw, hev, hwf, hev.keeps _ _ (by decide), hev.keeps _ _ (by decide), ?_, ?_⟩
  · intro i r hi hres
    exact (hb i pathsA[i] r (List.getElem?_eq_getElem hi) hres).1
  · intro hfin
    obtain ⟨h1, h2⟩ := hc hfin
    refine ⟨h1, ?_⟩
    intro q hq
    simp only [List.mem_cons, List.not_mem_nil, or_false] at hq
    rcases hq with rfl | rfl | rfl | rfl
    · exact h2 [['a'], ['b']] (by simp [pathsA]) 0 (by omega)
    · exact h2 [['a'], ['b']] (by simp [pathsA]) 1 (by simp)
    · exact h2 [['a'], ['b']] (by simp [pathsA]) 2 (by simp)
    · exact h2 [['a'], ['c']] (by simp [pathsA]) 2 (by simp)

/-! ### kernel-evaluated schedules -/

/-- each thread makes 6 leaf calls when it runs alone from `wA` -/
example : (altCreateDirAll rootA pAB).callsFrom wA = 6 ∧
    (altCreateDirAll rootA pAC).callsFrom wA = 6 := by decide +kernel

/-- one interleaving spelled out: both probe the parent of "/a", T1 creates "/srv/data/a" first, T0
gets `DirectoryExists` for it and goes on -/
theorem wA_one : goodA (OConc.run sA [0, 1, 0, 1, 1, 0, 0, 1, 0, 1, 1, 0]) = true := by
  decide +kernel

/-- under that interleaving T0's third call (the `create_dir("/srv/data/a")` of the leaf) comes
after T1's -/
example : ((OConc.run sA [0, 1, 0, 1]).threads.map Prog.label) = ["create_dir", "create_dir"] := by
  decide +kernel

example : (interleavings 6 6).length = 924 := length_interleavings 6 6

/-- ALL interleavings of the two threads' 6 + 6 leaf calls end well -/
theorem wA_all_interleavings :
    (interleavings 6 6).all (fun sc => goodA (OConc.run sA sc)) = true :=
  List.all_eq_true.2 (sweepInter_spec (f := 13) (a := 6) (b := 6) (by decide +kernel))

/-- `hnofile` is needed: a FILE at the leaf key "/srv/data/a" of a requested prefix makes both
threads fail (run one after the other) -/
def wAbad : World := { leaves := [{ kind := .mem, files := (kA, fileOfA []) :: mA }] }

theorem wA_file_in_the_way :
    (OConc.run (altInitSys rootA wAbad [pAB, pAC]) (List.replicate 6 0 ++ List.replicate 6 1)).results
      = [some (.err .fileExists (some ['/', 'a'])), some (.err .fileExists (some ['/', 'a']))] := by
  decide +kernel

end Vfs.C17

#print axioms Vfs.C17.small_step_is_altroot_createDirAll
#print axioms Vfs.C17.altroot_one_thread_alone
#print axioms Vfs.C17.altroot_create_dir_all_concurrent
#print axioms Vfs.C17.altroot_frame
#print axioms Vfs.C17.altroot_sees_dirs
#print axioms Vfs.C17.wA_instance
#print axioms Vfs.C17.wA_one
#print axioms Vfs.C17.wA_all_interleavings
#print axioms Vfs.C17.wA_file_in_the_way
