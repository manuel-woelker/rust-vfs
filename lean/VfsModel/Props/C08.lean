/-
  C08 — OverlayFS never modifies lower layers; observers modify nothing.

  Stated for ARBITRARY inner layers (records of functions, nothing assumed about what they
  implement) and an ARBITRARY invariant `I` of the world:
    * `overlay_all_preserve`: if every method of the upper layer's filesystem preserves `I`, and
      the four observer methods (exists, metadata, read_dir, open_file) of every other layer
      preserve `I`, then every method of the overlay preserves `I` — i.e. the overlay issues
      nothing but observer calls to layers other than the first. (A layer that is the *same*
      filesystem value as the upper layer is, of course, reached through the upper layer.)
    * `overlay_observers_pure`: the overlay's observers preserve every invariant that the
      observers of its layers preserve: they issue no mutating call to any layer, the first
      included.
  Instances: `I` := "leaf j of the world is unchanged" for every leaf j not reachable through
  the upper layer (`lower_leaf_unchanged`), and the ghost log of mutating calls recorded
  around a lower layer (`lower_log_unchanged`). Nesting and any number of layers are covered
  because the hypotheses are about the layers' methods, not about what the layers are.
-/
import VfsModel.Proofs.PreservesOps
import VfsModel.Proofs.LeafFrame
namespace Vfs.C08
open Vfs.VPath Vfs.Overlay

variable {I : World → Prop}

/-- hypotheses about the observers of the layers -/
structure ObsLayers (I : World → Prop) (layers : List VPath) : Prop where
  nonempty : layers ≠ []
  observers : ∀ l ∈ layers, l.fs.ObsPreserve I

/-- hypotheses about the layers of an overlay -/
structure Layers (I : World → Prop) (layers : List VPath) : Prop extends ObsLayers I layers where
  upper : (writeLayer layers).fs.AllPreserve I
  same : ∀ l ∈ layers, l.fsId = (writeLayer layers).fsId → l.fs.AllPreserve I

theorem writeLayer_mem (layers : List VPath) (h : layers ≠ []) : writeLayer layers ∈ layers := by
  cases layers with
  | nil => exact absurd rfl h
  | cons a t => simp [writeLayer]

theorem Layers.of_all {layers : List VPath} (hne : layers ≠ [])
    (h : ∀ l ∈ layers, l.fs.AllPreserve I) : Layers I layers where
  nonempty := hne
  observers l hl := (h l hl).obs
  upper := h _ (writeLayer_mem layers hne)
  same l hl _ := h l hl

/-- the upper layer under every method, the lower ones under their observers — under every method
where one carries the upper layer's filesystem identity -/
theorem Layers.cons {upper : VPath} {lowers : List VPath} (hup : upper.fs.AllPreserve I)
    (hlow : ∀ l ∈ lowers, l.fs.ObsPreserve I)
    (hid : ∀ l ∈ lowers, l.fsId = upper.fsId → l.fs.AllPreserve I) : Layers I (upper :: lowers) where
  nonempty := by simp
  observers l hl := (List.mem_cons.1 hl).elim (fun e => e ▸ hup.obs) (hlow l)
  upper := hup
  same l hl h := (List.mem_cons.1 hl).elim (fun e => e ▸ hup) (fun hl => hid l hl h)

theorem Layers.sat {layers : List VPath} (hl : Layers I layers) :
    Overlay.Layers (.preserves I) layers :=
  ⟨fun l hm => (hl.observers l hm).sat, hl.upper.sat, fun l hm h => (hl.same l hm h).sat⟩

/-- **Observers are pure.** The overlay's observers preserve every invariant preserved by the
observer methods of its layers: no hypothesis on any mutating method is needed, because none
is called — on any layer, the first included. -/
theorem overlay_observers_pure (layers : List VPath) (hl : ObsLayers I layers) :
    (Overlay.fs layers).ObsPreserve I :=
  .of_sat (Overlay.sat_obs (fun l hm => (hl.observers l hm).sat)
    (Overlay.obs_upper fun l hm => (hl.observers l hm).sat))

/-- **Main theorem.** Every method of the overlay preserves `I`, and so do the write handles
it returns: all mutations go through the upper layer. -/
theorem overlay_all_preserve (layers : List VPath) (hl : Layers I layers) :
    (Overlay.fs layers).AllPreserve I :=
  .of_sat (Overlay.sat_all hl.sat)

/-! ### Concrete instances -/

/-- layers that are directories of leaf filesystems: layer `n` lives on leaf `leafOf n`; the
layers sharing the upper layer's filesystem value live on the upper layer's leaf -/
structure LeafLayers (layers : List VPath) (up : Nat) : Prop where
  nonempty : layers ≠ []
  upper : (writeLayer layers).fs = leafFS up
  leaves : ∀ l ∈ layers, ∃ k, l.fs = leafFS k ∧ (l.fsId = (writeLayer layers).fsId → k = up)

/-- **Lower layers are never modified.** For an overlay (2, 3, 4 … layers) over leaf
filesystems, every leaf `j` other than the upper layer's leaf keeps exactly its entries
(type, bytes, creation and modification times) under every overlay method and every handle
the overlay returns — whatever the arguments, whether the call succeeds or fails. -/
theorem lower_leaf_unchanged (layers : List VPath) (up j : Nat) (hl : LeafLayers layers up)
    (hj : j ≠ up) (kind : LeafKind) (m0 : FMap) :
    (Overlay.fs layers).AllPreserve (SameLeaf j kind m0) := by
  apply overlay_all_preserve
  refine { nonempty := hl.nonempty, observers := ?_, upper := ?_, same := ?_ }
  · intro l hm
    obtain ⟨k, hk, _⟩ := hl.leaves l hm
    rw [hk]
    by_cases hkj : k = j
    · subst hkj; exact leafFS_obs_same k kind m0
    · exact (leafFS_all_preserve k (SameLeaf.ignores j k kind m0 hkj)).obs
  · rw [hl.upper]
    exact leafFS_all_preserve up (SameLeaf.ignores j up kind m0 (fun h => hj h.symm))
  · intro l hm hid
    obtain ⟨k, hk, hup⟩ := hl.leaves l hm
    rw [hk, hup hid]
    exact leafFS_all_preserve up (SameLeaf.ignores j up kind m0 (fun h => hj h.symm))

/-- the same through an altroot placed on top of the overlay (adapters stacked on adapters) -/
theorem lower_leaf_unchanged_alt (layers : List VPath) (up j : Nat) (hl : LeafLayers layers up)
    (hj : j ≠ up) (kind : LeafKind) (m0 : FMap) (id : Nat) (at_ : Str) :
    (Altroot.fs { fs := Overlay.fs layers, fsId := id, path := at_ }).AllPreserve (SameLeaf j kind m0) :=
  Altroot.all_preserve _ (lower_leaf_unchanged layers up j hl hj kind m0)

/-- no mutating call is recorded on a lower layer: the ghost log of a recording wrapper with
tag `t` contains no mutating method -/
def NoMutation (t : Nat) (w : World) : Prop :=
  ∀ e ∈ w.log, e.tag = t → e.method.mutating = false

theorem logCall_pres (t tag : Nat) (m : Method) (p p2 : Str) (h : tag = t → m.mutating = false) :
    Preserves (NoMutation t) (logCall tag m p p2) := by
  refine ⟨fun w hw => ?_⟩
  unfold logCall NoMutation at *
  intro e he
  simp only [List.mem_append, List.mem_singleton] at he
  rcases he with he | rfl
  · exact hw e he
  · exact h

/-- the observer methods of a recorded layer only add observer entries to the log -/
theorem recordFS_obs (t tag : Nat) (inner : FS) (hi : inner.ObsPreserve (NoMutation t)) :
    (recordFS tag inner).ObsPreserve (NoMutation t) :=
  recordFS_obs_preserve tag inner (fun m p p2 hm => logCall_pres t tag m p p2 (fun _ => hm)) hi

/-- a leaf filesystem never writes to the log -/
theorem leafFS_log (t i : Nat) : (leafFS i).AllPreserve (NoMutation t) :=
  leafFS_all_preserve i (fun w f h => by unfold NoMutation World.setLeafFiles at *; exact h)

/-- a recording wrapper with another tag may log anything -/
theorem recordFS_other (t tag : Nat) (inner : FS) (hne : tag ≠ t)
    (hi : inner.AllPreserve (NoMutation t)) : (recordFS tag inner).AllPreserve (NoMutation t) :=
  recordFS_all_preserve tag inner (fun m p p2 => logCall_pres t tag m p p2 (fun h => absurd h hne)) hi

/-- **No mutating call reaches a lower layer** (the statement of the recording wrappers of the
harness): overlay `[rec 0 (leaf a), rec 1 (leaf b)]`, distinct filesystem ids — every overlay
method leaves the log free of mutating calls tagged 1. -/
theorem lower_log_unchanged (a b : Nat) (pa pb : Str) :
    (Overlay.fs [{ fs := recordFS 0 (leafFS a), fsId := 0, path := pa },
                 { fs := recordFS 1 (leafFS b), fsId := 1, path := pb }]).AllPreserve (NoMutation 1) :=
  overlay_all_preserve _ (.cons (recordFS_other 1 0 _ (by decide) (leafFS_log 1 a))
    (fun l hl => by rw [List.mem_singleton.1 hl]; exact recordFS_obs 1 1 _ (leafFS_log 1 b).obs)
    (fun l hl h => by rw [List.mem_singleton.1 hl] at h; cases h))

/-- observers of that overlay record no mutating call on ANY layer, the first included -/
theorem observers_log_clean (a b : Nat) (pa pb : Str) (t : Nat) :
    (Overlay.fs [{ fs := recordFS 0 (leafFS a), fsId := 0, path := pa },
                 { fs := recordFS 1 (leafFS b), fsId := 1, path := pb }]).ObsPreserve (NoMutation t) := by
  apply overlay_observers_pure
  refine { nonempty := by simp, observers := ?_ }
  intro l hm
  simp only [List.mem_cons, List.mem_nil_iff, or_false] at hm
  rcases hm with rfl | rfl
  · exact recordFS_obs t 0 _ (leafFS_log t a).obs
  · exact recordFS_obs t 1 _ (leafFS_log t b).obs

/-! Non-vacuity: a two-layer overlay over two memory leaves satisfies the hypotheses, and the
lower leaf really holds something. -/
example : LeafLayers [{ fs := leafFS 0, fsId := 0, path := [] }, { fs := leafFS 1, fsId := 1, path := [] }] 0 :=
  { nonempty := by simp
    upper := rfl
    leaves := by
      intro l hm
      simp only [List.mem_cons, List.mem_nil_iff, or_false] at hm
      rcases hm with rfl | rfl
      · exact ⟨0, rfl, fun _ => rfl⟩
      · exact ⟨1, rfl, fun h => by simp [writeLayer] at h⟩ }

example : SameLeaf 1 .mem Mem.init { leaves := [{ kind := .mem, files := Mem.init }, { kind := .mem, files := Mem.init }] } :=
  ⟨_, rfl, rfl, fun _ => rfl⟩

end Vfs.C08
