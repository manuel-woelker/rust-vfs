/-
  C03 for the overlay's VIEW — the merged view of an overlay over n ≥ 1 in-memory layers is a
  well-formed tree in every reachable state (Props/C03Stack.lean speaks about the LEAVES only and
  says explicitly that it does not cover the computed union).

  SETTING: `OWN w (u :: is) (idu :: ids) (mu :: ms)` (n ≥ 1 pairwise distinct memory leaves whose
  roots are the layers), the overlay `Overlay.fs (layersN (u :: is) (idu :: ids))`, its view
  `oview (mu :: ms)` (Proofs/OverlayContractLemmas.lean), histories `runOverlay fs ops w` of the
  five mutators `C02.Mut` (create_dir | write session | append session | remove_file |
  remove_dir) at the level of the trait `FileSystem` (Props/C09Refine.lean).

  PROVED (propext, Classical.choice, Quot.sound only)
  * `C11.OSt.history`: whatever property `I` of the layer maps one contract-respecting call keeps
    holds after EVERY finite history of mutators on disciplined paths that respects the O3
    discipline, started from a state (`C11.OSt`: the setting, `OInv`, `ViewWF`) with `I`; the final
    world is again a state, lower maps unchanged up to access stamps, no call panicked.
  * `overlay_history_invariants` (`I` trivial): from a state with `OInv` and `ViewWF`, after EVERY finite
    history of mutators on disciplined paths (`OpOK`: canonical, non-root, outside ".whiteout", no
    component ending in "_wo") that respects the O3 discipline (`ViewO3Free`: at the moment of a
    `remove_file p`, `p` is not a directory of the overlay's own view — read off the overlay's
    run, no reference tree needed): the final world is again in the setting, lower maps unchanged
    up to access stamps, `OInv` and `ViewWF` hold, no call panicked.
  * `overlay_view_wf_history` (the C03 statement): the same from the INITIAL hypotheses — every
    layer map `WF`, the layers type-consistent, no markers in the upper map —: `ViewWF` of the
    final view and `WF` of every final layer map.
  * `viewWF_no_orphan`, `viewWF_ancestors` (stated in Proofs/OverlayObservers.lean, audited here):
    what `ViewWF` says, spelled out — every present canonical path outside ".whiteout" has a
    DIRECTORY parent IN THE VIEW (also at top level), and so has every proper ancestor.
  * `overlay_no_orphan_observed`: the same through the overlay's own observers on the final
    world: if `exists(p)` answers true then `exists(parent p)` answers true and
    `metadata(parent p)` reports a directory.
  * `overlay_view_wf_history_ref`: variant with the discipline read off a reference tree
    (`RefO3Free`), a direct corollary of `C09.overlay_refines_reference`.
  * non-vacuity: the 3-layer world and the 12-call history of Props/C09Refine.lean (`decide`).

  HYPOTHESES: the setting; path discipline `OpOK` for every call; O3 discipline for `remove_file`
  (open defect O3: `remove_file` on a lower-only directory orphans its children — without the
  discipline the statement is FALSE, `C10.remove_file_on_lower_dir_orphansN`).
  NOT PROVED: histories containing the `VfsPath`-level operations (create_dir_all, copy, move,
  remove_dir_all), the time setters, open handles kept across calls; layers that are not roots
  of memory leaves; paths inside ".whiteout" (outside the view by design).
-/
import VfsModel.Props.C09Refine
import VfsModel.Proofs.OverlayObservers
namespace Vfs.C03
open Vfs Vfs.Overlay Vfs.C02 Vfs.C01 Vfs.C09
open Vfs.C10 (mapsOfN)

/-! ### the O3 discipline, read off the overlay's own run -/

theorem mapsOfN_of_OWN {w : World} {is ids : List Nat} {ms : List FMap} (h : OWN w is ids ms) :
    mapsOfN w is = ms := by
  induction h with
  | nil => rfl
  | @cons i _ m is _ ms h0 _ _ ih =>
    unfold mapsOfN at ih ⊢
    simp only [List.filterMap_cons, h0.leaf?, Option.map_some, ih]

instance (v : View) (op : Mut) : Decidable (O3Free v op) := by
  cases op with
  | removeFile p =>
    exact decidable_of_iff (¬ VIsDir v p)
      ⟨fun h q hq => by injection hq with hq; subst hq; exact h, fun h => h p rfl⟩
  | createDir p => exact isTrue (fun q hq => by cases hq)
  | write p bs => exact isTrue (fun q hq => by cases hq)
  | append p bs => exact isTrue (fun q hq => by cases hq)
  | removeDir p => exact isTrue (fun q hq => by cases hq)

/-- the type discipline of the open defect O3 along a history of the overlay over the leaves
`ls`, read off the overlay's OWN view: at the moment of `remove_file p`, `p` is not a directory of
the view -/
def ViewO3Free (fs : FS) (ls : List Nat) : List Mut → World → Prop
  | [], _ => True
  | op :: rest, w => O3Free (oview (mapsOfN w ls)) op ∧ ViewO3Free fs ls rest (ostep fs op w).2

instance (fs : FS) (ls : List Nat) : (ops : List Mut) → (w : World) →
    Decidable (ViewO3Free fs ls ops w)
  | [], _ => isTrue trivial
  | op :: rest, w =>
    have := instDecidableViewO3Free fs ls rest (ostep fs op w).2
    by unfold ViewO3Free; exact inferInstance

/-! ### the invariants along every history -/

/-- **what one contract-respecting call keeps, every history keeps.** From a state (`C11.OSt`: the
setting, `OInv`, `ViewWF`) with a further property `I` of the layer maps that every call obeying
the contract keeps: after EVERY finite history of mutators on disciplined paths, `remove_file`
never applied to a directory of the view, the world is again a state (lower maps unchanged up to
access stamps), `I` holds, and no call panicked. -/
theorem _root_.Vfs.C11.OSt.history {I : List FMap → Prop}
    (hI : ∀ {all all' : List FMap} {op : Mut} {r : Res Unit}, I all → OpOK op →
      VContract (oview all) op r (oview all') → I all')
    (ops : List Mut) (hops : ∀ op ∈ ops, OpOK op)
    {w : World} {u idu : Nat} {mu : FMap} {is ids : List Nat} {ms : List FMap}
    (st : C11.OSt u idu is ids ms w mu) (hi : I (mu :: ms))
    (hdisc : ViewO3Free (Overlay.fs (layersN (u :: is) (idu :: ids))) (u :: is) ops w) :
    ∃ mu' ms',
      C11.OSt u idu is ids ms' (runOverlay (Overlay.fs (layersN (u :: is) (idu :: ids))) ops w).2 mu' ∧
      LowerSame ms ms' ∧ I (mu' :: ms') ∧
      (∀ r ∈ (runOverlay (Overlay.fs (layersN (u :: is) (idu :: ids))) ops w).1, r ≠ .panic) := by
  induction ops generalizing w mu ms with
  | nil => exact ⟨mu, ms, st, LowerSame.refl ms, hi, by simp [runOverlay]⟩
  | cons op rest ih =>
    have hop := hops op (by simp)
    obtain ⟨r, w', mu1, ms1, hrun, st1, hls1, _, hc⟩ :=
      st.step op hop (by have := hdisc.1; rwa [mapsOfN_of_OWN st.own] at this)
    have hdisc' := hdisc.2
    simp only [runOverlay, hrun] at hdisc' ⊢
    obtain ⟨mu', ms', st', hls', hi', hnp⟩ :=
      ih (fun o ho => hops o (by simp [ho])) st1 (hI hi hop hc) hdisc'
    exact ⟨mu', ms', st', hls1.trans hls', hi', List.forall_mem_cons.2 ⟨hc.no_panic, hnp⟩⟩

/-- **the invariants hold in every reachable state.** From a state of the n-layer setting with
the hidden state in order (`OInv`) and a well-formed view (`ViewWF`): after EVERY finite history
of mutators on disciplined paths, `remove_file` never applied to a directory of the view, the
world is again in the setting (lower maps unchanged up to access stamps), both invariants hold
again, and no call panicked. -/
theorem overlay_history_invariants (ops : List Mut) (hops : ∀ op ∈ ops, OpOK op)
    {w : World} {u idu : Nat} {mu : FMap} {is ids : List Nat} {ms : List FMap}
    (h : OWN w (u :: is) (idu :: ids) (mu :: ms)) (inv : OInv mu ms)
    (hv : ViewWF (oview (mu :: ms)))
    (hdisc : ViewO3Free (Overlay.fs (layersN (u :: is) (idu :: ids))) (u :: is) ops w) :
    ∃ mu' ms',
      OWN (runOverlay (Overlay.fs (layersN (u :: is) (idu :: ids))) ops w).2
        (u :: is) (idu :: ids) (mu' :: ms') ∧
      LowerSame ms ms' ∧ OInv mu' ms' ∧ ViewWF (oview (mu' :: ms')) ∧
      (∀ r ∈ (runOverlay (Overlay.fs (layersN (u :: is) (idu :: ids))) ops w).1, r ≠ .panic) := by
  obtain ⟨mu', ms', st', hls, _, hnp⟩ :=
    C11.OSt.history (I := fun _ => True) (fun _ _ _ => trivial) ops hops ⟨h, inv, hv⟩ trivial hdisc
  exact ⟨mu', ms', st'.own, hls, st'.inv, st'.vwf, hnp⟩

/-- **overlay_view_wf_history (C03 for the merged view).** Well-formed, type-consistent layer
maps without markers; then after every finite history of contract-disciplined mutators (O3
discipline for `remove_file`) the view of the overlay is a well-formed tree — its root is a
directory and every present path has a directory parent IN THE VIEW — and every layer map is
still `WF` (the statement of C03Stack for the leaves, re-derived on the way). -/
theorem overlay_view_wf_history (ops : List Mut) (hops : ∀ op ∈ ops, OpOK op)
    {w : World} {u idu : Nat} {mu : FMap} {is ids : List Nat} {ms : List FMap}
    (h : OWN w (u :: is) (idu :: ids) (mu :: ms)) (hwf : ∀ m ∈ mu :: ms, WF m)
    (hnw : NoWhiteout mu) (htc : TypeConsistent (mu :: ms))
    (hdisc : ViewO3Free (Overlay.fs (layersN (u :: is) (idu :: ids))) (u :: is) ops w) :
    ∃ mu' ms',
      OWN (runOverlay (Overlay.fs (layersN (u :: is) (idu :: ids))) ops w).2
        (u :: is) (idu :: ids) (mu' :: ms') ∧
      ViewWF (oview (mu' :: ms')) ∧ (∀ m ∈ mu' :: ms', WF m) ∧
      (∀ cs : List Str, cs ≠ [] → (∀ c ∈ cs, GoodComp c) → cs.head? ≠ some woDir →
        oview (mu' :: ms') (renderC cs) ≠ none →
        VIsDir (oview (mu' :: ms')) (parentInternal (renderC cs))) := by
  obtain ⟨mu', ms', hown, _, inv', hv', _⟩ :=
    overlay_history_invariants ops hops h (OInv.initial hwf hnw) (ViewWF.initial hwf hnw htc) hdisc
  exact ⟨mu', ms', hown, hv', inv'.wf, fun cs hne hcs hhead hp => viewWF_no_orphan hv' hne hcs hhead hp⟩

/-- the variant with the O3 discipline read off a reference tree (corollary of
`C09.overlay_refines_reference`) -/
theorem overlay_view_wf_history_ref (ops : List Mut) (hops : ∀ op ∈ ops, OpOK op)
    {w : World} {u idu : Nat} {mu : FMap} {is ids : List Nat} {ms : List FMap}
    (h : OWN w (u :: is) (idu :: ids) (mu :: ms)) (hwf : ∀ m ∈ mu :: ms, WF m)
    (hnw : NoWhiteout mu) (htc : TypeConsistent (mu :: ms))
    (m0 : FMap) (href : Refines (oview (mu :: ms)) m0) (hdisc : RefO3Free ops m0) :
    ∃ mu' ms',
      OWN (runOverlay (Overlay.fs (layersN (u :: is) (idu :: ids))) ops w).2
        (u :: is) (idu :: ids) (mu' :: ms') ∧
      ViewWF (oview (mu' :: ms')) ∧ (∀ m ∈ mu' :: ms', WF m) := by
  obtain ⟨mu', ms', hown, _, inv', hv', _⟩ :=
    overlay_refines_reference ops hops h (OInv.initial hwf hnw) (ViewWF.initial hwf hnw htc) m0
      href hdisc
  exact ⟨mu', ms', hown, hv', inv'.wf⟩

/-! ### the same through the overlay's observers -/

/-- **no orphan, as observed**: in a state with a well-formed view, if the overlay's `exists`
answers true for a canonical non-root path outside ".whiteout", then it answers true for the
parent, and `metadata` of the parent reports a directory; nothing changes in the world. -/
theorem overlay_no_orphan_observed
    {w : World} {u idu : Nat} {mu : FMap} {is ids : List Nat} {ms : List FMap}
    (h : OWN w (u :: is) (idu :: ids) (mu :: ms)) (inv : OInv mu ms)
    (hv : ViewWF (oview (mu :: ms))) (ds : List Str) (n : Str)
    (hcs : ∀ c ∈ ds ++ [n], GoodComp c) (hhead : (ds ++ [n]).head? ≠ some woDir)
    (hex : ((Overlay.fs (layersN (u :: is) (idu :: ids))).exists_ (renderC (ds ++ [n])) w).1
      = .ok true) :
    (Overlay.fs (layersN (u :: is) (idu :: ids))).exists_ (renderC ds) w = (.ok true, w) ∧
    (ds ≠ [] → ∃ md, (Overlay.fs (layersN (u :: is) (idu :: ids))).metadata (renderC ds) w
      = (.ok md, w) ∧ md.ftype = .dir) := by
  have hne : ds ++ [n] ≠ [] := by simp
  rw [exists_is_viewN h _ hne hcs] at hex
  have hpres : oview (mu :: ms) (renderC (ds ++ [n])) ≠ none := by
    rw [oview_ne (renderC_ne_nil hne)]
    intro h0; rw [h0] at hex; simp at hex
  have hpar := viewWF_no_orphan hv hne hcs hhead hpres
  obtain ⟨hds, hn⟩ := good_of_snoc hcs
  rw [parent_snoc ds n hds hn] at hpar
  by_cases hd : ds = []
  · subst hd
    exact ⟨exists_rootN h inv.root, fun h0 => absurd rfl h0⟩
  · obtain ⟨e, he, hdir⟩ := hpar
    rw [oview_ne (renderC_ne_nil hd)] at he
    refine ⟨by rw [exists_is_viewN h ds hd hds, he]; rfl, fun _ => ⟨e.meta, ?_, hdir⟩⟩
    rw [metadata_is_viewN h ds hd hds, he]

/-! ### non-vacuity: the 3-layer world and the 12-call history of Props/C09Refine.lean -/

section example3

theorem xOps_viewO3 : ViewO3Free xfs [2, 0, 1] xOps xw := by
  rw [xOps_chars, xw_chars]; decide +kernel

/-- all hypotheses of `overlay_view_wf_history` hold on the concrete world -/
theorem x_view_wf :
    ∃ mu' ms',
      OWN (runOverlay xfs xOps xw).2 [2, 0, 1] [7, 8, 9] (mu' :: ms') ∧
      ViewWF (oview (mu' :: ms')) ∧ (∀ m ∈ mu' :: ms', WF m) ∧
      (∀ cs : List Str, cs ≠ [] → (∀ c ∈ cs, GoodComp c) → cs.head? ≠ some woDir →
        oview (mu' :: ms') (renderC cs) ≠ none →
        VIsDir (oview (mu' :: ms')) (parentInternal (renderC cs))) :=
  overlay_view_wf_history xOps xOps_ok xw_setting xw_wf xw_noWhiteout xw_typeConsistent
    xOps_viewO3

example := overlay_history_invariants xOps xOps_ok xw_setting xw_inv xw_viewWF xOps_viewO3

/-- the observer form on the initial world: "/d/x" exists, so "/d" exists and is a directory -/
example : xfs.exists_ "/d".toList xw = (.ok true, xw) :=
  (overlay_no_orphan_observed xw_setting xw_inv xw_viewWF ["d".toList] "x".toList (by decide)
    (by decide) (by decide)).1

end example3

end Vfs.C03

section audit
open Vfs.C03
#print axioms viewWF_no_orphan
#print axioms viewWF_ancestors
#print axioms overlay_history_invariants
#print axioms overlay_view_wf_history
#print axioms overlay_view_wf_history_ref
#print axioms overlay_no_orphan_observed
#print axioms x_view_wf
end audit
