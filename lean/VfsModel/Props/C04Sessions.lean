/-
  C04 at the level of sequences of write sessions, through the path layer and through adapters
  (memory leaf, altroot, copy_file / move_file). Props/C04.lean has the handle-level facts for one
  session; this file lifts them. The overlay part (copy-up, n layers) is Props/C04Overlay.lean and
  Props/C04OverlaySessions.lean. What happens after the open of a session is proved once, for any
  open that returns an in-memory handle (`OpensMem`, Proofs/SessionLemmas.lean); here `open_exact`
  supplies that open for a memory leaf.

  The specification (Proofs/SessionLemmas.lean) is written without the model's handle code:
    `Act`            = `write bs | flush | seek s`  (the alphabet `C03.HAct`; `s : SeekFrom`)
    `specWrite`      `Cursor<Vec<u8>>::write`: zero-fill of a gap, overwrite in place, extend
    `specSeek`       `Cursor::seek`: Start / Current / End, `none` on a negative or ≥ 2^64 target
    `specRun buf pos acts : Bytes × Nat`   a script from a vector and a position; a failing seek
                     leaves the pair alone; flush is a no-op on the pair
    `Session`        = `create acts | append acts`
    `specSession : Option Bytes → Session → Option Bytes`  (`none` = path absent):
                     create ⇒ `specRun [] 0 acts`; append on a file `old` ⇒
                     `specRun old old.length acts`; append on an absent path ⇒ fails, stays absent
    `specSessions`   = fold over a list of sessions.
  The model side: `Session.run P s` is `Op.writeSession P acts` / `Op.appendSession P acts` of
  Props/C03Stack.lean run (`create_file` / `append_file` through `VfsPath`, the actions through the
  handle, drop); `runSessions P ss w` runs a list, whatever the outcomes.

  Setting on a memory leaf: `MemLeafAt w i m` (leaf `i` of the world is a MemoryFS holding the map
  `m`), the path is `{ fs := leafFS i, fsId := any, path := p }`, and `Ready m p c`: `'/' ∈ p` (p
  is not the root), the parent of `p` is an existing directory, and `p` is absent (`c = none`) or
  a FILE with bytes `bs` (`c = some bs`). A DIRECTORY at `p`, or a missing / non-directory parent,
  makes `create_file` fail — outside the property. `Holds m p c` is the last clause alone.

  * `session_exact`, `sessions_exact`: one session with any script, then any list of sessions on
    `p` (create / append mixed, failing appends included): the world differs only in leaf `i`, the
    new map differs from `m` only at `p`, where it holds exactly `specSessions c ss`.
  * `sessions_read_exact`: afterwards a fresh `open_file` reads exactly those bytes (whole, with
    any list of buffer sizes via `reader_chunks` of Props/C04.lean, through `readToEndChecked` =
    the byte path of `read_to_string`), `metadata.len` is their length; an absent path is
    `FileNotFound(p)`. Chunked reads need `bs.length < 2^64` (a `Vec` is shorter; it is the
    no-overflow side condition of `ReadableFile::read`, see `C14.read_is_cursor`).
  * `flush_visible`: right after a flush, handle still open, the file holds the bytes of the
    script so far and a reader opened then sees them; the handle stays usable.
    `seek_errors_harmless`: a seek the specification rejects changes nothing.
  * `copy_exact`, `move_exact` (via `C11.copyFile_exact` / `moveFile_exact`) between memory leaves
    `i`, `j` (equal or not, any `Arc` ids) onto a fresh destination;
    `sessions_copy_sessions_exact`: sessions, copy, more sessions on the copy.
  * Altroot. `altroot_appendFile / _openFile / _metadata`, `altroot_append_session`: for EVERY
    underlying filesystem the call on `q` of `Altroot.fs root` is the call on `root.path ++ q`
    (error relabelled `q`). Over a memory leaf, `q ≠ ""`: `altroot_session` (create sessions
    too), `altroot_runSessions`, `altroot_sessions_exact`.
    Create sessions are stated over a memory leaf only: for an arbitrary underlying filesystem
    "same state transformer" is FALSE as soon as observers have effects: the altroot's own
    `VfsPath::create_file` probes the parent (exists + metadata) and the inner `create_file`
    probes it again, so e.g. a `recordFS` underneath logs two more calls.

  Not covered:
   * the physical backend (`physCreate` / `physAppend` handles write straight to the file; no
     session-sequence theorem for them), EmbeddedFS (read-only), the harness wrappers;
   * altroots over anything but a memory leaf for create sessions; nested altroots;
   * interleavings of two open handles on the same path (C16/C17), handles used after the file was
     removed (C14.publish_after_removal);
   * positions ≥ 2^64 reached by `write` (the model, like the specification, lets the position
     grow; std's `Cursor` would fail on `usize` overflow — unreachable with real memory).
-/
import VfsModel.Proofs.SessionLemmas
import VfsModel.Props.C11
import VfsModel.Props.C07
namespace Vfs.C04
open Vfs.C14

/-- the hypotheses on the path `p` in the map `m`: `p` is not the root string (`'/' ∈ p`, true of
every canonical non-root path), its parent is an existing directory, and `p` itself is absent
(`c = none`) or a FILE with bytes `bs` (`c = some bs`) — not a directory -/
structure Ready (m : FMap) (p : Str) (c : Option Bytes) : Prop where
  slash : '/' ∈ p
  parent : ∃ pe, m.find? (parentInternal p) = some pe ∧ pe.ftype = .dir
  holds : Holds m p c

theorem Ready.parent_ne {m : FMap} {p : Str} {c : Option Bytes} (h : Ready m p c) :
    parentInternal p ≠ p := by
  obtain ⟨pe, hpe, hd⟩ := h.parent
  exact h.holds.ne_of_dir hpe hd

theorem Ready.par {m : FMap} {p : Str} {c : Option Bytes} (h : Ready m p c) : Mem.par m p = true :=
  (Mem.par_iff m p).2 ⟨h.slash, h.parent⟩

theorem Ready.parentOk {m : FMap} {p : Str} {c : Option Bytes} (h : Ready m p c) :
    Mem.parentOk m p = true :=
  Mem.parentOk_of_par h.par

theorem Ready.frame {m m' : FMap} {p : Str} {c c' : Option Bytes} (h : Ready m p c)
    (hfr : ∀ k, k ≠ p → m'.find? k = m.find? k) (hc : Holds m' p c') : Ready m' p c' :=
  ⟨h.slash, by rw [hfr _ h.parent_ne]; exact h.parent, hc⟩

/-- the outcome of a session according to the specification: `Ok`, except for an append on an
absent path (`FileNotFound`, labelled with the path) -/
def specOutcome (p : Str) (c : Option Bytes) : Session → Res Unit
  | .create _ => .ok ()
  | .append _ => match c with
    | some _ => .ok ()
    | none => .err .fileNotFound (some p)

def Session.openH (P : VPath) : Session → M WHandle
  | .create _ => P.createFile
  | .append _ => P.appendFile

def Session.setActs : Session → List Act → Session
  | .create _, a => .create a
  | .append _, a => .append a

/-- the vector and the position a session starts from (`none`: the open fails) -/
def specStart : Option Bytes → Session → Option (Bytes × Nat)
  | _, .create _ => some ([], 0)
  | some old, .append _ => some (old, old.length)
  | none, .append _ => none

theorem specSession_eq_start (c : Option Bytes) (s : Session) :
    specSession c s = (specStart c s).map fun st => (specRun st.1 st.2 s.acts).1 := by
  cases s <;> cases c <;> rfl

theorem specStart_setActs (c : Option Bytes) (s : Session) (a : List Act) :
    specStart c (s.setActs a) = specStart c s := by
  cases s <;> cases c <;> rfl

theorem Session.acts_setActs (s : Session) (a : List Act) : (s.setActs a).acts = a := by
  cases s <;> rfl

theorem Session.openH_setActs (P : VPath) (s : Session) (a : List Act) :
    (s.setActs a).openH P = s.openH P := by
  cases s <;> rfl

theorem Session.run_eq (P : VPath) (s : Session) :
    s.run P = (do let h ← s.openH P; C03.runActs h s.acts) := by
  cases s <;> rfl

section leaf
variable {w : World} {i : Nat} {m : FMap}

/-- a fresh `open_file` on a path holding a file with bytes `bs` returns a reader over exactly
`bs`, positioned at 0 (the only change of the world is the access-time stamp of that entry) -/
theorem open_of_holds (h : MemLeafAt w i m) (id : Nat) (p : Str) (bs : Bytes)
    (hh : Holds m p (some bs)) :
    ∃ w', VPath.openFile { fs := leafFS i, fsId := id, path := p } w
        = (.ok { content := bs, pos := 0 }, w') ∧
      ∃ m', MemLeafAt w' i m' ∧ Holds m' p (some bs) ∧ ∀ k, k ≠ p → m'.find? k = m.find? k := by
  obtain ⟨e, he, hf, rfl⟩ := hh
  refine ⟨w.setLeafFiles i (m.insert p { e with accessed := .now }), ?_, _, h.set _,
    ⟨_, FMap.find?_insert_self _ _ _, hf, rfl⟩, fun k hk => FMap.find?_insert_ne _ _ _ _ hk⟩
  exact VPath.openFile_of_call (p := ⟨leafFS i, id, p⟩)
    ((openFile_mem_iff h p _ _).2 ⟨e, he, hf, rfl, rfl⟩)

theorem open_of_absent (h : MemLeafAt w i m) (id : Nat) (p : Str) (hh : Holds m p none) :
    VPath.openFile { fs := leafFS i, fsId := id, path := p } w
      = (.err .fileNotFound (some p), w) := by
  have hn : m.find? p = none := hh
  rw [VPath.openFile_of_call (run_openFile h p)]
  simp only [Mem.openFile_eq, hn, Mem.openFileS, onSlot, Write.app, fail, Res.withPath, h.same]

theorem metadata_of_holds (h : MemLeafAt w i m) (id : Nat) (p : Str) (bs : Bytes)
    (hh : Holds m p (some bs)) :
    ∃ md, VPath.metadata { fs := leafFS i, fsId := id, path := p } w = (.ok md, w) ∧
      md.len = bs.length ∧ md.ftype = .file := by
  obtain ⟨e, he, hf, hc⟩ := hh
  exact ⟨e.meta, run_vmetadata_of_find h id p e he, by simp [Entry.meta, hc], by simp [Entry.meta, hf]⟩

/-- opening a session on a memory leaf: the in-memory handle on `p` with the specified start
vector and position; a file sits at `p` afterwards (created empty by `create_file`), the other
keys are untouched -/
theorem open_exact (h : MemLeafAt w i m) (id : Nat) (p : Str) (c : Option Bytes)
    (hr : Ready m p c) (s : Session) (b0 : Bytes) (n0 : Nat) (hst : specStart c s = some (b0, n0)) :
    ∃ m0, OpensMem (s.openH { fs := leafFS i, fsId := id, path := p }) w i p b0 n0
        (w.setLeafFiles i m0) m0 ∧
      (∀ k, k ≠ p → m0.find? k = m.find? k) := by
  cases s with
  | create acts =>
    simp only [specStart, Option.some.injEq, Prod.mk.injEq] at hst
    obtain ⟨rfl, rfl⟩ := hst
    refine ⟨m.insert p fileEntryNow, ⟨?_, h.set _, fileEntryNow, FMap.find?_insert_self _ _ _, rfl⟩,
      fun k hk => FMap.find?_insert_ne _ _ _ _ hk⟩
    have hc := (createFile_mem_iff h p _ _).2
      ⟨hr.par, fun e he => hr.holds.file_of_find he, rfl, rfl⟩
    exact VPath.createFile_of_calls (p := ⟨leafFS i, id, p⟩)
      (by rw [run_getParent h, hr.parentOk]; rfl) hc
  | append acts =>
    cases c with
    | none => cases hst
    | some old =>
      simp only [specStart, Option.some.injEq, Prod.mk.injEq] at hst
      obtain ⟨rfl, rfl⟩ := hst
      obtain ⟨e, he, hf, rfl⟩ := hr.holds
      refine ⟨m, ⟨?_, h.set m, e, he, hf⟩, fun _ _ => rfl⟩
      rw [h.same]
      exact VPath.appendFile_of_call (p := ⟨leafFS i, id, p⟩)
        ((appendFile_mem_iff h p _ _).2 ⟨rfl, e, he, hf, rfl⟩)

/-- **session_exact.** One session (create or append; any writes, seeks and flushes; drop) on
the path `p` of a memory leaf, run through the generic `VfsPath` layer: the outcome is the
specified one; the world differs only in the map of leaf `i`; the new map `m'` differs from `m`
only at `p` (frame); at `p` it holds exactly `specSession c s` (a file with those bytes, or
still nothing after a failed append); and `metadata` then reports that length. -/
theorem session_exact (h : MemLeafAt w i m) (id : Nat) (p : Str) (c : Option Bytes)
    (hr : Ready m p c) (s : Session) :
    ∃ m', s.run { fs := leafFS i, fsId := id, path := p } w
        = (specOutcome p c s, w.setLeafFiles i m') ∧
      Ready m' p (specSession c s) ∧
      (∀ k, k ≠ p → m'.find? k = m.find? k) ∧
      (∀ bs, specSession c s = some bs →
        ∃ md, VPath.metadata { fs := leafFS i, fsId := id, path := p } (w.setLeafFiles i m')
            = (.ok md, w.setLeafFiles i m') ∧ md.len = bs.length ∧ md.ftype = .file) := by
  cases hst : specStart c s with
  | none =>
    -- only an append on an absent path has no start state
    cases s with
    | create acts => cases hst
    | append acts =>
      cases c with
      | some old => cases hst
      | none =>
        have hn : m.find? p = none := hr.holds
        refine ⟨m, ?_, hr, fun _ _ => rfl, fun bs hbs => by cases hbs⟩
        rw [Session.run_append, h.same]
        refine bind_run_err
          (VPath.appendFile_of_call (p := ⟨leafFS i, id, p⟩) (r := fail .fileNotFound) ?_)
        rw [run_appendFile h, Mem.appendFile, hn]; rfl
  | some st =>
    obtain ⟨b0, n0⟩ := st
    obtain ⟨m0, ho, hfr0⟩ := open_exact h id p c hr s b0 n0 hst
    obtain ⟨m', hrun, hh, hfr⟩ := ho.session s.acts
    rw [World.setLeafFiles_twice] at hrun
    have hfr' : ∀ k, k ≠ p → m'.find? k = m.find? k := fun k hk => by rw [hfr k hk, hfr0 k hk]
    have hspec : specSession c s = some (specRun b0 n0 s.acts).1 := by
      rw [specSession_eq_start, hst]; rfl
    have hout : specOutcome p c s = .ok () := by
      cases s with
      | create acts => rfl
      | append acts =>
        cases c with
        | none => cases hst
        | some old => rfl
    rw [hspec, hout, Session.run_eq]
    refine ⟨m', hrun, hr.frame hfr' hh, hfr', fun bs hbs => ?_⟩
    injection hbs with hbs
    subst hbs
    exact metadata_of_holds (h.set m') id p _ hh

/-- **sessions_exact (state).** ANY list of sessions on the same path — create and append mixed,
failing appends on an absent file included, each with any script of writes, seeks and flushes —
leaves the world `w` with the map of leaf `i` replaced by a map `m'` that differs from `m` only at
`p`, where it holds exactly `specSessions c ss`. -/
theorem sessions_exact (h : MemLeafAt w i m) (id : Nat) (p : Str) (c : Option Bytes)
    (hr : Ready m p c) (ss : List Session) :
    ∃ m', runSessions { fs := leafFS i, fsId := id, path := p } ss w = w.setLeafFiles i m' ∧
      Ready m' p (specSessions c ss) ∧ (∀ k, k ≠ p → m'.find? k = m.find? k) := by
  induction ss generalizing w m c with
  | nil => exact ⟨m, h.same.symm, hr, fun _ _ => rfl⟩
  | cons s rest ih =>
    obtain ⟨m1, hrun, hr1, hfr1, _⟩ := session_exact h id p c hr s
    obtain ⟨m', hrun', hr', hfr'⟩ := ih (h.set m1) (specSession c s) hr1
    refine ⟨m', ?_, hr', fun k hk => by rw [hfr' k hk, hfr1 k hk]⟩
    simp only [runSessions, hrun, hrun', World.setLeafFiles_twice]

/-- **sessions_exact (observation).** After any list of sessions on `p` that leaves the file
present (`specSessions c ss = some bs`): a fresh `open_file` succeeds; `read_to_end` returns
exactly `bs`; reading with ANY list of buffer sizes returns, concatenated, the first `Σ sizes`
bytes of `bs`; `read_to_string`'s byte path (`readToEndChecked`) returns `bs`; `metadata` reports
`bs.length`. If the list leaves the path absent (only failed appends on an absent path),
`open_file` answers not-found. -/
theorem sessions_read_exact (h : MemLeafAt w i m) (id : Nat) (p : Str) (c : Option Bytes)
    (hr : Ready m p c) (ss : List Session) :
    let P : VPath := { fs := leafFS i, fsId := id, path := p }
    let w1 := runSessions P ss w
    (∀ bs, specSessions c ss = some bs →
      (∃ w2, P.openFile w1 = (.ok { content := bs, pos := 0 }, w2)) ∧
      (RHandle.readToEnd { content := bs, pos := 0 }).1 = .ok bs ∧
      (∀ ns : List Nat, bs.length < u64Max →
        (chunks { content := bs, pos := 0 } ns).1.flatten = bs.take ns.sum) ∧
      (∀ ns : List Nat, bs.length < u64Max → bs.length ≤ ns.sum →
        (chunks { content := bs, pos := 0 } ns).1.flatten = bs) ∧
      (P.readToEndChecked w1).1 = .ok bs ∧
      (∃ md, P.metadata w1 = (.ok md, w1) ∧ md.len = bs.length ∧ md.ftype = .file)) ∧
    (specSessions c ss = none → P.openFile w1 = (.err .fileNotFound (some p), w1)) := by
  intro P w1
  obtain ⟨m', hrun, hr', _⟩ := sessions_exact h id p c hr ss
  have h1 : MemLeafAt w1 i m' := by rw [show w1 = _ from hrun]; exact h.set m'
  refine ⟨fun bs hbs => ?_, fun hn => open_of_absent h1 id p (by rw [← hn]; exact hr'.holds)⟩
  have hh : Holds m' p (some bs) := by rw [← hbs]; exact hr'.holds
  obtain ⟨w2, hopen, _⟩ := open_of_holds h1 id p bs hh
  exact read_back ⟨w2, hopen⟩ (metadata_of_holds h1 id p bs hh)

/-- **flush_visible.** A session whose script is `pre ++ flush :: post`. Right after the flush
(the handle `h1` still open, the world `w1`): the file holds exactly the vector the specification
gives for the prefix `pre`, every other key is as before the session, and a reader opened at that
moment sees exactly those bytes. The handle stays usable: running the rest `post` and dropping it
ends exactly as the whole session does — with the bytes of `specSession`. -/
theorem flush_visible (h : MemLeafAt w i m) (id : Nat) (p : Str) (c : Option Bytes)
    (hr : Ready m p c) (s : Session) (b0 : Bytes) (n0 : Nat) (hst : specStart c s = some (b0, n0))
    (pre post : List Act) :
    let P : VPath := { fs := leafFS i, fsId := id, path := p }
    let s' := s.setActs (pre ++ .flush :: post)
    ∃ h0 w0 h1 w1 m1,
      s'.openH P w = (.ok h0, w0) ∧
      applyActs h0 w0 (pre ++ [.flush]) = (h1, w1) ∧
      MemLeafAt w1 i m1 ∧
      Holds m1 p (some (specRun b0 n0 pre).1) ∧
      (∀ k, k ≠ p → m1.find? k = m.find? k) ∧
      (∃ w2, P.openFile w1 = (.ok { content := (specRun b0 n0 pre).1, pos := 0 }, w2)) ∧
      s'.run P w = C03.runActs h1 post w1 ∧
      ∃ m2, C03.runActs h1 post w1 = (.ok (), w.setLeafFiles i m2) ∧
        Holds m2 p (specSession c s') ∧ (∀ k, k ≠ p → m2.find? k = m.find? k) := by
  intro P s'
  have hst' : specStart c s' = some (b0, n0) := by rw [specStart_setActs]; exact hst
  have hacts : s'.acts = pre ++ .flush :: post := Session.acts_setActs _ _
  obtain ⟨m0, ho, hfr0⟩ := open_exact h id p c hr s' b0 n0 hst'
  obtain ⟨h1, m1, m2, hstep, hh1, hfr1, hrun, hrun2, hh2, hfr2⟩ := ho.flush pre post
  simp only [World.setLeafFiles_twice] at hstep hrun hrun2
  obtain ⟨w2, hopen2, _⟩ := open_of_holds (h.set m1) id p _ hh1
  refine ⟨_, _, _, _, m1, ho.run, hstep, h.set m1, hh1, fun k hk => by rw [hfr1 k hk, hfr0 k hk],
    ⟨w2, hopen2⟩, ?_, m2, hrun2, ?_, fun k hk => by rw [hfr2 k hk, hfr0 k hk]⟩
  · rw [Session.run_eq, hacts]; exact hrun
  · rw [specSession_eq_start, hst', hacts]; exact hh2

/-- **seek_errors_harmless.** A seek that the specification rejects (negative or overflowing
target) in the middle of a session changes nothing: the session with the failing seek and the
session without it are the same state transformer on this world (same outcome, same final
world), and the specification agrees. (`seek_fail_noop` in Proofs/SessionLemmas.lean is the
handle-level fact for every kind of handle: a failed seek returns the handle and the world
unchanged.) -/
theorem seek_errors_harmless (h : MemLeafAt w i m) (id : Nat) (p : Str) (c : Option Bytes)
    (hr : Ready m p c) (s : Session) (b0 : Bytes) (n0 : Nat) (hst : specStart c s = some (b0, n0))
    (pre post : List Act) (sk : SeekFrom)
    (hfail : specSeek (specRun b0 n0 pre).1.length (specRun b0 n0 pre).2 sk = none) :
    let P : VPath := { fs := leafFS i, fsId := id, path := p }
    (s.setActs (pre ++ .seek sk :: post)).run P w = (s.setActs (pre ++ post)).run P w ∧
    specSession c (s.setActs (pre ++ .seek sk :: post)) = specSession c (s.setActs (pre ++ post)) := by
  intro P
  obtain ⟨m0, ho, _⟩ := open_exact h id p c hr s b0 n0 hst
  constructor
  · rw [Session.run_eq, Session.run_eq]
    simp only [Session.openH_setActs, Session.acts_setActs]
    rw [bind_run_ok ho.run, bind_run_ok ho.run, runActs_seek_fail _ _ _ _ _ hfail]
  · rw [specSession_eq_start, specSession_eq_start, specStart_setActs, specStart_setActs, hst,
      Session.acts_setActs, Session.acts_setActs]
    simp only [Option.map_some, specRun_seek_fail hfail]

end leaf

/-- the destination side of `copy_file` / `move_file` between memory leaves: `d` holds exactly the
bytes and reads back as such; no key other than `d` (and, inside one leaf, `s`) is touched -/
theorem dest_exact {w' : World} {i j : Nat} {md md' : FMap} {s d : Str} {bs : Bytes}
    {x : Option Entry} (hj' : MemLeafAt w' j md') (did : Nat)
    (hmd' : ∀ k, md'.find? k = if k = d then some (copiedEntry bs)
      else if i = j ∧ k = s then x else md.find? k) :
    Holds md' d (some bs) ∧
      (∀ k, k ≠ d → (i = j → k ≠ s) → md'.find? k = md.find? k) ∧
      (∃ w2, VPath.openFile { fs := leafFS j, fsId := did, path := d } w'
        = (.ok { content := bs, pos := 0 }, w2)) ∧
      (∃ mt, VPath.metadata { fs := leafFS j, fsId := did, path := d } w' = (.ok mt, w') ∧
        mt.len = bs.length ∧ mt.ftype = .file) := by
  have hD : Holds md' d (some bs) := ⟨copiedEntry bs, by rw [hmd' d]; simp, rfl, rfl⟩
  obtain ⟨w2, hopen, _⟩ := open_of_holds hj' did d bs hD
  refine ⟨hD, fun k hkd hks => ?_, ⟨w2, hopen⟩, metadata_of_holds hj' did d bs hD⟩
  rw [hmd' k, if_neg hkd]
  by_cases hij : i = j
  · simp [hij, hks hij]
  · simp [hij]

section transfer
variable {w : World} {i j : Nat} {ms md : FMap}

/-- **copy_move_exact (copy).** `copy_file s d` between memory leaves `i` and `j` (equal or
different, any `Arc` identities), `s` a file with bytes `bs`, `d` a fresh destination: success;
afterwards `d` holds exactly `bs` (and reads back as `bs`, with `metadata` length `bs.length`),
`s` still holds `bs`, every other key of both maps is unchanged. -/
theorem copy_exact (hi : MemLeafAt w i ms) (hj : MemLeafAt w j md) (sid did : Nat) (s d : Str)
    (bs : Bytes) (hs : Holds ms s (some bs)) (hd : FreshDest md d) :
    ∃ w' ms' md',
      VPath.copyFile { fs := leafFS i, fsId := sid, path := s }
        { fs := leafFS j, fsId := did, path := d } w = (.ok (), w') ∧
      MemLeafAt w' i ms' ∧ MemLeafAt w' j md' ∧
      Holds md' d (some bs) ∧ Holds ms' s (some bs) ∧
      (∀ k, k ≠ d → (i = j → k ≠ s) → md'.find? k = md.find? k) ∧
      (∀ k, k ≠ s → (i = j → k ≠ d) → ms'.find? k = ms.find? k) ∧
      (∃ w2, VPath.openFile { fs := leafFS j, fsId := did, path := d } w'
        = (.ok { content := bs, pos := 0 }, w2)) ∧
      (∃ mt, VPath.metadata { fs := leafFS j, fsId := did, path := d } w' = (.ok mt, w') ∧
        mt.len = bs.length ∧ mt.ftype = .file) := by
  obtain ⟨e, he, hf, hc⟩ := hs
  obtain ⟨w', hrun, hcp⟩ := C11.copyFile_exact hi hj sid did s d e he hf hd
  obtain ⟨ms', md', hi', hj', hmd', hms'⟩ := hcp.leaves
  rw [hc] at hmd'
  obtain ⟨hD, hfrD, hopen, hmeta⟩ := dest_exact hj' did hmd'
  have hsd : i = j → s ≠ d := by
    intro hij heq
    subst hij
    have := hi.unique hj
    subst this
    rw [heq, hd.absent] at he; cases he
  have hS : Holds ms' s (some bs) := by
    refine ⟨touched e, ?_, hf, hc⟩
    rw [hms' s]
    by_cases hij : i = j
    · simp [hij, hsd hij]
    · simp [hij]
  refine ⟨w', ms', md', hrun, hi', hj', hD, hS, hfrD, fun k hks hkd => ?_, hopen, hmeta⟩
  rw [hms' k]
  by_cases hij : i = j
  · simp [hij, hkd hij, hks]
  · simp [hij, hks]

/-- **copy_move_exact (move).** `move_file s d`: as the copy, and `s` is absent afterwards. -/
theorem move_exact (hi : MemLeafAt w i ms) (hj : MemLeafAt w j md) (sid did : Nat) (s d : Str)
    (bs : Bytes) (hs : Holds ms s (some bs)) (hd : FreshDest md d) :
    ∃ w' ms' md',
      VPath.moveFile { fs := leafFS i, fsId := sid, path := s }
        { fs := leafFS j, fsId := did, path := d } w = (.ok (), w') ∧
      MemLeafAt w' i ms' ∧ MemLeafAt w' j md' ∧
      Holds md' d (some bs) ∧ Holds ms' s none ∧
      (∀ k, k ≠ d → (i = j → k ≠ s) → md'.find? k = md.find? k) ∧
      (∀ k, k ≠ s → (i = j → k ≠ d) → ms'.find? k = ms.find? k) ∧
      (∃ w2, VPath.openFile { fs := leafFS j, fsId := did, path := d } w'
        = (.ok { content := bs, pos := 0 }, w2)) ∧
      (∃ mt, VPath.metadata { fs := leafFS j, fsId := did, path := d } w' = (.ok mt, w') ∧
        mt.len = bs.length ∧ mt.ftype = .file) := by
  obtain ⟨e, he, hf, hc⟩ := hs
  obtain ⟨w', hrun, hmv⟩ := C11.moveFile_exact hi hj sid did s d e he hf hd
  obtain ⟨ms', md', hi', hj', hmd', hms'⟩ := hmv.leaves
  rw [hc] at hmd'
  obtain ⟨hD, hfrD, hopen, hmeta⟩ := dest_exact hj' did hmd'
  have hS : Holds ms' s none := by show ms'.find? s = none; rw [hms' s]; simp
  refine ⟨w', ms', md', hrun, hi', hj', hD, hS, hfrD, fun k hks hkd => ?_, hopen, hmeta⟩
  rw [hms' k, if_neg hks]
  by_cases hij : i = j
  · simp [hij, hkd hij]
  · simp [hij]

theorem copy_move_exact (hi : MemLeafAt w i ms) (hj : MemLeafAt w j md) (sid did : Nat) (s d : Str)
    (bs : Bytes) (hs : Holds ms s (some bs)) (hd : FreshDest md d) :
    (∃ w' ms' md',
      VPath.copyFile { fs := leafFS i, fsId := sid, path := s }
        { fs := leafFS j, fsId := did, path := d } w = (.ok (), w') ∧
      MemLeafAt w' i ms' ∧ MemLeafAt w' j md' ∧ Holds md' d (some bs) ∧ Holds ms' s (some bs)) ∧
    (∃ w' ms' md',
      VPath.moveFile { fs := leafFS i, fsId := sid, path := s }
        { fs := leafFS j, fsId := did, path := d } w = (.ok (), w') ∧
      MemLeafAt w' i ms' ∧ MemLeafAt w' j md' ∧ Holds md' d (some bs) ∧ Holds ms' s none) := by
  obtain ⟨w1, a1, b1, h1, h2, h3, h4, h5, _⟩ := copy_exact hi hj sid did s d bs hs hd
  obtain ⟨w2, a2, b2, g1, g2, g3, g4, g5, _⟩ := move_exact hi hj sid did s d bs hs hd
  exact ⟨⟨w1, a1, b1, h1, h2, h3, h4, h5⟩, ⟨w2, a2, b2, g1, g2, g3, g4, g5⟩⟩

end transfer

/-- **sessions, then copy, then more sessions on the copy** (one memory leaf): any list `ss` of
sessions on `s` that leaves it present, `copy_file s d` onto a fresh `d ≠ s`, any list `ss'` of
sessions on `d`: `d` ends with exactly the bytes the specification gives for `ss'` started from
the result of `ss`, and `s` still holds the result of `ss`. -/
theorem sessions_copy_sessions_exact {w : World} {i : Nat} {m : FMap} (h : MemLeafAt w i m)
    (id : Nat) (s d : Str) (c : Option Bytes) (hr : Ready m s c) (hd : FreshDest m d)
    (hsd : d ≠ s) (ss ss' : List Session) (bs : Bytes) (hbs : specSessions c ss = some bs) :
    let S : VPath := { fs := leafFS i, fsId := id, path := s }
    let D : VPath := { fs := leafFS i, fsId := id, path := d }
    ∃ w1 m3, S.copyFile D (runSessions S ss w) = (.ok (), w1) ∧
      MemLeafAt (runSessions D ss' w1) i m3 ∧
      Holds m3 d (specSessions (some bs) ss') ∧ Holds m3 s (some bs) := by
  intro S D
  obtain ⟨m1, hrun1, hr1, hfr1⟩ := sessions_exact h id s c hr ss
  rw [hbs] at hr1
  have hl1 : MemLeafAt (runSessions S ss w) i m1 := by rw [show runSessions S ss w = _ from hrun1]; exact h.set m1
  -- the parent of `d` is neither `s` nor `d`
  obtain ⟨pe, hpe, hpd⟩ := hd.parent
  have hps : parentInternal d ≠ s := hr.holds.ne_of_dir hpe hpd
  have hpdd : parentInternal d ≠ d := by
    intro heq; rw [heq, hd.absent] at hpe; cases hpe
  have hd1 : FreshDest m1 d :=
    ⟨by rw [hfr1 d hsd]; exact hd.absent, hd.slash, ⟨pe, by rw [hfr1 _ hps]; exact hpe, hpd⟩⟩
  obtain ⟨w1, ms', m2, hcp, hi', hj', hD, hS, hfr2, _, _, _⟩ :=
    copy_exact hl1 hl1 id id s d bs hr1.holds hd1
  have hr2 : Ready m2 d (some bs) :=
    ⟨hd.slash, ⟨pe, by rw [hfr2 _ hpdd (fun _ => hps), hfr1 _ hps]; exact hpe, hpd⟩, hD⟩
  obtain ⟨m3, hrun3, hr3, hfr3⟩ := sessions_exact hj' id d (some bs) hr2 ss'
  have hS2 : Holds m2 s (some bs) := by
    have := hi'.unique hj'
    subst this
    exact hS
  refine ⟨w1, m3, hcp, ?_, hr3.holds, hS2.congr (hfr3 s hsd.symm)⟩
  rw [show runSessions D ss' w1 = _ from hrun3]
  exact hj'.set m3

/-! ## through an altroot -/

/-- a session whose open is another path's open with the error relabelled is that path's session,
relabelled: the rest of the session cannot fail -/
theorem Session.run_relabel {P P' : VPath} {q : Str} {w : World} (s : Session)
    (ho : s.openH P w = M.withPath q (s.openH P') w) :
    s.run P w = ((s.run P' w).1.withPath q, (s.run P' w).2) := by
  rw [Session.run_eq, Session.run_eq]
  refine Eq.trans ?_ (run_session_withPath q (s.openH P') _ w fun hd w' _ => by
    rw [show (C03.runActs hd s.acts w').1 = .ok () from runActs_ok hd s.acts w']; rfl)
  simp only [bind, M.bind, ho]

section altroot
variable (root : VPath) (q : Str) (aid : Nat) (hroot : Canon root.path) (hq : Canon q)

abbrev altP : VPath := { fs := Altroot.fs root, fsId := aid, path := q }

abbrev innerP : VPath := root.withStr (root.path ++ q)

include hroot hq

/-- `append_file`, `open_file`, `metadata` through the altroot ARE the calls on `P ++ q` of the
underlying filesystem (errors relabelled with `q`) — for EVERY underlying filesystem -/
theorem altroot_appendFile : (altP root q aid).appendFile = M.withPath q (innerP root q).appendFile := by
  show M.withPath q ((Altroot.fs root).appendFile q) = _
  rw [C07.altroot_exact_appendFile root q hroot hq]

theorem altroot_openFile : (altP root q aid).openFile = M.withPath q (innerP root q).openFile := by
  show M.withPath q ((Altroot.fs root).openFile q) = _
  rw [C07.altroot_exact_openFile root q hroot hq]

theorem altroot_metadata : (altP root q aid).metadata = M.withPath q (innerP root q).metadata := by
  show M.withPath q ((Altroot.fs root).metadata q) = _
  rw [C07.altroot_exact_metadata root q hroot hq]

/-- an append session through the altroot IS the append session on `P ++ q` of the underlying
filesystem, for EVERY underlying filesystem: same final world, same outcome up to the path label
of an error of the open -/
theorem altroot_append_session (acts : List Act) (w : World) :
    (Session.append acts).run (altP root q aid) w =
      (((Session.append acts).run (innerP root q) w).1.withPath q,
        ((Session.append acts).run (innerP root q) w).2) :=
  Session.run_relabel (.append acts) (congrFun (altroot_appendFile root q aid hroot hq) w)

variable {i : Nat} {m : FMap} {w : World} (hfs : root.fs = leafFS i) (hne : q ≠ [])
include hfs hne

/-- the parent probe of `create_file` through an altroot over a memory leaf: it looks at
`P ++ parent q` of the leaf and changes nothing -/
theorem altroot_getParent (h : MemLeafAt w i m) :
    (altP root q aid).getParent w =
      (if Mem.parentOk m (root.path ++ q) then .ok () else .err .other (some q), w) := by
  have hpq : Canon (parentInternal q) := C06.parent_canonical q hq
  obtain ⟨fs, id, rp⟩ := root
  simp only at hfs
  subst hfs
  have hqp := Altroot.path_canon ⟨leafFS i, id, rp⟩ (parentInternal q) hroot hpq
  rw [show rp ++ parentInternal q = parentInternal (rp ++ q) from
    (parentInternal_append rp hq hne).symm] at hqp
  exact run_getParent_altroot h id aid rp q (rp ++ q) hqp

/-- `create_file` through an altroot over a memory leaf is `create_file` on `P ++ q` of the leaf,
relabelled: the altroot's `VfsPath` layer probes the parent once more than the direct call does,
the probe changes nothing on a memory leaf and refuses exactly when the direct call's own probe
does -/
theorem altroot_createFile_mem (h : MemLeafAt w i m) :
    (altP root q aid).createFile w = M.withPath q (innerP root q).createFile w := by
  have hinner : (innerP root q).getParent w =
      (if Mem.parentOk m (root.path ++ q) then .ok () else .err .other (some (root.path ++ q)), w) := by
    have := run_getParent h root.fsId (root.path ++ q)
    rw [← hfs] at this
    exact this
  have hg := altroot_getParent root q aid hroot hq hfs hne h
  show M.bind (altP root q aid).getParent (fun _ => M.withPath q ((Altroot.fs root).createFile q)) w = _
  rw [C07.altroot_exact_createFile root q hroot hq]
  by_cases hp : Mem.parentOk m (root.path ++ q) = true
  · simp only [M.bind, hg, if_pos hp]
  · rw [if_neg hp] at hg hinner
    have hi : (innerP root q).createFile w = (.err .other (some (root.path ++ q)), w) :=
      bind_run_err hinner
    simp only [M.bind, hg, M.withPath_run, hi, Res.withPath]

/-- **a session through an altroot over a memory leaf IS the session on `P ++ q` of the leaf**:
the same final world and the same outcome, an error carrying the label `q` instead of `P ++ q`. -/
theorem altroot_session (h : MemLeafAt w i m) (s : Session) :
    s.run (altP root q aid) w =
      ((s.run (innerP root q) w).1.withPath q, (s.run (innerP root q) w).2) := by
  refine s.run_relabel ?_
  cases s with
  | create acts => exact altroot_createFile_mem root q aid hroot hq hfs hne h
  | append acts => exact congrFun (altroot_appendFile root q aid hroot hq) w

theorem altroot_runSessions (h : MemLeafAt w i m) (c : Option Bytes)
    (hr : Ready m (root.path ++ q) c) (ss : List Session) :
    runSessions (altP root q aid) ss w = runSessions (innerP root q) ss w := by
  induction ss generalizing w m c with
  | nil => rfl
  | cons s rest ih =>
    have hI : innerP root q = { fs := leafFS i, fsId := root.fsId, path := root.path ++ q } := by
      show ({ fs := root.fs, fsId := root.fsId, path := root.path ++ q } : VPath) = _
      rw [hfs]
    obtain ⟨m1, hrun, hr1, _, _⟩ := session_exact h root.fsId (root.path ++ q) c hr s
    rw [← hI] at hrun
    simp only [runSessions]
    rw [altroot_session root q aid hroot hq hfs hne h s]
    simp only
    rw [hrun]
    exact ih (h.set m1) (specSession c s) hr1

/-- **sessions_exact through an altroot.** The altroot is rooted at the canonical path `P` of a
memory leaf; `q` is a canonical non-root path of the altroot filesystem; in the leaf, the parent
of `P ++ q` is a directory and `P ++ q` is absent or a file with bytes `c`. Then ANY list of
sessions on `q` through the altroot leaves the leaf holding, at `P ++ q`, exactly
`specSessions c ss`, every other key unchanged; and through the altroot a fresh `open_file` on
`q` reads exactly those bytes and `metadata` reports their length (absent: not-found). -/
theorem altroot_sessions_exact (h : MemLeafAt w i m) (c : Option Bytes)
    (hr : Ready m (root.path ++ q) c) (ss : List Session) :
    let A := altP root q aid
    let w1 := runSessions A ss w
    ∃ m', w1 = w.setLeafFiles i m' ∧ Holds m' (root.path ++ q) (specSessions c ss) ∧
      (∀ k, k ≠ root.path ++ q → m'.find? k = m.find? k) ∧
      (∀ bs, specSessions c ss = some bs →
        (∃ w2, A.openFile w1 = (.ok { content := bs, pos := 0 }, w2)) ∧
        (∀ ns : List Nat, bs.length < u64Max →
          (chunks { content := bs, pos := 0 } ns).1.flatten = bs.take ns.sum) ∧
        (∃ md, A.metadata w1 = (.ok md, w1) ∧ md.len = bs.length ∧ md.ftype = .file)) ∧
      (specSessions c ss = none → A.openFile w1 = (.err .fileNotFound (some q), w1)) := by
  intro A w1
  have hI : innerP root q = { fs := leafFS i, fsId := root.fsId, path := root.path ++ q } := by
    show ({ fs := root.fs, fsId := root.fsId, path := root.path ++ q } : VPath) = _
    rw [hfs]
  obtain ⟨m', hrun, hr', hfr⟩ := sessions_exact h root.fsId (root.path ++ q) c hr ss
  have hw1 : w1 = w.setLeafFiles i m' := by
    show runSessions (altP root q aid) ss w = _
    rw [altroot_runSessions root q aid hroot hq hfs hne h c hr ss, hI, hrun]
  have hl1 : MemLeafAt w1 i m' := by rw [hw1]; exact h.set m'
  have hopenA : ∀ r w', (innerP root q).openFile w1 = (r, w') →
      A.openFile w1 = (r.withPath q, w') := by
    intro r w' hi
    show (altP root q aid).openFile w1 = _
    rw [altroot_openFile root q aid hroot hq]
    rw [M.withPath_run, hi]
  refine ⟨m', hw1, hr'.holds, hfr, fun bs hbs => ?_, fun hn => ?_⟩
  · have hh : Holds m' (root.path ++ q) (some bs) := by rw [← hbs]; exact hr'.holds
    obtain ⟨w2, hopen, _⟩ := open_of_holds hl1 root.fsId _ bs hh
    obtain ⟨md, hmd, hlen, hft⟩ := metadata_of_holds hl1 root.fsId _ bs hh
    rw [← hI] at hopen hmd
    refine ⟨⟨w2, hopenA _ _ hopen⟩,
      fun ns hlt => (reader_chunks { content := bs, pos := 0 } ns rfl hlt).1, md, ?_, hlen, hft⟩
    show (altP root q aid).metadata w1 = _
    rw [altroot_metadata root q aid hroot hq]
    rw [M.withPath_run, hmd]; rfl
  · have := open_of_absent hl1 root.fsId _ (by rw [← hn]; exact hr'.holds)
    rw [← hI] at this
    exact hopenA _ _ this

end altroot

section examples

/-- session 1: create, write 5 bytes, seek back to 1, overwrite 2 bytes in place -/
def exS1 : Session := .create [.write [1, 2, 3, 4, 5], .seek (.start 1), .write [9, 9]]
/-- session 2: append, seek past the end (gap of 3), write one byte (zero-fill), flush -/
def exS2 : Session := .append [.seek (.start 8), .write [7], .flush]
/-- session 3: plain append; a failing seek (before the start) in the middle is harmless -/
def exS3 : Session := .append [.write [6], .seek (.cur (-100)), .write [5]]

example : specSessions none [exS1] = some [1, 9, 9, 4, 5] := by decide
example : specSessions none [exS1, exS2] = some [1, 9, 9, 4, 5, 0, 0, 0, 7] := by decide
example : specSessions none [exS1, exS2, exS3] = some [1, 9, 9, 4, 5, 0, 0, 0, 7, 6, 5] := by decide
/-- an append on an absent path fails and leaves it absent; a later create starts from nothing -/
example : specSessions none [exS2] = none := by decide
example : specSessions none [exS2, exS3, .create [.write [8]]] = some [8] := by decide
/-- a create truncates whatever the history was -/
example : specSessions (some [1, 2, 3]) [exS3, .create [], .append [.write [4]]] = some [4] := by decide
/-- seeks: from the end, relative, failing (cursor stays) -/
example : specRun [1, 2, 3] 3 [.seek (.fromEnd (-2)), .write [8], .seek (.cur 3), .write [9]]
    = ([1, 8, 3, 0, 0, 9], 6) := by decide
example : specRun [1, 2] 2 [.seek (.fromEnd (-3)), .write [3]] = ([1, 2, 3], 3) := by decide

def exMap : FMap := [("/d".toList, dirEntryNow), ([], dirEntryNow)]
def exW : World := { leaves := [{ kind := .mem, files := exMap }] }
def exP : VPath := { fs := leafFS 0, fsId := 0, path := "/d/f".toList }

example : MemLeafAt exW 0 exMap ∧ Ready exMap "/d/f".toList none :=
  ⟨rfl, by decide, ⟨dirEntryNow, by decide, rfl⟩, (by decide : exMap.find? "/d/f".toList = none)⟩

/-- the model run of the three-session history, read back through `open_file` + `read_to_end`,
in chunks of 4, 1 and 100 bytes, and through `metadata` -/
example : (exP.openFile (runSessions exP [exS1, exS2, exS3] exW)).1
    = .ok { content := [1, 9, 9, 4, 5, 0, 0, 0, 7, 6, 5], pos := 0 } := by decide +kernel
example : (exP.readToEndChecked (runSessions exP [exS1, exS2, exS3] exW)).1
    = .ok [1, 9, 9, 4, 5, 0, 0, 0, 7, 6, 5] := by decide +kernel
example : (chunks { content := [1, 9, 9, 4, 5, 0, 0, 0, 7, 6, 5], pos := 0 } [4, 1, 100]).1
    = [[1, 9, 9, 4], [5], [0, 0, 0, 7, 6, 5]] := by decide
example : ((exP.metadata (runSessions exP [exS1, exS2, exS3] exW)).1.map fun md => (md.len, md.ftype))
    = .ok (11, .file) := by decide +kernel
/-- the failing append on the absent file: `FileNotFound`, and the file is still absent -/
example : (exS2.run exP exW).1 = .err .fileNotFound (some "/d/f".toList) ∧
    (exP.openFile (runSessions exP [exS2] exW)).1 = .err .fileNotFound (some "/d/f".toList) := by
  constructor <;> decide +kernel
/-- the frame: the directory "/d" is still what it was -/
example : ((runSessions exP [exS1, exS2, exS3] exW).leaf? 0).map (fun l => l.files.find? "/d".toList)
    = some (some dirEntryNow) := by decide +kernel

/-- flush in the middle of a session: the reader opened right after the flush sees the prefix,
the reader opened after the drop sees everything -/
def exMid : World :=
  match exP.createFile exW with
  | (.ok h, w) => (applyActs h w [.write [1, 2], .flush, .write [3]]).2
  | (_, w) => w
example : (exP.openFile exMid).1 = .ok { content := [1, 2], pos := 0 } := by decide +kernel
example : (exP.openFile ((Session.create [.write [1, 2], .flush, .write [3]]).run exP exW).2).1
    = .ok { content := [1, 2, 3], pos := 0 } := by decide +kernel

def exD : VPath := { fs := leafFS 0, fsId := 0, path := "/d/g".toList }
example : FreshDest exMap "/d/g".toList := ⟨by decide, by decide, ⟨dirEntryNow, by decide, rfl⟩⟩
example : (exD.openFile (exP.copyFile exD (runSessions exP [exS1, exS2] exW)).2).1
    = .ok { content := [1, 9, 9, 4, 5, 0, 0, 0, 7], pos := 0 } := by decide +kernel
example : (exD.openFile (exP.moveFile exD (runSessions exP [exS1, exS2] exW)).2).1
      = .ok { content := [1, 9, 9, 4, 5, 0, 0, 0, 7], pos := 0 } ∧
    (exP.openFile (exP.moveFile exD (runSessions exP [exS1, exS2] exW)).2).1
      = .err .fileNotFound (some "/d/f".toList) := by
  constructor <;> decide +kernel

/-- an altroot rooted at "/d" of the leaf: the sessions on "/f" through it -/
def exRoot : VPath := { fs := leafFS 0, fsId := 0, path := "/d".toList }
def exA : VPath := altP exRoot "/f".toList 7
example : Canon exRoot.path ∧ Canon "/f".toList ∧ Ready exMap (exRoot.path ++ "/f".toList) none :=
  ⟨⟨["d".toList], by decide, by decide⟩, ⟨["f".toList], by decide, by decide⟩,
    by decide, ⟨dirEntryNow, by decide, rfl⟩,
    (by decide : exMap.find? (exRoot.path ++ "/f".toList) = none)⟩
example : (exA.openFile (runSessions exA [exS1, exS2, exS3] exW)).1
    = .ok { content := [1, 9, 9, 4, 5, 0, 0, 0, 7, 6, 5], pos := 0 } := by decide +kernel
/-- … and the bytes sit at "/d/f" of the leaf -/
example : (exP.openFile (runSessions exA [exS1, exS2, exS3] exW)).1
    = .ok { content := [1, 9, 9, 4, 5, 0, 0, 0, 7, 6, 5], pos := 0 } := by decide +kernel

end examples

end Vfs.C04
