/-
  C12, classification part — the operations of an overlay that run `ensure_has_parent` or go to the
  write layer (so that invariants are needed), for the overlay over n ≥ 1 MEMORY leaves.
  Complements Props/C12Stack.lean (which needs no invariant and covers every stacking for
  metadata / open_file / read_dir / remove_file / remove_dir / copy_file / move_file).

  Setting (Proofs/OverlayNLemmas.lean, Proofs/OverlayContractLemmas.lean):
  `OWN w (u :: is) (idu :: ids) (mu :: ms)`, `OInv mu ms`, `ViewWF (oview (mu :: ms))`,
  path discipline `OpPath (ds ++ [n])`; `p = renderC (ds ++ [n])`, view `v = oview (mu :: ms)`.

    * `overlayN_absent_iff_exists` : `VAbsent v p` ↔ the overlay's own `exists` answers `false`
      (so the hypothesis of `C12.missing_is_not_found` IS absence from the union view).
    * `overlayN_five_missing` : hence metadata/open_file/read_dir/remove_file/remove_dir →
      `.err .fileNotFound (some p)`, world unchanged (instance of
      `C12.overlay_missing_is_not_found`).
    * `overlayN_append_missing` : parent a directory of the view, `p` absent:
      `append_file` through the `VfsPath` layer returns `.err .fileNotFound (some p)`; the world
      changes only in the upper leaf (missing ancestor directories are materialised by
      `ensure_has_parent` before the failure — what overlay.rs does), and the view is the same
      (`VSame`).
    * `overlayN_setters_missing` : `p` absent from the view → the three setters →
      `.err .fileNotFound (some p)`, world unchanged (uses `OInv.ghost`: nothing in the upper map
      at a path the view does not show).
    * `overlayN_createDir_occupied` : parent a directory of the view; `p` a file of the view →
      kind `FileExists`, a directory → `DirectoryExists`, and the label after the relabelling of
      `VfsPath::create_dir` is `p` (trait level + `M.withPath p`; the `get_parent` prelude of the
      `VfsPath` layer is not run here).
  Altroot over such an overlay: the five operations are covered by Props/C12Stack.lean (any
  stacking); for `create_dir` / append sessions see Props/C01OverlayAlt.lean (`ostep_altroot_eq`,
  contract transfer with `missing` and `occupied`).
-/
import VfsModel.Props.C09Contract
import VfsModel.Props.C09Refine
import VfsModel.Props.C12Stack
namespace Vfs.C12
open Vfs Vfs.Overlay Vfs.C02 Vfs.C01 Vfs.C09

section settingN
variable {w : World} {u idu : Nat} {mu : FMap} {is ids : List Nat} {ms : List FMap}
  (h : OWN w (u :: is) (idu :: ids) (mu :: ms)) (inv : OInv mu ms)
  (hv : ViewWF (oview (mu :: ms))) {ds : List Str} {n : Str} (hp : OpPath (ds ++ [n]))

theorem layersN_exPure (is ids : List Nat) (l : VPath) (hl : l ∈ layersN is ids) :
    C12.ExPure l.fs := by
  obtain ⟨k, _, hfs⟩ := mem_layersN hl
  rw [hfs]; exact C12.leaf_exPure k

include h hp in
theorem overlayN_absent_iff_exists :
    VAbsent (oview (mu :: ms)) (renderC (ds ++ [n])) ↔
      ((Overlay.fs (layersN (u :: is) (idu :: ids))).exists_ (renderC (ds ++ [n])) w).1 = .ok false := by
  show _ ↔ (Overlay.exists_ _ _ w).1 = _
  rw [run_oexistsN h _ hp.ne hp.good]
  unfold VAbsent
  rw [oview_NR hp.nr]
  cases viewN (mu :: ms) (renderC (ds ++ [n])) <;> simp

include h hp in
theorem overlayN_five_missing (habs : VAbsent (oview (mu :: ms)) (renderC (ds ++ [n]))) (id : Nat) :
    let vp : VPath := { fs := Overlay.fs (layersN (u :: is) (idu :: ids)), fsId := id,
                        path := renderC (ds ++ [n]) }
    vp.metadata w = (.err .fileNotFound (some (renderC (ds ++ [n]))), w) ∧
    vp.openFile w = (.err .fileNotFound (some (renderC (ds ++ [n]))), w) ∧
    vp.readDir w = (.err .fileNotFound (some (renderC (ds ++ [n]))), w) ∧
    vp.removeFile w = (.err .fileNotFound (some (renderC (ds ++ [n]))), w) ∧
    vp.removeDir w = (.err .fileNotFound (some (renderC (ds ++ [n]))), w) :=
  C12.overlay_missing_is_not_found (layersN_exPure _ _) id hp.nr.ne_nil
    ((overlayN_absent_iff_exists h hp).1 habs)

include h inv hv hp in
theorem overlayN_append_missing (hd : VIsDir (oview (mu :: ms)) (renderC ds))
    (habs : VAbsent (oview (mu :: ms)) (renderC (ds ++ [n]))) (id : Nat) :
    ∃ mu1, VPath.appendFile { fs := Overlay.fs (layersN (u :: is) (idu :: ids)), fsId := id,
                              path := renderC (ds ++ [n]) } w
        = (.err .fileNotFound (some (renderC (ds ++ [n]))), w.setLeafFiles u mu1) ∧
      OWN (w.setLeafFiles u mu1) (u :: is) (idu :: ids) (mu1 :: ms) ∧ OInv mu1 ms ∧
      VSame (oview (mu :: ms)) (oview (mu1 :: ms)) := by
  have hvn : viewN (mu :: ms) (renderC (ds ++ [n])) = none := by
    have := habs; unfold VAbsent at this; rwa [oview_NR hp.nr] at this
  have hup : mu.find? (renderC (ds ++ [n])) = none := upper_none_of_view_none inv hp hvn
  obtain ⟨hE, inv1, hs1, _⟩ := ensure_ok inv hp hv hd
  have hE' : pEnsureN (mu :: ms) (ds ++ [n]).dropLast = (.ok (), fillDirs mu (chain [] ds)) := by
    rw [List.dropLast_concat]; exact hE
  have h1 := h.setHead (fillDirs mu (chain [] ds))
  have hvis : Vis (renderC (ds ++ [n])) := Or.inr hp.nr
  have habs1 : viewN (fillDirs mu (chain [] ds) :: ms) (renderC (ds ++ [n])) = none := by
    have := (none_of_vcore (hs1 _ hvis)).2 habs
    rwa [oview_NR hp.nr] at this
  refine ⟨fillDirs mu (chain [] ds), ?_, h1, inv1, hs1⟩
  rcases readPath_casesN h1 (ds ++ [n]) hp.ne hp.good with
    ⟨_, hr⟩ | ⟨k, i, id', m, e1, _, _, _, _, _, _, hv1, _⟩
  · have hX := run_oappend_notFound h (ds ++ [n]) hp.ne hp.good hup _ hE' hr
    exact VPath.appendFile_of_call
      (p := ⟨Overlay.fs (layersN (u :: is) (idu :: ids)), id, renderC (ds ++ [n])⟩) hX
  · rw [habs1] at hv1; cases hv1

include h inv hp in
theorem overlayN_setters_missing (habs : VAbsent (oview (mu :: ms)) (renderC (ds ++ [n])))
    (id : Nat) (t : Int) :
    let vp : VPath := { fs := Overlay.fs (layersN (u :: is) (idu :: ids)), fsId := id,
                        path := renderC (ds ++ [n]) }
    vp.setCreationTime t w = (.err .fileNotFound (some (renderC (ds ++ [n]))), w) ∧
    vp.setModificationTime t w = (.err .fileNotFound (some (renderC (ds ++ [n]))), w) ∧
    vp.setAccessTime t w = (.err .fileNotFound (some (renderC (ds ++ [n]))), w) := by
  have hvn : viewN (mu :: ms) (renderC (ds ++ [n])) = none := by
    have := habs; unfold VAbsent at this; rwa [oview_NR hp.nr] at this
  have hup : mu.find? (renderC (ds ++ [n])) = none := upper_none_of_view_none inv hp hvn
  have hcanon : Canon (renderC (ds ++ [n])) := ⟨_, hp.good, rfl⟩
  have hwl : writeLayer (layersN (u :: is) (idu :: ids)) = { fs := leafFS u, fsId := idu, path := [] } :=
    rfl
  refine C12.overlay_setters_missing_of (layers := layersN (u :: is) (idu :: ids))
    (by rw [hwl]; exact ⟨[], by simp, rfl⟩) hcanon hp.nr.ne_nil ?_ id t
  rw [hwl]
  exact C12.leaf_missW_of (l := { kind := .mem, files := mu }) h.hu rfl hup

include h inv hv hp in
/-- **create_dir on an occupied path of the view**: the kind names the occupant; after the
relabelling of the `VfsPath` layer the label is `p` -/
theorem overlayN_createDir_occupied (hd : VIsDir (oview (mu :: ms)) (renderC ds)) :
    (VIsFile (oview (mu :: ms)) (renderC (ds ++ [n])) →
      (M.withPath (renderC (ds ++ [n]))
        ((Overlay.fs (layersN (u :: is) (idu :: ids))).createDir (renderC (ds ++ [n]))) w).1
        = .err .fileExists (some (renderC (ds ++ [n])))) ∧
    (VIsDir (oview (mu :: ms)) (renderC (ds ++ [n])) →
      (M.withPath (renderC (ds ++ [n]))
        ((Overlay.fs (layersN (u :: is) (idu :: ids))).createDir (renderC (ds ++ [n]))) w).1
        = .err .dirExists (some (renderC (ds ++ [n])))) := by
  obtain ⟨r, mu', hrun, _, _, hc⟩ := overlay_createDir_contractN h inv hv hp
  have hrun' : (Overlay.fs (layersN (u :: is) (idu :: ids))).createDir (renderC (ds ++ [n])) w
      = (r, w.setLeafFiles u mu') := hrun
  have hocc := hc.occupied _ rfl (by rw [hp.parent]; exact hd)
  have key : ∀ k, r.kind? = some k →
      (M.withPath (renderC (ds ++ [n]))
        ((Overlay.fs (layersN (u :: is) (idu :: ids))).createDir (renderC (ds ++ [n]))) w).1
        = .err k (some (renderC (ds ++ [n]))) := by
    intro k hk
    rw [M.withPath_run, hrun']
    cases r with
    | ok a => cases hk
    | err k' l => simp only [Res.kind?, Option.some.injEq] at hk; subst hk; rfl
    | panic => cases hk
  exact ⟨fun hf => key _ (hocc.1 hf), fun hdir => key _ (hocc.2 hdir)⟩

end settingN

/-! The three-layer world of Props/C09Refine.lean (upper: "/top"; layer 1: "/d", "/d/x", "/d/b";
layer 2: "/d", "/d/x", "/d/c", "/e", "/e/z"). -/
section examples

/-- "/d/nope": the parent "/d" exists only in the lower layers; absent from the view -/
example : ∃ mu1, VPath.appendFile { fs := xfs, fsId := 0, path := "/d/nope".toList } xw
      = (.err .fileNotFound (some "/d/nope".toList), xw.setLeafFiles 2 mu1) ∧
      OWN (xw.setLeafFiles 2 mu1) [2, 0, 1] [7, 8, 9] [mu1, xA, xB] ∧ OInv mu1 [xA, xB] ∧
      VSame (oview [xU, xA, xB]) (oview [mu1, xA, xB]) :=
  overlayN_append_missing xw_setting xw_inv xw_viewWF (ds := ["d".toList]) (n := "nope".toList)
    (by decide +kernel) (by decide +kernel) (by unfold VAbsent; decide +kernel) 0

example : VPath.removeDir { fs := xfs, fsId := 0, path := "/d/nope".toList } xw
      = (.err .fileNotFound (some "/d/nope".toList), xw) :=
  (overlayN_five_missing xw_setting (ds := ["d".toList]) (n := "nope".toList)
    (by decide +kernel) (by unfold VAbsent; decide +kernel) 0).2.2.2.2

example : VPath.setModificationTime { fs := xfs, fsId := 0, path := "/d/nope".toList } 4 xw
      = (.err .fileNotFound (some "/d/nope".toList), xw) :=
  (overlayN_setters_missing xw_setting xw_inv (ds := ["d".toList]) (n := "nope".toList)
    (by decide +kernel) (by unfold VAbsent; decide +kernel) 0 4).2.1

/-- "/d" is a directory of the view (lower layers only), "/d/c" a file (layer 2 only) -/
example : (M.withPath "/d".toList (xfs.createDir "/d".toList) xw).1
      = .err .dirExists (some "/d".toList) :=
  (overlayN_createDir_occupied xw_setting xw_inv xw_viewWF (ds := []) (n := "d".toList)
    (by decide +kernel) (by decide +kernel)).2 (by decide +kernel)

example : (M.withPath "/d/c".toList (xfs.createDir "/d/c".toList) xw).1
      = .err .fileExists (some "/d/c".toList) :=
  (overlayN_createDir_occupied xw_setting xw_inv xw_viewWF (ds := ["d".toList]) (n := "c".toList)
    (by decide +kernel) (by decide +kernel)).1 ⟨C09.fileOf [67], by decide +kernel, rfl⟩

end examples

end Vfs.C12

