/-
  C02 for stackings, continued — "MemoryFS is a faithful stand-in for PhysicalFS" for the file
  transfers (`copy_file`, `append_file` of an overlay = copy-up) and what can be said about the
  operations that iterate over listings.  Builds on Props/C02Stack.lean (class-level simulation
  `CSim RCore KRel Q`) and Proofs/ClassSimIter.lean.

  * `StackI fs` : the stackings of `C02.Stack` with the model's reading of `Arc` identity made
    explicit for overlays: a layer that carries the write layer's `fsId` carries the write
    layer's filesystem value (`Compat`).  True of every real program, and needed: `copy_file`
    takes the same-filesystem fast path when the two `fsId`s are equal, and the copy-up of an
    overlay copies from a lower layer to the write layer.
  * `OpX` : the operations of `C02.Op` plus `copy_file s d` and append sessions on EVERY stacking
    (overlays included).  `OpX.Pre` : the precondition of a call in the memory-side world in
    which it is made: for `copy_file s d`, "`metadata s` does not answer directory" (`NotDirAt`).

  * `copy_agree` : `copy_file s d` on any `StackI` stacking, `s`, `d` canonical: from `RCore`
    related worlds in which `s` is not a directory (file, absent, below a file, …; destination
    arbitrary: existing, parent missing, parent a file) the two runs return outcomes in the same
    class and end in `RCore`-related worlds.  On leaves the memory side runs the generic
    open/create/copy route and the physical side `std::fs::copy`.
    `copy_agree_isFile` : the hypothesis in the form `is_file(s) = Ok(true)`;
    `copy_guarded_agree` : `is_file(s)` as a guard IN the program (no hypothesis on the worlds).
    The form `is_dir(s) = Ok(false)` of `copy_stmt` in Props/C02Stack.lean additionally needs
    "`metadata` succeeds only where `exists` says yes" for every stacking, which is not proved.
    `copy_cross_agree` : source and destination on two different stackings (different `fsId`).
  * `append_agree` : append sessions (`append_file`, any list of writes, drop) on every `StackI`
    stacking — for an overlay this is the copy-up from a FILE source (a directory source is
    refused by the overlay's own `is_file` guard before `copy_file` is reached).
  * `stackX_agree`, `stackX_history_agree`, `stackX_from_empty` : `stack_agree` /
    `stack_history_agree` extended with these operations; for histories the precondition of
    each call is required in the memory-side world in which the call is made (`HistPre`).
  * `perm_commute`, `iter_perm` : order-insensitivity of iteration, abstractly; the hypotheses
    (H2)/(H3) are not discharged for stackings.  `removeChildren_eq`, `namesSet_perm` : the loop
    of `remove_dir_all` is such an iteration, and set-equal duplicate-free listings are
    permutations.
  * `ex_copy_outcomes`, `ex_iter_agrees` (kernel-evaluated): `copy_file`, an append session
    through the overlay, `copy_dir` and `remove_dir_all` on the altroot over the two-layer
    overlay, memory against physical: same outcomes, `CoreEq` leaves.

  Stated and not proved (`…_stmt`):
  * `move_stmt` — `move_file`.  On a leaf the memory side removes the source while the bytes are
    pending in the destination handle and the physical side renames; through an altroot and an
    overlay the generic route runs on both sides with an OPEN destination handle across
    `remove_file(source)` (for an overlay: across the whole whiteout bookkeeping, which contains
    a second `create_file` session).  The closed-session interface `SimC`/`SimW` cannot express
    this; it needs a frame statement ("the interlude does not touch the file the handle is
    writing").  A candidate divergence (destination = the whiteout marker of the source) does
    NOT diverge: the marker hides the source, both sides fail with not-found (`ex_move_marker`).
  * `iter_stmt` (Props/C02Stack.lean) — `remove_dir_all`, `copy_dir`, `move_dir`, `walk_dir`:
    the commutation of the per-child steps on one side (up to storage order and timestamps) is
    not proved for arbitrary stackings; for an overlay two sibling removals share the whiteout
    directory.  Moreover `RCore` does not say that the keys of the PHYSICAL map are
    duplicate-free (it constrains lookups only), so a physical listing may in principle repeat a
    name, in which case `remove_dir_all` fails on the physical side only: `iter_stmt` needs
    `RCore` strengthened by `NodupKeys` on both sides.  In the failure case nothing can be
    claimed call by call: the operations are not atomic, the two sides stop after different
    prefixes of their (differently ordered) listings, and the worlds then differ in how far the
    operation got.  The property's phrase "resulting observable tree" is about completed calls.
    (A memory leaf against a physical leaf: Props/C02Composite.lean.)
  * `overlayW_stmt` — overlays as WRITE layers of overlays: `SimW` for an overlay needs, besides
    the append session proved here, `createClear` (the overlay's own `remove_file` — with its
    nested whiteout session — run while a handle is open: the same frame problem as
    `move_file`) and `clearT`.
-/
import VfsModel.Proofs.ClassSimIter
import VfsModel.Props.C02Stack
namespace Vfs.C02

inductive StackI : FS → Prop
  | w {fs : FS} : StackW fs → StackI fs
  | altroot {fs : FS} (id : Nat) (root : Str) : StackI fs → Canon root →
      StackI (Altroot.fs { fs := fs, fsId := id, path := root })
  | overlay (layers : List VPath) : StackW (Overlay.writeLayer layers).fs →
      (∀ l ∈ layers, StackI l.fs) → (∀ l ∈ layers, Canon l.path) →
      Canon (Overlay.writeLayer layers).path →
      (∀ l ∈ layers, Compat l (Overlay.writeLayer layers)) → StackI (Overlay.fs layers)

theorem stackI_stack {fs : FS} (h : StackI fs) : Stack fs := by
  induction h with
  | w hw => exact .w hw
  | altroot id root _ hroot ih => exact .altroot id root ih hroot
  | overlay layers hw _ hc hwc _ ih => exact .overlay layers hw ih hc hwc

theorem stackW_all {fs : FS} (h : StackW fs) : SimX RCore fs fs ∧ Tame fs := by
  induction h with
  | leaf i => exact ⟨leaf_simX i, leaf_tame i⟩
  | altroot id root _ hroot ih =>
    exact ⟨Altroot.simX ⟨ih.1, rfl, hroot, rfl, ih.2⟩, Altroot.tame ih.2⟩

/-- **every stacking is related to itself for the transfers and the append sessions** -/
theorem stackI_all {fs : FS} (h : StackI fs) :
    SimX RCore fs fs ∧ Tame fs ∧ SimA RCore fs fs := by
  induction h with
  | w hw =>
    exact ⟨(stackW_all hw).1, (stackW_all hw).2, fun p s hp => (stackW_simW hw).appendSession p s hp⟩
  | altroot id root _ hroot ih =>
    exact ⟨Altroot.simX ⟨ih.1, rfl, hroot, rfl, ih.2.1⟩, Altroot.tame ih.2.1,
      Altroot.simA rfl hroot ih.2.2⟩
  | overlay layers hw _ hcanon hwc hcompat ih =>
    have hLL : ListRel (SimVX RCore) layers layers :=
      ListRel.diag layers fun x hx => ⟨(ih x hx).1, rfl, hcanon x hx, rfl, (ih x hx).2.1⟩
    have hW : SimVW RCore (Overlay.writeLayer layers) (Overlay.writeLayer layers) :=
      ⟨stackW_simW hw, rfl, hwc⟩
    have hWX : SimVX RCore (Overlay.writeLayer layers) (Overlay.writeLayer layers) :=
      ⟨(stackW_all hw).1, rfl, hwc, rfl, (stackW_all hw).2⟩
    exact ⟨Overlay.simX hLL hW hWX hcompat hcompat, Overlay.tame1 hLL hWX,
      fun p s hp => Overlay.sim_appendSession hLL hW hWX hcompat hcompat hp s⟩

/-- **`copy_file` on every stacking**, the source not a directory of the memory side -/
theorem copy_agree {fs : FS} (hs : StackI fs) (id : Nat) (s d : Str) (hsc : Canon s) (hdc : Canon d) :
    CSimP (NotDirAt fs s) RCore KRel (· = ·)
      (VPath.copyFile { fs := fs, fsId := id, path := s } { fs := fs, fsId := id, path := d })
      (VPath.copyFile { fs := fs, fsId := id, path := s } { fs := fs, fsId := id, path := d }) :=
  (stackI_all hs).1.copyV id s d hsc hdc

/-- source and destination on two different stackings -/
theorem copy_cross_agree {fs fd : FS} (hs : StackI fs) (hd : StackI fd) (ids idd : Nat)
    (hne : ids ≠ idd) (s d : Str) (hsc : Canon s) (hdc : Canon d) :
    CSimP (NotDirAt fs s) RCore KRel (· = ·)
      (VPath.copyFile { fs := fs, fsId := ids, path := s } { fs := fd, fsId := idd, path := d })
      (VPath.copyFile { fs := fs, fsId := ids, path := s } { fs := fd, fsId := idd, path := d }) :=
  VPath.sim_copyFile (s1 := { fs := fs, fsId := ids, path := s }) (s2 := { fs := fs, fsId := ids, path := s })
    (d1 := { fs := fd, fsId := idd, path := d }) (d2 := { fs := fd, fsId := idd, path := d })
    ⟨(stackI_all hs).1, rfl, hsc, rfl, (stackI_all hs).2.1⟩
    ⟨(stackI_all hd).1.toSimC, rfl, hdc⟩ (stackI_all hd).2.1 rfl
    (fun h => absurd h hne) (fun h => absurd h hne)

/-- the hypothesis in the form "`is_file(s)` answered yes" (observers are pure) -/
theorem copy_agree_isFile {fs : FS} (hs : StackI fs) (id : Nat) (s d : Str) (hsc : Canon s)
    (hdc : Canon d) (w1 w2 : World) (hr : RCore w1 w2)
    (hf : (VPath.isFile { fs := fs, fsId := id, path := s } w1).1 = .ok true) :
    CRes KRel (· = ·)
      (VPath.copyFile { fs := fs, fsId := id, path := s } { fs := fs, fsId := id, path := d } w1).1
      (VPath.copyFile { fs := fs, fsId := id, path := s } { fs := fs, fsId := id, path := d } w2).1 ∧
    RCore
      (VPath.copyFile { fs := fs, fsId := id, path := s } { fs := fs, fsId := id, path := d } w1).2
      (VPath.copyFile { fs := fs, fsId := id, path := s } { fs := fs, fsId := id, path := d } w2).2 :=
  copy_agree hs id s d hsc hdc w1 w2 hr
    (isFile_true_notDir (v := { fs := fs, fsId := id, path := s }) (stackI_all hs).2.1 w1 hf)

/-- the guarded form (what `OverlayFS::append_file` runs): no hypothesis on the worlds -/
theorem copy_guarded_agree {fs : FS} (hs : StackI fs) (id : Nat) (s d : Str) (hsc : Canon s)
    (hdc : Canon d) :
    CSim RCore KRel (· = ·)
      (VPath.isFile { fs := fs, fsId := id, path := s } >>= fun isf =>
        if (!isf) = true then M.failK .other
        else VPath.copyFile { fs := fs, fsId := id, path := s } { fs := fs, fsId := id, path := d })
      (VPath.isFile { fs := fs, fsId := id, path := s } >>= fun isf =>
        if (!isf) = true then M.failK .other
        else VPath.copyFile { fs := fs, fsId := id, path := s } { fs := fs, fsId := id, path := d }) :=
  sim_guardedCopy (s1 := { fs := fs, fsId := id, path := s }) (s2 := { fs := fs, fsId := id, path := s })
    (d1 := { fs := fs, fsId := id, path := d }) (d2 := { fs := fs, fsId := id, path := d })
    ⟨(stackI_all hs).1, rfl, hsc, rfl, (stackI_all hs).2.1⟩ ⟨(stackI_all hs).1.toSimC, rfl, hdc⟩
    (stackI_all hs).2.1 rfl (fun _ => rfl) (fun _ => rfl)

/-- **append sessions, overlays included** (copy-up from a FILE source) -/
theorem append_agree {fs : FS} (hs : StackI fs) (id : Nat) (p : Str) (hp : Canon p) (s : List Bytes) :
    CSim RCore KRel (· = ·)
      (VPath.appendSession { fs := fs, fsId := id, path := p } s)
      (VPath.appendSession { fs := fs, fsId := id, path := p } s) :=
  VPath.sim_appendSession_of (v1 := ⟨fs, id, p⟩) (v2 := ⟨fs, id, p⟩) (stackI_all hs).2.2 rfl hp s

inductive OpX where
  | base (op : Op)
  | copyFile (s d : Str)
  | append (p : Str) (script : List Bytes)

def OpX.run (fs : FS) (id : Nat) : OpX → M Val
  | .base op => op.run fs id
  | .copyFile s d =>
    VPath.copyFile { fs := fs, fsId := id, path := s } { fs := fs, fsId := id, path := d } >>= fun _ => pure .unit
  | .append p s => VPath.appendSession { fs := fs, fsId := id, path := p } s >>= fun _ => pure .unit

def OpX.Valid (fs : FS) : OpX → Prop
  | .base op => op.Valid fs
  | .copyFile s d => Canon s ∧ Canon d
  | .append p _ => Canon p

def OpX.Pre (fs : FS) : OpX → World → Prop
  | .copyFile s _, w => NotDirAt fs s w
  | _, _ => True

/-- **C02 for every stacking, transfers and append sessions included** -/
theorem stackX_agree {fs : FS} (hs : StackI fs) (id : Nat) (op : OpX) (hop : op.Valid fs) :
    CSimP (op.Pre fs) RCore KRel ValRel (op.run fs id) (op.run fs id) := by
  cases op with
  | base op => exact CSimP.of (stack_agree (stackI_stack hs) id op hop)
  | copyFile s d =>
    exact CSimP.bindR (copy_agree hs id s d hop.1 hop.2) fun _ _ _ => CSim.pure trivial
  | append p s =>
    exact CSimP.of (CSim.bind_eq (append_agree hs id p hop s) fun _ => CSim.pure trivial)

def runHistX (fs : FS) (id : Nat) : List OpX → World → List (Res Val) × World
  | [], w => ([], w)
  | op :: rest, w =>
    let r := op.run fs id w
    let t := runHistX fs id rest r.2
    (r.1 :: t.1, t.2)

def HistPre (fs : FS) (id : Nat) : List OpX → World → Prop
  | [], _ => True
  | op :: rest, w => op.Pre fs w ∧ HistPre fs id rest (op.run fs id w).2

/-- **every finite history**, transfers and append sessions included -/
theorem stackX_history_agree {fs : FS} (hs : StackI fs) (id : Nat) (ops : List OpX)
    (hops : ∀ op ∈ ops, op.Valid fs) (w1 w2 : World) (hr : RCore w1 w2)
    (hpre : HistPre fs id ops w1) :
    ListRel (CRes KRel ValRel) (runHistX fs id ops w1).1 (runHistX fs id ops w2).1 ∧
    RCore (runHistX fs id ops w1).2 (runHistX fs id ops w2).2 := by
  induction ops generalizing w1 w2 with
  | nil => exact ⟨.nil, hr⟩
  | cons op rest ih =>
    obtain ⟨h1, h2⟩ := stackX_agree hs id op (hops op (by simp)) w1 w2 hr hpre.1
    obtain ⟨i1, i2⟩ := ih (fun o ho => hops o (by simp [ho])) _ _ h2 hpre.2
    exact ⟨.cons h1 i1, i2⟩

theorem stackX_from_empty {fs : FS} (hs : StackI fs) (id n : Nat) (ops : List OpX)
    (hops : ∀ op ∈ ops, op.Valid fs) (hpre : HistPre fs id ops (memWorld n)) :
    ListRel (CRes KRel ValRel) (runHistX fs id ops (memWorld n)).1 (runHistX fs id ops (physWorld n)).1 ∧
    RCore (runHistX fs id ops (memWorld n)).2 (runHistX fs id ops (physWorld n)).2 :=
  stackX_history_agree hs id ops hops _ _ (rcore_init n) hpre

/-! ### order-insensitivity of iteration, abstractly

`forEach step l` is the shape of every loop over a listing in PathOps.lean (`removeChildren`, the
`for` loops of `copy_dir` / `move_dir`): run the step on each item in order, stop at the first
failure.  The two backends list a directory in different orders, so the two runs execute
`forEach step1 l1` and `forEach step2 l2` with `l1 ~ l2` (a permutation).  `iter_perm` reduces
"the completed runs end in related worlds" to (H1) the lock-step simulation of ONE step and, on the
right-hand side only, (H2) steps respect an equivalence `E` that `R` absorbs (storage order,
timestamps) and (H3) two successful steps commute up to `E`. -/

section iter
variable {ι : Type}

def forEach (step : ι → M Unit) : List ι → M Unit
  | [] => pure ()
  | c :: rest => step c >>= fun _ => forEach step rest

theorem forEach_cons (step : ι → M Unit) (c : ι) (rest : List ι) :
    forEach step (c :: rest) = step c >>= fun _ => forEach step rest := rfl

theorem forEach_cons_of_ok {step : ι → M Unit} {c : ι} {rest : List ι} {w : World}
    (h : (step c w).1 = .ok ()) :
    forEach step (c :: rest) w = forEach step rest (step c w).2 := bind_run_of_ok h

theorem forEach_cons_ok {step : ι → M Unit} {c : ι} {rest : List ι} {w : World}
    (h : (forEach step (c :: rest) w).1 = .ok ()) :
    (step c w).1 = .ok () ∧ forEach step (c :: rest) w = forEach step rest (step c w).2 :=
  have ⟨_, h1⟩ := ok_of_bind_ok h
  ⟨h1, forEach_cons_of_ok h1⟩

/-- (H2) a successful step stays successful on an `E`-equivalent world, with `E`-equivalent result -/
def RespectsE (E : World → World → Prop) (m : M Unit) : Prop :=
  ∀ w w', E w w' → (m w).1 = .ok () → (m w').1 = .ok () ∧ E (m w).2 (m w').2

/-- (H3) two successful steps commute up to `E` -/
def CommutesE (E : World → World → Prop) (m m' : M Unit) : Prop :=
  ∀ w, ((m >>= fun _ => m') w).1 = .ok () →
    ((m' >>= fun _ => m) w).1 = .ok () ∧ E ((m >>= fun _ => m') w).2 ((m' >>= fun _ => m) w).2

theorem forEach_respects {E : World → World → Prop} {step : ι → M Unit}
    (h2 : ∀ c, RespectsE E (step c)) (l : List ι) : RespectsE E (forEach step l) := by
  induction l with
  | nil => intro w w' he _; exact ⟨rfl, he⟩
  | cons c rest ih =>
    intro w w' he hok
    obtain ⟨h1, e1⟩ := forEach_cons_ok hok
    obtain ⟨h1', he'⟩ := h2 c w w' he h1
    rw [e1] at hok ⊢
    rw [forEach_cons_of_ok h1']
    exact ih _ _ he' hok

/-- **on one side**: a completed run over a list and over a permutation of it end `E`-equivalent -/
theorem perm_commute {E : World → World → Prop} (hrefl : ∀ w, E w w)
    (htrans : ∀ a b c, E a b → E b c → E a c) {step : ι → M Unit}
    (h2 : ∀ c, RespectsE E (step c)) (h3 : ∀ c c', c ≠ c' → CommutesE E (step c) (step c'))
    {l1 l2 : List ι} (hp : l1.Perm l2) :
    ∀ w, (forEach step l1 w).1 = .ok () →
      (forEach step l2 w).1 = .ok () ∧ E (forEach step l1 w).2 (forEach step l2 w).2 := by
  induction hp with
  | nil => intro w h; exact ⟨h, hrefl _⟩
  | cons x _ ih =>
    intro w h
    obtain ⟨h1, e1⟩ := forEach_cons_ok h
    rw [e1] at h ⊢
    rw [forEach_cons_of_ok h1]
    exact ih _ h
  | swap x y l =>
    intro w h
    by_cases hxy : y = x
    · subst hxy; exact ⟨h, hrefl _⟩
    · -- the run over `y :: x :: l`
      obtain ⟨hy, ey⟩ := forEach_cons_ok h
      rw [ey] at h
      obtain ⟨hx, ex⟩ := forEach_cons_ok h
      rw [ex] at h
      have two : ((step y >>= fun _ => step x) w) = step x (step y w).2 := bind_run_of_ok hy
      have hc := h3 y x hxy w (by rw [two]; exact hx)
      rw [two] at hc
      -- the run over `x :: y :: l`
      have ⟨_, hx'⟩ := ok_of_bind_ok hc.1
      have two'' : ((step x >>= fun _ => step y) w) = step y (step x w).2 := bind_run_of_ok hx'
      rw [two''] at hc
      rw [ey, ex, forEach_cons_of_ok hx', forEach_cons_of_ok hc.1]
      exact forEach_respects h2 l _ _ hc.2 h
  | trans _ _ ih1 ih2 =>
    intro w h
    obtain ⟨a1, a2⟩ := ih1 w h
    obtain ⟨b1, b2⟩ := ih2 w a1
    exact ⟨b1, htrans _ _ _ a2 b2⟩

theorem forEach_sim {R : World → World → Prop} {step1 step2 : ι → M Unit}
    (h1 : ∀ c, CSim R KRel (· = ·) (step1 c) (step2 c)) (l : List ι) :
    CSim R KRel (· = ·) (forEach step1 l) (forEach step2 l) := by
  induction l with
  | nil => exact CSim.pure rfl
  | cons c rest ih => exact CSim.bind_eq (h1 c) fun _ => ih

/-- simulation of the SUCCESS case only (what a recursive use needs: the hypothesis for the
children of a directory is again about completed runs) -/
def SuccSim (R : World → World → Prop) (m1 m2 : M Unit) : Prop :=
  ∀ w1 w2, R w1 w2 → (m1 w1).1 = .ok () → (m2 w2).1 = .ok () ∧ R (m1 w1).2 (m2 w2).2

theorem SuccSim.of_csim {R : World → World → Prop} {m1 m2 : M Unit}
    (h : CSim R KRel (· = ·) m1 m2) : SuccSim R m1 m2 := by
  intro w1 w2 hr hok
  obtain ⟨a1, a2⟩ := h w1 w2 hr
  rw [hok] at a1
  generalize (m2 w2).1 = r2 at a1
  cases a1 with
  | ok _ => exact ⟨rfl, a2⟩

theorem forEach_succ {R : World → World → Prop} {step1 step2 : ι → M Unit} (l : List ι)
    (h1 : ∀ c ∈ l, SuccSim R (step1 c) (step2 c)) :
    SuccSim R (forEach step1 l) (forEach step2 l) := by
  induction l with
  | nil => intro w1 w2 hr _; exact ⟨rfl, hr⟩
  | cons c rest ih =>
    intro w1 w2 hr hok
    obtain ⟨hc, e1⟩ := forEach_cons_ok hok
    obtain ⟨hc2, hr'⟩ := h1 c (by simp) w1 w2 hr hc
    rw [e1] at hok ⊢
    rw [forEach_cons_of_ok hc2]
    exact ih (fun x hx => h1 x (by simp [hx])) _ _ hr' hok

/-- **order-insensitivity of a completed iteration**: the left run over `l1` succeeds; then the
right run over ANY permutation `l2` succeeds and the final worlds are related.  (H1) is only
needed for the items of the list and only in the success case. -/
theorem iter_perm {R E : World → World → Prop} (hrefl : ∀ w, E w w)
    (htrans : ∀ a b c, E a b → E b c → E a c)
    (habs : ∀ w1 w2 w2', R w1 w2 → E w2 w2' → R w1 w2')
    {step1 step2 : ι → M Unit} {l1 l2 : List ι}
    (h1 : ∀ c ∈ l1, SuccSim R (step1 c) (step2 c))
    (h2 : ∀ c, RespectsE E (step2 c)) (h3 : ∀ c c', c ≠ c' → CommutesE E (step2 c) (step2 c'))
    (hp : l1.Perm l2) (w1 w2 : World) (hr : R w1 w2)
    (hok : (forEach step1 l1 w1).1 = .ok ()) :
    (forEach step2 l2 w2).1 = .ok () ∧ R (forEach step1 l1 w1).2 (forEach step2 l2 w2).2 := by
  obtain ⟨hok2, a2⟩ := forEach_succ l1 h1 w1 w2 hr hok
  obtain ⟨b1, b2⟩ := perm_commute hrefl htrans h2 h3 hp w2 hok2
  exact ⟨b1, habs _ _ _ a2 b2⟩

/-- `RCore` absorbs content-equivalence of the right-hand (physical) world: the `E` to use -/
def PhysEquiv (w w' : World) : Prop :=
  w.leaves.length = w'.leaves.length ∧ w.log = w'.log ∧ w.fault = w'.fault ∧ w.fired = w'.fired ∧
  ∀ i, match w.leaf? i, w'.leaf? i with
    | some l, some l' => l.kind = l'.kind ∧ CoreEq l.files l'.files
    | none, none => True
    | _, _ => False

theorem physEquiv_refl (w : World) : PhysEquiv w w := by
  refine ⟨rfl, rfl, rfl, rfl, fun i => ?_⟩
  cases w.leaf? i with
  | none => trivial
  | some l => exact ⟨rfl, CoreEq.refl _⟩

theorem rcore_absorbs (w1 w2 w2' : World) (hr : RCore w1 w2) (he : PhysEquiv w2 w2') : RCore w1 w2' := by
  obtain ⟨_, hlog, hfault, hfired, hleaf⟩ := he
  refine ⟨fun i => ?_, hr.log.trans hlog, hr.fault.trans hfault, hr.fired.trans hfired⟩
  have h2 := hleaf i
  rcases hr.at i with ⟨e1, e2⟩ | ⟨a, b, e1, e2, hab⟩ <;> rw [e2] at h2 <;> rw [e1] <;>
    cases e3 : w2'.leaf? i <;> rw [e3] at h2
  · trivial
  · exact absurd h2 id
  · exact absurd h2 id
  · exact ⟨rfl, h2.1.symm, hab.wf, fun k => (hab.core k).trans (h2.2 k), hab.keys⟩

theorem physEquiv_trans (a b c : World) (h1 : PhysEquiv a b) (h2 : PhysEquiv b c) : PhysEquiv a c := by
  obtain ⟨a1, a2, a3, a4, a5⟩ := h1
  obtain ⟨b1, b2, b3, b4, b5⟩ := h2
  refine ⟨a1.trans b1, a2.trans b2, a3.trans b3, a4.trans b4, fun i => ?_⟩
  have x := a5 i
  have y := b5 i
  cases e1 : a.leaf? i <;> cases e2 : b.leaf? i <;> cases e3 : c.leaf? i <;>
    rw [e1, e2] at x <;> rw [e2, e3] at y <;> simp only at x y ⊢ <;>
    first
      | trivial
      | exact absurd x id
      | exact absurd y id
      | exact ⟨x.1.trans y.1, fun k => (x.2 k).trans (y.2 k)⟩

/-- the hypotheses of `iter_perm` are jointly satisfiable with `R := RCore`, `E := PhysEquiv`
(steps that do nothing; the real instances are what is NOT proved) -/
example (w1 w2 : World) (hr : RCore w1 w2) :
    RCore (forEach (fun _ : Nat => (pure () : M Unit)) [1, 2, 3] w1).2
      (forEach (fun _ : Nat => (pure () : M Unit)) [3, 1, 2] w2).2 :=
  (iter_perm (R := RCore) (E := PhysEquiv) physEquiv_refl physEquiv_trans rcore_absorbs
    (step1 := fun _ : Nat => (pure () : M Unit)) (step2 := fun _ : Nat => (pure () : M Unit))
    (l1 := [1, 2, 3]) (l2 := [3, 1, 2])
    (fun c _ w1 w2 hr _ => ⟨rfl, hr⟩) (fun _ w w' he _ => ⟨rfl, he⟩)
    (fun c c' _ w _ => ⟨rfl, physEquiv_refl _⟩) (by decide) w1 w2 hr rfl).2

def childStep (fuel : Nat) (c : VPath) : M Unit :=
  c.metadata >>= fun md =>
    match md.ftype with
    | .file => c.removeFile
    | .dir => VPath.removeDirAll fuel c

theorem removeChildren_cons (fuel : Nat) (c : VPath) (rest : List VPath) :
    VPath.removeChildren fuel (c :: rest) =
      childStep fuel c >>= fun _ => VPath.removeChildren fuel rest := by
  rw [VPath.removeChildren.eq_2]
  unfold childStep
  rw [M.bind_assoc]
  congr 1
  funext md
  cases md.ftype <;> rfl

theorem removeChildren_eq (fuel : Nat) (l : List VPath) :
    VPath.removeChildren fuel l = forEach (childStep fuel) l := by
  induction l with
  | nil => unfold VPath.removeChildren forEach; rfl
  | cons c rest ih =>
    rw [forEach_cons, ← ih, removeChildren_cons]

theorem namesSet_perm {l1 l2 : List Str} (h : NamesSet l1 l2) (d1 : l1.Nodup) (d2 : l2.Nodup) :
    l1.Perm l2 := (List.perm_ext_iff_of_nodup d1 d2).2 h.1

end iter

/-! ### non-vacuity: the altroot over the two-layer overlay of Props/C02Stack.lean -/

theorem exStackI : StackI exFS :=
  StackI.altroot 20 [] (StackI.overlay exLayers (StackW.leaf 0)
    (forall_exLayers (.w (.leaf 0)) (.w (.leaf 1))) (forall_exLayers canon_nil canon_nil) canon_nil
    (forall_exLayers (fun _ => rfl) (fun h => absurd h (by decide)))) canon_nil

def pG : Str := "/d/g".toList
def pM : Str := "/.whiteout/x_wo".toList
def pY : Str := "/y".toList

/-- a history with a `copy_file` (file source, through the overlay: generic route on both
backends), an append session on the overlay (copy-up is not needed here: the file is in the write
layer) and reads -/
def exOpsX : List OpX :=
  [.base (.createDir pD), .base (.write pF ["ab".toUTF8.toList]), .copyFile pF pG,
   .append pG ["!".toUTF8.toList], .base (.read pG), .copyFile pX pE, .base (.createDir pD)]

theorem exX_valid : ∀ op ∈ exOpsX, op.Valid exFS := by
  have hG : Canon pG := ⟨["d".toList, "g".toList], by decide, by decide⟩
  intro op hop
  simp only [exOpsX, List.mem_cons, List.mem_nil_iff, or_false] at hop
  rcases hop with rfl | rfl | rfl | rfl | rfl | rfl | rfl
  · exact ⟨canon_pD, by decide⟩
  · exact ⟨canon_pF, trivial⟩
  · exact ⟨canon_pF, hG⟩
  · exact hG
  · exact ⟨hG, trivial⟩
  · exact ⟨canon_pX, canon_pE⟩
  · exact ⟨canon_pD, by decide⟩

theorem notDirAt_of_eval {fs : FS} {p : Str} {w : World}
    (h : (fs.metadata p w).1.isOk = false ∨ (fs.metadata p w).1.map (·.ftype) = .ok .file) :
    NotDirAt fs p w := by
  intro md hm
  rw [hm] at h
  rcases h with h | h
  · cases h
  · simp only [Res.map, Res.ok.injEq] at h
    exact h

/-- the preconditions of the two `copy_file` calls hold when they are made: "/d/f" is a file,
"/x" is absent -/
theorem exX_pre : HistPre exFS 20 exOpsX (memWorld 2) := by
  refine ⟨trivial, trivial, notDirAt_of_eval (Or.inr (by decide +kernel)), trivial, trivial,
    notDirAt_of_eval (Or.inl (by decide +kernel)), trivial, trivial⟩

example := stackX_from_empty exStackI 20 2 exOpsX exX_valid exX_pre

/-- what it says there, evaluated by the kernel: the copy is made, the append session gives "ab!"
on both backends, the copy of the absent "/x" fails with not-found on both, the repeated
`create_dir` with `DirExists` -/
theorem ex_copy_outcomes :
    (runHistX exFS 20 exOpsX (memWorld 2)).1 =
      [.ok .unit, .ok .unit, .ok .unit, .ok .unit, .ok (.bytes "ab!".toUTF8.toList),
       .err .fileNotFound (some pX), .err .dirExists (some pD)] ∧
    (runHistX exFS 20 exOpsX (physWorld 2)).1 =
      [.ok .unit, .ok .unit, .ok .unit, .ok .unit, .ok (.bytes "ab!".toUTF8.toList),
       .err .fileNotFound (some pX), .err .dirExists (some pD)] := by
  decide +kernel

/-- the iterating operations on the two concrete worlds (NOT covered by a theorem): a `copy_dir`
of a directory with two files and a `remove_dir_all`, through the altroot over the overlay -/
def exIter : M (List (Res Val)) := do
  let d : VPath := { fs := exFS, fsId := 20, path := pD }
  let f : VPath := { fs := exFS, fsId := 20, path := pF }
  let g : VPath := { fs := exFS, fsId := 20, path := pG }
  let e : VPath := { fs := exFS, fsId := 20, path := pE }
  let r1 ← M.attempt (d.createDir >>= fun _ => pure Val.unit)
  let r2 ← M.attempt (VPath.createSession f ["ab".toUTF8.toList] >>= fun _ => pure Val.unit)
  let r3 ← M.attempt (f.copyFile g >>= fun _ => pure Val.unit)
  let r4 ← M.attempt (Vfs.VPath.copyDir 8 d e >>= fun n => pure (Val.md .dir n))
  let r5 ← M.attempt (Vfs.VPath.removeDirAll 8 d >>= fun _ => pure Val.unit)
  let r6 ← M.attempt (d.exists_ >>= fun b => pure (Val.bool b))
  let r7 ← M.attempt (Vfs.VPath.removeDirAll 8 e >>= fun _ => pure Val.unit)
  pure [r1, r2, r3, r4, r5, r6, r7]

/-- same outcomes call by call (`copy_dir` returns the count 2 on both), and the final leaves
hold the same tree and bytes -/
theorem ex_iter_agrees :
    (exIter (memWorld 2)).1 = (exIter (physWorld 2)).1 ∧
    (exIter (memWorld 2)).1 = .ok [.ok .unit, .ok .unit, .ok .unit, .ok (.md .dir 2), .ok .unit,
      .ok (.bool false), .ok .unit] ∧
    ((exIter (memWorld 2)).2.leaves.zip (exIter (physWorld 2)).2.leaves).all
      (fun l => l.1.kind == .mem && l.2.kind == .phys && coreEqB l.1.files l.2.files) = true := by
  unfold exIter
  simp only [← C11.rmAllK_eq]
  decide +kernel

/-- `move_file` onto the whiteout-marker path of its own source, through the overlay: the marker
hides the source as soon as the destination is created, `remove_file(source)` answers not-found on
BOTH backends and the destination keeps the bytes on both — no divergence -/
def exMove : M (List (Res Unit) × Res Bytes) := do
  let x : VPath := { fs := exFS, fsId := 20, path := pX }
  let y : VPath := { fs := exFS, fsId := 20, path := pY }
  let m : VPath := { fs := exFS, fsId := 20, path := pM }
  let r1 ← M.attempt (VPath.createSession x ["ab".toUTF8.toList])
  let r2 ← M.attempt (VPath.createSession y ["q".toUTF8.toList])
  let r3 ← M.attempt y.removeFile
  let r4 ← M.attempt (x.moveFile m)
  let b ← M.attempt (VPath.readAll m)
  pure ([r1, r2, r3, r4], b)

theorem ex_move_marker :
    (exMove (memWorld 2)).1 = (exMove (physWorld 2)).1 ∧
    (exMove (memWorld 2)).1 =
      .ok ([.ok (), .ok (), .ok (), .err .fileNotFound (some pX)], .ok "ab".toUTF8.toList) := by
  decide +kernel

/-- `move_file` (not proved, see the header) -/
def move_stmt : Prop :=
  ∀ (fs : FS), StackI fs → ∀ (id : Nat) (s d : Str), Canon s → Canon d →
    CSimP (NotDirAt fs s) RCore KRel (· = ·)
      (Vfs.VPath.moveFile { fs := fs, fsId := id, path := s } { fs := fs, fsId := id, path := d })
      (Vfs.VPath.moveFile { fs := fs, fsId := id, path := s } { fs := fs, fsId := id, path := d })

/-- an overlay as the WRITE layer of another overlay (NOT PROVED: `createClear` and `clearT` of
`SimW`; the append session IS proved: `append_agree`) -/
def overlayW_stmt : Prop :=
  ∀ (layers : List VPath), StackI (Overlay.fs layers) →
    SimW RCore (Overlay.fs layers) (Overlay.fs layers)

/-- the success case of `remove_dir_all` (NOT PROVED: needs `RespectsE` / `CommutesE` of the child
steps on the physical side and duplicate-free listings, see `iter_perm`) -/
def removeDirAll_success_stmt : Prop :=
  ∀ (fs : FS), StackI fs → ∀ (id fuel : Nat) (s : Str), Canon s → s ≠ [] →
    ∀ w1 w2, RCore w1 w2 →
      (Vfs.VPath.removeDirAll fuel { fs := fs, fsId := id, path := s } w1).1 = .ok () →
      (Vfs.VPath.removeDirAll fuel { fs := fs, fsId := id, path := s } w2).1 = .ok () ∧
      RCore (Vfs.VPath.removeDirAll fuel { fs := fs, fsId := id, path := s } w1).2
        (Vfs.VPath.removeDirAll fuel { fs := fs, fsId := id, path := s } w2).2

#print axioms stackI_all
#print axioms copy_agree
#print axioms copy_cross_agree
#print axioms copy_agree_isFile
#print axioms copy_guarded_agree
#print axioms append_agree
#print axioms stackX_agree
#print axioms stackX_history_agree
#print axioms stackX_from_empty
#print axioms iter_perm
#print axioms perm_commute
#print axioms rcore_absorbs
#print axioms ex_copy_outcomes
#print axioms ex_iter_agrees
#print axioms ex_move_marker
#print axioms exX_pre

end Vfs.C02
