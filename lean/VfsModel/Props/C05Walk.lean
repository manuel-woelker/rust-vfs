/-
  C05 (traversal) — `VfsPath::walk_dir` on the in-memory backend yields every descendant exactly
  once, every directory before anything inside it, and the iteration terminates on every finite
  well-formed tree.

  Setting. `w` is a world whose leaf `i` is a memory leaf holding the flat map `m`
  (`MemLeafAt w i m`); `Wk.mk i id k` is the `VfsPath` `{ fs := leafFS i, fsId := id, path := k }`.
  `walkCollect fuel P` is `P.walk_dir()?` followed by collecting the iterator (`VPath.walkAll`,
  whose out-of-fuel outcome is the sentinel `.panic`). `Wk.below p k` says `k = p ++ "/" ++ t`
  for some `t` (k is a proper descendant of p by name; `below_iff`, `below_iff_under`).
  Hypotheses of the theorems: `WF m` (root is a directory, every other key has its parent present
  as a directory); `FMap.NodupKeys m`; p present as a directory. Nothing is assumed about the
  order in which the model lists the map.

    * `walk_observes_only` — for EVERY map (well-formed or not), every path, state and fuel:
        `walk_dir`, `next` and the collected walk leave the world exactly as it was, and the
        outcome of the collected walk is a list or the out-of-fuel sentinel, never an error.
    * `walk_terminates`, `walk_terminates_keys` — fuel > number of keys strictly below p suffices
        (in particular fuel = number of entries of the map): the outcome is `.ok`, not the sentinel.
        `walk_panic_iff` — this bound is exact.
    * `walk_spec`, `walk_result` — EVERY `.ok` outcome, whatever the fuel: world unchanged, the
        items are `.ok (mk k)` for a list L of path strings with L ~ (keys of m strictly below p)
        as a permutation, L without duplicates, and no path yielded before one of its ancestors.
    * `walk_items_ok`, `walk_complete_nodup`, `walk_dirs_first`, `walk_dir_before_content`,
        `walk_root_complete` — the clauses of C05 read off that list.
    * `walk_dir_not_dir` — on an absent path / a file `walk_dir` itself fails (not-found / other,
        path filled in) and there is no iterator.
    * `mem_treeView` — the memory leaf shows the tree `m.find?` (`WkG.TreeView`); the theorems
        above are `WkG.collect_outcome` / `WkG.collect_ok_inv` (Proofs/WalkGeneric.lean) at this view
        (`leaf_walk_of`, `walk_ok_inv`), read through the lemmas about `WkG.WalkOf`. The step-level
        statement is `WkG.walkNext_spec'`: from a state satisfying the invariant `Wk.Good`, one
        `next` either ends the walk with nothing pending or yields an `.ok` present key, keeps the
        invariant, removes exactly that key from the pending set, and nothing still pending is an
        ancestor of it.

  For the instances in other files: `vp fs id k` (a `VfsPath` on any filesystem), `okItemsOn`,
  `DescList v p D` (`D` lists the present proper descendants of `p` in the view `v`, each once;
  `descList_exists`, `descList_of_map`), `treeView_of_map` / `leaf_treeViewOn` / `leaf_treeView` (a
  leaf of either kind shows the tree of its map) with `leaf_walk_spec`, `leaf_walk_sentinel`.

  Not covered here: other backends (Props/C05WalkView.lean), the async iterator (Props/C15),
  concurrent mutation during the walk (the world is one fixed `w`).
-/
import VfsModel.Proofs.WalkGeneric
import VfsModel.Proofs.LeafRun
namespace Vfs.C05
open Wk

/-- `self.walk_dir()?` then collect the iterator (at most `fuel` calls of `next`) -/
def walkCollect (fuel : Nat) (p : VPath) : M (List (Res VPath)) := do
  let s ← p.walkDir
  VPath.walkAll fuel s

/-- the generic theory (Proofs/WalkGeneric.lean) speaks of `WkG.collect`, the same term -/
theorem walkCollect_eq_collect : walkCollect = WkG.collect := rfl

def okItems (i id : Nat) (L : List Str) : List (Res VPath) := L.map (fun k => .ok (mk i id k))

theorem mk_eq (i id : Nat) (k : Str) : mk i id k = { fs := leafFS i, fsId := id, path := k } := rfl

def descCount (m : FMap) (p : Str) : Nat := (m.keys.filter (below p)).length

theorem ne_none_iff {α} (o : Option α) : o ≠ none ↔ ∃ e, o = some e := by
  cases o <;> simp


theorem walkCollect_fuel_le {fuel fuel' : Nat} (hle : fuel ≤ fuel') (P : VPath) (w w' : World)
    (l : List (Res VPath)) (h : walkCollect fuel P w = (.ok l, w')) :
    walkCollect fuel' P w = (.ok l, w') :=
  WkG.collect_fuel_le hle P w w' l h

theorem names_of_map (m : FMap) (hk : FMap.NodupKeys m) (p : Str) :
    WkG.IsNames m.find? p (m.keys.filterMap (childName p)) :=
  ⟨filterMap_childName_nodup m p hk, fun n => by
    rw [_root_.Vfs.mem_children, FMap.contains_iff, ne_none_iff]⟩

theorem keys_below (m : FMap) (hk : FMap.NodupKeys m) (p : Str) :
    (m.keys.filter (below p)).Nodup ∧
      ∀ k, k ∈ m.keys.filter (below p) ↔ (m.find? k ≠ none ∧ below p k = true) :=
  ⟨List.Pairwise.filter _ hk, fun k => by rw [List.mem_filter, FMap.mem_keys_iff, ne_none_iff]⟩

abbrev vp (fs : FS) (id : Nat) (k : Str) : VPath := { fs := fs, fsId := id, path := k }

def okItemsOn (fs : FS) (id : Nat) (L : List Str) : List (Res VPath) :=
  L.map (fun k => .ok (vp fs id k))

/-- `D` enumerates, without duplicates, the present paths strictly below `p` -/
def DescList (v : Str → Option Entry) (p : Str) (D : List Str) : Prop :=
  D.Nodup ∧ ∀ k, k ∈ D ↔ (v k ≠ none ∧ below p k = true)

theorem DescList.length_eq {v : Str → Option Entry} {p : Str} {D D' : List Str}
    (h : DescList v p D) (h' : DescList v p D') : D.length = D'.length :=
  ((List.perm_ext_iff_of_nodup h.1 h'.1).2 (fun k => by rw [h.2 k, h'.2 k])).length_eq

theorem descList_of_map (m : FMap) (hk : FMap.NodupKeys m) (p : Str) :
    DescList m.find? p (m.keys.filter (below p)) :=
  keys_below m hk p

open Vfs.WkG (TreeViewOn) in
theorem descList_exists {fs : FS} {S : World → Prop} {v : Str → Option Entry}
    (tv : TreeViewOn fs S v) (p : Str) : ∃ D, DescList v p D := by
  obtain ⟨m, rfl, _, hk⟩ := WkG.exists_map tv.finite tv.root tv.parent
  exact ⟨_, descList_of_map m hk p⟩

/-- a filesystem whose `read_dir` / `metadata` are those of the well-formed map `m`, and leave the
world alone, shows the tree `m.find?` -/
theorem treeView_of_map {fs : FS} {w : World} {m : FMap} (hwf : WF m) (hk : FMap.NodupKeys m)
    (hrd : ∀ p e, m.find? p = some e → e.ftype = .dir →
      fs.readDir p w = (.ok (m.keys.filterMap (childName p)), w))
    (hmd : ∀ p e, m.find? p = some e →
      ∃ md, fs.metadata p w = (.ok md, w) ∧ md.ftype = e.ftype) :
    WkG.TreeView fs w m.find? where
  finite := ⟨m.keys, fun k hk' => (FMap.mem_keys_iff m k).2 ((ne_none_iff _).1 hk')⟩
  root := hwf.1
  parent := hwf.2
  readDir := by
    intro w' hw' p e hp hd
    cases hw'
    exact ⟨_, _, hrd p e hp hd, rfl, names_of_map m hk p⟩
  metadata := by
    intro w' hw' p e hp
    cases hw'
    obtain ⟨md, h1, h2⟩ := hmd p e hp
    exact ⟨md, _, h1, rfl, h2⟩

/-- **a leaf of either kind shows the tree of its map**, in every world of a set `S` in which the
leaf holds that map -/
theorem leaf_treeViewOn (i : Nat) (kd : LeafKind) {m : FMap} (hwf : WF m) (hk : FMap.NodupKeys m)
    {S : World → Prop} (hS : ∀ w, S w → LeafAt w i kd m) : WkG.TreeViewOn (leafFS i) S m.find? where
  finite := ⟨m.keys, fun q hq => (FMap.mem_keys_iff m q).2 ((ne_none_iff _).1 hq)⟩
  root := hwf.1
  parent := hwf.2
  readDir w hw p e hp hd := ⟨_, _, (hS w hw).readDir_dir hwf hp hd, hw, names_of_map m hk p⟩
  metadata w hw p e hp := by
    obtain ⟨md, h1, h2⟩ := (hS w hw).metadata_present hwf hp
    exact ⟨md, _, h1, hw, h2⟩

section leaf
variable {w : World} {i : Nat} {kd : LeafKind} {m : FMap} (h : LeafAt w i kd m) (hwf : WF m)
  (hk : FMap.NodupKeys m) (id : Nat) (p : Str)
include h hwf

omit hk in
theorem leaf_refuses : WkG.Refuses (leafFS i) (fun w' => w' = w) m.find? (fun _ => True) := by
  rintro w' rfl q _ hnd
  obtain ⟨k', pth, hr⟩ := h.readDir_not_dir hwf hnd
  exact ⟨k', pth, w', hr, rfl⟩

include hk

theorem leaf_treeView : WkG.TreeView (leafFS i) w m.find? :=
  leaf_treeViewOn i kd hwf hk (fun _ hw => hw ▸ h)

/-- `WkG.collect_outcome_fixed` on a leaf: its observers leave the world alone -/
theorem leaf_walk_of (e : Entry) (hp : m.find? p = some e) (hdir : e.ftype = .dir) (fuel : Nat) :
    (descCount m p < fuel → ∃ L : List Str,
      walkCollect fuel (mk i id p) w = (.ok (okItems i id L), w) ∧ WkG.WalkOf m.find? p L) ∧
    (fuel ≤ descCount m p → walkCollect fuel (mk i id p) w = (.panic, w)) :=
  WkG.collect_outcome_fixed (P := mk i id p) (leaf_treeView h hwf hk) (keys_below m hk p) hp hdir
    fuel

/-- with more fuel than keys strictly below the directory `p`: an `.ok` list of `.ok` items, world
unchanged, exactly the keys strictly below `p`, each once, no path before one of its ancestors -/
theorem leaf_walk_spec (e : Entry) (hp : m.find? p = some e) (hdir : e.ftype = .dir) (fuel : Nat)
    (hf : descCount m p < fuel) :
    ∃ L : List Str, walkCollect fuel (mk i id p) w = (.ok (okItems i id L), w) ∧
      (∀ k, k ∈ L ↔ k ∈ m.keys ∧ below p k = true) ∧ L.Nodup ∧
      L.Pairwise (fun a b => below b a = false) := by
  obtain ⟨L, hrun, hL⟩ := (leaf_walk_of h hwf hk id p e hp hdir fuel).1 hf
  exact ⟨L, hrun, hL.mem_map, hL.nodup, hL.order⟩

/-- for ANY path string: the out-of-fuel sentinel is the outcome iff `p` is a directory and the
fuel does not exceed the number of its descendants; the world is unchanged -/
theorem leaf_walk_sentinel (fuel : Nat) :
    ((walkCollect fuel (mk i id p) w).1 = .panic ↔
      (∃ e, m.find? p = some e ∧ e.ftype = .dir) ∧ fuel ≤ descCount m p) ∧
    (walkCollect fuel (mk i id p) w).2 = w :=
  WkG.collect_sentinel_iff (P := mk i id p) (S := fun w' => w' = w) (leaf_treeView h hwf hk) rfl
    (keys_below m hk p) (leaf_refuses h hwf w rfl p trivial) fuel

end leaf

/-- **MemoryFS shows the tree of its map** -/
theorem mem_treeView {w : World} {i : Nat} {m : FMap} (h : MemLeafAt w i m) (hwf : WF m)
    (hk : FMap.NodupKeys m) : WkG.TreeView (leafFS i) w m.find? :=
  leaf_treeView h.leafAt hwf hk

/-- `walk_dir`, `next` and the collected walk do not change the world — for every map, path,
state on the leaf and fuel; the collected walk never ends in an error (errors are items) -/
theorem walk_observes_only {w : World} {i : Nat} {m : FMap} (h : MemLeafAt w i m) :
    (∀ (P : VPath), P.fs = leafFS i → (P.walkDir w).2 = w ∧
        ∀ s0, (P.walkDir w).1 = .ok s0 → AllOn i s0.inner ∧ AllOn i s0.todo) ∧
    (∀ (s : VPath.Walk), AllOn i s.inner → AllOn i s.todo →
        ∃ r, VPath.walkNext s w = (.ok r, w) ∧ AllOn i r.2.inner ∧ AllOn i r.2.todo) ∧
    (∀ (fuel : Nat) (s : VPath.Walk), AllOn i s.inner → AllOn i s.todo →
        (VPath.walkAll fuel s w).2 = w ∧
        ((VPath.walkAll fuel s w).1 = .panic ∨ ∃ l, (VPath.walkAll fuel s w).1 = .ok l)) ∧
    (∀ (fuel : Nat) (P : VPath), P.fs = leafFS i → (walkCollect fuel P w).2 = w) := by
  have hdir : ∀ (P : VPath), P.fs = leafFS i → (P.walkDir w).2 = w ∧
      ∀ s0, (P.walkDir w).1 = .ok s0 → AllOn i s0.inner ∧ AllOn i s0.todo := by
    intro P hP
    unfold VPath.walkDir
    simp only [bind, M.bind]
    rw [run_vreadDir h P hP]
    cases hr : Mem.readDir m P.path with
    | panic => exact absurd hr (Mem.readDir_np m _)
    | err k p => exact ⟨rfl, by intro s0 hs; simp [Res.withPath, Res.map] at hs⟩
    | ok names =>
      refine ⟨rfl, ?_⟩
      intro s0 hs
      simp only [Res.withPath, Res.map, pure, M.pure, Res.ok.injEq] at hs
      subst hs
      refine ⟨?_, by intro x hx; cases hx⟩
      intro x hx
      simp only [List.mem_map] at hx
      obtain ⟨n, _, rfl⟩ := hx
      exact hP
  refine ⟨hdir, fun s => walkNext_frame h s, fun fuel s => walkAll_frame h fuel s, ?_⟩
  intro fuel P hP
  obtain ⟨h1, h2⟩ := hdir P hP
  unfold walkCollect
  simp only [bind, M.bind]
  rcases hr : P.walkDir w with ⟨r, w1⟩
  rw [hr] at h1 h2
  simp only at h1 h2
  subst h1
  cases r with
  | panic => rfl
  | err k p => rfl
  | ok s0 =>
    obtain ⟨a, b⟩ := h2 s0 rfl
    exact (walkAll_frame h fuel s0 a b).1

theorem descCount_lt_length (m : FMap) (p : Str) (e : Entry) (hp : m.find? p = some e) :
    descCount m p < m.length := by
  have hpk : p ∈ m.keys := (FMap.mem_keys_iff m p).2 ⟨e, hp⟩
  have : (m.keys.filter (below p)).length < m.keys.length :=
    List.length_filter_lt_length_iff_exists.2 ⟨p, hpk, by rw [below_irrefl]; simp⟩
  simpa [descCount, FMap.keys] using this


section walk
variable {w : World} {i : Nat} {m : FMap} (h : MemLeafAt w i m) (hwf : WF m)
  (hk : FMap.NodupKeys m) (id : Nat) (p : Str) (e : Entry) (hp : m.find? p = some e)
  (hdir : e.ftype = .dir)
include h hwf hk hp hdir

omit hwf hk in
theorem walkCollect_eq (fuel : Nat) :
    walkCollect fuel (mk i id p) w = VPath.walkAll fuel (st i id (children m p) []) w := by
  unfold walkCollect
  simp only [bind, M.bind, run_walkDir h id p e hp hdir]

theorem walk_ok_inv {fuel : Nat} {items : List (Res VPath)} {w' : World}
    (hrun : walkCollect fuel (mk i id p) w = (.ok items, w')) :
    w' = w ∧ ∃ L : List Str, items = okItems i id L ∧ WkG.WalkOf m.find? p L :=
  WkG.collect_ok_inv (P := mk i id p) (S := fun w' => w' = w) (mem_treeView h hwf hk) rfl
    (keys_below m hk p) hp hdir hrun

/-- with more fuel than keys strictly below p: an `.ok` list of `.ok` items, world unchanged,
exactly the keys strictly below p, each once, no path before one of its ancestors -/
theorem walk_spec (fuel : Nat) (hf : descCount m p < fuel) :
    ∃ L : List Str, walkCollect fuel (mk i id p) w = (.ok (okItems i id L), w) ∧
      (∀ k, k ∈ L ↔ k ∈ m.keys ∧ below p k = true) ∧ L.Nodup ∧
      L.Pairwise (fun a b => below b a = false) :=
  leaf_walk_spec h.leafAt hwf hk id p e hp hdir fuel hf

/-- termination: fuel > (number of keys strictly below p) — the sentinel is not reached -/
theorem walk_terminates (fuel : Nat) (hf : descCount m p < fuel) :
    ∃ L : List Str, walkCollect fuel (mk i id p) w = (.ok (okItems i id L), w) := by
  obtain ⟨L, h1, _⟩ := (leaf_walk_of h.leafAt hwf hk id p e hp hdir fuel).1 hf
  exact ⟨L, h1⟩

theorem walk_terminates_keys :
    ∃ L : List Str, walkCollect m.length (mk i id p) w = (.ok (okItems i id L), w) :=
  walk_terminates h hwf hk id p e hp hdir m.length (descCount_lt_length m p e hp)

/-- EVERY `.ok` outcome of the collected walk, whatever the fuel, is the right one -/
theorem walk_result (fuel : Nat) (items : List (Res VPath)) (w' : World)
    (hrun : walkCollect fuel (mk i id p) w = (.ok items, w')) :
    w' = w ∧ ∃ L : List Str, items = okItems i id L ∧
      L.Perm (m.keys.filter (below p)) ∧ L.Nodup ∧
      (∀ k, k ∈ L ↔ k ∈ m.keys ∧ below p k = true) ∧
      L.Pairwise (fun a b => below b a = false) := by
  obtain ⟨hw, L, hL, hW⟩ := walk_ok_inv h hwf hk id p e hp hdir hrun
  exact ⟨hw, L, hL, hW.perm_desc (keys_below m hk p), hW.nodup, hW.mem_map, hW.order⟩

theorem walk_fuel_irrelevant (fuel fuel' : Nat) (hf : descCount m p < fuel)
    (hf' : descCount m p < fuel') :
    walkCollect fuel (mk i id p) w = walkCollect fuel' (mk i id p) w := by
  obtain ⟨L, h1⟩ := walk_terminates h hwf hk id p e hp hdir (descCount m p + 1) (by omega)
  rw [walkCollect_fuel_le (show descCount m p + 1 ≤ fuel by omega) _ w w _ h1,
    walkCollect_fuel_le (show descCount m p + 1 ≤ fuel' by omega) _ w w _ h1]

/-- the bound is exact: the out-of-fuel sentinel is the outcome iff fuel ≤ #descendants -/
theorem walk_panic_iff (fuel : Nat) :
    (walkCollect fuel (mk i id p) w).1 = .panic ↔ fuel ≤ descCount m p :=
  WkG.collect_panic_iff (P := mk i id p) (S := fun w' => w' = w) (mem_treeView h hwf hk) rfl
    (keys_below m hk p) hp hdir fuel

/-- every item is `.ok`: a present key strictly below p, on the same filesystem -/
theorem walk_items_ok (fuel : Nat) (items : List (Res VPath)) (w' : World)
    (hrun : walkCollect fuel (mk i id p) w = (.ok items, w')) :
    ∀ it ∈ items, ∃ k, it = .ok (mk i id k) ∧ (∃ e', m.find? k = some e') ∧
      below p k = true := by
  obtain ⟨_, L, rfl, hW⟩ := walk_ok_inv h hwf hk id p e hp hdir hrun
  intro it hit
  obtain ⟨k, hkL, rfl⟩ := List.mem_map.1 hit
  obtain ⟨a, b⟩ := (hW.mem_map k).1 hkL
  exact ⟨k, rfl, (FMap.mem_keys_iff m k).1 a, b⟩

/-- every proper descendant of p exactly once, and nothing else -/
theorem walk_complete_nodup (fuel : Nat) (L : List Str) (w' : World)
    (hrun : walkCollect fuel (mk i id p) w = (.ok (okItems i id L), w')) :
    L.Perm (m.keys.filter (below p)) ∧ L.Nodup ∧
    (∀ k, k ∈ L ↔ (∃ e', m.find? k = some e') ∧ k ≠ p ∧ (k = p ∨ ∃ t, k = p ++ '/' :: t)) ∧
    (∀ k, (∃ e', m.find? k = some e') → k ≠ p → (k = p ∨ ∃ t, k = p ++ '/' :: t) →
      L.count k = 1) := by
  obtain ⟨_, L', hL, hW⟩ := walk_ok_inv h hwf hk id p e hp hdir hrun
  obtain rfl := WkG.items_inj (P := mk i id p) hL
  simp only [← ne_none_iff]
  exact ⟨hW.perm_desc (keys_below m hk p), hW.nodup, hW.mem_iff,
    fun k h1 h2 h3 => hW.count_one h1 ((below_iff_under p k).2 ⟨h2, h3⟩)⟩

/-- directories first, index form: a proper ancestor comes strictly earlier -/
theorem walk_dirs_first (fuel : Nat) (L : List Str) (w' : World)
    (hrun : walkCollect fuel (mk i id p) w = (.ok (okItems i id L), w'))
    (a b : Nat) (ha : a < L.length) (hb : b < L.length) (hab : below L[a] L[b] = true) :
    a < b := by
  obtain ⟨_, L', hL, hW⟩ := walk_ok_inv h hwf hk id p e hp hdir hrun
  obtain rfl := WkG.items_inj (P := mk i id p) hL
  exact WkG.dirs_first_index hW.order a b ha hb hab

/-- the C05 sentence: a directory is yielded before anything inside it — if k2 is yielded and
k1 (below p) is a proper ancestor of k2, the list splits as `… k1 … k2 …` -/
theorem walk_dir_before_content (fuel : Nat) (L : List Str) (w' : World)
    (hrun : walkCollect fuel (mk i id p) w = (.ok (okItems i id L), w'))
    (k1 k2 : Str) (h2 : k2 ∈ L) (hp1 : below p k1 = true) (h12 : below k1 k2 = true) :
    ∃ l1 l2 l3, L = l1 ++ k1 :: l2 ++ k2 :: l3 := by
  obtain ⟨_, L', hL, hW⟩ := walk_ok_inv h hwf hk id p e hp hdir hrun
  obtain rfl := WkG.items_inj (P := mk i id p) hL
  exact hW.dir_before_content (mem_treeView h hwf hk) h2 hp1 h12

end walk

/-- walking the root `""` of a well-formed map yields every key but the root, each once -/
theorem walk_root_complete {w : World} {i : Nat} {m : FMap} (h : MemLeafAt w i m) (hwf : WF m)
    (hk : FMap.NodupKeys m) (id : Nat) :
    ∃ L : List Str, walkCollect m.length (mk i id []) w = (.ok (okItems i id L), w) ∧
      L.Perm (m.keys.filter (fun k => decide (k ≠ []))) ∧ L.Nodup ∧
      (∀ a b (ha : a < L.length) (hb : b < L.length), below L[a] L[b] = true → a < b) := by
  obtain ⟨e, hp, hdir⟩ := hwf.1
  obtain ⟨L, hrun⟩ := walk_terminates_keys h hwf hk id [] e hp hdir
  obtain ⟨hperm, hnd, _, _⟩ := walk_complete_nodup h hwf hk id [] e hp hdir _ L w hrun
  refine ⟨L, hrun, ?_, hnd, fun a b ha hb =>
    walk_dirs_first h hwf hk id [] e hp hdir _ L w hrun a b ha hb⟩
  have : m.keys.filter (below []) = m.keys.filter (fun k => decide (k ≠ [])) :=
    List.filter_congr fun k hk' => by
      rw [Bool.eq_iff_iff, decide_eq_true_iff]
      exact below_root_iff hwf ((FMap.mem_keys_iff m k).1 hk')
  rw [← this]; exact hperm

theorem walk_dir_not_dir {w : World} {i : Nat} {m : FMap} (h : MemLeafAt w i m) (id : Nat)
    (p : Str) (hp : ∀ e, m.find? p = some e → e.ftype ≠ .dir) (fuel : Nat) :
    VPath.walkDir (mk i id p) w =
      (.err (if m.contains p then .other else .fileNotFound) (some p), w) ∧
    walkCollect fuel (mk i id p) w =
      (.err (if m.contains p then .other else .fileNotFound) (some p), w) :=
  WkG.collect_readDir_err fuel (mk i id p) w w _ none (run_readDir_fail h p hp)

/-! ### the scenario: depth 4, siblings a / ab / a.b, map order unrelated to the tree -/

def sampleW : FMap :=
  [ ("/a/x/y/z".toList, fileEntryNow), ("/ab/x".toList, fileEntryNow), ("/a.b".toList, dirEntryNow),
    ("/a/x".toList, dirEntryNow), ("/a".toList, dirEntryNow), ("/a/f".toList, fileEntryNow),
    ([], dirEntryNow), ("/ab".toList, dirEntryNow), ("/a/x/y".toList, dirEntryNow),
    ("/a.b/c".toList, fileEntryNow), ("/a/x/y/w".toList, dirEntryNow), ("/a/e".toList, dirEntryNow) ]

def worldW : World := { leaves := [{ kind := .mem, files := sampleW }] }

def pathsOf (r : Res (List (Res VPath)) × World) : Res (List (Res Str)) :=
  r.1.map (fun items => items.map (fun it => it.map (fun x => x.path)))

theorem sampleW_leaf : MemLeafAt worldW 0 sampleW := rfl
theorem sampleW_wf : WF sampleW := WF.of_check _ (by decide +kernel)
theorem sampleW_nodup : FMap.NodupKeys sampleW := by decide +kernel

/-- the walk of /a as the model computes it: the sibling prefixes /ab and /a.b stay out; the
empty directory /a/e is popped silently; /a/x/y comes after /a/x and before z and w -/
example : pathsOf (walkCollect 7 (mk 0 0 "/a".toList) worldW) =
    .ok [.ok "/a/x".toList, .ok "/a/f".toList, .ok "/a/e".toList, .ok "/a/x/y".toList,
         .ok "/a/x/y/z".toList, .ok "/a/x/y/w".toList] := by decide +kernel

/-- the walk of the root: all eleven keys but "" -/
example : pathsOf (walkCollect 12 (mk 0 0 []) worldW) =
    .ok [.ok "/a.b".toList, .ok "/a".toList, .ok "/ab".toList, .ok "/ab/x".toList,
         .ok "/a/x".toList, .ok "/a/f".toList, .ok "/a/e".toList, .ok "/a/x/y".toList,
         .ok "/a/x/y/z".toList, .ok "/a/x/y/w".toList, .ok "/a.b/c".toList] := by decide +kernel

/-- six keys lie strictly below /a: fuel 6 hits the sentinel, fuel 7 does not (`walk_panic_iff`) -/
example : descCount sampleW "/a".toList = 6 := by decide +kernel
example : pathsOf (walkCollect 6 (mk 0 0 "/a".toList) worldW) = .panic := by decide +kernel

/-- a file and an absent path: `walk_dir` itself fails -/
example : pathsOf (walkCollect 9 (mk 0 0 "/a/f".toList) worldW) = .err .other (some "/a/f".toList) := by
  decide +kernel
example : pathsOf (walkCollect 9 (mk 0 0 "/a/q".toList) worldW) =
    .err .fileNotFound (some "/a/q".toList) := by decide +kernel

example : ∃ L, walkCollect 7 (mk 0 0 "/a".toList) worldW = (.ok (okItems 0 0 L), worldW) :=
  walk_terminates sampleW_leaf sampleW_wf sampleW_nodup 0 "/a".toList dirEntryNow
    (by decide +kernel) rfl 7 (by decide +kernel)

example (L : List Str)
    (hrun : walkCollect 7 (mk 0 0 "/a".toList) worldW = (.ok (okItems 0 0 L), worldW)) :
    L.Perm (sampleW.keys.filter (below "/a".toList)) ∧ L.Nodup :=
  let r := walk_complete_nodup sampleW_leaf sampleW_wf sampleW_nodup 0 "/a".toList dirEntryNow
    (by decide +kernel) rfl 7 L worldW hrun
  ⟨r.1, r.2.1⟩

example : sampleW.keys.filter (below "/a".toList) =
    ["/a/x/y/z".toList, "/a/x".toList, "/a/f".toList, "/a/x/y".toList, "/a/x/y/w".toList,
     "/a/e".toList] := by decide +kernel

end Vfs.C05
