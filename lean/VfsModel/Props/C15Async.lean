/-
  C15, the async-only code: every function of the async port that is not a line-by-line port of its
  sync twin (table below; models VfsModel/AsyncHandle.lean, VfsModel/AsyncOps.lean). Claimed:
   * the async in-memory write handle `AWHandle` against the sync `WHandle`, poll by poll
     (`pollWrite_eq_sync`, `pollFlush_pending_stutters`, `pollFlush_ready_eq_sync`, `dropA_eq_sync`)
     and on whole scripts of write / flush / close / drop under every schedule: what has been
     returned and published is what the sync handle does on a prefix of the script
     (`driveW_prefix_of_sync`), on all of it once every flush has completed (`driveW_eq_sync`,
     `driveW_schedule_independent`);
   * a reader opened after a completed flush or after the drop sees exactly the buffer
     (`reader_after_flush`, `reader_after_drop`); nothing is published once the file is gone
     (`publish_after_removal`); create/append sessions are the sync sessions
     (`create_session_eq_sync`, `append_session_eq_sync`);
   * AsyncMemoryFS = MemoryFS modulo timestamps, method by method on the whole world
     (`aleafFS_eq_leafFS`, `aleafFS_openFile`);
   * async `copy_file` / `move_file`, where `async_std::io::copy` flushes the writer before the drop
     publishes again (`copyFileA_eq_copyFile`, `moveFileA_eq_moveFile_mem`);
   * the `while let … .next().await` loop under any schedule and AsyncOverlayFS::read_dir
     (`drain_safe`, `drain_complete`, `overlay_readDirA_eq_readDir`);
   * the async read handle polled with arbitrary buffer sizes (`chunksA_eq_sync`, `readerA_chunks`);
   * real differences, outside the property's operation set, each with a witness:
     `close_does_not_publish`, `async_memory_has_no_timestamps`,
     `async_physical_time_setters_need_tokio`.

  HYPOTHESES. "Corresponding worlds" = the async world is `ws.eraseTS`, the sync world `ws` with all
  timestamps forgotten (AsyncMemoryFile has no time fields). `MemLeaf ws i`: leaf `i`, if present,
  is an in-memory leaf. `pendings o ≤ k`, `k + |script| ≤ fuel`: the lock is found taken at most `k`
  times and the executor polls often enough. `RemovalCommutes src` for `move_file`. `reader_*`: the
  destination still exists as a file.

  NOT PROVED / OUTSIDE THE MODEL.
   * Here, the lifting through the adapters (an async overlay/altroot over AsyncMemoryFS leaves
     against the sync stacking): Props/C15Adapters.lean, with what is left open there. The record
     type `FS` fixes the writer type to the sync `WHandle`, whose drop stamps `modified := now`
     (unobservable through the async API; `amemPublish_eraseTS` is the bridge).
   * What other tasks do between a Pending poll and the next poll (that is C17's interleaving, not
     C15); the blocking `block_on(self.fs.write())` inside `Drop` (memory.rs:152) — it is modelled as
     "acquires the lock"; executors, wakers, `async_std::sync::RwLock` fairness; join errors of
     `spawn_blocking`; chunk sizes of `io::copy` / `read_to_string` (abstracted as on the sync side).
   * AsyncPhysicalFS beyond the classification and `blocking_io`.

  ------------------------------------------------------------------------------------------------
  TABLE: every function of the async port, against its sync twin.
    (i)  = line-by-line port: identical control flow modulo `async`/`.await`, `Async*` type names,
           `&*self.path` vs `&self.path`, `Arc<str>` vs `String`; the existing model of the sync
           function IS its model (for trait methods: the same function of the `FS` record).
    (ii) = structurally different: own model, named in the last column.
  Established by a mechanical diff of the two trees after deleting `.await`, `async`, `Async`, and by
  reading every remaining hunk.

  src/async_vfs/impls/memory.rs            sync twin src/impls/memory.rs
    AsyncMemoryFS::new 34-38, Default 88-92, Debug 26-30     (i)
    ensure_has_parent 43-54                (i)   verbatim (sync 41-52)                Mem.ensureHasParent
    list_dir 57-86                         (i)   verbatim (sync 55-84)                Mem.readDir
    AsyncWritableFile (struct) 94-98       (i)   same three fields (sync 92-96)       AWHandle
      — no `impl Seek` (sync 98-102): the async writer cannot seek (trait object `dyn Write`)
      poll_write 101-109                   (ii)  Cursor::poll_write, never Pending    AWHandle.pollWrite
      poll_flush 111-137                   (ii)  try_write → Pending; publishes without timestamps;
                                                 no clone-and-swap of the buffer      AWHandle.pollFlush
      poll_close 138-145                   (ii)  no sync twin; Cursor::poll_close; does not publish
                                                                                      AWHandle.pollClose
      Drop::drop 148-167                   (ii)  sync drop = flush (136-141); here: swap the buffer
                                                 out, block_on(write()), publish      AWHandle.dropA
    AsyncReadableFile 169-226 (len, poll_read, poll_seek)
                                           (ii)  other arithmetic than sync 143-194   C15.AsyncReader (Props/C15.lean)
    read_dir 230-237                       (i)   stream::iter instead of into_iter    AMem.readDir = Mem.readDir
    create_dir 239-261                     (ii)  entry without timestamps             AMem.createDir
    open_file 263-271                      (ii)  read lock, no access-time update     AMem.openFile
    create_file 273-293                    (ii)  entry without timestamps, writer     AMem.createFile(H)
    append_file 295-307                    (i)   `content.seek(End(0)).await` on the cursor (never
                                                 Pending); writer type differs        AMem.appendFile(H)
    metadata 309-320                       (ii)  None, None, None                     AMem.metadata
    set_creation_time / set_modification_time / set_access_time
                                           (ii)  ABSENT (sync 308-342): trait default NotSupported
                                                                                      aleafFS
    exists 322-324                         (i)                                        AMem.exists_
    remove_file 326-332                    (i)                                        AMem.removeFile = Mem.removeFile
    remove_dir 334-344                     (i)                                        AMem.removeDir = Mem.removeDir
    AsyncMemoryFsImpl::new 352-365         (ii)  root entry without timestamps        AMem.init
    ensure_file 480-485                    (i)

  src/async_vfs/impls/overlay.rs           sync twin src/impls/overlay.rs — every function (i):
    new 26-33, write_layer 35-37, read_path 39-57, write_path 59-64, whiteout_path 66-72,
    clear_whiteout 74-84, ensure_has_parent 86-100, create_dir 145-162, open_file 164-166,
    create_file 168-181, append_file 183-194, metadata 196-198, set_*_time 200-210, exists 212-228,
    remove_file 230-241, remove_dir 243-257 (`.next().await.is_some()` for `.next().is_some()`)
                                                                                      Overlay.*
    read_dir 105-143                       (i)/(ii) same statements in the same order; the two `for`
                                                 loops are `while let Some(p) = s.next().await`, the
                                                 result is `stream::iter(entries)`. Modelled
                                                 separately (item-by-item loops) and proved equal
                                                                                      Overlay.readDirA
  src/async_vfs/impls/altroot.rs           sync twin src/impls/altroot.rs — every function (i):
    new 24-26, path 31-39, read_dir 44-53 (`.map` on the stream), create_dir … remove_dir 55-100,
    copy_file 102-107; exists 87-92 writes `match … { Ok(p) => p.exists().await, Err(_) => Ok(false) }`
    for `.map(|p| p.exists()).unwrap_or(Ok(false))`: the same function                Altroot.*
  src/async_vfs/filesystem.rs              trait defaults 41-51, 59-69 (i) (NotSupported ×6)
  src/async_vfs/path.rs                    sync twin src/path.rs
    PathLike::get_path 38-40, eq 44-46, new 58-66, as_str 78-80, join 98-106, root 117-122,
    is_root 135-137, filename 644, extension 660, parent 678-690                       (i)  (no await)
    create_dir 160-166, create_dir_all 187-220, create_file 278-285, open_file 304-310,
    get_parent 312-330, append_file 349-355, remove_file 374-380, remove_dir 400-406,
    metadata 464-469, set_*_time 490-560, is_file 579-585, is_dir 605-611, exists 629-631   (i)
    read_dir 238-260                       (i)   + a stray `println!("{:?}", path)` per item (252):
                                                 writes to stdout, no effect on the filesystem
    remove_dir_all 427-441                 (i)   `#[async_recursion]`; `for` → `while let … .next().await`
    walk_dir 713-721                       (i)   three extra fields initialised to None
    WalkDirIterator::poll_next 1048-1110   (ii)                                       AsyncWalk.pollNext (Props/C15.lean)
    read_to_string 742-764                 (i)   `ReadExt::read_to_string` for `Read::read_to_string`
                                                 (both: read to the end in chunks)
    copy_file 784-830                      (ii)  `async_std::io::copy` flushes the writer (copy.rs:75)
                                                 before the drop publishes again       VPath.copyFileA
    move_file 849-897                      (ii)  the same; the flush precedes the removal of the
                                                 source, the drop follows it           VPath.moveFileA
    copy_dir 915-957                       (i)   the counter is returned from the async block instead
                                                 of captured; `for` → `while let`; nested copy_file
                                                 is the (ii) above
    move_dir 972-1021                      (i)   likewise
  src/async_vfs/impls/physical.rs          sync twin src/impls/physical.rs (classification only; the
                                           async-std / tokio runtime is outside the model)
    new 25-29 (`Pin<PathBuf>`), get_path 31-36                                         (i)
    blocking_io 41-62                      (ii)  no sync twin                          APhys.blockingIo
    read_dir 66-78                         (i)   `filter_map(|e| ready(e.ok()))`
    create_dir 80-97                       (i)   `match` for `map_err`, same cases
    open_file 99-101, create_file 103-105  (i)   async-std `File` (short / zero-length reads: runtime)
    append_file 107-115                    (i)   `.write(true).append(true)` for `.append(true)`
    metadata 117-135, exists 154-156, remove_file 158-161, remove_dir 163-166,
    copy_file 168-171, move_file 173-177, move_dir 179-186                             (i)
    set_modification_time 138-144, set_access_time 146-152
                                           (ii)  through blocking_io: NotSupported without a tokio
                                                 runtime                               APhys.setTime
    set_creation_time                      (i)   absent on both sides (trait default)
-/
import VfsModel.Proofs.AsyncLemmas
import VfsModel.Props.C15
import VfsModel.Props.C14
import VfsModel.Props.C04
namespace Vfs.C15
open Vfs.AsyncWalk (ask)

theorem askA_eq_ask : askA = ask := by
  funext o; cases o <;> rfl

theorem askA_pendings (o : List Bool) :
    pendings o = (if (askA o).1 then 1 else 0) + pendings (askA o).2 := by
  rw [askA_eq_ask]; exact ask_pendings o

/-! ### 1. the async write handle, poll by poll -/

/-- `poll_write` never returns `Pending`, leaves the world alone, and is the sync `write` -/
theorem pollWrite_eq_sync (h : AWHandle) (bs : Bytes) (wa ws : World) :
    h.pollWrite bs wa = (.ready (.ok bs.length), (h.pollWrite bs wa).2.1, wa) ∧
    h.toSync.write bs ws = (.ok (bs.length, (h.pollWrite bs wa).2.1.toSync), ws) :=
  ⟨rfl, rfl⟩

theorem pollFlush_eq (h : AWHandle) (o : List Bool) (w : World) :
    h.pollFlush o w =
      if (askA o).1 then (.pending, h, w, (askA o).2)
      else (.ready (.ok ()), h, (h.dropA w).2, (askA o).2) := by
  unfold AWHandle.pollFlush AWHandle.dropA
  rcases hq : askA o with ⟨b, o'⟩
  cases b
  · cases w.leaf? h.leaf <;> rfl
  · rfl

theorem pollFlush_pending_stutters (h h' : AWHandle) (o o' : List Bool) (w w' : World)
    (hp : h.pollFlush o w = (.pending, h', w', o')) :
    h' = h ∧ w' = w ∧ pendings o = pendings o' + 1 := by
  rw [pollFlush_eq] at hp
  have hc := askA_pendings o
  cases ha : (askA o).1 <;> simp [ha] at hp hc
  obtain ⟨rfl, rfl, rfl⟩ := hp
  exact ⟨rfl, rfl, by omega⟩

theorem dropA_eq_sync (h : AWHandle) (ws : World) :
    (h.dropA ws.eraseTS).2 = (h.toSync.drop ws).2.eraseTS := by
  rw [AWHandle.dropA_snd, WHandle.drop, WHandle.flush_eq]
  exact (World.publish_eraseTS ws _ _ _).symm

theorem pollFlush_ready_eq_sync (h h' : AWHandle) (o o' : List Bool) (ws wa' : World)
    (r : Res Unit) (hp : h.pollFlush o ws.eraseTS = (.ready r, h', wa', o')) :
    h' = h ∧ r = (h.toSync.flush ws).1 ∧ wa' = (h.toSync.flush ws).2.eraseTS ∧
    pendings o = pendings o' := by
  rw [pollFlush_eq] at hp
  have hc := askA_pendings o
  cases ha : (askA o).1 <;> simp [ha] at hp hc
  obtain ⟨rfl, rfl, rfl, rfl⟩ := hp
  refine ⟨rfl, (WHandle.drop_ok h.toSync ws).symm, dropA_eq_sync h ws, by omega⟩

theorem pollFlush_ready_when_free (h : AWHandle) (o : List Bool) (w : World)
    (hfree : pendings o = 0) : (h.pollFlush o w).1 = .ready (.ok ()) := by
  rw [pollFlush_eq]
  have hc := askA_pendings o
  cases ha : (askA o).1 <;> simp [ha] at hc ⊢
  omega

theorem pollClose_noop (h : AWHandle) (w : World) : h.pollClose w = (.ready (.ok ()), h, w) := rfl

/-- the pattern of `async_std::io::copy` followed by the end of the scope -/
theorem flush_then_drop (h : AWHandle) (w : World) :
    (h.dropA (h.dropA w).2).2 = (h.dropA w).2 := by
  simp only [AWHandle.dropA_snd]
  exact World.publish_twice w _ _ _ _ fun m => amemPublish_twice m _ _ _

theorem dropA_frame (h : AWHandle) (w : World) (j : Nat) (hj : j ≠ h.leaf) :
    (h.dropA w).2.leaf? j = w.leaf? j := by
  rw [AWHandle.dropA_snd]; exact World.leaf?_publish_ne w _ _ _ hj

/-! ### 2. whole scripts: the stuttering simulation -/

theorem pollOp_sim (h : AWHandle) (op : WOp) (o : List Bool) (ws : World) :
    (∃ o', h.pollOp op o ws.eraseTS = (none, ws.eraseTS, o') ∧ pendings o = pendings o' + 1) ∨
    (∃ out h' o', h.pollOp op o ws.eraseTS
          = (some (out, h'), (h.toSync.syncOp op ws).2.2.eraseTS, o') ∧
        h.toSync.syncOp op ws = (out, h'.map AWHandle.toSync, (h.toSync.syncOp op ws).2.2) ∧
        pendings o = pendings o') := by
  cases op with
  | write bs => exact .inr ⟨_, _, o, rfl, rfl, rfl⟩
  | close => exact .inr ⟨_, _, o, rfl, rfl, rfl⟩
  | drop =>
    refine .inr ⟨.dropped, none, o, ?_, rfl, rfl⟩
    simp only [AWHandle.pollOp, WHandle.syncOp, dropA_eq_sync]
  | flush =>
    have hc := askA_pendings o
    simp only [AWHandle.pollOp, pollFlush_eq]
    cases ha : (askA o).1
    · refine .inr ⟨.flushed (.ok ()), some h, (askA o).2, ?_, ?_, by simp [ha] at hc; omega⟩
      · simp only [Bool.false_eq_true, ↓reduceIte, dropA_eq_sync]
        rfl
      · simp only [WHandle.syncOp]
        rw [← WHandle.flush_ok h.toSync ws]
        rfl
    · exact .inl ⟨(askA o).2, by simp, by simp [ha] at hc; omega⟩

theorem syncRun_cons_some (h h' : WHandle) (op : WOp) (ops : List WOp) (ws ws' : World) (out : WOut)
    (hs : h.syncOp op ws = (out, some h', ws')) :
    h.syncRun (op :: ops) ws = (out :: (h'.syncRun ops ws').1, (h'.syncRun ops ws').2) := by
  simp only [WHandle.syncRun, hs]

theorem syncRun_cons_none (h : WHandle) (op : WOp) (ops : List WOp) (ws ws' : World) (out : WOut)
    (hs : h.syncOp op ws = (out, none, ws')) :
    h.syncRun (op :: ops) ws = ([out], ws') := by
  simp only [WHandle.syncRun, hs]

/-- SAFETY: under any schedule and after any number of polls, what the async handle has returned
and published is what the sync handle returns and publishes on a prefix of the script (the
completed calls) -/
theorem driveW_prefix_of_sync (fuel : Nat) (h : AWHandle) (ops : List WOp) (o : List Bool)
    (ws : World) :
    ∃ n, n ≤ ops.length ∧
      h.driveW fuel ops o ws.eraseTS
        = ((h.toSync.syncRun (ops.take n) ws).1, (h.toSync.syncRun (ops.take n) ws).2.eraseTS) := by
  induction fuel generalizing h ops o ws with
  | zero => exact ⟨0, Nat.zero_le _, by cases ops <;> rfl⟩
  | succ fuel ih =>
    cases ops with
    | nil => exact ⟨0, Nat.zero_le _, rfl⟩
    | cons op ops =>
      rcases pollOp_sim h op o ws with ⟨o', hp, _⟩ | ⟨out, h', o', hp, hs, _⟩
      · obtain ⟨n, hn, ihn⟩ := ih h (op :: ops) o' ws
        exact ⟨n, hn, by simp only [AWHandle.driveW, hp]; exact ihn⟩
      · cases h' with
        | none =>
          refine ⟨1, by simp, ?_⟩
          simp only [AWHandle.driveW, hp, List.take_succ_cons, List.take_zero]
          rw [syncRun_cons_none _ op [] ws _ out hs]
        | some h' =>
          obtain ⟨n, hn, ihn⟩ := ih h' ops o' (h.toSync.syncOp op ws).2.2
          refine ⟨n + 1, by simp [hn], ?_⟩
          simp only [AWHandle.driveW, hp, List.take_succ_cons, ihn]
          rw [syncRun_cons_some _ _ op (ops.take n) ws _ out hs]

/-- LIVENESS: `hk`: the lock is found taken at most `k` times; `hf`: the executor polls often enough -/
theorem driveW_eq_sync (k fuel : Nat) (h : AWHandle) (ops : List WOp) (o : List Bool) (ws : World)
    (hk : pendings o ≤ k) (hf : k + ops.length ≤ fuel) :
    h.driveW fuel ops o ws.eraseTS
      = ((h.toSync.syncRun ops ws).1, (h.toSync.syncRun ops ws).2.eraseTS) := by
  induction fuel generalizing k h ops o ws with
  | zero =>
    have : ops = [] := List.eq_nil_of_length_eq_zero (by omega)
    subst this; rfl
  | succ fuel ih =>
    cases ops with
    | nil => rfl
    | cons op ops =>
      simp only [List.length_cons] at hf
      rcases pollOp_sim h op o ws with ⟨o', hp, hc⟩ | ⟨out, h', o', hp, hs, hc⟩
      · simp only [AWHandle.driveW, hp]
        exact ih (k - 1) h (op :: ops) o' ws (by omega) (by simp only [List.length_cons]; omega)
      · cases h' with
        | none =>
          simp only [AWHandle.driveW, hp]
          rw [syncRun_cons_none _ op ops ws _ out hs]
        | some h' =>
          have := ih k h' ops o' (h.toSync.syncOp op ws).2.2 (by omega) (by omega)
          simp only [AWHandle.driveW, hp, this]
          rw [syncRun_cons_some _ _ op ops ws _ out hs]

theorem driveW_schedule_independent (k1 k2 f1 f2 : Nat) (h : AWHandle) (ops : List WOp)
    (o1 o2 : List Bool) (ws : World) (h1 : pendings o1 ≤ k1) (h2 : pendings o2 ≤ k2)
    (hf1 : k1 + ops.length ≤ f1) (hf2 : k2 + ops.length ≤ f2) :
    h.driveW f1 ops o1 ws.eraseTS = h.driveW f2 ops o2 ws.eraseTS := by
  rw [driveW_eq_sync k1 f1 h ops o1 ws h1 hf1, driveW_eq_sync k2 f2 h ops o2 ws h2 hf2]

/-! ### 3. what a reader sees: after a completed flush, after a drop, after a close -/

theorem dropA_world (h : AWHandle) (w : World) (l : Leaf) (hl : w.leaf? h.leaf = some l) :
    (h.dropA w).2 = w.setLeafFiles h.leaf (amemPublish l.files h.key h.buf) := by
  rw [AWHandle.dropA_snd, World.publish_of_leaf w _ _ _ hl]

theorem amemPublish_file (m : FMap) (k : Str) (b : Bytes) (e : Entry) (he : m.find? k = some e)
    (hf : e.ftype = .file) : amemPublish m k b = m.insert k (afileEntry b) := by
  simp [amemPublish, he, hf]

theorem open_after_publish (h : AWHandle) (w : World) (l : Leaf) (e : Entry)
    (hl : w.leaf? h.leaf = some l) (he : l.files.find? h.key = some e) (hf : e.ftype = .file) :
    (aleafFS h.leaf).openFile h.key (h.dropA w).2
      = (.ok { content := h.buf, pos := 0 }, (h.dropA w).2) := by
  rw [dropA_world h w l hl, amemPublish_file _ _ _ e he hf]
  simp only [aleafFS, onLeaf, World.setLeafFiles_same w h.leaf l _ hl, AMem.openFile,
    FMap.find?_insert_self, World.setLeafFiles_twice]
  simp [afileEntry]

/-- a reader opened after a completed flush sees exactly the bytes written so far; `he`, `hf`: the
file still exists as a file -/
theorem reader_after_flush (h h' : AWHandle) (o o' : List Bool) (w w' : World) (r : Res Unit)
    (l : Leaf) (e : Entry) (hp : h.pollFlush o w = (.ready r, h', w', o'))
    (hl : w.leaf? h.leaf = some l) (he : l.files.find? h.key = some e) (hf : e.ftype = .file) :
    r = .ok () ∧ (aleafFS h.leaf).openFile h.key w' = (.ok { content := h.buf, pos := 0 }, w') := by
  rw [pollFlush_eq] at hp
  cases ha : (askA o).1 <;> simp [ha] at hp
  obtain ⟨rfl, rfl, rfl, rfl⟩ := hp
  exact ⟨rfl, open_after_publish h w l e hl he hf⟩

theorem reader_after_drop (h : AWHandle) (w : World) (l : Leaf) (e : Entry)
    (hl : w.leaf? h.leaf = some l) (he : l.files.find? h.key = some e) (hf : e.ftype = .file) :
    (aleafFS h.leaf).openFile h.key (h.dropA w).2
      = (.ok { content := h.buf, pos := 0 }, (h.dropA w).2) :=
  open_after_publish h w l e hl he hf

theorem sync_reader_after_flush (h : AWHandle) (ws : World) (l : Leaf) (e : Entry)
    (hl : ws.leaf? h.leaf = some l) (hk : l.kind = .mem)
    (he : l.files.find? h.key = some e) (hf : e.ftype = .file) :
    ((leafFS h.leaf).openFile h.key (h.toSync.flush ws).2).1 = .ok { content := h.buf, pos := 0 } := by
  have hpub : memPublish l.files h.key h.buf = l.files.insert h.key
      { ftype := .file, content := h.buf, created := e.created, modified := .now,
        accessed := e.accessed } := by
    simp [memPublish, he, hf]
  simp only [WHandle.flush_eq, World.publish, AWHandle.toSync, if_true, hl, hpub, leafFS, onLeaf,
    World.setLeafFiles_same ws h.leaf l _ hl, hk, Mem.openFile, Mem.setAccessed,
    FMap.find?_insert_self]
  simp

/-- a flush or a drop after the file was removed (or replaced by a directory) publishes nothing -/
theorem publish_after_removal (h : AWHandle) (w : World) (l : Leaf)
    (hl : w.leaf? h.leaf = some l)
    (hgone : ∀ e, l.files.find? h.key = some e → e.ftype ≠ .file) : (h.dropA w).2 = w := by
  rw [dropA_world h w l hl]
  have : amemPublish l.files h.key h.buf = l.files := by
    unfold amemPublish
    cases he : l.files.find? h.key with
    | none => rfl
    | some e => simp [hgone e he]
  rw [this, World.setLeafFiles_self w h.leaf l hl]

theorem reader_after_close_unchanged (h : AWHandle) (w : World) (p : Str) :
    (aleafFS h.leaf).openFile p (h.pollClose w).2.2 = (aleafFS h.leaf).openFile p w := rfl

/-! ### 4. write sessions (C04/C14 for the async handle) -/

/-- the handle `create_file` returns buffers exactly the bytes of one `write` -/
theorem create_session_exactA (leaf : Nat) (key : Str) (bs : Bytes) (w : World) :
    ((({ leaf := leaf, key := key, buf := [], pos := 0 } : AWHandle).pollWrite bs w).2.1).buf = bs :=
  cursorWrite_nil bs

/-- the handle `append_file` returns starts at the end of the old bytes -/
theorem append_session_exactA (leaf : Nat) (key : Str) (old bs : Bytes) (w : World) :
    ((({ leaf := leaf, key := key, buf := old, pos := old.length } : AWHandle).pollWrite bs w).2.1).buf
      = old ++ bs :=
  C14.write_at_end old bs

def writeAllA (h : AWHandle) (w : World) : List Bytes → AWHandle
  | [] => h
  | bs :: rest => writeAllA (h.pollWrite bs w).2.1 w rest

/-- there is no seek on the async writer, so the cursor stays at the end and the buffer is the
concatenation of everything written, in order -/
theorem writes_concat (h : AWHandle) (w : World) (bss : List Bytes) (hpos : h.pos = h.buf.length) :
    (writeAllA h w bss).buf = h.buf ++ bss.flatten ∧
    (writeAllA h w bss).pos = (writeAllA h w bss).buf.length := by
  induction bss generalizing h with
  | nil => simp [writeAllA, hpos]
  | cons bs rest ih =>
    have hb : (h.pollWrite bs w).2.1.buf = h.buf ++ bs := by
      simp only [AWHandle.pollWrite, hpos]; exact C14.write_at_end h.buf bs
    have hp : (h.pollWrite bs w).2.1.pos = (h.pollWrite bs w).2.1.buf.length := by
      rw [hb]; simp [AWHandle.pollWrite, hpos]
    obtain ⟨i1, i2⟩ := ih (h.pollWrite bs w).2.1 hp
    exact ⟨by simp only [writeAllA, i1, hb, List.flatten_cons, List.append_assoc], i2⟩

/-! ### 5. AsyncMemoryFS against MemoryFS: the same function of the map once the timestamps are
forgotten -/

/-- `AMem.createDir` is the table of `Mem.createDir` followed by the erasure of what it puts -/
theorem AMem_createDir_eq (m : FMap) (p : Str) :
    AMem.createDir m p = onSlot m p ((Mem.createDirS (Mem.par m p) (m.find? p)).1,
      (Mem.createDirS (Mem.par m p) (m.find? p)).2.map Entry.eraseTS) := by
  unfold AMem.createDir Mem.createDirS onSlot
  rw [Mem.ensureHasParent_eq]
  cases Mem.par m p <;> cases m.find? p <;> rfl

theorem AMem_createFile_eq (m : FMap) (p : Str) :
    AMem.createFile m p = onSlot m p ((Mem.createFileS (Mem.par m p) (m.find? p)).1,
      (Mem.createFileS (Mem.par m p) (m.find? p)).2.map Entry.eraseTS) := by
  unfold AMem.createFile Mem.createFileS onSlot
  rw [Mem.ensureHasParent_eq]
  cases Mem.par m p
  · rfl
  · cases m.find? p with
    | none => rfl
    | some e => simp only [if_true]; split <;> rfl

theorem AMem_createDir_eraseTS (m : FMap) (p : Str) :
    AMem.createDir m.eraseTS p = ((Mem.createDir m p).1, (Mem.createDir m p).2.eraseTS) := by
  rw [AMem_createDir_eq, Mem.createDir_eq, homErase.par m (q := p) trivial]
  exact homErase.natural m (Mem.createDirS_natural homErase.ftype _) trivial

theorem AMem_createFile_eraseTS (m : FMap) (p : Str) :
    AMem.createFile m.eraseTS p = ((Mem.createFile m p).1, (Mem.createFile m p).2.eraseTS) := by
  rw [AMem_createFile_eq, Mem.createFile_eq, homErase.par m (q := p) trivial]
  exact homErase.natural m (Mem.createFileS_natural homErase.ftype _) trivial

theorem AMem_metadata_eraseTS (m : FMap) (p : Str) :
    AMem.metadata m.eraseTS p = (Mem.metadata m p).map Meta.eraseTS := by
  unfold AMem.metadata Mem.metadata
  rw [FMap.find?_eraseTS]
  cases m.find? p <;> rfl

theorem AMem_openFile_eraseTS (m : FMap) (p : Str) :
    AMem.openFile m.eraseTS p = (Mem.openFile m p).1 := by
  unfold AMem.openFile Mem.openFile Mem.setAccessed
  rw [FMap.find?_eraseTS]
  cases h : m.find? p with
  | none => rfl
  | some e =>
    simp only [Option.map_some, Entry.eraseTS_ftype, FMap.find?_insert_self]
    by_cases hf : e.ftype = .file <;> simp [hf]

/-- … the sync `open_file` only records an access time: as a function of the key, the map without
timestamps is unchanged (in the model the re-inserted entry moves to the front of the association
list, which stands for the unobservable HashMap order; this is why this one statement is
extensional) -/
theorem Mem_openFile_world_eraseTS (m : FMap) (p k : Str) :
    (Mem.openFile m p).2.eraseTS.find? k = m.eraseTS.find? k := by
  rw [Mem.openFile_eq]
  refine Write.find?_app_eraseTS m p _ ?_ k
  cases m.find? p <;> rfl

theorem Mem_setTimes_world_eraseTS (m : FMap) (p k : Str) (t : TS) :
    (Mem.setCreated m p t).2.eraseTS.find? k = m.eraseTS.find? k ∧
    (Mem.setModified m p t).2.eraseTS.find? k = m.eraseTS.find? k ∧
    (Mem.setAccessed m p t).2.eraseTS.find? k = m.eraseTS.find? k := by
  have key : ∀ upd : Entry → Entry, (∀ e, (upd e).eraseTS = e.eraseTS) →
      (onSlot m p (Mem.setS upd (m.find? p))).2.eraseTS.find? k = m.eraseTS.find? k :=
    fun upd hu => Write.find?_app_eraseTS m p _
      (by cases m.find? p with
          | none => rfl
          | some e => exact congrArg some (hu e)) k
  rw [Mem.setCreated_eq, Mem.setModified_eq, Mem.setAccessed_eq]
  exact ⟨key _ fun _ => rfl, key _ fun _ => rfl, key _ fun _ => rfl⟩

def MemLeaf (w : World) (i : Nat) : Prop := ∀ l, w.leaf? i = some l → l.kind = .mem

theorem onLeaf_eraseTS {α} (i : Nat) (f g : Leaf → Res α × FMap) (φ : Res α → Res α) (w : World)
    (hφ : φ .panic = .panic)
    (hfg : ∀ l, w.leaf? i = some l → g l.eraseTS = (φ (f l).1, (f l).2.eraseTS)) :
    onLeaf i g w.eraseTS = (φ (onLeaf i f w).1, (onLeaf i f w).2.eraseTS) := by
  unfold onLeaf
  rw [World.leaf?_eraseTS]
  cases hl : w.leaf? i with
  | none => simp [hφ]
  | some l =>
    simp only [Option.map_some, hfg l hl, World.setLeafFiles_eraseTS]

/-- every method of the trait except `open_file` (`aleafFS_openFile`) and the time setters (absent
on the async side); for `metadata`: the same type and length -/
theorem aleafFS_eq_leafFS (i : Nat) (ws : World) (hm : MemLeaf ws i) (p : Str) :
    (aleafFS i).readDir p ws.eraseTS
      = (((leafFS i).readDir p ws).1, ((leafFS i).readDir p ws).2.eraseTS) ∧
    (aleafFS i).createDir p ws.eraseTS
      = (((leafFS i).createDir p ws).1, ((leafFS i).createDir p ws).2.eraseTS) ∧
    (aleafFS i).createFile p ws.eraseTS
      = (((leafFS i).createFile p ws).1, ((leafFS i).createFile p ws).2.eraseTS) ∧
    (aleafFS i).appendFile p ws.eraseTS
      = (((leafFS i).appendFile p ws).1, ((leafFS i).appendFile p ws).2.eraseTS) ∧
    (aleafFS i).metadata p ws.eraseTS
      = ((((leafFS i).metadata p ws).1).map Meta.eraseTS, ((leafFS i).metadata p ws).2.eraseTS) ∧
    (aleafFS i).exists_ p ws.eraseTS
      = (((leafFS i).exists_ p ws).1, ((leafFS i).exists_ p ws).2.eraseTS) ∧
    (aleafFS i).removeFile p ws.eraseTS
      = (((leafFS i).removeFile p ws).1, ((leafFS i).removeFile p ws).2.eraseTS) ∧
    (aleafFS i).removeDir p ws.eraseTS
      = (((leafFS i).removeDir p ws).1, ((leafFS i).removeDir p ws).2.eraseTS) := by
  have key : ∀ {α} (f g : Leaf → Res α × FMap) (φ : Res α → Res α), φ .panic = .panic →
      (∀ l, l.kind = .mem → g l.eraseTS = (φ (f l).1, (f l).2.eraseTS)) →
      onLeaf i g ws.eraseTS = (φ (onLeaf i f ws).1, (onLeaf i f ws).2.eraseTS) :=
    fun f g φ hφ h => onLeaf_eraseTS i f g φ ws hφ fun l hl => h l (hm l hl)
  refine ⟨?_, ?_, ?_, ?_, ?_, ?_, ?_, ?_⟩
  · simp only [aleafFS, leafFS]
    refine key _ _ id rfl fun l hk => ?_
    simp only [hk, Leaf.eraseTS, AMem.readDir, Mem.readDir_eraseTS, id]
  · simp only [aleafFS, leafFS]
    refine key _ _ id rfl fun l hk => ?_
    simp only [hk, Leaf.eraseTS, AMem_createDir_eraseTS, id]
  · simp only [aleafFS, leafFS]
    refine key _ _ id rfl fun l hk => ?_
    simp only [hk, Leaf.eraseTS, AMem_createFile_eraseTS, id]
  · simp only [aleafFS, leafFS]
    refine key _ _ id rfl fun l hk => ?_
    simp only [hk, Leaf.eraseTS, AMem.appendFile, Mem.appendFile_eraseTS, id]
  · simp only [aleafFS, leafFS]
    refine key _ _ (Res.map Meta.eraseTS) rfl fun l hk => ?_
    simp only [hk, Leaf.eraseTS, AMem_metadata_eraseTS]
  · simp only [aleafFS, leafFS]
    refine key _ _ id rfl fun l hk => ?_
    simp only [hk, Leaf.eraseTS, AMem.exists_, FMap.contains_eraseTS, id]
  · simp only [aleafFS, leafFS]
    refine key _ _ id rfl fun l hk => ?_
    simp only [hk, Leaf.eraseTS, AMem.removeFile, Mem.removeFile_eraseTS, id]
  · simp only [aleafFS, leafFS]
    refine key _ _ id rfl fun l hk => ?_
    simp only [hk, Leaf.eraseTS, AMem.removeDir, Mem.removeDir_eraseTS, id]

theorem aleafFS_openFile (i : Nat) (ws : World) (hm : MemLeaf ws i) (p : Str) :
    ((aleafFS i).openFile p ws.eraseTS).1 = ((leafFS i).openFile p ws).1 ∧
    ((aleafFS i).openFile p ws.eraseTS).2 = ws.eraseTS := by
  simp only [aleafFS, leafFS, onLeaf, World.leaf?_eraseTS]
  cases hl : ws.leaf? i with
  | none => simp
  | some l =>
    simp only [Option.map_some, hm l hl, Leaf.eraseTS, AMem_openFile_eraseTS]
    refine ⟨by first | rfl | trivial, ?_⟩
    have : ws.eraseTS.leaf? i = some l.eraseTS := by rw [World.leaf?_eraseTS, hl]; rfl
    exact World.setLeafFiles_self ws.eraseTS i l.eraseTS this

/-- the writers in the record `aleafFS` stand for the `AWHandle`s with the same fields: its
`create_file` / `append_file` are `AMem.createFileH` / `appendFileH` with the handle read through
`toSync` -/
theorem createFileH_toSync (i : Nat) (p : Str) (w : World) :
    ((AMem.createFileH i p w).1.map AWHandle.toSync, (AMem.createFileH i p w).2)
      = (aleafFS i).createFile p w := by
  simp only [AMem.createFileH, aleafFS, onLeaf]
  cases w.leaf? i with
  | none => rfl
  | some l =>
    simp only
    cases (AMem.createFile l.files p).1 <;> rfl

theorem appendFileH_toSync (i : Nat) (p : Str) (w : World) :
    ((AMem.appendFileH i p w).1.map AWHandle.toSync, (AMem.appendFileH i p w).2)
      = (aleafFS i).appendFile p w := by
  simp only [AMem.appendFileH, aleafFS, onLeaf]
  cases hl : w.leaf? i with
  | none => rfl
  | some l =>
    simp only [World.setLeafFiles_self w i l hl]
    cases AMem.appendFile l.files p <;> rfl

theorem createFileH_eq_sync (i : Nat) (ws : World) (hm : MemLeaf ws i) (p : Str) :
    ((AMem.createFileH i p ws.eraseTS).1.map AWHandle.toSync,
      (AMem.createFileH i p ws.eraseTS).2)
      = (((leafFS i).createFile p ws).1, ((leafFS i).createFile p ws).2.eraseTS) :=
  (createFileH_toSync i p _).trans (aleafFS_eq_leafFS i ws hm p).2.2.1

theorem appendFileH_eq_sync (i : Nat) (ws : World) (hm : MemLeaf ws i) (p : Str) :
    ((AMem.appendFileH i p ws.eraseTS).1.map AWHandle.toSync,
      (AMem.appendFileH i p ws.eraseTS).2)
      = (((leafFS i).appendFile p ws).1, ((leafFS i).appendFile p ws).2.eraseTS) :=
  (appendFileH_toSync i p _).trans (aleafFS_eq_leafFS i ws hm p).2.2.2.1

theorem session_eq_sync {ra : Res AWHandle × World} {rs : Res WHandle × World}
    (e : (ra.1.map AWHandle.toSync, ra.2) = (rs.1, rs.2.eraseTS))
    (ops : List WOp) (o : List Bool) (k fuel : Nat) (hk : pendings o ≤ k)
    (hf : k + ops.length ≤ fuel) (h : AWHandle) (wa : World) (hc : ra = (.ok h, wa)) :
    ∃ ws', rs = (.ok h.toSync, ws') ∧ wa = ws'.eraseTS ∧
      h.driveW fuel ops o wa
        = ((h.toSync.syncRun ops ws').1, (h.toSync.syncRun ops ws').2.eraseTS) := by
  rw [hc] at e
  simp only [Res.map, Prod.mk.injEq] at e
  obtain ⟨e1, e2⟩ := e
  refine ⟨rs.2, ?_, e2, ?_⟩
  · rw [e1]
  · rw [e2]; exact driveW_eq_sync k fuel h ops o _ hk hf

/-- a whole write session, from `create_file` to the end of the script, under every fair schedule -/
theorem create_session_eq_sync (i : Nat) (ws : World) (hm : MemLeaf ws i) (p : Str)
    (ops : List WOp) (o : List Bool) (k fuel : Nat) (hk : pendings o ≤ k)
    (hf : k + ops.length ≤ fuel) (h : AWHandle) (wa : World)
    (hc : AMem.createFileH i p ws.eraseTS = (.ok h, wa)) :
    ∃ ws', (leafFS i).createFile p ws = (.ok h.toSync, ws') ∧ wa = ws'.eraseTS ∧
      h.driveW fuel ops o wa
        = ((h.toSync.syncRun ops ws').1, (h.toSync.syncRun ops ws').2.eraseTS) :=
  session_eq_sync (createFileH_eq_sync i ws hm p) ops o k fuel hk hf h wa hc

theorem append_session_eq_sync (i : Nat) (ws : World) (hm : MemLeaf ws i) (p : Str)
    (ops : List WOp) (o : List Bool) (k fuel : Nat) (hk : pendings o ≤ k)
    (hf : k + ops.length ≤ fuel) (h : AWHandle) (wa : World)
    (hc : AMem.appendFileH i p ws.eraseTS = (.ok h, wa)) :
    ∃ ws', (leafFS i).appendFile p ws = (.ok h.toSync, ws') ∧ wa = ws'.eraseTS ∧
      h.driveW fuel ops o wa
        = ((h.toSync.syncRun ops ws').1, (h.toSync.syncRun ops ws').2.eraseTS) :=
  session_eq_sync (appendFileH_eq_sync i ws hm p) ops o k fuel hk hf h wa hc

theorem create_failure_eq_sync (i : Nat) (ws : World) (hm : MemLeaf ws i) (p : Str) :
    (AMem.createFileH i p ws.eraseTS).1.isOk = ((leafFS i).createFile p ws).1.isOk ∧
    (AMem.createFileH i p ws.eraseTS).1.kind? = ((leafFS i).createFile p ws).1.kind? ∧
    (AMem.appendFileH i p ws.eraseTS).1.isOk = ((leafFS i).appendFile p ws).1.isOk ∧
    (AMem.appendFileH i p ws.eraseTS).1.kind? = ((leafFS i).appendFile p ws).1.kind? := by
  have e1 := congrArg Prod.fst (createFileH_eq_sync i ws hm p)
  have e2 := congrArg Prod.fst (appendFileH_eq_sync i ws hm p)
  simp only at e1 e2
  rw [← e1, ← e2]
  refine ⟨?_, ?_, ?_, ?_⟩
  · cases (AMem.createFileH i p ws.eraseTS).1 <;> rfl
  · cases (AMem.createFileH i p ws.eraseTS).1 <;> rfl
  · cases (AMem.appendFileH i p ws.eraseTS).1 <;> rfl
  · cases (AMem.appendFileH i p ws.eraseTS).1 <;> rfl

/-! ### 6. `copy_file` / `move_file`: the extra flush of `async_std::io::copy` -/

theorem WHandle_drop_after_flush (h : WHandle) (w : World) : h.drop (h.flush w).2 = h.drop w := by
  simp only [WHandle.drop, WHandle.flush_eq]
  split
  · rw [World.publish_twice w _ _ _ _ fun m => memPublish_twice m _ _ _]
  · rfl

theorem WHandle_flush_then_drop (h : WHandle) :
    (do h.flush; h.drop : M Unit) = h.drop := by
  funext w
  have h1 : (h.flush w).1 = .ok () := WHandle.drop_ok h w
  have h2 := WHandle_drop_after_flush h w
  rcases hf : h.flush w with ⟨r1, w1⟩
  rw [hf] at h1 h2
  cases h1
  rw [bind_run_ok hf]
  exact h2

theorem ioCopyFlushDrop_eq : @VPath.ioCopyFlushDrop = @VPath.ioCopyAndDrop := by
  funext src dst selfPath
  unfold VPath.ioCopyFlushDrop VPath.ioCopyAndDrop
  simp only [WHandle_flush_then_drop]

theorem copyFileA_eq_copyFile : @VPath.copyFileA = @VPath.copyFile := by
  funext src dst
  unfold VPath.copyFileA VPath.copyFile
  simp only [ioCopyFlushDrop_eq]
  rfl

/-- removing the source after a writer has published = publishing after the removal -/
def RemovalCommutes (src : VPath) : Prop :=
  ∀ (h : WHandle) (w : World),
    src.removeFile (h.flush w).2 = ((src.removeFile w).1, (h.flush (src.removeFile w).2).2)

theorem move_tail_eq (src : VPath) (hc : RemovalCommutes src) (h' : WHandle) :
    (do h'.flush
        let res ← M.attempt src.removeFile
        h'.drop
        M.ret res : M Unit)
    = (do let res ← M.attempt src.removeFile
          h'.drop
          M.ret res : M Unit) := by
  funext w
  show M.bind h'.flush (fun _ => M.bind (M.attempt src.removeFile)
        (fun res => M.bind h'.drop (fun _ => M.ret res))) w
      = M.bind (M.attempt src.removeFile) (fun res => M.bind h'.drop (fun _ => M.ret res)) w
  have h1 : (h'.flush w).1 = .ok () := WHandle.drop_ok h' w
  have h2 := hc h' w
  have h3 := WHandle_drop_after_flush h' (src.removeFile w).2
  simp only [M.bind, M.attempt]
  revert h1 h2
  generalize h'.flush w = r
  obtain ⟨r1, w1⟩ := r
  intro h1 h2
  simp only at h1 h2
  subst h1
  simp only [h2, h3]

/-- in the async `move_file` the flush of `io::copy` precedes the removal of the source and the drop
follows it; `hc` (true for the in-memory backend: `mem_removal_commutes`) moves the flush past
the removal -/
theorem moveFileA_eq_moveFile (src dst : VPath) (hc : RemovalCommutes src) :
    VPath.moveFileA src dst = VPath.moveFile src dst := by
  unfold VPath.moveFileA VPath.moveFile
  simp only [move_tail_eq src hc]
  rfl

/-- `remove_file` at `p` and the publication of a writer on `key` commute. On different keys each
reads and rewrites its own slot and `remove_file` puts nothing (`Write.app_comm`); on one key the
removal takes the file whatever was published into it, and nothing is published into a slot
without a file. -/
theorem removeFile_publish_comm (m : FMap) (key p : Str) (buf : Bytes) :
    Mem.removeFile (memPublish m key buf) p
      = ((Mem.removeFile m p).1, memPublish (Mem.removeFile m p).2 key buf) := by
  simp only [Mem.removeFile_eq, Mem.memPublish_eq, onSlot]
  by_cases hkp : key = p
  · subst hkp
    rw [Write.find?_app_self, Write.find?_app_self]
    cases m.find? key with
    | none => rfl
    | some e =>
      by_cases hf : e.ftype = .file <;>
        simp [Mem.publishS, Mem.removeFileS, hf, Write.slot, Write.app, FMap.erase_insert_self]
  · have hpk : p ≠ key := fun e => hkp e.symm
    rw [Write.find?_app_ne m _ hpk, Write.find?_app_ne m _ hkp]
    refine Prod.ext rfl (Write.app_comm m hpk _ _ fun e => ?_).symm
    cases m.find? p with
    | none => exact Write.noConfusion
    | some ep => by_cases hpf : ep.ftype = .file <;> simp [Mem.removeFileS, hpf]

/-- also for a writer of the very file that is removed -/
theorem mem_removal_commutes (i fsId : Nat) (p : Str) :
    RemovalCommutes { fs := aleafFS i, fsId := fsId, path := p } := by
  intro h w
  simp only [VPath.removeFile, M.withPath, aleafFS, AMem.removeFile, WHandle.flush_eq]
  split
  · rw [onLeaf_publish _ i h.leaf h.key h.buf w fun _ l => removeFile_publish_comm l.files _ _ _]
  · rfl

theorem moveFileA_eq_moveFile_mem (i fsId : Nat) (p : Str) (dst : VPath) :
    VPath.moveFileA { fs := aleafFS i, fsId := fsId, path := p } dst
      = VPath.moveFile { fs := aleafFS i, fsId := fsId, path := p } dst :=
  moveFileA_eq_moveFile _ dst (mem_removal_commutes i fsId p)

/-! ### 7. streams: the `while let Some(x) = s.next().await` loop, and AsyncOverlayFS::read_dir -/

theorem listStream_pollNext_eq {α} (s : List α) (o : List Bool) :
    ListStream.pollNext s o =
      if (askA o).1 then (none, s, (askA o).2)
      else match s with
        | [] => (some none, [], (askA o).2)
        | x :: rest => (some (some x), rest, (askA o).2) := by
  unfold ListStream.pollNext
  rcases askA o with ⟨b, o'⟩
  cases b <;> cases s <;> rfl

theorem drain_safe {α β} (body : β → α → β) (fuel : Nat) (acc : β) (s : List α) (o : List Bool)
    (r : β) (h : ListStream.drain body fuel acc s o = some r) : r = s.foldl body acc := by
  induction fuel generalizing acc s o with
  | zero => simp [ListStream.drain] at h
  | succ fuel ih =>
    rw [ListStream.drain, listStream_pollNext_eq] at h
    cases ha : (askA o).1
    · cases s with
      | nil => simp [ha] at h; exact h.symm
      | cons x rest => simp [ha] at h; exact ih (body acc x) rest _ h
    · simp [ha] at h; exact ih acc s _ h

theorem drain_complete {α β} (body : β → α → β) (k fuel : Nat) (acc : β) (s : List α)
    (o : List Bool) (hk : pendings o ≤ k) (hf : k + s.length + 1 ≤ fuel) :
    ListStream.drain body fuel acc s o = some (s.foldl body acc) := by
  induction fuel generalizing k acc s o with
  | zero => omega
  | succ fuel ih =>
    rw [ListStream.drain, listStream_pollNext_eq]
    have hc := askA_pendings o
    cases ha : (askA o).1
    · cases s with
      | nil => simp
      | cons x rest =>
        simp only [Bool.false_eq_true, ↓reduceIte, List.foldl_cons]
        simp [ha] at hc
        exact ih k _ _ _ (by omega) (by simp only [List.length_cons] at hf; omega)
    · simp only [↓reduceIte]
      simp [ha] at hc
      exact ih (k - 1) _ _ _ (by omega) (by omega)

/-- one `entries.insert(path.filename())` -/
def insertBody (acc : List Str) (c : VPath) : List Str :=
  if filenameInternal c.path ∈ acc then acc else acc ++ [filenameInternal c.path]

theorem insertAll_eq_foldl (cs : List VPath) (acc : List Str) :
    Overlay.insertAll cs acc = cs.foldl insertBody acc := by
  induction cs generalizing acc with
  | nil => rfl
  | cons c rest ih => simp only [Overlay.insertAll, List.foldl_cons, insertBody, ih]

theorem overlay_insert_loop (cs : List VPath) (acc : List Str) (k fuel : Nat) (o : List Bool)
    (hk : pendings o ≤ k) (hf : k + cs.length + 1 ≤ fuel) :
    ListStream.drain insertBody fuel acc cs o = some (Overlay.insertAll cs acc) := by
  rw [insertAll_eq_foldl]; exact drain_complete insertBody k fuel acc cs o hk hf

theorem insertAll_eq (cs : List VPath) (acc : List Str) :
    Overlay.insertAll cs acc
      = (cs.map fun c => filenameInternal c.path).foldl
          (fun a n => if n ∈ a then a else a ++ [n]) acc := by
  rw [insertAll_eq_foldl, List.foldl_map]; rfl

theorem mergeListingsA_eq (actual : Str) (layers : List VPath) (acc : List Str) :
    Overlay.mergeListingsA actual layers acc = Overlay.mergeListings actual layers acc := by
  induction layers generalizing acc with
  | nil => rfl
  | cons l rest ih =>
    unfold Overlay.mergeListingsA Overlay.mergeListings
    simp only [insertAll_eq, ih]

theorem removeMarks_eq (marks : List VPath) (entries : List Str) :
    Overlay.removeMarks marks entries
      = entries.filter fun n =>
          n ∉ marks.filterMap fun m => Overlay.stripWo (filenameInternal m.path) := by
  induction marks generalizing entries with
  | nil =>
    simp only [Overlay.removeMarks, List.filterMap_nil, List.not_mem_nil, not_false_eq_true,
      decide_true]
    exact (List.filter_eq_self.2 fun _ _ => rfl).symm
  | cons m rest ih =>
    unfold Overlay.removeMarks
    cases hs : Overlay.stripWo (filenameInternal m.path) with
    | none => simp only [ih, List.filterMap_cons, hs]
    | some n =>
      simp only [ih, List.filterMap_cons, hs, List.filter_filter]
      apply List.filter_congr
      intro x _
      simp
      exact Bool.and_comm _ _

theorem overlay_readDirA_eq_readDir : @Overlay.readDirA = @Overlay.readDir := by
  funext layers p
  unfold Overlay.readDirA Overlay.readDir
  simp only [mergeListingsA_eq, removeMarks_eq]

/-! ### 7b. the async READ handle under repeated `poll_read` with arbitrary buffer sizes
(`ReadExt::read_to_string`, the `BufReader` inside `async_std::io::copy`) -/

def chunksA (r : AsyncReader) : List Nat → List Bytes × AsyncReader
  | [] => ([], r)
  | n :: ns =>
    match (r.readA n).1 with
    | .ok b => ((chunksA (r.readA n).2 ns).1.cons b, (chunksA (r.readA n).2 ns).2)
    | _ => ([], r)

theorem chunksA_eq_sync (r : AsyncReader) (ns : List Nat) (hlen : r.content.length < u64Max) :
    ((chunksA r ns).1, (chunksA r ns).2.toSync) = C04.chunks r.toSync ns := by
  induction ns generalizing r with
  | nil => rfl
  | cons n ns ih =>
    have h := readA_eq_sync r n hlen
    have h1 : (r.toSync.read n).1 = (r.readA n).1 := (congrArg Prod.fst h).symm
    have h2 : (r.toSync.read n).2 = (r.readA n).2.toSync := (congrArg Prod.snd h).symm
    have ih' := ih (r.readA n).2 (by rw [readA_content]; exact hlen)
    simp only [chunksA, C04.chunks, h1, h2]
    cases (r.readA n).1 with
    | ok b =>
      simp only [← ih']
    | err k p => rfl
    | panic => rfl

theorem readerA_chunks (r : AsyncReader) (ns : List Nat) (hlen : r.content.length < u64Max) :
    (chunksA r ns).1.flatten = (r.content.drop r.cursorPos).take ns.sum := by
  have h := congrArg Prod.fst (chunksA_eq_sync r ns hlen)
  simp only at h
  rw [h]
  exact (C04.reader_chunks r.toSync ns rfl hlen).1

example : (chunksA { content := [1, 2, 3, 4, 5], cursorPos := 1 } [2, 0, 1, 7]).1
    = [[2, 3], [], [4], [5]] := by decide

/-! ### 8. AsyncPhysicalFS time setters -/

theorem aphys_setTime_tokio (upd : Entry → Entry) (m : FMap) (p : Str) :
    APhys.setTime true upd m p = Phys.setTime upd m p := rfl

theorem aphys_setTime_no_runtime (upd : Entry → Entry) (m : FMap) (p : Str) :
    APhys.setTime false upd m p = (fail .notSupported, m) := rfl

/-! ### 9. where the async code really differs from the sync code, each with a witness; examples -/

def pf : Str := ['/', 'f']
def pg : Str := ['/', 'g']

def exW : World :=
  { leaves := [{ kind := .mem,
                 files := [(pf, { ftype := .file, content := [1, 2], created := .now,
                                  modified := .at 5, accessed := .unset }),
                           ([], { ftype := .dir, content := [], created := .now,
                                  modified := .unset, accessed := .unset })] }] }

theorem exW_memLeaf : MemLeaf exW 0 := by
  intro l hl
  simp [World.leaf?, exW] at hl
  subst hl; rfl

def exH : AWHandle := { leaf := 0, key := pf, buf := [], pos := 0 }

def exOps : List WOp := [.write [7, 8], .flush, .write [9], .close, .flush, .drop]

def exOuts : List WOut :=
  [.wrote (.ok 2), .flushed (.ok ()), .wrote (.ok 1), .closed (.ok ()), .flushed (.ok ()), .dropped]

example : (AMem.createFileH 0 pf exW.eraseTS).1 = .ok exH := by decide
example : ((leafFS 0).createFile pf exW).1 = .ok exH.toSync := by decide

example : (exH.driveW 9 exOps [true, true, false, true] exW.eraseTS).1 = exOuts := by decide
example : (exH.toSync.syncRun exOps exW).1 = exOuts := by decide
example : (exH.driveW 9 exOps [true, true, false, true] exW.eraseTS).2.leaves
    = (exH.toSync.syncRun exOps exW).2.eraseTS.leaves := by decide
example : pendings [true, true, false, true] ≤ 3 ∧ 3 + exOps.length ≤ 9 := by decide
example : ((exH.driveW 9 exOps [true, true, false, true] exW.eraseTS).2.leaf? 0).map
      (fun l => l.files.find? pf) = some (some (afileEntry [7, 8, 9])) := by decide
example : ((exH.toSync.syncRun exOps exW).2.leaf? 0).map (fun l => l.files.find? pf)
    = some (some { ftype := .file, content := [7, 8, 9], created := .now, modified := .now,
                   accessed := .unset }) := by decide
example : (exH.driveW 3 exOps [true, true, true, true] exW.eraseTS).1 = [.wrote (.ok 2)] := by
  decide
example : (exH.pollFlush [true] exW.eraseTS).1 = .pending := by decide
example : (exH.pollFlush [true] exW.eraseTS).2.2.1.leaves = exW.eraseTS.leaves := by decide
/-- the hypotheses of `reader_after_flush` on this world, and its conclusion -/
example : ∃ l e, exW.eraseTS.leaf? exH.leaf = some l ∧ l.files.find? exH.key = some e ∧
    e.ftype = .file := ⟨_, _, rfl, rfl, rfl⟩
example : ((aleafFS 0).openFile pf
      (({ exH with buf := [7, 8], pos := 2 } : AWHandle).pollFlush [] exW.eraseTS).2.2.1).1
    = .ok { content := [7, 8], pos := 0 } := by decide
/-- removed in between: the flush publishes nothing and the file stays absent -/
example : (((({ exH with buf := [7] } : AWHandle).pollFlush []
      ((aleafFS 0).removeFile pf exW.eraseTS).2).2.2.1).leaf? 0).map (fun l => l.files.find? pf)
    = some none := by decide

/-- (memory.rs:138-145 → async-std cursor.rs:254-256) `close()` completes without
publishing. After `create_file`, `write([7, 8])`, `close().await` a reader still sees the empty
file; only the drop (or an explicit flush) makes the bytes visible. The sync writer has no `close`;
measured against `futures::io::AsyncWriteExt::close` ("flush and close") this is a gap. -/
theorem close_does_not_publish :
    let w1 := (AMem.createFileH 0 pf exW.eraseTS).2
    let h1 := (exH.pollWrite [7, 8] w1).2.1
    let w2 := (h1.pollClose w1).2.2
    ((aleafFS 0).openFile pf w2).1 = .ok { content := [], pos := 0 } ∧
    ((aleafFS 0).openFile pf (h1.dropA w2).2).1 = .ok { content := [7, 8], pos := 0 } := by
  decide

/-- (memory.rs:309-320, 367-372; async_vfs/filesystem.rs:41-51) AsyncMemoryFS keeps
no timestamps — `metadata` answers `None` three times where MemoryFS answers times, and the three
time setters are NotSupported where MemoryFS accepts them -/
theorem async_memory_has_no_timestamps :
    ((aleafFS 0).metadata pf exW.eraseTS).1
      = .ok { ftype := .file, len := 2, created := .unset, modified := .unset, accessed := .unset } ∧
    ((leafFS 0).metadata pf exW).1
      = .ok { ftype := .file, len := 2, created := .now, modified := .at 5, accessed := .unset } ∧
    ((aleafFS 0).setModificationTime pf 3 exW.eraseTS).1 = fail .notSupported ∧
    ((leafFS 0).setModificationTime pf 3 exW).1 = .ok () ∧
    ((aleafFS 0).setCreationTime pf 3 exW.eraseTS).1 = fail .notSupported ∧
    ((leafFS 0).setCreationTime pf 3 exW).1 = .ok () ∧
    ((aleafFS 0).setAccessTime pf 3 exW.eraseTS).1 = fail .notSupported ∧
    ((leafFS 0).setAccessTime pf 3 exW).1 = .ok () := by
  decide

/-- (async_vfs/impls/physical.rs:41-62, 138-152 against impls/physical.rs:100-108)
outside a tokio runtime (async-std's or futures' executor) the async physical time setters
answer NotSupported for an existing file; the sync ones set the time -/
theorem async_physical_time_setters_need_tokio :
    (APhys.setTime false (fun e => { e with modified := .at 3 })
        [(pf, fileEntryNow), ([], dirEntryNow)] pf).1 = fail .notSupported ∧
    (Phys.setTime (fun e => { e with modified := .at 3 })
        [(pf, fileEntryNow), ([], dirEntryNow)] pf).1 = .ok () := by
  decide

/-- `copy_file` from `/f` to `/g` over the async in-memory backend: the flush-then-drop of
`async_std::io::copy` leaves `/g` with the bytes of `/f` -/
example :
    (((VPath.copyFileA { fs := aleafFS 0, fsId := 0, path := pf }
        { fs := aleafFS 0, fsId := 0, path := pg } exW.eraseTS).2.leaf? 0).map
      fun l => (l.files.find? pg).map (·.content)) = some (some [1, 2]) := by decide

example :
    (((VPath.moveFileA { fs := aleafFS 0, fsId := 0, path := pf }
        { fs := aleafFS 0, fsId := 0, path := pg } exW.eraseTS).2.leaf? 0).map
      fun l => ((l.files.find? pg).map (·.content), l.files.find? pf)) = some (some [1, 2], none) := by
  decide

example : ListStream.drain (fun (a : List Nat) x => a ++ [x]) 6 [] [1, 2, 3] [true, false, true]
    = some [1, 2, 3] := by decide
example : ListStream.drain (fun (a : List Nat) x => a ++ [x]) 3 [] [1, 2, 3] [true, false, true]
    = none := by decide

def exW2 : World :=
  { leaves := [{ kind := .mem, files := [(pf, afileEntry [1]), ([], adirEntry)] },
               { kind := .mem, files := [(pg, afileEntry [2]), (pf, afileEntry [3]), ([], adirEntry)] }] }

example : (Overlay.readDirA [{ fs := aleafFS 0, fsId := 0, path := [] },
                             { fs := aleafFS 1, fsId := 1, path := [] }] [] exW2).1
    = .ok [['f'], ['g']] := by decide

/-- the hypothesis of the session theorems is satisfiable -/
example : ∃ h wa, AMem.createFileH 0 pf exW.eraseTS = (.ok h, wa) := ⟨_, _, rfl⟩

#print axioms driveW_prefix_of_sync
#print axioms driveW_eq_sync
#print axioms driveW_schedule_independent
#print axioms pollFlush_pending_stutters
#print axioms pollFlush_ready_eq_sync
#print axioms reader_after_flush
#print axioms sync_reader_after_flush
#print axioms publish_after_removal
#print axioms writes_concat
#print axioms aleafFS_eq_leafFS
#print axioms aleafFS_openFile
#print axioms Mem_openFile_world_eraseTS
#print axioms create_session_eq_sync
#print axioms append_session_eq_sync
#print axioms copyFileA_eq_copyFile
#print axioms moveFileA_eq_moveFile
#print axioms mem_removal_commutes
#print axioms overlay_readDirA_eq_readDir
#print axioms drain_safe
#print axioms readerA_chunks
#print axioms drain_complete
#print axioms overlay_insert_loop
#print axioms close_does_not_publish
#print axioms async_memory_has_no_timestamps
#print axioms async_physical_time_setters_need_tokio

end Vfs.C15
