/-
  C13 — `move_dir` WITHIN one physical filesystem (same leaf, same `Arc` identity) never returns
  the out-of-fuel / panic sentinel, for EVERY fuel (0 included): the statement
  `phys_move_dir_same_stmt` of Props/C13Phys.lean holds (`phys_move_dir_same_holds`).

  What the model (and the Rust code) does. `PhysicalFS::move_dir` (impls/physical.rs) maps EVERY
  failure of `std::fs::rename` to `NotSupported` ("possibly different filesystems"), so the
  generic fallback of `VfsPath::move_dir` (create_dir destination; walk_dir source; copy loop;
  remove_dir_all) IS entered whenever `rename` fails. What is proved is that in that case the
  fallback fails BEFORE its fuel-consuming loop:
    - `rename` fails, the destination does not `exists()`, and `create_dir(destination)` succeeds
      only if the source is ABSENT from a well-formed tree (`Phys.rename_fail_absent`);
    - `create_dir` adds exactly the key `D ≠ S`, so the source is still absent and `walk_dir`
      (= `read_dir` of the source) answers an error (`ENOENT`/`ENOTDIR`).
  `phys_move_dir_outcome_same`: the outcome is `Ok` (exactly when `rename` is Ok: then the world
  is the renamed tree) or an error. `phys_move_dir_terminates_same`: never `.panic`, any fuel, any
  `S`, `D` with `under S D = false`.

  Hypotheses: `PhysLeafAt w i ms`, `WF ms` (every key has a directory parent), `under S D = false`
  (necessary for the "any fuel" form: the two evaluated witnesses at the end). No hypothesis on
  key uniqueness, canonicity, fuel.

  NOT PROVED: `under S D = true` (destination at or below the source): there the fallback loop
  runs; with enough fuel the behaviour is that of `copy_dir` into its own subtree. Same leaf with
  DIFFERENT `Arc` identities.
-/
import VfsModel.Props.C02Composite
namespace Vfs.C13
open Vfs.Wk (mk)

theorem Phys.rename_ok_or_same (m : FMap) (s d : Str) :
    (Phys.rename m s d).1 = .ok () ∨ (Phys.rename m s d).2 = m := by
  unfold Phys.rename
  repeat' split
  all_goals first | exact Or.inr rfl | exact Or.inl rfl

theorem Phys.rename_fail_state (m : FMap) (s d : Str) (h : (Phys.rename m s d).1 ≠ .ok ()) :
    (Phys.rename m s d).2 = m :=
  (Phys.rename_ok_or_same m s d).resolve_left h

theorem phys_walkDir_absent {w2 : World} {i : Nat} {m : FMap} (h2 : PhysLeafAt w2 i m) (id : Nat)
    (S : Str) (hs : m.find? S = none) :
    ∃ k, VPath.walkDir (mk i id S) w2 = (.err k (some S), w2) := by
  obtain ⟨k, pth, hr⟩ := Phys.readDir_absent m S hs
  exact ⟨k, (phys_walk_of_readDir_err h2 id S 0 hr).1⟩

/-- **the NotSupported case that survives `create_dir`**: on a well-formed tree, if the destination
is absent and resolvable (which is what a successful `create_dir` says), is not at or below the
source, and `rename` still fails, then the source is absent -/
theorem Phys.rename_fail_absent {m : FMap} (hwf : WF m) (S D : Str)
    (hl : Phys.lookup m D = .ok none) (hout : under S D = false)
    (hne : (Phys.rename m S D).1 ≠ .ok ()) : m.find? S = none := by
  cases hs : m.find? S with
  | none => rfl
  | some e =>
    exact absurd (by rw [Phys.rename_fresh hwf hs hl ((under_false_iff S D).1 hout).2]) hne

section same
variable {w : World} {i : Nat} {ms : FMap} (hi : PhysLeafAt w i ms)
include hi

/-- the trait method `move_dir` of a physical leaf: `Ok` with the renamed tree when `rename` is
`Ok`, otherwise `NotSupported` (whatever the reason) and nothing changed -/
theorem phys_moveDir_fast (S D : Str) :
    ((Phys.rename ms S D).1 = .ok () ∧
      (leafFS i).moveDir S D w = (.ok (), w.setLeafFiles i (Phys.rename ms S D).2)) ∨
    ((Phys.rename ms S D).1 ≠ .ok () ∧
      (leafFS i).moveDir S D w = (.err .notSupported none, w)) := by
  have hrun : (leafFS i).moveDir S D w = _ := run_onLeaf_phys hi _
  by_cases hok : (Phys.rename ms S D).1 = .ok ()
  · left
    refine ⟨hok, ?_⟩
    rw [hrun]
    rcases hr : Phys.rename ms S D with ⟨r, f⟩
    rw [hr] at hok
    simp only at hok
    subst hok
    rfl
  · right
    refine ⟨hok, ?_⟩
    have hst := Phys.rename_fail_state ms S D hok
    rw [hrun]
    rcases hr : Phys.rename ms S D with ⟨r, f⟩
    rw [hr] at hok hst
    simp only at hok hst
    subst hst
    cases r with
    | ok u => exact absurd rfl hok
    | err k p => simp [fail, World.setLeafFiles_self w i _ hi]
    | panic => simp [fail, World.setLeafFiles_self w i _ hi]

/-- **outcome of `move_dir` within one physical filesystem**, any fuel: `Ok` with the renamed tree
exactly when `rename` succeeds (and the destination does not exist), otherwise an error -/
theorem phys_move_dir_outcome_same (hwf : WF ms) (id fuel : Nat) (S D : Str)
    (hout : under S D = false) :
    (Phys.exists_ ms D = false ∧ (Phys.rename ms S D).1 = .ok () ∧
      VPath.moveDir fuel (mk i id S) (mk i id D) w =
        (.ok (), w.setLeafFiles i (Phys.rename ms S D).2)) ∨
    ((Phys.exists_ ms D = true ∨ (Phys.rename ms S D).1 ≠ .ok ()) ∧
      ∃ k p w', VPath.moveDir fuel (mk i id S) (mk i id D) w = (.err k p, w')) := by
  have hex : VPath.exists_ (mk i id D) w = (.ok (Phys.exists_ ms D), w) := run_exists_phys hi D
  rw [VPath.moveDir_eq]
  cases hE : Phys.exists_ ms D with
  | true =>
    rw [hE] at hex
    exact Or.inr ⟨Or.inl rfl, _, _, _, VPath.guarded_refused _ _ _ _ w hex⟩
  | false =>
    rw [hE] at hex
    rw [VPath.guarded_run _ _ _ _ w hex, M.withPath_run]
    rcases phys_moveDir_fast hi S D with ⟨hok, hfast⟩ | ⟨hne, hfast⟩
    · have hfast' : (mk i id S).fs.moveDir (mk i id S).path (mk i id D).path w = _ := hfast
      exact Or.inl ⟨rfl, hok, by
        rw [VPath.fastOr_fast (show (mk i id S).fsId = (mk i id D).fsId from rfl) hfast']; rfl⟩
    · -- `NotSupported`: the generic route, which fails before its loop
      have hfast' : (mk i id S).fs.moveDir (mk i id S).path (mk i id D).path w = _ := hfast
      refine Or.inr ⟨Or.inr hne, ?_⟩
      rw [VPath.fastOr_slow fun _ => ⟨none, hfast'⟩]
      unfold VPath.moveDirBody
      have hnp := (VPath.np_createDir (mk i id D) (leaf_no_panic_len (physLeaf_lt hi))).np w rfl
      rcases hc : VPath.createDir (mk i id D) w with ⟨r, w2⟩
      rw [hc] at hnp
      cases r with
      | panic => exact absurd rfl hnp
      | err k p => exact ⟨k, _, w2, by rw [bind_run_err hc]; rfl⟩
      | ok u =>
        -- the destination was created although `rename` refused: the source is absent
        obtain ⟨hl, hw2⟩ := phys_vcreateDir_ok hi id D hc
        have hSD : S ≠ D := by
          rintro rfl
          rw [under_self] at hout
          cases hout
        have hs2 : (ms.insert D dirEntryNow).find? S = none := by
          rw [FMap.find?_insert_ne _ _ _ _ hSD]
          exact Phys.rename_fail_absent hwf S D hl hout hne
        obtain ⟨k, hwalk⟩ := phys_walkDir_absent (hw2 ▸ hi.set _) id S hs2
        exact ⟨k, _, w2, by rw [bind_run_ok hc, bind_run_err hwalk]; rfl⟩

/-- **C13, `move_dir` within one physical filesystem**: never the sentinel — for every fuel (0
included), every source string and every destination string not at or below the source -/
theorem phys_move_dir_terminates_same (hwf : WF ms) (id fuel : Nat) (S D : Str)
    (hout : under S D = false) :
    (VPath.moveDir fuel (mk i id S) (mk i id D) w).1 ≠ .panic := by
  rcases phys_move_dir_outcome_same hi hwf id fuel S D hout with ⟨_, _, h⟩ | ⟨_, k, p, w', h⟩ <;>
    rw [h] <;> simp

end same

theorem phys_move_dir_same_holds : phys_move_dir_same_stmt := by
  intro w i ms id fuel S D hi hwf hout
  exact phys_move_dir_terminates_same hi hwf id fuel S D hout

example : (VPath.moveDir 0 (mk 0 7 "/r/a".toList) (mk 0 7 "/r/a2".toList) wP).1 ≠ .panic :=
  phys_move_dir_terminates_same wP_leaf0 C11.mN_wf 7 0 _ _ (by decide)
example : phys_move_dir_same_stmt := phys_move_dir_same_holds
example : (VPath.moveDir 0 (mk 0 7 "/r/a".toList) (mk 0 7 "/r/a2".toList) wP).1 = .ok () := by
  rw [wP_eq]; decide +kernel
example : (VPath.moveDir 0 (mk 0 7 "/r/ab".toList) (mk 0 7 "/r/zz".toList) wP).1 = .ok () := by
  rw [wP_eq]; decide +kernel
/-- kernel: `rename` fails (absent source) ⟹ NotSupported ⟹ fallback: `create_dir` succeeds,
`walk_dir` of the source answers `ENOENT` — an error with fuel 0, not the sentinel; note the
destination directory has been created -/
example : (VPath.moveDir 0 (mk 0 7 "/nope".toList) (mk 0 7 "/r/zz".toList) wP).1 =
    .err .fileNotFound (some "/nope".toList) := by rw [wP_eq]; decide +kernel
example : ((VPath.moveDir 0 (mk 0 7 "/nope".toList) (mk 0 7 "/r/zz".toList) wP).2.leaf? 0).map
    (fun l => (l.files.find? "/r/zz".toList).isSome) = some true := by rw [wP_eq]; decide +kernel
example : (VPath.moveDir 0 (mk 0 7 "/r/a".toList) (mk 0 7 "/q/zz".toList) wP).1 ≠ .panic ∧
    (VPath.moveDir 0 (mk 0 7 "/r/a".toList) (mk 0 7 "/q/zz".toList) wP).1 ≠ .ok () := by
  rw [wP_eq]; decide +kernel
example : (VPath.moveDir 0 (mk 0 7 "/r/a".toList) (mk 0 7 "/r/ab".toList) wP).1 =
    .err .other (some "/r/a".toList) := by rw [wP_eq]; decide +kernel
/-- the hypothesis `under S D = false` is NECESSARY for the any-fuel form. (a) `D = S`, absent: the
fallback creates the source itself, the walk succeeds, the loop starts: sentinel with fuel 0 -/
example : (VPath.moveDir 0 (mk 0 7 "/r/zz".toList) (mk 0 7 "/r/zz".toList) wP).1 = .panic := by
  rw [wP_eq]; decide +kernel
/-- (b) destination inside the source directory: `rename` answers EINVAL, mapped to NotSupported,
the fallback enters its loop: sentinel with fuel 0 -/
example : (VPath.moveDir 0 (mk 0 7 "/r/a".toList) (mk 0 7 "/r/a/zz".toList) wP).1 = .panic := by
  rw [wP_eq]; decide +kernel

#print axioms Phys.rename_fail_absent
#print axioms phys_move_dir_outcome_same
#print axioms phys_move_dir_terminates_same
#print axioms phys_move_dir_same_holds

end Vfs.C13
