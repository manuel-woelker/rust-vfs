/-
  C02 for stackings — "MemoryFS is a faithful stand-in for PhysicalFS" under AltrootFS and
  OverlayFS, for the `VfsPath` operations that do not iterate over listings.

  * `StackW fs` : `fs` is a leaf or altroots (rooted at canonical paths) over a leaf.
    `Stack fs`  : `fs` is a `StackW`, an altroot over a `Stack`, or an overlay of any number of
    layers whose write layer (first layer) is a path of a `StackW` and whose lower layers are
    paths of arbitrary `Stack`s (overlays included).  The SAME term `fs` is run on both worlds:
    `leafFS i` is the memory backend where leaf `i` of the world is a memory leaf and the
    physical backend where it is a physical leaf.
  * `Op` : `exists`, `metadata`, `is_file`, `is_dir`, `read_dir`, `read` (open + read to end),
    `create_dir`, `create_dir_all`, `remove_file`, `remove_dir`, a write session
    (`create_file`, any list of `write` calls, drop) and an append session.
  * `ValRel` : what is compared of the results: booleans and bytes exactly, metadata up to
    timestamps (type; length of files), listings as SETS of path strings.

  * `stack_agree` : for every `Stack fs`, every valid `Op` (canonical path; root aside for
    `create_dir`/`remove_dir`; append sessions on `StackW` only): from `RCore`-related worlds
    (Proofs/MemPhysSim.lean: memory leaves with well-formed maps / physical leaves with `CoreEq`
    content) the two runs return `CRes KRel ValRel`-related outcomes (same success/failure/panic,
    error kinds in the same class, equal observations) and end in `RCore`-related worlds.
    `stack_simC`, `stackW_simW` : the same at the session level.
  * `stack_history_agree` : hence every finite history; `stack_from_empty` : from fresh leaves.
  * `rcore_coreEq` : what `RCore` says about the leaves (the observable tree and bytes agree).

  Stated and not proved here:
  * `iter_stmt` — `remove_dir_all`, `copy_dir`, `move_dir` on stackings: the two backends list a
    directory in different ORDERS (the listings agree as sets only: `Mem.openFile` moves the key
    whose access time it stamps to the front of the association list, `Phys.rename` keeps the
    position), so the runs visit entries in different orders.  Props/C02Iter.lean reduces this
    to commutation of the per-child steps (`iter_perm`); Props/C02Composite.lean proves
    `walk_dir`, `remove_dir_all` and `move_dir` for a memory leaf against a physical leaf.
  * `copy_stmt` — `copy_file`, `move_file`: FALSE without a restriction on the source, see
    `copy_dir_source_diverges`: for a directory source on the generic (non-fast-path) route
    memory refuses in `open_file`, the host opens the directory, the destination is created,
    then the read fails — both calls fail, but the physical world has gained an empty destination
    file.  `copy_file` from a non-directory and the append session of an overlay (copy-up) are
    proved in Props/C02Iter.lean (`copy_agree`, `append_agree`); `move_file` is not.
  * the time setters (`set_creation_time` is `NotSupported` on the physical backend).
-/
import VfsModel.Proofs.MemPhysSim
namespace Vfs.C02

inductive StackW : FS → Prop
  | leaf (i : Nat) : StackW (leafFS i)
  | altroot {fs : FS} (id : Nat) (root : Str) : StackW fs → Canon root →
      StackW (Altroot.fs { fs := fs, fsId := id, path := root })

inductive Stack : FS → Prop
  | w {fs : FS} : StackW fs → Stack fs
  | altroot {fs : FS} (id : Nat) (root : Str) : Stack fs → Canon root →
      Stack (Altroot.fs { fs := fs, fsId := id, path := root })
  | overlay (layers : List VPath) : StackW (Overlay.writeLayer layers).fs →
      (∀ l ∈ layers, Stack l.fs) → (∀ l ∈ layers, Canon l.path) →
      Canon (Overlay.writeLayer layers).path → Stack (Overlay.fs layers)

theorem stackW_simW {fs : FS} (h : StackW fs) : SimW RCore fs fs := by
  induction h with
  | leaf i => exact leaf_simW i
  | altroot id root _ hroot ih => exact Altroot.simW ⟨ih, rfl, hroot⟩

theorem stack_simC {fs : FS} (h : Stack fs) : SimC RCore fs fs := by
  induction h with
  | w hw => exact (stackW_simW hw).toSimC
  | altroot id root _ hroot ih => exact Altroot.simC ⟨ih, rfl, hroot⟩
  | overlay layers hw _ hcanon hwc ih =>
    exact Overlay.simC (ListRel.diag layers fun x hx => ⟨ih x hx, rfl, hcanon x hx⟩)
      ⟨stackW_simW hw, rfl, hwc⟩

inductive Op where
  | exists_ (p : Str)
  | metadata (p : Str)
  | isFile (p : Str)
  | isDir (p : Str)
  | readDir (p : Str)
  | read (p : Str)
  | createDir (p : Str)
  | createDirAll (p : Str)
  | removeFile (p : Str)
  | removeDir (p : Str)
  | write (p : Str) (script : List Bytes)
  | append (p : Str) (script : List Bytes)

inductive Val where
  | unit
  | bool (b : Bool)
  | md (t : FType) (len : Nat)
  | paths (l : List Str)
  | bytes (b : Bytes)
  deriving DecidableEq, Repr

def ValRel : Val → Val → Prop
  | .unit, .unit => True
  | .bool a, .bool b => a = b
  | .md t1 n1, .md t2 n2 => t1 = t2 ∧ (t1 = .file → n1 = n2)
  | .paths l1, .paths l2 => ∀ s, s ∈ l1 ↔ s ∈ l2
  | .bytes a, .bytes b => a = b
  | _, _ => False

def Op.path : Op → Str
  | .exists_ p | .metadata p | .isFile p | .isDir p | .readDir p | .read p | .createDir p
  | .createDirAll p | .removeFile p | .removeDir p | .write p _ | .append p _ => p

/-- run an operation through the generic `VfsPath` layer on the path `p` of `fs` -/
def Op.run (fs : FS) (id : Nat) : Op → M Val
  | .exists_ p => VPath.exists_ { fs := fs, fsId := id, path := p } >>= fun b => pure (.bool b)
  | .metadata p => VPath.metadata { fs := fs, fsId := id, path := p } >>= fun m => pure (.md m.ftype m.len)
  | .isFile p => VPath.isFile { fs := fs, fsId := id, path := p } >>= fun b => pure (.bool b)
  | .isDir p => VPath.isDir { fs := fs, fsId := id, path := p } >>= fun b => pure (.bool b)
  | .readDir p => VPath.readDir { fs := fs, fsId := id, path := p } >>= fun l => pure (.paths (l.map (·.path)))
  | .read p => C02.VPath.readAll { fs := fs, fsId := id, path := p } >>= fun b => pure (.bytes b)
  | .createDir p => VPath.createDir { fs := fs, fsId := id, path := p } >>= fun _ => pure .unit
  | .createDirAll p => VPath.createDirAll { fs := fs, fsId := id, path := p } >>= fun _ => pure .unit
  | .removeFile p => VPath.removeFile { fs := fs, fsId := id, path := p } >>= fun _ => pure .unit
  | .removeDir p => VPath.removeDir { fs := fs, fsId := id, path := p } >>= fun _ => pure .unit
  | .write p s => C02.VPath.createSession { fs := fs, fsId := id, path := p } s >>= fun _ => pure .unit
  | .append p s => C02.VPath.appendSession { fs := fs, fsId := id, path := p } s >>= fun _ => pure .unit

/-- canonical path; the root is not a target of `create_dir`/`remove_dir`; append sessions on
leaf/altroot stackings -/
def Op.Valid (fs : FS) (op : Op) : Prop :=
  Canon op.path ∧
  (match op with
   | .createDir p | .removeDir p => p ≠ []
   | .append _ _ => StackW fs
   | _ => True)

/-- **C02 for every stacking and every non-iterating `VfsPath` operation** -/
theorem stack_agree {fs : FS} (hs : Stack fs) (id : Nat) (op : Op) (hop : op.Valid fs) :
    CSim RCore KRel ValRel (op.run fs id) (op.run fs id) := by
  have hfs := stack_simC hs
  obtain ⟨hc, hv⟩ := hop
  cases op with
  | exists_ p =>
    exact CSim.bind_eq (VPath.sim_exists ⟨hfs, rfl, hc⟩).ofEq fun b => CSim.pure rfl
  | metadata p =>
    exact CSim.bind (VPath.sim_metadata ⟨hfs, rfl, hc⟩) fun m1 m2 hm => CSim.pure hm
  | isFile p => exact CSim.bind_eq (VPath.sim_isFile ⟨hfs, rfl, hc⟩) fun b => CSim.pure rfl
  | isDir p => exact CSim.bind_eq (VPath.sim_isDir ⟨hfs, rfl, hc⟩) fun b => CSim.pure rfl
  | readDir p =>
    refine CSim.bind (VPath.sim_readDir ⟨hfs, rfl, hc⟩) fun l1 l2 hl => CSim.pure ?_
    intro s
    simp only [List.mem_map]
    constructor
    · rintro ⟨a, ha, rfl⟩
      obtain ⟨b, hb, hab⟩ := hl.1 a ha
      exact ⟨b, hb, hab.path⟩
    · rintro ⟨b, hb, rfl⟩
      obtain ⟨a, ha, hab⟩ := hl.2 b hb
      exact ⟨a, ha, hab.path.symm⟩
  | read p => exact CSim.bind_eq (VPath.sim_readAll ⟨hfs, rfl, hc⟩) fun b => CSim.pure rfl
  | createDir p =>
    exact CSim.bind_eq (VPath.sim_createDir ⟨hfs, rfl, hc⟩ hv) fun _ => CSim.pure trivial
  | createDirAll p =>
    exact CSim.bind_eq (VPath.sim_createDirAll ⟨hfs, rfl, hc⟩) fun _ => CSim.pure trivial
  | removeFile p =>
    exact CSim.bind_eq (VPath.sim_removeFile ⟨hfs, rfl, hc⟩) fun _ => CSim.pure trivial
  | removeDir p =>
    exact CSim.bind_eq (VPath.sim_removeDir ⟨hfs, rfl, hc⟩ hv) fun _ => CSim.pure trivial
  | write p s =>
    exact CSim.bind_eq (VPath.sim_createSession ⟨hfs, rfl, hc⟩ s) fun _ => CSim.pure trivial
  | append p s =>
    exact CSim.bind_eq (VPath.sim_appendSession ⟨stackW_simW hv, rfl, hc⟩ s) fun _ => CSim.pure trivial

def runHist (fs : FS) (id : Nat) : List Op → World → List (Res Val) × World
  | [], w => ([], w)
  | op :: rest, w =>
    let r := op.run fs id w
    let t := runHist fs id rest r.2
    (r.1 :: t.1, t.2)

/-- **every finite history**: related outcomes call by call, related final worlds -/
theorem stack_history_agree {fs : FS} (hs : Stack fs) (id : Nat) (ops : List Op)
    (hops : ∀ op ∈ ops, op.Valid fs) (w1 w2 : World) (hr : RCore w1 w2) :
    ListRel (CRes KRel ValRel) (runHist fs id ops w1).1 (runHist fs id ops w2).1 ∧
    RCore (runHist fs id ops w1).2 (runHist fs id ops w2).2 := by
  induction ops generalizing w1 w2 with
  | nil => exact ⟨.nil, hr⟩
  | cons op rest ih =>
    obtain ⟨h1, h2⟩ := stack_agree hs id op (hops op (by simp)) w1 w2 hr
    obtain ⟨i1, i2⟩ := ih (fun o ho => hops o (by simp [ho])) _ _ h2
    exact ⟨.cons h1 i1, i2⟩

def memWorld (n : Nat) : World := { leaves := List.replicate n { kind := .mem, files := Mem.init } }
def physWorld (n : Nat) : World := { leaves := List.replicate n { kind := .phys, files := Phys.init } }

theorem leafOK_init : LeafOK Mem.init Phys.init := by
  refine ⟨WF.init_mem, .init, ?_⟩
  · intro k hk
    simp [Mem.init, FMap.keys] at hk
    subst hk
    exact ⟨[], by simp, rfl⟩

theorem rcore_init (n : Nat) : RCore (memWorld n) (physWorld n) := by
  refine ⟨fun i => ?_, rfl, rfl, rfl⟩
  unfold memWorld physWorld World.leaf?
  simp only [List.getElem?_replicate]
  split
  · exact ⟨rfl, rfl, leafOK_init⟩
  · trivial

theorem stack_from_empty {fs : FS} (hs : Stack fs) (id n : Nat) (ops : List Op)
    (hops : ∀ op ∈ ops, op.Valid fs) :
    ListRel (CRes KRel ValRel) (runHist fs id ops (memWorld n)).1 (runHist fs id ops (physWorld n)).1 ∧
    RCore (runHist fs id ops (memWorld n)).2 (runHist fs id ops (physWorld n)).2 :=
  stack_history_agree hs id ops hops _ _ (rcore_init n)

theorem rcore_coreEq {w1 w2 : World} (h : RCore w1 w2) (i : Nat) (l1 : Leaf)
    (h1 : w1.leaf? i = some l1) :
    ∃ l2, w2.leaf? i = some l2 ∧ l1.kind = .mem ∧ l2.kind = .phys ∧ WF l1.files ∧
      CoreEq l1.files l2.files := by
  have := h.leaf i
  rw [h1] at this
  cases h2 : w2.leaf? i with
  | none => rw [h2] at this; exact absurd this id
  | some l2 =>
    rw [h2] at this
    exact ⟨l2, rfl, this.1, this.2.1, this.2.2.wf, this.2.2.core⟩

theorem cres_outcome {r1 r2 : Res Val} (h : CRes KRel ValRel r1 r2) :
    r1.isOk = r2.isOk ∧ r1.isPanic = r2.isPanic ∧
    (∀ k1 k2, r1.kind? = some k1 → r2.kind? = some k2 →
      (k1 = .fileExists ↔ k2 = .fileExists) ∧ (k1 = .dirExists ↔ k2 = .dirExists) ∧
      (k2 = .fileNotFound → k1 = .fileNotFound ∨ k1 = .other)) := by
  refine ⟨h.isOk_eq, h.isPanic_eq, ?_⟩
  intro k1 k2 e1 e2
  cases h with
  | ok _ => cases e1
  | panic => cases e1
  | err hk =>
    simp only [Res.kind?, Option.some.injEq] at e1 e2
    subst e1 e2
    exact ⟨(KRel.exact hk).1, (KRel.exact hk).2.1, (KRel.exact hk).2.2.2.2⟩

/-! ### non-vacuity: an overlay of two layers below an altroot -/

def exLayers : List VPath :=
  [{ fs := leafFS 0, fsId := 10, path := [] }, { fs := leafFS 1, fsId := 11, path := [] }]

def exFS : FS := Altroot.fs { fs := Overlay.fs exLayers, fsId := 20, path := [] }

theorem canon_nil : Canon [] := C06.root_canonical

theorem forall_exLayers {P : VPath → Prop} (h0 : P ⟨leafFS 0, 10, []⟩) (h1 : P ⟨leafFS 1, 11, []⟩) :
    ∀ l ∈ exLayers, P l := by
  intro l hl
  simp only [exLayers, List.mem_cons, List.mem_nil_iff, or_false] at hl
  rcases hl with rfl | rfl <;> assumption

theorem exStack : Stack exFS :=
  Stack.altroot 20 [] (Stack.overlay exLayers (StackW.leaf 0)
    (forall_exLayers (.w (.leaf 0)) (.w (.leaf 1))) (forall_exLayers canon_nil canon_nil) canon_nil) canon_nil

def pD : Str := "/d".toList
def pF : Str := "/d/f".toList
def pE : Str := "/e".toList
def pX : Str := "/x".toList

theorem canon_pD : Canon pD := ⟨["d".toList], by decide, by decide⟩
theorem canon_pF : Canon pF := ⟨["d".toList, "f".toList], by decide, by decide⟩
theorem canon_pE : Canon pE := ⟨["e".toList], by decide, by decide⟩
theorem canon_pX : Canon pX := ⟨["x".toList], by decide, by decide⟩

/-- a history of the covered operations: the third and the last call fail -/
def exOps : List Op :=
  [.createDir pD, .write pF ["ab".toUTF8.toList, "c".toUTF8.toList], .createDir pD, .read pF,
   .append pF ["!".toUTF8.toList], .removeDir pD]

/-- the hypotheses of `stack_from_empty` are satisfiable on this stacking (the append session
is excluded: the top of the stacking is not a `StackW`) -/
theorem exOps_valid : ∀ op ∈ exOps.take 4 ++ exOps.drop 5, op.Valid exFS := by
  intro op hop
  simp only [exOps, List.take, List.drop, List.cons_append, List.nil_append, List.mem_cons,
    List.mem_nil_iff, or_false] at hop
  rcases hop with rfl | rfl | rfl | rfl | rfl
  · exact ⟨canon_pD, by decide⟩
  · exact ⟨canon_pF, trivial⟩
  · exact ⟨canon_pD, by decide⟩
  · exact ⟨canon_pF, trivial⟩
  · exact ⟨canon_pD, by decide⟩

example := stack_from_empty exStack 20 2 _ exOps_valid

/-- append sessions: an altroot over a leaf is a `StackW`, so `.append` is a valid operation -/
theorem exW : StackW (Altroot.fs { fs := leafFS 0, fsId := 1, path := [] }) :=
  StackW.altroot 1 [] (StackW.leaf 0) canon_nil

example : (Op.append pF ["!".toUTF8.toList]).Valid (Altroot.fs { fs := leafFS 0, fsId := 1, path := [] }) :=
  ⟨canon_pF, exW⟩

example :
    (runHist (Altroot.fs { fs := leafFS 0, fsId := 1, path := [] }) 1
      [.createDir pD, .write pF ["ab".toUTF8.toList], .append pF ["!".toUTF8.toList, []], .read pF]
      (memWorld 1)).1 =
    (runHist (Altroot.fs { fs := leafFS 0, fsId := 1, path := [] }) 1
      [.createDir pD, .write pF ["ab".toUTF8.toList], .append pF ["!".toUTF8.toList, []], .read pF]
      (physWorld 1)).1 := by
  decide +kernel

/-- what the theorem says on it, evaluated by the kernel: the same outcomes on both backends
(`DirExists` for the repeated `create_dir`, the bytes "abc" read back, the final `remove_dir`
of a non-empty directory refused — `Other` in both runs here, as the overlay itself refuses) -/
theorem ex_outcomes :
    (runHist exFS 20 (exOps.take 4 ++ exOps.drop 5) (memWorld 2)).1 =
      [.ok .unit, .ok .unit, .err .dirExists (some pD), .ok (.bytes "abc".toUTF8.toList),
       .err .other (some pD)] ∧
    (runHist exFS 20 (exOps.take 4 ++ exOps.drop 5) (physWorld 2)).1 =
      [.ok .unit, .ok .unit, .err .dirExists (some pD), .ok (.bytes "abc".toUTF8.toList),
       .err .other (some pD)] := by
  decide +kernel

/-- a longer run on the two concrete worlds, with a `copy_dir` (not covered by `stack_agree`)
and a failing call, through the altroot over the two-layer overlay: 6 calls -/
def exRun : M (List (Res Unit)) := do
  let d : VPath := { fs := exFS, fsId := 20, path := pD }
  let f : VPath := { fs := exFS, fsId := 20, path := pF }
  let e : VPath := { fs := exFS, fsId := 20, path := pE }
  let r1 ← M.attempt d.createDir
  let r2 ← M.attempt (C02.VPath.createSession f ["ab".toUTF8.toList, "c".toUTF8.toList])
  let r3 ← M.attempt d.createDir
  let r4 ← M.attempt (VPath.copyDir 8 d e >>= fun _ => pure ())
  let r5 ← M.attempt f.removeFile
  let r6 ← M.attempt d.removeDir
  pure [r1, r2, r3, r4, r5, r6]

/-- same outcomes call by call (the third call fails with `DirExists` in both runs), and the
final leaves hold the same tree and bytes -/
theorem ex_copyDir_agrees :
    (exRun (memWorld 2)).1 = (exRun (physWorld 2)).1 ∧
    ((exRun (memWorld 2)).2.leaves.zip (exRun (physWorld 2)).2.leaves).all
      (fun l => l.1.kind == .mem && l.2.kind == .phys && coreEqB l.1.files l.2.files) = true := by
  decide +kernel

/-- **the divergence that `copy_stmt` must exclude** (kernel-checked): `copy_file` with a
DIRECTORY as source, through the altroot over the overlay.  Both calls fail; afterwards the
destination exists on the physical backend (an empty file) and does not exist in memory. -/
theorem copy_dir_source_diverges :
    let d : VPath := { fs := exFS, fsId := 20, path := pD }
    let x : VPath := { fs := exFS, fsId := 20, path := pX }
    let run : M (Res Unit × Bool) := do
      d.createDir
      let r ← M.attempt (d.copyFile x)
      let ex ← x.exists_
      pure (r, ex)
    ((run (memWorld 2)).1.map fun r => (r.1.isOk, r.2)) = .ok (false, false) ∧
    ((run (physWorld 2)).1.map fun r => (r.1.isOk, r.2)) = .ok (false, true) := by
  decide +kernel

/-- the iterating operations (not proved; listings agree as sets only, see the header) -/
def iter_stmt : Prop :=
  ∀ (fs : FS), Stack fs → ∀ (id fuel : Nat) (s d : Str), Canon s → Canon d → s ≠ [] → d ≠ [] →
    CSim RCore KRel (· = ·)
      (VPath.removeDirAll fuel { fs := fs, fsId := id, path := s })
      (VPath.removeDirAll fuel { fs := fs, fsId := id, path := s }) ∧
    CSim RCore KRel (· = ·)
      (VPath.copyDir fuel { fs := fs, fsId := id, path := s } { fs := fs, fsId := id, path := d })
      (VPath.copyDir fuel { fs := fs, fsId := id, path := s } { fs := fs, fsId := id, path := d }) ∧
    CSim RCore KRel (· = ·)
      (VPath.moveDir fuel { fs := fs, fsId := id, path := s } { fs := fs, fsId := id, path := d })
      (VPath.moveDir fuel { fs := fs, fsId := id, path := s } { fs := fs, fsId := id, path := d })

/-- `copy_file` / `move_file` restricted to sources that are not directories (not proved in this
form, see the header; without the restriction it is refuted by `copy_dir_source_diverges`) -/
def copy_stmt : Prop :=
  ∀ (fs : FS), Stack fs → ∀ (id : Nat) (s d : Str), Canon s → Canon d →
    ∀ w1 w2, RCore w1 w2 →
      (VPath.isDir { fs := fs, fsId := id, path := s } w1).1 = .ok false →
      (CRes KRel (· = ·)
        (VPath.copyFile { fs := fs, fsId := id, path := s } { fs := fs, fsId := id, path := d } w1).1
        (VPath.copyFile { fs := fs, fsId := id, path := s } { fs := fs, fsId := id, path := d } w2).1 ∧
       RCore
        (VPath.copyFile { fs := fs, fsId := id, path := s } { fs := fs, fsId := id, path := d } w1).2
        (VPath.copyFile { fs := fs, fsId := id, path := s } { fs := fs, fsId := id, path := d } w2).2) ∧
      (CRes KRel (· = ·)
        (VPath.moveFile { fs := fs, fsId := id, path := s } { fs := fs, fsId := id, path := d } w1).1
        (VPath.moveFile { fs := fs, fsId := id, path := s } { fs := fs, fsId := id, path := d } w2).1 ∧
       RCore
        (VPath.moveFile { fs := fs, fsId := id, path := s } { fs := fs, fsId := id, path := d } w1).2
        (VPath.moveFile { fs := fs, fsId := id, path := s } { fs := fs, fsId := id, path := d } w2).2)

#print axioms stack_agree
#print axioms stack_history_agree
#print axioms stack_from_empty
#print axioms leaf_simW
#print axioms Overlay.simC
#print axioms Altroot.simW
#print axioms ex_outcomes
#print axioms ex_copyDir_agrees
#print axioms copy_dir_source_diverges

end Vfs.C02
