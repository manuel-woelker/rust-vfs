/-
  C06, second half — parent / filename / extension / root / is_root / equality are consistent
  with the canonical form, for all chains of join / parent / root.

  Chains run on the path value `PathVal` = filesystem identity + string (the data `VfsPath::eq`
  looks at; the `Arc` pointer equality is the `fsId` field) and are compared with an independent
  lexical specification `specChain` on component lists (character-level scanner, push / pop /
  clear). The start path is canonical (`Canon`); where only slash-freeness is needed, only that
  is assumed. `is_root`, `filename`, `extension` have no counterpart on `VPath` in the model files
  (the Rust ones are `path.is_empty()`, `filename_internal`, `extension_internal` on the string),
  so they are defined here on `PathVal` as exactly those one-liners; `vpath_chain` relates the
  chains to the model's `VPath` (PathOps.lean join / parent / root).
-/
import VfsModel.Props.C06
import VfsModel.PathOps
namespace Vfs.C06

namespace PathVal
def join (p : PathVal) (arg : Str) : Res PathVal := (joinInternal p.path arg).map (fun s => ⟨p.fsId, s⟩)
def parent (p : PathVal) : PathVal := ⟨p.fsId, parentInternal p.path⟩
def root (p : PathVal) : PathVal := ⟨p.fsId, []⟩
/-- `is_root`: `self.path.is_empty()` -/
def isRoot (p : PathVal) : Bool := p.path.isEmpty
def filename (p : PathVal) : Str := filenameInternal p.path
def extension (p : PathVal) : Option Str := extensionInternal p.path
end PathVal

theorem filename_root : filenameInternal [] = [] := rfl

/-- filename of a rendered non-empty component list is its last component -/
theorem filename_last_component (cs : List Str) (h : ∀ c ∈ cs, '/' ∉ c) (hne : cs ≠ []) :
    filenameInternal (renderC cs) = cs.getLast hne := by
  rcases List.eq_nil_or_concat cs with rfl | ⟨l, c, rfl⟩
  · exact absurd rfl hne
  · simp only [List.concat_eq_append] at h ⊢
    rw [filenameInternal_renderC_snoc l c (h c (by simp))]
    simp

/-- joining a good name always succeeds and the filename of the result is that name -/
theorem filename_join_name (p n : Str) (hp : Canon p) (hn : GoodComp n) :
    ∃ r, joinInternal p n = .ok r ∧ filenameInternal r = n ∧ parentInternal r = p := by
  obtain ⟨bs, hgood, rfl⟩ := hp
  have h := join_name bs n (good_noSlash hgood) hn
  obtain ⟨h1, h2⟩ := parent_join_name _ n _ ⟨bs, hgood, rfl⟩ hn h
  exact ⟨_, h, h2, h1⟩

theorem parent_renderC (cs : List Str) (h : ∀ c ∈ cs, '/' ∉ c) :
    parentInternal (renderC cs) = renderC cs.dropLast := parentInternal_renderC cs h

/-- every canonical non-root path is the join of its parent and its filename -/
theorem join_parent_filename (p : Str) (hp : Canon p) (hne : p ≠ []) :
    joinInternal (parentInternal p) (filenameInternal p) = .ok p := by
  obtain ⟨cs, hgood, rfl⟩ := hp
  rcases List.eq_nil_or_concat cs with rfl | ⟨l, c, rfl⟩
  · exact absurd rfl hne
  · simp only [List.concat_eq_append] at hgood ⊢
    have hns := good_noSlash hgood
    rw [parentInternal_renderC _ hns, filenameInternal_renderC_snoc l c (hns c (by simp))]
    simp only [List.dropLast_concat]
    exact join_name l c (fun x hx => hns x (by simp [hx])) (hgood c (by simp))

theorem is_root_iff (p : PathVal) : p.isRoot = true ↔ p.path = [] := by
  simp [PathVal.isRoot]

theorem is_root_iff_comps (i : Nat) (cs : List Str) :
    (PathVal.mk i (renderC cs)).isRoot = true ↔ cs = [] := by
  rw [is_root_iff]; exact renderC_eq_nil cs

theorem root_is_root (p : PathVal) : p.root.isRoot = true := rfl

theorem root_same_fs (p : PathVal) : p.root.fsId = p.fsId := rfl

theorem parent_root_is_root (p : PathVal) (h : p.isRoot = true) : p.parent = p := by
  cases p with
  | mk i s => rw [is_root_iff] at h; simp at h; subst h; rfl

def parentN : Nat → PathVal → PathVal
  | 0, p => p
  | k + 1, p => parentN k p.parent

theorem parent_iter (i : Nat) (cs : List Str) (h : ∀ c ∈ cs, '/' ∉ c) (k : Nat) :
    parentN k ⟨i, renderC cs⟩ = ⟨i, renderC (cs.take (cs.length - k))⟩ := by
  induction k generalizing cs with
  | zero => simp [parentN]
  | succ k ih =>
    rw [parentN, PathVal.parent, parentInternal_renderC cs h,
      ih _ (fun c hc => h c (List.dropLast_subset _ hc)), List.length_dropLast,
      List.dropLast_eq_take, List.take_take, Nat.sub_sub, Nat.add_comm 1 k,
      Nat.min_eq_left (Nat.sub_le_sub_left (Nat.le_add_left 1 k) _)]

/-- exactly `cs.length` applications of parent reach the root … -/
theorem parent_iter_reaches_root (i : Nat) (cs : List Str) (h : ∀ c ∈ cs, '/' ∉ c) :
    parentN cs.length ⟨i, renderC cs⟩ = ⟨i, []⟩ := by
  rw [parent_iter i cs h]; simp

/-- … and no fewer do -/
theorem parent_iter_not_root_before (i : Nat) (cs : List Str) (h : ∀ c ∈ cs, '/' ∉ c)
    (k : Nat) (hk : k < cs.length) : (parentN k ⟨i, renderC cs⟩).isRoot = false := by
  rw [parent_iter i cs h, Bool.eq_false_iff, Ne, is_root_iff_comps, List.take_eq_nil_iff]
  rintro (h0 | h0)
  · exact absurd (Nat.sub_eq_zero_iff_le.1 h0) (Nat.not_le.2 hk)
  · subst h0; exact absurd hk (Nat.not_lt_zero k)

inductive Step where
  | join (arg : Str)
  | parent
  | root
  deriving DecidableEq, Repr

def step (p : PathVal) : Step → Res PathVal
  | .join a => p.join a
  | .parent => .ok p.parent
  | .root => .ok p.root

def runChain (p : PathVal) : List Step → Res PathVal
  | [] => .ok p
  | s :: rest =>
    match step p s with
    | .ok q => runChain q rest
    | .err k e => .err k e
    | .panic => .panic

/-! the independent specification: a character-level scanner over the argument, driving a stack
of components (push / pop / clear) -/

/-- what one finished component does to the stack -/
def applyComp (st : List Str) (c : Str) : List Str :=
  if c = [] ∨ c = ['.'] then st
  else if c = ['.', '.'] then st.dropLast
  else st ++ [c]

/-- scan the argument: `cur` is the component being read; '/' finishes it -/
def lexGo (st : List Str) (cur : Str) : Str → List Str
  | [] => applyComp st cur
  | c :: rest => if c = '/' then lexGo (applyComp st cur) [] rest else lexGo st (cur ++ [c]) rest

/-- lexical meaning of `join arg` on a component stack; `error arg` = rejected argument -/
def specJoin (st : List Str) (arg : Str) : Except Str (List Str) :=
  if arg.length > 1 ∧ arg.getLast? = some '/' then .error arg
  else .ok (lexGo (if arg.head? = some '/' then [] else st) [] arg)

deriving instance DecidableEq for Except

def specStep (st : List Str) : Step → Except Str (List Str)
  | .join a => specJoin st a
  | .parent => .ok st.dropLast
  | .root => .ok []

def specChain (st : List Str) : List Step → Except Str (List Str)
  | [] => .ok st
  | s :: rest =>
    match specStep st s with
    | .ok st' => specChain st' rest
    | .error a => .error a

theorem resolve_cons_applyComp (st : List Str) (c : Str) (t : List Str) :
    resolve st (c :: t) = resolve (applyComp st c) t := by
  unfold applyComp
  rw [resolve]
  by_cases h1 : c = ['.'] ∨ c = []
  · have : c = [] ∨ c = ['.'] := h1.symm
    simp only [if_pos h1, if_pos this]
  · have : ¬ (c = [] ∨ c = ['.']) := fun h => h1 h.symm
    simp only [if_neg h1, if_neg this]
    split <;> rfl

theorem lexGo_spec (st : List Str) (cur s : Str) :
    ∃ h t, splitOnC '/' s = h :: t ∧ lexGo st cur s = resolve st ((cur ++ h) :: t) := by
  induction s generalizing st cur with
  | nil =>
    refine ⟨[], [], rfl, ?_⟩
    rw [List.append_nil, resolve_cons_applyComp, lexGo, resolve]
  | cons c cs ih =>
    by_cases hc : c = '/'
    · obtain ⟨h, t, h1, h2⟩ := ih (applyComp st cur) []
      refine ⟨[], h :: t, ?_, ?_⟩
      · rw [splitOnC, if_pos hc, h1]
      · rw [lexGo, if_pos hc, h2, List.append_nil, resolve_cons_applyComp st cur]
        rfl
    · obtain ⟨h, t, h1, h2⟩ := ih st (cur ++ [c])
      refine ⟨c :: h, t, ?_, ?_⟩
      · rw [splitOnC, if_neg hc, h1]
      · rw [lexGo, if_neg hc, h2]; simp

theorem lexGo_eq_resolve (st : List Str) (s : Str) :
    lexGo st [] s = resolve st (splitSlash s) := by
  obtain ⟨h, t, h1, h2⟩ := lexGo_spec st [] s
  rw [h2, splitSlash, h1]; rfl

theorem join_spec (i : Nat) (cs : List Str) (hcs : ∀ c ∈ cs, '/' ∉ c) (arg : Str) :
    (PathVal.mk i (renderC cs)).join arg =
      match specJoin cs arg with
      | .ok cs' => .ok ⟨i, renderC cs'⟩
      | .error a => .err .invalidPath (some a) := by
  unfold PathVal.join specJoin
  by_cases hts : trailingSlash arg
  · have := (join_err_iff (renderC cs) arg .invalidPath (some arg)).2 ⟨hts, rfl, rfl⟩
    have hts' : arg.length > 1 ∧ arg.getLast? = some '/' := hts
    simp only [this, Res.map]
    rw [if_pos hts']
  · have hts' : ¬ (arg.length > 1 ∧ arg.getLast? = some '/') := hts
    rw [if_neg hts']
    by_cases hne : arg = []
    · subst hne
      simp [joinInternal, Res.map, lexGo, applyComp]
    · simp only [join_resolve cs arg hcs hne hts, Res.map, lexGo_eq_resolve, startStack]

theorem specJoin_good (cs : List Str) (hcs : ∀ c ∈ cs, GoodComp c) (arg : Str) (cs' : List Str)
    (h : specJoin cs arg = .ok cs') : ∀ c ∈ cs', GoodComp c := by
  unfold specJoin at h
  split at h
  · cases h
  · injection h with h; subst h
    rw [lexGo_eq_resolve]
    exact resolve_startStack_good cs arg hcs

theorem specStep_good (cs : List Str) (hcs : ∀ c ∈ cs, GoodComp c) (s : Step) (cs' : List Str)
    (h : specStep cs s = .ok cs') : ∀ c ∈ cs', GoodComp c := by
  cases s with
  | join a => exact specJoin_good cs hcs a cs' h
  | parent => cases h; exact fun c hc => hcs c (List.dropLast_subset _ hc)
  | root => cases h; exact fun _ hc => nomatch hc

theorem specChain_good (cs : List Str) (hcs : ∀ c ∈ cs, GoodComp c) (steps : List Step)
    (cs' : List Str) (h : specChain cs steps = .ok cs') : ∀ c ∈ cs', GoodComp c := by
  induction steps generalizing cs with
  | nil => cases h; exact hcs
  | cons s rest ih =>
    simp only [specChain] at h
    cases hs : specStep cs s with
    | ok st' => rw [hs] at h; exact ih st' (specStep_good cs hcs s st' hs) h
    | error a => rw [hs] at h; cases h

/-- a rejected chain was rejected by one of its joins, whose argument ends in '/' -/
theorem specChain_error (cs : List Str) (steps : List Step) (a : Str)
    (h : specChain cs steps = .error a) : Step.join a ∈ steps ∧ trailingSlash a := by
  induction steps generalizing cs with
  | nil => cases h
  | cons s rest ih =>
    simp only [specChain] at h
    cases hs : specStep cs s with
    | ok st' =>
      rw [hs] at h
      obtain ⟨h1, h2⟩ := ih st' h
      exact ⟨List.mem_cons_of_mem _ h1, h2⟩
    | error b =>
      rw [hs] at h; injection h with h; subst h
      cases s with
      | join x =>
        simp only [specStep, specJoin] at hs
        split at hs
        · rename_i hts; injection hs with hs; subst hs; exact ⟨by simp, hts⟩
        · cases hs
      | parent => cases hs
      | root => cases hs

def specResult (i : Nat) : Except Str (List Str) → Res PathVal
  | .ok cs' => .ok ⟨i, renderC cs'⟩
  | .error a => .err .invalidPath (some a)

/-- every chain from a canonical path computes the lexical resolution of the chain -/
theorem chain_resolves (i : Nat) (cs : List Str) (hcs : ∀ c ∈ cs, GoodComp c) (steps : List Step) :
    runChain ⟨i, renderC cs⟩ steps = specResult i (specChain cs steps) := by
  induction steps generalizing cs with
  | nil => rfl
  | cons s rest ih =>
    have hstep : step ⟨i, renderC cs⟩ s = specResult i (specStep cs s) := by
      cases s with
      | join a =>
        simp only [step, specStep, join_spec i cs (good_noSlash hcs) a]
        cases specJoin cs a <;> rfl
      | parent =>
        simp only [step, specStep, specResult, PathVal.parent,
          parentInternal_renderC cs (good_noSlash hcs)]
      | root => rfl
    simp only [runChain, specChain, hstep]
    cases hs : specStep cs s with
    | ok st' => simp only [specResult]; exact ih st' (specStep_good cs hcs s st' hs)
    | error a => rfl

/-- from a canonical path every chain yields a canonical path on the same filesystem instance,
or `InvalidPath` labelled with the argument of a join of the chain that ends in '/' -/
theorem chain_canonical (p : PathVal) (hp : Canon p.path) (steps : List Step) :
    (∃ q, runChain p steps = .ok q ∧ Canon q.path ∧ q.fsId = p.fsId) ∨
    (∃ a, runChain p steps = .err .invalidPath (some a) ∧ Step.join a ∈ steps ∧ trailingSlash a) := by
  obtain ⟨i, s⟩ := p
  obtain ⟨cs, hgood, rfl⟩ := hp
  rw [chain_resolves i cs hgood steps]
  cases h : specChain cs steps with
  | ok cs' => exact .inl ⟨_, rfl, ⟨cs', specChain_good cs hgood steps cs' h, rfl⟩, rfl⟩
  | error a => exact .inr ⟨a, rfl, specChain_error cs steps a h⟩

theorem chain_total (p : PathVal) (hp : Canon p.path) (steps : List Step) :
    runChain p steps ≠ .panic := by
  rcases chain_canonical p hp steps with ⟨q, h, _⟩ | ⟨a, h, _⟩ <;> rw [h] <;> simp

/-- every file name is of exactly one of three shapes (the cases of `extension`) -/
theorem ext_cases (name : Str) :
    ('.' ∉ name) ∨ (∃ b, name = '.' :: b ∧ '.' ∉ b) ∨
    (∃ a b, a ≠ [] ∧ name = a ++ '.' :: b ∧ '.' ∉ b) := by
  by_cases h : '.' ∈ name
  · obtain ⟨h1, h2⟩ := split_last '.' name h
    by_cases ha : beforeLast '.' name = []
    · rw [ha] at h1; exact .inr (.inl ⟨_, h1, h2⟩)
    · exact .inr (.inr ⟨_, _, ha, h1, h2⟩)
  · exact .inl h

/-- the specification of the extension of a file name, by shape -/
inductive ExtSpec : Str → Option Str → Prop
  | nodot (name) : '.' ∉ name → ExtSpec name none
  | hidden (b) : '.' ∉ b → ExtSpec ('.' :: b) none
  | ext (a b) : a ≠ [] → '.' ∉ b → ExtSpec (a ++ '.' :: b) (some b)

/-- `extension p` is determined by `filename p` alone: the part after the last '.' of the
filename when that '.' is not its first character, otherwise none -/
theorem extension_of_filename (p : PathVal) : ExtSpec p.filename p.extension := by
  show ExtSpec (filenameInternal p.path) (extOfName (filenameInternal p.path))
  generalize filenameInternal p.path = name
  rcases ext_cases name with h | ⟨b, rfl, hb⟩ | ⟨a, b, ha, rfl, hb⟩
  · rw [extOfName_nodot h]; exact .nodot _ h
  · rw [extOfName_hidden hb]; exact .hidden b hb
  · rw [extOfName_ext ha hb]; exact .ext a b ha hb

theorem ExtSpec.eq_extOfName {name : Str} {x : Option Str} (h : ExtSpec name x) :
    x = extOfName name := by
  cases h with
  | nodot _ h => exact (extOfName_nodot h).symm
  | hidden b hb => exact (extOfName_hidden hb).symm
  | ext a b ha hb => exact (extOfName_ext ha hb).symm

theorem ExtSpec_functional (name : Str) (x y : Option Str)
    (hx : ExtSpec name x) (hy : ExtSpec name y) : x = y :=
  hx.eq_extOfName.trans hy.eq_extOfName.symm

theorem extension_depends_on_filename (p q : PathVal) (h : p.filename = q.filename) :
    p.extension = q.extension :=
  ExtSpec_functional _ _ _ (extension_of_filename p) (h ▸ extension_of_filename q)

theorem specResult_inj (i : Nat) (x y : Except Str (List Str))
    (hx : ∀ a, x = .ok a → ∀ c ∈ a, '/' ∉ c) (hy : ∀ a, y = .ok a → ∀ c ∈ a, '/' ∉ c)
    (h : specResult i x = specResult i y) : x = y := by
  cases x with
  | ok a =>
    cases y with
    | ok b =>
      simp only [specResult, Res.ok.injEq, PathVal.mk.injEq, true_and] at h
      rw [renderC_injective a b (hx a rfl) (hy b rfl) h]
    | error b => cases h
  | error a =>
    cases y with
    | ok b => cases h
    | error b => simp only [specResult, Res.err.injEq, Option.some.injEq, true_and] at h; rw [h]

/-- two chains from the same canonical start give equal results (as path values, or the same
error) iff their lexical resolutions agree -/
theorem eq_chain (i : Nat) (cs : List Str) (hcs : ∀ c ∈ cs, GoodComp c) (s1 s2 : List Step) :
    runChain ⟨i, renderC cs⟩ s1 = runChain ⟨i, renderC cs⟩ s2 ↔ specChain cs s1 = specChain cs s2 := by
  rw [chain_resolves i cs hcs, chain_resolves i cs hcs]
  constructor
  · exact specResult_inj i _ _
      (fun a h => good_noSlash (specChain_good cs hcs s1 a h))
      (fun a h => good_noSlash (specChain_good cs hcs s2 a h))
  · intro h; rw [h]

/-- the successful case: equal paths iff equal resolved component lists -/
theorem eq_chain_ok (i : Nat) (cs : List Str) (hcs : ∀ c ∈ cs, GoodComp c) (s1 s2 : List Step)
    (a b : List Str) (h1 : specChain cs s1 = .ok a) (h2 : specChain cs s2 = .ok b) :
    runChain ⟨i, renderC cs⟩ s1 = .ok ⟨i, renderC a⟩ ∧ runChain ⟨i, renderC cs⟩ s2 = .ok ⟨i, renderC b⟩ ∧
    (runChain ⟨i, renderC cs⟩ s1 = runChain ⟨i, renderC cs⟩ s2 ↔ a = b) := by
  refine ⟨by rw [chain_resolves i cs hcs, h1]; rfl, by rw [chain_resolves i cs hcs, h2]; rfl, ?_⟩
  rw [eq_chain i cs hcs, h1, h2]
  constructor
  · intro h; injection h
  · intro h; rw [h]

/-- paths of different filesystem instances are never equal, whatever the chains -/
theorem eq_chain_fs (p q : PathVal) (hp : Canon p.path) (hq : Canon q.path) (hne : p.fsId ≠ q.fsId)
    (s1 s2 : List Step) (r1 r2 : PathVal)
    (h1 : runChain p s1 = .ok r1) (h2 : runChain q s2 = .ok r2) : r1 ≠ r2 := by
  rcases chain_canonical p hp s1 with ⟨x, hx, _, hxi⟩ | ⟨a, ha, _⟩
  · rcases chain_canonical q hq s2 with ⟨y, hy, _, hyi⟩ | ⟨a, ha, _⟩
    · rw [hx] at h1; rw [hy] at h2
      injection h1 with h1; injection h2 with h2
      subst h1; subst h2
      intro h; rw [h] at hxi; exact hne (hxi.symm.trans hyi)
    · rw [ha] at h2; cases h2
  · rw [ha] at h1; cases h1

def toVal (p : VPath) : PathVal := ⟨p.fsId, p.path⟩

def vstep (p : VPath) : Step → Res VPath
  | .join a => p.join a
  | .parent => .ok p.parent
  | .root => .ok p.root

def vrunChain (p : VPath) : List Step → Res VPath
  | [] => .ok p
  | s :: rest =>
    match vstep p s with
    | .ok q => vrunChain q rest
    | .err k e => .err k e
    | .panic => .panic

theorem vstep_toVal (p : VPath) (s : Step) : (vstep p s).map toVal = step (toVal p) s := by
  cases s with
  | join a =>
    simp only [vstep, step, VPath.join, PathVal.join, toVal]
    cases joinInternal p.path a <;> rfl
  | parent => rfl
  | root => rfl

theorem vstep_fs (p q : VPath) (s : Step) (h : vstep p s = .ok q) :
    q = { p with path := q.path } := by
  cases s with
  | join a =>
    simp only [vstep, VPath.join] at h
    cases hj : joinInternal p.path a <;> rw [hj] at h <;> cases h
    rfl
  | parent => cases h; rfl
  | root => cases h; rfl

/-- a chain on `VPath` is the chain on its path value; `fs` and `fsId` never change -/
theorem vpath_chain (p : VPath) (steps : List Step) :
    (vrunChain p steps).map toVal = runChain (toVal p) steps ∧
    ∀ q, vrunChain p steps = .ok q → q = { p with path := q.path } := by
  induction steps generalizing p with
  | nil => exact ⟨rfl, fun q h => by cases h; rfl⟩
  | cons s rest ih =>
    have hs := vstep_toVal p s
    simp only [vrunChain, runChain]
    cases hv : vstep p s <;> rw [hv] at hs <;> rw [← hs]
    · refine ⟨(ih _).1, fun r hr => ?_⟩
      rw [(ih _).2 r hr, vstep_fs p _ s hv]
    · exact ⟨rfl, fun q h => by cases h⟩
    · exact ⟨rfl, fun q h => by cases h⟩

def s (x : String) : Str := x.toList

example : ∀ c ∈ [s "a", s "né", s "日本"], GoodComp c := by decide +kernel

/-- a chain with "..", ".", a leading '/', multi-byte components, parent and root -/
example :
    runChain ⟨7, renderC [s "a", s "né"]⟩
      [.join (s "../日本/./x.tar.gz"), .parent, .join (s "ü"), .join (s ".."), .join (s "/€/b"), .parent]
      = .ok ⟨7, s "/€"⟩ := by decide +kernel
example :
    specChain [s "a", s "né"]
      [.join (s "../日本/./x.tar.gz"), .parent, .join (s "ü"), .join (s ".."), .join (s "/€/b"), .parent]
      = .ok [s "€"] := by decide +kernel
example : runChain ⟨7, s "/a"⟩ [.join (s "b"), .root, .join (s "../.."), .parent] = .ok ⟨7, []⟩ := by
  decide +kernel
example : runChain ⟨7, s "/a"⟩ [.join (s "b"), .join (s "c/"), .root]
    = .err .invalidPath (some (s "c/")) := by decide
example : specChain [s "a"] [.join (s "b"), .join (s "c/"), .root] = .error (s "c/") := by decide
/-- two different chains, same location -/
example : runChain ⟨1, s "/a"⟩ [.join (s "日/../b")] = runChain ⟨1, s "/a"⟩ [.parent, .join (s "/a/./b")] := by
  decide +kernel
example : specChain [s "a"] [.join (s "日/../b")] = specChain [s "a"] [.parent, .join (s "/a/./b")] := by
  decide +kernel
/-- same string, other filesystem instance: different -/
example : runChain ⟨1, s "/a"⟩ [.join (s "b")] ≠ runChain ⟨2, s "/a"⟩ [.join (s "b")] := by decide
example : parentN 3 ⟨0, renderC [s "a", s "é", s "c"]⟩ = ⟨0, []⟩ := by decide
example : (parentN 2 ⟨0, renderC [s "a", s "é", s "c"]⟩).isRoot = false := by decide
example : (PathVal.mk 0 (s "/a/日本.tar.gz")).filename = s "日本.tar.gz" := by decide +kernel
example : (PathVal.mk 0 (s "/a/日本.tar.gz")).extension = some (s "gz") := by decide +kernel
example : (PathVal.mk 0 (s "/a.d/.hidden")).extension = none := by decide +kernel
example : (PathVal.mk 0 (s "/a.d/plain")).extension = none := by decide +kernel
example : joinInternal (parentInternal (s "/a/né")) (filenameInternal (s "/a/né")) = .ok (s "/a/né") := by
  decide +kernel

#print axioms chain_resolves
#print axioms chain_canonical
#print axioms eq_chain
#print axioms eq_chain_fs
#print axioms extension_of_filename
#print axioms join_parent_filename
#print axioms parent_iter_not_root_before
#print axioms filename_join_name
#print axioms vpath_chain

end Vfs.C06
