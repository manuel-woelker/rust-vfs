/-
  C02 ("MemoryFS is a faithful stand-in for PhysicalFS") for the iterating operations — walk_dir,
  remove_dir_all, move_dir (one filesystem) — although the two backends list directories in
  different orders. Method: the PHYSICAL side's result is characterised exactly (as
  Proofs/TransferLemmas.lean and Props/C11Nested.lean do for memory) and compared. Setting: memory
  leaf `i` of world `wm` holds `a` (`MemLeafAt`), physical leaf `j` of world `wp` holds `b`
  (`PhysLeafAt`), `WF a`, `CoreEq a b` (same types and bytes, timestamps and STORAGE ORDER aside),
  `NodupKeys a`, `NodupKeys b` (needed: `CoreEq` constrains lookups only).

   * `walk_agree` (p a directory, fuel > descCount a p): both collected walks are Ok lists of Ok
     items, the two path lists are PERMUTATIONS of each other (= the keys strictly below p), each
     has ancestors first, worlds unchanged. `walk_agree_not_dir`: file / absent / below a file:
     both fail with the path filled in, worlds unchanged.
   * `prd_all` : exact result of remove_dir_all on a physical leaf (`PRDSpec`: Ok, map =
     old map without the subtree, WF, NodupKeys) — the physical twin of `rd_all`.
   * `remove_dir_all_agree` (ANY non-root path string; fuel+1 with |k| < |P| + fuel + 1 for the
     keys): same outcome class (`SameOutcome`), results CoreEq, WF, NodupKeys; on success both =
     `SubtreeRemoved`; on failure nothing changed. Cases `…_dir`, `…_absent`, `…_file`
     (memory `Other`, physical `io`, both with the path).
   * `moveDir_phys_same`: move_dir inside one physical filesystem = one `rename`
     (the renamed tree key by key: `find?_renameTree_tree`, Proofs/TransferLemmas.lean).
   * `move_dir_agree_same` : S a non-root directory, D = renderC bs fresh, not at or below S,
     `C11.DirsBare a S`, hypotheses of `C11.moveDir_exact_same` (canonical keys below S, fuel
     bounds): memory (generic route, any two Arc ids) and physical (rename fast path, one Arc id)
     both Ok, resulting maps CoreEq, both WF.
   * `copy_move_dir_agree_refused` : existing destination: both sides refuse copy_dir and
     move_dir, nothing changes (partial version of `copy_dir_stmt`).
   * the scenario: `C11.mN` (depth 4, empty dir, empty file, siblings a / ab / a.b) against `pN` =
     the same tree in REVERSE storage order with other timestamps (`mN_pN_coreEq`, `pN_order`).

  Stated and not proved: `copy_dir_stmt` (copy_dir, two leaves or one) and `move_dir_cross_stmt`
  (move_dir between two leaves): missing lemma = the physical twin of `CD.copyDir_tree`
  (Proofs/CopyDirLemmas.lean: `CopyLoop.copyItems_run` with the invariant `MemInv`; the twin needs
  the round `mem_step` for `Phys.createDir` / `Phys.copyFile` / the generic route); with it the
  comparison is as in `move_dir_agree_same`. Also not proved:
  move_dir on one physical leaf with two DIFFERENT Arc ids (generic route), the root as target
  of remove_dir_all, failure classes beyond `SameOutcome`, partial runs with too little fuel.
-/
import VfsModel.Props.C13Phys
import VfsModel.Props.C02
set_option linter.unusedSectionVars false
namespace Vfs.C02
open Vfs.C05 (walkCollect descCount okItems)
open Vfs.Wk (mk below)

/-- the stored keys of CoreEq maps without duplicates are permutations of each other (the two
backends may hold — and list — them in different orders) -/
theorem coreEq_keys_perm {a b : FMap} (hc : CoreEq a b) (ha : FMap.NodupKeys a)
    (hb : FMap.NodupKeys b) : a.keys.Perm b.keys :=
  (List.perm_ext_iff_of_nodup ha hb).2 hc.mem_keys

theorem coreEq_descCount_eq {a b : FMap} (hc : CoreEq a b) (ha : FMap.NodupKeys a)
    (hb : FMap.NodupKeys b) (p : Str) : descCount a p = descCount b p := by
  unfold descCount
  exact ((coreEq_keys_perm hc ha hb).filter _).length_eq

def BothErr {α β} (rm : Res α) (rp : Res β) : Prop :=
  (∃ k pth, rm = .err k pth) ∧ (∃ k pth, rp = .err k pth)

section walk
variable {wm wp : World} {i j : Nat} {a b : FMap} (hm : MemLeafAt wm i a) (hp : PhysLeafAt wp j b)
  (hwf : WF a) (hc : CoreEq a b) (hna : FMap.NodupKeys a) (hnb : FMap.NodupKeys b)
include hm hp hwf hc hna hnb

/-- **walk_agree (directory)**: the collected `walk_dir` of a directory `p` on the memory leaf and
on the physical leaf are both `Ok` lists of `Ok` items, the two lists of paths are permutations of
each other (same SET: exactly the entries strictly below `p`, each once), each of the two lists
has ancestors first, and neither world changes. -/
theorem walk_agree (idm idp : Nat) (p : Str) (hdir : ∃ e, a.find? p = some e ∧ e.ftype = .dir)
    (fuel : Nat) (hf : descCount a p < fuel) :
    ∃ Lm Lp : List Str,
      walkCollect fuel (mk i idm p) wm = (.ok (okItems i idm Lm), wm) ∧
      walkCollect fuel (mk j idp p) wp = (.ok (okItems j idp Lp), wp) ∧
      Lm.Perm Lp ∧
      (∀ k, k ∈ Lm ↔ k ∈ a.keys ∧ below p k = true) ∧
      Lm.Pairwise (fun x y => below y x = false) ∧
      Lp.Pairwise (fun x y => below y x = false) := by
  have hwfb : WF b := hwf.of_coreEq hc
  obtain ⟨e, he, hd⟩ := hdir
  obtain ⟨e', he', hd'⟩ := (hc.dir_iff p).1 ⟨e, he, hd⟩
  obtain ⟨Lm, h1, h2, h3, h4⟩ := C05.walk_spec hm hwf hna idm p e he hd fuel hf
  obtain ⟨Lp, g1, g2, g3, g4⟩ := C13.phys_walk_spec hp hwfb hnb idp p e' he' hd' fuel
    (by rw [← coreEq_descCount_eq hc hna hnb p]; exact hf)
  refine ⟨Lm, Lp, h1, g1, ?_, h2, h4, g4⟩
  apply (List.perm_ext_iff_of_nodup h3 g3).2
  intro k
  rw [h2 k, g2 k, hc.mem_keys k]

omit hna hnb in
/-- **walk_agree (not a directory)**: on a file, an absent path, a path below a file: both fail,
with the path filled in, worlds unchanged. (Class: memory reports `Other` on a file and
`FileNotFound` on an absent path; the physical side `io` = `ENOTDIR` resp. `FileNotFound` or
`io` below a file — `SameOutcome`, the comparison of C02.lean.) -/
theorem walk_agree_not_dir (idm idp : Nat) (p : Str)
    (hnd : ¬ ∃ e, a.find? p = some e ∧ e.ftype = .dir) (fuel : Nat) :
    ∃ km kp, walkCollect fuel (mk i idm p) wm = (.err km (some p), wm) ∧
      walkCollect fuel (mk j idp p) wp = (.err kp (some p), wp) := by
  have hwfb : WF b := hwf.of_coreEq hc
  have h1 := (C05.walk_dir_not_dir hm idm p (fun e he hd => hnd ⟨e, he, hd⟩) fuel).2
  obtain ⟨kp, h2⟩ := C13.phys_walk_not_dir hp hwfb idp p
    (fun hd => hnd ((hc.dir_iff p).2 hd)) fuel
  exact ⟨_, kp, h1, h2⟩

end walk

/-! ## remove_dir_all: the physical side computed exactly -/

/-- specification of `remove_dir_all fuel` on an existing directory of PHYSICAL leaf `i`
(the physical twin of `RDSpec` in Proofs/TransferLemmas.lean) -/
def PRDSpec (i id fuel : Nat) : Prop :=
  ∀ (w : World) (m : FMap) (P : Str) (e : Entry), PhysLeafAt w i m → WF m → FMap.NodupKeys m →
    P ≠ [] → m.find? P = some e → e.ftype = .dir →
    (∀ k e', m.find? k = some e' → k.length < P.length + fuel) →
    ∃ m', VPath.removeDirAll fuel { fs := leafFS i, fsId := id, path := P } w =
        (.ok (), w.setLeafFiles i m') ∧ WF m' ∧ FMap.NodupKeys m' ∧ SubtreeRemoved m m' P

theorem prd_all (i id : Nat) : ∀ fuel, PRDSpec i id fuel :=
  fun fuel _ _ _ _ h hwf hnd hP he hd hb =>
    RemoveLoop.leaf_removeDirAll id fuel (kd := .phys) h hwf hnd hP he hd hb

theorem subtreeRemoved_absent {m : FMap} (hwf : WF m) (P : Str) (habs : m.find? P = none) :
    SubtreeRemoved m m P := by
  intro k
  split
  · rename_i hu
    exact nothing_under_absent hwf P habs k hu
  · rfl

theorem subtreeRemoved_coreEq {a b a' b' : FMap} {P : Str} (hc : CoreEq a b)
    (ha : SubtreeRemoved a a' P) (hb : SubtreeRemoved b b' P) : CoreEq a' b' := by
  intro k
  rw [ha k, hb k]
  split
  · rfl
  · exact hc k

section remove
variable {wm wp : World} {i j : Nat} {a b : FMap} (hm : MemLeafAt wm i a) (hp : PhysLeafAt wp j b)
  (hwf : WF a) (hc : CoreEq a b) (hna : FMap.NodupKeys a) (hnb : FMap.NodupKeys b)
include hm hp hwf hc hna hnb

/-- **remove_dir_all_agree, a directory**: both `Ok`; both maps are the old map without the
subtree at `P` (`SubtreeRemoved`), hence `CoreEq` again, well-formed, duplicate-free. The two
runs remove the children in the order of THEIR listing; the result does not depend on it. -/
theorem remove_dir_all_agree_dir (idm idp : Nat) (P : Str) (hP : P ≠ [])
    (hdir : ∃ e, a.find? P = some e ∧ e.ftype = .dir) (fuel : Nat)
    (hfuel : ∀ k e, a.find? k = some e → k.length < P.length + fuel) :
    ∃ a' b', VPath.removeDirAll fuel (mk i idm P) wm = (.ok (), wm.setLeafFiles i a') ∧
      VPath.removeDirAll fuel (mk j idp P) wp = (.ok (), wp.setLeafFiles j b') ∧
      SubtreeRemoved a a' P ∧ SubtreeRemoved b b' P ∧ CoreEq a' b' ∧ WF a' ∧ WF b' ∧
      FMap.NodupKeys a' ∧ FMap.NodupKeys b' := by
  have hwfb : WF b := hwf.of_coreEq hc
  obtain ⟨e, he, hd⟩ := hdir
  obtain ⟨e', he', hd'⟩ := (hc.dir_iff P).1 ⟨e, he, hd⟩
  obtain ⟨a', h1, h2, h3, h4⟩ := rd_all i idm fuel wm a P e hm hwf hna hP he hd hfuel
  obtain ⟨b', g1, g2, g3, g4⟩ := prd_all j idp fuel wp b P e' hp hwfb hnb hP he' hd'
    (fun k ek hk => by
      obtain ⟨ea, hea⟩ := (hc.present_iff k).2 ⟨ek, hk⟩
      exact hfuel k ea hea)
  exact ⟨a', b', h1, g1, h4, g4, subtreeRemoved_coreEq hc h4 g4, h2, g2, h3, g3⟩

omit hna hnb in
/-- **remove_dir_all_agree, an absent path** (below a file included): both `Ok`, nothing changes -/
theorem remove_dir_all_agree_absent (idm idp : Nat) (P : Str) (habs : a.find? P = none)
    (fuel : Nat) :
    VPath.removeDirAll (fuel + 1) (mk i idm P) wm = (.ok (), wm) ∧
    VPath.removeDirAll (fuel + 1) (mk j idp P) wp = (.ok (), wp) :=
  ⟨removeDirAll_absent' _ fuel _ (hm.leafAt.vexists_absent idm habs),
    removeDirAll_absent' _ fuel _ (LeafAt.vexists_absent hp idp ((hc.none_iff P).1 habs))⟩

omit hna hnb in
/-- **remove_dir_all_agree, a file**: both fail with the path filled in (memory: `Other`,
physical: `io` = ENOTDIR from `read_dir`), nothing changes -/
theorem remove_dir_all_agree_file (idm idp : Nat) (P : Str)
    (hfile : ∃ e, a.find? P = some e ∧ e.ftype = .file) (fuel : Nat) :
    VPath.removeDirAll (fuel + 1) (mk i idm P) wm = (.err .other (some P), wm) ∧
    VPath.removeDirAll (fuel + 1) (mk j idp P) wp = (.err .io (some P), wp) := by
  have hwfb : WF b := hwf.of_coreEq hc
  obtain ⟨e, he, hf⟩ := hfile
  obtain ⟨e', he', ht, _⟩ := hc.some P e he
  have hf' : e'.ftype = .file := by rw [ht]; exact hf
  constructor
  · exact removeDirAll_readDir_err wm fuel (mk i idm P) (k := .other) (q := none)
      (hm.leafAt.vexists_present idm hwf he)
      ((run_readDir hm P).trans (by simp [Mem.readDir, he, hf, fail]))
  · exact removeDirAll_readDir_err wp fuel (mk j idp P) (k := .io) (q := none)
      (LeafAt.vexists_present hp idp hwfb he')
      ((C13.prun_readDir hp P).trans (by rw [C13.Phys.readDir_file hwfb P e' he' hf']))

/-- **remove_dir_all_agree**: ANY non-root path string (directory, file, absent, below a file),
fuel above the longest key (= nesting depth available): the two runs end with outcomes of the
same class (`SameOutcome`: both `Ok` or both an error, no panic), the resulting maps are `CoreEq`
again, well-formed and duplicate-free; on success both are the old map without the subtree. -/
theorem remove_dir_all_agree (idm idp : Nat) (P : Str) (hP : P ≠ []) (fuel : Nat)
    (hfuel : ∀ k e, a.find? k = some e → k.length < P.length + (fuel + 1)) :
    ∃ rm rp a' b',
      VPath.removeDirAll (fuel + 1) (mk i idm P) wm = (rm, wm.setLeafFiles i a') ∧
      VPath.removeDirAll (fuel + 1) (mk j idp P) wp = (rp, wp.setLeafFiles j b') ∧
      SameOutcome rm rp ∧ CoreEq a' b' ∧ WF a' ∧ WF b' ∧ FMap.NodupKeys a' ∧ FMap.NodupKeys b' ∧
      (rm = .ok () → SubtreeRemoved a a' P ∧ SubtreeRemoved b b' P) ∧
      (rm ≠ .ok () → a' = a ∧ b' = b) := by
  have hwfb : WF b := hwf.of_coreEq hc
  cases hf : a.find? P with
  | none =>
    obtain ⟨h1, h2⟩ := remove_dir_all_agree_absent hm hp hwf hc idm idp P hf fuel
    exact ⟨.ok (), .ok (), a, b, by rw [h1, hm.same], by rw [h2, LeafAt.same hp],
      ⟨rfl, by simp, by simp⟩, hc, hwf, hwfb, hna, hnb,
      fun _ => ⟨subtreeRemoved_absent hwf P hf, subtreeRemoved_absent hwfb P ((hc.none_iff P).1 hf)⟩,
      fun h => absurd rfl h⟩
  | some e =>
    cases hft : e.ftype with
    | file =>
      obtain ⟨h1, h2⟩ := remove_dir_all_agree_file hm hp hwf hc idm idp P ⟨e, hf, hft⟩ fuel
      exact ⟨.err .other (some P), .err .io (some P), a, b, by rw [h1, hm.same],
        by rw [h2, LeafAt.same hp],
        ⟨rfl, by simp, by simp⟩, hc, hwf, hwfb, hna, hnb, (fun h => by cases h),
        (fun _ => ⟨rfl, rfl⟩)⟩
    | dir =>
      obtain ⟨a', b', h1, h2, h3, h4, h5, h6, h7, h8, h9⟩ :=
        remove_dir_all_agree_dir hm hp hwf hc hna hnb idm idp P hP ⟨e, hf, hft⟩ (fuel + 1) hfuel
      exact ⟨_, _, a', b', h1, h2, ⟨rfl, by simp, by simp⟩, h5, h6, h7, h8, h9,
        fun _ => ⟨h3, h4⟩, fun h => absurd rfl h⟩

end remove

/-! ## move_dir inside one filesystem: `std::fs::rename` against the generic route -/

/-- `move_dir` inside ONE physical filesystem (same `Arc`): `std::fs::rename` does it all -/
theorem moveDir_phys_same {w : World} {j : Nat} {b : FMap} (h : PhysLeafAt w j b) (hwf : WF b)
    (id fuel : Nat) (S D : Str) (e : Entry) (hs : b.find? S = some e) (hd : FreshDest b D)
    (hout : under S D = false) :
    VPath.moveDir fuel { fs := leafFS j, fsId := id, path := S }
      { fs := leafFS j, fsId := id, path := D } w =
      (.ok (), w.setLeafFiles j (Phys.renameTree b S D)) := by
  have hex : VPath.exists_ { fs := leafFS j, fsId := id, path := D } w = (.ok false, w) :=
    LeafAt.vexists_absent h id hd.absent
  have hfast : (leafFS j).moveDir S D w = (.ok (), w.setLeafFiles j (Phys.renameTree b S D)) := by
    show onLeaf j _ w = _
    rw [run_onLeaf_phys h]
    simp [Phys.rename_fresh hwf hs (hd.lookup hwf) ((under_false_iff S D).1 hout).2]
  unfold VPath.moveDir
  simp [M.withPath, bind, M.bind, hex, M.attempt, hfast, pure, M.pure, Res.withPath]

theorem core_of_stripAcc {x y : Option Entry} (h : x.map stripAcc = y.map stripAcc) :
    x.map core = y.map core := by
  cases x <;> cases y <;> simp at h ⊢
  rename_i u v
  have h1 := congrArg Entry.ftype h
  have h2 := congrArg Entry.content h
  simp [stripAcc] at h1 h2
  simp [core, h1, h2]

/-- **move_dir_agree, one filesystem**: `S` a directory (not the root), `D = renderC bs` fresh and
not at or below `S`, directory entries at or below `S` bare (`C11.DirsBare`; needed because
`create_dir` makes a directory without bytes while `rename` keeps the entry), fuel bounds of
`C11.moveDir_exact_same` for the memory side. Memory runs the generic route (create_dir, walk,
copy item by item in ITS listing order, remove_dir_all), the physical side a single `rename`: both
`Ok`, the resulting maps are `CoreEq`, the memory one well-formed. -/
theorem move_dir_agree_same {wm wp : World} {i j : Nat} {a b : FMap}
    (hm : MemLeafAt wm i a) (hp : PhysLeafAt wp j b) (hwf : WF a) (hc : CoreEq a b)
    (hna : FMap.NodupKeys a) (sid did pid fuel : Nat) (S : Str) (bs : List Str) (hS : S ≠ [])
    (hbs : ∀ c ∈ bs, GoodComp c) (hdir : ∃ se, a.find? S = some se ∧ se.ftype = .dir)
    (hcanon : ∀ k e, a.find? k = some e → under S k = true → Canon k)
    (hbare : C11.DirsBare a S)
    (hfresh : FreshDest a (renderC bs)) (hout : under S (renderC bs) = false)
    (hfuel : C11.descendants a S < fuel)
    (hb1 : ∀ k e, a.find? k = some e → k.length < S.length + fuel)
    (hb2 : ∀ k e, a.find? k = some e → under S k = true →
      (renderC bs).length + k.length < 2 * S.length + fuel) :
    ∃ wm' a',
      VPath.moveDir fuel { fs := leafFS i, fsId := sid, path := S }
        { fs := leafFS i, fsId := did, path := renderC bs } wm = (.ok (), wm') ∧
      MemLeafAt wm' i a' ∧ (∀ l, l ≠ i → wm'.leaf? l = wm.leaf? l) ∧
      VPath.moveDir fuel { fs := leafFS j, fsId := pid, path := S }
        { fs := leafFS j, fsId := pid, path := renderC bs } wp =
        (.ok (), wp.setLeafFiles j (Phys.renameTree b S (renderC bs))) ∧
      CoreEq a' (Phys.renameTree b S (renderC bs)) ∧ WF a' ∧
      WF (Phys.renameTree b S (renderC bs)) := by
  have hwfb : WF b := hwf.of_coreEq hc
  have hfb : FreshDest b (renderC bs) := hfresh.of_coreEq hc
  obtain ⟨se, hse, hsd⟩ := hdir
  obtain ⟨se', hse', hst, hsc⟩ := hc.some S se hse
  obtain ⟨w', a', h1, h2, h3, h4, h5, h6, h7, h8⟩ :=
    C11.moveDir_exact_same hm hwf hna sid did fuel S bs hS hbs ⟨se, hse, hsd⟩ hcanon hfresh hout
      hfuel hb1 hb2
  obtain ⟨r1, r2, r3, r4⟩ :=
    find?_renameTree_tree b S (renderC bs) (nothing_under_absent hwfb _ hfb.absent)
  have hce : CoreEq a' (Phys.renameTree b S (renderC bs)) := by
    intro k
    cases hd : under (renderC bs) k with
    | true =>
      rcases (under_iff _ k).1 hd with hk | ⟨t, hk⟩
      · subst hk
        rw [h6, r1, hse']
        have hbareS := hbare S se hse (under_self S) hsd
        simp only [Option.map_some, Option.some.injEq, core, Prod.mk.injEq]
        exact ⟨by rw [hst, hsd]; rfl, by rw [hsc, hbareS]; rfl⟩
      · subst hk
        rw [C11.graft_core hbare h7 t, r2 t]
        exact hc _
    | false =>
      cases hu : under S k with
      | true => rw [h5 k hu, r3 k hu hd]
      | false => rw [core_of_stripAcc (h8 k hu hd), r4 k hu hd]; exact hc k
  exact ⟨w', a', h1, h2, h4, moveDir_phys_same hp hwfb pid fuel S _ se' hse' hfb hout, hce, h3,
    h3.of_coreEq hce⟩

/-- copy_dir, memory against physical (two leaves of the same kind, or one leaf): same outcome,
`CoreEq` results. NOT PROVED: needs the physical twin of `CD.copyDir_tree`
(Proofs/CopyDirLemmas.lean: the round `mem_step` of the invariant `MemInv`, over `Phys.createDir` /
`Phys.copyFile` / the generic open-create-write route); the memory half is `C11.copyDir_exact`. -/
def copy_dir_stmt : Prop :=
  ∀ (wm wp : World) (i j i2 j2 : Nat) (a b a2 b2 : FMap) (sid did sidp didp fuel : Nat) (S D : Str),
    MemLeafAt wm i a → MemLeafAt wm i2 a2 → PhysLeafAt wp j b → PhysLeafAt wp j2 b2 →
    (i = i2 ↔ j = j2) → WF a → WF a2 → CoreEq a b → CoreEq a2 b2 →
    FMap.NodupKeys a → FMap.NodupKeys b → C11.DirsBare a S →
    (∃ e, a.find? S = some e ∧ e.ftype = .dir) → FreshDest a2 D → (i = i2 → under S D = false) →
    C11.descendants a S < fuel →
    ∃ n wm' wp' a' b' a2' b2',
      VPath.copyDir fuel { fs := leafFS i, fsId := sid, path := S }
        { fs := leafFS i2, fsId := did, path := D } wm = (.ok n, wm') ∧
      VPath.copyDir fuel { fs := leafFS j, fsId := sidp, path := S }
        { fs := leafFS j2, fsId := didp, path := D } wp = (.ok n, wp') ∧
      MemLeafAt wm' i a' ∧ MemLeafAt wm' i2 a2' ∧ PhysLeafAt wp' j b' ∧ PhysLeafAt wp' j2 b2' ∧
      CoreEq a' b' ∧ CoreEq a2' b2'

/-- move_dir between two leaves (generic route on both sides). NOT PROVED, same missing lemma. -/
def move_dir_cross_stmt : Prop :=
  ∀ (wm wp : World) (i j i2 j2 : Nat) (a b a2 b2 : FMap) (sid did sidp didp fuel : Nat) (S D : Str),
    i ≠ i2 → j ≠ j2 →
    MemLeafAt wm i a → MemLeafAt wm i2 a2 → PhysLeafAt wp j b → PhysLeafAt wp j2 b2 →
    WF a → WF a2 → CoreEq a b → CoreEq a2 b2 →
    FMap.NodupKeys a → FMap.NodupKeys b → C11.DirsBare a S → S ≠ [] →
    (∃ e, a.find? S = some e ∧ e.ftype = .dir) → FreshDest a2 D →
    C11.descendants a S < fuel → (∀ k e, a.find? k = some e → k.length < S.length + fuel) →
    ∃ wm' wp' a' b' a2' b2',
      VPath.moveDir fuel { fs := leafFS i, fsId := sid, path := S }
        { fs := leafFS i2, fsId := did, path := D } wm = (.ok (), wm') ∧
      VPath.moveDir fuel { fs := leafFS j, fsId := sidp, path := S }
        { fs := leafFS j2, fsId := didp, path := D } wp = (.ok (), wp') ∧
      MemLeafAt wm' i a' ∧ MemLeafAt wm' i2 a2' ∧ PhysLeafAt wp' j b' ∧ PhysLeafAt wp' j2 b2' ∧
      CoreEq a' b' ∧ CoreEq a2' b2'

/-- **copy_dir / move_dir, refusal** (partial version of `copy_dir_stmt`): an existing destination
is refused on both sides by the `exists` probe, nothing changes. -/
theorem copy_move_dir_agree_refused {wm wp : World} {i2 j2 : Nat} {a2 b2 : FMap}
    (hm : MemLeafAt wm i2 a2) (hp : PhysLeafAt wp j2 b2) (hwf : WF a2) (hc : CoreEq a2 b2)
    (srcm srcp : VPath) (did didp fuel : Nat) (D : Str) (hD : ∃ e, a2.find? D = some e) :
    (∃ k pth, VPath.copyDir fuel srcm { fs := leafFS i2, fsId := did, path := D } wm =
      (.err k pth, wm)) ∧
    (∃ k pth, VPath.copyDir fuel srcp { fs := leafFS j2, fsId := didp, path := D } wp =
      (.err k pth, wp)) ∧
    (∃ k pth, VPath.moveDir fuel srcm { fs := leafFS i2, fsId := did, path := D } wm =
      (.err k pth, wm)) ∧
    (∃ k pth, VPath.moveDir fuel srcp { fs := leafFS j2, fsId := didp, path := D } wp =
      (.err k pth, wp)) := by
  have hwfb : WF b2 := hwf.of_coreEq hc
  obtain ⟨e, he⟩ := hD
  obtain ⟨e', he', _⟩ := hc.some D e he
  have h1 := hm.leafAt.vexists_present did hwf he
  have h2 := LeafAt.vexists_present hp didp hwfb he'
  exact ⟨⟨_, _, copyDir_refused _ _ _ fuel h1⟩, ⟨_, _, copyDir_refused _ _ _ fuel h2⟩,
    ⟨_, _, moveDir_refused _ _ _ fuel h1⟩, ⟨_, _, moveDir_refused _ _ _ fuel h2⟩⟩

/-- the physical twin of `C11.mN`: the same tree stored in the REVERSE order, other timestamps -/
def pN : FMap := (C11.mN.map (fun kv => (kv.1, { kv.2 with modified := .at 7 }))).reverse

def wMem : World := { leaves := [{ kind := .mem, files := C11.mN }] }
def wPhys : World := { leaves := [{ kind := .phys, files := pN }] }

theorem mN_pN_coreEq : CoreEq C11.mN pN :=
  coreEq_of_coreEqB (by unfold pN; rw [C13.mN_eq]; decide +kernel)
theorem pN_nodup : FMap.NodupKeys pN := by
  unfold pN; rw [C13.mN_eq]; decide +kernel
theorem pN_order : C11.mN.keys ≠ pN.keys := by unfold pN; rw [C13.mN_eq]; decide +kernel

example := walk_agree (wm := wMem) (wp := wPhys) (i := 0) (j := 0) rfl rfl C11.mN_wf mN_pN_coreEq
  C11.mN_nodup pN_nodup 0 0 "/r".toList ⟨_, rfl, rfl⟩ 9 C13.mN_desc_r
example := remove_dir_all_agree (wm := wMem) (wp := wPhys) (i := 0) (j := 0) rfl rfl C11.mN_wf
  mN_pN_coreEq C11.mN_nodup pN_nodup 0 0 "/r".toList (by decide) 9
  (keys_bound _ _ (by rw [C13.mN_eq]; decide +kernel))
example := move_dir_agree_same (wm := wMem) (wp := wPhys) (i := 0) (j := 0) rfl rfl C11.mN_wf
  mN_pN_coreEq C11.mN_nodup 0 1 0 20 "/r".toList ["t".toList] (by decide) (by decide)
  ⟨_, rfl, rfl⟩ (C11.mN_canon _) (C11.mN_bare _)
  (C11.fresh_of_check _ _ (by rw [C13.mN_eq]; decide +kernel)) (by decide)
  (by rw [C13.mN_eq]; decide +kernel) (keys_bound _ _ (by rw [C13.mN_eq]; decide +kernel))
  (fun k e hk _ => by
    have := keys_bound C11.mN 11 (by rw [C13.mN_eq]; decide +kernel) k e hk
    simp [renderC] at this ⊢; omega)

#print axioms walk_agree
#print axioms walk_agree_not_dir
#print axioms remove_dir_all_agree
#print axioms move_dir_agree_same
#print axioms copy_move_dir_agree_refused

end Vfs.C02
