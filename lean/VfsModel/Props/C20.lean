/-
  C20 — Underlying failures are never reported as success.

  Fault model (Adapters.lean): `faultFS inner` puts `faultGate` in front of every trait method of
  `inner`. The world carries a plan `fault : Option Nat`: the call through a gate that finds
  `some 0` fails with `fail .io` (kind `.io`, no path), sets `fired := true`, `fault := none`, and
  does not reach `inner`; `some (k+1)` counts down; `none` passes through. A plan fires at most once.

  Notions (Proofs/Faithful.lean):
    `Faithful m`     : `∀ w, w.fired = false → (m w).2.fired = true → (m w).1.isOk = false`
                       — a fault that fires while `m` runs is not reported as success.
    `FaithfulIO m`   : … `→ (m w).1.isIo = true` — the outcome is the injected error itself
                       (`err .io _`): not `ok`, not a panic, not a kind any caller swallows.
                       All theorems are proved in this form; `Faithful` follows
                       (`FaithfulIO.faithful`).
    `FaithfulItem m` : for an iterator step: the step yields `some (err .io _)` or fails itself.
    `FS.Faithful fs` : every trait method of `fs` is `FaithfulIO`.

  Everything is proved for ARBITRARY inner filesystems satisfying `FS.Faithful`, any number of
  layers, any nesting of adapters and wrappers: the `VfsPath` operations (`pathops_faithful`,
  `transfers_faithful`, `walk_faithful`; `composites_faithful` is the weak `Faithful` form of the
  eight composite operations the property names), `altroot_faithful`, `overlay_faithful`,
  `stack_faithful`. `existsSwallowing_not_faithful`: `OverlayFS::exists` as it was before the commit
  "fix: OverlayFS::exists reported layer errors as \"does not exist\"" is NOT faithful.

  NOT PROVED / out of scope here:
    * "the run from `w` equals the run from `{ w with fault := none }` when the countdown never
      reaches zero" is only stated for the gate (`faultGate_passthrough`); for arbitrary inner
      filesystems it is false as stated (an `FS` record may inspect the ghost field), and for the
      concrete stacks it is a relational property outside this calculus.
    * "with its full effect in place by another route" (the fallback paths of copy_file /
      move_file / move_dir after `NotSupported`) is covered in the sense that the fallback is
      itself faithful; functional correctness of the effect is the subject of C01–C05, not C20.
    * panics unrelated to a fired fault (fuel exhaustion, slice out of range in `relJoin`) are
      not excluded here; what is proved is that a *fired fault* never becomes a panic.
-/
import VfsModel.Proofs.Faithful
namespace Vfs.C20
open Vfs.VPath

theorem faultGate_faithful {α} {m : M α} (hm : FaithfulIO m) :
    FaithfulIO (faultGate m) ∧ Faithful (faultGate m) :=
  ⟨faultGate_faithfulIO hm, (faultGate_faithfulIO hm).faithful⟩

theorem faultGate_fires {α} (m : M α) (w : World) (h : w.fault = some 0) :
    faultGate m w = (fail .io, { w with fault := none, fired := true }) := by
  unfold faultGate; rw [h]

theorem faultGate_counts {α} (m : M α) (w : World) (k : Nat) (h : w.fault = some (k + 1)) :
    faultGate m w = m { w with fault := some k } := by
  unfold faultGate; rw [h]

theorem faultGate_passthrough {α} (m : M α) (w : World) (h : w.fault = none) :
    faultGate m w = m w := by
  unfold faultGate; rw [h]

theorem faultFS_faithful {inner : FS} (h : inner.Faithful) : (faultFS inner).Faithful :=
  Vfs.faultFS_faithful h

theorem leaf_never_touches_plan (i : Nat) (b : Bool) (f : Option Nat) :
    (leafFS i).AllPreserve (fun w => w.fired = b ∧ w.fault = f) := leafFS_keeps_plan i b f

theorem leafFS_faithful (i : Nat) : (leafFS i).Faithful := Vfs.leafFS_faithful i

theorem handles_never_touch_plan (h : WHandle) (bs : Bytes) (w : World) :
    ((h.write bs w).2.fired = w.fired ∧ (h.write bs w).2.fault = w.fault) ∧
    ((h.flush w).2.fired = w.fired ∧ (h.flush w).2.fault = w.fault) ∧
    ((h.drop w).2.fired = w.fired ∧ (h.drop w).2.fault = w.fault) :=
  ⟨h.write_fired bs w, h.flush_fired w, h.drop_fired w⟩

theorem recordFS_faithful {inner : FS} (tag : Nat) (h : inner.Faithful) :
    (recordFS tag inner).Faithful := Vfs.recordFS_faithful tag h

theorem faultLeaf_faithful (i : Nat) : (faultFS (leafFS i)).Faithful :=
  faultFS_faithful (leafFS_faithful i)

structure PathOps (p : VPath) : Prop where
  exists_ : FaithfulIO p.exists_
  metadata : FaithfulIO p.metadata
  createDir : FaithfulIO p.createDir
  createDirAll : FaithfulIO p.createDirAll
  readDir : FaithfulIO p.readDir
  createFile : FaithfulIO p.createFile
  openFile : FaithfulIO p.openFile
  appendFile : FaithfulIO p.appendFile
  removeFile : FaithfulIO p.removeFile
  removeDir : FaithfulIO p.removeDir
  removeDirAll : ∀ fuel, FaithfulIO (p.removeDirAll fuel)
  isFile : FaithfulIO p.isFile
  isDir : FaithfulIO p.isDir
  readToEndChecked : FaithfulIO p.readToEndChecked
  setCreationTime : ∀ t, FaithfulIO (p.setCreationTime t)
  setModificationTime : ∀ t, FaithfulIO (p.setModificationTime t)
  setAccessTime : ∀ t, FaithfulIO (p.setAccessTime t)
  walkDir : FaithfulIO p.walkDir

theorem pathops_faithful (p : VPath) (h : p.fs.Faithful) : PathOps p where
  exists_ := faith_exists p h
  metadata := faith_metadata p h
  createDir := faith_createDir p h
  createDirAll := .of_sat (sat_createDirAll p h.sat)
  readDir := faith_readDir p h
  createFile := .of_sat (sat_createFile p h.sat)
  openFile := .of_sat (sat_openFile p h.sat.obs)
  appendFile := .of_sat (sat_appendFile p h.sat)
  removeFile := .of_sat (sat_removeFile p h.sat)
  removeDir := .of_sat (sat_removeDir p h.sat)
  removeDirAll fuel := faith_removeDirAll fuel p h
  isFile := .of_sat (sat_isFile p h.sat.obs)
  isDir := .of_sat (sat_isDir p h.sat.obs)
  readToEndChecked := .of_sat (sat_readToEndChecked p h.sat.obs)
  setCreationTime t := .of_sat (sat_setCreationTime p t h.sat)
  setModificationTime t := .of_sat (sat_setModificationTime p t h.sat)
  setAccessTime t := .of_sat (sat_setAccessTime p t h.sat)
  walkDir := faith_walkDir p h

/-- write handles act directly on a leaf and bypass the wrappers: `write_all` then drop cannot make
the plan fire -/
theorem write_session_faithful (h : WHandle) (bs : Bytes) :
    FaithfulIO (h.writeAllAndDrop bs) ∧ FaithfulIO (h.write bs) ∧ FaithfulIO h.flush ∧
      FaithfulIO h.drop :=
  ⟨h.faith_writeAllAndDrop bs, h.faith_write bs, h.faith_flush, h.faith_drop⟩

structure Transfers (src dst : VPath) : Prop where
  copyFile : FaithfulIO (src.copyFile dst)
  moveFile : FaithfulIO (src.moveFile dst)
  copyDir : ∀ fuel, FaithfulIO (src.copyDir fuel dst)
  moveDir : ∀ fuel, FaithfulIO (src.moveDir fuel dst)

/-- The fast paths swallow `NotSupported` only; `move_file` returns the outcome of the source removal
after dropping the destination handle; the loops hand an error item of the walk on. -/
theorem transfers_faithful (src dst : VPath) (hs : src.fs.Faithful) (hd : dst.fs.Faithful) :
    Transfers src dst where
  copyFile := faith_copyFile src dst hs hd
  moveFile := faith_moveFile src dst hs hd
  copyDir fuel := faith_copyDir fuel src dst hs hd
  moveDir fuel := faith_moveDir fuel src dst hs hd

/-- `WalkDirIterator::next`: the state the step returns is again a walk over the same filesystem, so
the statement applies to every later step -/
theorem walk_faithful (fs : FS) (hfs : fs.Faithful) (s : Walk) (hs : s.On fs) :
    FaithfulItem (walkNext s) ∧ Returns (walkNext s) (fun r => r.2.On fs) :=
  ⟨faith_walkNext fs hfs s hs,
   ⟨fun w a he => ((walkNext_on fs s hs).post w a he).2⟩⟩

theorem walkDir_state (p : VPath) : Returns p.walkDir (fun s => s.On p.fs) := walkDir_on p

theorem walkNext_yields_error (fs : FS) (hfs : fs.Faithful) (s : Walk) (hs : s.On fs) (w : World)
    (hw : w.fired = false) (hf : (walkNext s w).2.fired = true) :
    (∃ p, (walkNext s w).1 = .err .io p) ∨
      (∃ p s', (walkNext s w).1 = .ok (some (.err .io p), s')) := by
  have h := (faith_walkNext fs hfs s hs).io w hw hf
  cases hr : (walkNext s w).1 with
  | ok a =>
    rw [hr] at h
    obtain ⟨item, s'⟩ := a
    cases item with
    | none => simp [Res.isIoItem] at h
    | some r =>
      have h' : r.isIo = true := h
      obtain ⟨p, rfl⟩ := (Res.isIo_iff r).1 h'
      exact Or.inr ⟨p, s', rfl⟩
  | err k p =>
    rw [hr] at h
    cases k <;> simp [Res.isIoItem] at h
    exact Or.inl ⟨p, rfl⟩
  | panic => rw [hr] at h; simp [Res.isIoItem] at h

theorem walkAll_reports_error (fs : FS) (hfs : fs.Faithful) (fuel : Nat) (s : Walk) (hs : s.On fs)
    (w : World) (hw : w.fired = false) (hf : (walkAll fuel s w).2.fired = true) :
    (walkAll fuel s w).1.isOk = false ∨
      ∃ l, (walkAll fuel s w).1 = .ok l ∧ ∃ x ∈ l, ∃ p, x = .err .io p := by
  rcases hr : walkAll fuel s w with ⟨r, w'⟩
  rw [hr] at hf
  cases r with
  | ok l =>
    obtain ⟨x, hx, hio⟩ := walkAll_io_item fs hfs fuel s hs w hw hr hf
    exact Or.inr ⟨l, rfl, x, hx, (Res.isIo_iff x).1 hio⟩
  | err k p => exact Or.inl rfl
  | panic => exact Or.inl rfl

theorem composites_faithful (src dst : VPath) (hs : src.fs.Faithful) (hd : dst.fs.Faithful)
    (fuel : Nat) :
    Faithful src.createDirAll ∧ Faithful (src.removeDirAll fuel) ∧ Faithful (src.copyFile dst) ∧
    Faithful (src.moveFile dst) ∧ Faithful (src.copyDir fuel dst) ∧ Faithful (src.moveDir fuel dst) ∧
    Faithful src.walkDir ∧ Faithful src.readToEndChecked :=
  ⟨(pathops_faithful src hs).createDirAll.faithful, (faith_removeDirAll fuel src hs).faithful,
   (faith_copyFile src dst hs hd).faithful, (faith_moveFile src dst hs hd).faithful,
   (faith_copyDir fuel src dst hs hd).faithful, (faith_moveDir fuel src dst hs hd).faithful,
   (faith_walkDir src hs).faithful, (pathops_faithful src hs).readToEndChecked.faithful⟩

/-- `exists` maps a failing `path` (a pure join) to `false`: no call is made on that branch, so no
fault can have fired -/
theorem altroot_faithful (root : VPath) (h : root.fs.Faithful) : (Altroot.fs root).Faithful :=
  Altroot.faithful root h

/-- Any number of layers, each an arbitrary faithful filesystem (`writeLayer []` is the placeholder
filesystem, so the empty list is covered). Of the errors of `read_path`, `exists` swallows
`FileNotFound` only. -/
theorem overlay_faithful (layers : List VPath) (hl : ∀ l ∈ layers, l.fs.Faithful) :
    (Overlay.fs layers).Faithful :=
  Overlay.faithful layers hl

/-- adapters stacked on adapters: an altroot over an overlay over fault-wrapped leaves, and the
whole `VfsPath` layer on top of it -/
theorem stack_faithful (a b : Nat) (pa pb at_ : Str) (id : Nat) (q : Str) :
    PathOps { fs := Altroot.fs { fs := Overlay.fs [{ fs := faultFS (leafFS a), fsId := 0, path := pa },
                                                     { fs := faultFS (leafFS b), fsId := 1, path := pb }],
                                  fsId := 2, path := at_ },
              fsId := id, path := q } := by
  apply pathops_faithful
  apply altroot_faithful
  apply overlay_faithful
  intro l hm
  simp only [List.mem_cons, List.mem_nil_iff, or_false] at hm
  rcases hm with rfl | rfl <;> exact faultLeaf_faithful _

theorem ok_implies_no_fault {α} {m : M α} (h : Faithful m) (w : World) (hw : w.fired = false)
    (hok : (m w).1.isOk = true) : (m w).2.fired = false :=
  h.ok_not_fired w hw hok

theorem fired_implies_io_error {α} {m : M α} (h : FaithfulIO m) (w : World) (hw : w.fired = false)
    (hf : (m w).2.fired = true) : ∃ p, (m w).1 = .err .io p :=
  (Res.isIo_iff _).1 (h.io w hw hf)

theorem fired_implies_no_panic {α} {m : M α} (h : FaithfulIO m) (w : World) (hw : w.fired = false)
    (hf : (m w).2.fired = true) : (m w).1.isPanic = false :=
  h.no_panic w hw hf

def memWorld (fault : Option Nat) : World :=
  { leaves := [{ kind := .mem, files := Mem.init }], fault := fault }

def fpath (s : Str) : VPath := { fs := faultFS (leafFS 0), fsId := 0, path := s }

example : ((fpath "/a/b".toList).createDirAll (memWorld none)).1 = .ok () := by decide
example : ((fpath "/a/b".toList).createDirAll (memWorld (some 0))).1 = .err .io (some "/a".toList) := by decide
example : ((fpath "/a/b".toList).createDirAll (memWorld (some 0))).2.fired = true := by decide
/-- fault on the second call (`/a` already created — a partial effect, reported as an error) -/
example : ((fpath "/a/b".toList).createDirAll (memWorld (some 1))).1 = .err .io (some "/a/b".toList) := by decide
example : ((fpath "/a/b".toList).createDirAll (memWorld (some 1))).2.fired = true := by decide
example : (((fpath "/a/b".toList).createDirAll (memWorld (some 1))).2.leaves.map
    (fun l => l.files.contains "/a".toList)) = [true] := by decide
example : ((fpath "/a/b".toList).createDirAll (memWorld (some 2))).1 = .ok () := by decide
example : ((fpath "/a/b".toList).createDirAll (memWorld (some 2))).2.fired = false := by decide

example : PathOps (fpath "/a/b".toList) := pathops_faithful _ (faultLeaf_faithful 0)

/-- `copy_file` over MemoryFS takes the fallback path (the fast path is `NotSupported`, which is
swallowed); a fault in the fast-path call itself (call 2: exists, copy_file) is NOT swallowed -/
def srcWorld (fault : Option Nat) : World :=
  { leaves := [{ kind := .mem,
                 files := [("/f".toList, { fileEntryNow with content := [1, 2, 3] }),
                           ([], dirEntryNow)] }],
    fault := fault }

example : ((fpath "/f".toList).copyFile (fpath "/g".toList) (srcWorld none)).1 = .ok () := by decide
example : ((fpath "/f".toList).copyFile (fpath "/g".toList) (srcWorld (some 1))).1
    = .err .io (some "/f".toList) := by decide
example : ((fpath "/f".toList).copyFile (fpath "/g".toList) (srcWorld (some 1))).2.fired = true := by
  decide

/-- the walk: `/d` is listed (call 1: read_dir), the fault hits the `metadata` of the item
(call 2): the step returns normally and the item it yields is the injected error -/
def walkWorld (fault : Option Nat) : World :=
  { leaves := [{ kind := .mem, files := [("/d".toList, dirEntryNow), ([], dirEntryNow)] }],
    fault := fault }

example : (((fpath []).walkDir >>= walkNext) (walkWorld (some 1))).1.isOk = true := by decide
example : (((fpath []).walkDir >>= walkNext) (walkWorld (some 1))).1.isIoItem = true := by decide
example : (((fpath []).walkDir >>= walkNext) (walkWorld (some 1))).2.fired = true := by decide
example : (((fpath []).walkDir >>= walkNext) (walkWorld none)).1.isIoItem = false := by decide
/-- `copy_dir "/d" → "/e"` where `/d` holds the directory `/d/x`: 11 trait calls in all. The 6th
(index 5: exists, get_parent ×2, create_dir, read_dir, then the `metadata` inside the walk step)
makes the walk yield an error item, which `copy_dir` returns. (`decide +kernel`: the elaborator's
`decide` is slow on the long successful run.) -/
def dirWorld (fault : Option Nat) : World :=
  { leaves := [{ kind := .mem,
                 files := [("/d/x".toList, dirEntryNow), ("/d".toList, dirEntryNow), ([], dirEntryNow)] }],
    fault := fault }

example : ((fpath "/d".toList).copyDir 5 (fpath "/e".toList) (dirWorld none)).1 = .ok 1 := by
  decide +kernel
example : ((fpath "/d".toList).copyDir 5 (fpath "/e".toList) (dirWorld (some 5))).1.isIo = true := by
  decide +kernel
example : ((fpath "/d".toList).copyDir 5 (fpath "/e".toList) (dirWorld (some 5))).2.fired = true := by
  decide +kernel
example : (List.range 11).all (fun k =>
    let r := (fpath "/d".toList).copyDir 5 (fpath "/e".toList) (dirWorld (some k))
    r.2.fired && r.1.isIo) = true := by decide +kernel
example : ((fpath "/d".toList).copyDir 5 (fpath "/e".toList) (dirWorld (some 11))).2.fired = false := by
  decide +kernel

/-- `OverlayFS::exists` before the fix (`read_path(path).map(|p| p.exists()).unwrap_or(Ok(false))`):
EVERY error of `read_path` becomes `Ok(false)` -/
def existsSwallowing (layers : List VPath) (p : Str) : M Bool := do
  let wo ← M.ret (Overlay.whiteoutPath layers p)
  let marked ← wo.exists_
  if marked then pure false
  else fun w =>
    match Overlay.readPath layers p w with
    | (.ok q, w') => q.exists_ w'
    | (.err _ _, w') => (.ok false, w')
    | (.panic, w') => (.panic, w')

def twoLayers : List VPath :=
  [{ fs := faultFS (leafFS 0), fsId := 0, path := [] },
   { fs := faultFS (leafFS 1), fsId := 1, path := [] }]

/-- `/a` exists in the lower layer only; the plan hits the second call (`exists` on the upper
layer inside `read_path`; the first call is the whiteout check) -/
def twoWorld (fault : Option Nat) : World :=
  { leaves := [{ kind := .mem, files := Mem.init },
               { kind := .mem, files := [("/a".toList, dirEntryNow), ([], dirEntryNow)] }],
    fault := fault }

/-- the old `exists` answers `Ok(false)` for an entry that exists, while the injected failure has
fired -/
theorem existsSwallowing_wrong :
    (existsSwallowing twoLayers "/a".toList (twoWorld (some 1))).1 = .ok false ∧
    (existsSwallowing twoLayers "/a".toList (twoWorld (some 1))).2.fired = true ∧
    (existsSwallowing twoLayers "/a".toList (twoWorld none)).1 = .ok true := by decide

theorem existsSwallowing_not_faithful : ¬ Faithful (existsSwallowing twoLayers "/a".toList) := by
  intro h
  have := h (twoWorld (some 1)) rfl (by decide)
  revert this
  decide

/-- the fixed `exists` on the same instance reports the error -/
example : (Overlay.exists_ twoLayers "/a".toList (twoWorld (some 1))).1 = .err .io none := by decide
example : (Overlay.exists_ twoLayers "/a".toList (twoWorld none)).1 = .ok true := by decide
example : FaithfulIO (Overlay.exists_ twoLayers "/a".toList) :=
  (overlay_faithful twoLayers (by
    intro l hm
    simp only [twoLayers, List.mem_cons, List.mem_nil_iff, or_false] at hm
    rcases hm with rfl | rfl <;> exact faultLeaf_faithful _)).exists_ _

end Vfs.C20
