/-
  C10 for ANY NUMBER OF LAYERS — what is removed through the overlay stays absent until it is
  re-created; a re-created file holds only the new bytes, a re-created directory is empty; the
  markers never appear as entries (src/impls/overlay.rs).

  The overlay has n ≥ 1 layers (the property's quantifier is 2..4; nothing below depends on n,
  and n = 1 — no lower layer — is included); Props/C10.lean states the case of exactly two layers,
  each theorem there being an instance of one here: `section two` below derives those instances in
  the two-layer setting `OW` (`removed_file_absent_ofN` …), and Props/C10.lean restates them under
  the property's names. The file imports Props/C09.lean, the two-layer file of C09 (itself over
  Props/C09N.lean), only for the example entry `C09.fileL` of `section concreteN`.

  Setting and notation (Proofs/OverlayNLemmas.lean; the observers of Props/C09N.lean):
  `h : OWN w (u :: is) (idu :: ids) (mu :: ms)` — the pairwise distinct leaves `u :: is` of the
  world `w` are memory leaves holding the maps `mu :: ms` (`mu` = upper layer, `ms` = the lower
  layers, any number), the overlay is `Overlay.fs (layersN (u :: is) (idu :: ids))` over the ROOTS
  of those leaves; canonical non-root paths `p = renderC cs` (`cs ≠ []`, `GoodComp` components),
  `marker p = "/.whiteout" ++ p ++ "_wo"`, the n-layer union view `viewN (mu :: ms) p`.
  "Lower layers unchanged" is expressed by `OWN w' … (mu' :: ms)` with the SAME `ms`.

  Claims:
  * `removed_file_absentN`, `removed_dir_absentN`: after a successful removal — `p` in the upper
    layer, in one lower layer, or in several — only the upper leaf changed, `mu'` holds `marker p`
    as an empty file, the view and every observer report absence, and `OnlyMarkerAdded mu mu' cs`.
    `removeFile_okN` (`removeFile_succeedsN`): sufficient conditions for success.
  * `removed_stays_absent_frameN`: while `marker p` is in the upper map, `p` is absent from the
    view whatever else changed in ANY layer; `marked_absent_everywhereN`, `marked_not_listedN`: and
    from every observer. `marker_survives_createDirN` / `createFileN` / `removeFileN` /
    `removeDirN` / `openFileN` / `write_sessionN` / `appendFileN`: every such overlay
    call at a path `q ≠ p` (for the removals: `q ≠ marker p`, i.e. not reaching into the reserved
    ".whiteout" namespace; for `open_file`, `append_file`: ANY `q`) keeps `marker p` and the
    setting; `session_keeps`: so does the completed session `create_file(q)?.write_all(bs)` /
    `append_file(q)?.write_all(bs)`. `removed_stays_absentN`: the composition for ANY finite sequence of later operations
    (`OtherOp`, each `Unrelated` to `p`, each with whatever outcome).
    `clearWhiteout_only_erases_markerN`: the only code that removes a marker erases nothing else.
  * `recreated_file_freshN`, `remove_then_recreate_freshN`, `recreated_dir_emptyN`,
    `recreated_dir_empty_composedN` (from an ARBITRARY state: `remove_file` on each visible child,
    `remove_dir(p)`, `create_dir(p)`, `read_dir(p)` — `removeAndRecreateDir`); `Emptied mu ms p`:
    every visible child of `p` is marked, what the three maps of that composition have in common
    (`Emptied.of_frame`, `child_marker_kept`; `pListingN_empty`: the listing is then empty).
  * `markers_invisibleN`: whatever `read_dir` returns: never ".whiteout" at the root, never a name
    whose marker exists, and only names of entries of the n-layer view.
  * section `concreteN`, on `w3` / `w4` of Props/C09N.lean: the same scenarios evaluated, and
    `remove_file_on_lower_dir_orphansN`: the OPEN known finding (remove_file on a lower-layer
    DIRECTORY succeeds and orphans its children) on four layers.

  Hypotheses excluding reserved names (each is a real quirk of the code):
  `(ds ++ [n]).head? ≠ some woDir` (paths inside "/.whiteout"), `ds.head? ≠ some woSuffix` (a
  top-level directory called "_wo": removing below it creates "/.whiteout/_wo", the root marker),
  `hwoarea` / `hwo` (no FILE where the bookkeeping needs a directory); `RootOk mu`; ancestors are
  directories of the view (`AncDirsN`); for listings: every map well-formed (`WF`).

  NOT PROVED:
  * layers that are not roots of memory leaves (sub-directories of leaves, physical leaves,
    nested adapters);
  * the time setters, `copy_file` / `move_file` / `move_dir` with the overlay as source or target
    are not among the `OtherOp`s;
  * "the subtree stays absent" is proved path by path (each removed path has its own marker;
    `remove_dir` only succeeds on an empty listing) — there is no statement about descendants of
    a path removed by `remove_file` applied to a directory: that call orphans them (known finding);
  * `recreated_dir_empty_composedN` asks the visible children to be FILES (sub-directories
    would have to be emptied recursively first), and needs `(ds ++ [n]).head? ≠ some woSuffix` —
    without it the code really fails, see `recreated_dir_empty_composed_stmt_false`.
-/
import VfsModel.Proofs.OverlayEffect
import VfsModel.Proofs.RunEq
import VfsModel.Props.C09
namespace Vfs.C10
open Vfs Vfs.Overlay

theorem woArea_key_apart {ds : List Str} {n : Str} (hds : ∀ c ∈ ds, GoodComp c) (hn : GoodComp n)
    (rest : List Str) (hrest : ∀ c ∈ rest, '/' ∉ c) :
    renderC (woDir :: (ds ++ [n]) ++ rest) ≠ renderC (ds ++ [n]) ∧
    renderC (woDir :: (ds ++ [n]) ++ rest) ≠ marker (renderC (ds ++ [n])) ∧
    renderC (woDir :: (ds ++ [n]) ++ rest) ∉ chain [] ds ∧
    renderC (woDir :: (ds ++ [n]) ++ rest) ∉ chain [] (woDir :: ds) := by
  have hns : ∀ c ∈ woDir :: (ds ++ [n]) ++ rest, '/' ∉ c := by
    intro c hc
    rcases List.mem_append.1 hc with hc | hc
    · rcases List.mem_cons.1 hc with rfl | hc
      · exact goodComp_woDir.noSlash
      · exact (good_snoc hds hn c hc).noSlash
    · exact hrest c hc
  refine ⟨?_, ?_, renderC_not_in_chain _ _ hns (good_noSlash hds) (by simp; omega),
    renderC_not_in_chain _ _ hns (noSlash_wo (good_noSlash hds)) (by simp)⟩
  · intro heq
    have := congrArg List.length
      (C06.renderC_injective _ _ hns (good_noSlash (good_snoc hds hn)) heq)
    simp at this
  · rw [marker_renderC]
    intro heq
    have := C06.renderC_injective _ _ hns (good_noSlash (good_markerComps hds hn)) heq
    simp only [List.cons_append, List.cons.injEq, true_and, List.append_assoc] at this
    have := congrArg List.length (List.cons.inj (List.append_cancel_left this)).1
    simp [woSuffix] at this

theorem woArea_of_frame {mu mu' : FMap} {ds : List Str} {n : Str} (hds : ∀ c ∈ ds, GoodComp c)
    (hn : GoodComp n)
    (hframe : ∀ k, k ≠ renderC (ds ++ [n]) → k ≠ marker (renderC (ds ++ [n])) →
      k ∉ chain [] ds → k ∉ chain [] (woDir :: ds) → mu'.find? k = mu.find? k) :
    ((∀ e, mu.find? (woDirOf (renderC (ds ++ [n]))) = some e → e.ftype = .dir) →
      ∀ e, mu'.find? (woDirOf (renderC (ds ++ [n]))) = some e → e.ftype = .dir) ∧
    (ChildrenHaveDir mu (woDirOf (renderC (ds ++ [n]))) →
      ChildrenHaveDir mu' (woDirOf (renderC (ds ++ [n])))) := by
  have hself : mu'.find? (woDirOf (renderC (ds ++ [n]))) = mu.find? (woDirOf (renderC (ds ++ [n]))) := by
    obtain ⟨a1, a2, a3, a4⟩ := woArea_key_apart hds hn [] (by simp)
    rw [woDirOf_renderC]
    simpa using hframe _ a1 a2 a3 a4
  refine ⟨fun hwo e he => hwo e (by rw [← hself]; exact he), fun hchd c hc hcont => ?_⟩
  have hchild : mu'.find? (woDirOf (renderC (ds ++ [n])) ++ '/' :: c)
      = mu.find? (woDirOf (renderC (ds ++ [n])) ++ '/' :: c) := by
    obtain ⟨a1, a2, a3, a4⟩ := woArea_key_apart hds hn [c] (by simpa using hc)
    rw [woDirOf_renderC]
    simpa using hframe _ a1 a2 a3 a4
  rw [hself]
  apply hchd c hc
  rw [← contains_eq_of_find hchild]; exact hcont

section removal
variable {w : World} {u idu : Nat} {mu : FMap} {is ids : List Nat} {ms : List FMap}
  (h : OWN w (u :: is) (idu :: ids) (mu :: ms))
include h

/-- `clearWhiteout q` (the only code that removes a marker) erases nothing but `marker q`, and
touches no lower layer -/
theorem clearWhiteout_only_erases_markerN (cs : List Str) (hne : cs ≠ [])
    (hcs : ∀ c ∈ cs, GoodComp c) :
    ∃ r mu', clearWhiteout (layersN (u :: is) (idu :: ids)) (renderC cs) w
        = (r, w.setLeafFiles u mu') ∧
      OWN (w.setLeafFiles u mu') (u :: is) (idu :: ids) (mu' :: ms) ∧
      ∀ k, k ≠ marker (renderC cs) → mu'.find? k = mu.find? k :=
  ⟨_, _, run_clearWhiteoutN h cs hne hcs, h.setHead _, fun k hk => pClear_frame mu _ k hk⟩

/-- `remove_file` on a file of the view succeeds, also inside ".whiteout" -/
theorem removeFile_okN (ds : List Str) (n : Str) (hds : ∀ c ∈ ds, GoodComp c)
    (hn : GoodComp n) (hroot : RootOk mu)
    (hwoarea : ∀ k ∈ chain [] (woDir :: ds), ∀ e, mu.find? k = some e → e.ftype = .dir)
    (e : Entry) (hv : viewN (mu :: ms) (renderC (ds ++ [n])) = some e) (hfile : e.ftype = .file) :
    ((Overlay.fs (layersN (u :: is) (idu :: ids))).removeFile (renderC (ds ++ [n])) w).1
      = .ok () := by
  obtain ⟨mu', _, hp⟩ := pRemoveFileN_ok_of (ms := ms) ds n hds hn hroot hwoarea e hv hfile
  show (Overlay.removeFile _ _ w).1 = _
  rw [run_oremoveFileN h _ (by simp) (good_snoc hds hn), hp]

set_option linter.unusedVariables false in
/-- `removeFile_okN`, which does not need `hhead` -/
theorem removeFile_succeedsN (ds : List Str) (n : Str) (hds : ∀ c ∈ ds, GoodComp c)
    (hn : GoodComp n) (hroot : RootOk mu)
    (hwoarea : ∀ k ∈ chain [] (woDir :: ds), ∀ e, mu.find? k = some e → e.ftype = .dir)
    (hhead : (ds ++ [n]).head? ≠ some woDir)
    (e : Entry) (hv : viewN (mu :: ms) (renderC (ds ++ [n])) = some e) (hfile : e.ftype = .file) :
    ((Overlay.fs (layersN (u :: is) (idu :: ids))).removeFile (renderC (ds ++ [n])) w).1
      = .ok () :=
  removeFile_okN h ds n hds hn hroot hwoarea e hv hfile

theorem marked_absent_everywhereN (cs : List Str) (hne : cs ≠ []) (hcs : ∀ c ∈ cs, GoodComp c)
    (hm : mu.contains (marker (renderC cs)) = true) :
    viewN (mu :: ms) (renderC cs) = none ∧
    (Overlay.fs (layersN (u :: is) (idu :: ids))).exists_ (renderC cs) w = (.ok false, w) ∧
    (Overlay.fs (layersN (u :: is) (idu :: ids))).metadata (renderC cs) w
      = (.err .fileNotFound none, w) ∧
    (Overlay.fs (layersN (u :: is) (idu :: ids))).openFile (renderC cs) w
      = (.err .fileNotFound none, w) := by
  have hv : viewN (mu :: ms) (renderC cs) = none := viewN_marked hm
  refine ⟨hv, ?_, ?_, C09.openFile_absentN h cs hne hcs hv⟩
  · rw [C09.exists_is_viewN h cs hne hcs, hv]; rfl
  · rw [C09.metadata_is_viewN h cs hne hcs, hv]

/-- what both removals leave, given that their common tail ran successfully -/
theorem removed_absent_of_tail {f : FMap → Str → Res Unit × FMap} (hf : Mem.Erasing f) {mu' : FMap}
    (cs : List Str) (hne : cs ≠ []) (hcs : ∀ c ∈ cs, GoodComp c)
    (ht : pRemoveTail f mu cs = (.ok (), mu')) :
    OWN (w.setLeafFiles u mu') (u :: is) (idu :: ids) (mu' :: ms) ∧
      (∃ em, mu'.find? (marker (renderC cs)) = some em ∧ em.ftype = .file ∧ em.content = []) ∧
      viewN (mu' :: ms) (renderC cs) = none ∧
      (Overlay.fs (layersN (u :: is) (idu :: ids))).exists_ (renderC cs) (w.setLeafFiles u mu')
        = (.ok false, w.setLeafFiles u mu') ∧
      (Overlay.fs (layersN (u :: is) (idu :: ids))).metadata (renderC cs) (w.setLeafFiles u mu')
        = (.err .fileNotFound none, w.setLeafFiles u mu') ∧
      (Overlay.fs (layersN (u :: is) (idu :: ids))).openFile (renderC cs) (w.setLeafFiles u mu')
        = (.err .fileNotFound none, w.setLeafFiles u mu') ∧
      OnlyMarkerAdded mu mu' cs := by
  obtain ⟨em, hft, hc, hfind⟩ := pRemoveTail_ok_find hf ht
  have hem : mu'.find? (marker (renderC cs)) = some em := by rw [hfind, if_pos rfl]
  have h' := h.setHead mu'
  obtain ⟨hview, hex, hmeta, hopen⟩ :=
    marked_absent_everywhereN h' cs hne hcs (contains_of_find hem)
  exact ⟨h', ⟨em, hem, hft, hc⟩, hview, hex, hmeta, hopen, onlyMarkerAdded_of_tail hf hcs ht⟩

/-- **a removed file is absent from every observation (n layers).** After a successful
`remove_file(p)` — `p` may live in the upper layer, in one lower layer or in several —:
only the upper leaf changed (every lower leaf still holds its map: `OWN` with the same `ms`), the
upper map holds the marker of `p` as an empty file, the n-layer view has nothing at `p`, `exists`
/ `metadata` / `open_file` through the overlay report absence, and the upper map changed only as
`OnlyMarkerAdded` says. -/
theorem removed_file_absentN (cs : List Str) (hne : cs ≠ []) (hcs : ∀ c ∈ cs, GoodComp c)
    (hres : ((Overlay.fs (layersN (u :: is) (idu :: ids))).removeFile (renderC cs) w).1 = .ok ()) :
    ∃ mu', (Overlay.fs (layersN (u :: is) (idu :: ids))).removeFile (renderC cs) w
        = (.ok (), w.setLeafFiles u mu') ∧
      OWN (w.setLeafFiles u mu') (u :: is) (idu :: ids) (mu' :: ms) ∧
      (∃ em, mu'.find? (marker (renderC cs)) = some em ∧ em.ftype = .file ∧ em.content = []) ∧
      viewN (mu' :: ms) (renderC cs) = none ∧
      (Overlay.fs (layersN (u :: is) (idu :: ids))).exists_ (renderC cs) (w.setLeafFiles u mu')
        = (.ok false, w.setLeafFiles u mu') ∧
      (Overlay.fs (layersN (u :: is) (idu :: ids))).metadata (renderC cs) (w.setLeafFiles u mu')
        = (.err .fileNotFound none, w.setLeafFiles u mu') ∧
      (Overlay.fs (layersN (u :: is) (idu :: ids))).openFile (renderC cs) (w.setLeafFiles u mu')
        = (.err .fileNotFound none, w.setLeafFiles u mu') ∧
      OnlyMarkerAdded mu mu' cs := by
  have hrun : Overlay.removeFile _ _ w = _ := run_oremoveFileN h cs hne hcs
  have hpair : pRemoveFileN mu ms cs = (.ok (), (pRemoveFileN mu ms cs).2) :=
    Prod.ext (by rw [← hres]; exact (congrArg Prod.fst hrun).symm) rfl
  exact ⟨_, hrun.trans (Prod.ext (congrArg Prod.fst hpair :) rfl),
    removed_absent_of_tail h Mem.erasing_removeFile cs hne hcs (pRemoveFileN_ok_tail hpair).2⟩

theorem removed_dir_absentN (cs : List Str) (hne : cs ≠ []) (hcs : ∀ c ∈ cs, GoodComp c)
    (hwo : ∀ e, mu.find? (woDirOf (renderC cs)) = some e → e.ftype = .dir)
    (hres : ((Overlay.fs (layersN (u :: is) (idu :: ids))).removeDir (renderC cs) w).1 = .ok ()) :
    ∃ mu', (Overlay.fs (layersN (u :: is) (idu :: ids))).removeDir (renderC cs) w
        = (.ok (), w.setLeafFiles u mu') ∧
      OWN (w.setLeafFiles u mu') (u :: is) (idu :: ids) (mu' :: ms) ∧
      (∃ em, mu'.find? (marker (renderC cs)) = some em ∧ em.ftype = .file ∧ em.content = []) ∧
      viewN (mu' :: ms) (renderC cs) = none ∧
      (Overlay.fs (layersN (u :: is) (idu :: ids))).exists_ (renderC cs) (w.setLeafFiles u mu')
        = (.ok false, w.setLeafFiles u mu') ∧
      (Overlay.fs (layersN (u :: is) (idu :: ids))).metadata (renderC cs) (w.setLeafFiles u mu')
        = (.err .fileNotFound none, w.setLeafFiles u mu') ∧
      (Overlay.fs (layersN (u :: is) (idu :: ids))).openFile (renderC cs) (w.setLeafFiles u mu')
        = (.err .fileNotFound none, w.setLeafFiles u mu') ∧
      OnlyMarkerAdded mu mu' cs ∧
      -- it was a path of the view whose listing was empty
      (∃ e, viewN (mu :: ms) (renderC cs) = some e) ∧
      pReadDirN (mu :: ms) (renderC cs) = .ok [] := by
  have hrun : Overlay.removeDir _ _ w = _ := run_oremoveDirN h cs hne hcs hwo
  have hpair : pRemoveDirN mu ms cs = (.ok (), (pRemoveDirN mu ms cs).2) :=
    Prod.ext (by rw [← hres]; exact (congrArg Prod.fst hrun).symm) rfl
  obtain ⟨hwas, hlist, ht⟩ := pRemoveDirN_ok_tail hpair
  obtain ⟨a, b, c, d, e, f, g⟩ := removed_absent_of_tail h Mem.erasing_removeDir cs hne hcs ht
  exact ⟨_, hrun.trans (Prod.ext (congrArg Prod.fst hpair :) rfl), a, b, c, d, e, f, g, hwas, hlist⟩

omit h in
theorem removed_stays_absent_frameN (mu' : FMap) (ms' : List FMap) (p : Str)
    (hkeep : mu'.contains (marker p) = true) : viewN (mu' :: ms') p = none :=
  viewN_marked hkeep

theorem marker_survives_createDirN (p : Str) (hm : mu.contains (marker p) = true)
    (cs : List Str) (hne : cs ≠ []) (hcs : ∀ c ∈ cs, GoodComp c) (hq : renderC cs ≠ p) :
    ∃ r mu', (Overlay.fs (layersN (u :: is) (idu :: ids))).createDir (renderC cs) w
        = (r, w.setLeafFiles u mu') ∧
      OWN (w.setLeafFiles u mu') (u :: is) (idu :: ids) (mu' :: ms) ∧
      mu'.contains (marker p) = true :=
  ⟨_, _, run_ocreateDirN h cs hne hcs, h.setHead _,
    pCreateDirN_keeps cs (fun he => hq (marker_injective _ _ he).symm) hm⟩

theorem marker_survives_createFileN (p : Str) (hm : mu.contains (marker p) = true)
    (cs : List Str) (hne : cs ≠ []) (hcs : ∀ c ∈ cs, GoodComp c) (hq : renderC cs ≠ p) :
    ∃ r mu', (Overlay.fs (layersN (u :: is) (idu :: ids))).createFile (renderC cs) w
        = (r, w.setLeafFiles u mu') ∧
      OWN (w.setLeafFiles u mu') (u :: is) (idu :: ids) (mu' :: ms) ∧
      mu'.contains (marker p) = true :=
  ⟨_, _, run_ocreateFileN h cs hne hcs, h.setHead _,
    pCreateFileN_keeps cs (fun he => hq (marker_injective _ _ he).symm) hm⟩

theorem marker_survives_removeFileN (p : Str) (hm : mu.contains (marker p) = true)
    (cs : List Str) (hne : cs ≠ []) (hcs : ∀ c ∈ cs, GoodComp c)
    (hq : renderC cs ≠ marker p) :
    ∃ r mu', (Overlay.fs (layersN (u :: is) (idu :: ids))).removeFile (renderC cs) w
        = (r, w.setLeafFiles u mu') ∧
      OWN (w.setLeafFiles u mu') (u :: is) (idu :: ids) (mu' :: ms) ∧
      mu'.contains (marker p) = true :=
  ⟨_, _, run_oremoveFileN h cs hne hcs, h.setHead _,
    pRemoveFileN_keeps cs (fun he => hq he.symm) hm⟩

theorem marker_survives_removeDirN (p : Str) (hm : mu.contains (marker p) = true)
    (cs : List Str) (hne : cs ≠ []) (hcs : ∀ c ∈ cs, GoodComp c)
    (hq : renderC cs ≠ marker p) :
    ∃ r mu', (Overlay.fs (layersN (u :: is) (idu :: ids))).removeDir (renderC cs) w
        = (r, w.setLeafFiles u mu') ∧
      OWN (w.setLeafFiles u mu') (u :: is) (idu :: ids) (mu' :: ms) ∧
      mu'.contains (marker p) = true := by
  obtain ⟨r, mu', hrun, hkeep⟩ := run_oremoveDirN_any h cs hne hcs
  exact ⟨r, mu', hrun, h.setHead _, hkeep _ (fun he => hq he.symm) hm⟩

theorem marker_survives_write_sessionN (p : Str) (hm : mu.contains (marker p) = true)
    (key : Str) (buf : Bytes) (pos : Nat) (bs : Bytes) :
    ∃ mu', WHandle.writeAllAndDrop
        { leaf := u, key := key, kind := .memFile, buf := buf, pos := pos } bs w
        = (.ok (), w.setLeafFiles u mu') ∧
      OWN (w.setLeafFiles u mu') (u :: is) (idu :: ids) (mu' :: ms) ∧
      mu'.contains (marker p) = true :=
  ⟨_, run_writeAllAndDrop h.hu key buf pos bs, h.setHead _, memPublish_keeps _ _ hm⟩

theorem marker_survives_openFileN (p : Str) (hm : mu.contains (marker p) = true)
    (cs : List Str) (hne : cs ≠ []) (hcs : ∀ c ∈ cs, GoodComp c) :
    ∃ r w' mu' ms', (Overlay.fs (layersN (u :: is) (idu :: ids))).openFile (renderC cs) w = (r, w') ∧
      OWN w' (u :: is) (idu :: ids) (mu' :: ms') ∧ mu'.contains (marker p) = true := by
  rcases run_oopenFileN h cs hne hcs with ⟨_, hr⟩ | ⟨k, i, m, hf, hi, hr, hown⟩
  · exact ⟨_, w, mu, ms, hr, h, hm⟩
  · cases k with
    | zero =>
      have hg := hf.get
      simp only [List.getElem?_cons_zero, Option.some.injEq] at hg
      subst hg
      exact ⟨_, _, _, ms, hr, by simpa using hown, Mem.openFile_keeps _ hm⟩
    | succ k =>
      exact ⟨_, _, mu, _, hr, by simpa using hown, hm⟩

/-- **`append_file(q)`, any `q`** (also `q = p`: it fails), copy-up included: the marker survives;
the lower layer that served the copy-up got an access stamp (`ms'`); a returned handle writes to
the upper leaf. (This is `marker_survives_appendFile_stmt` for any number of layers, and without
its side conditions `q ≠ p`, `q ≠ marker p`.) -/
theorem marker_survives_appendFileN (p : Str) (hm : mu.contains (marker p) = true)
    (cs : List Str) (hne : cs ≠ []) (hcs : ∀ c ∈ cs, GoodComp c) :
    ∃ r w' mu' ms', (Overlay.fs (layersN (u :: is) (idu :: ids))).appendFile (renderC cs) w
        = (r, w') ∧
      OWN w' (u :: is) (idu :: ids) (mu' :: ms') ∧ mu'.contains (marker p) = true ∧
      ∀ hd, r = .ok hd → hd.leaf = u ∧ hd.kind = .memFile := by
  obtain ⟨w', hrun, hown⟩ := run_oappendFileN h cs hne hcs
  refine ⟨_, w', _, _, hrun, hown, pAppendN_keeps cs hm, fun hd hok => ?_⟩
  cases hr : (pAppendN mu ms cs).1 <;> rw [hr] at hok <;> cases hok
  exact ⟨rfl, rfl⟩

omit h in
/-- a completed session `f?.write_all(bs)` whose handle, if there is one, writes to the upper leaf -/
theorem session_keeps (p : Str) {f : M WHandle} {r : Res WHandle} {w1 : World} {mu1 : FMap}
    {ms1 : List FMap} (hrun : f w = (r, w1)) (h1 : OWN w1 (u :: is) (idu :: ids) (mu1 :: ms1))
    (hk1 : mu1.contains (marker p) = true)
    (hh : ∀ hd, r = .ok hd → hd.leaf = u ∧ hd.kind = .memFile) (bs : Bytes) :
    ∃ mu' ms', OWN ((do let hd ← f; hd.writeAllAndDrop bs : M Unit) w).2 (u :: is) (idu :: ids)
        (mu' :: ms') ∧ mu'.contains (marker p) = true := by
  cases r with
  | ok hd =>
    obtain ⟨hleaf, hkind⟩ := hh hd rfl
    obtain ⟨leaf, key, kind, buf, pos⟩ := hd
    simp only at hleaf hkind
    subst hleaf; subst hkind
    obtain ⟨mu', hw, h', hk⟩ := marker_survives_write_sessionN h1 p hk1 key buf pos bs
    exact ⟨mu', ms1, by simp only [bind, M.bind, hrun, hw]; exact h', hk⟩
  | err k pth => exact ⟨mu1, ms1, by simp only [bind, M.bind, hrun]; exact h1, hk1⟩
  | panic => exact ⟨mu1, ms1, by simp only [bind, M.bind, hrun]; exact h1, hk1⟩

end removal

/-- the later operations the property quantifies over: every call of the overlay's interface
except the time setters, `copy_file`, `move_file`, `move_dir`; `write` / `append` are one
completed session `create_file(q)?.write_all(bs)` / `append_file(q)?.write_all(bs)` -/
inductive OtherOp where
  | createDir (cs : List Str)
  | write (cs : List Str) (bs : Bytes)
  | append (cs : List Str) (bs : Bytes)
  | removeFile (cs : List Str)
  | removeDir (cs : List Str)
  | openFile (cs : List Str)
  | exists_ (cs : List Str)
  | metadata (cs : List Str)
  | readDir (cs : List Str)

def OtherOp.run (fs : FS) : OtherOp → World → World
  | .createDir cs, w => (fs.createDir (renderC cs) w).2
  | .write cs bs, w => ((do let hd ← fs.createFile (renderC cs); hd.writeAllAndDrop bs : M Unit) w).2
  | .append cs bs, w => ((do let hd ← fs.appendFile (renderC cs); hd.writeAllAndDrop bs : M Unit) w).2
  | .removeFile cs, w => (fs.removeFile (renderC cs) w).2
  | .removeDir cs, w => (fs.removeDir (renderC cs) w).2
  | .openFile cs, w => (fs.openFile (renderC cs) w).2
  | .exists_ cs, w => (fs.exists_ (renderC cs) w).2
  | .metadata cs, w => (fs.metadata (renderC cs) w).2
  | .readDir cs, w => (fs.readDir (renderC cs) w).2

/-- "unrelated to `p`": a canonical path; creations not AT `p` (they are what re-creates `p`);
removals not of the marker file itself (i.e. not reaching into the reserved ".whiteout"
namespace). Everything else is allowed — also operations on ancestors, descendants and siblings
of `p`, removals of `p` itself (they fail), and every observer. -/
def OtherOp.Unrelated (p : Str) : OtherOp → Prop
  | .createDir cs => cs ≠ [] ∧ (∀ c ∈ cs, GoodComp c) ∧ renderC cs ≠ p
  | .write cs _ => cs ≠ [] ∧ (∀ c ∈ cs, GoodComp c) ∧ renderC cs ≠ p
  | .append cs _ => cs ≠ [] ∧ (∀ c ∈ cs, GoodComp c)
  | .removeFile cs => cs ≠ [] ∧ (∀ c ∈ cs, GoodComp c) ∧ renderC cs ≠ marker p
  | .removeDir cs => cs ≠ [] ∧ (∀ c ∈ cs, GoodComp c) ∧ renderC cs ≠ marker p
  | .openFile cs => cs ≠ [] ∧ (∀ c ∈ cs, GoodComp c)
  | .exists_ cs => ∀ c ∈ cs, GoodComp c
  | .metadata cs => cs ≠ [] ∧ (∀ c ∈ cs, GoodComp c)
  | .readDir cs => ∀ c ∈ cs, GoodComp c

section laterOps
variable {w : World} {u idu : Nat} {mu : FMap} {is ids : List Nat} {ms : List FMap}
  (h : OWN w (u :: is) (idu :: ids) (mu :: ms))
include h

theorem OtherOp.keepsN (p : Str) (hm : mu.contains (marker p) = true) (o : OtherOp)
    (ho : o.Unrelated p) :
    ∃ mu' ms', OWN (o.run (Overlay.fs (layersN (u :: is) (idu :: ids))) w) (u :: is) (idu :: ids)
        (mu' :: ms') ∧ mu'.contains (marker p) = true := by
  cases o with
  | createDir cs =>
    obtain ⟨hne, hcs, hq⟩ := ho
    obtain ⟨r, mu', hrun, h', hk⟩ := marker_survives_createDirN h p hm cs hne hcs hq
    exact ⟨mu', ms, by simp only [OtherOp.run, hrun]; exact h', hk⟩
  | write cs bs =>
    obtain ⟨hne, hcs, hq⟩ := ho
    refine session_keeps p (run_ocreateFileN h cs hne hcs) (h.setHead _)
      (pCreateFileN_keeps cs (fun he => hq (marker_injective _ _ he).symm) hm) ?_ bs
    intro hd he
    cases hr : (pCreateFileN mu ms cs).1 with
    | ok a => rw [hr] at he; cases he; exact ⟨rfl, rfl⟩
    | err k pth => rw [hr] at he; cases he
    | panic => rw [hr] at he; cases he
  | append cs bs =>
    obtain ⟨hne, hcs⟩ := ho
    obtain ⟨r, w1, mu1, ms1, hrun, h1, hk1, hh⟩ := marker_survives_appendFileN h p hm cs hne hcs
    exact session_keeps p hrun h1 hk1 hh bs
  | removeFile cs =>
    obtain ⟨hne, hcs, hq⟩ := ho
    obtain ⟨r, mu', hrun, h', hk⟩ := marker_survives_removeFileN h p hm cs hne hcs hq
    exact ⟨mu', ms, by simp only [OtherOp.run, hrun]; exact h', hk⟩
  | removeDir cs =>
    obtain ⟨hne, hcs, hq⟩ := ho
    obtain ⟨r, mu', hrun, h', hk⟩ := marker_survives_removeDirN h p hm cs hne hcs hq
    exact ⟨mu', ms, by simp only [OtherOp.run, hrun]; exact h', hk⟩
  | openFile cs =>
    obtain ⟨hne, hcs⟩ := ho
    obtain ⟨r, w', mu', ms', hrun, h', hk⟩ := marker_survives_openFileN h p hm cs hne hcs
    exact ⟨mu', ms', by simp only [OtherOp.run, hrun]; exact h', hk⟩
  | exists_ cs =>
    refine ⟨mu, ms, ?_, hm⟩
    show OWN (Overlay.exists_ _ _ w).2 _ _ _
    rw [run_oexists_anyN h cs ho]; exact h
  | metadata cs =>
    obtain ⟨hne, hcs⟩ := ho
    refine ⟨mu, ms, ?_, hm⟩
    simp only [OtherOp.run, C09.metadata_is_viewN h cs hne hcs]; exact h
  | readDir cs =>
    refine ⟨mu, ms, ?_, hm⟩
    obtain ⟨r, hr⟩ := run_oreadDirN_world h cs ho
    show OWN (Overlay.readDir _ _ w).2 _ _ _
    rw [hr]; exact h

/-- **removed stays absent (n layers, any sequence of later unrelated operations).** Once the
marker of `p` is in the upper map — which is what a successful `remove_file(p)` / `remove_dir(p)`
leaves behind, see `removed_file_absentN` / `removed_dir_absentN` — then after ANY finite sequence
of unrelated overlay operations (each with whatever outcome): the world is still an n-layer
setting, the marker is still there, `p` is absent from the n-layer view, and `exists(p)` /
`metadata(p)` / `open_file(p)` report absence. -/
theorem removed_stays_absentN (ps : List Str) (hpne : ps ≠ []) (hps : ∀ c ∈ ps, GoodComp c)
    (hm : mu.contains (marker (renderC ps)) = true)
    (ops : List OtherOp) (hops : ∀ o ∈ ops, o.Unrelated (renderC ps)) :
    ∃ mu' ms',
      OWN (ops.foldl (fun w o => o.run (Overlay.fs (layersN (u :: is) (idu :: ids))) w) w)
        (u :: is) (idu :: ids) (mu' :: ms') ∧
      mu'.contains (marker (renderC ps)) = true ∧
      viewN (mu' :: ms') (renderC ps) = none ∧
      (Overlay.fs (layersN (u :: is) (idu :: ids))).exists_ (renderC ps)
          (ops.foldl (fun w o => o.run (Overlay.fs (layersN (u :: is) (idu :: ids))) w) w)
        = (.ok false, ops.foldl (fun w o => o.run (Overlay.fs (layersN (u :: is) (idu :: ids))) w) w) ∧
      (Overlay.fs (layersN (u :: is) (idu :: ids))).metadata (renderC ps)
          (ops.foldl (fun w o => o.run (Overlay.fs (layersN (u :: is) (idu :: ids))) w) w)
        = (.err .fileNotFound none,
            ops.foldl (fun w o => o.run (Overlay.fs (layersN (u :: is) (idu :: ids))) w) w) ∧
      (Overlay.fs (layersN (u :: is) (idu :: ids))).openFile (renderC ps)
          (ops.foldl (fun w o => o.run (Overlay.fs (layersN (u :: is) (idu :: ids))) w) w)
        = (.err .fileNotFound none,
            ops.foldl (fun w o => o.run (Overlay.fs (layersN (u :: is) (idu :: ids))) w) w) := by
  induction ops generalizing w mu ms with
  | nil =>
    obtain ⟨h1, h2, h3, h4⟩ := marked_absent_everywhereN h ps hpne hps hm
    exact ⟨mu, ms, h, hm, h1, h2, h3, h4⟩
  | cons o ops ih =>
    obtain ⟨mu1, ms1, h1, hm1⟩ := OtherOp.keepsN h _ hm o (hops o (by simp))
    exact ih h1 hm1 (fun o' ho' => hops o' (by simp [ho']))

end laterOps

theorem ancDirsN_of_frame {mu mu1 : FMap} {ms : List FMap} {ds : List Str} {n : Str}
    (hds : ∀ c ∈ ds, GoodComp c) (hn : GoodComp n) (hanc : AncDirsN (mu :: ms) ds)
    (hhead : (ds ++ [n]).head? ≠ some woDir)
    (hframe : ∀ k, k ≠ renderC (ds ++ [n]) → k ≠ marker (renderC (ds ++ [n])) →
      k ∉ chain [] (woDir :: ds) → mu1.find? k = mu.find? k) : AncDirsN (mu1 :: ms) ds := by
  have hcs := good_snoc hds hn
  have hne : ds ++ [n] ≠ [] := by simp
  have hns := good_noSlash hcs
  have hdns := good_noSlash hds
  have hdhead := head_ne_of_snoc hhead
  intro j hj1 hj2
  obtain ⟨ea, hva, hda⟩ := hanc j hj1 hj2
  refine ⟨ea, ?_, hda⟩
  have hqns : ∀ c ∈ ds.take j, '/' ∉ c := fun c hc => hdns c (List.mem_of_mem_take hc)
  have hqhead := take_head_ne hj1 hdhead
  have hq1 : renderC (ds.take j) ≠ renderC (ds ++ [n]) := by
    intro heq
    have := congrArg List.length (C06.renderC_injective _ _ hqns hns heq)
    rw [List.length_take, List.length_append, List.length_singleton] at this
    omega
  have hqh : (renderC (ds.take j)).head? = some '/' := by
    apply C09.renderC_head
    intro h0
    have := congrArg List.length h0
    rw [List.length_take, List.length_nil] at this
    omega
  have hq2 : renderC (ds.take j) ≠ marker (renderC (ds ++ [n])) := fun heq =>
    hqhead (renderC_eq_marker_head _ _ hqns heq (C09.renderC_head _ hne))
  have hq3 : renderC (ds.take j) ∉ chain [] (woDir :: ds) := fun hk =>
    hqhead (chain_wo_head _ _ hqns hdns hk)
  have hm1 : marker (renderC (ds.take j)) ≠ renderC (ds ++ [n]) := fun heq =>
    hhead (renderC_eq_marker_head _ _ hns heq.symm hqh)
  have hm2 : marker (renderC (ds.take j)) ≠ marker (renderC (ds ++ [n])) := fun heq =>
    hq1 (marker_injective _ _ heq)
  have hm3 := marker_prefix_not_in_chain ds hds j hj1 hj2
  rw [← hva]
  exact viewN_congr_upper (hframe _ hq1 hq2 hq3) (hframe _ hm1 hm2 hm3)

theorem snoc_head_ne {qs : List Str} {x : Str} {c : Str} (hqne : qs ≠ [])
    (hhead : qs.head? ≠ some c) : (qs ++ [x]).head? ≠ some c := by
  cases qs with
  | nil => exact absurd rfl hqne
  | cons q qs => simpa using hhead

theorem noSlash_snoc {qs : List Str} {x : Str} (hqs : ∀ c ∈ qs, GoodComp c) (hx : '/' ∉ x) :
    ∀ c ∈ qs ++ [x], '/' ∉ c := by
  intro c hc
  rcases List.mem_append.1 hc with hc | hc
  · exact (hqs c hc).noSlash
  · rw [List.mem_singleton.1 hc]; exact hx

theorem below_key_apart {ds : List Str} {n x : Str} (hds : ∀ c ∈ ds, GoodComp c) (hn : GoodComp n)
    (hhead : (ds ++ [n]).head? ≠ some woDir) (hx : '/' ∉ x) :
    renderC (ds ++ [n]) ++ '/' :: x ≠ renderC (ds ++ [n]) ∧
    renderC (ds ++ [n]) ++ '/' :: x ≠ marker (renderC (ds ++ [n])) ∧
    renderC (ds ++ [n]) ++ '/' :: x ∉ chain [] ds ∧
    renderC (ds ++ [n]) ++ '/' :: x ∉ chain [] (woDir :: ds) := by
  have hkey : renderC (ds ++ [n]) ++ '/' :: x = renderC ((ds ++ [n]) ++ [x]) := by simp
  have hns := noSlash_snoc (good_snoc hds hn) hx
  have hh := snoc_head_ne (x := x) (by simp) hhead
  refine ⟨?_, ?_, snoc_not_in_chain hds hn _ (Or.inr rfl), ?_⟩
  · intro heq
    have := congrArg List.length heq
    simp at this
  · rw [hkey]
    exact fun heq => hh (renderC_eq_marker_head _ _ hns heq (C09.renderC_head _ (by simp)))
  · rw [hkey]
    exact fun hk => hh (chain_wo_head _ _ hns (good_noSlash hds) hk)

/-- nothing of the directory `p` shows: the upper map holds no child of `p`, and every child that
a lower layer holds is marked -/
def Emptied (mu : FMap) (ms : List FMap) (p : Str) : Prop :=
  (∀ y, '/' ∉ y → mu.find? (p ++ '/' :: y) = none) ∧
  ∀ y, '/' ∉ y → ∀ m ∈ ms, m.contains (p ++ '/' :: y) = true →
    mu.contains (marker (p ++ '/' :: y)) = true

theorem pListingN_empty {mu : FMap} {ms : List FMap} {p : Str} (he : Emptied mu ms p)
    (hwfl : ∀ m ∈ ms, WF m) (hchd : ChildrenHaveDir mu (woDirOf p)) :
    pListingN (mu :: ms) p = [] := by
  apply List.eq_nil_iff_forall_not_mem.2
  intro y hy
  have hall : ∀ m ∈ mu :: ms, ChildrenHaveDir m p := by
    intro m hm
    rcases List.mem_cons.1 hm with rfl | hm
    · intro c hc hcont
      rw [contains_of_none (he.1 c hc)] at hcont; cases hcont
    · exact (hwfl m hm).childrenHaveDir _
  obtain ⟨hys, hyv, _⟩ := (mem_pListingN mu ms _ y hall hchd).1 hy
  rw [viewN_isSome] at hyv
  simp only [Bool.and_eq_true, Bool.not_eq_true', List.any_eq_true] at hyv
  obtain ⟨hnm, m, hmem, hc⟩ := hyv
  rcases List.mem_cons.1 hmem with rfl | hmem
  · rw [contains_of_none (he.1 y hys)] at hc; cases hc
  · have := he.2 y hys m hmem hc
    rw [hnm] at this; cases this

/-- an operation at `p = ds/n` that keeps every key but `p` and its marker keeps the markers of
the children of `p` -/
theorem child_marker_kept {mu mu' : FMap} {ds : List Str} {n : Str}
    (hds : ∀ c ∈ ds, GoodComp c) (hn : GoodComp n) (hhead : (ds ++ [n]).head? ≠ some woDir)
    (hkeep : ∀ k, k ≠ renderC (ds ++ [n]) → k ≠ marker (renderC (ds ++ [n])) →
      mu.contains k = true → mu'.contains k = true)
    {y : Str} (hy : '/' ∉ y)
    (hc : mu.contains (marker (renderC (ds ++ [n]) ++ '/' :: y)) = true) :
    mu'.contains (marker (renderC (ds ++ [n]) ++ '/' :: y)) = true := by
  have hkey : renderC (ds ++ [n]) ++ '/' :: y = renderC ((ds ++ [n]) ++ [y]) := by simp
  refine hkeep _ (fun heq => hhead ?_)
    (fun heq => (below_key_apart hds hn hhead hy).1 (marker_injective _ _ heq)) hc
  rw [hkey] at heq
  exact renderC_eq_marker_head _ _ (good_noSlash (good_snoc hds hn)) heq.symm
    (C09.renderC_head _ (by simp))

/-- an operation at `p = ds/n` — `hframe`: what it leaves alone, `hkeep`: which keys it keeps —
leaves `p` emptied: the children of `p` are outside its frame, and their markers are kept -/
theorem Emptied.of_frame {mu mu' : FMap} {ms : List FMap} {ds : List Str} {n : Str}
    (hds : ∀ c ∈ ds, GoodComp c) (hn : GoodComp n) (hhead : (ds ++ [n]).head? ≠ some woDir)
    (hframe : ∀ k, k ≠ renderC (ds ++ [n]) → k ≠ marker (renderC (ds ++ [n])) →
      k ∉ chain [] ds → k ∉ chain [] (woDir :: ds) → mu'.find? k = mu.find? k)
    (hkeep : ∀ k, k ≠ renderC (ds ++ [n]) → k ≠ marker (renderC (ds ++ [n])) →
      mu.contains k = true → mu'.contains k = true)
    (he : Emptied mu ms (renderC (ds ++ [n]))) : Emptied mu' ms (renderC (ds ++ [n])) := by
  refine ⟨fun y hy => ?_,
    fun y hy m hm hc => child_marker_kept hds hn hhead hkeep hy (he.2 y hy m hm hc)⟩
  obtain ⟨a1, a2, a3, a4⟩ := below_key_apart hds hn hhead hy
  rw [hframe _ a1 a2 a3 a4]; exact he.1 y hy

section recreation
variable {w : World} {u idu : Nat} {mu : FMap} {is ids : List Nat} {ms : List FMap}
  (h : OWN w (u :: is) (idu :: ids) (mu :: ms))
include h

/-- **a re-created file holds only the newly written bytes (n layers).** `p` is marked as deleted
(its marker is a file of the upper layer, the upper layer has nothing at `p`; ANY NUMBER of lower
layers may still hold an old file at `p` — there is no hypothesis on `ms` beyond the ancestors):
one write session `create_file(p)?.write_all(bs)` succeeds, changes the upper leaf only, removes
the marker, and afterwards the n-layer view serves `p` as a file with content exactly `bs`, and
`open_file(p)` through the overlay hands out exactly `bs`. -/
theorem recreated_file_freshN (ds : List Str) (n : Str) (hds : ∀ c ∈ ds, GoodComp c)
    (hn : GoodComp n) (hroot : RootOk mu) (hanc : AncDirsN (mu :: ms) ds)
    (em : Entry) (bs : Bytes)
    (hmk : mu.find? (marker (renderC (ds ++ [n]))) = some em) (hmf : em.ftype = .file)
    (hup : mu.find? (renderC (ds ++ [n])) = none) :
    ∃ w' mu' e',
      (do let hd ← (Overlay.fs (layersN (u :: is) (idu :: ids))).createFile (renderC (ds ++ [n]))
          hd.writeAllAndDrop bs : M Unit) w = (.ok (), w') ∧
      OWN w' (u :: is) (idu :: ids) (mu' :: ms) ∧
      mu'.contains (marker (renderC (ds ++ [n]))) = false ∧
      mu'.find? (renderC (ds ++ [n])) = some e' ∧
      viewN (mu' :: ms) (renderC (ds ++ [n])) = some e' ∧ e'.ftype = .file ∧ e'.content = bs ∧
      ∃ w'', (Overlay.fs (layersN (u :: is) (idu :: ids))).openFile (renderC (ds ++ [n])) w'
        = (.ok { content := bs, pos := 0 }, w'') := by
  have hcs := good_snoc hds hn
  have hne : ds ++ [n] ≠ [] := by simp
  have hne' : marker (renderC (ds ++ [n])) ≠ renderC (ds ++ [n]) := marker_ne _
  have hpure := pCreateFileN_marked (ms := ms) hds hn hroot hanc hmk hmf hup
  have h3 := h.setHead (pCreateFileN mu ms (ds ++ [n])).2
  -- the file just created by `create_file` sits at the key, so the session publishes
  have hcreated : (pCreateFileN mu ms (ds ++ [n])).2.find? (renderC (ds ++ [n])) =
      some fileEntryNow := by
    rw [hpure]
    show (FMap.erase _ _).find? _ = _
    rw [FMap.find?_erase_ne _ _ _ hne'.symm, FMap.find?_insert_self]
  obtain ⟨e', he', hft, hct⟩ := find?_memPublish_self (pCreateFileN mu ms (ds ++ [n])).2
    (renderC (ds ++ [n])) (cursorWrite [] 0 bs) fileEntryNow hcreated rfl
  have hgone : (memPublish (pCreateFileN mu ms (ds ++ [n])).2 (renderC (ds ++ [n]))
      (cursorWrite [] 0 bs)).contains (marker (renderC (ds ++ [n]))) = false := by
    apply contains_of_none
    rw [find?_memPublish_ne _ _ _ _ hne', hpure]
    exact FMap.find?_erase_self _ _
  have h4 := h3.setHead (memPublish (pCreateFileN mu ms (ds ++ [n])).2 (renderC (ds ++ [n]))
      (cursorWrite [] 0 bs))
  rw [World.setLeafFiles_twice] at h4
  have hct' : e'.content = bs := by rw [hct, cursorWrite_nil]
  have hview := viewN_upper (ms := ms) hgone he'
  obtain ⟨k, i, m, w'', _, _, _, hopenf, _, _⟩ := C09.openFile_serves_viewN h4 _ hne hcs e' hview hft
  rw [hct'] at hopenf
  refine ⟨_, _, e', ?_, h4, hgone, he', hview, hft, hct', w'', hopenf⟩
  show (do let hd ← Overlay.createFile _ _; hd.writeAllAndDrop bs : M Unit) w = _
  simp only [bind, M.bind, run_ocreateFileN h _ hne hcs]
  rw [hpure] at h3 ⊢
  simp only [Res.map, run_writeAllAndDrop h3.hu, World.setLeafFiles_twice]

/-- **remove, then re-create: only the new bytes (n layers).** `p` is a file of the n-layer view
(in the upper layer, in one lower layer, or in several lower layers with different bytes).
`remove_file(p)` succeeds; a following write session `create_file(p)?.write_all(bs)` succeeds;
afterwards the marker is gone, every lower layer still holds its old map (`OWN … (mu2 :: ms)`),
and the view — and `open_file` — serve `p` as a file holding exactly `bs`. -/
theorem remove_then_recreate_freshN (ds : List Str) (n : Str) (hds : ∀ c ∈ ds, GoodComp c)
    (hn : GoodComp n) (hroot : RootOk mu) (hanc : AncDirsN (mu :: ms) ds)
    (hhead : (ds ++ [n]).head? ≠ some woDir) (hsuf : ds.head? ≠ some woSuffix)
    (hwoarea : ∀ k ∈ chain [] (woDir :: ds), ∀ e, mu.find? k = some e → e.ftype = .dir)
    (e : Entry) (hv : viewN (mu :: ms) (renderC (ds ++ [n])) = some e) (hfile : e.ftype = .file)
    (bs : Bytes) :
    ∃ w1 w2 mu2 e',
      (Overlay.fs (layersN (u :: is) (idu :: ids))).removeFile (renderC (ds ++ [n])) w
        = (.ok (), w1) ∧
      (do let hd ← (Overlay.fs (layersN (u :: is) (idu :: ids))).createFile (renderC (ds ++ [n]))
          hd.writeAllAndDrop bs : M Unit) w1 = (.ok (), w2) ∧
      OWN w2 (u :: is) (idu :: ids) (mu2 :: ms) ∧
      mu2.contains (marker (renderC (ds ++ [n]))) = false ∧
      viewN (mu2 :: ms) (renderC (ds ++ [n])) = some e' ∧ e'.ftype = .file ∧ e'.content = bs ∧
      ∃ w3, (Overlay.fs (layersN (u :: is) (idu :: ids))).openFile (renderC (ds ++ [n])) w2
        = (.ok { content := bs, pos := 0 }, w3) := by
  have hcs := good_snoc hds hn
  have hne : ds ++ [n] ≠ [] := by simp
  obtain ⟨mu1, hpure, ⟨em, hem, hemf⟩, hp1, hframe⟩ :=
    pRemoveFileN_result mu ms ds n hds hn hroot hwoarea hhead e hv hfile
  have h1 := h.setHead mu1
  have hrun : (Overlay.fs (layersN (u :: is) (idu :: ids))).removeFile (renderC (ds ++ [n])) w
      = (.ok (), w.setLeafFiles u mu1) := by
    show Overlay.removeFile _ _ w = _
    rw [run_oremoveFileN h _ hne hcs, hpure]
  have hroot1 : RootOk mu1 := rootOk_of_frame hds hn hroot hhead hsuf hframe
  have hanc1 : AncDirsN (mu1 :: ms) ds := ancDirsN_of_frame hds hn hanc hhead hframe
  obtain ⟨w2, mu2, e', hrun2, hw2, hgone, _, hv2, hf2, hc2, hread⟩ :=
    recreated_file_freshN h1 ds n hds hn hroot1 hanc1 em bs hem hemf hp1
  exact ⟨_, w2, mu2, e', hrun, hrun2, hw2, hgone, hv2, hf2, hc2, hread⟩

/-- **a re-created directory is empty (n layers).** `p` is marked as deleted, the upper layer has
nothing at or below `p`, and every child of `p` that ANY lower layer still holds (each may sit in
one lower layer or in several) is marked as deleted too (it was removed through the overlay
before `p` was): `create_dir(p)` succeeds, changes the upper leaf only, `p` is again a directory
of the n-layer view, and `read_dir(p)` is empty. (`hchd` — markers below "/.whiteout/p" only exist
when that is a directory of the upper map — follows from `WF mu`.) -/
theorem recreated_dir_emptyN (ds : List Str) (n : Str) (hds : ∀ c ∈ ds, GoodComp c)
    (hn : GoodComp n) (hroot : RootOk mu) (hanc : AncDirsN (mu :: ms) ds)
    (hhead : (ds ++ [n]).head? ≠ some woDir) (em : Entry)
    (hmk : mu.find? (marker (renderC (ds ++ [n]))) = some em) (hmf : em.ftype = .file)
    (hup : mu.find? (renderC (ds ++ [n])) = none)
    (hupc : ∀ x, '/' ∉ x → mu.find? (renderC (ds ++ [n]) ++ '/' :: x) = none)
    (hlowc : ∀ x, '/' ∉ x → ∀ m ∈ ms, m.contains (renderC (ds ++ [n]) ++ '/' :: x) = true →
      mu.contains (marker (renderC (ds ++ [n]) ++ '/' :: x)) = true)
    (hwfl : ∀ m ∈ ms, WF m) (hchd : ChildrenHaveDir mu (woDirOf (renderC (ds ++ [n]))))
    (hwo : ∀ e, mu.find? (woDirOf (renderC (ds ++ [n]))) = some e → e.ftype = .dir) :
    ∃ mu', (Overlay.fs (layersN (u :: is) (idu :: ids))).createDir (renderC (ds ++ [n])) w
        = (.ok (), w.setLeafFiles u mu') ∧
      OWN (w.setLeafFiles u mu') (u :: is) (idu :: ids) (mu' :: ms) ∧
      viewN (mu' :: ms) (renderC (ds ++ [n])) = some dirEntryNow ∧
      (Overlay.fs (layersN (u :: is) (idu :: ids))).readDir (renderC (ds ++ [n]))
          (w.setLeafFiles u mu')
        = (.ok [], w.setLeafFiles u mu') ∧
      -- every other key of the upper map is kept: the former children stay marked
      (∀ k, k ≠ marker (renderC (ds ++ [n])) → mu.contains k = true → mu'.contains k = true) := by
  have hcs := good_snoc hds hn
  have hne : ds ++ [n] ≠ [] := by simp
  have hne' : marker (renderC (ds ++ [n])) ≠ renderC (ds ++ [n]) := marker_ne _
  have hmk1 : (fillDirs mu (chain [] ds)).find? (marker (renderC (ds ++ [n]))) = some em := by
    rw [find?_fillDirs, hmk]; rfl
  obtain ⟨mu3, hpure⟩ := eq_clear_ok (pCreateDirN_eq_clear (ms := ms) hds hn hroot hanc
    (viewN_marked (contains_of_find hmk1)) hup) (fun e' he' => by rw [hmk1] at he'; cases he'; exact hmf)
  obtain ⟨_, hfind⟩ := pCreateDirN_ok_find hpure
  rw [List.dropLast_concat] at hfind
  have hfind3 : ∀ k, k ≠ marker (renderC (ds ++ [n])) → k ≠ renderC (ds ++ [n]) →
      k ∉ chain [] ds → mu3.find? k = mu.find? k := fun k h1 h2 h3 => by
    rw [hfind, if_neg h2, if_neg h1, find?_fillDirs_not_mem _ _ _ h3]
  have hkeep3 : ∀ k, k ≠ marker (renderC (ds ++ [n])) → mu.contains k = true →
      mu3.contains k = true := fun k h1 hc => by
    have := pCreateDirN_keeps (ms := ms) (ds ++ [n]) h1 hc
    rwa [hpure] at this
  have hview3 : viewN (mu3 :: ms) (renderC (ds ++ [n])) = some dirEntryNow :=
    viewN_upper (contains_of_none (by rw [hfind, if_neg hne', if_pos rfl]))
      (by rw [hfind, if_pos rfl])
  have h3 := h.setHead mu3
  obtain ⟨hwo3', hchd_wo3'⟩ := woArea_of_frame (mu := mu) (mu' := mu3) hds hn
    (fun k a1 a2 a3 _ => hfind3 k a2 a1 a3)
  have hempty : pListingN (mu3 :: ms) (renderC (ds ++ [n])) = [] :=
    pListingN_empty (Emptied.of_frame hds hn hhead (fun k a1 a2 a3 _ => hfind3 k a2 a1 a3)
      (fun k _ a2 hc => hkeep3 k a2 hc) ⟨hupc, hlowc⟩) hwfl (hchd_wo3' hchd)
  refine ⟨mu3, ?_, h3, hview3, ?_, hkeep3⟩
  · show Overlay.createDir _ _ w = _
    rw [run_ocreateDirN h _ hne hcs, hpure]
  · show Overlay.readDir _ _ _ = _
    rw [run_oreadDirN h3 _ hcs (hwo3' hwo), pReadDirN_dir (renderC_ne_nil hne) hview3 rfl, hempty]

/-- **markers are invisible in listings (n layers).** Whatever `read_dir` returns: at the root it
never contains ".whiteout"; and in any directory a listed name is never a name whose marker
exists (so nothing that was removed through the overlay is listed, in whichever lower layers it
still lives); and every listed name is an entry of the n-layer view. -/
theorem markers_invisibleN (cs : List Str) (hcs : ∀ c ∈ cs, GoodComp c)
    (hwf : ∀ m ∈ mu :: ms, WF m)
    (hwo : ∀ e, mu.find? (woDirOf (renderC cs)) = some e → e.ftype = .dir)
    (lst : List Str) (w' : World)
    (hres : (Overlay.fs (layersN (u :: is) (idu :: ids))).readDir (renderC cs) w = (.ok lst, w')) :
    (renderC cs = [] → woDir ∉ lst) ∧
    (∀ x ∈ lst, mu.contains (marker (renderC cs ++ '/' :: x)) = false) ∧
    (∀ x ∈ lst, (viewN (mu :: ms) (renderC cs ++ '/' :: x)).isSome = true) := by
  change (Overlay.readDir _ _ w = _) at hres
  rw [run_oreadDirN h cs hcs hwo] at hres
  unfold pReadDirN at hres
  have hl : lst = pListingN (mu :: ms) (renderC cs) := by
    split at hres
    · simp at hres
    · split at hres
      · simp at hres; exact hres.1.symm
      · simp at hres
  subst hl
  have hmem := fun x => mem_pListingN mu ms (renderC cs) x
    (fun m hm => (hwf m hm).childrenHaveDir _) ((hwf mu (by simp)).childrenHaveDir _)
  refine ⟨fun hp => by rw [hp]; exact woDir_not_listedN _, ?_, ?_⟩
  · intro x hx
    have := ((hmem x).1 hx).2.1
    rw [viewN_isSome] at this
    simp only [Bool.and_eq_true, Bool.not_eq_true'] at this
    exact this.1
  · intro x hx
    exact ((hmem x).1 hx).2.1

theorem marked_not_listedN (cs : List Str) (hcs : ∀ c ∈ cs, GoodComp c)
    (hwf : ∀ m ∈ mu :: ms, WF m)
    (hwo : ∀ e, mu.find? (woDirOf (renderC cs)) = some e → e.ftype = .dir)
    (x : Str) (hm : mu.contains (marker (renderC cs ++ '/' :: x)) = true)
    (lst : List Str) (w' : World)
    (hres : (Overlay.fs (layersN (u :: is) (idu :: ids))).readDir (renderC cs) w = (.ok lst, w')) :
    x ∉ lst := by
  intro hx
  have := (markers_invisibleN h cs hcs hwf hwo lst w' hres).2.1 x hx
  rw [hm] at this; cases this

end recreation

theorem marker_child_not_in_chain {qs : List Str} {x : Str} (hqs : ∀ c ∈ qs, GoodComp c)
    (hx : '/' ∉ x) : marker (renderC (qs ++ [x])) ∉ chain [] (woDir :: qs) := by
  rw [marker_renderC]
  exact renderC_not_in_chain _ _
    (noSlash_wo (noSlash_snoc hqs (by simp only [List.mem_append, not_or]; exact ⟨hx, by decide⟩)))
    (noSlash_wo (good_noSlash hqs)) (by simp)

theorem woDirOf_mem_chain (qs : List Str) : woDirOf (renderC qs) ∈ chain [] (woDir :: qs) := by
  rw [woDirOf_renderC]
  exact (mem_chain [] (woDir :: qs) _).2 ⟨(woDir :: qs).length, by simp, Nat.le_refl _, by simp⟩

theorem child_keys_apart {qs : List Str} {x y : Str} (hqs : ∀ c ∈ qs, GoodComp c)
    (hx : '/' ∉ x) (hy : '/' ∉ y) (hqne : qs ≠ []) (hhead : qs.head? ≠ some woDir)
    (hxy : y ≠ x) :
    renderC (qs ++ [y]) ≠ renderC (qs ++ [x]) ∧
    renderC (qs ++ [y]) ≠ marker (renderC (qs ++ [x])) ∧
    renderC (qs ++ [y]) ∉ chain [] (woDir :: qs) ∧
    marker (renderC (qs ++ [y])) ≠ renderC (qs ++ [x]) ∧
    marker (renderC (qs ++ [y])) ≠ marker (renderC (qs ++ [x])) ∧
    marker (renderC (qs ++ [y])) ∉ chain [] (woDir :: qs) := by
  have hnx := noSlash_snoc hqs hx
  have hny := noSlash_snoc hqs hy
  have hhx := snoc_head_ne (x := x) hqne hhead
  have hhy := snoc_head_ne (x := y) hqne hhead
  have h1 : renderC (qs ++ [y]) ≠ renderC (qs ++ [x]) := by
    intro heq
    have := C06.renderC_injective _ _ hny hnx heq
    exact hxy (by simpa using this)
  refine ⟨h1, ?_, ?_, ?_, ?_, marker_child_not_in_chain hqs hy⟩
  · intro heq
    exact hhy (renderC_eq_marker_head _ _ hny heq (C09.renderC_head _ (by simp)))
  · intro hk
    exact hhy (chain_wo_head _ _ hny (good_noSlash hqs) hk)
  · intro heq
    exact hhx (renderC_eq_marker_head _ _ hnx heq.symm (C09.renderC_head _ (by simp)))
  · intro heq
    exact h1 (marker_injective _ _ heq)

theorem pRemoveFileN_child {mu : FMap} {ms : List FMap} (qs : List Str) (x : Str)
    (hqs : ∀ c ∈ qs, GoodComp c) (hx : GoodComp x) (hqne : qs ≠ [])
    (hhead : qs.head? ≠ some woDir) (hsuf : qs.head? ≠ some woSuffix)
    (inv : DirInv mu ms qs) (e : Entry)
    (hv : viewN (mu :: ms) (renderC (qs ++ [x])) = some e) (hfile : e.ftype = .file) :
    ∃ mu1, pRemoveFileN mu ms (qs ++ [x]) = (.ok (), mu1) ∧ DirInv mu1 ms qs ∧
      mu1.contains (marker (renderC (qs ++ [x]))) = true ∧
      mu1.find? (renderC (qs ++ [x])) = none ∧
      (∀ y, '/' ∉ y → y ≠ x →
        mu1.find? (renderC (qs ++ [y])) = mu.find? (renderC (qs ++ [y])) ∧
        mu1.find? (marker (renderC (qs ++ [y]))) = mu.find? (marker (renderC (qs ++ [y])))) ∧
      (∃ e, mu1.find? (woDirOf (renderC qs)) = some e ∧ e.ftype = .dir) := by
  have hhead' := snoc_head_ne (x := x) hqne hhead
  have hcs := good_snoc hqs hx
  obtain ⟨mu1, hpure, hmk, hnone, hframe⟩ :=
    pRemoveFileN_result mu ms qs x hqs hx inv.root inv.woarea hhead' e hv hfile
  obtain ⟨hold, _, hnew, _⟩ := onlyMarkerAdded_removeFile hcs hpure
  have hc1 : ∀ k ∈ chain [] (woDir :: qs), k ≠ renderC (qs ++ [x]) := by
    intro k hk heq; rw [heq] at hk
    exact hhead' (chain_wo_head _ _ (good_noSlash hcs) (good_noSlash hqs) hk)
  have hc2 : ∀ k ∈ chain [] (woDir :: qs), k ≠ marker (renderC (qs ++ [x])) := by
    intro k hk heq; rw [heq] at hk
    exact marker_child_not_in_chain hqs hx.noSlash hk
  -- every directory "/.whiteout/<prefix of qs>" exists afterwards
  have hall : ∀ k ∈ chain [] (woDir :: qs), ∃ e, mu1.find? k = some e ∧ e.ftype = .dir := by
    intro k hk
    by_cases hc : mu.contains k = true
    · obtain ⟨e', he'⟩ := (FMap.contains_iff _ _).1 hc
      exact ⟨e', by rw [hold k (hc1 k hk) (hc2 k hk) hc]; exact he', inv.woarea k hk e' he'⟩
    · exact ⟨dirEntryNow, hnew k (by rw [List.dropLast_concat]; exact hk)
        (hc1 k hk) (hc2 k hk) (find?_none_of_not_contains hc), rfl⟩
  have hchain : ∀ k ∈ chain [] (woDir :: qs), ∀ e, mu1.find? k = some e → e.ftype = .dir := by
    intro k hk e' he'
    obtain ⟨e, he, hd⟩ := hall k hk
    rw [he] at he'; injection he' with he'
    rw [← he']; exact hd
  obtain ⟨em, hem, _⟩ := hmk
  refine ⟨mu1, hpure,
    ⟨rootOk_of_frame hqs hx inv.root hhead' hsuf hframe,
      ancDirsN_of_frame hqs hx inv.anc hhead' hframe, hchain⟩,
    contains_of_find hem, hnone, fun y hy hyx => ?_, hall _ (woDirOf_mem_chain qs)⟩
  obtain ⟨a1, a2, a3, a4, a5, a6⟩ := child_keys_apart hqs hx.noSlash hy hqne hhead hyx
  exact ⟨hframe _ a1 a2 a3, hframe _ a4 a5 a6⟩

def removeFiles (fs : FS) : List Str → M Unit
  | [] => pure ()
  | q :: qs => do fs.removeFile q; removeFiles fs qs

section removeChildren
variable {u idu : Nat} {is ids : List Nat} {ms : List FMap}

theorem removeChildrenN (qs : List Str) (hqs : ∀ c ∈ qs, GoodComp c) (hqne : qs ≠ [])
    (hhead : qs.head? ≠ some woDir) (hsuf : qs.head? ≠ some woSuffix)
    (xs : List Str) (hxs : ∀ x ∈ xs, GoodComp x) (hnd : xs.Nodup)
    {w : World} {mu : FMap} (h : OWN w (u :: is) (idu :: ids) (mu :: ms))
    (inv : DirInv mu ms qs)
    (hfiles : ∀ x ∈ xs, ∃ e, viewN (mu :: ms) (renderC (qs ++ [x])) = some e ∧ e.ftype = .file) :
    ∃ mu', removeFiles (Overlay.fs (layersN (u :: is) (idu :: ids)))
          (xs.map fun x => renderC (qs ++ [x])) w = (.ok (), w.setLeafFiles u mu') ∧
      OWN (w.setLeafFiles u mu') (u :: is) (idu :: ids) (mu' :: ms) ∧ DirInv mu' ms qs ∧
      (∀ x ∈ xs, mu'.contains (marker (renderC (qs ++ [x]))) = true ∧
        mu'.find? (renderC (qs ++ [x])) = none) ∧
      -- the other children of `qs`, and their markers, are as they were
      (∀ y, '/' ∉ y → y ∉ xs →
        mu'.find? (renderC (qs ++ [y])) = mu.find? (renderC (qs ++ [y])) ∧
        mu'.find? (marker (renderC (qs ++ [y]))) = mu.find? (marker (renderC (qs ++ [y])))) ∧
      (ChildrenHaveDir mu (woDirOf (renderC qs)) → ChildrenHaveDir mu' (woDirOf (renderC qs))) := by
  induction xs generalizing w mu with
  | nil =>
    refine ⟨mu, ?_, ?_, inv, by simp, fun _ _ _ => ⟨rfl, rfl⟩, id⟩
    · rw [h.hu.same]; rfl
    · rw [h.hu.same]; exact h
  | cons x xs ih =>
    have hx := hxs x (by simp)
    have hxs' : ∀ y ∈ xs, GoodComp y := fun y hy => hxs y (by simp [hy])
    obtain ⟨hxn, hnd'⟩ := List.nodup_cons.1 hnd
    obtain ⟨e, hv, hfile⟩ := hfiles x (by simp)
    obtain ⟨mu1, hpure, inv1, hm1, hnone1, hsib1, hwd1⟩ :=
      pRemoveFileN_child qs x hqs hx hqne hhead hsuf inv e hv hfile
    have h1 := h.setHead mu1
    have hrun1 : (Overlay.fs (layersN (u :: is) (idu :: ids))).removeFile (renderC (qs ++ [x])) w
        = (.ok (), w.setLeafFiles u mu1) := by
      show Overlay.removeFile _ _ w = _
      rw [run_oremoveFileN h _ (by simp) (good_snoc hqs hx), hpure]
    have hfiles1 : ∀ y ∈ xs, ∃ e, viewN (mu1 :: ms) (renderC (qs ++ [y])) = some e ∧
        e.ftype = .file := by
      intro y hy
      obtain ⟨ey, hvy, hfy⟩ := hfiles y (by simp [hy])
      obtain ⟨s1, s2⟩ := hsib1 y (hxs' y hy).noSlash (fun heq => hxn (heq ▸ hy))
      exact ⟨ey, by rw [viewN_congr_upper s1 s2]; exact hvy, hfy⟩
    obtain ⟨mu', hrun, hown, inv', hmarks, hsib, hwd⟩ := ih hxs' hnd' h1 inv1 hfiles1
    rw [World.setLeafFiles_twice] at hrun hown
    -- "/.whiteout/<qs>" is a directory after the first step
    refine ⟨mu', ?_, hown, inv', ?_, ?_, fun _ => hwd (fun _ _ _ => hwd1)⟩
    · simp only [List.map_cons, removeFiles, bind, M.bind, hrun1, hrun]
    · intro y hy
      rcases List.mem_cons.1 hy with rfl | hy
      · -- the first child: marked by the first step, a sibling of all the others
        obtain ⟨s1, s2⟩ := hsib y hx.noSlash hxn
        exact ⟨by rw [contains_eq_of_find s2]; exact hm1, by rw [s1]; exact hnone1⟩
      · exact hmarks y hy
    · intro y hy hyx
      obtain ⟨hyx1, hyx2⟩ := not_or.1 (fun h0 => hyx (List.mem_cons.2 h0))
      obtain ⟨s1, s2⟩ := hsib y hy hyx2
      obtain ⟨t1, t2⟩ := hsib1 y hy hyx1
      exact ⟨s1.trans t1, s2.trans t2⟩

end removeChildren

theorem chain_wo_sub (ds : List Str) (n : Str) :
    ∀ k ∈ chain [] (woDir :: ds), k ∈ chain [] (woDir :: (ds ++ [n])) := by
  intro k hk
  obtain ⟨j, h1, h2, he⟩ := (mem_chain [] (woDir :: ds) _).1 hk
  refine (mem_chain [] (woDir :: (ds ++ [n])) _).2 ⟨j, h1, by simp at h2 ⊢; omega, ?_⟩
  rw [he]
  congr 2
  rw [← List.cons_append, List.take_append_of_le_length h2]

theorem ancDirsN_prefix {all : List FMap} {ds : List Str} {n : Str}
    (h : AncDirsN all (ds ++ [n])) : AncDirsN all ds := by
  intro j h1 h2
  have := h j h1 (by simp; omega)
  rwa [List.take_append_of_le_length h2] at this

def removeAndRecreateDir (fs : FS) (qs : List Str) (children : List Str) : M (List Str) := do
  removeFiles fs (children.map fun x => renderC (qs ++ [x]))
  fs.removeDir (renderC qs)
  fs.createDir (renderC qs)
  fs.readDir (renderC qs)

section composed
variable {w : World} {u idu : Nat} {mu : FMap} {is ids : List Nat} {ms : List FMap}
  (h : OWN w (u :: is) (idu :: ids) (mu :: ms))
include h

/-- **remove the children, remove the directory, re-create it: empty (n layers, from an arbitrary
state).** `p = ds/n` is a directory of the n-layer view; its children — in the upper layer, in
one lower layer, or in several — are the files `xs` of the view (children that no layer shows
because they are already marked may exist in lower layers as well). `remove_file` on each child,
`remove_dir(p)`, `create_dir(p)` all succeed and change the upper leaf only; afterwards `p` is a
directory of the view again, `read_dir(p) = []`, and every former child is still absent. -/
theorem recreated_dir_empty_composedN (ds : List Str) (n : Str) (hds : ∀ c ∈ ds, GoodComp c)
    (hn : GoodComp n) (hroot : RootOk mu) (hanc : AncDirsN (mu :: ms) (ds ++ [n]))
    (hhead : (ds ++ [n]).head? ≠ some woDir) (hsuf : (ds ++ [n]).head? ≠ some woSuffix)
    (hwoarea : ∀ k ∈ chain [] (woDir :: (ds ++ [n])), ∀ e, mu.find? k = some e → e.ftype = .dir)
    (xs : List Str) (hxs : ∀ x ∈ xs, GoodComp x) (hnd : xs.Nodup)
    (hfiles : ∀ x ∈ xs, ∃ e, viewN (mu :: ms) (renderC ((ds ++ [n]) ++ [x])) = some e ∧
      e.ftype = .file)
    (hupc : ∀ y, '/' ∉ y → mu.contains (renderC ((ds ++ [n]) ++ [y])) = true → y ∈ xs)
    (hlowc : ∀ y, '/' ∉ y → ∀ m ∈ ms, m.contains (renderC ((ds ++ [n]) ++ [y])) = true →
      y ∈ xs ∨ mu.contains (marker (renderC ((ds ++ [n]) ++ [y]))) = true)
    (hwfl : ∀ m ∈ ms, WF m) (hchd : ChildrenHaveDir mu (woDirOf (renderC (ds ++ [n])))) :
    ∃ mu', removeAndRecreateDir (Overlay.fs (layersN (u :: is) (idu :: ids))) (ds ++ [n]) xs w
        = (.ok [], w.setLeafFiles u mu') ∧
      OWN (w.setLeafFiles u mu') (u :: is) (idu :: ids) (mu' :: ms) ∧
      viewN (mu' :: ms) (renderC (ds ++ [n])) = some dirEntryNow ∧
      ∀ x ∈ xs, viewN (mu' :: ms) (renderC ((ds ++ [n]) ++ [x])) = none := by
  have hqs := good_snoc hds hn
  have hqne : ds ++ [n] ≠ [] := by simp
  have hkey : ∀ y : Str, renderC (ds ++ [n]) ++ '/' :: y = renderC ((ds ++ [n]) ++ [y]) := by
    intro y; simp
  obtain ⟨mu1, hrunA, h1, inv1, hmarks, hsibA, hwdA⟩ :=
    removeChildrenN (ds ++ [n]) hqs hqne hhead hsuf xs hxs hnd h ⟨hroot, hanc, hwoarea⟩ hfiles
  have hnoup : ∀ y, '/' ∉ y → mu1.find? (renderC (ds ++ [n]) ++ '/' :: y) = none := by
    intro y hy
    rw [hkey]
    by_cases hyx : y ∈ xs
    · exact (hmarks y hyx).2
    · rw [(hsibA y hy hyx).1]
      exact find?_none_of_not_contains (fun hc => hyx (hupc y hy hc))
  have hlowmark : ∀ y, '/' ∉ y → ∀ m ∈ ms,
      m.contains (renderC (ds ++ [n]) ++ '/' :: y) = true →
      mu1.contains (marker (renderC (ds ++ [n]) ++ '/' :: y)) = true := by
    intro y hy m hm hc
    rw [hkey] at hc ⊢
    by_cases hyx : y ∈ xs
    · exact (hmarks y hyx).1
    · rcases hlowc y hy m hm hc with h' | h'
      · exact absurd h' hyx
      · rw [contains_eq_of_find (hsibA y hy hyx).2]; exact h'
  obtain ⟨e, hv1, hdir⟩ := inv1.anc (ds ++ [n]).length (by simp) (Nat.le_refl _)
  rw [List.take_length] at hv1
  have hwo1 : ∀ e, mu1.find? (woDirOf (renderC (ds ++ [n]))) = some e → e.ftype = .dir :=
    inv1.woarea _ (woDirOf_mem_chain _)
  have hchd1 := hwdA hchd
  have hlist : pListingN (mu1 :: ms) (renderC (ds ++ [n])) = [] :=
    pListingN_empty ⟨hnoup, hlowmark⟩ hwfl hchd1
  obtain ⟨mu2, hpureB, ⟨em, hem, hemf⟩, hnone2, hframeB⟩ :=
    pRemoveDirN_result mu1 ms ds n hds hn inv1.root
      (fun k hk => inv1.woarea k (chain_wo_sub ds n k hk)) hhead e hv1 hdir hlist hnoup
  have holdB := (onlyMarkerAdded_removeDir hqs hpureB).1
  have h2 := h1.setHead mu2
  rw [World.setLeafFiles_twice] at h2
  have hrunB : (Overlay.fs (layersN (u :: is) (idu :: ids))).removeDir (renderC (ds ++ [n]))
      (w.setLeafFiles u mu1) = (.ok (), w.setLeafFiles u mu2) := by
    show Overlay.removeDir _ _ _ = _
    rw [run_oremoveDirN h1 _ hqne hqs hwo1, hpureB, World.setLeafFiles_twice]
  have hkeepB : ∀ k, k ≠ renderC (ds ++ [n]) → k ≠ marker (renderC (ds ++ [n])) →
      mu1.contains k = true → mu2.contains k = true := fun k a1 a2 hc => by
    rw [contains_eq_of_find (holdB k a1 a2 hc)]; exact hc
  have he2 : Emptied mu2 ms (renderC (ds ++ [n])) :=
    Emptied.of_frame hds hn hhead (fun k a1 a2 _ a4 => hframeB k a1 a2 a4) hkeepB
      ⟨hnoup, hlowmark⟩
  obtain ⟨hwo2', hchd2'⟩ := woArea_of_frame (mu := mu1) (mu' := mu2) hds hn
    (fun k a1 a2 _ a4 => hframeB k a1 a2 a4)
  have hwo2 := hwo2' hwo1
  have hchd2 := hchd2' hchd1
  obtain ⟨mu3, hrunC, h3, hview3, hread3, hkeep3⟩ :=
    recreated_dir_emptyN h2 ds n hds hn
      (rootOk_of_frame hds hn inv1.root hhead (head_ne_of_snoc hsuf) hframeB)
      (ancDirsN_of_frame hds hn (ancDirsN_prefix inv1.anc) hhead hframeB)
      hhead em hem hemf hnone2 he2.1 he2.2 hwfl hchd2 hwo2
  rw [World.setLeafFiles_twice] at hrunC h3 hread3
  refine ⟨mu3, ?_, h3, hview3, ?_⟩
  · simp only [removeAndRecreateDir, bind, M.bind, hrunA, hrunB, hrunC, hread3]
  · intro x hx
    have hxs' := (hxs x hx).noSlash
    apply viewN_marked
    rw [← hkey]
    refine child_marker_kept hds hn hhead (fun k _ a2 hc => hkeep3 k a2 hc) hxs'
      (child_marker_kept hds hn hhead hkeepB hxs' ?_)
    rw [hkey]; exact (hmarks x hx).1

end composed

/-- the frame lemma for `append_file(q)`, `q ≠ p`, on two layers; it holds:
`marker_survives_appendFile_holds` -/
def marker_survives_appendFile_stmt : Prop :=
  ∀ (w : World) (u l idu idl : Nat) (mu ml : FMap), OW w u l mu ml →
    ∀ (p : Str), mu.contains (marker p) = true →
    ∀ (cs : List Str), cs ≠ [] → (∀ c ∈ cs, GoodComp c) → renderC cs ≠ p →
      renderC cs ≠ marker p →
      ∃ r w' mu' ml', (Overlay.fs (layers2 u l idu idl)).appendFile (renderC cs) w = (r, w') ∧
        OW w' u l mu' ml' ∧ mu'.contains (marker p) = true

/-- the composition on two layers — remove the only lower-layer child, remove the directory,
create it again: the new directory is empty — with `ds.head? ≠ some woSuffix` as the only
hypothesis on "_wo": false as it stands (`recreated_dir_empty_composed_stmt_false`), true with
`(ds ++ [n]).head? ≠ some woSuffix` (`recreated_dir_empty_composed_ofN`) -/
def recreated_dir_empty_composed_stmt : Prop :=
  ∀ (w : World) (u l idu idl : Nat) (mu ml : FMap), OW w u l mu ml → WF mu → WF ml → RootOk mu →
  ∀ (ds : List Str) (n x : Str), (∀ c ∈ ds, GoodComp c) → GoodComp n → GoodComp x →
    AncDirs mu ml ds → (ds ++ [n]).head? ≠ some woDir → ds.head? ≠ some woSuffix →
    (∀ k, (woDirOf []).isPrefixOf k = true → mu.find? k = none) →
    mu.find? (renderC (ds ++ [n])) = none →
    (∀ y, '/' ∉ y → mu.find? (renderC (ds ++ [n]) ++ '/' :: y) = none) →
    (∃ e, ml.find? (renderC (ds ++ [n])) = some e ∧ e.ftype = .dir) →
    (∀ y, '/' ∉ y → (ml.contains (renderC (ds ++ [n]) ++ '/' :: y) = true ↔ y = x)) →
    (∃ e, ml.find? (renderC (ds ++ [n, x])) = some e ∧ e.ftype = .file) →
    let fs := Overlay.fs (layers2 u l idu idl)
    let w1 := (fs.removeFile (renderC (ds ++ [n, x])) w).2
    let w2 := (fs.removeDir (renderC (ds ++ [n])) w1).2
    let w3 := (fs.createDir (renderC (ds ++ [n])) w2).2
    (fs.removeFile (renderC (ds ++ [n, x])) w).1 = .ok () ∧
    (fs.removeDir (renderC (ds ++ [n])) w1).1 = .ok () ∧
    (fs.createDir (renderC (ds ++ [n])) w2).1 = .ok () ∧
    (fs.readDir (renderC (ds ++ [n])) w3).1 = .ok []

section two
variable {w : World} {u l idu idl : Nat} {mu ml : FMap} (h : OW w u l mu ml)
include h

theorem removed_file_absent_ofN (cs : List Str) (hne : cs ≠ []) (hcs : ∀ c ∈ cs, GoodComp c)
    (hres : ((Overlay.fs (layers2 u l idu idl)).removeFile (renderC cs) w).1 = .ok ()) :
    ∃ mu', (Overlay.fs (layers2 u l idu idl)).removeFile (renderC cs) w
        = (.ok (), w.setLeafFiles u mu') ∧
      OW (w.setLeafFiles u mu') u l mu' ml ∧
      (∃ em, mu'.find? (marker (renderC cs)) = some em ∧ em.ftype = .file ∧ em.content = []) ∧
      view mu' ml (renderC cs) = none ∧
      (Overlay.fs (layers2 u l idu idl)).exists_ (renderC cs) (w.setLeafFiles u mu')
        = (.ok false, w.setLeafFiles u mu') ∧
      (Overlay.fs (layers2 u l idu idl)).metadata (renderC cs) (w.setLeafFiles u mu')
        = (.err .fileNotFound none, w.setLeafFiles u mu') ∧
      (Overlay.fs (layers2 u l idu idl)).openFile (renderC cs) (w.setLeafFiles u mu')
        = (.err .fileNotFound none, w.setLeafFiles u mu') := by
  obtain ⟨mu', h1, h2, h3, h4, h5, h6, h7, _⟩ :=
    removed_file_absentN (h.toN idu idl) cs hne hcs hres
  exact ⟨mu', h1, h2.toOW, h3, by rwa [viewN_two] at h4, h5, h6, h7⟩

theorem removed_dir_absent_ofN (cs : List Str) (hne : cs ≠ []) (hcs : ∀ c ∈ cs, GoodComp c)
    (hwo : ∀ e, mu.find? (woDirOf (renderC cs)) = some e → e.ftype = .dir)
    (hres : ((Overlay.fs (layers2 u l idu idl)).removeDir (renderC cs) w).1 = .ok ()) :
    ∃ mu', (Overlay.fs (layers2 u l idu idl)).removeDir (renderC cs) w
        = (.ok (), w.setLeafFiles u mu') ∧
      OW (w.setLeafFiles u mu') u l mu' ml ∧
      view mu' ml (renderC cs) = none ∧
      (Overlay.fs (layers2 u l idu idl)).exists_ (renderC cs) (w.setLeafFiles u mu')
        = (.ok false, w.setLeafFiles u mu') := by
  obtain ⟨mu', h1, h2, _, h4, h5, _⟩ :=
    removed_dir_absentN (h.toN idu idl) cs hne hcs hwo hres
  exact ⟨mu', h1, h2.toOW, by rwa [viewN_two] at h4, h5⟩

omit h in
theorem removed_stays_absent_frame_ofN (mu' ml' : FMap) (p : Str)
    (hkeep : mu'.contains (marker p) = true) : view mu' ml' p = none := by
  rw [← viewN_two]; exact removed_stays_absent_frameN mu' [ml'] p hkeep

theorem removed_stays_absent_ofN (ps : List Str) (hpne : ps ≠ []) (hps : ∀ c ∈ ps, GoodComp c)
    (hm : mu.contains (marker (renderC ps)) = true)
    (cs : List Str) (hne : cs ≠ []) (hcs : ∀ c ∈ cs, GoodComp c) (hq : renderC cs ≠ renderC ps) :
    ∃ r mu', (Overlay.fs (layers2 u l idu idl)).createDir (renderC cs) w
        = (r, w.setLeafFiles u mu') ∧
      view mu' ml (renderC ps) = none ∧
      (Overlay.fs (layers2 u l idu idl)).exists_ (renderC ps) (w.setLeafFiles u mu')
        = (.ok false, w.setLeafFiles u mu') := by
  obtain ⟨r, mu', hrun, h', hk⟩ :=
    marker_survives_createDirN (h.toN idu idl) _ hm cs hne hcs hq
  obtain ⟨hv, hex, _⟩ := marked_absent_everywhereN h' ps hpne hps hk
  exact ⟨r, mu', hrun, by rwa [viewN_two] at hv, hex⟩

theorem recreated_file_fresh_ofN (ds : List Str) (n : Str) (hds : ∀ c ∈ ds, GoodComp c)
    (hn : GoodComp n) (hroot : RootOk mu) (hanc : AncDirs mu ml ds)
    (em : Entry) (bs : Bytes)
    (hmk : mu.find? (marker (renderC (ds ++ [n]))) = some em) (hmf : em.ftype = .file)
    (hup : mu.find? (renderC (ds ++ [n])) = none) :
    ∃ w' mu' e',
      (do let hd ← (Overlay.fs (layers2 u l idu idl)).createFile (renderC (ds ++ [n]))
          hd.writeAllAndDrop bs : M Unit) w = (.ok (), w') ∧
      OW w' u l mu' ml ∧ mu'.contains (marker (renderC (ds ++ [n]))) = false ∧
      view mu' ml (renderC (ds ++ [n])) = some e' ∧ e'.ftype = .file ∧ e'.content = bs := by
  obtain ⟨w', mu', e', h1, h2, h3, _, h4, h5, h6, _⟩ :=
    recreated_file_freshN (h.toN idu idl) ds n hds hn hroot ((AncDirsN_two mu ml ds).2 hanc)
      em bs hmk hmf hup
  exact ⟨w', mu', e', h1, h2.toOW, h3, by rwa [viewN_two] at h4, h5, h6⟩

theorem remove_then_recreate_fresh_ofN (ds : List Str) (n : Str) (hds : ∀ c ∈ ds, GoodComp c)
    (hn : GoodComp n) (hroot : RootOk mu) (hanc : AncDirs mu ml ds)
    (hhead : (ds ++ [n]).head? ≠ some woDir) (hsuf : ds.head? ≠ some woSuffix)
    (hwoarea : ∀ k ∈ chain [] (woDir :: ds), ∀ e, mu.find? k = some e → e.ftype = .dir)
    (e : Entry) (hv : view mu ml (renderC (ds ++ [n])) = some e) (hfile : e.ftype = .file)
    (bs : Bytes) :
    ∃ w1 w2 mu2 e',
      (Overlay.fs (layers2 u l idu idl)).removeFile (renderC (ds ++ [n])) w = (.ok (), w1) ∧
      (do let hd ← (Overlay.fs (layers2 u l idu idl)).createFile (renderC (ds ++ [n]))
          hd.writeAllAndDrop bs : M Unit) w1 = (.ok (), w2) ∧
      OW w2 u l mu2 ml ∧ mu2.contains (marker (renderC (ds ++ [n]))) = false ∧
      view mu2 ml (renderC (ds ++ [n])) = some e' ∧ e'.ftype = .file ∧ e'.content = bs := by
  obtain ⟨w1, w2, mu2, e', h1, h2, h3, h4, h5, h6, h7, _⟩ :=
    remove_then_recreate_freshN (h.toN idu idl) ds n hds hn hroot ((AncDirsN_two mu ml ds).2 hanc)
      hhead hsuf hwoarea e (by rwa [viewN_two]) hfile bs
  exact ⟨w1, w2, mu2, e', h1, h2, h3.toOW, h4, by rwa [viewN_two] at h5, h6, h7⟩

theorem recreated_dir_empty_ofN (ds : List Str) (n : Str) (hds : ∀ c ∈ ds, GoodComp c)
    (hn : GoodComp n) (hroot : RootOk mu) (hanc : AncDirs mu ml ds)
    (hhead : (ds ++ [n]).head? ≠ some woDir) (em : Entry)
    (hmk : mu.find? (marker (renderC (ds ++ [n]))) = some em) (hmf : em.ftype = .file)
    (hup : mu.find? (renderC (ds ++ [n])) = none)
    (hupc : ∀ x, '/' ∉ x → mu.find? (renderC (ds ++ [n]) ++ '/' :: x) = none)
    (hlowc : ∀ x, '/' ∉ x → ml.contains (renderC (ds ++ [n]) ++ '/' :: x) = true →
      mu.contains (marker (renderC (ds ++ [n]) ++ '/' :: x)) = true)
    (hwfl : WF ml) (hwf : WF mu)
    (hwo : ∀ e, mu.find? (woDirOf (renderC (ds ++ [n]))) = some e → e.ftype = .dir) :
    ∃ mu', (Overlay.fs (layers2 u l idu idl)).createDir (renderC (ds ++ [n])) w
        = (.ok (), w.setLeafFiles u mu') ∧
      OW (w.setLeafFiles u mu') u l mu' ml ∧
      view mu' ml (renderC (ds ++ [n])) = some dirEntryNow ∧
      (Overlay.fs (layers2 u l idu idl)).readDir (renderC (ds ++ [n])) (w.setLeafFiles u mu')
        = (.ok [], w.setLeafFiles u mu') := by
  obtain ⟨mu', h1, h2, h3, h4, _⟩ :=
    recreated_dir_emptyN (h.toN idu idl) ds n hds hn hroot ((AncDirsN_two mu ml ds).2 hanc)
      hhead em hmk hmf hup hupc
      (fun x hx m hm hc => hlowc x hx (by rw [List.mem_singleton.1 hm] at hc; exact hc))
      (fun m hm => by rw [List.mem_singleton.1 hm]; exact hwfl) (hwf.childrenHaveDir _) hwo
  exact ⟨mu', h1, h2.toOW, by rwa [viewN_two] at h3, h4⟩

theorem markers_invisible_ofN (cs : List Str) (hcs : ∀ c ∈ cs, GoodComp c)
    (hwf : WF mu) (hwfl : WF ml)
    (hwo : ∀ e, mu.find? (woDirOf (renderC cs)) = some e → e.ftype = .dir)
    (lst : List Str) (w' : World)
    (hres : (Overlay.fs (layers2 u l idu idl)).readDir (renderC cs) w = (.ok lst, w')) :
    (renderC cs = [] → woDir ∉ lst) ∧
    (∀ x ∈ lst, mu.contains (marker (renderC cs ++ '/' :: x)) = false) := by
  have := markers_invisibleN (h.toN idu idl) cs hcs
    (by intro m hm
        simp only [List.mem_cons, List.not_mem_nil, or_false] at hm
        rcases hm with rfl | rfl
        · exact hwf
        · exact hwfl) hwo lst w' hres
  exact ⟨this.1, this.2.1⟩

end two

/-- **`marker_survives_appendFile_stmt` holds**: it
is the 2-layer instance of `marker_survives_appendFileN` (whose side conditions `q ≠ p`,
`q ≠ marker p` are not even needed) -/
theorem marker_survives_appendFile_holds : marker_survives_appendFile_stmt := by
  intro w u l idu idl mu ml h p hm cs hne hcs _ _
  obtain ⟨r, w', mu', ms', hrun, h', hk, _⟩ :=
    marker_survives_appendFileN (h.toN idu idl) p hm cs hne hcs
  obtain ⟨ml', rfl⟩ := h'.lower_single
  exact ⟨r, w', mu', ml', hrun, h'.toOW, hk⟩

theorem woPrefix_marker (q : Str) : (woDirOf []).isPrefixOf (marker q) = true := by
  rw [List.isPrefixOf_iff_prefix]
  exact ⟨q ++ woSuffix, by simp [woDirOf, marker]⟩

theorem woPrefix_chain (qs : List Str) (k : Str) (hk : k ∈ chain [] (woDir :: qs)) :
    (woDirOf []).isPrefixOf k = true := by
  obtain ⟨j, h1, h2, he⟩ := (mem_chain [] (woDir :: qs) _).1 hk
  obtain ⟨i, rfl⟩ : ∃ i, j = i + 1 := ⟨j - 1, by omega⟩
  rw [List.isPrefixOf_iff_prefix, he]
  exact ⟨renderC (qs.take i), by simp [woDirOf]⟩

/-- a sequence that succeeds: its first step succeeded, and the rest ran from where it ended -/
theorem bind_ok_inv {α β : Type} {m : M α} {f : α → M β} {w w' : World} {b : β}
    (h : (m >>= f) w = (.ok b, w')) : ∃ a, (m w).1 = .ok a ∧ f a (m w).2 = (.ok b, w') := by
  obtain ⟨a, w1, h1, h2⟩ := M.bind_ok_inv h
  exact ⟨a, by rw [h1], by rw [h1]; exact h2⟩

theorem recreated_dir_empty_composed_ofN
    (w : World) (u l idu idl : Nat) (mu ml : FMap) (h : OW w u l mu ml) (hwf : WF mu)
    (hwfl : WF ml) (hroot : RootOk mu)
    (ds : List Str) (n x : Str) (hds : ∀ c ∈ ds, GoodComp c) (hn : GoodComp n) (hx : GoodComp x)
    (hanc : AncDirs mu ml ds) (hhead : (ds ++ [n]).head? ≠ some woDir)
    (hsuf' : (ds ++ [n]).head? ≠ some woSuffix)
    (hnowo : ∀ k, (woDirOf []).isPrefixOf k = true → mu.find? k = none)
    (hup : mu.find? (renderC (ds ++ [n])) = none)
    (hupc : ∀ y, '/' ∉ y → mu.find? (renderC (ds ++ [n]) ++ '/' :: y) = none)
    (hlow : ∃ e, ml.find? (renderC (ds ++ [n])) = some e ∧ e.ftype = .dir)
    (hlowc : ∀ y, '/' ∉ y → (ml.contains (renderC (ds ++ [n]) ++ '/' :: y) = true ↔ y = x))
    (hlowx : ∃ e, ml.find? (renderC (ds ++ [n, x])) = some e ∧ e.ftype = .file) :
    let fs := Overlay.fs (layers2 u l idu idl)
    let w1 := (fs.removeFile (renderC (ds ++ [n, x])) w).2
    let w2 := (fs.removeDir (renderC (ds ++ [n])) w1).2
    let w3 := (fs.createDir (renderC (ds ++ [n])) w2).2
    (fs.removeFile (renderC (ds ++ [n, x])) w).1 = .ok () ∧
    (fs.removeDir (renderC (ds ++ [n])) w1).1 = .ok () ∧
    (fs.createDir (renderC (ds ++ [n])) w2).1 = .ok () ∧
    (fs.readDir (renderC (ds ++ [n])) w3).1 = .ok [] := by
  have e1 : (ds ++ [n]) ++ [x] = ds ++ [n, x] := by simp
  have hkey : ∀ y : Str, renderC ((ds ++ [n]) ++ [y]) = renderC (ds ++ [n]) ++ '/' :: y := by
    intro y; simp
  have hnomark : ∀ q, mu.contains (marker q) = false := fun q =>
    contains_of_none (hnowo _ (woPrefix_marker q))
  obtain ⟨ed, hed, hedd⟩ := hlow
  obtain ⟨ex, hex, hexf⟩ := hlowx
  have hancN : AncDirsN [mu, ml] (ds ++ [n]) := by
    intro j h1 h2
    by_cases hj : j ≤ ds.length
    · rw [List.take_append_of_le_length hj]
      exact (AncDirsN_two mu ml ds).2 hanc j h1 hj
    · have : j = (ds ++ [n]).length := by simp at h2 ⊢; omega
      rw [this, List.take_length]
      refine ⟨ed, ?_, hedd⟩
      rw [viewN_lower (hnomark _) hup, firstN, hed]; rfl
  obtain ⟨mu', hrun, _⟩ := recreated_dir_empty_composedN (h.toN idu idl) ds n hds hn hroot hancN
    hhead hsuf'
    (by intro k hk e he; rw [hnowo k (woPrefix_chain _ k hk)] at he; cases he)
    [x] (by simpa using hx) (by simp)
    (by intro y hy
        rw [List.mem_singleton.1 hy]
        refine ⟨ex, ?_, hexf⟩
        rw [viewN_lower (hnomark _) (by rw [hkey]; exact hupc x hx.noSlash)]
        rw [e1, firstN, hex]; rfl)
    (by intro y hy hc
        rw [hkey, contains_of_none (hupc y hy)] at hc; cases hc)
    (by intro y hy m hm hc
        rw [List.mem_singleton.1 hm, hkey] at hc
        left; simp [(hlowc y hy).1 hc])
    (by intro m hm; rw [List.mem_singleton.1 hm]; exact hwfl)
    (hwf.childrenHaveDir _)
  rw [layersN_two] at hrun
  simp only [removeAndRecreateDir, List.map, removeFiles, e1, M.bind_assoc, M.pure_bind] at hrun
  intro fs w1 w2 w3
  obtain ⟨_, h1, hrun⟩ := bind_ok_inv hrun
  obtain ⟨_, h2, hrun⟩ := bind_ok_inv hrun
  obtain ⟨_, h3, hrun⟩ := bind_ok_inv hrun
  exact ⟨h1, h2, h3, by rw [hrun]⟩

section concreteN
open Vfs.C09

/-! Four layers (`w4`, `ofs4` of Props/C09N.lean): "/s/p" lives in layers 1 AND 3.

Intermediate worlds are written out, and each step of a scenario is evaluated once, as an equation
(`w4r_run`, `w4a_run` …) between the call on one written-out world and its outcome with the next
(Proofs/RunEq.lean); what is said about the step is read off that equation. As in
Props/C09N.lean the evaluations run on twins of the maps whose keys are character lists (`k4u_r`
for `m4u_r` …): the kernel then decodes no string literal of a world. -/

example : w4 = world4 m4u m4a m4b m4c := rfl
example : readAllN ofs4 "/s/p" w4 = .ok [1] := by
  rw [w4_eq]; decide +kernel
example : (m4a.find? "/s/p".toList).map (·.content) = some [1] ∧
    (m4c.find? "/s/p".toList).map (·.content) = some [4] := by decide +kernel

def m4u_r : FMap :=
  [("/.whiteout/s/p_wo".toList, fileEntryNow), ("/.whiteout/s".toList, dirEntryNow)] ++ m4u

def w4r : World := world4 m4u_r m4a m4b m4c

def k4u_r : FMap := [(marker (pS ++ ['/', 'p']), fileEntryNow), (woDirOf pS, dirEntryNow)] ++ k4u
theorem m4u_r_eq : m4u_r = k4u_r := by rw [m4u_r, m4u_eq]; decide +kernel
theorem w4r_eq : w4r = world4 k4u_r k4a k4b k4c := by rw [w4r, m4u_r_eq, m4a_eq, m4b_eq, m4c_eq]

theorem w4r_run : ofs4.removeFile "/s/p".toList w4 = (.ok (), w4r) := by
  rw [w4_eq, w4r_eq]; exact run_eq_of_fields (by decide +kernel)
example : (ofs4.removeFile "/s/p".toList w4).1 = .ok () := by rw [w4r_run]
theorem w4r_is : (ofs4.removeFile "/s/p".toList w4).2.leaves = w4r.leaves := by rw [w4r_run]
theorem w4r_setting : OWN w4r [0, 1, 2, 3] [0, 1, 2, 3] [m4u_r, m4a, m4b, m4c] :=
  .cons rfl (by decide) (.cons rfl (by decide) (.cons rfl (by decide) (.cons rfl (by decide) .nil)))

example : viewN [m4u_r, m4a, m4b, m4c] "/s/p".toList = none := by
  rw [m4a_eq, m4b_eq, m4c_eq, m4u_r_eq]; decide +kernel
example : (ofs4.exists_ "/s/p".toList w4r).1 = .ok false := by
  rw [w4r_eq]; decide +kernel
example : (ofs4.metadata "/s/p".toList w4r).1 = .err .fileNotFound none := by
  rw [w4r_eq]; decide +kernel
example : readAllN ofs4 "/s/p" w4r = .err .fileNotFound none := by
  rw [w4r_eq]; decide +kernel
example : (ofs4.readDir "/s".toList w4r).1 = .ok ["q".toList, "r".toList] := by
  rw [w4r_eq]; decide +kernel
example : m4u_r.contains "/.whiteout".toList = true := by
  rw [m4u_r_eq]; decide +kernel
example : (ofs4.readDir [] w4r).1 = .ok ["s".toList, "f".toList] := by
  rw [w4r_eq]; decide +kernel
example : ∀ p ∈ ["/s/p", "/s/q", "/s/r", "/s", "/f", "/h", "/.whiteout/s/p_wo"],
    agreesAt ofs4 w4r [m4u_r, m4a, m4b, m4c] p = true := by
  rw [w4r_eq, m4a_eq, m4b_eq, m4c_eq, m4u_r_eq]; decide +kernel
example : (ofs4.exists_ "/s/p".toList w4r) = (.ok false, w4r) :=
  (marked_absent_everywhereN w4r_setting ["s".toList, "p".toList] (by simp) (by decide)
    (by decide)).2.1

/-! unrelated operations later: `create_dir("/t")`, a write session on "/s/q" (so far only in
layer 2), `open_file("/f")` (served by layer 2, whose map changes), `remove_file("/s/r")` -/

def m4u_a : FMap := ("/t".toList, dirEntryNow) :: m4u_r
def w4a : World := world4 m4u_a m4a m4b m4c
def k4u_a : FMap := (['/', 't'], dirEntryNow) :: k4u_r
theorem m4u_a_eq : m4u_a = k4u_a := by rw [m4u_a, m4u_r_eq]; decide +kernel
theorem w4a_eq : w4a = world4 k4u_a k4a k4b k4c := by rw [w4a, m4u_a_eq, m4a_eq, m4b_eq, m4c_eq]
theorem w4a_run : ofs4.createDir "/t".toList w4r = (.ok (), w4a) := by
  rw [w4r_eq, w4a_eq]; exact run_eq_of_fields (by decide +kernel)
example : (ofs4.createDir "/t".toList w4r).1 = .ok () := by rw [w4a_run]
theorem w4a_is : (ofs4.createDir "/t".toList w4r).2.leaves = w4a.leaves := by rw [w4a_run]

def m4u_b : FMap := [("/s/q".toList, fileOf [7]), ("/s".toList, dirEntryNow)] ++ m4u_a
def w4b : World := world4 m4u_b m4a m4b m4c
def k4u_b : FMap := [(pS ++ ['/', 'q'], fileOf [7]), (pS, dirEntryNow)] ++ k4u_a
theorem m4u_b_eq : m4u_b = k4u_b := by rw [m4u_b, m4u_a_eq]; decide +kernel
theorem w4b_eq : w4b = world4 k4u_b k4a k4b k4c := by rw [w4b, m4u_b_eq, m4a_eq, m4b_eq, m4c_eq]
theorem w4b_run : (writeSession ofs4 "/s/q" [7]) w4a = (.ok (), w4b) := by
  rw [w4a_eq, w4b_eq]; exact run_eq_of_fields (by decide +kernel)
example : ((writeSession ofs4 "/s/q" [7]) w4a).1 = .ok () := by rw [w4b_run]
theorem w4b_is : ((writeSession ofs4 "/s/q" [7]) w4a).2.leaves = w4b.leaves := by rw [w4b_run]

def m4b_f : FMap := m4b.insert "/f".toList { fileOf [76, 50] with accessed := .now }
def w4f : World := world4 m4u_b m4a m4b_f m4c
def k4b_f : FMap := k4b.insert ['/', 'f'] { fileOf [76, 50] with accessed := .now }
theorem m4b_f_eq : m4b_f = k4b_f := by rw [m4b_f, m4b_eq]; decide +kernel
theorem w4f_eq : w4f = world4 k4u_b k4a k4b_f k4c := by
  rw [w4f, m4u_b_eq, m4a_eq, m4b_f_eq, m4c_eq]
theorem w4f_run : ofs4.openFile "/f".toList w4b = (.ok { content := [76, 50], pos := 0 }, w4f) := by
  rw [w4b_eq, w4f_eq]; exact run_eq_of_fields (by decide +kernel)
example : ((ofs4.openFile "/f".toList w4b).1.map (·.content)) = .ok [76, 50] := by rw [w4f_run]; rfl
theorem w4f_is : (ofs4.openFile "/f".toList w4b).2.leaves = w4f.leaves := by rw [w4f_run]

def m4u_o : FMap := ("/.whiteout/s/r_wo".toList, fileEntryNow) :: m4u_b
def w4o : World := world4 m4u_o m4a m4b_f m4c
def k4u_o : FMap := (marker (pS ++ ['/', 'r']), fileEntryNow) :: k4u_b
theorem m4u_o_eq : m4u_o = k4u_o := by rw [m4u_o, m4u_b_eq]; decide +kernel
theorem w4o_eq : w4o = world4 k4u_o k4a k4b_f k4c := by
  rw [w4o, m4u_o_eq, m4a_eq, m4b_f_eq, m4c_eq]
theorem w4o_run : ofs4.removeFile "/s/r".toList w4f = (.ok (), w4o) := by
  rw [w4f_eq, w4o_eq]; exact run_eq_of_fields (by decide +kernel)
example : (ofs4.removeFile "/s/r".toList w4f).1 = .ok () := by rw [w4o_run]
theorem w4o_is : (ofs4.removeFile "/s/r".toList w4f).2.leaves = w4o.leaves := by rw [w4o_run]

example : m4u_o.contains (marker "/s/p".toList) = true := by
  rw [m4u_o_eq]; decide +kernel
example : (ofs4.exists_ "/s/p".toList w4o).1 = .ok false := by
  rw [w4o_eq]; decide +kernel
example : (ofs4.metadata "/s/p".toList w4o).1 = .err .fileNotFound none := by
  rw [w4o_eq]; decide +kernel
example : readAllN ofs4 "/s/p" w4o = .err .fileNotFound none := by
  rw [w4o_eq]; decide +kernel
example : (ofs4.readDir "/s".toList w4o).1 = .ok ["q".toList] := by
  rw [w4o_eq]; decide +kernel
example : readAllN ofs4 "/s/q" w4o = .ok [7] := by
  rw [w4o_eq]; decide +kernel

/-! the re-creation: one write session with the byte 'U' -/

def m4u_c : FMap :=
  [("/s/p".toList, fileOf [85]), ("/.whiteout/s/r_wo".toList, fileEntryNow),
   ("/s/q".toList, fileOf [7]), ("/s".toList, dirEntryNow), ("/t".toList, dirEntryNow),
   ("/.whiteout/s".toList, dirEntryNow)] ++ m4u
def w4c : World := world4 m4u_c m4a m4b_f m4c
def k4u_c : FMap :=
  [(pS ++ ['/', 'p'], fileOf [85]), (marker (pS ++ ['/', 'r']), fileEntryNow),
   (pS ++ ['/', 'q'], fileOf [7]), (pS, dirEntryNow), (['/', 't'], dirEntryNow),
   (woDirOf pS, dirEntryNow)] ++ k4u
theorem m4u_c_eq : m4u_c = k4u_c := by rw [m4u_c, m4u_eq]; decide +kernel
theorem w4c_eq : w4c = world4 k4u_c k4a k4b_f k4c := by
  rw [w4c, m4u_c_eq, m4a_eq, m4b_f_eq, m4c_eq]
theorem w4c_run : (writeSession ofs4 "/s/p" [85]) w4o = (.ok (), w4c) := by
  rw [w4o_eq, w4c_eq]; exact run_eq_of_fields (by decide +kernel)
example : ((writeSession ofs4 "/s/p" [85]) w4o).1 = .ok () := by rw [w4c_run]
theorem w4c_is : ((writeSession ofs4 "/s/p" [85]) w4o).2.leaves = w4c.leaves := by rw [w4c_run]

example : readAllN ofs4 "/s/p" w4c = .ok [85] := by
  rw [w4c_eq]; decide +kernel
example : viewN [m4u_c, m4a, m4b_f, m4c] "/s/p".toList = some (fileOf [85]) := by
  rw [m4a_eq, m4c_eq, m4b_f_eq, m4u_c_eq]; decide +kernel
example : m4u_c.contains (marker "/s/p".toList) = false := by
  rw [m4u_c_eq]; decide +kernel
example : (ofs4.readDir "/s".toList w4c).1 = .ok ["p".toList, "q".toList] := by
  rw [w4c_eq]; decide +kernel
example : ∀ p ∈ ["/s/p", "/s/q", "/s/r", "/s", "/t", "/f", "/h"],
    agreesAt ofs4 w4c [m4u_c, m4a, m4b_f, m4c] p = true := by
  rw [w4c_eq, m4a_eq, m4c_eq, m4b_f_eq, m4u_c_eq]; decide +kernel

/-! a directory whose three children live in three different lower layers (and "/s/p" in two):
remove the children, remove the directory, create it again — it is empty -/

def m4u_d1 : FMap := ("/.whiteout/s/q_wo".toList, fileEntryNow) :: m4u_r
def m4u_d2 : FMap := ("/.whiteout/s/r_wo".toList, fileEntryNow) :: m4u_d1
def m4u_d3 : FMap := ("/.whiteout/s_wo".toList, fileEntryNow) :: m4u_d2
def m4u_d4 : FMap := ("/s".toList, dirEntryNow) :: m4u_d2
def w4d1 : World := world4 m4u_d1 m4a m4b m4c
def w4d2 : World := world4 m4u_d2 m4a m4b m4c
def w4d3 : World := world4 m4u_d3 m4a m4b m4c
def w4d4 : World := world4 m4u_d4 m4a m4b m4c
def k4u_d1 : FMap := (marker (pS ++ ['/', 'q']), fileEntryNow) :: k4u_r
def k4u_d2 : FMap := (marker (pS ++ ['/', 'r']), fileEntryNow) :: k4u_d1
def k4u_d3 : FMap := (marker pS, fileEntryNow) :: k4u_d2
def k4u_d4 : FMap := (pS, dirEntryNow) :: k4u_d2
theorem m4u_d1_eq : m4u_d1 = k4u_d1 := by rw [m4u_d1, m4u_r_eq]; decide +kernel
theorem m4u_d2_eq : m4u_d2 = k4u_d2 := by rw [m4u_d2, m4u_d1_eq]; decide +kernel
theorem m4u_d3_eq : m4u_d3 = k4u_d3 := by rw [m4u_d3, m4u_d2_eq]; decide +kernel
theorem m4u_d4_eq : m4u_d4 = k4u_d4 := by rw [m4u_d4, m4u_d2_eq]; decide +kernel
theorem w4d1_eq : w4d1 = world4 k4u_d1 k4a k4b k4c := by
  rw [w4d1, m4u_d1_eq, m4a_eq, m4b_eq, m4c_eq]
theorem w4d2_eq : w4d2 = world4 k4u_d2 k4a k4b k4c := by
  rw [w4d2, m4u_d2_eq, m4a_eq, m4b_eq, m4c_eq]
theorem w4d3_eq : w4d3 = world4 k4u_d3 k4a k4b k4c := by
  rw [w4d3, m4u_d3_eq, m4a_eq, m4b_eq, m4c_eq]
theorem w4d4_eq : w4d4 = world4 k4u_d4 k4a k4b k4c := by
  rw [w4d4, m4u_d4_eq, m4a_eq, m4b_eq, m4c_eq]

example : (ofs4.removeDir "/s".toList w4r).1 = .err .other none := by
  rw [w4r_eq]; decide +kernel
theorem w4d1_run : ofs4.removeFile "/s/q".toList w4r = (.ok (), w4d1) := by
  rw [w4r_eq, w4d1_eq]; exact run_eq_of_fields (by decide +kernel)
example : (ofs4.removeFile "/s/q".toList w4r).1 = .ok () := by rw [w4d1_run]
theorem w4d1_is : (ofs4.removeFile "/s/q".toList w4r).2.leaves = w4d1.leaves := by rw [w4d1_run]
example : (ofs4.removeDir "/s".toList w4d1).1 = .err .other none := by
  rw [w4d1_eq]; decide +kernel
theorem w4d2_run : ofs4.removeFile "/s/r".toList w4d1 = (.ok (), w4d2) := by
  rw [w4d1_eq, w4d2_eq]; exact run_eq_of_fields (by decide +kernel)
example : (ofs4.removeFile "/s/r".toList w4d1).1 = .ok () := by rw [w4d2_run]
theorem w4d2_is : (ofs4.removeFile "/s/r".toList w4d1).2.leaves = w4d2.leaves := by rw [w4d2_run]
example : (ofs4.readDir "/s".toList w4d2).1 = .ok [] := by
  rw [w4d2_eq]; decide +kernel
theorem w4d3_run : ofs4.removeDir "/s".toList w4d2 = (.ok (), w4d3) := by
  rw [w4d2_eq, w4d3_eq]; exact run_eq_of_fields (by decide +kernel)
example : (ofs4.removeDir "/s".toList w4d2).1 = .ok () := by rw [w4d3_run]
theorem w4d3_is : (ofs4.removeDir "/s".toList w4d2).2.leaves = w4d3.leaves := by rw [w4d3_run]
example : ∀ p ∈ ["/s", "/s/p", "/s/q", "/s/r"], (ofs4.exists_ p.toList w4d3).1 = .ok false := by
  rw [w4d3_eq]; decide +kernel
example : (ofs4.readDir [] w4d3).1 = .ok ["f".toList] := by
  rw [w4d3_eq]; decide +kernel
theorem w4d4_run : ofs4.createDir "/s".toList w4d3 = (.ok (), w4d4) := by
  rw [w4d3_eq, w4d4_eq]; exact run_eq_of_fields (by decide +kernel)
example : (ofs4.createDir "/s".toList w4d3).1 = .ok () := by rw [w4d4_run]
theorem w4d4_is : (ofs4.createDir "/s".toList w4d3).2.leaves = w4d4.leaves := by rw [w4d4_run]
example : (ofs4.exists_ "/s".toList w4d4).1 = .ok true := by
  rw [w4d4_eq]; decide +kernel
example : (ofs4.readDir "/s".toList w4d4).1 = .ok [] := by
  rw [w4d4_eq]; decide +kernel
example : ∀ p ∈ ["/s/p", "/s/q", "/s/r"], (ofs4.exists_ p.toList w4d4).1 = .ok false := by
  rw [w4d4_eq]; decide +kernel
example : (ofs4.readDir [] w4d4).1 = .ok ["s".toList, "f".toList] := by
  rw [w4d4_eq]; decide +kernel

/-- the composition theorem applies to the 4-layer world: "/s" with the children p (layers 1 and
3), q (layer 2), r (layer 3) -/
theorem w4_composed :
    ∃ mu', removeAndRecreateDir ofs4 ["s".toList] ["p".toList, "q".toList, "r".toList] w4
        = (.ok [], w4.setLeafFiles 0 mu') ∧
      OWN (w4.setLeafFiles 0 mu') [0, 1, 2, 3] [0, 1, 2, 3] [mu', m4a, m4b, m4c] ∧
      viewN [mu', m4a, m4b, m4c] "/s".toList = some dirEntryNow ∧
      ∀ x ∈ ["p".toList, "q".toList, "r".toList],
        viewN [mu', m4a, m4b, m4c] (renderC (["s".toList] ++ [x])) = none := by
  have hwf : ∀ m ∈ [m4u, m4a, m4b, m4c], WF m := by
    rw [m4u_eq, m4a_eq, m4b_eq, m4c_eq]
    intro m hm
    simp only [List.mem_cons, List.not_mem_nil, or_false] at hm
    rcases hm with rfl | rfl | rfl | rfl <;> exact WF.of_check _ (by decide +kernel)
  -- the children of "/s" in the four maps, as a finite fact about their keys
  have hkids : ∀ m ∈ [m4u, m4a, m4b, m4c], ∀ y, '/' ∉ y →
      m.contains (renderC (["s".toList] ++ [y])) = true →
      y ∈ ["p".toList, "q".toList, "r".toList] := by
    have hnames : ∀ m ∈ [m4u, m4a, m4b, m4c], ∀ y ∈ layerNames m "/s".toList,
        y ∈ ["p".toList, "q".toList, "r".toList] := by
      rw [m4u_eq, m4a_eq, m4b_eq, m4c_eq]; decide +kernel
    intro m hm y hy hc
    have hk : renderC (["s".toList] ++ [y]) = "/s".toList ++ '/' :: y := by simp [renderC]
    exact hnames m hm y
      ((mem_layerNames m _ y ((hwf m hm).childrenHaveDir _)).2 ⟨hy, by rw [← hk]; exact hc⟩)
  refine recreated_dir_empty_composedN w4_setting [] "s".toList (by simp) (by decide)
    ⟨⟨_, rfl, rfl⟩, by decide⟩ ?_ (by decide) (by decide) ?_
    ["p".toList, "q".toList, "r".toList] (by decide) (by decide) ?_
    (hkids m4u (by simp))
    (fun y hy m hm hc => Or.inl (hkids m (List.mem_cons_of_mem _ hm) y hy hc))
    (fun m hm => hwf m (List.mem_cons_of_mem _ hm))
    ((hwf m4u (by simp)).childrenHaveDir _)
  · intro j h1 h2
    have : j = 1 := by simp at h2; omega
    subst this
    exact ⟨dirEntryNow, by decide, rfl⟩
  · intro k hk e he
    simp only [chain, List.nil_append, List.mem_cons, List.not_mem_nil, or_false] at hk
    rcases hk with rfl | rfl
    · have : m4u.find? (renderC [woDir]) = some dirEntryNow := by decide +kernel
      rw [this] at he; injection he with he; subst he; rfl
    · have : m4u.find? (renderC ([woDir] ++ ["s".toList])) = none := by decide +kernel
      rw [this] at he; cases he
  · intro x hx
    simp only [List.mem_cons, List.not_mem_nil, or_false] at hx
    rcases hx with rfl | rfl | rfl
    · exact ⟨fileOf [1], by decide +kernel, rfl⟩
    · exact ⟨fileOf [2], by decide +kernel, rfl⟩
    · exact ⟨fileOf [3], by decide +kernel, rfl⟩

/-! Three layers (`w3`, `ofs3`; the upper layer is leaf 2): "/d/x" lives in BOTH lower layers,
with different bytes. -/

def m3u_r : FMap := ("/.whiteout/d/x_wo".toList, fileEntryNow) :: m3u
def w3r : World := world3 m3a m3b m3u_r
def m3u_c : FMap := ("/d/x".toList, fileOf [85]) :: m3u
def w3c : World := world3 m3a m3b m3u_c
def k3u_r : FMap := (marker (pD ++ ['/', 'x']), fileEntryNow) :: k3u
def k3u_c : FMap := (pD ++ ['/', 'x'], fileOf [85]) :: k3u
theorem m3u_r_eq : m3u_r = k3u_r := by rw [m3u_r, m3u_eq]; decide +kernel
theorem m3u_c_eq : m3u_c = k3u_c := by rw [m3u_c, m3u_eq]; decide +kernel
theorem w3r_eq : w3r = world3 k3a k3b k3u_r := by rw [w3r, m3a_eq, m3b_eq, m3u_r_eq]
theorem w3c_eq : w3c = world3 k3a k3b k3u_c := by rw [w3c, m3a_eq, m3b_eq, m3u_c_eq]

example : w3 = world3 m3a m3b m3u := rfl
example : readAllN ofs3 "/d/x" w3 = .ok [49] := by
  rw [w3_eq]; decide +kernel
theorem w3r_run : ofs3.removeFile "/d/x".toList w3 = (.ok (), w3r) := by
  rw [w3_eq, w3r_eq]; exact run_eq_of_fields (by decide +kernel)
example : (ofs3.removeFile "/d/x".toList w3).1 = .ok () := by rw [w3r_run]
theorem w3r_is : (ofs3.removeFile "/d/x".toList w3).2.leaves = w3r.leaves := by rw [w3r_run]
example : viewN [m3u_r, m3a, m3b] "/d/x".toList = none := by
  rw [m3a_eq, m3b_eq, m3u_r_eq]; decide +kernel
example : (ofs3.exists_ "/d/x".toList w3r).1 = .ok false := by
  rw [w3r_eq]; decide +kernel
example : (ofs3.metadata "/d/x".toList w3r).1 = .err .fileNotFound none := by
  rw [w3r_eq]; decide +kernel
example : readAllN ofs3 "/d/x" w3r = .err .fileNotFound none := by
  rw [w3r_eq]; decide +kernel
example : (ofs3.readDir "/d".toList w3r).1 = .ok ["a".toList, "b".toList, "c".toList] := by
  rw [w3r_eq]; decide +kernel
example : (ofs3.readDir [] w3r).1 = .ok ["d".toList] := by
  rw [w3r_eq]; decide +kernel
example : ∀ p ∈ ["/d", "/d/a", "/d/x", "/d/b", "/d/c", "/d/h"],
    agreesAt ofs3 w3r [m3u_r, m3a, m3b] p = true := by
  rw [w3r_eq, m3a_eq, m3b_eq, m3u_r_eq]; decide +kernel
theorem w3c_run : (writeSession ofs3 "/d/x" [85]) w3r = (.ok (), w3c) := by
  rw [w3r_eq, w3c_eq]; exact run_eq_of_fields (by decide +kernel)
example : ((writeSession ofs3 "/d/x" [85]) w3r).1 = .ok () := by rw [w3c_run]
theorem w3c_is : ((writeSession ofs3 "/d/x" [85]) w3r).2.leaves = w3c.leaves := by rw [w3c_run]
example : readAllN ofs3 "/d/x" w3c = .ok [85] := by
  rw [w3c_eq]; decide +kernel
example : viewN [m3u_c, m3a, m3b] "/d/x".toList = some (fileOf [85]) := by
  rw [m3a_eq, m3b_eq, m3u_c_eq]; decide +kernel
example : (ofs3.readDir "/d".toList w3c).1 = .ok ["x".toList, "a".toList, "b".toList, "c".toList] := by
  rw [w3c_eq]; decide +kernel
example : (ofs3.exists_ "/d/h".toList w3c).1 = .ok false := by
  rw [w3c_eq]; decide +kernel

def lowWo : FMap := [("/_wo/x".toList, fileL), ("/_wo".toList, dirEntryNow), ([], dirEntryNow)]
def wWo : World :=
  { leaves := [{ kind := .mem, files := Mem.init }, { kind := .mem, files := lowWo }] }

theorem init_find_nonempty (c : Char) (k : Str) : Mem.init.find? (c :: k) = none := by
  simp [Mem.init, FMap.find?]

/-- **`recreated_dir_empty_composed_stmt` does NOT hold as stated.** With `ds = []`, `n = "_wo"`: `remove_file("/_wo/x")` writes the marker
"/.whiteout/_wo/x_wo", whose parent directory "/.whiteout/_wo" IS the marker of the root; from
then on `exists("")` is false and `create_dir("/_wo")` fails with `Other` — the re-creation is
impossible. The statement needs `(ds ++ [n]).head? ≠ some woSuffix` (not only
`ds.head? ≠ some woSuffix`); with it, it is `recreated_dir_empty_composedN` /
`recreated_dir_empty_composed_ofN`. -/
theorem recreated_dir_empty_composed_stmt_false : ¬ recreated_dir_empty_composed_stmt := by
  intro hstmt
  have := hstmt wWo 0 1 0 1 Mem.init lowWo ⟨rfl, rfl, by decide⟩ WF.init_mem
    (WF.of_check _ (by decide)) ⟨⟨_, rfl, rfl⟩, by decide⟩ [] "_wo".toList "x".toList (by simp)
    (by decide) (by decide) (by intro j h1 h2; simp at h2; omega) (by decide) (by simp)
    (by intro k hk
        cases k with
        | nil => simp [woDirOf, woDir] at hk
        | cons c k => exact init_find_nonempty c k)
    (by decide)
    (by intro y _; exact init_find_nonempty _ _)
    ⟨dirEntryNow, by decide, rfl⟩
    (by intro y _
        simp [lowWo, FMap.contains, FMap.find?, renderC]
        constructor
        · intro h; exact h.symm
        · intro h; exact h.symm)
    ⟨fileL, by decide, rfl⟩
  exact absurd this.2.2.1 (by decide +kernel)

def m4u_orph : FMap := ("/.whiteout/s_wo".toList, fileEntryNow) :: m4u
def w4orph : World := world4 m4u_orph m4a m4b m4c
def k4u_orph : FMap := (marker pS, fileEntryNow) :: k4u
theorem m4u_orph_eq : m4u_orph = k4u_orph := by rw [m4u_orph, m4u_eq]; decide +kernel
theorem w4orph_eq : w4orph = world4 k4u_orph k4a k4b k4c := by
  rw [w4orph, m4u_orph_eq, m4a_eq, m4b_eq, m4c_eq]

/-- `remove_file` applied to a DIRECTORY that lives in lower layers succeeds (the overlay never
checks the type): afterwards the directory is absent but its children — in layers 1, 2 and 3 —
are still visible. Removing a subtree "through the overlay" therefore means removing the
children first (`remove_dir` insists on that, see above); `remove_file` on a directory is the
code's defect, not covered by the theorems (they speak of `remove_file` on FILES of the view:
`removeFile_succeedsN`, `remove_then_recreate_freshN`, or of what any successful removal leaves
behind for the path itself: `removed_file_absentN`). -/
theorem remove_file_on_lower_dir_orphansN :
    (ofs4.removeFile "/s".toList w4).1 = .ok () ∧
    (ofs4.removeFile "/s".toList w4).2.leaves = w4orph.leaves ∧
    (ofs4.exists_ "/s".toList w4orph).1 = .ok false ∧
    (ofs4.exists_ "/s/q".toList w4orph).1 = .ok true ∧
    readAllN ofs4 "/s/p" w4orph = .ok [1] := by
  rw [w4_eq, w4orph_eq]; decide +kernel

end concreteN

end Vfs.C10
