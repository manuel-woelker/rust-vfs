/-
  C11 / C09 / C05 — COMPOSITE path operations through an overlay against the same operation on the
  overlay's REFERENCE TREE (a plain memory leaf holding `C09.refTree`), as a two-world simulation.
  Builds on Proofs/OverlayRefSim.lean (relation `RO`, method-by-method simulation: `ro_exists`,
  `ro_metadata`, `ro_readDir`, `ro_step`, `ro_history`; `RO.exists_ref` is in Props/C11OverlayTreeEx.lean).

  Setting. World `w1`: an overlay over n ≥ 1 in-memory layers (leaves `u :: is`, invariants `OWN`,
  `OInv`, `ViewWF`) and a further memory leaf `s ∉ u :: is` (the SOURCE of a transfer) holding `m`.
  World `w2`: a memory leaf `r ≠ s` holding a reference tree `a` of the overlay's view
  (`C09.Refines`), and the same source leaf `s` holding the same `m`. This is `ROS` (= `RO` + the
  shared source leaf). `OutSame r1 r2`: both Ok with EQUAL values, or both errors (kinds and paths
  not compared: the overlay answers `Other` where a leaf may answer something else), or both the
  out-of-fuel / panic sentinel.

  `copyDir_into_overlay_sim` — destination side, ANY depth, ANY outcome:
  `copy_dir(src on leaf s, dst in the overlay)` in `w1` and `copy_dir(src on leaf s, dst on the
  reference leaf)` in `w2` return `OutSame` outcomes (on success the same COUNT) and end in
  `ROS`-related worlds (`ROS.view_eq`). Hypotheses: `ROS`; the destination `renderC cs` is a
  disciplined path (`OpPath cs`); `SrcNames m` (decidable on the keys: `srcNames_of_keys`,
  Props/C11OverlayTreeEx.lean); the source's `Arc` identity differs from both destinations'
  (`sid ≠ id`, `sid ≠ id'`: the generic route of `copy_file`). NOTHING is assumed about the source path `S` (missing, a file, any
  string), the destination's state (occupied, parent missing, parent a file), the depth, the
  storage order or the fuel: refusals, failures half-way and running out of fuel happen alike on
  both sides. The reference-side run is a plain cross-leaf memory `copy_dir`, i.e. exactly the
  call `C11.copyDir_exact` (Props/C11Nested.lean) describes.
  `moveDir_into_overlay_sim` — the same for `move_dir` (generic route; copy phase, then
  `remove_dir_all` of the source leaf, which is a function of that leaf's map alone: `rda_leaf`,
  hence the same in both worlds: `rda_two`). `copyFile_into_overlay_sim`, `copyItems_sim` (the
  loop, lock-step, any iterator state). Used from below: `overlay_pres_leaf` (the overlay never
  touches a leaf that is not one of its layers, Proofs/OverlayCompositeLemmas.lean).
  Why lock-step works here: the LISTINGS that drive the loop come from the source leaf, which is
  the same on both sides, so both runs visit the items in the same order; the destination is
  only written to, through `create_dir` and closed write sessions, which `ro_step` relates.
  The statements are `GSim` statements (Proofs/Rel.lean) over the world relation `RS` (= `ROS` for
  some maps) with every two failures related (`anyE`; `OutSame` is `ORel anyE (· = ·)`); the walk
  and the loop are the rule of Proofs/RelLoop.lean with the items related by `SameItem` (the same
  item of the source, `src_walkRel`) and the destinations by `DstPair` (the same disciplined path
  in the overlay and on the reference leaf: `exists_two`, `vstep_two`, `item_copy`).

  STATED, NOT PROVED (`…_stmt`, at the end): the overlay as SOURCE against the reference leaf.
  With the overlay as source the two sides list directories in DIFFERENT orders (`ro_readDir`
  gives equal member sets only), so lock-step fails at the first listing. The view-level exact
  theorems for that case are in Props/C11OverlaySource.lean and Props/C11OverlayWithin.lean.
-/
import VfsModel.Proofs.OverlayRefSim
import VfsModel.Proofs.RelLoop
import VfsModel.Proofs.Sim
import VfsModel.Props.C08
namespace Vfs.C11
open Vfs Vfs.Overlay Vfs.C02 Vfs.C01 Vfs.C09 Vfs.C05

/-- two outcomes of the same class: equal values, or two errors (kinds and paths are NOT
compared), or two panics -/
def OutSame {α : Type} : Res α → Res α → Prop
  | .ok a, .ok b => a = b
  | .err _ _, .err _ _ => True
  | .panic, .panic => True
  | _, _ => False

theorem OutSame.refl {α} (r : Res α) : OutSame r r := by cases r <;> simp [OutSame]

theorem OutSame.withPath {α} {r1 r2 : Res α} (p : Str) (h : OutSame r1 r2) :
    OutSame (r1.withPath p) (r2.withPath p) := by
  cases r1 <;> cases r2 <;> simp_all [OutSame, Res.withPath]

theorem OutSame.of_sameOutcome {r1 r2 : Res Unit} (h : SameOutcome r1 r2) : OutSame r1 r2 := by
  obtain ⟨h1, h2, h3⟩ := h
  cases r1 <;> cases r2 <;> simp_all [OutSame, Res.isOk]

theorem OutSame.isOk_eq {α} {r1 r2 : Res α} (h : OutSame r1 r2) : r1.isOk = r2.isOk := by
  cases r1 <;> cases r2 <;> simp_all [OutSame, Res.isOk]

/-- `RO` plus a third memory leaf `s` (the SOURCE of a transfer) that holds the same map `m` in
both worlds -/
structure ROS (u idu : Nat) (is ids : List Nat) (r s : Nat) (m mu : FMap) (ms : List FMap)
    (a : FMap) (w1 w2 : World) : Prop where
  ro : RO u idu is ids r mu ms a w1 w2
  src1 : MemLeafAt w1 s m
  src2 : MemLeafAt w2 s m

/-- failures are of one class whatever their kinds and labels -/
abbrev anyE : ERel := fun _ _ _ _ => True

theorem OutSame.oRel {α} : ∀ {r1 r2 : Res α}, OutSame r1 r2 → ORel anyE (· = ·) r1 r2
  | .ok _, .ok _, h => .ok h
  | .err _ _, .err _ _, _ => .err trivial
  | .panic, .panic, _ => .panic
  | .ok _, .err _ _, h => h.elim
  | .ok _, .panic, h => h.elim
  | .err _ _, .ok _, h => h.elim
  | .err _ _, .panic, h => h.elim
  | .panic, .ok _, h => h.elim
  | .panic, .err _ _, h => h.elim

theorem OutSame.of_oRel {α} {r1 r2 : Res α} (h : ORel anyE (· = ·) r1 r2) : OutSame r1 r2 := by
  cases h with
  | ok h => exact h
  | err _ => trivial
  | panic => trivial

/-- the relation of the simulation statements below (`GSim`, Proofs/Rel.lean): the two worlds are
`ROS`-related for some maps, the source leaf holding one with `P` -/
def RS (u idu : Nat) (is ids : List Nat) (r s : Nat) (P : FMap → Prop) (w1 w2 : World) : Prop :=
  ∃ m mu ms a, ROS u idu is ids r s m mu ms a w1 w2 ∧ P m

theorem vstep_pres {I : World → Prop} {fs : FS} (h : fs.AllPreserve I) (id : Nat) (op : Mut) :
    Preserves I (vstep fs id op) := by
  cases op with
  | createDir p => exact VPath.pres_createDir ⟨fs, id, p⟩ h
  | write p bs =>
    exact Preserves.bindQ (HandleOK I) (VPath.pres_createFile ⟨fs, id, p⟩ h)
      (VPath.createFile_handle ⟨fs, id, p⟩ h) (fun hd hk => hk.writeAllAndDrop bs)
  | append p bs =>
    exact Preserves.bindQ (HandleOK I) (VPath.pres_appendFile ⟨fs, id, p⟩ h)
      (VPath.appendFile_handle ⟨fs, id, p⟩ h) (fun hd hk => hk.writeAllAndDrop bs)
  | removeFile p => exact VPath.pres_removeFile ⟨fs, id, p⟩ h
  | removeDir p => exact VPath.pres_removeDir ⟨fs, id, p⟩ h

section ros
variable {u idu : Nat} {is ids : List Nat} {r s : Nat} (hs : s ∉ u :: is) (hrs : r ≠ s)
include hs hrs

theorem ros_step {m mu : FMap} {ms : List FMap} {a : FMap} {w1 w2 : World}
    (h : ROS u idu is ids r s m mu ms a w1 w2) (id id' : Nat) (op : Mut) (hop : OpOK op)
    (hd3 : O3Free (oview (mu :: ms)) op) :
    ∃ mu' ms' a',
      ROS u idu is ids r s m mu' ms' a'
        (vstep (Overlay.fs (layersN (u :: is) (idu :: ids))) id op w1).2
        (vstep (leafFS r) id' op w2).2 ∧
      OutSame (vstep (Overlay.fs (layersN (u :: is) (idu :: ids))) id op w1).1
        (vstep (leafFS r) id' op w2).1 := by
  obtain ⟨mu', ms', ro', _, hso, _, hleaf⟩ := ro_step h.ro id id' op hop hd3
  refine ⟨mu', ms', _, ⟨ro', ?_, ?_⟩, OutSame.of_sameOutcome hso⟩
  · exact (vstep_pres (overlay_pres_leaf hs _) id op).pres w1 h.src1
  · rw [hleaf]
    exact h.src2.set_ne hrs _

theorem ROS.setSrc {m mu : FMap} {ms : List FMap} {a : FMap} {w1 w2 : World}
    (h : ROS u idu is ids r s m mu ms a w1 w2) (m' : FMap) :
    ROS u idu is ids r s m' mu ms a (w1.setLeafFiles s m') (w2.setLeafFiles s m') := by
  refine ⟨⟨⟨h.ro.st.own.frame s hs m', h.ro.st.inv, h.ro.st.vwf⟩, ?_, h.ro.ref⟩, h.src1.set m',
    h.src2.set m'⟩
  exact h.ro.leaf.set_ne (fun e => hrs e.symm) _

end ros

/-- every child name that occurs in the source map is a canonical component that does not end in
"_wo" (what `VfsPath::join` can produce and the overlay accepts) -/
def SrcNames (m : FMap) : Prop :=
  ∀ k e, m.find? k = some e → '/' ∈ k → GoodComp (afterLast '/' k) ∧ NoWo (afterLast '/' k)

theorem names_of_readDir {m : FMap} (hN : SrcNames m) {p : Str} {names : List Str}
    (h : Mem.readDir m p = .ok names) : ∀ n ∈ names, GoodComp n ∧ NoWo n := by
  rw [Mem.readDir_ok h]
  intro n hn
  obtain ⟨k, e, hk, hsl, _, ha⟩ := (mem_filterMap_childName m p n).1 hn
  exact ha ▸ hN k e hk hsl

/-- a walked item: a path on the source leaf `s` (identity `sid`) strictly below `S`, whose
relative components, appended to the destination `cs`, form a disciplined path -/
def SrcItem (s sid : Nat) (S : Str) (cs : List Str) (x : VPath) : Prop :=
  x.fs = leafFS s ∧ x.fsId = sid ∧ ∃ ts, ts ≠ [] ∧ x.path = S ++ renderC ts ∧ OpPath (cs ++ ts)

def Items (s sid : Nat) (S : Str) (cs : List Str) (l : List VPath) : Prop :=
  ∀ x ∈ l, SrcItem s sid S cs x

theorem SrcItem.child {s sid : Nat} {S : Str} {cs : List Str} {x : VPath} {n : Str}
    (hx : SrcItem s sid S cs x) (hn : GoodComp n ∧ NoWo n) :
    SrcItem s sid S cs (x.withStr (x.path ++ '/' :: n)) := by
  obtain ⟨hf, hi, ts, _, hp, hop⟩ := hx
  refine ⟨hf, hi, ts ++ [n], by simp, ?_, ?_⟩
  · show x.path ++ '/' :: n = S ++ renderC (ts ++ [n])
    rw [hp, renderC_snoc, List.append_assoc]
  · rw [← List.append_assoc]; exact hop.child hn.1 hn.2

/-- the same item of the source on both sides -/
def SameItem (s sid : Nat) (S : Str) (cs : List Str) (x1 x2 : VPath) : Prop :=
  x1 = x2 ∧ SrcItem s sid S cs x1

/-- the same disciplined path in the overlay `L` and on the reference leaf -/
def DstPair (L : FS) (id r id' : Nat) (d1 d2 : VPath) : Prop :=
  ∃ cs', OpPath cs' ∧ d1 = ⟨L, id, renderC cs'⟩ ∧ d2 = ⟨leafFS r, id', renderC cs'⟩

section source
variable {u idu : Nat} {is ids : List Nat} {r s sid : Nat} {S : Str} {cs : List Str}

/-- a listing of the source leaf is the same on both sides -/
theorem src_readDir (x : VPath) (hx : x.fs = leafFS s)
    (hch : ∀ n, GoodComp n ∧ NoWo n → SrcItem s sid S cs (x.withStr (x.path ++ '/' :: n))) :
    GSim (RS u idu is ids r s SrcNames) anyE (ListRel (SameItem s sid S cs)) x.readDir x.readDir := by
  rintro w1 w2 ⟨m, mu, ms, a, h, hN⟩
  rw [run_vreadDir h.src1 x hx, run_vreadDir h.src2 x hx]
  refine ⟨?_, m, mu, ms, a, h, hN⟩
  cases hr : Mem.readDir m x.path with
  | panic => exact .panic
  | err k p => exact .err trivial
  | ok names =>
    refine .ok (ListRel.diag _ fun y hy => ?_)
    obtain ⟨n, hn, rfl⟩ := List.mem_map.1 hy
    exact ⟨rfl, hch n (names_of_readDir hN hr n hn)⟩

/-- the walk of the source leaf runs alike on both sides (Proofs/RelLoop.lean) -/
theorem src_walkRel :
    RelLoop.WalkRel (RS u idu is ids r s SrcNames) anyE (SameItem s sid S cs) where
  readDir := by
    rintro x _ ⟨rfl, hx⟩
    exact src_readDir x hx.1 fun n hn => hx.child hn
  metadata := by
    rintro x _ ⟨rfl, hx⟩ w1 w2 ⟨m, mu, ms, a, h, hN⟩
    rw [run_vmetadata h.src1 x hx.1, run_vmetadata h.src2 x hx.1]
    refine ⟨?_, m, mu, ms, a, h, hN⟩
    cases Mem.metadata m x.path with
    | panic => exact .panic
    | err k p => exact .err trivial
    | ok md => exact .ok rfl

theorem src_root (hcs : OpPath cs) :
    GSim (RS u idu is ids r s SrcNames) anyE (ListRel (SameItem s sid S cs))
      (VPath.readDir ⟨leafFS s, sid, S⟩) (VPath.readDir ⟨leafFS s, sid, S⟩) :=
  src_readDir _ rfl fun n hn =>
    ⟨rfl, rfl, [n], by simp, by show S ++ '/' :: n = S ++ renderC [n]; simp, hcs.child hn.1 hn.2⟩

end source

theorem relJoin_item (fs : FS) (id : Nat) {S : Str} {cs ts : List Str} {x : VPath}
    (hx : x.path = S ++ renderC ts) (hne : ts ≠ []) (hop : OpPath (cs ++ ts)) :
    VPath.relJoin ⟨fs, id, renderC cs⟩ S.length x = .ok ⟨fs, id, renderC (cs ++ ts)⟩ := by
  have hgc : ∀ c ∈ cs, GoodComp c := fun c hc => hop.good c (by simp [hc])
  have hgt : ∀ c ∈ ts, GoodComp c := fun c hc => hop.good c (by simp [hc])
  cases ts with
  | nil => exact absurd rfl hne
  | cons c ts' =>
    rw [renderC_append]
    exact VPath.relJoin_below ⟨fs, id, renderC cs⟩ S (c ++ renderC ts') x hx
      (joinInternal_tail cs (c :: ts') (good_noSlash hgc) hgt (by simp))

theorem openFile_handle_ok {m : FMap} {k : Str} {rh : RHandle} {m' : FMap}
    (h : Mem.openFile m k = (.ok rh, m')) : rh.readToEnd.1 = .ok rh.content := by
  cases hf : m.find? k with
  | none => rw [Mem.openFile_none m k hf] at h; simp [fail] at h
  | some e =>
    -- the handle `open_file` returns on a file stands at position 0
    rw [Mem.openFile_some m k e hf] at h
    split at h
    · simp [fail] at h
    · simp only [Prod.mk.injEq, Res.ok.injEq] at h
      rw [← h.1]
      simp [RHandle.readToEnd]

theorem openFile_names {m : FMap} (hN : SrcNames m) (k : Str) : SrcNames (Mem.openFile m k).2 := by
  intro q e hq hsl
  have h := Mem.openFile_same m k q
  rw [hq] at h
  cases hm : m.find? q with
  | none => rw [hm] at h; cases h
  | some e0 => exact hN q e0 hm hsl

theorem src_join {s sid : Nat} {S : Str} {cs : List Str} (L : FS) (id r id' : Nat) {x1 x2 : VPath}
    (h : SameItem s sid S cs x1 x2) :
    ORel anyE (DstPair L id r id') (VPath.relJoin ⟨L, id, renderC cs⟩ S.length x1)
      (VPath.relJoin ⟨leafFS r, id', renderC cs⟩ S.length x2) := by
  obtain ⟨rfl, _, _, ts, hne, hp, hop⟩ := h
  rw [relJoin_item L id hp hne hop, relJoin_item (leafFS r) id' hp hne hop]
  exact .ok ⟨cs ++ ts, hop, rfl, rfl⟩


theorem exists_two {u idu : Nat} {is ids : List Nat} {r s : Nat} {P : FMap → Prop} (id id' : Nat)
    {cs' : List Str} (hop : OpPath cs') :
    GSim (RS u idu is ids r s P) anyE (· = ·)
      (VPath.exists_ ⟨Overlay.fs (layersN (u :: is) (idu :: ids)), id, renderC cs'⟩)
      (VPath.exists_ ⟨leafFS r, id', renderC cs'⟩) := by
  rintro w1 w2 ⟨m, mu, ms, a, h, hP⟩
  obtain ⟨b, e1, e2⟩ := ro_exists h.ro id id' hop
  rw [e1, e2]
  exact ⟨.ok rfl, m, mu, ms, a, h, hP⟩

theorem bind_ret_ok_run {α β} (a : α) (f : α → M β) (w : World) :
    (M.ret (.ok a)).bind f w = f a w := rfl

theorem bind_pure_run {α β} (a : α) (f : α → M β) (w : World) : (M.pure a).bind f w = f a w := rfl

section item
variable {u idu : Nat} {is ids : List Nat} {r s : Nat} (hs : s ∉ u :: is) (hrs : r ≠ s)
include hs hrs

/-- one mutation other than `remove_file` at the same disciplined path on both sides (`ros_step`) -/
theorem vstep_two {P : FMap → Prop} (id id' : Nat) {cs' : List Str} (hop : OpPath cs') (op : Mut)
    (hp : op.path = renderC cs') (hnr : ∀ q, op ≠ .removeFile q) :
    GSim (RS u idu is ids r s P) anyE (· = ·)
      (vstep (Overlay.fs (layersN (u :: is) (idu :: ids))) id op) (vstep (leafFS r) id' op) := by
  rintro w1 w2 ⟨m, mu, ms, a, h, hP⟩
  obtain ⟨ds, n, e⟩ := hop.snoc_cases
  obtain ⟨mu', ms', a', hros, hout⟩ := ros_step hs hrs h id id' op ⟨ds, n, e ▸ hop, by rw [hp, e]⟩
    (fun q hq => absurd hq (hnr q))
  exact ⟨hout.oRel, m, mu', ms', a', hros, hP⟩

theorem createDir_two {P : FMap → Prop} (id id' : Nat) {d1 d2 : VPath}
    (hd : DstPair (Overlay.fs (layersN (u :: is) (idu :: ids))) id r id' d1 d2) :
    GSim (RS u idu is ids r s P) anyE (· = ·) d1.createDir d2.createDir := by
  obtain ⟨cs', hop, rfl, rfl⟩ := hd
  exact vstep_two hs hrs id id' hop (.createDir (renderC cs')) rfl fun _ h => by cases h

/-- opening a file of the source leaf: the same handle on both sides, and it reads what it holds -/
theorem src_open {P : FMap → Prop} (hP : ∀ m k, P m → P (Mem.openFile m k).2) (sid : Nat) (k : Str) :
    GSim (RS u idu is ids r s P) anyE (fun a b => a = b ∧ a.readToEnd.1 = .ok a.content)
      (VPath.openFile ⟨leafFS s, sid, k⟩) (VPath.openFile ⟨leafFS s, sid, k⟩) := by
  rintro w1 w2 ⟨m, mu, ms, a, h, hm⟩
  have hO : ∀ w, MemLeafAt w s m → VPath.openFile ⟨leafFS s, sid, k⟩ w
      = ((Mem.openFile m k).1.withPath k, w.setLeafFiles s (Mem.openFile m k).2) :=
    fun w hw => run_vopenFile hw sid k
  rw [hO w1 h.src1, hO w2 h.src2]
  refine ⟨?_, _, mu, ms, a, h.setSrc hs hrs _, hP m k hm⟩
  rcases hO' : Mem.openFile m k with ⟨ro, m'⟩
  cases ro with
  | ok rh => exact .ok ⟨rfl, openFile_handle_ok hO'⟩
  | err _ _ => exact .err trivial
  | panic => exact .panic

/-- `copy_file` from the source leaf to the same disciplined path on both sides: refused alike;
else the read/write route (different `Arc` identities), one write session of the bytes read -/
theorem item_copy {P : FMap → Prop} (hP : ∀ m k, P m → P (Mem.openFile m k).2) (id id' sid : Nat)
    (hid : sid ≠ id) (hid' : sid ≠ id') (k : Str) {cs' : List Str} (hop : OpPath cs') :
    GSim (RS u idu is ids r s P) anyE (· = ·)
      (VPath.copyFile ⟨leafFS s, sid, k⟩
        ⟨Overlay.fs (layersN (u :: is) (idu :: ids)), id, renderC cs'⟩)
      (VPath.copyFile ⟨leafFS s, sid, k⟩ ⟨leafFS r, id', renderC cs'⟩) := by
  rw [VPath.copyFile_eq, VPath.copyFile_eq, VPath.fastOr_neg hid, VPath.fastOr_neg hid']
  refine RelLoop.gsim_guarded (exists_two id id' hop) trivial ?_ fun _ => trivial
  unfold VPath.copyGeneric
  refine GSim.bind (src_open hs hrs hP sid k) fun rh _ hrh => ?_
  obtain ⟨rfl, hrt⟩ := hrh
  rw [funext fun hd => VPath.ioCopyAndDrop_eq rh hd k rh.content hrt]
  exact vstep_two hs hrs id id' hop (.write (renderC cs') rh.content) rfl fun _ h => by cases h

theorem copyFile_two (id id' sid : Nat) (hid : sid ≠ id) (hid' : sid ≠ id') {S : Str}
    {cs : List Str} {x1 x2 d1 d2 : VPath} (hx : SameItem s sid S cs x1 x2)
    (hd : DstPair (Overlay.fs (layersN (u :: is) (idu :: ids))) id r id' d1 d2) :
    GSim (RS u idu is ids r s SrcNames) anyE (· = ·) (x1.copyFile d1) (x2.copyFile d2) := by
  obtain ⟨rfl, hf, hi, _⟩ := hx
  obtain ⟨cs', hop, rfl, rfl⟩ := hd
  obtain ⟨xfs, xid, xp⟩ := x1
  simp only at hf hi
  subst hf hi
  exact item_copy hs hrs (fun _ k hN => openFile_names hN k) id id' _ hid hid' xp hop

end item

/-- **copy_file from a memory leaf into the overlay = copy_file into the reference tree**, any
outcome (`item_copy` under its user-facing name): destination a disciplined path, source ANY path
string of the source leaf (missing, a directory, …), different `Arc` identities -/
theorem copyFile_into_overlay_sim {u idu : Nat} {is ids : List Nat} {r s : Nat} (hs : s ∉ u :: is)
    (hrs : r ≠ s) (id id' sid : Nat) (hid : sid ≠ id) (hid' : sid ≠ id') (k : Str) {cs : List Str}
    (hcs : OpPath cs) {m mu : FMap} {ms : List FMap} {a : FMap} {w1 w2 : World}
    (h : ROS u idu is ids r s m mu ms a w1 w2) :
    ∃ m' mu' ms' a',
      ROS u idu is ids r s m' mu' ms' a'
        (VPath.copyFile ⟨leafFS s, sid, k⟩
          ⟨Overlay.fs (layersN (u :: is) (idu :: ids)), id, renderC cs⟩ w1).2
        (VPath.copyFile ⟨leafFS s, sid, k⟩ ⟨leafFS r, id', renderC cs⟩ w2).2 ∧
      OutSame (VPath.copyFile ⟨leafFS s, sid, k⟩
          ⟨Overlay.fs (layersN (u :: is) (idu :: ids)), id, renderC cs⟩ w1).1
        (VPath.copyFile ⟨leafFS s, sid, k⟩ ⟨leafFS r, id', renderC cs⟩ w2).1 := by
  obtain ⟨ho, m', mu', ms', a', h1, _⟩ :=
    item_copy hs hrs (P := fun _ => True) (fun _ _ _ => trivial) id id' sid hid hid' k hcs w1 w2
      ⟨m, mu, ms, a, h, trivial⟩
  exact ⟨m', mu', ms', a', h1, .of_oRel ho⟩

section loop
variable {u idu : Nat} {is ids : List Nat} {r s : Nat} (hs : s ∉ u :: is) (hrs : r ≠ s)
  (id id' sid : Nat) (hid : sid ≠ id) (hid' : sid ≠ id') {S : Str} {cs : List Str}
  (srcp : VPath) (hsrc : srcp.path = S)
include hs hrs hid hid' hsrc

theorem copyItems_sim : ∀ (fuel : Nat) (st : VPath.Walk) (count : Nat) (m mu : FMap) (ms : List FMap)
    (a : FMap) (w1 w2 : World), ROS u idu is ids r s m mu ms a w1 w2 → SrcNames m →
    Items s sid S cs st.inner → Items s sid S cs st.todo →
    ∃ m' mu' ms' a',
      ROS u idu is ids r s m' mu' ms' a'
        (VPath.copyItems fuel srcp ⟨Overlay.fs (layersN (u :: is) (idu :: ids)), id, renderC cs⟩
          st count w1).2
        (VPath.copyItems fuel srcp ⟨leafFS r, id', renderC cs⟩ st count w2).2 ∧
      SrcNames m' ∧
      OutSame
        (VPath.copyItems fuel srcp ⟨Overlay.fs (layersN (u :: is) (idu :: ids)), id, renderC cs⟩
          st count w1).1
        (VPath.copyItems fuel srcp ⟨leafFS r, id', renderC cs⟩ st count w2).1 := by
  intro fuel st count m mu ms a w1 w2 h hN hi ht
  subst hsrc
  have key : GSim (RS u idu is ids r s SrcNames) anyE (· = ·)
      (VPath.copyItems fuel srcp ⟨Overlay.fs (layersN (u :: is) (idu :: ids)), id, renderC cs⟩
        st count)
      (VPath.copyItems fuel srcp ⟨leafFS r, id', renderC cs⟩ st count) :=
    RelLoop.gsim_copyItems src_walkRel (fun hx => src_join _ id r id' hx)
      (fun hx hd => copyFile_two hs hrs id id' sid hid hid' hx hd)
      (fun hd => createDir_two hs hrs id id' hd) fuel
      (RelLoop.WalkB.diag (fun x hx => ⟨rfl, hx⟩) st hi ht) count
  obtain ⟨ho, m', mu', ms', a', hros, hN'⟩ := key w1 w2 ⟨m, mu, ms, a, h, hN⟩
  exact ⟨m', mu', ms', a', hros, hN', .of_oRel ho⟩

end loop

section copyDir
variable {u idu : Nat} {is ids : List Nat} {r s : Nat} (hs : s ∉ u :: is) (hrs : r ≠ s)
  (id id' sid : Nat) (hid : sid ≠ id) (hid' : sid ≠ id')
include hs hrs hid hid'

/-- the bodies of the two `copy_dir` calls: the rule of Proofs/RelLoop.lean, the source leaf being
the same on both sides and the destinations related call by call -/
theorem copyBody_two (fuel : Nat) (S : Str) {cs : List Str} (hcs : OpPath cs) :
    GSim (RS u idu is ids r s SrcNames) anyE (· = ·)
      (VPath.copyDirBody fuel ⟨leafFS s, sid, S⟩
        ⟨Overlay.fs (layersN (u :: is) (idu :: ids)), id, renderC cs⟩)
      (VPath.copyDirBody fuel ⟨leafFS s, sid, S⟩ ⟨leafFS r, id', renderC cs⟩) :=
  RelLoop.gsim_copyDirBody src_walkRel (createDir_two hs hrs id id' ⟨cs, hcs, rfl, rfl⟩)
    (src_root hcs) (fun hx => src_join _ id r id' hx)
    (fun hx hd => copyFile_two hs hrs id id' sid hid hid' hx hd)
    (fun hd => createDir_two hs hrs id id' hd) fuel

/-- **copy_dir from a memory leaf into the overlay = copy_dir from that leaf into the reference
tree, for source trees of ANY depth and ANY outcome** (success, refusal, failure half-way, out of
fuel). Worlds `w1` (overlay over n memory layers + source leaf `s`) and `w2` (reference leaf `r`
holding a reference tree of the overlay's view + the same source leaf) related by `ROS`;
destination `renderC cs` a disciplined path (`OpPath`), source `S` ANY path string of the source
leaf; the child names of the source map are canonical and do not end in "_wo" (`SrcNames`);
the source has another `Arc` identity than the destinations (`sid ≠ id`, `sid ≠ id'`). Then the
two calls return outcomes of the same class — on success the SAME count — and end in related
worlds: the overlay's final view is (up to timestamps) the reference leaf's final map, the source
leaf holds the same map on both sides, all invariants hold again. -/
theorem copyDir_into_overlay_sim (fuel : Nat) (S : Str) {cs : List Str} (hcs : OpPath cs)
    {m mu : FMap} {ms : List FMap} {a : FMap} {w1 w2 : World}
    (h : ROS u idu is ids r s m mu ms a w1 w2) (hN : SrcNames m) :
    ∃ m' mu' ms' a',
      ROS u idu is ids r s m' mu' ms' a'
        (VPath.copyDir fuel ⟨leafFS s, sid, S⟩
          ⟨Overlay.fs (layersN (u :: is) (idu :: ids)), id, renderC cs⟩ w1).2
        (VPath.copyDir fuel ⟨leafFS s, sid, S⟩ ⟨leafFS r, id', renderC cs⟩ w2).2 ∧
      SrcNames m' ∧
      OutSame
        (VPath.copyDir fuel ⟨leafFS s, sid, S⟩
          ⟨Overlay.fs (layersN (u :: is) (idu :: ids)), id, renderC cs⟩ w1).1
        (VPath.copyDir fuel ⟨leafFS s, sid, S⟩ ⟨leafFS r, id', renderC cs⟩ w2).1 := by
  rw [VPath.copyDir_eq, VPath.copyDir_eq]
  have key : GSim (RS u idu is ids r s SrcNames) anyE (· = ·)
      (VPath.guarded ⟨leafFS s, sid, S⟩
        ⟨Overlay.fs (layersN (u :: is) (idu :: ids)), id, renderC cs⟩ (renderC cs) _)
      (VPath.guarded ⟨leafFS s, sid, S⟩ ⟨leafFS r, id', renderC cs⟩ (renderC cs) _) :=
    RelLoop.gsim_guarded (exists_two id id' hcs) trivial
      (copyBody_two hs hrs id id' sid hid hid' fuel S hcs) fun _ => trivial
  obtain ⟨ho, m', mu', ms', a', hros, hN'⟩ := key w1 w2 ⟨m, mu, ms, a, h, hN⟩
  exact ⟨m', mu', ms', a', hros, hN', .of_oRel ho⟩

end copyDir


theorem setLeaf_same_pair {w1 w2 : World} {s : Nat} {m : FMap} (h1 : MemLeafAt w1 s m)
    (h2 : MemLeafAt w2 s m) {α} (res : Res α) :
    ∃ m', MemLeafAt (w1.setLeafFiles s m') s m' ∧ ((res, w1) = (res, w1.setLeafFiles s m')) ∧
      ((res, w2) = (res, w2.setLeafFiles s m')) :=
  ⟨m, h1.set m, by rw [h1.same], by rw [h2.same]⟩

/-- `remove_dir_all` on a memory leaf is a function of that leaf's map: outcome and new map do not
depend on the rest of the world -/
def LeafFn (s : Nat) (m : FMap) (act : M Unit) : Prop :=
  ∃ res m', ∀ w, MemLeafAt w s m → act w = (res, w.setLeafFiles s m')

theorem LeafFn.stay {s : Nat} {m : FMap} {act : M Unit} (res : Res Unit)
    (h : ∀ w, MemLeafAt w s m → act w = (res, w)) : LeafFn s m act :=
  ⟨res, m, fun w hw => by rw [h w hw, hw.same]⟩

theorem LeafFn.bind {s : Nat} {m : FMap} {act : M Unit} {next : M Unit} (h : LeafFn s m act)
    (hn : ∀ m1, LeafFn s m1 next) : LeafFn s m (act.bind fun _ => next) := by
  obtain ⟨res, m1, h1⟩ := h
  cases res with
  | ok _ =>
    obtain ⟨res2, m2, h2⟩ := hn m1
    refine ⟨res2, m2, fun w hw => ?_⟩
    simp only [M.bind, h1 w hw, h2 _ (hw.set m1), World.setLeafFiles_twice]
  | err e q => exact ⟨.err e q, m1, fun w hw => by simp only [M.bind, h1 w hw]⟩
  | panic => exact ⟨.panic, m1, fun w hw => by simp only [M.bind, h1 w hw]⟩

/-- `remove_children` is a function of the leaf's map once `remove_dir_all` with the same fuel is -/
theorem rc_leaf_of (s : Nat) (fuel : Nat)
    (hrda : ∀ p : VPath, p.fs = leafFS s → ∀ m, LeafFn s m (VPath.removeDirAll fuel p))
    (l : List VPath) (hl : ∀ c ∈ l, c.fs = leafFS s) (m : FMap) :
    LeafFn s m (VPath.removeChildren fuel l) := by
  induction l generalizing m with
  | nil =>
    rw [VPath.removeChildren_nil]
    exact .stay (.ok ()) fun w _ => rfl
  | cons c rest ih =>
    have hcfs := hl c (by simp)
    obtain ⟨cfs, cid, k⟩ := c
    simp only at hcfs
    subst cfs
    have hm := fun w (hw : MemLeafAt w s m) => run_vmetadata hw ⟨leafFS s, cid, k⟩ rfl
    simp only at hm
    rw [VPath.removeChildren_cons]
    cases hmd : Mem.metadata m k with
    | ok md =>
      have hrestl : ∀ m1, LeafFn s m1 (VPath.removeChildren fuel rest) :=
        ih fun x hx => hl x (by simp [hx])
      have hitem : LeafFn s m ((match md.ftype with
          | .file => VPath.removeFile ⟨leafFS s, cid, k⟩
          | .dir => VPath.removeDirAll fuel ⟨leafFS s, cid, k⟩).bind
            fun _ => VPath.removeChildren fuel rest) := by
        cases md.ftype with
        | file => exact LeafFn.bind ⟨_, _, fun w hw => run_pRemoveFile hw cid k⟩ hrestl
        | dir => exact (hrda ⟨leafFS s, cid, k⟩ rfl m).bind hrestl
      obtain ⟨res, m', h⟩ := hitem
      refine ⟨res, m', fun w hw => ?_⟩
      rw [← h w hw]
      simp only [bind, M.bind, hm w hw, hmd, Res.withPath]
      cases md.ftype <;> rfl
    | _ =>
      exact .stay _ fun w hw => by simp only [bind, M.bind, hm w hw, hmd, Res.withPath]; rfl

theorem rda_leaf (s : Nat) (fuel : Nat) (p : VPath) (hp : p.fs = leafFS s) (m : FMap) :
    LeafFn s m (VPath.removeDirAll fuel p) := by
  induction fuel generalizing p m with
  | zero =>
    rw [VPath.removeDirAll_zero]
    exact .stay .panic fun w _ => rfl
  | succ fuel ih =>
    obtain ⟨pfs, pid, k⟩ := p
    simp only at hp
    subst pfs
    have he : ∀ w, MemLeafAt w s m →
        VPath.exists_ ⟨leafFS s, pid, k⟩ w = (.ok (m.contains k), w) := fun w hw => run_exists hw k
    have hd := fun w (hw : MemLeafAt w s m) => run_vreadDir hw ⟨leafFS s, pid, k⟩ rfl
    rw [VPath.removeDirAll_succ]
    cases hc : m.contains k with
    | false =>
      exact .stay (.ok ()) fun w hw => by
        simp only [bind, M.bind, he w hw, hc, Bool.not_false, if_true, pure, M.pure]
    | true =>
      simp only at hd
      cases hrd : Mem.readDir m k with
      | ok names =>
        have hrest : LeafFn s m ((VPath.removeChildren fuel
            (names.map fun n => (VPath.withStr ⟨leafFS s, pid, k⟩ (k ++ '/' :: n)))).bind
              fun _ => VPath.removeDir ⟨leafFS s, pid, k⟩) :=
          (rc_leaf_of s fuel ih _ (by
            intro y hy; simp only [List.mem_map] at hy; obtain ⟨n, _, rfl⟩ := hy; rfl) m).bind
            fun m1 => ⟨_, _, fun w hw => run_pRemoveDir hw pid k⟩
        obtain ⟨res, m', h⟩ := hrest
        refine ⟨res, m', fun w hw => ?_⟩
        rw [← h w hw]
        simp only [bind, M.bind, he w hw, hc, Bool.not_true, Bool.false_eq_true, if_false,
          hd w hw, hrd, Res.withPath, Res.map]
      | _ =>
        exact .stay _ fun w hw => by
          simp only [bind, M.bind, he w hw, hc, Bool.not_true, Bool.false_eq_true, if_false,
            hd w hw, hrd, Res.withPath, Res.map]
          rfl

theorem rda_two (s : Nat) (fuel : Nat) (p : VPath) (hp : p.fs = leafFS s) (m : FMap) (w1 w2 : World)
    (h1 : MemLeafAt w1 s m) (h2 : MemLeafAt w2 s m) :
    ∃ res m', VPath.removeDirAll fuel p w1 = (res, w1.setLeafFiles s m') ∧
      VPath.removeDirAll fuel p w2 = (res, w2.setLeafFiles s m') := by
  obtain ⟨res, m', h⟩ := rda_leaf s fuel p hp m
  exact ⟨res, m', h w1 h1, h w2 h2⟩

theorem rc_two (s : Nat) (fuel : Nat) (l : List VPath) (hl : ∀ c ∈ l, c.fs = leafFS s) (m : FMap)
    (w1 w2 : World) (h1 : MemLeafAt w1 s m) (h2 : MemLeafAt w2 s m) :
    ∃ res m', VPath.removeChildren fuel l w1 = (res, w1.setLeafFiles s m') ∧
      VPath.removeChildren fuel l w2 = (res, w2.setLeafFiles s m') := by
  obtain ⟨res, m', h⟩ := rc_leaf_of s fuel (rda_leaf s fuel) l hl m
  exact ⟨res, m', h w1 h1, h w2 h2⟩

section rda
variable {u idu : Nat} {is ids : List Nat} {r s : Nat} (hs : s ∉ u :: is) (hrs : r ≠ s)
include hs hrs

/-- two related runs, each followed by `remove_dir_all` of the source: a function of the source
leaf's map (`rda_two`), hence the same on both sides -/
theorem then_rda {x1 x2 : M Nat} (hx : GSim (RS u idu is ids r s SrcNames) anyE (· = ·) x1 x2)
    (fuel : Nat) (p : VPath) (hp : p.fs = leafFS s) {w1 w2 : World}
    (hr : RS u idu is ids r s SrcNames w1 w2) :
    ORel anyE (· = ·) (M.bind x1 (fun _ => VPath.removeDirAll fuel p) w1).1
        (M.bind x2 (fun _ => VPath.removeDirAll fuel p) w2).1 ∧
      RS u idu is ids r s (fun _ => True) (M.bind x1 (fun _ => VPath.removeDirAll fuel p) w1).2
        (M.bind x2 (fun _ => VPath.removeDirAll fuel p) w2).2 := by
  unfold M.bind
  rcases e1 : x1 w1 with ⟨r1, w1'⟩
  rcases e2 : x2 w2 with ⟨r2, w2'⟩
  obtain ⟨ho, m, mu, ms, a, h, _⟩ := hx.run hr e1 e2
  cases ho with
  | ok _ =>
    obtain ⟨res, m2, hq1, hq2⟩ := rda_two s fuel p hp m w1' w2' h.src1 h.src2
    dsimp only
    rw [hq1, hq2]
    exact ⟨(OutSame.refl res).oRel, m2, mu, ms, a, h.setSrc hs hrs m2, trivial⟩
  | err _ => exact ⟨.err trivial, m, mu, ms, a, h, trivial⟩
  | panic => exact ⟨.panic, m, mu, ms, a, h, trivial⟩

end rda

section moveDir
variable {u idu : Nat} {is ids : List Nat} {r s : Nat} (hs : s ∉ u :: is) (hrs : r ≠ s)
  (id id' sid : Nat) (hid : sid ≠ id) (hid' : sid ≠ id')
include hs hrs hid hid'

/-- **move_dir from a memory leaf into the overlay = move_dir from that leaf into the reference
tree, any depth, any outcome** (generic route on both sides: different `Arc` identities; copy
phase, then `remove_dir_all` of the source with the same fuel). Hypotheses as for
`copyDir_into_overlay_sim`. -/
theorem moveDir_into_overlay_sim (fuel : Nat) (S : Str) {cs : List Str} (hcs : OpPath cs)
    {m mu : FMap} {ms : List FMap} {a : FMap} {w1 w2 : World}
    (h : ROS u idu is ids r s m mu ms a w1 w2) (hN : SrcNames m) :
    ∃ m' mu' ms' a',
      ROS u idu is ids r s m' mu' ms' a'
        (VPath.moveDir fuel ⟨leafFS s, sid, S⟩
          ⟨Overlay.fs (layersN (u :: is) (idu :: ids)), id, renderC cs⟩ w1).2
        (VPath.moveDir fuel ⟨leafFS s, sid, S⟩ ⟨leafFS r, id', renderC cs⟩ w2).2 ∧
      OutSame
        (VPath.moveDir fuel ⟨leafFS s, sid, S⟩
          ⟨Overlay.fs (layersN (u :: is) (idu :: ids)), id, renderC cs⟩ w1).1
        (VPath.moveDir fuel ⟨leafFS s, sid, S⟩ ⟨leafFS r, id', renderC cs⟩ w2).1 := by
  obtain ⟨b, he1, he2⟩ := ro_exists h.ro id id' hcs
  rw [VPath.moveDir_eq, VPath.moveDir_eq]
  cases b with
  | true =>
    rw [VPath.guarded_refused _ _ _ _ _ he1, VPath.guarded_refused _ _ _ _ _ he2]
    exact ⟨m, mu, ms, a, h, trivial⟩
  | false =>
    rw [VPath.guarded_run _ _ _ _ _ he1, VPath.guarded_run _ _ _ _ _ he2]
    simp only [M.withPath, VPath.fastOr_slow (fun e => absurd e hid),
      VPath.fastOr_slow (fun e => absurd e hid'), moveDirBody_eq]
    obtain ⟨ho, m', mu', ms', a', hros, _⟩ :=
      then_rda hs hrs (copyBody_two hs hrs id id' sid hid hid' fuel S hcs) fuel ⟨leafFS s, sid, S⟩
        rfl ⟨m, mu, ms, a, h, hN⟩
    exact ⟨m', mu', ms', a', hros, (OutSame.of_oRel ho).withPath S⟩

end moveDir


/-- what `ROS` says at the end, spelled out: the overlay's view and the reference leaf's map agree
(type, and bytes of files) on the root and on every absolute path outside ".whiteout" -/
theorem ROS.view_eq {u idu : Nat} {is ids : List Nat} {r s : Nat} {m mu : FMap} {ms : List FMap}
    {a : FMap} {w1 w2 : World} (h : ROS u idu is ids r s m mu ms a w1 w2) :
    MemLeafAt w2 r a ∧ OWN w1 (u :: is) (idu :: ids) (mu :: ms) ∧
      ∀ q, Vis q → (oview (mu :: ms) q).map vcore = (a.find? q).map vcore :=
  ⟨h.ro.leaf, h.ro.st.own, fun q hq => h.ro.ref.same q hq⟩

/-- STATED, NOT PROVED: `copy_dir` between two disciplined paths of ONE overlay (source and
destination both in the overlay, destination not inside the source) completes with count `n`
iff the same call on the reference leaf does, and then the worlds are `RO`-related again. (For
FAILING runs no call-by-call agreement can hold: the two sides list directories in different
orders and stop after different prefixes.) -/
def copyDir_within_overlay_stmt : Prop :=
  ∀ (u idu : Nat) (is ids : List Nat) (r : Nat) (mu : FMap) (ms : List FMap) (a : FMap)
    (w1 w2 : World), RO u idu is ids r mu ms a w1 w2 → NamesOK (mu :: ms) →
  ∀ (ss dd : List Str), OpPath ss → OpPath dd → ¬ InSub ss (renderC dd) →
  ∀ (id id' fuel n : Nat),
    ((VPath.copyDir fuel ⟨Overlay.fs (layersN (u :: is) (idu :: ids)), id, renderC ss⟩
        ⟨Overlay.fs (layersN (u :: is) (idu :: ids)), id, renderC dd⟩ w1).1 = .ok n ↔
      (VPath.copyDir fuel ⟨leafFS r, id', renderC ss⟩ ⟨leafFS r, id', renderC dd⟩ w2).1 = .ok n) ∧
    ((VPath.copyDir fuel ⟨Overlay.fs (layersN (u :: is) (idu :: ids)), id, renderC ss⟩
        ⟨Overlay.fs (layersN (u :: is) (idu :: ids)), id, renderC dd⟩ w1).1 = .ok n →
      ∃ mu' ms' a', RO u idu is ids r mu' ms' a'
        (VPath.copyDir fuel ⟨Overlay.fs (layersN (u :: is) (idu :: ids)), id, renderC ss⟩
          ⟨Overlay.fs (layersN (u :: is) (idu :: ids)), id, renderC dd⟩ w1).2
        (VPath.copyDir fuel ⟨leafFS r, id', renderC ss⟩ ⟨leafFS r, id', renderC dd⟩ w2).2)

/-- STATED, NOT PROVED: the overlay as source, a memory leaf `t` (same map on both sides) as
destination; for completed runs -/
def copyDir_from_overlay_stmt : Prop :=
  ∀ (u idu : Nat) (is ids : List Nat) (r t : Nat) (mu : FMap) (ms : List FMap) (a mt : FMap)
    (w1 w2 : World), RO u idu is ids r mu ms a w1 w2 → NamesOK (mu :: ms) → t ∉ u :: is → r ≠ t →
    MemLeafAt w1 t mt → MemLeafAt w2 t mt → WF mt →
  ∀ (ss : List Str) (D : Str), OpPath ss → ∀ (id id' tid fuel n : Nat), tid ≠ id → tid ≠ id' →
    ((VPath.copyDir fuel ⟨Overlay.fs (layersN (u :: is) (idu :: ids)), id, renderC ss⟩
        ⟨leafFS t, tid, D⟩ w1).1 = .ok n ↔
      (VPath.copyDir fuel ⟨leafFS r, id', renderC ss⟩ ⟨leafFS t, tid, D⟩ w2).1 = .ok n) ∧
    ((VPath.copyDir fuel ⟨Overlay.fs (layersN (u :: is) (idu :: ids)), id, renderC ss⟩
        ⟨leafFS t, tid, D⟩ w1).1 = .ok n →
      ∃ mu' ms' a' mt1 mt2, RO u idu is ids r mu' ms' a'
        (VPath.copyDir fuel ⟨Overlay.fs (layersN (u :: is) (idu :: ids)), id, renderC ss⟩
          ⟨leafFS t, tid, D⟩ w1).2
        (VPath.copyDir fuel ⟨leafFS r, id', renderC ss⟩ ⟨leafFS t, tid, D⟩ w2).2 ∧
        MemLeafAt (VPath.copyDir fuel ⟨Overlay.fs (layersN (u :: is) (idu :: ids)), id, renderC ss⟩
          ⟨leafFS t, tid, D⟩ w1).2 t mt1 ∧
        MemLeafAt (VPath.copyDir fuel ⟨leafFS r, id', renderC ss⟩ ⟨leafFS t, tid, D⟩ w2).2 t mt2 ∧
        CoreEq mt1 mt2)

/-- STATED, NOT PROVED: the same for `move_dir` within one overlay -/
def moveDir_within_overlay_stmt : Prop :=
  ∀ (u idu : Nat) (is ids : List Nat) (r : Nat) (mu : FMap) (ms : List FMap) (a : FMap)
    (w1 w2 : World), RO u idu is ids r mu ms a w1 w2 → NamesOK (mu :: ms) →
  ∀ (ss dd : List Str), OpPath ss → OpPath dd → ¬ InSub ss (renderC dd) →
  ∀ (id id' fuel : Nat),
    ((VPath.moveDir fuel ⟨Overlay.fs (layersN (u :: is) (idu :: ids)), id, renderC ss⟩
        ⟨Overlay.fs (layersN (u :: is) (idu :: ids)), id, renderC dd⟩ w1).1 = .ok () ↔
      (VPath.moveDir fuel ⟨leafFS r, id', renderC ss⟩ ⟨leafFS r, id', renderC dd⟩ w2).1 = .ok ()) ∧
    ((VPath.moveDir fuel ⟨Overlay.fs (layersN (u :: is) (idu :: ids)), id, renderC ss⟩
        ⟨Overlay.fs (layersN (u :: is) (idu :: ids)), id, renderC dd⟩ w1).1 = .ok () →
      ∃ mu' ms' a', RO u idu is ids r mu' ms' a'
        (VPath.moveDir fuel ⟨Overlay.fs (layersN (u :: is) (idu :: ids)), id, renderC ss⟩
          ⟨Overlay.fs (layersN (u :: is) (idu :: ids)), id, renderC dd⟩ w1).2
        (VPath.moveDir fuel ⟨leafFS r, id', renderC ss⟩ ⟨leafFS r, id', renderC dd⟩ w2).2)

end Vfs.C11

section audit
open Vfs.C11
#print axioms copyItems_sim
#print axioms copyDir_into_overlay_sim
#print axioms moveDir_into_overlay_sim
#print axioms item_copy
#print axioms copyFile_into_overlay_sim
#print axioms ros_step
end audit
