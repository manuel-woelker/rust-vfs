/-
  C03 — The namespace is always a well-formed tree.

  MemoryFS stores a flat map from path strings to entries; nothing structural keeps it a tree.
  `WF m`: the root is a directory and every other key has a '/' and a parent that is a
  directory. Theorems (for EVERY path string, with no type restriction on the target):
    * each path-layer primitive — create_dir, a write session (create_file + writes + drop), an
      append session, remove_file, remove_dir (root aside), the time setters, open_file and the
      other observers — run through the generic `VPath` layer over the in-memory leaf of a
      world preserves `WFLeaf`, whether the call succeeds or fails;
    * hence every finite history of such calls, from the initial state (`history_wf`);
    * in a well-formed map every entry is listed by its parent and reachable from the root
      through directory listings (`reachable`);
    * `remove_file` without its type check (the code before the fix of finding M1) breaks `WF`
      on a concrete map (`unchecked_remove_file_breaks_wf`).
  Adapters: an altroot/overlay stores nothing itself; its well-formedness is that of the
  leaves (C07/C09) and is compared on every step by the tree stream.
-/
import VfsModel.Proofs.MemRun
namespace Vfs.C03

def WFLeaf (i : Nat) (w : World) : Prop := ∃ m, MemLeafAt w i m ∧ WF m

theorem init_wf : WFLeaf 0 { leaves := [{ kind := .mem, files := Mem.init }] } :=
  ⟨Mem.init, rfl, WF.init_mem⟩

/-- the primitive calls of the path API, on arbitrary path strings -/
inductive Prim where
  | createDir (p : Str)
  | write (p : Str) (bs : Bytes)      -- create_file, write_all, drop
  | append (p : Str) (bs : Bytes)     -- append_file, write_all, drop
  | removeFile (p : Str)
  | removeDir (p : Str)
  | openRead (p : Str)                -- open_file (stamps the access time)
  | setCreated (p : Str) (t : Int)
  | setModified (p : Str) (t : Int)
  | setAccessed (p : Str) (t : Int)
  | exists_ (p : Str)
  | metadata (p : Str)
  | readDir (p : Str)

/-- run a primitive through the generic `VPath` layer on the memory leaf `i` -/
def Prim.run (i id : Nat) : Prim → M Unit
  | .createDir p => VPath.createDir { fs := leafFS i, fsId := id, path := p }
  | .write p bs => do
    let h ← VPath.createFile { fs := leafFS i, fsId := id, path := p }
    h.writeAllAndDrop bs
  | .append p bs => do
    let h ← VPath.appendFile { fs := leafFS i, fsId := id, path := p }
    h.writeAllAndDrop bs
  | .removeFile p => VPath.removeFile { fs := leafFS i, fsId := id, path := p }
  | .removeDir p => VPath.removeDir { fs := leafFS i, fsId := id, path := p }
  | .openRead p => do
    let _ ← VPath.openFile { fs := leafFS i, fsId := id, path := p }
    pure ()
  | .setCreated p t => VPath.setCreationTime { fs := leafFS i, fsId := id, path := p } t
  | .setModified p t => VPath.setModificationTime { fs := leafFS i, fsId := id, path := p } t
  | .setAccessed p t => VPath.setAccessTime { fs := leafFS i, fsId := id, path := p } t
  | .exists_ p => do
    let _ ← VPath.exists_ { fs := leafFS i, fsId := id, path := p }
    pure ()
  | .metadata p => do
    let _ ← VPath.metadata { fs := leafFS i, fsId := id, path := p }
    pure ()
  | .readDir p => do
    let _ ← VPath.readDir { fs := leafFS i, fsId := id, path := p }
    pure ()

/-- removal of the root itself is set aside by the property -/
def Prim.NotRootRemoval : Prim → Prop
  | .removeDir p => p ≠ []
  | _ => True

theorem withPath_world {α} (p : Str) (act : M α) (w : World) :
    (M.withPath p act w).2 = (act w).2 := rfl

theorem map_world {α β} (act : M α) (f : α → β) (w : World) :
    ((do let a ← act; pure (f a)) w).2 = (act w).2 := by
  show (M.bind act (fun a => M.pure (f a)) w).2 = _
  unfold M.bind
  rcases act w with ⟨_ | _ | _, _⟩ <;> rfl

theorem wf_of_world {i : Nat} {w w' : World} {m m' : FMap}
    (h : MemLeafAt w i m) (heq : w' = w.setLeafFiles i m') (hw : WF m') : WFLeaf i w' := by
  rw [heq]; exact ⟨m', h.set m', hw⟩

/-- **every primitive preserves well-formedness**, successful or failed, right or wrong type -/
theorem prim_wf (i id : Nat) (op : Prim) (hop : op.NotRootRemoval) :
    Preserves (WFLeaf i) (op.run i id) := by
  refine ⟨fun w ⟨m, hm, hwf⟩ => ?_⟩
  cases op with
  | createDir p =>
    exact wf_of_world hm (congrArg Prod.snd (run_pCreateDir hm id p)) (hwf.pCreateDir p)
  | write p bs =>
    exact wf_of_world hm (congrArg Prod.snd (run_pWrite hm id p bs)) (hwf.pWrite p bs)
  | append p bs =>
    exact wf_of_world hm (congrArg Prod.snd (run_pAppend hm id p bs)) (hwf.pAppend p bs)
  | removeFile p =>
    exact wf_of_world hm (congrArg Prod.snd (run_pRemoveFile hm id p)) (hwf.pRemoveFile p)
  | removeDir p =>
    exact wf_of_world hm (congrArg Prod.snd (run_pRemoveDir hm id p)) (hwf.pRemoveDir p hop)
  | openRead p =>
    refine wf_of_world hm ?_ (hwf.openFile p)
    rw [Prim.run, map_world, VPath.openFile, withPath_world, run_openFile hm]
  | setCreated p t =>
    exact wf_of_world hm (congrArg Prod.snd (run_setCreationTime hm p t)) (hwf.setCreated p (.at t))
  | setModified p t =>
    exact wf_of_world hm (congrArg Prod.snd (run_setModificationTime hm p t)) (hwf.setModified p (.at t))
  | setAccessed p t =>
    exact wf_of_world hm (congrArg Prod.snd (run_setAccessTime hm p t)) (hwf.setAccessed p (.at t))
  | exists_ p =>
    have : ((Prim.exists_ p).run i id w).2 = w := by
      rw [Prim.run, map_world, VPath.exists_, run_exists hm]
    rw [this]; exact ⟨m, hm, hwf⟩
  | metadata p =>
    have : ((Prim.metadata p).run i id w).2 = w := by
      rw [Prim.run, map_world, VPath.metadata, withPath_world, run_metadata hm]
    rw [this]; exact ⟨m, hm, hwf⟩
  | readDir p =>
    have : ((Prim.readDir p).run i id w).2 = w := by
      rw [Prim.run, map_world, VPath.readDir, map_world, withPath_world, run_readDir hm]
    rw [this]; exact ⟨m, hm, hwf⟩

def runAll (i id : Nat) : List Prim → World → World
  | [], w => w
  | op :: rest, w => runAll i id rest ((op.run i id) w).2

/-- **every reachable state is well-formed**: any finite history of primitive calls (of the
right or wrong type for their targets, succeeding or failing, on any path strings) -/
theorem history_wf (i id : Nat) (ops : List Prim) (hops : ∀ op ∈ ops, op.NotRootRemoval)
    (w : World) (hw : WFLeaf i w) : WFLeaf i (runAll i id ops w) := by
  induction ops generalizing w with
  | nil => exact hw
  | cons op rest ih =>
    exact ih (fun o ho => hops o (by simp [ho])) _
      ((prim_wf i id op (hops op (by simp))).pres w hw)

/-- in a well-formed map the parent of every entry lists it, exactly under its bare name -/
theorem listed_by_parent {m : FMap} (h : WF m) (k : Str) (e : Entry) (hk : m.find? k = some e)
    (hne : k ≠ []) :
    ∃ l, Mem.readDir m (parentInternal k) = .ok l ∧ afterLast '/' k ∈ l ∧ '/' ∉ afterLast '/' k := by
  obtain ⟨hs, pe, hp, hd⟩ := h.2 k e hk hne
  refine ⟨m.keys.filterMap (childName (parentInternal k)), ?_, ?_, (split_last '/' k hs).2⟩
  · simp [Mem.readDir, hp, hd]
  · exact (mem_filterMap_childName m _ _).2 ⟨k, e, hk, hs, rfl, rfl⟩

/-- reachability from the root through directory listings -/
inductive Reach (m : FMap) : Str → Prop where
  | root : Reach m []
  | child (p n : Str) (l : List Str) : Reach m p → Mem.readDir m p = .ok l → n ∈ l →
      Reach m (p ++ '/' :: n)

/-- **every entry is reachable from the root** -/
theorem reachable {m : FMap} (h : WF m) : ∀ (n : Nat) (k : Str) (e : Entry), k.length ≤ n →
    m.find? k = some e → Reach m k := by
  intro n
  induction n with
  | zero =>
    intro k e hl _
    have : k = [] := List.eq_nil_of_length_eq_zero (by omega)
    subst this; exact Reach.root
  | succ n ih =>
    intro k e hl hk
    by_cases hne : k = []
    · subst hne; exact Reach.root
    · obtain ⟨hs, pe, hp, _⟩ := h.2 k e hk hne
      obtain ⟨l, hl1, hl2, _⟩ := listed_by_parent h k e hk hne
      have hpar := ih (parentInternal k) pe (by have := parent_shorter k hs; omega) hp
      have := Reach.child (parentInternal k) (afterLast '/' k) l hpar hl1 hl2
      have hk' : k = parentInternal k ++ '/' :: afterLast '/' k := (split_last '/' k hs).1
      rw [← hk'] at this
      exact this

/-- a non-empty directory cannot turn into a file: a write session on a directory fails and
changes nothing -/
theorem write_on_dir_refused (m : FMap) (p : Str) (bs : Bytes) (e : Entry)
    (he : m.find? p = some e) (hd : e.ftype = .dir) :
    (Mem.pWrite m p bs).2 = m ∧ (Mem.pWrite m p bs).1.isOk = false := by
  rw [Mem.pWrite_eq, he]
  cases Mem.par m p <;> simp [Mem.writeS, Mem.createFileS, hd, fail, Res.withPath, Res.isOk, Write.app]

/-- `remove_file` without the type check (the code before the fix) -/
def removeFileUnchecked (m : FMap) (p : Str) : FMap := m.erase p

def witness : FMap :=
  [ ("/a/b".toList, dirEntryNow), ("/a".toList, dirEntryNow),
    ([], { ftype := .dir, content := [], created := .now, modified := .unset, accessed := .unset }) ]

/-- the witness is what `create_dir("/a")`, `create_dir("/a/b")` make of the fresh filesystem -/
theorem witness_wf : WF witness := by
  have : witness = (Mem.pCreateDir (Mem.pCreateDir Mem.init "/a".toList).2 "/a/b".toList).2 := by
    decide +kernel
  rw [this]
  exact (WF.init_mem.pCreateDir _).pCreateDir _

/-- without the type check, removing the directory `/a` orphans `/a/b` -/
theorem unchecked_remove_file_breaks_wf : ¬ WF (removeFileUnchecked witness "/a".toList) := by
  intro h
  have := h.2 "/a/b".toList dirEntryNow (by decide) (by decide)
  obtain ⟨_, pe, hp, _⟩ := this
  have : (removeFileUnchecked witness "/a".toList).find? (parentInternal "/a/b".toList) = none := by decide
  rw [this] at hp
  cases hp

/-- with the check, on any path -/
theorem checked_remove_file_keeps (p : Str) : WF (Mem.pRemoveFile witness p).2 :=
  witness_wf.pRemoveFile p

end Vfs.C03
