/-
  C19 / C10 interplay over ANY NUMBER OF LAYERS: timestamp histories through an n-layer overlay,
  removals included (specification `specStep` / `specHist` and observation `runOp` / `runHist`
  through the `VfsPath` layer as in Props/C19History.lean).

  SETTING: `h : OWN w (u :: is) (idu :: ids) (mu :: ms)` (Proofs/OverlayNLemmas.lean): the pairwise
  distinct leaves `u :: is` are memory leaves holding the maps `mu :: ms` (`mu` = top layer, `ms` =
  ANY number of lower layers, none included); the overlay is
  `Overlay.fs (layersN (u :: is) (idu :: ids))` over the roots of those leaves; the path is
  `k = /d1/…/dm/n` (components `GoodComp`).
  INVARIANT `OvInv mu ds n` on the TOP layer's map: the ancestors of `k` are directories of the top
  layer, not hidden (`AncTop`); no FILE sits at a bookkeeping position "/.whiteout/<d1…dj>"
  (`WoOK`); and the top layer either SERVES `k` (`TopServes`: entry present, no whiteout) or HIDES it
  (`Hidden`: nothing at `k`, the whiteout marker is a file). `ovAbs mu k` = the record the overlay
  serves (the top entry, or nothing behind a whiteout).

  PART 1 — the path is SERVED BY THE TOP LAYER or HIDDEN behind a whiteout.
  * `overlay_run_stepN`: a hidden path has an EMPTY top slot, so in both states the served record is
    the record of the top slot (`OvInv.ovAbs`), every operation answers as the top leaf's row for
    that slot (`slotStep`, Props/C19History.lean), and the row's write is carried out through the
    whiteout (`ovApp`: an entry put in takes the marker away, an entry taken out leaves one). The
    invariant and the served record afterwards go by the three kinds of write (`OvInv.ovApp`,
    `ovAbs_ovApp`).
  * `overlay_step_fullN`, `overlay_history_exactN`: every history of ALL TEN operation kinds in which
    `remove_dir` is never applied while the path is a directory (`NoDirRemoval`, decidable on the
    specification's run; `remove_dir` on a file or on an absent / hidden path is allowed and
    refused) gives, step by step, the outcomes of `specHist` started from
    `ovAbs mu k` (= the record the n-layer VIEW shows at `k` when the top layer serves it —
    `ovAbs_eq_viewN` — and nothing when `k` is hidden); the served record after the history is the
    specification's; the final world is the old one with the TOP leaf replaced and is again an
    n-layer setting WITH THE SAME LOWER MAPS `ms` (lower layers are untouched — exactly, not only
    up to access stamps: in these states no call ever reaches a lower layer); `OvInv` holds again.
    In particular: after `remove_file` every setter / metadata / read / append is refused with
    not-found although a LOWER layer may still hold an entry (with its own timestamps) at `k`, and
    a re-creation gives the clock's stamps, not the old or the lower ones.
  * `overlay_history_exact_noRemoveDirN`: the special case of histories without `remove_dir`.
  PART 2 — the path is SERVED BY A LOWER LAYER (`LowerServes`: no whiteout, nothing at `k` in the
  top layer, layer `j ≥ 1` is the first one holding `k`; the ancestors only have to be directories
  of the n-layer VIEW, `AncDirsN`, they may live in lower layers only).
  * `lowerOut` / `overlay_lower_quiet_stepN` / `overlay_lower_quiet_historyN`: over every history
    of `metadata` and the three setters: `metadata` reports THAT layer's type / length / three
    timestamps, every setter is refused with not-found (finding O7's behaviour), the world does not
    change at all.
  * `overlay_lower_writeN` + `ovInv_afterLowerWrite`: a create session on a lower-served FILE
    succeeds, materialises the ancestors in the top layer (`fillDirs`), and puts a FRESH top-layer
    entry (all three stamps = clock) in front of the lower one (`afterLowerWrite`): afterwards
    `TopServes`, `AncTop`, i.e. `OvInv` holds, the served record is `specStep … (.write b)` of the
    lower record, lower layers untouched.
  * `overlay_lower_served_historyN`: the composition — a quiet history, then a create session, then
    ANY Part-1 history: outcomes = lower layer's metadata / refusals, `done`, then `specHist`
    started from the fresh record.
  PART 3 — non-vacuity on the 3-layer world `xw` of Props/C09Refine.lean: "/top" (served
  by the top layer) with a history of all ten kinds; "/d/x" (served by layer 1, also present in
  layer 2, ancestors in lower layers only).

  HYPOTHESES: the setting; the invariant; first component of `k` ≠ ".whiteout";
  `ds.head? ≠ "_wo"` (the reserved-name clash: "/.whiteout/_wo" is both the root marker and the
  bookkeeping directory of "/_wo").
  STATED ONLY:
  * `overlay_lower_appendN_stmt` (a `def`) — FALSE as written. It says that an append session on a
    lower-served file copies the entry up (the top layer then holds the old bytes ++ `b` under a NEW
    `created` stamp) and leaves the world `w.setLeafFiles u mu'`, i.e. changes the top leaf only.
    The copy-up reads the serving lower entry through `open_file`, which stamps its access time
    (`stampFirst`): a lower leaf changes as well whenever that entry's `accessed` is not the clock's
    already. What IS proved: the call as a function of the maps — `run_oappendFileN` with
    `pAppendN_copyUp` (Proofs/OverlayNRemoveLemmas.lean, Proofs/OverlayEffect.lean: the upper map
    gets a FRESH file entry published with the served bytes, the lower maps become `stampFirst`) —
    and the whole session with its bytes and the exact lower maps afterwards,
    `C04.append_continues_first_layerN` (Props/C04Overlay.lean). That the copy's `created` is the
    clock's is not stated for `runOp` anywhere.
  NOT PROVED:
  * `overlay_history_exactN_stmt` (kept as a `def`): `remove_dir` of a directory with children (needs
    the merged listing `pListingN` tracked along the history); for two layers and a path without
    children in either layer see Props/C19HistoryOverlay.lean.
  * `remove_file` on a lower-served entry inside a history (single step: `C10.removed_file_absentN`);
    a READ of a lower-served entry (`open_file` stamps `accessed` in the serving lower layer — with
    the copy-up above the only way a lower layer is ever written; single step: `run_oopenFileN`) and
    a create session on a lower-served DIRECTORY (refused, ancestors filled in) are not part of the
    history theorem.
-/
import VfsModel.Props.C19History
import VfsModel.Props.C09Refine
import VfsModel.Props.C10N
namespace Vfs.C19
open Vfs.FMap

/-! ### the invariant on the top layer -/

/-- the bookkeeping directories "/.whiteout", "/.whiteout/d1", … needed for the marker of `ds/n` -/
abbrev woChain (ds : List Str) : List Str := chain [] (Overlay.woDir :: ds)

/-- no FILE sits where a bookkeeping directory is needed -/
def WoOK (mu : FMap) (ds : List Str) : Prop :=
  ∀ q ∈ woChain ds, ∀ e, mu.find? q = some e → e.ftype = .dir

theorem WoOK.of_absent {mu : FMap} {ds : List Str} (h : ∀ q ∈ woChain ds, mu.find? q = none) :
    WoOK mu ds := fun q hq e he => by rw [h q hq] at he; cases he

/-- a whiteout hides `k`: nothing at `k` in the top layer, the marker is a file -/
def Hidden (mu : FMap) (k : Str) : Prop :=
  mu.find? k = none ∧ ∃ e, mu.find? (marker k) = some e ∧ e.ftype = .file

/-- the record the overlay serves at `k` (top layer's entry unless a whiteout hides it) -/
def ovAbs (mu : FMap) (k : Str) : Option TRec :=
  if mu.contains (marker k) then none else absAt mu k

/-- string facts: `k`, its marker, the keys `AncTop` speaks about and the bookkeeping directories
are pairwise apart -/
structure Sep (ds : List Str) (n : Str) : Prop where
  apart : Apart (renderC (ds ++ [n])) ds
  kW : renderC (ds ++ [n]) ∉ woChain ds
  mW : marker (renderC (ds ++ [n])) ∉ woChain ds
  rootW : rootMarker ∉ woChain ds
  ancW : ∀ j, 1 ≤ j → j ≤ ds.length → marker (renderC (ds.take j)) ∉ woChain ds
  nilM : [] ≠ marker (renderC (ds ++ [n]))
  rootM : rootMarker ≠ marker (renderC (ds ++ [n]))
  ancM : ∀ j, 1 ≤ j → j ≤ ds.length →
    marker (renderC (ds.take j)) ≠ marker (renderC (ds ++ [n])) ∧
    renderC (ds.take j) ≠ marker (renderC (ds ++ [n]))

theorem sep_of (ds : List Str) (n : Str) (hds : ∀ c ∈ ds, GoodComp c) (hn : GoodComp n)
    (hh : (ds ++ [n]).head? ≠ some Overlay.woDir) (hwo : ds.head? ≠ some Overlay.woSuffix) :
    Sep ds n := by
  have hap := apart_of_head ds n hds hn hh
  have hcs := good_snoc hds hn
  have hkhead : (renderC (ds ++ [n])).head? = some '/' := by
    cases ds <;> simp
  refine ⟨hap, ?_, ?_, ?_, ?_, ?_, ?_, ?_⟩
  · exact fun hk => hh (C10.chain_wo_head _ _ (good_noSlash hcs) (good_noSlash hds) hk)
  · rw [marker_renderC]
    have hds' : ∀ c ∈ Overlay.woDir :: ds, GoodComp c := by
      intro c hc
      rcases List.mem_cons.1 hc with rfl | hc
      · exact goodComp_woDir
      · exact hds c hc
    have := snoc_not_in_chain (ds := Overlay.woDir :: ds) (n := n ++ Overlay.woSuffix) hds'
      (goodComp_wo hn) [] (Or.inl rfl)
    simpa using this
  · intro hk
    obtain ⟨j, h1, h2, he⟩ := (mem_chain [] (Overlay.woDir :: ds) _).1 hk
    simp only [List.nil_append] at he
    have hrm : rootMarker = renderC [Overlay.woDir, Overlay.woSuffix] := by decide
    rw [hrm] at he
    have := C06.renderC_injective _ _ (by decide) (by
      intro c hc
      rcases List.mem_cons.1 (List.mem_of_mem_take hc) with rfl | hc
      · exact goodComp_woDir.noSlash
      · exact (hds c hc).noSlash) he
    obtain ⟨j', rfl⟩ : ∃ j', j = j' + 1 := ⟨j - 1, by omega⟩
    simp only [List.take_succ_cons, List.cons.injEq, true_and] at this
    apply hwo
    cases ds with
    | nil => cases j' <;> simp at this
    | cons d ds =>
      cases j' with
      | zero => simp at this
      | succ j'' => simp at this; simp [this.1]
  · exact fun j h1 h2 => C10.marker_prefix_not_in_chain ds hds j h1 h2
  · simp [marker]
  · have hrm : rootMarker = marker ['/'] := by decide
    rw [hrm]
    intro he
    have := marker_injective _ _ he
    have hl := congrArg List.length this
    have hnne : n ≠ [] := hn.1
    simp only [renderC_append, renderC_cons, renderC_nil, List.length_append, List.length_cons,
      List.length_nil] at hl
    cases n with
    | nil => exact hnne rfl
    | cons a n' => simp at hl; omega
  · intro j h1 h2
    obtain ⟨_, _, h3⟩ := hap
    obtain ⟨_, n2⟩ := h3 j h1 h2
    refine ⟨fun he => n2 (marker_injective _ _ he).symm, ?_⟩
    intro he
    have hhd := renderC_eq_marker_head (ds.take j) _
      (fun c hc => (hds c (List.mem_of_mem_take hc)).noSlash) he hkhead
    exact C10.take_head_ne h1 (C10.head_ne_of_snoc hh) hhd

/-! ### the invariant and its preservation -/

structure OvInv (mu : FMap) (ds : List Str) (n : Str) : Prop where
  anc : AncTop mu ds
  wo : WoOK mu ds
  st : TopServes mu (renderC (ds ++ [n])) ∨ Hidden mu (renderC (ds ++ [n]))

/-- `mu'` agrees with `mu` outside the two keys `k` and `marker k` -/
def Upd2 (mu : FMap) (k : Str) (mu' : FMap) : Prop :=
  ∀ q, q ≠ k → q ≠ marker k → mu'.find? q = mu.find? q

theorem Upd.upd2 {mu mu' : FMap} {k : Str} (h : Upd mu k mu') : Upd2 mu k mu' :=
  fun q h1 _ => h.1 q h1

theorem AncTop.upd2 {mu mu' : FMap} {ds : List Str} {n : Str} (ha : AncTop mu ds)
    (hs : Sep ds n) (hu : Upd2 mu (renderC (ds ++ [n])) mu') : AncTop mu' ds := by
  obtain ⟨h1, h2, h3⟩ := hs.apart
  refine ⟨⟨?_, ?_⟩, ?_⟩
  · obtain ⟨e, he, hd⟩ := ha.root.root
    exact ⟨e, by rw [hu [] (Ne.symm h1) hs.nilM]; exact he, hd⟩
  · rw [contains_eq_of_find (hu _ (Ne.symm h2) hs.rootM)]; exact ha.root.noMark
  · intro j hj1 hj2
    obtain ⟨hm, e, he, hd⟩ := ha.anc j hj1 hj2
    obtain ⟨n1, n2⟩ := h3 j hj1 hj2
    obtain ⟨n3, n4⟩ := hs.ancM j hj1 hj2
    exact ⟨by rw [contains_eq_of_find (hu _ (Ne.symm n1) n3)]; exact hm, e,
      by rw [hu _ (Ne.symm n2) n4]; exact he, hd⟩

theorem WoOK.upd2 {mu mu' : FMap} {ds : List Str} {n : Str} (hw : WoOK mu ds)
    (hs : Sep ds n) (hu : Upd2 mu (renderC (ds ++ [n])) mu') : WoOK mu' ds := by
  intro q hq e he
  have h1 : q ≠ renderC (ds ++ [n]) := fun h => hs.kW (h ▸ hq)
  have h2 : q ≠ marker (renderC (ds ++ [n])) := fun h => hs.mW (h ▸ hq)
  rw [hu q h1 h2] at he
  exact hw q hq e he

/-- the top layer's map after `remove_file` of a file at `ds/n` -/
def afterRemove (mu : FMap) (ds : List Str) (n : Str) : FMap :=
  memPublish ((fillDirs (mu.erase (renderC (ds ++ [n]))) (woChain ds)).insert
    (marker (renderC (ds ++ [n]))) fileEntryNow) (marker (renderC (ds ++ [n]))) []

theorem find?_afterRemove (mu : FMap) (ds : List Str) (n : Str) (q : Str)
    (hq : q ≠ marker (renderC (ds ++ [n]))) :
    (afterRemove mu ds n).find? q =
      ((mu.erase (renderC (ds ++ [n]))).find? q).or
        (if q ∈ woChain ds then some dirEntryNow else none) := by
  unfold afterRemove
  rw [find?_memPublish_ne _ _ _ _ hq, find?_insert_ne _ _ _ _ hq, find?_fillDirs]

theorem find?_afterRemove_marker (mu : FMap) (ds : List Str) (n : Str) :
    ∃ e, (afterRemove mu ds n).find? (marker (renderC (ds ++ [n]))) = some e ∧ e.ftype = .file := by
  obtain ⟨em, h1, h2, _⟩ := find?_memPublish_self
    ((fillDirs (mu.erase (renderC (ds ++ [n]))) (woChain ds)).insert
      (marker (renderC (ds ++ [n]))) fileEntryNow)
    (marker (renderC (ds ++ [n]))) [] fileEntryNow (find?_insert_self _ _ _) rfl
  exact ⟨em, h1, h2⟩

theorem OvInv.removed {mu : FMap} {ds : List Str} {n : Str} (hi : OvInv mu ds n)
    (hs : Sep ds n) : OvInv (afterRemove mu ds n) ds n := by
  obtain ⟨h1, h2, h3⟩ := hs.apart
  have hfind : ∀ q, q ≠ renderC (ds ++ [n]) → q ≠ marker (renderC (ds ++ [n])) →
      (afterRemove mu ds n).find? q =
        (mu.find? q).or (if q ∈ woChain ds then some dirEntryNow else none) := by
    intro q hq1 hq2
    rw [find?_afterRemove mu ds n q hq2, find?_erase_ne _ _ _ hq1]
  refine ⟨⟨⟨?_, ?_⟩, ?_⟩, ?_, Or.inr ⟨?_, find?_afterRemove_marker mu ds n⟩⟩
  · obtain ⟨e, he, hd⟩ := hi.anc.root.root
    exact ⟨e, by rw [hfind [] (Ne.symm h1) hs.nilM, he]; rfl, hd⟩
  · have := hi.anc.root.noMark
    unfold FMap.contains at this ⊢
    rw [hfind _ (Ne.symm h2) hs.rootM, if_neg hs.rootW]
    cases hf : mu.find? rootMarker with
    | none => rfl
    | some e => rw [hf] at this; simp at this
  · intro j hj1 hj2
    obtain ⟨hm, e, he, hd⟩ := hi.anc.anc j hj1 hj2
    obtain ⟨n1, n2⟩ := h3 j hj1 hj2
    obtain ⟨n3, n4⟩ := hs.ancM j hj1 hj2
    refine ⟨?_, e, by rw [hfind _ (Ne.symm n2) n4, he]; rfl, hd⟩
    unfold FMap.contains at hm ⊢
    rw [hfind _ (Ne.symm n1) n3, if_neg (hs.ancW j hj1 hj2)]
    cases hf : mu.find? (marker (renderC (ds.take j))) with
    | none => rfl
    | some e => rw [hf] at hm; simp at hm
  · intro q hq e he
    have hq1 : q ≠ renderC (ds ++ [n]) := fun h => hs.kW (h ▸ hq)
    have hq2 : q ≠ marker (renderC (ds ++ [n])) := fun h => hs.mW (h ▸ hq)
    rw [hfind q hq1 hq2, if_pos hq] at he
    cases hf : mu.find? q with
    | none => rw [hf] at he; simp at he; subst he; rfl
    | some e' => rw [hf] at he; simp at he; subst he; exact hi.wo q hq e' hf
  · rw [find?_afterRemove mu ds n _ (Ne.symm (marker_ne_self _)), find?_erase_self, if_neg hs.kW]
    rfl

/-- the top layer's map after a re-creation at `k` behind a whiteout: the new entry, marker gone -/
theorem upd2_recreate (mu : FMap) (k : Str) (v : Entry) :
    Upd2 mu k ((mu.insert k v).erase (marker k)) := by
  intro q h1 h2
  rw [find?_erase_ne _ _ _ h2, find?_insert_ne _ _ _ _ h1]

theorem upd2_memPublish {mu mu' : FMap} {k : Str} (h : Upd2 mu k mu') (b : Bytes) :
    Upd2 mu k (memPublish mu' k b) := by
  intro q h1 h2
  rw [find?_memPublish_ne _ _ _ _ h1]; exact h q h1 h2

/-! ### the specification side -/

/-- `remove_dir` is not being applied to a directory -/
def NotDirRemoval (r : Option TRec) (op : TOp) : Prop :=
  op = .removeDir → r.map TRec.ftype ≠ some .dir

instance (r : Option TRec) (op : TOp) : Decidable (NotDirRemoval r op) := by
  unfold NotDirRemoval; exact inferInstance

theorem spec_busy_irrelevant (b1 b2 : Bool) (clk : TS) (r : Option TRec) (op : TOp)
    (hop : NotDirRemoval r op) : specStep b1 clk r op = specStep b2 clk r op := by
  cases op
  case removeDir =>
    cases r with
    | none => rfl
    | some r0 =>
      have := hop rfl
      obtain ⟨ft, c, cr, mo, ac⟩ := r0
      cases ft
      · rfl
      · simp at this
  all_goals (cases r <;> rfl)

theorem ovAbs_of_served {mu : FMap} {k : Str} (hs : TopServes mu k) : ovAbs mu k = absAt mu k := by
  unfold ovAbs; rw [hs.1]; rfl

theorem ovAbs_of_not_marked {mu : FMap} {k : Str} (h : mu.contains (marker k) = false) :
    ovAbs mu k = absAt mu k := by
  unfold ovAbs; rw [h]; rfl

theorem ovAbs_of_hidden {mu : FMap} {k : Str} (hB : Hidden mu k) : ovAbs mu k = none := by
  obtain ⟨_, e, he, _⟩ := hB
  unfold ovAbs; rw [contains_of_find he]; rfl

/-- every entry of `mu'` is an entry of `mu`, or sits at `k`, at its marker, or at a bookkeeping
directory -/
def Chg (mu : FMap) (ds : List Str) (n : Str) (mu' : FMap) : Prop :=
  ∀ x e, mu'.find? x = some e →
    mu.find? x = some e ∨ x = renderC (ds ++ [n]) ∨ x = marker (renderC (ds ++ [n])) ∨ x ∈ woChain ds

theorem Chg.refl (mu : FMap) (ds : List Str) (n : Str) : Chg mu ds n mu := fun _ _ h => Or.inl h

theorem chg_of_upd2 {mu mu' : FMap} {ds : List Str} {n : Str}
    (h : Upd2 mu (renderC (ds ++ [n])) mu') : Chg mu ds n mu' := by
  intro x e he
  by_cases h1 : x = renderC (ds ++ [n])
  · exact Or.inr (Or.inl h1)
  · by_cases h2 : x = marker (renderC (ds ++ [n]))
    · exact Or.inr (Or.inr (Or.inl h2))
    · rw [h x h1 h2] at he; exact Or.inl he

theorem chg_afterRemove (mu : FMap) (ds : List Str) (n : Str) : Chg mu ds n (afterRemove mu ds n) := by
  intro x e he
  by_cases h2 : x = marker (renderC (ds ++ [n]))
  · exact Or.inr (Or.inr (Or.inl h2))
  · by_cases h1 : x = renderC (ds ++ [n])
    · exact Or.inr (Or.inl h1)
    · rw [find?_afterRemove mu ds n x h2, find?_erase_ne _ _ _ h1] at he
      cases hf : mu.find? x with
      | some e' => rw [hf] at he; simp at he; subst he; exact Or.inl rfl
      | none =>
        rw [hf] at he
        by_cases hx : x ∈ woChain ds
        · exact Or.inr (Or.inr (Or.inr hx))
        · rw [if_neg hx] at he; simp at he

/-! ### the overlay's write -/

/-- the write `wr` to the slot of `ds/n` as the overlay carries it out on the top layer's map: an
entry put in takes the whiteout away, an entry taken out leaves one -/
def ovApp (mu : FMap) (ds : List Str) (n : Str) : Write → FMap
  | .keep => mu
  | .put e => (mu.insert (renderC (ds ++ [n])) e).erase (marker (renderC (ds ++ [n])))
  | .del => afterRemove mu ds n

/-- where no whiteout hides the path, keeping or putting is what the leaf does -/
theorem ovApp_unmarked {mu : FMap} {ds : List Str} {n : Str} {wr : Write}
    (hm : mu.contains (marker (renderC (ds ++ [n]))) = false) (hd : wr ≠ .del) :
    ovApp mu ds n wr = wr.app mu (renderC (ds ++ [n])) := by
  cases wr with
  | keep => rfl
  | put e =>
    exact erase_absent _ _ (by
      rw [find?_insert_ne _ _ _ _ (marker_ne _)]; exact find?_none_of_not_contains (by rw [hm]; simp))
  | del => exact absurd rfl hd

theorem absAt_ovApp_put (mu : FMap) (ds : List Str) (n : Str) (e : Entry) :
    absAt (ovApp mu ds n (.put e)) (renderC (ds ++ [n])) = some (recOf e) := by
  unfold ovApp absAt
  rw [find?_erase_ne _ _ _ (marker_ne _).symm, find?_insert_self]; rfl

/-- under the invariant the served record is the record of the top layer's slot: a hidden path has
an empty slot -/
theorem OvInv.ovAbs {mu : FMap} {ds : List Str} {n : Str} (hi : OvInv mu ds n) :
    ovAbs mu (renderC (ds ++ [n])) = absAt mu (renderC (ds ++ [n])) := by
  rcases hi.st with hA | hB
  · exact ovAbs_of_served hA
  · rw [ovAbs_of_hidden hB, absAt, hB.1]; rfl

/-- an entry put in through the overlay is served by the top layer -/
theorem ovInv_put {mu : FMap} {ds : List Str} {n : Str} (ha : AncTop mu ds) (hw : WoOK mu ds)
    (hs : Sep ds n) (e : Entry) : OvInv (ovApp mu ds n (.put e)) ds n := by
  have hu := upd2_recreate mu (renderC (ds ++ [n])) e
  refine ⟨ha.upd2 hs hu, hw.upd2 hs hu, Or.inl ⟨?_, e, ?_⟩⟩
  · unfold ovApp FMap.contains; rw [find?_erase_self]; rfl
  · unfold ovApp; rw [find?_erase_ne _ _ _ (marker_ne _).symm, find?_insert_self]

theorem OvInv.ovApp {mu : FMap} {ds : List Str} {n : Str} (hi : OvInv mu ds n) (hs : Sep ds n)
    (wr : Write) : OvInv (ovApp mu ds n wr) ds n := by
  cases wr with
  | keep => exact hi
  | put e => exact ovInv_put hi.anc hi.wo hs e
  | del => exact hi.removed hs

/-- … and the record served afterwards is what the write leaves in the slot -/
theorem ovAbs_ovApp {mu : FMap} {ds : List Str} {n : Str} (hi : OvInv mu ds n) (hs : Sep ds n)
    (wr : Write) :
    ovAbs (ovApp mu ds n wr) (renderC (ds ++ [n])) =
      (wr.slot (mu.find? (renderC (ds ++ [n])))).map recOf := by
  rw [(hi.ovApp hs wr).ovAbs]
  cases wr with
  | keep => rfl
  | put e => exact absAt_ovApp_put mu ds n e
  | del =>
    show absAt (afterRemove mu ds n) _ = none
    rw [absAt, find?_afterRemove mu ds n _ (marker_ne _).symm, find?_erase_self, if_neg hs.kW]; rfl

theorem chg_ovApp (mu : FMap) (ds : List Str) (n : Str) (wr : Write) :
    Chg mu ds n (ovApp mu ds n wr) := by
  cases wr with
  | keep => exact Chg.refl mu ds n
  | put e => exact chg_of_upd2 (upd2_recreate mu _ e)
  | del => exact chg_afterRemove mu ds n

/-- publishing into a file just put in behind the cleared whiteout -/
theorem memPublish_recreate (mu : FMap) (k : Str) (b : Bytes) :
    memPublish ((mu.insert k fileEntryNow).erase (marker k)) k b =
      (mu.insert k { fileEntryNow with content := b }).erase (marker k) := by
  have hk : k ≠ marker k := (marker_ne k).symm
  have hf : ((mu.insert k fileEntryNow).erase (marker k)).find? k = some fileEntryNow := by
    rw [find?_erase_ne _ _ _ hk, find?_insert_self]
  rw [Mem.memPublish_eq, hf]
  simp only [Mem.publishS, fileEntryNow, if_true, Write.app, FMap.insert, erase_cons, if_neg hk,
    erase_comm _ (marker k) k, erase_erase]

/-! ### Part 1: the top layer serves or hides the path -/

/-- the record the overlay serves when the top layer decides (`ovAbs`) is the record of the n-layer
view's entry, whenever the top layer serves or hides the path -/
theorem ovAbs_eq_viewN {mu : FMap} (ms : List FMap) {k : Str}
    (hs : TopServes mu k ∨ Hidden mu k) : ovAbs mu k = (viewN (mu :: ms) k).map recOf := by
  rcases hs with ⟨hm, e, he⟩ | hB
  · rw [ovAbs_of_served ⟨hm, e, he⟩, viewN_upper hm he]; simp [absAt, he]
  · rw [ovAbs_of_hidden hB]
    obtain ⟨_, e, he, _⟩ := hB
    rw [viewN_marked (contains_of_find he)]; rfl

section ovN
variable {w : World} {u idu : Nat} {mu : FMap} {is ids : List Nat} {ms : List FMap}
  (h : OWN w (u :: is) (idu :: ids) (mu :: ms)) (ido : Nat)
include h

/-- `read_path` behind a whiteout -/
theorem run_readPathN_marked (cs : List Str) (hne : cs ≠ []) (hcs : ∀ c ∈ cs, GoodComp c)
    (hm : mu.contains (marker (renderC cs)) = true) :
    Overlay.readPath (layersN (u :: is) (idu :: ids)) (renderC cs) w =
      (.err .fileNotFound none, w) := by
  rw [run_readPathN h cs hne hcs, if_pos hm]

variable (ds : List Str) (n : Str) (hds : ∀ c ∈ ds, GoodComp c) (hn : GoodComp n)
include hds hn

/-- `remove_file` on a path the top layer serves -/
theorem overlay_run_removeFile_servedN (ha : AncTop mu ds) (hw : WoOK mu ds)
    (hm : mu.contains (marker (renderC (ds ++ [n]))) = false) (e : Entry)
    (he : mu.find? (renderC (ds ++ [n])) = some e) :
    runOp { fs := Overlay.fs (layersN (u :: is) (idu :: ids)), fsId := ido,
            path := renderC (ds ++ [n]) } .removeFile w =
      ((slotStep mu (renderC (ds ++ [n])) .removeFile).1,
        w.setLeafFiles u (ovApp mu ds n (slotStep mu (renderC (ds ++ [n])) .removeFile).2)) := by
  have hne : ds ++ [n] ≠ [] := by simp
  have hv : viewN (mu :: ms) (renderC (ds ++ [n])) = some e := viewN_upper hm he
  simp only [runOp, VPath.removeFile, M.withPath, Overlay.fs,
    run_oremoveFileN h _ hne (good_snoc hds hn), pRemoveFileN_eq, hv, slotStep, stepS, he]
  by_cases hf : e.ftype = .file
  · rw [pRemoveTail_upper Mem.erasing_removeFile ds n hds hn ha.root hw
      (find?_none_of_not_contains (by rw [hm]; simp)) (contains_of_find he)
      (by rw [Mem.pRemoveFile_file mu _ e he hf])]
    simp [-renderC_append, Mem.removeFileS, hf, ovApp, afterRemove, Res.withPath, ofRes, outOf]
  · have hrf : Mem.pRemoveFile mu (renderC (ds ++ [n])) =
        (.err .other (some (renderC (ds ++ [n]))), mu) := by
      rw [Mem.pRemoveFile_eq, he]; simp [Mem.removeFileS, hf, fail, Res.withPath, Write.app]
    rw [pRemoveTail_refused (contains_of_find he) (by rw [hrf]; simp), hrf]
    simp [Mem.removeFileS, hf, fail, Res.withPath, ofRes, outOf, ovApp, h.hu.same]

/-- `remove_dir` on a FILE the top layer serves -/
theorem overlay_run_removeDir_fileN
    (hm : mu.contains (marker (renderC (ds ++ [n]))) = false) (e : Entry)
    (he : mu.find? (renderC (ds ++ [n])) = some e) (hf : e.ftype = .file) :
    runOp { fs := Overlay.fs (layersN (u :: is) (idu :: ids)), fsId := ido,
            path := renderC (ds ++ [n]) } .removeDir w =
      ((slotStep mu (renderC (ds ++ [n])) .removeDir).1,
        w.setLeafFiles u (ovApp mu ds n (slotStep mu (renderC (ds ++ [n])) .removeDir).2)) := by
  have hne : ds ++ [n] ≠ [] := by simp
  have hrp := run_readPathN_top h _ hne (good_snoc hds hn) hm (contains_of_find he)
  simp only [slotStep, stepS, he]
  generalize renderC (ds ++ [n]) = k at *
  simp [runOp, VPath.removeDir, M.withPath, Overlay.fs, Overlay.removeDir, Overlay.readDir, bind,
    M.bind, hrp, run_vexists h.hu, contains_of_find he, run_visDir h.hu, he, hf, M.failK, fail,
    Res.withPath, ofRes, Mem.removeDirS, outOf, ovApp, h.hu.same]

/-- every operation while a whiteout hides the path: the slot is empty, so everything but a create
session and `create_dir` is refused with not-found; those two put their entry in -/
theorem overlay_run_hiddenN (hB : Hidden mu (renderC (ds ++ [n]))) (ha : AncTop mu ds) (op : TOp) :
    runOp { fs := Overlay.fs (layersN (u :: is) (idu :: ids)), fsId := ido,
            path := renderC (ds ++ [n]) } op w =
      ((slotStep mu (renderC (ds ++ [n])) op).1,
        w.setLeafFiles u (ovApp mu ds n (slotStep mu (renderC (ds ++ [n])) op).2)) := by
  have hne : ds ++ [n] ≠ [] := by simp
  have hcs := good_snoc hds hn
  have hgp := overlay_getParentN h ido ds n hds hn ha.root (ha.ancDirsN ms)
  have hpd := ha.parentDir n hds hn
  obtain ⟨hk0, eM, heM, hfM⟩ := hB
  have hmc : mu.contains (marker (renderC (ds ++ [n]))) = true := contains_of_find heM
  have hv : viewN (mu :: ms) (renderC (ds ++ [n])) = none := viewN_marked hmc
  have hrp := run_readPathN_marked h _ hne hcs hmc
  have hwp := writePath_layersN (u := u) (idu := idu) (is := is) (ids := ids) _ hne hcs
  have hE := run_ensureHasParentN h _ hne hcs
  rw [List.dropLast_concat, ha.pEnsureN ms hds] at hE
  simp only [h.hu.same] at hE
  simp only [slotStep, hk0, Mem.par_of_dir hpd.1 hpd.2]
  cases op with
  | setCreated t | setModified t | setAccessed t =>
    rw [overlay_run_setter_noneN h ido _ hne hcs hk0 _ rfl]
    simp [stepS, Mem.setS, outOf, fail, ovApp, h.hu.same]
  | metadata =>
    generalize renderC (ds ++ [n]) = k at *
    simp [runOp, VPath.metadata, M.withPath, Overlay.fs, bind, M.bind, hrp, Res.withPath, ofRes,
      stepS, ovApp, h.hu.same]
  | read =>
    generalize renderC (ds ++ [n]) = k at *
    simp [runOp, VPath.openFile, M.withPath, Overlay.fs, bind, M.bind, hrp, Res.withPath, ofRes,
      stepS, Mem.openFileS, ovApp, h.hu.same]
  | append b =>
    generalize renderC (ds ++ [n]) = k at *
    simp [runOp, VPath.appendFile, M.withPath, Overlay.fs, Overlay.appendFile, Overlay.copyUp, bind,
      M.bind, M.ret, hwp, run_vexists h.hu, contains_of_none hk0, hE, hrp, Res.withPath, ofRes,
      stepS, Mem.appendS, outOf, fail, ovApp, h.hu.same]
  | removeFile =>
    simp only [runOp, VPath.removeFile, M.withPath, Overlay.fs, run_oremoveFileN h _ hne hcs,
      pRemoveFileN_eq, hv]
    simp [Res.withPath, ofRes, stepS, Mem.removeFileS, outOf, fail, ovApp, h.hu.same]
  | removeDir =>
    generalize renderC (ds ++ [n]) = k at *
    simp [runOp, VPath.removeDir, M.withPath, Overlay.fs, Overlay.removeDir, bind, M.bind, hrp,
      Res.withPath, ofRes, stepS, Mem.removeDirS, outOf, fail, ovApp, h.hu.same]
  | createDir =>
    simp only [runOp, VPath.createDir, bind, M.bind, hgp]
    simp only [M.withPath, Overlay.fs, run_ocreateDirN h _ hne hcs]
    rw [C10.pCreateDirN_marked hds hn ha.root (ha.ancDirsN ms) heM hfM hk0, ha.fillDirs]
    simp [-renderC_append, Res.withPath, ofRes, stepS, Mem.createDirS, outOf, ovApp]
  | write b =>
    simp only [runOp, VPath.createFile, bind, M.bind, hgp]
    simp only [M.withPath, Overlay.fs, run_ocreateFileN h _ hne hcs]
    rw [C10.pCreateFileN_marked hds hn ha.root (ha.ancDirsN ms) heM hfM hk0, ha.fillDirs]
    have h' := run_writeAllAndDrop (h.hu.set ((mu.insert (renderC (ds ++ [n])) fileEntryNow).erase
      (marker (renderC (ds ++ [n]))))) (renderC (ds ++ [n])) [] 0 b
    simp [-renderC_append, Res.map, Res.withPath, h', Vfs.World.setLeafFiles_twice, ofRes,
      cursorWrite_nil, memPublish_recreate, stepS, Mem.writeS, Mem.createFileS, outOf, ovApp]

/-- **the overlay on a path its top layer decides** (it serves the path or hides it): every
operation answers as the top leaf's row for the top slot does, and the row's write is carried out
through `ovApp`. (`remove_dir` of a directory asks for the merged listing and is left out.) -/
theorem overlay_run_stepN (hi : OvInv mu ds n) (op : TOp)
    (hop : NotDirRemoval (absAt mu (renderC (ds ++ [n]))) op) :
    runOp { fs := Overlay.fs (layersN (u :: is) (idu :: ids)), fsId := ido,
            path := renderC (ds ++ [n]) } op w =
      ((slotStep mu (renderC (ds ++ [n])) op).1,
        w.setLeafFiles u (ovApp mu ds n (slotStep mu (renderC (ds ++ [n])) op).2)) := by
  rcases hi.st with ⟨hm, e, he⟩ | hB
  · by_cases hke : op.keepsEntry = true
    · rw [overlay_run_memStep2N h ido ds n hds hn ⟨hm, e, he⟩ hi.anc op hke, memStep_tab,
        ovApp_unmarked hm (slotStep_keeps mu _ op hke)]
    · cases op <;> first | exact absurd rfl hke | skip
      · exact overlay_run_removeFile_servedN h ido ds n hds hn hi.anc hi.wo hm e he
      · refine overlay_run_removeDir_fileN h ido ds n hds hn hm e he ?_
        cases hft : e.ftype with
        | file => rfl
        | dir => exact absurd (by rw [absAt, he]; simp [recOf, hft]) (hop rfl)
  · exact overlay_run_hiddenN h ido ds n hds hn hB hi.anc op

end ovN

/-- **one step through the n-layer overlay, served or hidden**: the outcome and the record served
afterwards are the specification's, the invariant holds again, only the top leaf changes -/
theorem overlay_step_fullN {w : World} {u idu : Nat} {mu : FMap} {is ids : List Nat}
    {ms : List FMap} (h : OWN w (u :: is) (idu :: ids) (mu :: ms))
    (ido : Nat) (ds : List Str) (n : Str) (hds : ∀ c ∈ ds, GoodComp c) (hn : GoodComp n)
    (hsep : Sep ds n) (hi : OvInv mu ds n) (busy : Bool) (op : TOp)
    (hop : NotDirRemoval (ovAbs mu (renderC (ds ++ [n]))) op) :
    ∃ mu', runOp { fs := Overlay.fs (layersN (u :: is) (idu :: ids)), fsId := ido,
                   path := renderC (ds ++ [n]) } op w =
        ((specStep busy .now (ovAbs mu (renderC (ds ++ [n]))) op).2, w.setLeafFiles u mu') ∧
      OvInv mu' ds n ∧
      ovAbs mu' (renderC (ds ++ [n])) = (specStep busy .now (ovAbs mu (renderC (ds ++ [n]))) op).1 ∧
      Chg mu ds n mu' := by
  rw [hi.ovAbs] at hop ⊢
  have hsp := slotStep_spec mu (renderC (ds ++ [n])) _ op fun _ => ⟨hi.anc.parentDir n hds hn, rfl⟩
  rw [spec_busy_irrelevant _ busy _ _ _ hop] at hsp
  exact ⟨_, by rw [overlay_run_stepN h ido ds n hds hn hi op hop, hsp.1], hi.ovApp hsep _,
    by rw [ovAbs_ovApp hi hsep, hsp.2], chg_ovApp mu ds n _⟩

/-- along the history, `remove_dir` is never applied while the served record is a directory
(a statement about the SPECIFICATION's run) -/
def NoDirRemoval (busy : Bool) (clk : TS) : Option TRec → List TOp → Prop
  | _, [] => True
  | r, op :: ops => NotDirRemoval r op ∧ NoDirRemoval busy clk (specStep busy clk r op).1 ops

instance decNoDirRemoval (busy : Bool) (clk : TS) :
    ∀ (r : Option TRec) (ops : List TOp), Decidable (NoDirRemoval busy clk r ops)
  | _, [] => isTrue trivial
  | r, op :: ops => by
    unfold NoDirRemoval
    exact @instDecidableAnd _ _ _ (decNoDirRemoval busy clk _ ops)

theorem noDirRemoval_of_no_removeDir (busy : Bool) (clk : TS) (r : Option TRec) (ops : List TOp)
    (h : ∀ op ∈ ops, op ≠ .removeDir) : NoDirRemoval busy clk r ops := by
  induction ops generalizing r with
  | nil => trivial
  | cons op ops ih =>
    exact ⟨fun he => absurd he (h op (by simp)), ih _ (fun o ho => h o (by simp [ho]))⟩

/-- **C19 through an n-layer OverlayFS, whole histories, all ten operation kinds** (see the header).
The final world is again an n-layer setting with the SAME lower maps `ms`. -/
theorem overlay_history_exactN {w : World} {u idu : Nat} {mu : FMap} {is ids : List Nat}
    {ms : List FMap} (h : OWN w (u :: is) (idu :: ids) (mu :: ms))
    (ido : Nat) (ds : List Str) (n : Str) (hds : ∀ c ∈ ds, GoodComp c)
    (hn : GoodComp n) (hh : (ds ++ [n]).head? ≠ some Overlay.woDir)
    (hwo : ds.head? ≠ some Overlay.woSuffix) (hi : OvInv mu ds n) (busy : Bool)
    (ops : List TOp)
    (hops : NoDirRemoval busy .now (ovAbs mu (renderC (ds ++ [n]))) ops) :
    ∃ mu', (runHist { fs := Overlay.fs (layersN (u :: is) (idu :: ids)), fsId := ido,
                      path := renderC (ds ++ [n]) } ops w).2 = w.setLeafFiles u mu' ∧
      OWN (w.setLeafFiles u mu') (u :: is) (idu :: ids) (mu' :: ms) ∧
      (runHist { fs := Overlay.fs (layersN (u :: is) (idu :: ids)), fsId := ido,
                 path := renderC (ds ++ [n]) } ops w).1 =
        (specHist busy .now (ovAbs mu (renderC (ds ++ [n]))) ops).1 ∧
      ovAbs mu' (renderC (ds ++ [n])) =
        (specHist busy .now (ovAbs mu (renderC (ds ++ [n]))) ops).2 ∧
      OvInv mu' ds n := by
  have hsep := sep_of ds n hds hn hh hwo
  induction ops generalizing w mu with
  | nil =>
    refine ⟨mu, by simp only [runHist, h.hu.same], ?_, rfl, rfl, hi⟩
    rw [h.hu.same]; exact h
  | cons op ops ih =>
    obtain ⟨hop, hrest⟩ := hops
    obtain ⟨mu1, hrun, hi1, habs1, _⟩ :=
      overlay_step_fullN h ido ds n hds hn hsep hi busy op hop
    rw [← habs1] at hrest
    obtain ⟨mu', e1, e2, e3, e4, e5⟩ := ih (h.setHead mu1) hi1 hrest
    simp only [runHist, specHist, hrun]
    rw [habs1] at e3 e4
    rw [Vfs.World.setLeafFiles_twice] at e1 e2
    exact ⟨mu', e1, e2, by rw [e3], e4, e5⟩

/-- the special case of histories without `remove_dir`; the start record written as the VIEW's -/
theorem overlay_history_exact_noRemoveDirN {w : World} {u idu : Nat} {mu : FMap}
    {is ids : List Nat} {ms : List FMap} (h : OWN w (u :: is) (idu :: ids) (mu :: ms))
    (ido : Nat) (ds : List Str) (n : Str) (hds : ∀ c ∈ ds, GoodComp c)
    (hn : GoodComp n) (hh : (ds ++ [n]).head? ≠ some Overlay.woDir)
    (hwo : ds.head? ≠ some Overlay.woSuffix) (hi : OvInv mu ds n) (busy : Bool)
    (ops : List TOp) (hops : ∀ op ∈ ops, op ≠ .removeDir) :
    ∃ mu', (runHist { fs := Overlay.fs (layersN (u :: is) (idu :: ids)), fsId := ido,
                      path := renderC (ds ++ [n]) } ops w).2 = w.setLeafFiles u mu' ∧
      OWN (w.setLeafFiles u mu') (u :: is) (idu :: ids) (mu' :: ms) ∧
      (runHist { fs := Overlay.fs (layersN (u :: is) (idu :: ids)), fsId := ido,
                 path := renderC (ds ++ [n]) } ops w).1 =
        (specHist busy .now ((viewN (mu :: ms) (renderC (ds ++ [n]))).map recOf) ops).1 ∧
      (viewN (mu' :: ms) (renderC (ds ++ [n]))).map recOf =
        (specHist busy .now ((viewN (mu :: ms) (renderC (ds ++ [n]))).map recOf) ops).2 ∧
      OvInv mu' ds n := by
  obtain ⟨mu', e1, e2, e3, e4, e5⟩ := overlay_history_exactN h ido ds n hds hn hh hwo hi busy ops
    (noDirRemoval_of_no_removeDir _ _ _ _ hops)
  rw [ovAbs_eq_viewN ms hi.st] at e3 e4
  rw [ovAbs_eq_viewN ms e5.st] at e4
  exact ⟨mu', e1, e2, e3, e4, e5⟩

/-! ### Part 2: the path is served by a LOWER layer -/

/-- no whiteout, nothing at `k` in the top layer, the first lower layer holding `k` holds `e` -/
structure LowerServes (mu : FMap) (ms : List FMap) (k : Str) (e : Entry) : Prop where
  noMark : mu.contains (marker k) = false
  topNone : mu.find? k = none
  low : firstN ms k = some e

theorem LowerServes.view {mu : FMap} {ms : List FMap} {k : Str} {e : Entry}
    (hL : LowerServes mu ms k e) : viewN (mu :: ms) k = some e := by
  rw [viewN_lower hL.noMark hL.topNone]; exact hL.low

/-- the operations that leave a lower-served path lower-served and the world unchanged -/
def TOp.lowerQuiet : TOp → Bool
  | .metadata | .setCreated _ | .setModified _ | .setAccessed _ => true
  | _ => false

/-- what they answer: the serving layer's metadata; setters are refused (finding O7) -/
def lowerOut (e : Entry) : TOp → TOut
  | .metadata => .info e.meta
  | _ => .refused .fileNotFound

theorem overlay_lower_quiet_stepN {w : World} {u idu : Nat} {mu : FMap} {is ids : List Nat}
    {ms : List FMap} (h : OWN w (u :: is) (idu :: ids) (mu :: ms)) (ido : Nat)
    (cs : List Str) (hne : cs ≠ []) (hcs : ∀ c ∈ cs, GoodComp c) (e : Entry)
    (hL : LowerServes mu ms (renderC cs) e) (op : TOp) (hop : op.lowerQuiet = true) :
    runOp { fs := Overlay.fs (layersN (u :: is) (idu :: ids)), fsId := ido, path := renderC cs }
      op w = (lowerOut e op, w) := by
  cases op with
  | metadata =>
    simp [runOp, lowerOut, VPath.metadata, M.withPath, run_ometadataN h cs hne hcs, hL.view,
      Res.withPath, ofRes]
  | setCreated t | setModified t | setAccessed t =>
    exact overlay_run_setter_noneN h ido cs hne hcs hL.topNone _ rfl
  | _ => cases hop

/-- **a lower-served entry over histories of `metadata` and setters**: the serving layer's
timestamps are reported every time, every setter is refused with not-found, NOTHING changes -/
theorem overlay_lower_quiet_historyN {w : World} {u idu : Nat} {mu : FMap} {is ids : List Nat}
    {ms : List FMap} (h : OWN w (u :: is) (idu :: ids) (mu :: ms)) (ido : Nat)
    (cs : List Str) (hne : cs ≠ []) (hcs : ∀ c ∈ cs, GoodComp c) (e : Entry)
    (hL : LowerServes mu ms (renderC cs) e) (ops : List TOp)
    (hops : ∀ op ∈ ops, op.lowerQuiet = true) :
    runHist { fs := Overlay.fs (layersN (u :: is) (idu :: ids)), fsId := ido, path := renderC cs }
      ops w = (ops.map (lowerOut e), w) := by
  induction ops with
  | nil => rfl
  | cons op ops ih =>
    simp only [runHist, overlay_lower_quiet_stepN h ido cs hne hcs e hL op (hops op (by simp)),
      ih (fun o ho => hops o (by simp [ho])), List.map_cons]

/-- the top layer's map after a create session at a lower-served path `ds/n`: the ancestors are
materialised (`fillDirs`), a fresh file holding `b` sits at the path -/
def afterLowerWrite (mu : FMap) (ds : List Str) (n : Str) (b : Bytes) : FMap :=
  memPublish ((fillDirs mu (chain [] ds)).insert (renderC (ds ++ [n])) fileEntryNow)
    (renderC (ds ++ [n])) b

/-- **a create session on a lower-served FILE** succeeds and only changes the top leaf -/
theorem overlay_lower_writeN {w : World} {u idu : Nat} {mu : FMap} {is ids : List Nat}
    {ms : List FMap} (h : OWN w (u :: is) (idu :: ids) (mu :: ms)) (ido : Nat)
    (ds : List Str) (n : Str) (hds : ∀ c ∈ ds, GoodComp c) (hn : GoodComp n)
    (hh : (ds ++ [n]).head? ≠ some Overlay.woDir) (hroot : RootOk mu)
    (hanc : AncDirsN (mu :: ms) ds) (e : Entry)
    (hL : LowerServes mu ms (renderC (ds ++ [n])) e) (hf : e.ftype = .file) (b : Bytes) :
    runOp { fs := Overlay.fs (layersN (u :: is) (idu :: ids)), fsId := ido,
            path := renderC (ds ++ [n]) } (.write b) w =
      (.done, w.setLeafFiles u (afterLowerWrite mu ds n b)) := by
  have hne : ds ++ [n] ≠ [] := by simp
  have hcs := good_snoc hds hn
  have hdh : ds.head? ≠ some Overlay.woDir := C10.head_ne_of_snoc hh
  have hgp := overlay_getParentN h ido ds n hds hn hroot hanc
  have hkh : (renderC (ds ++ [n])).head? = some '/' := by cases ds <;> simp
  have hp0 := find?_snoc_fillDirs (mu := mu) hds hn [] (Or.inl rfl)
  simp only [List.append_nil] at hp0
  have hk1 : (fillDirs mu (chain [] ds)).find? (renderC (ds ++ [n])) = none := by
    rw [hp0]; exact hL.topNone
  have hm1 : (fillDirs mu (chain [] ds)).contains (marker (renderC (ds ++ [n]))) = false := by
    rw [contains_marker_fillDirs hds hdh _ hkh]; exact hL.noMark
  have hv1 : viewN (fillDirs mu (chain [] ds) :: ms) (renderC (ds ++ [n])) = some e := by
    rw [viewN_lower hm1 hk1]; exact hL.low
  have hpc : pCreateFileN mu ms (ds ++ [n]) =
      (.ok (), (fillDirs mu (chain [] ds)).insert (renderC (ds ++ [n])) fileEntryNow) :=
    pCreateFileN_unmarked hds hn hroot hanc (by unfold pRefuseN; rw [hv1]; simp [hf])
      (fun e' he' => by rw [hL.topNone] at he'; cases he') hm1
  simp only [runOp, VPath.createFile, bind, M.bind, hgp]
  simp only [M.withPath, Overlay.fs, run_ocreateFileN h _ hne hcs]
  have h' := run_writeAllAndDrop (h.hu.set ((fillDirs mu (chain [] ds)).insert
    (renderC (ds ++ [n])) fileEntryNow)) (renderC (ds ++ [n])) [] 0 b
  rw [hpc]
  unfold afterLowerWrite
  generalize renderC (ds ++ [n]) = k at *
  simp [Res.map, Res.withPath, h', Vfs.World.setLeafFiles_twice, ofRes, cursorWrite_nil]

/-- after that session the TOP layer serves the path with a FRESH record (all three stamps are the
clock's: the lower entry's timestamps are gone from the view), its ancestors are directories of
the top layer: the Part-1 invariant holds -/
theorem ovInv_afterLowerWrite {mu : FMap} {ms : List FMap} (ds : List Str) (n : Str)
    (hds : ∀ c ∈ ds, GoodComp c) (hn : GoodComp n)
    (hh : (ds ++ [n]).head? ≠ some Overlay.woDir) (hwo : ds.head? ≠ some Overlay.woSuffix)
    (hroot : RootOk mu) (hanc : AncDirsN (mu :: ms) ds) (hw : WoOK mu ds) (e : Entry)
    (hL : LowerServes mu ms (renderC (ds ++ [n])) e) (b : Bytes) :
    OvInv (afterLowerWrite mu ds n b) ds n ∧
      ovAbs (afterLowerWrite mu ds n b) (renderC (ds ++ [n])) = some (TRec.fresh .file b .now) := by
  have hsep := sep_of ds n hds hn hh hwo
  have hdh : ds.head? ≠ some Overlay.woDir := C10.head_ne_of_snoc hh
  have hkh : (renderC (ds ++ [n])).head? = some '/' := by cases ds <;> simp
  have hmk := marker_ne_self (renderC (ds ++ [n]))
  -- the filled map
  have ha1 : AncTop (fillDirs mu (chain [] ds)) ds := by
    refine ⟨⟨?_, ?_⟩, ?_⟩
    · obtain ⟨e0, he0, hd0⟩ := hroot.root
      exact ⟨e0, by rw [find?_fillDirs, he0]; rfl, hd0⟩
    · have hrm : rootMarker = marker ['/'] := by decide
      rw [hrm, contains_marker_fillDirs hds hdh ['/'] rfl, ← hrm]; exact hroot.noMark
    · intro j hj1 hj2
      obtain ⟨e', hv, hd⟩ := hanc j hj1 hj2
      obtain ⟨hm, _⟩ := viewN_some_cases hv
      have hqh : (renderC (ds.take j)).head? = some '/' := by
        apply C09.renderC_head
        intro h0
        have := congrArg List.length h0
        rw [List.length_take, List.length_nil] at this
        omega
      refine ⟨by rw [contains_marker_fillDirs hds hdh _ hqh]; exact hm, ?_⟩
      have hmem : renderC (ds.take j) ∈ chain [] ds :=
        (mem_chain [] ds _).2 ⟨j, hj1, hj2, by simp⟩
      rw [find?_fillDirs, if_pos hmem]
      cases hfq : mu.find? (renderC (ds.take j)) with
      | none => exact ⟨dirEntryNow, rfl, rfl⟩
      | some e'' =>
        rw [viewN_upper hm hfq] at hv
        injection hv with hv; subst hv
        exact ⟨e'', rfl, hd⟩
  have hw1 : WoOK (fillDirs mu (chain [] ds)) ds := by
    intro q hq e' he'
    rw [find?_fillDirs] at he'
    cases hfq : mu.find? q with
    | some e'' => rw [hfq] at he'; simp at he'; subst he'; exact hw q hq e'' hfq
    | none =>
      rw [hfq] at he'
      by_cases hx : q ∈ chain [] ds
      · rw [if_pos hx] at he'; simp at he'; subst he'; rfl
      · rw [if_neg hx] at he'; simp at he'
  -- the session's map is the fresh file put into the filled map through the overlay
  have hm1 : (fillDirs mu (chain [] ds)).contains (marker (renderC (ds ++ [n]))) = false := by
    rw [contains_marker_fillDirs hds hdh _ hkh]; exact hL.noMark
  have heq : afterLowerWrite mu ds n b =
      ovApp (fillDirs mu (chain [] ds)) ds n (.put ⟨.file, b, .now, .now, .now⟩) := by
    rw [ovApp_unmarked hm1 (wr := .put _) nofun, afterLowerWrite, Mem.memPublish_eq, find?_insert_self]
    simp only [Mem.publishS, fileEntryNow, if_true, Write.app, insert_insert]
  rw [heq]
  exact ⟨ovInv_put ha1 hw1 hsep _, by rw [(ovInv_put ha1 hw1 hsep _).ovAbs, absAt_ovApp_put]; rfl⟩

/-- **entries served by a lower layer, over histories** (`quiet ++ [write b] ++ ops`): while the
lower layer serves the path, `metadata` reports THAT layer's timestamps and every setter is refused
with not-found, nothing changes; the create session succeeds and puts a FRESH top-layer entry in
front (`specStep` of the lower record: all stamps = clock); from then on every Part-1 history is
the specification's run from the fresh record; the lower layers are untouched throughout. -/
theorem overlay_lower_served_historyN {w : World} {u idu : Nat} {mu : FMap} {is ids : List Nat}
    {ms : List FMap} (h : OWN w (u :: is) (idu :: ids) (mu :: ms)) (ido : Nat)
    (ds : List Str) (n : Str) (hds : ∀ c ∈ ds, GoodComp c) (hn : GoodComp n)
    (hh : (ds ++ [n]).head? ≠ some Overlay.woDir) (hwo : ds.head? ≠ some Overlay.woSuffix)
    (hroot : RootOk mu) (hanc : AncDirsN (mu :: ms) ds) (hw : WoOK mu ds) (e : Entry)
    (hL : LowerServes mu ms (renderC (ds ++ [n])) e) (hf : e.ftype = .file)
    (quiet : List TOp) (hq : ∀ op ∈ quiet, op.lowerQuiet = true) (b : Bytes) (busy : Bool)
    (ops : List TOp) (hops : NoDirRemoval busy .now (some (TRec.fresh .file b .now)) ops) :
    (specStep busy .now (some (recOf e)) (.write b)).1 = some (TRec.fresh .file b .now) ∧
    ∃ mu', (runHist { fs := Overlay.fs (layersN (u :: is) (idu :: ids)), fsId := ido,
                      path := renderC (ds ++ [n]) } (quiet ++ .write b :: ops) w).2
          = w.setLeafFiles u mu' ∧
      OWN (w.setLeafFiles u mu') (u :: is) (idu :: ids) (mu' :: ms) ∧
      (runHist { fs := Overlay.fs (layersN (u :: is) (idu :: ids)), fsId := ido,
                 path := renderC (ds ++ [n]) } (quiet ++ .write b :: ops) w).1 =
        quiet.map (lowerOut e) ++ .done ::
          (specHist busy .now (some (TRec.fresh .file b .now)) ops).1 ∧
      ovAbs mu' (renderC (ds ++ [n])) =
        (specHist busy .now (some (TRec.fresh .file b .now)) ops).2 ∧
      OvInv mu' ds n := by
  refine ⟨by simp [specStep, recOf, hf], ?_⟩
  have hne : ds ++ [n] ≠ [] := by simp
  have hcs := good_snoc hds hn
  have hQ := overlay_lower_quiet_historyN h ido (ds ++ [n]) hne hcs e hL quiet hq
  have hW := overlay_lower_writeN h ido ds n hds hn hh hroot hanc e hL hf b
  obtain ⟨hi1, habs1⟩ := ovInv_afterLowerWrite (ms := ms) ds n hds hn hh hwo hroot hanc hw e hL b
  rw [← habs1] at hops
  obtain ⟨mu', e1, e2, e3, e4, e5⟩ :=
    overlay_history_exactN (h.setHead (afterLowerWrite mu ds n b)) ido ds n hds hn hh hwo hi1 busy
      ops hops
  rw [habs1] at e3 e4
  rw [Vfs.World.setLeafFiles_twice] at e1 e2
  refine ⟨mu', ?_, e2, ?_, e4, e5⟩
  · rw [runHist_append, hQ]; simp only [runHist, hW]; exact e1
  · rw [runHist_append, hQ]; simp only [runHist, hW, e3]

/-- FALSE as written (stated only). An append session on a lower-served file copies the entry up:
the top layer then holds the old bytes ++ `b` with a NEW `created` stamp (the clock), whatever
`created` the lower entry had. But the conclusion fixes the world as `w.setLeafFiles u mu'`, every
leaf but the top one unchanged, and the copy-up reads the serving lower entry through `open_file`,
which stamps ITS access time (`stampFirst`): with a lower entry whose `accessed` is not the clock's
the serving leaf changes too. Proved instead: `run_oappendFileN` with `pAppendN_copyUp` (the call
as a function of the maps, lower maps `stampFirst ms k`) and `C04.append_continues_first_layerN`
(the session, its bytes, the exact lower maps afterwards). -/
def overlay_lower_appendN_stmt : Prop :=
  ∀ {w : World} {u idu : Nat} {mu : FMap} {is ids : List Nat} {ms : List FMap}
    (_ : OWN w (u :: is) (idu :: ids) (mu :: ms)) (ido : Nat)
    (ds : List Str) (n : Str) (_ : ∀ c ∈ ds, GoodComp c) (_ : GoodComp n)
    (_ : (ds ++ [n]).head? ≠ some Overlay.woDir) (_ : RootOk mu)
    (_ : AncDirsN (mu :: ms) ds) (e : Entry)
    (_ : LowerServes mu ms (renderC (ds ++ [n])) e) (_ : e.ftype = .file) (b : Bytes),
    ∃ mu' e', runOp { fs := Overlay.fs (layersN (u :: is) (idu :: ids)), fsId := ido,
                      path := renderC (ds ++ [n]) } (.append b) w
        = (.done, w.setLeafFiles u mu') ∧
      mu'.find? (renderC (ds ++ [n])) = some e' ∧ e'.ftype = .file ∧
      e'.content = e.content ++ b ∧ e'.created = .now

/-- NOT PROVED: the full statement with `remove_dir` of directories that have children; `busy` has
to be the overlay's merged listing, tracked along the history (missing: preservation lemmas for
`pListingN` under the ten steps). -/
def overlay_history_exactN_stmt : Prop :=
  ∀ {w : World} {u idu : Nat} {mu : FMap} {is ids : List Nat} {ms : List FMap}
    (_ : OWN w (u :: is) (idu :: ids) (mu :: ms)) (ido : Nat)
    (ds : List Str) (n : Str) (_ : ∀ c ∈ ds, GoodComp c) (_ : GoodComp n)
    (_ : (ds ++ [n]).head? ≠ some Overlay.woDir) (_ : ds.head? ≠ some Overlay.woSuffix)
    (_ : ∀ m ∈ mu :: ms, WF m) (_ : OvInv mu ds n) (ops : List TOp),
    (runHist { fs := Overlay.fs (layersN (u :: is) (idu :: ids)), fsId := ido,
               path := renderC (ds ++ [n]) } ops w).1 =
      (specHist (decide (pListingN (mu :: ms) (renderC (ds ++ [n])) ≠ [])) .now
        (ovAbs mu (renderC (ds ++ [n]))) ops).1

/-! ### Part 3: non-vacuity on the 3-layer world of Props/C09Refine.lean -/

section concrete
open Vfs.C09 (xw xU xA xB xw_setting)

/-- "/top" is served by the top layer (leaf 2) of the three-layer world -/
theorem x_top_inv : OvInv xU [] "top".toList := by
  refine ⟨⟨⟨⟨_, rfl, rfl⟩, by decide⟩, ?_⟩, ?_, Or.inl ⟨by decide, Vfs.C01.fileOf [84], by decide⟩⟩
  · intro j h1 h2; simp at h2; omega
  · exact WoOK.of_absent (by decide +kernel)

/-- all ten kinds; `remove_dir` only while the path is a file, absent or hidden -/
def xTopOps : List TOp :=
  [ .metadata, .setCreated 5, .setModified 6, .setAccessed 8, .append [3], .read, .removeDir,
    .removeFile, .metadata, .removeDir, .setCreated 1, .createDir, .metadata, .write [1],
    .removeFile, .write [9, 9], .metadata ]

example : NoDirRemoval false .now (ovAbs xU (renderC ([] ++ ["top".toList]))) xTopOps := by decide

example : ∀ c ∈ ([] : List Str), GoodComp c := by simp
example : GoodComp "top".toList := by decide
example : (([] : List Str) ++ ["top".toList]).head? ≠ some Overlay.woDir := by decide

/-- the conclusion of `overlay_history_exactN`, evaluated: the run through the 3-layer overlay
equals the specification's -/
example : (runHist { fs := Overlay.fs (layersN [2, 0, 1] [7, 8, 9]), fsId := 3,
                     path := renderC ([] ++ ["top".toList]) } xTopOps xw).1 =
    (specHist false .now (ovAbs xU (renderC ([] ++ ["top".toList]))) xTopOps).1 :=
  (overlay_history_exactN xw_setting 3 [] "top".toList (by simp) (by decide) (by decide)
    (by decide) x_top_inv false xTopOps (by decide)).choose_spec.2.2.1

set_option maxRecDepth 100000 in
example : (specHist false .now (ovAbs xU (renderC ([] ++ ["top".toList]))) xTopOps).1 =
    [ .info ⟨.file, 1, .now, .now, .now⟩, .done, .done, .done, .done, .data [84, 3],
      .refused .other, .done, .refused .fileNotFound, .refused .fileNotFound,
      .refused .fileNotFound, .done, .info ⟨.dir, 0, .now, .now, .now⟩, .refused .other,
      .refused .other, .refused .other, .info ⟨.dir, 0, .now, .now, .now⟩ ] := by
  decide +kernel

/-- "/d/x" is served by layer 1 (leaf 0; layer 2 holds another "/d/x"), its ancestor "/d" lives in
the lower layers only -/
theorem x_dx_lower : LowerServes xU [xA, xB] (renderC (["d".toList] ++ ["x".toList]))
    (Vfs.C01.fileOf [49]) := ⟨by decide, by decide, by decide⟩

theorem x_dx_anc : AncDirsN [xU, xA, xB] ["d".toList] := by
  intro j h1 h2
  have : j = 1 := by simp at h2; omega
  subst this
  exact ⟨dirEntryNow, by decide, rfl⟩

theorem x_dx_wo : WoOK xU ["d".toList] := WoOK.of_absent (by decide +kernel)

def xQuiet : List TOp := [.metadata, .setCreated 5, .setModified 6, .setAccessed 8, .metadata]
def xAfter : List TOp :=
  [.metadata, .setCreated 5, .metadata, .removeFile, .metadata, .setAccessed 2, .write [4], .read]

/-- `overlay_lower_served_historyN` instantiated on the three-layer world -/
example : (runHist { fs := Overlay.fs (layersN [2, 0, 1] [7, 8, 9]), fsId := 3,
                     path := renderC (["d".toList] ++ ["x".toList]) }
              (xQuiet ++ .write [7] :: xAfter) xw).1 =
    xQuiet.map (lowerOut (Vfs.C01.fileOf [49])) ++ .done ::
      (specHist false .now (some (TRec.fresh .file [7] .now)) xAfter).1 :=
  (overlay_lower_served_historyN xw_setting 3 ["d".toList] "x".toList (by decide) (by decide)
    (by decide) (by decide) ⟨⟨_, rfl, rfl⟩, by decide⟩ x_dx_anc x_dx_wo _ x_dx_lower rfl
    xQuiet (by decide) [7] false xAfter (by decide)).2.choose_spec.2.2.1

set_option maxRecDepth 100000 in
/-- … and evaluated directly on the model -/
example : (runHist { fs := Overlay.fs (layersN [2, 0, 1] [7, 8, 9]), fsId := 3,
                     path := renderC (["d".toList] ++ ["x".toList]) }
              (xQuiet ++ .write [7] :: xAfter) xw).1 =
    [ .info ⟨.file, 1, .now, .now, .now⟩, .refused .fileNotFound, .refused .fileNotFound,
      .refused .fileNotFound, .info ⟨.file, 1, .now, .now, .now⟩, .done,
      .info ⟨.file, 1, .now, .now, .now⟩, .done, .info ⟨.file, 1, .at 5, .now, .now⟩, .done,
      .refused .fileNotFound, .refused .fileNotFound, .done, .data [4] ] := by
  decide +kernel

end concrete

#print axioms Vfs.C19.overlay_history_exactN
#print axioms Vfs.C19.overlay_history_exact_noRemoveDirN
#print axioms Vfs.C19.overlay_lower_quiet_historyN
#print axioms Vfs.C19.overlay_lower_writeN
#print axioms Vfs.C19.overlay_lower_served_historyN

end Vfs.C19
