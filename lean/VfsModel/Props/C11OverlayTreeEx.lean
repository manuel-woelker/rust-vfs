/-
  Props/C11OverlayTree.lean on a concrete world: the 3-layer example world of Props/C09Refine.lean
  (leaves 2,0,1) plus a source leaf 3 holding a NESTED tree (depth 3, an empty directory, storage
  order not sorted); the reference world holds `C09.xRef` at leaf 0 and the same source leaf.
  `y_ros`, `y_srcNames`: the hypotheses of `copyDir_into_overlay_sim` hold; `y_copy_sim`: the
  theorem instantiated; `y_outcomes`, `y_final_agree`: the two runs evaluated independently: both
  `Ok 4`, final view = final reference map on every key that occurs. `y_move_sim`,
  `y_move_outcomes`: the same for `move_dir` (`remove_dir_all` evaluated through its structural
  twin `rmAllK`).
-/
import VfsModel.Props.C11OverlayTree
import VfsModel.Proofs.RunEq
import VfsModel.Props.C09RefineExists
namespace Vfs.C11
open Vfs Vfs.Overlay Vfs.C02 Vfs.C01 Vfs.C09 Vfs.C05

section example4
open Vfs.C10 (mapsOfN world4)

/-- the source tree on leaf 3: "/t" with a sub-directory "/t/a" holding a file and an EMPTY
directory, and a file "/t/g" (depth 3; storage order not sorted) -/
def ySrc : FMap :=
  [("/t/g".toList, C09.fileOf [3]), ("/t/a/e".toList, dirEntryNow), ("/t/a/f".toList, C09.fileOf [1, 2]),
   ("/t/a".toList, dirEntryNow), ("/t".toList, dirEntryNow), ([], dirEntryNow)]

/-- overlay world: leaves 0,1,2 as in `C09.xw` (layers 2,0,1), leaf 3 the source -/
def yw1 : World := world4 xA xB xU ySrc
/-- reference world: leaf 0 holds the reference tree `C09.xRef`, leaf 3 the source -/
def yw2 : World := world4 xRef [] [] ySrc

def ySrcP : VPath := ⟨leafFS 3, 4, "/t".toList⟩
def yDst1 : VPath := ⟨Overlay.fs (layersN [2, 0, 1] [7, 8, 9]), 5, renderC ["d".toList, "copy".toList]⟩
def yDst2 : VPath := ⟨leafFS 0, 6, renderC ["d".toList, "copy".toList]⟩

theorem srcNames_of_keys {m : FMap}
    (h : ∀ k ∈ m.keys, '/' ∈ k → GoodComp (afterLast '/' k) ∧ NoWo (afterLast '/' k)) : SrcNames m :=
  fun k e he hsl => h k ((FMap.mem_keys_iff m k).2 ⟨e, he⟩) hsl

theorem y_ros : ROS 2 7 [0, 1] [8, 9] 0 3 ySrc xU [xA, xB] xRef yw1 yw2 :=
  ⟨⟨⟨.cons rfl (by decide) (.cons rfl (by decide) (.cons rfl (by decide) .nil)), xw_inv, xw_viewWF⟩,
    rfl, xw_refines⟩, rfl, rfl⟩

theorem y_srcNames : SrcNames ySrc := srcNames_of_keys (by decide +kernel)

theorem y_copy_sim :
    ∃ m' mu' ms' a',
      ROS 2 7 [0, 1] [8, 9] 0 3 m' mu' ms' a' (VPath.copyDir 10 ySrcP yDst1 yw1).2
        (VPath.copyDir 10 ySrcP yDst2 yw2).2 ∧ SrcNames m' ∧
      OutSame (VPath.copyDir 10 ySrcP yDst1 yw1).1 (VPath.copyDir 10 ySrcP yDst2 yw2).1 :=
  copyDir_into_overlay_sim (by decide) (by decide) 5 6 4 (by decide) (by decide) 10 "/t".toList
    (by decide) y_ros y_srcNames

/-! The four runs, each evaluated once into a written-out world. The copy arrives in the upper
layer of the overlay and at the front of the reference map; the lower layers are not touched; the
reads of the walk reorder the source map (the access time is stamped by re-inserting the entry). -/
def yCopy : FMap :=
  [(chars "/d/copy/a/f", C09.fileOf [1, 2]), (chars "/d/copy/a/e", dirEntryNow),
   (chars "/d/copy/a", dirEntryNow), (chars "/d/copy/g", C09.fileOf [3]), (chars "/d/copy", dirEntryNow)]
def ySrc' : FMap :=
  [(chars "/t/a/f", C09.fileOf [1, 2]), (chars "/t/g", C09.fileOf [3]), (chars "/t/a/e", dirEntryNow),
   (chars "/t/a", dirEntryNow), (chars "/t", dirEntryNow), ([], dirEntryNow)]
def yUpper : FMap := yCopy ++ (chars "/d", dirEntryNow) :: xU

theorem y_copy1 : VPath.copyDir 10 ySrcP yDst1 yw1 = (.ok 4, world4 xA xB yUpper ySrc') :=
  run_eq_of_fields (by decide +kernel)
theorem y_copy2 : VPath.copyDir 10 ySrcP yDst2 yw2 = (.ok 4, world4 (yCopy ++ xRef) [] [] ySrc') :=
  run_eq_of_fields (by decide +kernel)
theorem y_move1 : VPath.moveDir 10 ySrcP yDst1 yw1 = (.ok (), world4 xA xB yUpper [([], dirEntryNow)]) := by
  rw [VPath.moveDir_of_copyDir (fun _ => rfl) y_copy1, ← rmAllK_eq]
  exact run_eq_of_fields (by decide +kernel)
theorem y_move2 : VPath.moveDir 10 ySrcP yDst2 yw2 =
    (.ok (), world4 (yCopy ++ xRef) [] [] [([], dirEntryNow)]) := by
  rw [VPath.moveDir_of_copyDir (fun _ => rfl) y_copy2, ← rmAllK_eq]
  exact run_eq_of_fields (by decide +kernel)

theorem y_outcomes : (VPath.copyDir 10 ySrcP yDst1 yw1).1 = .ok 4 ∧
    (VPath.copyDir 10 ySrcP yDst2 yw2).1 = .ok 4 := by rw [y_copy1, y_copy2]; exact ⟨rfl, rfl⟩

theorem y_final_agree :
    ∀ q ∈ (mapsOfN (VPath.copyDir 10 ySrcP yDst1 yw1).2 [2, 0, 1]).flatMap FMap.keys ++
        (mapsOfN (VPath.copyDir 10 ySrcP yDst2 yw2).2 [0]).flatMap FMap.keys,
      Vis q → (oview (mapsOfN (VPath.copyDir 10 ySrcP yDst1 yw1).2 [2, 0, 1]) q).map vcore
        = (mview ((mapsOfN (VPath.copyDir 10 ySrcP yDst2 yw2).2 [0]).headD []) q).map vcore := by
  rw [y_copy1, y_copy2]; decide +kernel

example : (oview (mapsOfN (VPath.copyDir 10 ySrcP yDst1 yw1).2 [2, 0, 1]) "/d/copy/a/e".toList).map vcore
    = some (.dir, []) := by rw [y_copy1]; decide +kernel
example : (oview (mapsOfN (VPath.copyDir 10 ySrcP yDst1 yw1).2 [2, 0, 1]) "/d/copy/a/f".toList).map vcore
    = some (.file, [1, 2]) := by rw [y_copy1]; decide +kernel
example : (VPath.copyDir 3 ySrcP yDst1 yw1).1 = .panic ∧ (VPath.copyDir 3 ySrcP yDst2 yw2).1 = .panic := by
  decide +kernel
example : (VPath.copyDir 10 ySrcP ⟨Overlay.fs (layersN [2, 0, 1] [7, 8, 9]), 5, "/d".toList⟩ yw1).1.isOk = false ∧
    (VPath.copyDir 10 ySrcP ⟨leafFS 0, 6, "/d".toList⟩ yw2).1.isOk = false := by decide +kernel

theorem y_move_sim :
    ∃ m' mu' ms' a',
      ROS 2 7 [0, 1] [8, 9] 0 3 m' mu' ms' a' (VPath.moveDir 10 ySrcP yDst1 yw1).2
        (VPath.moveDir 10 ySrcP yDst2 yw2).2 ∧
      OutSame (VPath.moveDir 10 ySrcP yDst1 yw1).1 (VPath.moveDir 10 ySrcP yDst2 yw2).1 :=
  moveDir_into_overlay_sim (by decide) (by decide) 5 6 4 (by decide) (by decide) 10 "/t".toList
    (by decide) y_ros y_srcNames

theorem y_move_outcomes : (VPath.moveDir 10 ySrcP yDst1 yw1).1 = .ok () ∧
    (VPath.moveDir 10 ySrcP yDst2 yw2).1 = .ok () ∧
    (mapsOfN (VPath.moveDir 10 ySrcP yDst1 yw1).2 [3]) = (mapsOfN (VPath.moveDir 10 ySrcP yDst2 yw2).2 [3]) ∧
    ((mapsOfN (VPath.moveDir 10 ySrcP yDst1 yw1).2 [3]).headD []).find? "/t".toList = none := by
  rw [y_move1, y_move2]; decide

theorem y_move_final_agree :
    ∀ q ∈ (mapsOfN (VPath.moveDir 10 ySrcP yDst1 yw1).2 [2, 0, 1]).flatMap FMap.keys ++
        (mapsOfN (VPath.moveDir 10 ySrcP yDst2 yw2).2 [0]).flatMap FMap.keys,
      Vis q → (oview (mapsOfN (VPath.moveDir 10 ySrcP yDst1 yw1).2 [2, 0, 1]) q).map vcore
        = (mview ((mapsOfN (VPath.moveDir 10 ySrcP yDst2 yw2).2 [0]).headD []) q).map vcore := by
  rw [y_move1, y_move2]; decide +kernel

example := copyFile_into_overlay_sim (u := 2) (idu := 7) (is := [0, 1]) (ids := [8, 9]) (r := 0) (s := 3)
  (by decide) (by decide) 5 6 4 (by decide) (by decide) "/t/a/f".toList
  (cs := ["d".toList, "x2".toList]) (by decide) y_ros

end example4

/-- for every overlay world in the setting whose view is well-formed and canonical, and every
world whose leaf `r` is a memory leaf: after storing `C09.refTree` there the two are related -/
theorem RO.exists_ref {u idu : Nat} {is ids : List Nat} {r : Nat} {mu : FMap} {ms : List FMap}
    {w1 w2 : World} {a0 : FMap} (st : OSt u idu is ids ms w1 mu)
    (hcan : ViewCanon (oview (mu :: ms))) (hleaf : MemLeafAt w2 r a0) :
    RO u idu is ids r mu ms (refTree (mu :: ms)) w1 (w2.setLeafFiles r (refTree (mu :: ms))) :=
  ⟨st, hleaf.set _, reference_tree_exists _ st.vwf hcan⟩

end Vfs.C11

section audit
open Vfs.C11
#print axioms y_copy_sim
#print axioms y_outcomes
#print axioms y_final_agree
#print axioms y_move_sim
#print axioms y_move_outcomes
#print axioms y_move_final_agree
#print axioms RO.exists_ref
end audit
