/-
  C11 through an AltrootFS — create_dir_all / remove_dir_all / copy_dir / move_dir called on paths
  of an altroot filesystem (src/impls/altroot.rs) rooted at a canonical directory `P` of an
  in-memory filesystem are EXACT in the sense of Props/C11.lean / Props/C11Nested.lean: the
  exactness theorems of the in-memory backend are TRANSFERRED along the simulation "the altroot
  over `P` is the memory filesystem holding `sub P m`" (Proofs/SubtreeSim.lean,
  Props/C07Subtree.lean) with `SimM.transfer`.

  The relations and the sub-map are those of the namespace `Vfs.T` (Proofs/SimT.lean,
  Proofs/SubtreeSimT.lean, Proofs/AltrootSubtreeT.lean: the definitions of Proofs/Sim.lean /
  Proofs/SubtreeSim.lean written out again, proved equal to them, with the theorems carried over;
  the last also has the simulation for the relation that carries "nothing outside `P` changes", and
  a plain memory leaf inside the relation).

  Setting `AltSub w i P m`: leaf `i` of the world is a memory leaf holding `m`; `P` canonical;
  `Inv0 (sub P m)` (`P` is a directory of `m`, the keys at or below `P` are canonical after
  stripping `P`); `AncOK P m` (the proper ancestors of `P` are directories). `sub P m` = the map
  below `P` with `P` stripped: `(sub P m).find? q = m.find? (P ++ q)` for `q = ""` or `q = "/…"`
  (`T.find?_sub`). Paths of the altroot: `apath i id P id' q` =
  `⟨Altroot.fs ⟨leafFS i, id, P⟩, id', q⟩`, `q` canonical. The in-memory theorems are applied to
  the sub-map, so their hypotheses are stated for `sub P m`: `WF (sub P m)`,
  `FMap.NodupKeys (sub P m)` — both follow from `WF m`, `NodupKeys m` (`wf_sub`, `nodupKeys_sub`).

  `altroot_createDirAll_exact`, `altroot_removeDirAll_exact` (read on the leaf map:
  `altroot_removeDirAll_exact_leaf`), `altroot_copyDir_exact`, `altroot_moveDir_exact`: in all
  four the other leaves of the world are unchanged; `P` and its ancestors are still directories
  of the new leaf map; the result is EQUAL to the in-memory result.
  `altroot_results_agree`: for ANY outcome of the in-memory run (also failures) the altroot run
  has the same outcome class, for all four operations.
  `altroot_outside_unchanged`: NOTHING OUTSIDE `P` CHANGES, whatever the outcome. Proved by
  taking the simulation for the relation that also carries the invariant `Frm.Outside`
  (Proofs/AltrootSubtreeT.lean) and running the parametricity theorems again.
  `altroot_copyDir_to_leaf_exact`, `altroot_moveDir_to_leaf_exact`: source through the altroot on
  leaf `i`, destination a PLAIN memory filesystem on another leaf `j` (well-formed, canonical
  keys; different `Arc` identities `id' ≠ did`), from `C11.copyDir_exact_cross` /
  `moveDir_exact_cross` (a plain memory leaf is the role `.sub ""` of the relation).

  NOT PROVED: in the two-filesystem theorems the statements about leaf `j` are for rooted keys
  (`""` or `"/…"`; a well-formed map has no others) and the frame of leaf `i` outside `P` is not
  restated there; a destination altroot / a physical or overlay destination;
  `remove_dir_all("")` on the altroot's own root (outside the simulation: it would remove `P`
  itself).
-/
import VfsModel.Proofs.AltrootSubtreeT
import VfsModel.Props.C11Nested
set_option linter.unusedVariables false
set_option linter.unusedSectionVars false
set_option linter.unusedSimpArgs false
namespace Vfs.C11
/- The relations, the sub-map and their lemmas exist twice, in `Vfs` and (same bodies) in `Vfs.T`;
this file is stated and proved with those of `Vfs.T`. -/
export Vfs.T (RelRes SimM SimVPath sub stripP Rooted Inv0 AncOK RSub PRdrop HSub find?_sub
  sub_cons_none sub_cons_some stripP_some parent_shift altroot_sim_leaf simHandles_sub
  leafFS_sim_root)
open Vfs Vfs.T Vfs.T.C07
open Vfs.CD (shape)

structure AltSub (w : World) (i : Nat) (P : Str) (m : FMap) : Prop where
  leaf : MemLeafAt w i m
  canonP : Canon P
  inv : Inv0 (sub P m)
  anc : AncOK P m

abbrev subWorld (w : World) (i : Nat) (P : Str) (m : FMap) : World := w.setLeafFiles i (sub P m)

theorem specOne_self (i : Nat) (P : Str) : specOne i P i = .sub P := by
  unfold specOne; rw [if_pos rfl]

theorem specOne_other {i j : Nat} (P : Str) (h : j ≠ i) : specOne i P j = .free := by
  unfold specOne; rw [if_neg h]

section setting
variable {w : World} {i : Nat} {P : Str} {m : FMap} (a : AltSub w i P m)
include a

theorem AltSub.rel : RSub (specOne i P) w (subWorld w i P m) :=
  rsub_of_leaf w i P m a.leaf a.inv a.anc

theorem AltSub.subLeaf : MemLeafAt (subWorld w i P m) i (sub P m) := a.leaf.set _

theorem AltSub.find (q : Str) (hq : Canon q) : (sub P m).find? q = m.find? (P ++ q) :=
  find?_sub P m q hq.rootedT

theorem AltSub.keysCanon : ∀ k e, (sub P m).find? k = some e → Canon k :=
  fun k e he => a.inv.2 k ((FMap.mem_keys_iff _ k).2 ⟨e, he⟩)

omit a in
theorem subWorld_other (w : World) (P : Str) (m : FMap) {i j : Nat} (h : j ≠ i) :
    (subWorld w i P m).leaf? j = w.leaf? j :=
  World.leaf?_setLeafFiles_ne w i j _ (fun e => h e.symm)

end setting

theorem relres_ok_inv {α : Type} {r1 : Res α} {x : α} (h : RelRes PRdrop (· = ·) r1 (.ok x)) :
    r1 = .ok x := by
  cases h with
  | ok hq => rw [hq]

theorem relres_err_inv {α : Type} {r1 : Res α} {k : ErrKind} {p2 : Option Str}
    (h : RelRes PRdrop (· = ·) r1 (.err k p2)) : ∃ p1, r1 = .err k p1 := by
  cases h with
  | err hp => exact ⟨_, rfl⟩

theorem relres_panic_iff {α β : Type} {PR : Option Str → Option Str → Prop} {Q : α → β → Prop}
    {r1 : Res α} {r2 : Res β} (h : RelRes PR Q r1 r2) : r1 = .panic ↔ r2 = .panic := by
  cases h <;> simp

theorem relres_isOk {α β : Type} {PR : Option Str → Option Str → Prop} {Q : α → β → Prop}
    {r1 : Res α} {r2 : Res β} (h : RelRes PR Q r1 r2) : r1.isOk = r2.isOk := by
  cases h <;> rfl

theorem relres_kind {α β : Type} {PR : Option Str → Option Str → Prop} {Q : α → β → Prop}
    {r1 : Res α} {r2 : Res β} (h : RelRes PR Q r1 r2) : r1.kind? = r2.kind? := by
  cases h <;> rfl

theorem after_sub {i : Nat} {P : Str} {w1' w2' : World} (hr : RSub (specOne i P) w1' w2')
    {m2' : FMap} (h2 : MemLeafAt w2' i m2') :
    ∃ m1', MemLeafAt w1' i m1' ∧ sub P m1' = m2' ∧ Inv0 (sub P m1') ∧ AncOK P m1' ∧
      ∀ j, j ≠ i → w1'.leaf? j = w2'.leaf? j := by
  have hl := hr.leaf i
  rw [specOne_self] at hl
  obtain ⟨m1, a1, a2, a3, a4⟩ := hl
  have h2' : MemLeafAt w2' i (sub P m1) := a2
  refine ⟨m1, a1, MemLeafAt.unique h2' h2, a3, a4, fun j hj => ?_⟩
  have := hr.leaf j
  rw [specOne_other P hj] at this
  exact this

theorem nodupKeys_sub (P : Str) {m : FMap} (h : FMap.NodupKeys m) : FMap.NodupKeys (sub P m) :=
  Vfs.nodupKeys_sub P h

theorem wf_sub {P : Str} {m : FMap} (hwf : WF m) (hinv : Inv0 (sub P m)) : WF (sub P m) :=
  Vfs.wf_sub hwf hinv

section ops
variable {w : World} {i : Nat} {P : Str} {m : FMap} (a : AltSub w i P m) (id id' : Nat)
include a

theorem AltSub.transfer {α : Type} {op1 op2 : M α}
    (hsim : SimM (RSub (specOne i P)) PRdrop (· = ·) op1 op2) {v : α} {w2' : World}
    (hrun : op2 (subWorld w i P m) = (.ok v, w2')) {m2' : FMap} (h2 : MemLeafAt w2' i m2') :
    (op1 w).1 = .ok v ∧ ∃ m1', MemLeafAt (op1 w).2 i m1' ∧ sub P m1' = m2' ∧ Inv0 (sub P m1') ∧
      AncOK P m1' ∧ ∀ j, j ≠ i → (op1 w).2.leaf? j = w2'.leaf? j := by
  obtain ⟨hres, hrel⟩ := hsim.transfer a.rel hrun
  exact ⟨relres_ok_inv hres, after_sub hrel h2⟩

/-- **create_dir_all through the altroot is exact.** No prefix of the requested path (below `P`)
is a file: the call succeeds, and below `P` the new map is the old one plus exactly the chain of
directories. -/
theorem altroot_createDirAll_exact (hwf : WF (sub P m)) (cs : List Str)
    (hg : ∀ c ∈ cs, GoodComp c)
    (hnf : ∀ k, k < cs.length → ∀ e, m.find? (P ++ renderC (cs.take (k + 1))) = some e →
      e.ftype = .dir) :
    (VPath.createDirAll (apath i id P id' (renderC cs)) w).1 = .ok () ∧
    ∃ m1', MemLeafAt (VPath.createDirAll (apath i id P id' (renderC cs)) w).2 i m1' ∧
      ChainMade (sub P m) (sub P m1') cs ∧ Inv0 (sub P m1') ∧ AncOK P m1' ∧
      ∀ j, j ≠ i → (VPath.createDirAll (apath i id P id' (renderC cs)) w).2.leaf? j = w.leaf? j := by
  have hnf' : ∀ k, k < cs.length → ∀ e, (sub P m).find? (renderC (cs.take (k + 1))) = some e →
      e.ftype = .dir := by
    intro k hk e he
    rw [a.find _ ⟨cs.take (k + 1), fun c hc => hg c (List.mem_of_mem_take hc), rfl⟩] at he
    exact hnf k hk e he
  obtain ⟨m', hrun, hmade⟩ := C11.createDirAll_exact a.subLeaf hwf id' cs hg hnf'
  obtain ⟨hres, m1', hl1, rfl, hinv1, hanc1, hoth⟩ := a.transfer (altroot_create_dir_all
    (specOne_self i P) a.canonP id id' (q := renderC cs) ⟨cs, hg, rfl⟩) hrun ((a.subLeaf).set m')
  refine ⟨hres, m1', hl1, hmade, hinv1, hanc1, fun j hj => ?_⟩
  rw [hoth j hj, World.leaf?_setLeafFiles_ne _ i j _ (fun e => hj e.symm), subWorld_other w P m hj]

/-- **remove_dir_all through the altroot is exact.** `q ≠ ""` is a directory below `P`; fuel as
in `C11.removeDirAll_exact`, measured on the sub-map: the call succeeds and below `P` exactly the
keys at or below `q` are gone. -/
theorem altroot_removeDirAll_exact (hwf : WF (sub P m)) (hnd : FMap.NodupKeys (sub P m))
    (fuel : Nat) {q : Str} (hq : Canon q) (hne : q ≠ [])
    (hdir : ∃ e, m.find? (P ++ q) = some e ∧ e.ftype = .dir)
    (hfuel : ∀ k e', (sub P m).find? k = some e' → k.length < q.length + fuel) :
    (VPath.removeDirAll fuel (apath i id P id' q) w).1 = .ok () ∧
    ∃ m1', MemLeafAt (VPath.removeDirAll fuel (apath i id P id' q) w).2 i m1' ∧
      (∀ k, (sub P m1').find? k = if under q k then none else (sub P m).find? k) ∧
      WF (sub P m1') ∧ FMap.NodupKeys (sub P m1') ∧ Inv0 (sub P m1') ∧ AncOK P m1' ∧
      ∀ j, j ≠ i → (VPath.removeDirAll fuel (apath i id P id' q) w).2.leaf? j = w.leaf? j := by
  obtain ⟨e, he, hd⟩ := hdir
  rw [← a.find q hq] at he
  obtain ⟨m', hrun, hwf', hnd', hfind⟩ :=
    C11.removeDirAll_exact a.subLeaf hwf hnd id' fuel q e hne he hd hfuel
  obtain ⟨hres, m1', hl1, rfl, hinv1, hanc1, hoth⟩ := a.transfer (altroot_remove_dir_all
    (specOne_self i P) a.canonP id id' fuel hq hne) hrun ((a.subLeaf).set m')
  refine ⟨hres, m1', hl1, hfind, hwf', hnd', hinv1, hanc1, fun j hj => ?_⟩
  rw [hoth j hj, World.leaf?_setLeafFiles_ne _ i j _ (fun e => hj e.symm), subWorld_other w P m hj]

theorem altroot_removeDirAll_exact_leaf (hwf : WF (sub P m)) (hnd : FMap.NodupKeys (sub P m))
    (fuel : Nat) {q : Str} (hq : Canon q) (hne : q ≠ [])
    (hdir : ∃ e, m.find? (P ++ q) = some e ∧ e.ftype = .dir)
    (hfuel : ∀ k e', (sub P m).find? k = some e' → k.length < q.length + fuel) :
    ∃ m1', MemLeafAt (VPath.removeDirAll fuel (apath i id P id' q) w).2 i m1' ∧
      ∀ k, Rooted k → m1'.find? (P ++ k) = if under q k then none else m.find? (P ++ k) := by
  obtain ⟨_, m1', hl, hfind, _⟩ := altroot_removeDirAll_exact a id id' hwf hnd fuel hq hne hdir hfuel
  refine ⟨m1', hl, fun k hk => ?_⟩
  rw [← find?_sub P m1' k hk, ← find?_sub P m k hk]
  exact hfind k

/-- **copy_dir between two paths of the altroot is exact.** The hypotheses of
`C11.copyDir_exact` on the sub-map (source `s` a directory, destination `d = renderC bs` fresh
and not at or below `s`, fuel above the number of descendants): `Ok` with that number, `d` is a
fresh directory, the whole subtree is grafted below it, every other key below `P` is unchanged up
to access times. -/
theorem altroot_copyDir_exact (hwf : WF (sub P m)) (hnd : FMap.NodupKeys (sub P m))
    (fuel : Nat) {s : Str} (hs : Canon s) (bs : List Str) (hbs : ∀ c ∈ bs, GoodComp c)
    (hdir : ∃ se, m.find? (P ++ s) = some se ∧ se.ftype = .dir)
    (hfresh : FreshDest (sub P m) (renderC bs)) (hout : under s (renderC bs) = false)
    (hfuel : descendants (sub P m) s < fuel) :
    (VPath.copyDir fuel (apath i id P id' s) (apath i id P id' (renderC bs)) w).1
      = .ok (descendants (sub P m) s) ∧
    ∃ m1', MemLeafAt (VPath.copyDir fuel (apath i id P id' s) (apath i id P id' (renderC bs)) w).2
        i m1' ∧
      (sub P m1').find? (renderC bs) = some dirEntryNow ∧
      (∀ t, ((sub P m1').find? (renderC bs ++ '/' :: t)).map core =
        ((sub P m).find? (s ++ '/' :: t)).map shape) ∧
      (∀ k, under (renderC bs) k = false →
        ((sub P m1').find? k).map stripAcc = ((sub P m).find? k).map stripAcc) ∧
      WF (sub P m1') ∧ Inv0 (sub P m1') ∧ AncOK P m1' ∧
      ∀ j, j ≠ i → (VPath.copyDir fuel (apath i id P id' s)
        (apath i id P id' (renderC bs)) w).2.leaf? j = w.leaf? j := by
  obtain ⟨se, hse, hsd⟩ := hdir
  rw [← a.find s hs] at hse
  obtain ⟨w', ms', md', hrun, hi', hj', hwfs', hwfd', hoth', hd1, hgraft, hframe, _⟩ :=
    C11.copyDir_exact a.subLeaf a.subLeaf hwf hwf hnd id' id' fuel s bs hbs ⟨se, hse, hsd⟩
      (fun k e he _ => a.keysCanon k e he) hfresh (fun _ => hout) hfuel
  obtain ⟨hres, m1', hl1, rfl, hinv1, hanc1, hoth⟩ := a.transfer (altroot_copy_dir
    (specOne_self i P) a.canonP id id' fuel hs (d := renderC bs) ⟨bs, hbs, rfl⟩ hfresh.ne_nil) hrun hj'
  refine ⟨hres, m1', hl1, hd1, hgraft, hframe, hwfd', hinv1, hanc1, fun j hj => ?_⟩
  rw [hoth j hj, hoth' j hj hj, subWorld_other w P m hj]

/-- **move_dir between two paths of the altroot is exact**: as `altroot_copyDir_exact`, and no
key at or below the source is left below `P`; every key below `P` that is neither at or below
the source nor at or below the destination is unchanged up to access times. -/
theorem altroot_moveDir_exact (hwf : WF (sub P m)) (hnd : FMap.NodupKeys (sub P m))
    (fuel : Nat) {s : Str} (hs : Canon s) (hsne : s ≠ []) (bs : List Str)
    (hbs : ∀ c ∈ bs, GoodComp c)
    (hdir : ∃ se, m.find? (P ++ s) = some se ∧ se.ftype = .dir)
    (hfresh : FreshDest (sub P m) (renderC bs)) (hout : under s (renderC bs) = false)
    (hfuel : descendants (sub P m) s < fuel)
    (hb1 : ∀ k e, (sub P m).find? k = some e → k.length < s.length + fuel)
    (hb2 : ∀ k e, (sub P m).find? k = some e → under s k = true →
      (renderC bs).length + k.length < 2 * s.length + fuel) :
    (VPath.moveDir fuel (apath i id P id' s) (apath i id P id' (renderC bs)) w).1 = .ok () ∧
    ∃ m1', MemLeafAt (VPath.moveDir fuel (apath i id P id' s) (apath i id P id' (renderC bs)) w).2
        i m1' ∧
      (∀ k, under s k = true → (sub P m1').find? k = none) ∧
      (sub P m1').find? (renderC bs) = some dirEntryNow ∧
      (∀ t, ((sub P m1').find? (renderC bs ++ '/' :: t)).map core =
        ((sub P m).find? (s ++ '/' :: t)).map shape) ∧
      (∀ k, under (renderC bs) k = false → under s k = false →
        ((sub P m1').find? k).map stripAcc = ((sub P m).find? k).map stripAcc) ∧
      WF (sub P m1') ∧ Inv0 (sub P m1') ∧ AncOK P m1' ∧
      ∀ j, j ≠ i → (VPath.moveDir fuel (apath i id P id' s)
        (apath i id P id' (renderC bs)) w).2.leaf? j = w.leaf? j := by
  obtain ⟨se, hse, hsd⟩ := hdir
  rw [← a.find s hs] at hse
  obtain ⟨w', ms', md', hrun, hi', hj', hwfs', hwfd', hoth', hgone, hd1, hgraft, hframe, _⟩ :=
    C11.moveDir_exact a.subLeaf a.subLeaf hwf hwf hnd id' id' fuel s bs hsne hbs ⟨se, hse, hsd⟩
      (fun k e he _ => a.keysCanon k e he) hfresh (fun _ => hout) hfuel hb1 (fun _ => hb2)
  cases MemLeafAt.unique hi' hj'
  obtain ⟨hres, m1', hl1, rfl, hinv1, hanc1, hoth⟩ := a.transfer (altroot_move_dir
    (specOne_self i P) a.canonP id id' fuel hs (d := renderC bs) ⟨bs, hbs, rfl⟩ hsne hfresh.ne_nil) hrun hj'
  refine ⟨hres, m1', hl1, hgone, hd1, hgraft, fun k hk1 hk2 => hframe k hk1 (fun _ => hk2), hwfd',
    hinv1, hanc1, fun j hj => ?_⟩
  rw [hoth j hj, hoth' j hj hj, subWorld_other w P m hj]

/-- **the results agree, whatever the outcome**: for each of the four operations, the call
through the altroot on `w` and the call on the bare memory filesystem holding the sub-map have the
same outcome class (both `Ok` with equal values / both the same error kind / both the fuel
sentinel), and the worlds afterwards are again related (`RSub`). No hypothesis on the tree. -/
theorem altroot_results_agree (fuel : Nat) {s d : Str} (hs : Canon s) (hd : Canon d) :
    (RelRes PRdrop (· = ·) (VPath.createDirAll (apath i id P id' s) w).1
        (VPath.createDirAll (spath i id' s) (subWorld w i P m)).1) ∧
    (s ≠ [] → RelRes PRdrop (· = ·) (VPath.removeDirAll fuel (apath i id P id' s) w).1
        (VPath.removeDirAll fuel (spath i id' s) (subWorld w i P m)).1) ∧
    (d ≠ [] → RelRes PRdrop (· = ·)
        (VPath.copyDir fuel (apath i id P id' s) (apath i id P id' d) w).1
        (VPath.copyDir fuel (spath i id' s) (spath i id' d) (subWorld w i P m)).1) ∧
    (s ≠ [] → d ≠ [] → RelRes PRdrop (· = ·)
        (VPath.moveDir fuel (apath i id P id' s) (apath i id P id' d) w).1
        (VPath.moveDir fuel (spath i id' s) (spath i id' d) (subWorld w i P m)).1) :=
  ⟨(altroot_create_dir_all (specOne_self i P) a.canonP id id' hs _ _ a.rel).1,
   fun hne => (altroot_remove_dir_all (specOne_self i P) a.canonP id id' fuel hs hne _ _ a.rel).1,
   fun hne => (altroot_copy_dir (specOne_self i P) a.canonP id id' fuel hs hd hne _ _ a.rel).1,
   fun h1 h2 => (altroot_move_dir (specOne_self i P) a.canonP id id' fuel hs hd h1 h2 _ _ a.rel).1⟩

/-- **nothing outside `P` changes.** Whatever the outcome, after create_dir_all / remove_dir_all /
copy_dir / move_dir through the altroot, leaf `i` is a memory leaf whose map agrees with `m` on
every key that is not at or below `P`. -/
theorem altroot_outside_unchanged (fuel : Nat) {s d : Str} (hs : Canon s) (hd : Canon d) :
    (∃ m1', MemLeafAt (VPath.createDirAll (apath i id P id' s) w).2 i m1' ∧
      ∀ k, under P k = false → m1'.find? k = m.find? k) ∧
    (s ≠ [] → ∃ m1', MemLeafAt (VPath.removeDirAll fuel (apath i id P id' s) w).2 i m1' ∧
      ∀ k, under P k = false → m1'.find? k = m.find? k) ∧
    (d ≠ [] → ∃ m1',
      MemLeafAt (VPath.copyDir fuel (apath i id P id' s) (apath i id P id' d) w).2 i m1' ∧
      ∀ k, under P k = false → m1'.find? k = m.find? k) ∧
    (s ≠ [] → d ≠ [] → ∃ m1',
      MemLeafAt (VPath.moveDir fuel (apath i id P id' s) (apath i id P id' d) w).2 i m1' ∧
      ∀ k, under P k = false → m1'.find? k = m.find? k) := by
  have hfs := altroot_sim_frame (specOne_self i P) a.canonP id m
  have hh := simHandles_frame (specOne_self i P) (P := P) m
  have hv : ∀ {q : Str}, Canon q → SimVPath (RF (specOne i P) i P m) PRdrop (HSub (specOne i P))
      (apath i id P id' q) (spath i id' q) := fun hq => ⟨hfs, rfl, rfl, hq⟩
  have hr0 : RF (specOne i P) i P m w (subWorld w i P m) := ⟨a.rel, Frm.Outside.init a.leaf⟩
  have fin : ∀ {w1 w2 : World}, RF (specOne i P) i P m w1 w2 →
      ∃ m1', MemLeafAt w1 i m1' ∧ ∀ k, under P k = false → m1'.find? k = m.find? k := by
    intro w1 w2 hr
    obtain ⟨m1', hl, hk⟩ := hr.2.leafAt
    exact ⟨m1', hl, fun k hu => hk k ((stripP_none_iff_under P k).2 hu)⟩
  refine ⟨fin (T.VPath.sim_createDirAll (hv hs) _ _ hr0).2, fun hne => ?_, fun hne => ?_,
    fun h1 h2 => ?_⟩
  · exact fin (T.VPath.sim_removeDirAll fuel (hv hs) hne _ _ hr0).2
  · exact fin (T.VPath.sim_copyDir hh fuel (hv hs) (hv hd) hne (fun _ => rfl) (fun _ => rfl)
      _ _ hr0).2
  · exact fin (T.VPath.sim_moveDir hh fuel (hv hs) (hv hd) h1 h2 (fun _ => rfl) (fun _ => rfl)
      _ _ hr0).2

end ops

theorem after_two {i j : Nat} {P : Str} (hji : j ≠ i) {w1' w2' : World}
    (hr : RSub (specTwo i P j) w1' w2') {ms' md' : FMap} (h2i : MemLeafAt w2' i ms')
    (h2j : MemLeafAt w2' j md') :
    ∃ m1' md1', MemLeafAt w1' i m1' ∧ sub P m1' = ms' ∧ MemLeafAt w1' j md1' ∧
      sub [] md1' = md' ∧ Inv0 (sub P m1') ∧ AncOK P m1' ∧
      ∀ l, l ≠ i → l ≠ j → w1'.leaf? l = w2'.leaf? l := by
  have hli := hr.leaf i
  rw [specTwo_i] at hli
  obtain ⟨m1, a1, a2, a3, a4⟩ := hli
  have hlj := hr.leaf j
  rw [specTwo_j P hji] at hlj
  obtain ⟨d1, b1, b2, _, _⟩ := hlj
  refine ⟨m1, d1, a1, MemLeafAt.unique (show MemLeafAt w2' i (sub P m1) from a2) h2i, b1,
    MemLeafAt.unique (show MemLeafAt w2' j (sub [] d1) from b2) h2j, a3, a4, fun l h1 h2 => ?_⟩
  have := hr.leaf l
  rw [specTwo_other P h1 h2] at this
  exact this

section cross
variable {w : World} {i j : Nat} {P : Str} {m md : FMap} (a : AltSub w i P m) (hji : j ≠ i)
  (hj : MemLeafAt w j md) (hwfd : WF md) (hcan : ∀ k ∈ md.keys, Canon k) (id id' did : Nat)
  (hid : id' ≠ did)
include a hji hj hwfd hcan hid

theorem AltSub.rel2 : RSub (specTwo i P j) w (subWorld w i P m) :=
  rsub_two w i P m a.leaf a.inv a.anc j hji md hj hwfd.1 hcan

theorem altroot_to_leaf_sim (fuel : Nat) {s d : Str} (hs : Canon s) (hd : Canon d)
    (hdne : d ≠ []) :
    SimM (RSub (specTwo i P j)) PRdrop (· = ·)
      (VPath.copyDir fuel (apath i id P id' s) { fs := leafFS j, fsId := did, path := d })
      (VPath.copyDir fuel (spath i id' s) { fs := leafFS j, fsId := did, path := d }) ∧
    (s ≠ [] → SimM (RSub (specTwo i P j)) PRdrop (· = ·)
      (VPath.moveDir fuel (apath i id P id' s) { fs := leafFS j, fsId := did, path := d })
      (VPath.moveDir fuel (spath i id' s) { fs := leafFS j, fsId := did, path := d })) :=
  ⟨T.VPath.sim_copyDir (simHandles_sub (specTwo i P j)) (PR := PRdrop) fuel
      (src1 := apath i id P id' s) (src2 := spath i id' s)
      (dst1 := { fs := leafFS j, fsId := did, path := d })
      (dst2 := { fs := leafFS j, fsId := did, path := d })
      ⟨altroot_sim_leaf (specTwo_i i P j) a.canonP id, rfl, rfl, hs⟩
      ⟨leafFS_sim_root (specTwo_j P hji), rfl, rfl, hd⟩ hdne
      (fun h => absurd h hid) (fun h => absurd h hid),
   fun hsne => T.VPath.sim_moveDir (simHandles_sub (specTwo i P j)) (PR := PRdrop) fuel
      (src1 := apath i id P id' s) (src2 := spath i id' s)
      (dst1 := { fs := leafFS j, fsId := did, path := d })
      (dst2 := { fs := leafFS j, fsId := did, path := d })
      ⟨altroot_sim_leaf (specTwo_i i P j) a.canonP id, rfl, rfl, hs⟩
      ⟨leafFS_sim_root (specTwo_j P hji), rfl, rfl, hd⟩ hsne hdne
      (fun h => absurd h hid) (fun h => absurd h hid)⟩

theorem AltSub.transfer2 {α : Type} {op1 op2 : M α}
    (hsim : SimM (RSub (specTwo i P j)) PRdrop (· = ·) op1 op2) {v : α} {w2' : World}
    (hrun : op2 (subWorld w i P m) = (.ok v, w2')) {ms' md' : FMap} (h2i : MemLeafAt w2' i ms')
    (h2j : MemLeafAt w2' j md') :
    (op1 w).1 = .ok v ∧ ∃ m1' md1', MemLeafAt (op1 w).2 i m1' ∧ sub P m1' = ms' ∧
      MemLeafAt (op1 w).2 j md1' ∧ (∀ k, Rooted k → md1'.find? k = md'.find? k) ∧
      Inv0 (sub P m1') ∧ AncOK P m1' ∧
      ∀ l, l ≠ i → l ≠ j → (op1 w).2.leaf? l = w2'.leaf? l := by
  obtain ⟨hres, hrel⟩ := hsim.transfer (AltSub.rel2 a hji hj hwfd hcan id' did hid) hrun
  obtain ⟨m1', md1', hl1, hsub, hlj, rfl, hinv1, hanc1, hoth⟩ := after_two hji hrel h2i h2j
  exact ⟨relres_ok_inv hres, m1', md1', hl1, hsub, hlj,
    fun k hk => (find?_sub [] md1' k hk).symm, hinv1, hanc1, hoth⟩

theorem altroot_copyDir_to_leaf_exact (hwf : WF (sub P m)) (hnd : FMap.NodupKeys (sub P m))
    (fuel : Nat) {s : Str} (hs : Canon s) (bs : List Str) (hbs : ∀ c ∈ bs, GoodComp c)
    (hdir : ∃ se, m.find? (P ++ s) = some se ∧ se.ftype = .dir)
    (hfresh : FreshDest md (renderC bs)) (hfuel : descendants (sub P m) s < fuel) :
    (VPath.copyDir fuel (apath i id P id' s)
      { fs := leafFS j, fsId := did, path := renderC bs } w).1 = .ok (descendants (sub P m) s) ∧
    ∃ m1' md1',
      MemLeafAt (VPath.copyDir fuel (apath i id P id' s)
        { fs := leafFS j, fsId := did, path := renderC bs } w).2 i m1' ∧
      MemLeafAt (VPath.copyDir fuel (apath i id P id' s)
        { fs := leafFS j, fsId := did, path := renderC bs } w).2 j md1' ∧
      md1'.find? (renderC bs) = some dirEntryNow ∧
      (∀ t, (md1'.find? (renderC bs ++ '/' :: t)).map core =
        (m.find? (P ++ (s ++ '/' :: t))).map shape) ∧
      (∀ k, Rooted k → under (renderC bs) k = false →
        (md1'.find? k).map stripAcc = (md.find? k).map stripAcc) ∧
      (∀ k, ((sub P m1').find? k).map stripAcc = ((sub P m).find? k).map stripAcc) ∧
      Inv0 (sub P m1') ∧ AncOK P m1' ∧
      ∀ l, l ≠ i → l ≠ j → (VPath.copyDir fuel (apath i id P id' s)
        { fs := leafFS j, fsId := did, path := renderC bs } w).2.leaf? l = w.leaf? l := by
  obtain ⟨se, hse, hsd⟩ := hdir
  rw [← a.find s hs] at hse
  have hj2 : MemLeafAt (subWorld w i P m) j md := hj.set_ne (fun e => hji e.symm) _
  obtain ⟨w', ms', md', hrun, hi', hj', _, _, hoth', hd1, hgraft, hframe, hsrc⟩ :=
    C11.copyDir_exact_cross (fun e => hji e.symm) a.subLeaf hj2 hwf hwfd hnd id' did fuel s bs hbs
      ⟨se, hse, hsd⟩ (fun k e he _ => a.keysCanon k e he) hfresh hfuel
  obtain ⟨hres, m1', md1', hl1, rfl, hlj, hfj, hinv1, hanc1, hoth⟩ :=
    AltSub.transfer2 a hji hj hwfd hcan id' did hid (altroot_to_leaf_sim a hji hj hwfd hcan id id'
      did hid fuel hs (d := renderC bs) ⟨bs, hbs, rfl⟩ hfresh.ne_nil).1 hrun hi' hj'
  have hrd : Rooted (renderC bs) := Canon.rootedT ⟨bs, hbs, rfl⟩
  refine ⟨hres, m1', md1', hl1, hlj, by rw [hfj _ hrd]; exact hd1, fun t => ?_,
    fun k hk hu => by rw [hfj k hk]; exact hframe k hu, hsrc, hinv1, hanc1, fun l h1 h2 => ?_⟩
  · rw [hfj _ (hrd.child t), hgraft t, find?_sub P m _ (hs.rootedT.child t)]
  · rw [hoth l h1 h2, hoth' l h1 h2, subWorld_other w P m h1]

theorem altroot_moveDir_to_leaf_exact (hwf : WF (sub P m)) (hnd : FMap.NodupKeys (sub P m))
    (fuel : Nat) {s : Str} (hs : Canon s) (hsne : s ≠ []) (bs : List Str)
    (hbs : ∀ c ∈ bs, GoodComp c)
    (hdir : ∃ se, m.find? (P ++ s) = some se ∧ se.ftype = .dir)
    (hfresh : FreshDest md (renderC bs)) (hfuel : descendants (sub P m) s < fuel)
    (hb1 : ∀ k e, (sub P m).find? k = some e → k.length < s.length + fuel) :
    (VPath.moveDir fuel (apath i id P id' s)
      { fs := leafFS j, fsId := did, path := renderC bs } w).1 = .ok () ∧
    ∃ m1' md1',
      MemLeafAt (VPath.moveDir fuel (apath i id P id' s)
        { fs := leafFS j, fsId := did, path := renderC bs } w).2 i m1' ∧
      MemLeafAt (VPath.moveDir fuel (apath i id P id' s)
        { fs := leafFS j, fsId := did, path := renderC bs } w).2 j md1' ∧
      (∀ k, under s k = true → (sub P m1').find? k = none) ∧
      (∀ k, under s k = false →
        ((sub P m1').find? k).map stripAcc = ((sub P m).find? k).map stripAcc) ∧
      md1'.find? (renderC bs) = some dirEntryNow ∧
      (∀ t, (md1'.find? (renderC bs ++ '/' :: t)).map core =
        (m.find? (P ++ (s ++ '/' :: t))).map shape) ∧
      (∀ k, Rooted k → under (renderC bs) k = false →
        (md1'.find? k).map stripAcc = (md.find? k).map stripAcc) ∧
      Inv0 (sub P m1') ∧ AncOK P m1' ∧
      ∀ l, l ≠ i → l ≠ j → (VPath.moveDir fuel (apath i id P id' s)
        { fs := leafFS j, fsId := did, path := renderC bs } w).2.leaf? l = w.leaf? l := by
  obtain ⟨se, hse, hsd⟩ := hdir
  rw [← a.find s hs] at hse
  have hj2 : MemLeafAt (subWorld w i P m) j md := hj.set_ne (fun e => hji e.symm) _
  obtain ⟨w', ms', md', hrun, hi', hj', _, _, hoth', hgone, hkeep, hd1, hgraft, hframe⟩ :=
    C11.moveDir_exact_cross (fun e => hji e.symm) a.subLeaf hj2 hwf hwfd hnd id' did fuel s bs hsne
      hbs ⟨se, hse, hsd⟩ (fun k e he _ => a.keysCanon k e he) hfresh hfuel hb1
  obtain ⟨hres, m1', md1', hl1, rfl, hlj, hfj, hinv1, hanc1, hoth⟩ :=
    AltSub.transfer2 a hji hj hwfd hcan id' did hid ((altroot_to_leaf_sim a hji hj hwfd hcan id id'
      did hid fuel hs (d := renderC bs) ⟨bs, hbs, rfl⟩ hfresh.ne_nil).2 hsne) hrun hi' hj'
  have hrd : Rooted (renderC bs) := Canon.rootedT ⟨bs, hbs, rfl⟩
  refine ⟨hres, m1', md1', hl1, hlj, hgone, hkeep, by rw [hfj _ hrd]; exact hd1, fun t => ?_,
    fun k hk hu => by rw [hfj k hk]; exact hframe k hu, hinv1, hanc1, fun l h1 h2 => ?_⟩
  · rw [hfj _ (hrd.child t), hgraft t, find?_sub P m _ (hs.rootedT.child t)]
  · rw [hoth l h1 h2, hoth' l h1 h2, subWorld_other w P m h1]

end cross

/-! `C11.wN`: leaf 0 holds a tree of depth 4 below "/r" and "/other" outside it. -/

section example_wN

def rP : Str := "/r".toList

example : (sub rP mN).keys =
    ["/a/b/c/f".toList, "/ab".toList, "/a/e".toList, [], "/a.b".toList, "/a/b/c".toList,
     "/a".toList, "/a/x".toList, "/a/b".toList] := by rw [mN_eq]; decide +kernel

theorem wN_altSub : AltSub wN 0 rP mN :=
  ⟨wN_leaf0, ⟨["r".toList], by decide, by decide⟩, Vfs.Inv0.of_check (by rw [mN_eq]; decide +kernel),
    Vfs.C07.ancOK_one "r".toList (by decide) mN dirEntryNow (by decide) rfl⟩

theorem rSub_wf : WF (sub rP mN) := wf_sub mN_wf wN_altSub.inv
theorem rSub_nodup : FMap.NodupKeys (sub rP mN) := nodupKeys_sub rP mN_nodup

theorem rSub_len : ∀ k e, (sub rP mN).find? k = some e → k.length < 9 := by
  have hall : ∀ k ∈ (sub rP mN).keys, k.length < 9 := by rw [mN_eq]; decide +kernel
  exact fun k e he => hall k ((FMap.mem_keys_iff _ k).2 ⟨e, he⟩)

theorem mN_find_ra : mN.find? (rP ++ "/a".toList) = some dirEntryNow := by
  rw [mN_eq]; decide +kernel

theorem rSub_desc_a : descendants (sub rP mN) "/a".toList < 7 := by rw [mN_eq]; decide +kernel

/-- the hypothesis `hnf` of `altroot_createDirAll_exact` as a check on the stored map: every stored
prefix of the chain is a directory -/
theorem prefixesDir_of_check {m : FMap} {P : Str} {cs : List Str}
    (h : ∀ k ∈ List.range cs.length,
      (m.find? (P ++ renderC (cs.take (k + 1)))).all (fun e => decide (e.ftype = .dir)) = true) :
    ∀ k, k < cs.length → ∀ e, m.find? (P ++ renderC (cs.take (k + 1))) = some e →
      e.ftype = .dir := by
  intro k hk e he
  have := h k (List.mem_range.2 hk)
  rw [he] at this
  exact of_decide_eq_true this

example := altroot_createDirAll_exact wN_altSub 5 6 rSub_wf
  ["a".toList, "new".toList, "deep".toList] (by decide)
  (prefixesDir_of_check (by rw [mN_eq]; decide +kernel))

example := altroot_removeDirAll_exact wN_altSub 5 6 rSub_wf rSub_nodup 7
  (q := "/a".toList) ⟨["a".toList], by decide, by decide⟩ (by decide)
  ⟨dirEntryNow, mN_find_ra, rfl⟩ (fun k e he => by have := rSub_len k e he; simp; omega)

example := altroot_copyDir_exact wN_altSub 5 6 rSub_wf rSub_nodup 7 (s := "/a".toList)
  ⟨["a".toList], by decide, by decide⟩ ["z".toList] (by decide) ⟨dirEntryNow, mN_find_ra, rfl⟩
  (fresh_of_check _ _ (by rw [mN_eq]; decide +kernel)) (by decide) rSub_desc_a

example := altroot_moveDir_exact wN_altSub 5 6 rSub_wf rSub_nodup 7 (s := "/a".toList)
  ⟨["a".toList], by decide, by decide⟩ (by decide) ["z".toList] (by decide)
  ⟨dirEntryNow, mN_find_ra, rfl⟩ (fresh_of_check _ _ (by rw [mN_eq]; decide +kernel)) (by decide) rSub_desc_a
  (fun k e he => by have := rSub_len k e he; simp; omega)
  (fun k e he _ => by have := rSub_len k e he; simp; omega)

example := altroot_outside_unchanged wN_altSub 5 6 7 (s := "/a".toList) (d := "/z".toList)
  ⟨["a".toList], by decide, by decide⟩ ⟨["z".toList], by decide, by decide⟩

theorem rm_a_eval : (VPath.removeDirAll 7 (apath 0 5 rP 6 "/a".toList) wN).1 = .ok () ∧
    ((VPath.removeDirAll 7 (apath 0 5 rP 6 "/a".toList) wN).2.leaves.map
      (fun l => l.files.keys)) =
    [["/r/ab".toList, "/other".toList, "/r".toList, "/r/a.b".toList, []],
     ["/keep".toList, []]] := by rw [← rmAllK_eq, wN_eq]; decide +kernel
example : (VPath.removeDirAll 7 (apath 0 5 rP 6 "/a".toList) wN).1 = .ok () := rm_a_eval.1
example : ((VPath.removeDirAll 7 (apath 0 5 rP 6 "/a".toList) wN).2.leaves.map
    (fun l => l.files.keys)) =
    [["/r/ab".toList, "/other".toList, "/r".toList, "/r/a.b".toList, []],
     ["/keep".toList, []]] := rm_a_eval.2
example : (VPath.copyDir 7 (apath 0 5 rP 6 "/a".toList) (apath 0 5 rP 6 "/z".toList) wN).1
    = .ok 5 := by rw [wN_eq]; decide +kernel
theorem mv_a_z_eval :
    (VPath.moveDir 7 (apath 0 5 rP 6 "/a".toList) (apath 0 5 rP 6 "/z".toList) wN).1 = .ok () ∧
    ((VPath.moveDir 7 (apath 0 5 rP 6 "/a".toList) (apath 0 5 rP 6 "/z".toList) wN).2.leaf? 0).map
    (fun l => ((l.files.find? "/other".toList).map core, (l.files.find? "/r/a".toList).isSome,
      (l.files.find? "/r/z/b/c/f".toList).map core))
    = some (some (.file, [111]), false, some (.file, [100, 101, 101, 112])) := by
  simp only [← moveDirK_eq]; rw [wN_eq]; decide +kernel
example : (VPath.moveDir 7 (apath 0 5 rP 6 "/a".toList) (apath 0 5 rP 6 "/z".toList) wN).1
    = .ok () := mv_a_z_eval.1
example : ((VPath.moveDir 7 (apath 0 5 rP 6 "/a".toList) (apath 0 5 rP 6 "/z".toList) wN).2.leaf? 0).map
    (fun l => ((l.files.find? "/other".toList).map core, (l.files.find? "/r/a".toList).isSome,
      (l.files.find? "/r/z/b/c/f".toList).map core))
    = some (some (.file, [111]), false, some (.file, [100, 101, 101, 112])) := mv_a_z_eval.2

theorem mK_canon : ∀ k ∈ mK.keys, Canon k :=
  fun k hk => canon_of_check k (List.all_eq_true.1 (by decide +kernel) k hk)

example := altroot_copyDir_to_leaf_exact wN_altSub (j := 1) (by decide) wN_leaf1 mK_wf mK_canon
  5 6 9 (by decide) rSub_wf rSub_nodup 7 (s := "/a".toList) ⟨["a".toList], by decide, by decide⟩
  ["c".toList] (by decide) ⟨dirEntryNow, mN_find_ra, rfl⟩ (fresh_of_check _ _ (by decide +kernel))
  rSub_desc_a
example := altroot_moveDir_to_leaf_exact wN_altSub (j := 1) (by decide) wN_leaf1 mK_wf mK_canon
  5 6 9 (by decide) rSub_wf rSub_nodup 7 (s := "/a".toList) ⟨["a".toList], by decide, by decide⟩
  (by decide) ["c".toList] (by decide) ⟨dirEntryNow, mN_find_ra, rfl⟩
  (fresh_of_check _ _ (by decide +kernel)) rSub_desc_a
  (fun k e he => by have := rSub_len k e he; simp; omega)
theorem cp_a_c_eval : (VPath.copyDir 7 (apath 0 5 rP 6 "/a".toList)
    { fs := leafFS 1, fsId := 9, path := "/c".toList } wN).1 = .ok 5 ∧
    ((VPath.copyDir 7 (apath 0 5 rP 6 "/a".toList)
    { fs := leafFS 1, fsId := 9, path := "/c".toList } wN).2.leaf? 1).map
    (fun l => ((l.files.find? "/c/b/c/f".toList).map core, (l.files.find? "/keep".toList).map core))
    = some (some (.file, [100, 101, 101, 112]), some (.file, [107])) := by rw [wN_eq]; decide +kernel
example : (VPath.copyDir 7 (apath 0 5 rP 6 "/a".toList)
    { fs := leafFS 1, fsId := 9, path := "/c".toList } wN).1 = .ok 5 := cp_a_c_eval.1
example : ((VPath.copyDir 7 (apath 0 5 rP 6 "/a".toList)
    { fs := leafFS 1, fsId := 9, path := "/c".toList } wN).2.leaf? 1).map
    (fun l => ((l.files.find? "/c/b/c/f".toList).map core, (l.files.find? "/keep".toList).map core))
    = some (some (.file, [100, 101, 101, 112]), some (.file, [107])) := cp_a_c_eval.2

end example_wN

end Vfs.C11

section audit
open Vfs.C11
#print axioms wf_sub
#print axioms nodupKeys_sub
#print axioms altroot_createDirAll_exact
#print axioms altroot_removeDirAll_exact
#print axioms altroot_removeDirAll_exact_leaf
#print axioms altroot_copyDir_exact
#print axioms altroot_moveDir_exact
#print axioms altroot_results_agree
#print axioms altroot_outside_unchanged
#print axioms altroot_copyDir_to_leaf_exact
#print axioms altroot_moveDir_to_leaf_exact
#print axioms wN_altSub
end audit
