/-
  C17 for the overlay, under ALL interleavings — "Any number of threads calling create_dir_all
  concurrently on arbitrary, possibly overlapping paths of one filesystem (with no concurrent
  removals and no files in the way) all return success under every interleaving, and afterwards
  every requested path and each of its ancestors is a directory."

  Object: the interleaving model VfsModel/OverlayConc.lean of `OverlayFS` over n ≥ 1 in-memory
  layers.  One atomic step = one `FileSystem` trait call of a layer (`exists`, `metadata`,
  `create_dir`, `remove_file` of MemoryFS — the linearizable calls of C16); the overlay's and the
  VfsPath layer's code between two such calls is thread-local.  (Finer than one step per VfsPath
  primitive: `VfsPath::create_dir`, `is_dir`, `create_dir_all` on the write layer are several steps.)

  1. The small-step model is the modelled code (arbitrary layers, no hypothesis):
     `small_step_is_createDirAll`, `one_thread_alone`.

  2. `overlay_create_dir_all_concurrent` : n ≥ 1 memory layers (`OWN`), any number of threads,
     thread i = `create_dir_all(renderC cs_i)`, `cs_i` canonical (`GoodComp`) and not below
     "/.whiteout" (`PathsOK`).  Initial state: `RootOk` of the write layer; no non-empty prefix of
     a requested path is a FILE of the n-layer view (`hnofile`; whiteouts left by earlier removals
     are allowed — a lower FILE hidden by a whiteout is allowed too); the markers of requested
     prefixes are files (`hmark`) and the write layer holds no file at a marked requested prefix
     (`hghost`) — both are consequences of the sequential invariant `OInv` of C09Contract
     (`overlay_create_dir_all_concurrent_OInv`).  Then for EVERY schedule, at every moment:
       (a) the world differs from the initial one only in the write layer's map (`s.world =
           w0.setLeafFiles u mu`: lower layers, ghost fields untouched), and that map evolved by
           `Evolve`: entries persist unchanged except markers of requested prefixes that have
           become directories; new entries are directories at requested prefixes;
       (b) every thread that has returned has returned `Ok(())` (no error is ever recorded), and
           every non-empty prefix of ITS path is a directory of the n-layer view;
       (c) hence when all threads have finished all results are `Ok(())` and every requested path
           and each of its prefixes is a directory of the view.
     Proof: rely-guarantee (Proofs/OverlayConcCalc.lean) reduces all schedules to one thread under
     interference `Evolve` (Proofs/OverlayConcThread.lean `sp_createDirAll`).

  3. Which clause needs `OverlayFS::create_dir` to clear the whiteout ALSO when the write layer
     answers `DirectoryExists` (finding O11, DESIGN.md §I.4; the crate does so from commit 496e467
     on, `OConc.createDir`; up to that commit it returns that answer at once, `OConc.createDirOld`):
     (b).  `old_fails` : on the two-layer world `wC` (whiteout at "/c"), threads
     `create_dir_all("/c/x")`, `create_dir_all("/c/y")` over `createDirOld`, run under the schedule
     `badSchedule` (thread 1 runs up to and including its `create_dir("/c")` on the write layer, then
     thread 0 runs to completion), end with thread 0 = `Err(Other)` — kernel-evaluated.  In the
     proof this is used in `sp_createDir` (`DirectoryExists` from the write layer ⇒ the marker is
     cleared before returning, so the postcondition `VisDir` holds) and `sp_clearT` (a marker that
     vanished is tolerated).

  4. Non-vacuity: `wC_instance` instantiates (2) on `wC` for every schedule.  Kernel-evaluated
     (`decide +kernel` on the evaluator of Proofs/ScheduleSweep.lean): `new_ok_preemptOnce` — every
     schedule in which each thread is preempted at most once (`preemptOnce 32 32`, 2178 schedules,
     all steps of both threads) ends with both `Ok` and "/c", "/c/x", "/c/y" directories of the
     write layer; `old_fails_some` — over `createDirOld` some schedule of that family fails;
     `new_ok_window` / `old_fails_window` — ALL C(10,5) = 252 interleavings of the critical window
     (the 5 calls of each thread starting with its `create_dir("/c")` on the write layer), then
     completion: all end well over `createDir`, some fail over `createDirOld`.

  NOT PROVED: exhaustive kernel enumeration of ALL C(56,28) interleavings of the example (out of
  reach by evaluation; all schedules are covered by theorem (2) / `wC_instance` instead);
  nothing about PhysicalFS layers or about concurrent removals / file creation.
-/
import VfsModel.Proofs.OverlayConcThread
import VfsModel.Proofs.ScheduleSweep
namespace Vfs.C17
open Vfs Vfs.Overlay Vfs.OConc

/-! ## 1. the small-step model is the modelled code -/

/-- all calls of the small-step program, one after the other, are `VfsPath::create_dir_all` on
the overlay path — arbitrary layers, every path string -/
theorem small_step_is_createDirAll (layers : List VPath) (id : Nat) (p : Str) :
    (OConc.createDirAll layers p).run
      = VPath.createDirAll { fs := Overlay.fs layers, fsId := id, path := p } :=
  OConc.run_createDirAll layers id p

/-- one thread alone, scheduled until it has made all its calls: it has returned the result of
`VfsPath::create_dir_all` on the overlay path, and the world is the one that call leaves -/
theorem one_thread_alone (layers : List VPath) (id : Nat) (p : Str) (w : World) :
    OConc.run (initSys layers w [p])
        (List.replicate ((OConc.createDirAll layers p).callsFrom w) 0)
      = { world := (VPath.createDirAll { fs := Overlay.fs layers, fsId := id, path := p } w).2,
          threads := [.done (VPath.createDirAll { fs := Overlay.fs layers, fsId := id, path := p } w).1] } := by
  rw [← small_step_is_createDirAll layers id p]
  exact alone_run _ w

/-! ## 2. all interleavings -/

section main
variable {u idu : Nat} {is ids : List Nat} {ms : List FMap} {paths : List (List Str)}

/-- the hypotheses on the initial state give the stable invariant -/
theorem GI_init (mu0 : FMap) (hroot : RootOk mu0)
    (hnofile : ∀ q, Req paths q → ∀ e, viewN (mu0 :: ms) q = some e → e.ftype = .dir)
    (hghost : ∀ q, Req paths q → mu0.contains (marker q) = true →
      ∀ e, mu0.find? q = some e → e.ftype = .dir)
    (hmark : ∀ q, Req paths q → ∀ e, mu0.find? (marker q) = some e → e.ftype = .file) :
    GI ms paths mu0 := by
  refine ⟨hroot.root, hroot.noMark, ?_, ?_, hmark⟩
  · intro q hq e he
    by_cases hm : mu0.contains (marker q) = true
    · exact hghost q hq hm e he
    · exact hnofile q hq e (viewN_upper (by simpa using hm) he)
  · intro q hq
    by_cases hm : mu0.contains (marker q) = true
    · exact Or.inl hm
    · right
      rcases Option.eq_none_or_eq_some (mu0.find? q) with hf | ⟨e, hf⟩
      · right
        intro e he
        exact hnofile q hq e (by rw [viewN_lower (by simpa using hm) hf]; exact he)
      · exact Or.inl (contains_of_find hf)

/-- **overlay_create_dir_all_concurrent** (C17 for OverlayFS over n memory layers, every
interleaving of layer calls). See the header for the reading of (a), (b), (c). -/
theorem overlay_create_dir_all_concurrent (w0 : World) (mu0 : FMap)
    (hown : OWN w0 (u :: is) (idu :: ids) (mu0 :: ms)) (hp : PathsOK paths) (hroot : RootOk mu0)
    (hnofile : ∀ cs ∈ paths, ∀ j, 1 ≤ j → j ≤ cs.length →
      ∀ e, viewN (mu0 :: ms) (renderC (cs.take j)) = some e → e.ftype = .dir)
    (hghost : ∀ q, Req paths q → mu0.contains (marker q) = true →
      ∀ e, mu0.find? q = some e → e.ftype = .dir)
    (hmark : ∀ q, Req paths q → ∀ e, mu0.find? (marker q) = some e → e.ftype = .file)
    (schedule : List Nat) :
    let s := OConc.run (initSys (layersN (u :: is) (idu :: ids)) w0 (paths.map renderC)) schedule
    ∃ mu,
      -- (a)
      (s.world = w0.setLeafFiles u mu ∧ OWN s.world (u :: is) (idu :: ids) (mu :: ms) ∧
        Evolve paths mu0 mu) ∧
      -- (b)
      (s.threads.length = paths.length ∧
       ∀ (i : Nat) (cs : List Str) (r : Res Unit), paths[i]? = some cs →
        s.results[i]? = some (some r) →
        r = .ok () ∧ ∀ j, 1 ≤ j → j ≤ cs.length →
          ∃ e, viewN (mu :: ms) (renderC (cs.take j)) = some e ∧ e.ftype = .dir) ∧
      -- (c)
      (s.finished = true →
        s.results = paths.map (fun _ => some (.ok ())) ∧
        ∀ cs ∈ paths, ∀ j, 1 ≤ j → j ≤ cs.length →
          ∃ e, viewN (mu :: ms) (renderC (cs.take j)) = some e ∧ e.ftype = .dir) := by
  intro s
  have hl1 : is.length = ids.length := by have := hown.len_ids; simpa using this
  have hl2 : is.length = ms.length := by have := hown.len_ms; simpa using this
  have g0 : GI ms paths mu0 := GI_init mu0 hroot
    (fun q ⟨cs, hcs, j, h1, h2, hq⟩ e he => hnofile cs hcs j h1 h2 e (hq ▸ he)) hghost hmark
  have hrun := run_WP Evolve.refl (fun _ _ _ => Evolve.trans hp) paths
    (OConc.createDirAll (layersN (u :: is) (idu :: ids)) ∘ renderC)
    (fun cs r mu' => r = .ok () ∧ VisUpTo ms cs cs.length mu') w0 mu0 hown
    (fun cs hcs => sp_createDirAll hp hl1 hl2 cs hcs mu0 g0) schedule
  rw [← List.map_map] at hrun
  obtain ⟨mu, hw, hst, hev, hlen, hres⟩ := hrun
  have hb : ∀ (i : Nat) (cs : List Str) (r : Res Unit), paths[i]? = some cs →
      s.results[i]? = some (some r) →
      r = .ok () ∧ ∀ j, 1 ≤ j → j ≤ cs.length →
        ∃ e, viewN (mu :: ms) (renderC (cs.take j)) = some e ∧ e.ftype = .dir :=
    fun i cs r hpi hr =>
      ⟨(hres i cs r hpi hr).1, fun j h1 h2 => ((hres i cs r hpi hr).2 j h1 h2).view⟩
  exact ⟨mu, ⟨hw, hst, hev⟩, ⟨hlen, hb⟩, Sys.all_ok hlen hb⟩

/-- lower layers and ghost fields never change (consequence of (a)) -/
theorem lower_layers_unchanged (w0 : World) (mu : FMap) (i : Nat) (hi : i ≠ u) :
    (w0.setLeafFiles u mu).leaf? i = w0.leaf? i ∧ (w0.setLeafFiles u mu).log = w0.log ∧
    (w0.setLeafFiles u mu).fault = w0.fault ∧ (w0.setLeafFiles u mu).fired = w0.fired :=
  ⟨World.leaf?_setLeafFiles_ne w0 u i mu (fun h => hi h.symm), rfl, rfl, rfl⟩

end main

/-! ## 3./4. the example: a whiteout at "/c", two threads below it -/

def fileOf' (b : Bytes) : Entry := { fileEntryNow with content := b }
def kC : Str := ['/', 'c']
def kOld : Str := ['/', 'c', '/', 'o']
def pX : Str := ['/', 'c', '/', 'x']
def pY : Str := ['/', 'c', '/', 'y']
def kWo : Str := ['/', '.', 'w', 'h', 'i', 't', 'e', 'o', 'u', 't']
def kWoC : Str := kWo ++ kC
def kMC : Str := kWo ++ kC ++ ['_', 'w', 'o']
def kMOld : Str := kWo ++ kOld ++ ['_', 'w', 'o']

/-- the write layer after `remove_file("/c/o")`, `remove_dir("/c")` through the overlay: the
markers "/.whiteout/c/o_wo" and "/.whiteout/c_wo" -/
def muC : FMap :=
  [(kMC, fileOf' []), (kMOld, fileOf' []), (kWoC, dirEntryNow), (kWo, dirEntryNow), ([], dirEntryNow)]
/-- the lower layer still holds "/c" and "/c/o" -/
def mlC : FMap := [(kOld, fileOf' [49]), (kC, dirEntryNow), ([], dirEntryNow)]
def wC : World := { leaves := [{ kind := .mem, files := mlC }, { kind := .mem, files := muC }] }
def layC : List VPath := layersN [1, 0] [7, 8]
def pathsC : List (List Str) := [[['c'], ['x']], [['c'], ['y']]]

example : pathsC.map renderC = [pX, pY] := by decide
example : marker kC = kMC ∧ marker kOld = kMOld := by decide

/-- T0 = `create_dir_all("/c/x")`, T1 = `create_dir_all("/c/y")` over `OConc.createDir` -/
def sNew : Sys := initSys layC wC [pX, pY]
/-- the same threads over `OConc.createDirOld` -/
def sOld : Sys := initSysOld layC wC [pX, pY]

/-- both threads returned `Ok(())`; "/c", "/c/x", "/c/y" are directories of the write layer, the
lower layer is as before -/
def goodC (s : Sys) : Bool :=
  s.results = [some (.ok ()), some (.ok ())] &&
  (s.world.leaves.map fun l => ([kC, pX, pY].map fun q => (l.files.find? q).map (·.ftype))) ==
    [[some .dir, none, none], [some .dir, some .dir, some .dir]] &&
  (s.world.leaves.map (·.files))[0]? == some mlC

theorem wC_setting : OWN wC [1, 0] [7, 8] [muC, mlC] :=
  .cons rfl (by decide) (.cons rfl (by decide) .nil)

theorem pathsC_ok : PathsOK pathsC := by
  intro cs hcs
  simp only [pathsC, List.mem_cons, List.not_mem_nil, or_false] at hcs
  rcases hcs with rfl | rfl <;> exact ⟨by decide, by decide⟩

theorem req_cases {q : Str} (h : Req pathsC q) : q = kC ∨ q = pX ∨ q = pY := by
  obtain ⟨cs, hcs, j, h1, h2, rfl⟩ := h
  simp only [pathsC, List.mem_cons, List.not_mem_nil, or_false] at hcs
  rcases hcs with rfl | rfl
  · have : j = 1 ∨ j = 2 := by simp at h2; omega
    rcases this with rfl | rfl
    · left; decide
    · right; left; decide
  · have : j = 1 ∨ j = 2 := by simp at h2; omega
    rcases this with rfl | rfl
    · left; decide
    · right; right; decide

/-- conversely, what holds of every non-empty prefix of the paths of `pathsC` holds of "/c", "/c/x",
"/c/y" -/
theorem of_req_pathsC {P : Str → Prop}
    (h : ∀ cs ∈ pathsC, ∀ j, 1 ≤ j → j ≤ cs.length → P (renderC (cs.take j))) :
    ∀ q ∈ [kC, pX, pY], P q := by
  intro q hq
  simp only [List.mem_cons, List.not_mem_nil, or_false] at hq
  rcases hq with rfl | rfl | rfl
  · exact h [['c'], ['x']] (by simp [pathsC]) 1 (by omega) (by simp)
  · exact h [['c'], ['x']] (by simp [pathsC]) 2 (by omega) (by simp)
  · exact h [['c'], ['y']] (by simp [pathsC]) 2 (by omega) (by simp)

/-! the hypotheses of `overlay_create_dir_all_concurrent` on the initial maps `muC`, `mlC` -/

theorem muC_root : RootOk muC := ⟨⟨_, rfl, rfl⟩, by decide⟩

theorem muC_nofile : ∀ q, Req pathsC q → ∀ e, viewN [muC, mlC] q = some e → e.ftype = .dir := by
  intro q hq e he
  have hnone : viewN [muC, mlC] q = none := by
    rcases req_cases hq with rfl | rfl | rfl <;> decide
  rw [hnone] at he; cases he

theorem muC_ghost : ∀ q, Req pathsC q → muC.contains (marker q) = true →
    ∀ e, muC.find? q = some e → e.ftype = .dir := by
  intro q hq _ e he
  have hnone : muC.find? q = none := by
    rcases req_cases hq with rfl | rfl | rfl <;> decide
  rw [hnone] at he; cases he

theorem muC_mark : ∀ q, Req pathsC q → ∀ e, muC.find? (marker q) = some e → e.ftype = .file := by
  intro q hq e he
  rcases req_cases hq with rfl | rfl | rfl
  · have : muC.find? (marker kC) = some (fileOf' []) := by decide
    rw [this] at he; injection he with he; subst he; rfl
  · have : muC.find? (marker pX) = none := by decide
    rw [this] at he; cases he
  · have : muC.find? (marker pY) = none := by decide
    rw [this] at he; cases he

/-- the hypotheses of `overlay_create_dir_all_concurrent` hold in `wC`: the theorem instantiated,
for EVERY schedule — all results that exist are `Ok`, and when both threads have finished "/c",
"/c/x", "/c/y" are directories of the view -/
theorem wC_instance (schedule : List Nat) :
    ∃ mu, (OConc.run sNew schedule).world = wC.setLeafFiles 1 mu ∧ Evolve pathsC muC mu ∧
      (∀ (i : Nat) (r : Res Unit), i < 2 → (OConc.run sNew schedule).results[i]? = some (some r) →
        r = .ok ()) ∧
      ((OConc.run sNew schedule).finished = true →
        (OConc.run sNew schedule).results = [some (.ok ()), some (.ok ())] ∧
        ∀ q ∈ [kC, pX, pY], ∃ e, viewN [mu, mlC] q = some e ∧ e.ftype = .dir) := by
  obtain ⟨mu, ⟨hw, _, hev⟩, ⟨_, hb⟩, hc⟩ := overlay_create_dir_all_concurrent wC muC wC_setting
    pathsC_ok muC_root
    (fun cs hcs j h1 h2 e he => muC_nofile _ ⟨cs, hcs, j, h1, h2, rfl⟩ e he) muC_ghost muC_mark schedule
  refine ⟨mu, hw, hev, ?_, ?_⟩
  · intro i r hi hres
    exact (hb i pathsC[i] r (List.getElem?_eq_getElem hi) hres).1
  · exact fun hfin => ⟨(hc hfin).1, of_req_pathsC (hc hfin).2⟩

/-! ### kernel-evaluated schedules -/

/-- each thread makes 28 layer calls when it runs alone from `wC` -/
example : (OConc.createDirAll layC pX).callsFrom wC = 28 ∧
    (OConc.createDirAll layC pY).callsFrom wC = 28 := by decide +kernel

/-- the schedule on which the threads over `createDirOld` fail: T1 runs until it has created "/c" in the write
layer (8 calls; the whiteout of "/c" is still there), then T0 runs to completion, then T1 -/
def badSchedule : List Nat := List.replicate 8 1 ++ List.replicate 32 0 ++ List.replicate 24 1

/-- **`createDirOld` fails under `badSchedule`**: T0's `create_dir("/c")` gets
`DirectoryExists` from the write layer and returns it at once, `create_dir_all` goes on to
"/c/x", whose `ensure_has_parent` does not see "/c" (still whited out): `Err(Other)` — clause (b)
of `overlay_create_dir_all_concurrent` is false over `createDirOld` -/
theorem old_fails :
    (OConc.run sOld badSchedule).results = [some (.err .other (some pX)), some (.ok ())] := by
  decide +kernel

/-- T1's eighth call is the `create_dir` on the write layer -/
example : ((OConc.run sOld (List.replicate 7 1)).threads.map Prog.label)[1]? = some "create_dir" ∧
    (OConc.run sOld (List.replicate 8 1)).world.leaves.map (fun l => l.files.contains kC && l.files.contains kMC)
      = [false, true] := by decide +kernel

/-- the schedules in which each thread is preempted at most once -/
example : (preemptOnce 32 32).length = 2178 := length_preemptOnce 32 32

/-- every schedule of the family ends with both `Ok` and the three directories present -/
theorem new_ok_preemptOnce : ∀ sc ∈ preemptOnce 32 32, goodC (OConc.run sNew sc) = true :=
  sweepOnce_spec (by decide +kernel)

-- members of the family: one thread after the other, in both orders
example : goodC (OConc.run sNew (List.replicate 32 0 ++ List.replicate 32 1)) = true :=
  new_ok_preemptOnce _ (mem_preemptOnce_01 (i := 32) (j := 0) (by decide) (by decide))
example : goodC (OConc.run sNew (List.replicate 32 1 ++ List.replicate 32 0)) = true :=
  new_ok_preemptOnce _ (mem_preemptOnce_10 (i := 32) (j := 32) (by decide) (by decide))

theorem badSchedule_mem : badSchedule ∈ preemptOnce 32 32 :=
  mem_preemptOnce_10 (i := 32) (j := 8) (by decide) (by decide)

/-- `createDir` under the schedule on which `createDirOld` fails -/
theorem new_ok_badSchedule : goodC (OConc.run sNew badSchedule) = true :=
  new_ok_preemptOnce _ badSchedule_mem

/-- ALL interleavings of the critical window: both threads have made their first 7 calls (each is
about to call `create_dir("/c")` on the write layer); then EVERY interleaving of the next 5 calls
of each thread (write-layer `create_dir`, marker probe, marker removal, the first probes of
"/c/x" resp. "/c/y"); then both run to completion -/
def windowSchedules : List (List Nat) :=
  (interleavings 5 5).map fun mid =>
    List.replicate 7 0 ++ List.replicate 7 1 ++ mid ++ List.replicate 32 0 ++ List.replicate 32 1

example : windowSchedules.length = 252 := (List.length_map _).trans (length_interleavings 5 5)

/-- both threads are about to call `create_dir` of the write layer after the common prefix -/
example : (OConc.run sNew (List.replicate 7 0 ++ List.replicate 7 1)).threads.map Prog.label
    = ["create_dir", "create_dir"] := by decide +kernel

/-- over `createDir` every interleaving of the window ends well -/
theorem new_ok_window : windowSchedules.all (fun sc => goodC (OConc.run sNew sc)) = true :=
  sweepWindow_spec (s := sNew) (p := 7) (q := 7) (m := 32) (n := 32) (by decide +kernel)

/-- over `createDirOld` some interleaving of the window fails (T1's `create_dir("/c")` first, then T0's
five calls) -/
theorem old_fails_window : windowSchedules.any (fun sc => !goodC (OConc.run sOld sc)) = true :=
  List.any_eq_true.2 ⟨List.replicate 7 0 ++ List.replicate 7 1 ++ [1, 0, 0, 0, 0, 0, 1, 1, 1, 1] ++
    List.replicate 32 0 ++ List.replicate 32 1,
    List.mem_map.2 ⟨[1, 0, 0, 0, 0, 0, 1, 1, 1, 1], by decide +kernel, rfl⟩, by decide +kernel⟩

/-- over `createDirOld` some schedule of the family fails -/
theorem old_fails_some : ∃ sc ∈ preemptOnce 32 32, goodC (OConc.run sOld sc) = false :=
  ⟨badSchedule, badSchedule_mem, by simp [goodC, old_fails]⟩

end Vfs.C17

#print axioms Vfs.C17.small_step_is_createDirAll
#print axioms Vfs.C17.one_thread_alone
#print axioms Vfs.C17.overlay_create_dir_all_concurrent
#print axioms Vfs.C17.wC_instance
#print axioms Vfs.C17.old_fails
#print axioms Vfs.C17.new_ok_preemptOnce
#print axioms Vfs.C17.old_fails_some
#print axioms Vfs.C17.new_ok_window
#print axioms Vfs.C17.old_fails_window
