/-
  C18: the `walk_dir` agreement between EmbeddedFS and the physical folder, on the folder the
  model's own operations build.

  * `embedded_walk_matches_built_folder`: `embedded_walk_matches_physical_lk` (Props/C18Phys.lean:
    the walks of EmbeddedFS and of a physical leaf holding ANY map with duplicate-free keys and the
    lookups of `folderMap fl` agree) in the world `buildFolder 0 0 fl freshPhys` produces, whose map
    is such a one (`folder_built_nodup`, Props/C18Built.lean);
    `harnessFixture_walk_eval`: its instance for the harness fixture at the root with
    fuel 40, as one Boolean.
  NOT PROVED: the ORDER of the two walks is not compared (it differs: storage order of the built
  map against the embedded directory map; only Perm + ancestors-first on each side); the
  short-fuel sentinel is not restated here (it is `WkG.walk_from_dir`.2); non-directories are in
  `embedded_walk_nondir` (Props/C18Phys.lean), stated for `folderMap fl` itself only.
-/
import VfsModel.Props.C18Built
namespace Vfs.C18
open Vfs.Embedded

theorem embedded_walk_matches_built_folder (fl : List (Str × Bytes)) (hG : GoodFiles fl) :
    ∃ w m, buildFolder 0 0 fl freshPhys = (.ok (), w) ∧ PhysLeafAt w 0 m ∧
      FMap.NodupKeys m ∧ WF m ∧ (∀ k, m.find? k = (folderMap fl).find? k) ∧
      ∀ (cs : List Str), GoodCs cs → IsDirC fl cs → ∀ (idE idP fuel : Nat),
        ((folderMap fl).keys.filter (Wk.below (renderC cs))).length < fuel →
        ∃ LE LP : List Str,
          WkG.collect fuel (embVP fl idE (renderC cs)) w =
            (.ok (LE.map fun k => .ok (embVP fl idE k)), w) ∧
          WkG.collect fuel (physVP 0 idP (renderC cs)) w =
            (.ok (LP.map fun k => .ok (physVP 0 idP k)), w) ∧
          LE.Perm LP ∧ LE.Nodup ∧ LP.Nodup ∧
          (∀ k, k ∈ LE ↔ (folderMap fl).find? k ≠ none ∧ Wk.below (renderC cs) k = true) ∧
          LE.Pairwise (fun a b => Wk.below b a = false) ∧
          LP.Pairwise (fun a b => Wk.below b a = false) := by
  obtain ⟨w, m, h1, h2, h3, h4, h5⟩ := folder_built_nodup fl hG
  refine ⟨w, m, h1, h2, h3, h4, h5, ?_⟩
  intro cs hcs hd idE idP fuel hf
  exact embedded_walk_matches_physical_lk fl hG cs hcs hd w 0 m h2 h3 h5 idE idP fuel hf

theorem harnessFixture_walk_hyps :
    GoodFiles harnessFixture ∧ (GoodCs [] ∧ IsDirC harnessFixture []) ∧
    (GoodCs ["a".toList, "x".toList] ∧ IsDirC harnessFixture ["a".toList, "x".toList]) :=
  ⟨harnessFixture_good, ⟨by decide, isDirC_nil (by decide)⟩, by decide,
    ⟨("a/x/y.bin".toList, [8, 9]), by decide, "y.bin".toList, [], by decide⟩⟩

theorem harnessFixture_walk_root :
    ∃ (w : World) (fuel : Nat) (LE LP : List Str), buildFolder 0 0 harnessFixture freshPhys = (.ok (), w) ∧
      WkG.collect fuel (embVP harnessFixture 0 []) w =
        (.ok (LE.map fun k => .ok (embVP harnessFixture 0 k)), w) ∧
      WkG.collect fuel (physVP 0 0 []) w = (.ok (LP.map fun k => .ok (physVP 0 0 k)), w) ∧
      LE.Perm LP ∧ LE.Nodup := by
  obtain ⟨w, m, h1, _, _, _, _, hw⟩ := embedded_walk_matches_built_folder harnessFixture
    harnessFixture_good
  obtain ⟨LE, LP, a, b, c, d, _⟩ := hw [] harnessFixture_walk_hyps.2.1.1
    harnessFixture_walk_hyps.2.1.2 0 0 _ (Nat.lt_succ_self _)
  exact ⟨w, _, LE, LP, h1, a, b, c, d⟩

def okPaths : Res (List (Res VPath)) → Option (List Str)
  | .ok l => l.mapM (fun r => match r with | .ok v => some v.path | _ => none)
  | _ => none

/-- both walks succeeded with `.ok` items only, non-empty, the same set of paths -/
def sameSetB : Option (List Str) → Option (List Str) → Bool
  | some a, some b => a.length == b.length && a.length != 0 && a.all (b.contains ·) &&
      b.all (a.contains ·)
  | _, _ => false

theorem okPaths_map (vp : Str → VPath) (hvp : ∀ k, (vp k).path = k) (L : List Str) :
    okPaths (.ok (L.map fun k => .ok (vp k))) = some L := by
  unfold okPaths
  induction L with
  | nil => rfl
  | cons k L ih =>
    simp only [List.map_cons, List.mapM_cons, hvp] at ih ⊢
    rw [ih]
    rfl

theorem sameSetB_of_perm {a b : List Str} (h : a.Perm b) (hne : a ≠ []) :
    sameSetB (some a) (some b) = true := by
  simp only [sameSetB, h.length_eq, beq_self_eq_true, Bool.true_and, Bool.and_eq_true,
    bne_iff_ne, ne_eq, List.length_eq_zero_iff, List.all_eq_true, List.contains_iff_mem]
  exact ⟨⟨fun hb => hne (hb ▸ h).eq_nil, fun x hx => h.mem_iff.1 hx⟩,
    fun x hx => h.mem_iff.2 hx⟩

/-- the instance of `embedded_walk_matches_built_folder` at the root with fuel 40: the two listings
are permutations of each other, and "/ab" is in them -/
theorem harnessFixture_walk_eval :
    sameSetB
      (okPaths (WkG.collect 40 (embVP harnessFixture 0 [])
        (buildFolder 0 0 harnessFixture freshPhys).2).1)
      (okPaths (WkG.collect 40 (physVP 0 0 [])
        (buildFolder 0 0 harnessFixture freshPhys).2).1) = true := by
  obtain ⟨w, m, h1, _, _, _, _, hw⟩ := embedded_walk_matches_built_folder harnessFixture
    harnessFixture_good
  obtain ⟨LE, LP, a, b, c, _, _, hmem, _⟩ := hw [] harnessFixture_walk_hyps.2.1.1
    harnessFixture_walk_hyps.2.1.2 0 0 40 (by rw [harnessFixture_chars]; decide +kernel)
  have hroot : ['/', 'a', 'b'] ∈ LE := (hmem _).2 (by rw [harnessFixture_chars]; decide +kernel)
  rw [h1]
  change sameSetB (okPaths (WkG.collect 40 (embVP harnessFixture 0 (renderC [])) w).1)
    (okPaths (WkG.collect 40 (physVP 0 0 (renderC [])) w).1) = true
  rw [a, b, okPaths_map _ (fun _ => rfl), okPaths_map _ (fun _ => rfl)]
  exact sameSetB_of_perm c (List.ne_nil_of_mem hroot)

end Vfs.C18

#print axioms Vfs.C18.embedded_walk_matches_physical_lk
#print axioms Vfs.C18.folder_built_nodup
#print axioms Vfs.C18.embedded_walk_matches_built_folder
#print axioms Vfs.C18.harnessFixture_walk_root
#print axioms Vfs.C18.harnessFixture_walk_eval
