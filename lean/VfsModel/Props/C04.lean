/-
  C04 — Files return exactly the bytes that were written.
  Write sessions (create / append, with writes and seeks), publication on flush and drop, chunked
  reads with arbitrary buffer sizes, io::copy, metadata length. The cursor laws themselves are
  in Props/C14.lean; this file composes them into statements about file contents.
-/
import VfsModel.Props.C14
import VfsModel.Proofs.LeafSpec
import VfsModel.PathOps
namespace Vfs.C04
open Vfs.C14

/-- successive reads with buffer sizes `ns`: the chunks returned, and the handle afterwards -/
def chunks (r : RHandle) : List Nat → List Bytes × RHandle
  | [] => ([], r)
  | n :: ns =>
    match (r.read n).1 with
    | .ok b => ((chunks (r.read n).2 ns).1.cons b, (chunks (r.read n).2 ns).2)
    | _ => ([], r)

/-- for every sequence of buffer sizes, the concatenated chunks are exactly the next
`Σ sizes` bytes of the file (all of the rest once the sizes add up to it): nothing skipped,
repeated or reordered — this covers the 1-byte fast path of `ReadableFile::read` -/
theorem reader_chunks (r : RHandle) (ns : List Nat) (hg : Good r)
    (hlen : r.content.length < u64Max) :
    (chunks r ns).1.flatten = (r.content.drop r.pos).take ns.sum ∧
    (chunks r ns).2.content = r.content ∧ Good (chunks r ns).2 := by
  induction ns generalizing r with
  | nil => simp [chunks, hg]
  | cons n ns ih =>
    obtain ⟨h1, h2, h3⟩ := read_is_cursor r n hg hlen
    have hg' : Good (r.read n).2 := by rw [RHandle.read_eq r n hg hlen]; exact hg
    simp only [chunks, h1]
    obtain ⟨ih1, ih2, ih3⟩ := ih (r.read n).2 hg' (by rw [h3]; exact hlen)
    refine ⟨?_, by rw [ih2, h3], ih3⟩
    simp only [List.flatten_cons, ih1, h3, h2, List.sum_cons]
    unfold cursorRead
    rw [List.length_take, List.length_drop]
    rw [← List.drop_drop]
    have : ∀ (l : Bytes) (a b : Nat), l.take a ++ (l.drop (min a l.length)).take b = l.take (a + b) := by
      intro l a b
      by_cases ha : a ≤ l.length
      · rw [Nat.min_eq_left ha, List.take_add]
      · have hl : l.length ≤ a := by omega
        rw [Nat.min_eq_right hl, List.drop_length, List.take_nil, List.append_nil,
          List.take_of_length_le hl, List.take_of_length_le (by omega)]
    have := this (List.drop r.pos r.content) n ns.sum
    rw [List.length_drop] at this
    exact this

/-- reading the whole file with any positive buffer size returns exactly the content -/
theorem reader_whole_file (content : Bytes) (ns : List Nat) (hlen : content.length < u64Max)
    (hsum : content.length ≤ ns.sum) :
    (chunks { content := content, pos := 0 } ns).1.flatten = content := by
  have := (reader_chunks { content := content, pos := 0 } ns rfl hlen).1
  simp only [List.drop_zero] at this
  rw [this, List.take_of_length_le hsum]

theorem readToEnd_fresh (content : Bytes) :
    (RHandle.readToEnd { content := content, pos := 0 }).1 = .ok content := by
  simp [RHandle.readToEnd]

/-- one `write_all(bs)` on a freshly created in-memory handle buffers exactly `bs` -/
theorem create_session_exact (leaf : Nat) (key : Str) (bs : Bytes) (w : World) :
    ∃ h', ((WHandle.write { leaf := leaf, key := key, kind := .memFile, buf := [], pos := 0 } bs) w).1
        = .ok (bs.length, h') ∧ h'.buf = bs ∧ h'.pos = bs.length := by
  refine ⟨_, rfl, ?_, ?_⟩
  · exact cursorWrite_nil bs
  · simp

/-- append starts at the end of the existing bytes: the buffer becomes `old ++ bs` -/
theorem append_session_exact (leaf : Nat) (key : Str) (old bs : Bytes) (w : World) :
    ∃ h', ((WHandle.write { leaf := leaf, key := key, kind := .memFile, buf := old, pos := old.length } bs) w).1
        = .ok (bs.length, h') ∧ h'.buf = old ++ bs := by
  exact ⟨_, rfl, write_at_end old bs⟩

/-- the append handle handed out by the in-memory backend holds the file's bytes and is
positioned at their end -/
theorem mem_append_handle (m : FMap) (path : Str) (e : Entry) (h : m.find? path = some e)
    (hf : e.ftype = .file) : Mem.appendFile m path = .ok e.content := by
  simp [Mem.appendFile, h, hf]

/-- flush (and drop) publish exactly the buffer, and a reader opened afterwards sees it -/
theorem flush_publishes (m : FMap) (key : Str) (buf : Bytes) (e0 : Entry)
    (h0 : m.find? key = some e0) (hf0 : e0.ftype = .file) :
    ∃ r m', Mem.openFile (memPublish m key buf) key = (.ok r, m') ∧ r.content = buf ∧ r.pos = 0 := by
  obtain ⟨e, he, hc, hf⟩ := publish_exact m key buf e0 h0 hf0
  unfold Mem.openFile Mem.setAccessed
  simp only [he, FMap.find?_insert_self]
  simp [hf, hc]

/-- metadata reports the length of the published bytes -/
theorem metadata_len (m : FMap) (key : Str) (buf : Bytes) (e0 : Entry)
    (h0 : m.find? key = some e0) (hf0 : e0.ftype = .file) :
    ∃ md, Mem.metadata (memPublish m key buf) key = .ok md ∧ md.len = buf.length ∧ md.ftype = .file := by
  obtain ⟨e, he, hc, hf⟩ := publish_exact m key buf e0 h0 hf0
  exact ⟨e.meta, by simp [Mem.metadata, he], by simp [Entry.meta, hc], by simp [Entry.meta, hf]⟩

/-- a directory created by `create_dir` reports length 0 -/
theorem dir_len_zero (m : FMap) (path : Str) (m' : FMap)
    (h : Mem.createDir m path = (.ok (), m')) :
    ∃ md, Mem.metadata m' path = .ok md ∧ md.len = 0 ∧ md.ftype = .dir := by
  rw [Mem.createDir_eq] at h
  rw [← (onSlot_eq h).2, (Mem.createDirS_ok _ _ (onSlot_eq h).1).2.2]
  exact ⟨dirEntryNow.meta, by simp [Mem.metadata, Write.app], rfl, rfl⟩

/-- the physical backend reports length 0 for every directory -/
theorem phys_dir_len_zero (m : FMap) (path : Str) (md : Meta)
    (h : Phys.metadata m path = .ok md) (hd : md.ftype = .dir) : md.len = 0 := by
  unfold Phys.metadata at h
  split at h <;> try simp [fail] at h
  rename_i e _
  subst h
  simp [Entry.meta] at hd ⊢
  simp [hd]

/-- `io::copy` of a freshly opened reader into a freshly created in-memory writer, then drop:
the destination buffer is exactly the source bytes, whatever the copy buffer size -/
theorem copy_is_identity (content : Bytes) (leaf : Nat) (key selfPath : Str) (w : World) (l : Leaf)
    (hl : w.leaf? leaf = some l) :
    (VPath.ioCopyAndDrop { content := content, pos := 0 }
        { leaf := leaf, key := key, kind := .memFile, buf := [], pos := 0 } selfPath w)
      = (.ok (), w.setLeafFiles leaf (memPublish l.files key content)) := by
  simp [VPath.ioCopyAndDrop, RHandle.readToEnd, M.withPath, M.ret, Res.withPath, bind, M.bind,
    WHandle.write, WHandle.drop, WHandle.flush, hl, cursorWrite_nil]

example : (chunks { content := [1, 2, 3, 4, 5], pos := 0 } [2, 1, 7, 3]).1 = [[1, 2], [3], [4, 5], []] := by
  decide

end Vfs.C04
