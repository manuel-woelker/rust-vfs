/-
  C07 — AltrootFS is an exact and confined re-rooting.

  "Every operation on path q of an altroot filesystem rooted at directory P of another
  filesystem has the same outcome and the same effect as that operation on P/q of the
  underlying filesystem. No path expression — however many '..', absolute segments or odd
  characters it contains — lets any call read, create, change or remove anything outside P."

  Reading of the statement in the model:
    * P is the path string of the altroot's root `VfsPath`; it is canonical (`Canon`), as is
      every path string of a `VfsPath` (C06.join_canonical): `P = renderC ps`.
    * the paths q handed to the trait methods of the altroot by the `VfsPath` layer are the
      path strings of `VfsPath`s of the altroot filesystem; they are canonical too. "Path
      expressions" are the arguments of `VfsPath::join`; `join_never_escapes` shows that whatever
      the argument, the result is canonical and is mapped below P.
    * EXACT  (`altroot_path_append`, `altroot_exact_*`): each method on q IS (equal as a state
      transformer `World → Res × World`, so same outcome and same effect) the `VfsPath`
      operation on the path `P ++ q` of the root's filesystem.
    * CONFINED (`altroot_confined`, `altroot_confined_log`, `altroot_confined_strict`): the only
      calls that reach the root's filesystem carry canonical paths that have P as a
      component-wise prefix; the single exception is the parent probe (`exists`, `metadata` —
      observers) that `VfsPath::create_dir` / `create_file` issue when called on the altroot's
      own root "", which looks at the directory just above P and never mutates it.
    * `physical_get_path_confined`: below a `PhysicalFS`, a canonical path is appended to the
      host root directory (never replaces it, contains no ".." component).

  The hypothesis "q canonical" cannot be dropped for RAW trait calls: see `raw_call_escapes`.
  Helper lemmas live in Proofs/AltrootLemmas.lean.
-/
import VfsModel.Proofs.AltrootLemmas
import VfsModel.Proofs.LeafFrame
namespace Vfs.C07

/-- `"c1/c2/…".split('/')` (the argument `&path[1..]` that `AltrootFS::path` hands to `join`)
gives back the components -/
theorem split_tail (qs : List Str) (hne : qs ≠ []) (hqs : ∀ c ∈ qs, GoodComp c) :
    splitSlash ((renderC qs).drop 1) = qs :=
  splitSlash_drop_renderC qs hne (good_noSlash hqs)

theorem resolve_good (s qs : List Str) (hqs : ∀ c ∈ qs, GoodComp c) : resolve s qs = s ++ qs :=
  resolve_good_append s qs hqs

/-- For an altroot rooted at the canonical path `/p1/…/pn` and a canonical
argument `/q1/…/qm`, `AltrootFS::path` succeeds with the path `/p1/…/pn/q1/…/qm` of the same
filesystem (same `Arc`). Structure equality, for every filesystem value and identity. -/
theorem altroot_path_append (fs : FS) (id : Nat) (ps qs : List Str)
    (hps : ∀ c ∈ ps, GoodComp c) (hqs : ∀ c ∈ qs, GoodComp c) :
    Altroot.path { fs := fs, fsId := id, path := renderC ps } (renderC qs)
      = .ok { fs := fs, fsId := id, path := renderC ps ++ renderC qs } := by
  rw [Altroot.path_renderC _ ps qs rfl hps hqs, renderC_append]
  rfl

theorem altroot_path_canon (root : VPath) (q : Str) (hroot : Canon root.path) (hq : Canon q) :
    Altroot.path root q = .ok (root.withStr (root.path ++ q)) :=
  Altroot.path_canon root q hroot hq

theorem altroot_path_append' (root : VPath) (ps qs : List Str) (hroot : root.path = renderC ps)
    (hps : ∀ c ∈ ps, GoodComp c) (hqs : ∀ c ∈ qs, GoodComp c) :
    ∃ r, Altroot.path root (renderC qs) = .ok r ∧ r.path = renderC (ps ++ qs) ∧
      r.fs = root.fs ∧ r.fsId = root.fsId :=
  ⟨_, Altroot.path_renderC root ps qs hroot hps hqs, rfl, rfl, rfl⟩

/-- From a canonical path `q` of the altroot filesystem, joining ANY argument
string (any number of "..", leading or doubled '/', ".", any characters) either fails (then no
call is made at all) or yields a canonical `r = /r1/…/rk`, and the altroot maps `r` to the path
`/p1/…/pn/r1/…/rk` of the underlying filesystem: the altroot directory is a component-wise
prefix, and no component is "..", "." or empty. -/
theorem join_never_escapes (root : VPath) (ps : List Str) (hroot : root.path = renderC ps)
    (hps : ∀ c ∈ ps, GoodComp c) (q arg r : Str) (hq : Canon q)
    (hj : joinInternal q arg = .ok r) :
    Canon r ∧ Altroot.path root r = .ok (root.withStr (renderC ps ++ r)) ∧
      ∃ rs : List Str, (∀ c ∈ rs, GoodComp c) ∧ r = renderC rs ∧ ps <+: ps ++ rs ∧
        (∀ c ∈ ps ++ rs, GoodComp c) ∧
        Altroot.path root r = .ok (root.withStr (renderC (ps ++ rs))) := by
  have hr : Canon r := C06.join_canonical q arg r hq hj
  obtain ⟨rs, hrs, rfl⟩ := hr
  have hp := Altroot.path_renderC root ps rs hroot hps hrs
  refine ⟨⟨rs, hrs, rfl⟩, ?_, rs, hrs, rfl, List.prefix_append _ _, good_append hps hrs, hp⟩
  rw [hp, renderC_append]

def joinMany : Str → List Str → Res Str
  | q, [] => .ok q
  | q, a :: rest =>
    match joinInternal q a with
    | .ok r => joinMany r rest
    | .err k p => .err k p
    | .panic => .panic

theorem joinMany_canon (q : Str) (args : List Str) (r : Str) (hq : Canon q)
    (hj : joinMany q args = .ok r) : Canon r := by
  induction args generalizing q with
  | nil =>
    simp only [joinMany, Res.ok.injEq] at hj
    exact hj ▸ hq
  | cons a rest ih =>
    unfold joinMany at hj
    cases h1 : joinInternal q a with
    | ok r1 =>
      rw [h1] at hj
      exact ih r1 (C06.join_canonical q a r1 hq h1) hj
    | err k p => rw [h1] at hj; cases hj
    | panic => rw [h1] at hj; cases hj

/-- any number of joins, starting from the root `""` of the altroot filesystem or any other
canonical path of it, stays below the altroot directory -/
theorem joins_never_escape (root : VPath) (ps : List Str) (hroot : root.path = renderC ps)
    (hps : ∀ c ∈ ps, GoodComp c) (q : Str) (args : List Str) (r : Str) (hq : Canon q)
    (hj : joinMany q args = .ok r) :
    Canon r ∧ Altroot.path root r = .ok (root.withStr (renderC ps ++ r)) := by
  have hr := joinMany_canon q args r hq hj
  exact ⟨hr, by rw [Altroot.path_canon root r ⟨ps, hps, hroot⟩ hr, hroot]⟩

theorem vpath_join_canonical (a b : VPath) (arg : Str) (ha : Canon a.path)
    (hj : a.join arg = .ok b) : b.fs = a.fs ∧ b.fsId = a.fsId ∧ Canon b.path := by
  have h := VPath.join_fs a b arg hj
  refine ⟨h.1, h.2, ?_⟩
  unfold VPath.join at hj
  cases hi : joinInternal a.path arg with
  | ok r =>
    rw [hi] at hj
    simp only [Res.map, Res.ok.injEq] at hj
    subst hj
    exact C06.join_canonical a.path arg r ha hi
  | err k p => rw [hi] at hj; cases hj
  | panic => rw [hi] at hj; cases hj

/-- The hypothesis "q canonical" is necessary for RAW calls of the trait methods (calls that do
not come from a `VfsPath`, whose strings are always canonical): `AltrootFS::path` strips one
leading '/' and joins, and `join` restarts from the root of the INNER filesystem on a leading
'/', and climbs on "..". (The Rust source says so itself: "should only be used for convenience,
NOT FOR SECURITY".) -/
theorem raw_call_escapes :
    (Altroot.path { fs := default, fsId := 0, path := "/r".toList } "//etc".toList).map (·.path)
        = .ok "/etc".toList ∧
    (Altroot.path { fs := default, fsId := 0, path := "/r".toList } "/../etc".toList).map (·.path)
        = .ok "/etc".toList := by
  decide +kernel

section exact
variable (root : VPath) (q : Str) (hroot : Canon root.path) (hq : Canon q)
include hroot hq

/-- every forwarding method is `self.path(q)?` followed by the `VfsPath` operation: on canonical
`q` it is that operation on `P ++ q` -/
theorem altroot_exact_bind {α} (f : VPath → M α) :
    (M.ret (Altroot.path root q) >>= f) = f (root.withStr (root.path ++ q)) :=
  Altroot.run_method root q hroot hq f

theorem altroot_exact_createDir :
    (Altroot.fs root).createDir q = (root.withStr (root.path ++ q)).createDir :=
  altroot_exact_bind root q hroot hq fun v => v.createDir

theorem altroot_exact_openFile :
    (Altroot.fs root).openFile q = (root.withStr (root.path ++ q)).openFile :=
  altroot_exact_bind root q hroot hq fun v => v.openFile

theorem altroot_exact_createFile :
    (Altroot.fs root).createFile q = (root.withStr (root.path ++ q)).createFile :=
  altroot_exact_bind root q hroot hq fun v => v.createFile

theorem altroot_exact_appendFile :
    (Altroot.fs root).appendFile q = (root.withStr (root.path ++ q)).appendFile :=
  altroot_exact_bind root q hroot hq fun v => v.appendFile

theorem altroot_exact_metadata :
    (Altroot.fs root).metadata q = (root.withStr (root.path ++ q)).metadata :=
  altroot_exact_bind root q hroot hq fun v => v.metadata

theorem altroot_exact_removeFile :
    (Altroot.fs root).removeFile q = (root.withStr (root.path ++ q)).removeFile :=
  altroot_exact_bind root q hroot hq fun v => v.removeFile

theorem altroot_exact_removeDir :
    (Altroot.fs root).removeDir q = (root.withStr (root.path ++ q)).removeDir :=
  altroot_exact_bind root q hroot hq fun v => v.removeDir

theorem altroot_exact_setCreationTime (t : Int) :
    (Altroot.fs root).setCreationTime q t = (root.withStr (root.path ++ q)).setCreationTime t :=
  altroot_exact_bind root q hroot hq fun v => v.setCreationTime t

theorem altroot_exact_setModificationTime (t : Int) :
    (Altroot.fs root).setModificationTime q t
      = (root.withStr (root.path ++ q)).setModificationTime t :=
  altroot_exact_bind root q hroot hq fun v => v.setModificationTime t

theorem altroot_exact_setAccessTime (t : Int) :
    (Altroot.fs root).setAccessTime q t = (root.withStr (root.path ++ q)).setAccessTime t :=
  altroot_exact_bind root q hroot hq fun v => v.setAccessTime t

theorem altroot_exact_exists :
    (Altroot.fs root).exists_ q = (root.withStr (root.path ++ q)).exists_ := by
  simp only [Altroot.fs, Altroot.path_canon root q hroot hq]

/-- `read_dir`: the listing of `P ++ q`, each child path reduced to its file name -/
theorem altroot_exact_readDir :
    (Altroot.fs root).readDir q = (do
      let l ← (root.withStr (root.path ++ q)).readDir
      pure (l.map fun c => filenameInternal c.path)) :=
  altroot_exact_bind root q hroot hq fun v => do
    let l ← v.readDir
    pure (l.map fun (c : VPath) => filenameInternal c.path)

/-- `read_dir` spelled out against the trait method of the underlying filesystem: same world
transformation; on success the names it returned (reduced to what follows their last '/': the
names themselves when they contain none); on failure the same error kind, labelled `P ++ q` -/
theorem altroot_exact_readDir_run (w : World) :
    (Altroot.fs root).readDir q w =
      match root.fs.readDir (root.path ++ q) w with
      | (.ok names, w') => (.ok (names.map filenameInternal), w')
      | (.err k _, w') => (.err k (some (root.path ++ q)), w')
      | (.panic, w') => (.panic, w') := by
  rw [altroot_exact_readDir root q hroot hq]
  show M.bind (M.bind (M.withPath _ (root.fs.readDir (root.path ++ q))) _) _ w = _
  unfold M.bind M.withPath
  cases hres : root.fs.readDir (root.path ++ q) w with
  | mk r w' =>
    cases r with
    | ok names =>
      simp only [Res.withPath, VPath.withStr, Pure.pure, M.pure, List.map_map]
      congr 2
      apply List.map_congr_left
      intro n _
      show filenameInternal ((root.path ++ q) ++ '/' :: n) = filenameInternal n
      unfold filenameInternal
      induction (root.path ++ q) with
      | nil =>
        by_cases hs : '/' ∈ n
        · simp [afterLast, hs]
        · simp [afterLast, hs, afterLast_no_delim '/' n hs]
      | cons c cs ih => simp [afterLast, ih]
    | err k p => rfl
    | panic => rfl

theorem altroot_exact_readDir_names (w w' : World) (names : List Str)
    (hrun : root.fs.readDir (root.path ++ q) w = (.ok names, w'))
    (hn : ∀ n ∈ names, '/' ∉ n) : (Altroot.fs root).readDir q w = (.ok names, w') := by
  rw [altroot_exact_readDir_run root q hroot hq w, hrun]
  simp only
  congr 2
  conv => rhs; rw [← List.map_id names]
  apply List.map_congr_left
  intro n hm
  exact afterLast_no_delim '/' n (hn n hm)

/-- `copy_file`: for canonical source and canonical non-empty destination, the `VfsPath`
copy between `P ++ s` and `P ++ d` -/
theorem altroot_exact_copyFile (d : Str) (hd : Canon d) (hne : d ≠ []) :
    (Altroot.fs root).copyFile q d
      = (root.withStr (root.path ++ q)).copyFile (root.withStr (root.path ++ d)) := by
  simp only [Altroot.fs, if_neg hne]
  rw [altroot_exact_bind root q hroot hq]
  exact altroot_exact_bind root d hroot hd _

omit hroot hq in
/-- `copy_file` onto the altroot's own root "" is refused without any call -/
theorem altroot_copyFile_root : (Altroot.fs root).copyFile q [] = M.failK .notSupported := by
  simp only [Altroot.fs, if_pos]

omit hroot hq in
/-- `move_file` / `move_dir` are the trait defaults (`NotSupported`): no call at all -/
theorem altroot_move_unsupported (d : Str) :
    (Altroot.fs root).moveFile q d = M.failK .notSupported ∧
    (Altroot.fs root).moveDir q d = M.failK .notSupported := ⟨rfl, rfl⟩

end exact

/-- `PhysicalFS::get_path` (model `physGetPath` in Proofs/AltrootLemmas.lean:
strip one leading '/', then `PathBuf::join`, where an absolute argument REPLACES the base) on a
canonical path `/c1/…/cn`: the argument handed to `join` is the relative string `c1/…/cn`, so
it is APPENDED to the host root directory after a separator (`pathSep root` is "/" unless
`root` is empty or already ends in '/'). For the root `""` the result is the host root
directory followed by that separator (`PathBuf::join("")` appends a trailing separator).
The host root is a prefix of the result, and the appended part splits at '/' into exactly the
components `c1 … cn`: none is "..", "." or empty. -/
theorem physical_get_path_confined (root : Str) (cs : List Str) (hcs : ∀ c ∈ cs, GoodComp c) :
    physGetPath root (renderC cs) = root ++ pathSep root ++ (renderC cs).drop 1 ∧
    root <+: physGetPath root (renderC cs) ∧
    (cs ≠ [] → splitSlash ((renderC cs).drop 1) = cs) := by
  have h := physGetPath_renderC root cs hcs
  refine ⟨h, ?_, fun hne => split_tail cs hne hcs⟩
  rw [h, List.append_assoc]
  exact List.prefix_append _ _

theorem physical_get_path_confined' (root : Str) (cs : List Str) (hcs : ∀ c ∈ cs, GoodComp c)
    (hr : root ≠ []) (hl : root.getLast? ≠ some '/') :
    physGetPath root (renderC cs) = root ++ ['/'] ++ (renderC cs).drop 1 := by
  rw [physGetPath_renderC root cs hcs]
  unfold pathSep
  rw [if_neg (by simp [hr, hl])]

/-- the root `""` of the filesystem: the host root directory itself (with a trailing separator) -/
theorem physical_get_path_root (root : Str) : physGetPath root [] = root ++ pathSep root := by
  simp [physGetPath, pathBufJoin]

/-- why canonicity matters here too: a doubled leading '/' (which no `VfsPath` string has)
would make `PathBuf::join` replace the host root -/
example : physGetPath "/srv/data".toList "//etc/passwd".toList = "/etc/passwd".toList := by decide +kernel
example : physGetPath "/srv/data".toList "/a/b".toList = "/srv/data/a/b".toList := by decide +kernel
example : physGetPath "/srv/data".toList [] = "/srv/data/".toList := by decide +kernel

/-- **Confinement, general form.** Let the altroot be rooted at `/p1/…/pn` of a filesystem
`root.fs`, and let `I` be ANY invariant of the world that `root.fs` preserves whenever it is
called with a canonical path at or below `/p1/…/pn` (observers `exists`, `metadata`: also
with an ancestor directory of it). Then every method of the altroot, called with any canonical
path(s), preserves `I`, and so does every write handle it returns. In other words the altroot
issues no other call. `FS.PresAt`, `BelowC`, `Ancestor`: Proofs/AltrootLemmas.lean. -/
theorem altroot_confined {I : World → Prop} (root : VPath) (ps : List Str)
    (hroot : root.path = renderC ps) (hps : ∀ c ∈ ps, GoodComp c)
    (h : root.fs.PresAt I (BelowC ps) (Ancestor ps)) :
    (Altroot.fs root).PresAt I Canon (fun _ => False) :=
  Altroot.presAt root ps hroot hps h

/-- altroots nest: an altroot rooted in a directory of an altroot is confined to the outer one -/
theorem altroot_confined_nested {I : World → Prop} (root root2 : VPath) (ps ps2 : List Str)
    (hroot : root.path = renderC ps) (hps : ∀ c ∈ ps, GoodComp c)
    (h : root.fs.PresAt I (BelowC ps) (Ancestor ps))
    (hfs2 : root2.fs = Altroot.fs root) (hroot2 : root2.path = renderC ps2)
    (hps2 : ∀ c ∈ ps2, GoodComp c) :
    (Altroot.fs root2).PresAt I Canon (fun _ => False) := by
  apply Altroot.presAt root2 ps2 hroot2 hps2
  rw [hfs2]
  exact (Altroot.presAt root ps hroot hps h).mono (fun _ hb => hb.canon hps2)
    (fun _ ha => Or.inl (ha.canon hps2))

/-- `s` is `/p1/…/pn` or continues it after a '/' -/
def Below (ps : List Str) (s : Str) : Prop :=
  ∃ rest, s = renderC ps ++ rest ∧ (rest = [] ∨ rest.head? = some '/')

theorem below_of_belowC {ps : List Str} {s : Str} (h : BelowC ps s) : Below ps s := by
  obtain ⟨qs, _, rfl⟩ := h
  refine ⟨renderC qs, renderC_append _ _, ?_⟩
  cases qs with
  | nil => left; rfl
  | cons c cs => right; simp

/-- the ghost log confines the calls tagged `t` to `/p1/…/pn`: every such entry carries a path
at or below it — or is the observing parent probe (`exists` / `metadata`) of an ancestor -/
def LogBelow (t : Nat) (ps : List Str) (w : World) : Prop :=
  ∀ e ∈ w.log, e.tag = t →
    (∃ rest, e.path = renderC ps ++ rest ∧ (rest = [] ∨ rest.head? = some '/')) ∨
    (e.method.mutating = false ∧ (e.method = .exists_ ∨ e.method = .metadata) ∧
      ∃ k, e.path = renderC (ps.take k))

/-- stronger: paths are canonical and component-wise below; the second path of a two-path call
(`copy_file`) is below as well; the probe carries no second path -/
def EntryConfined (ps : List Str) (e : LogEntry) : Prop :=
  (BelowC ps e.path ∧ (e.path2 = [] ∨ BelowC ps e.path2)) ∨
  ((e.method = .exists_ ∨ e.method = .metadata) ∧ Ancestor ps e.path ∧ e.path2 = [])

def LogConfined (t : Nat) (ps : List Str) (w : World) : Prop :=
  ∀ e ∈ w.log, e.tag = t → EntryConfined ps e

theorem LogConfined.logBelow {t : Nat} {ps : List Str} {w : World} (h : LogConfined t ps w) :
    LogBelow t ps w := by
  intro e he ht
  rcases h e he ht with ⟨hb, _⟩ | ⟨hm, ha, _⟩
  · exact Or.inl (below_of_belowC hb)
  · refine Or.inr ⟨?_, hm, ha⟩
    rcases hm with hm | hm <;> rw [hm] <;> rfl

def LogAll (t : Nat) (P : LogEntry → Prop) (w : World) : Prop := ∀ e ∈ w.log, e.tag = t → P e

/-- the entries an altroot rooted at `ps` is allowed to produce satisfy `P` -/
structure Allows (t : Nat) (ps : List Str) (P : LogEntry → Prop) : Prop where
  below : ∀ m p, BelowC ps p → P { tag := t, method := m, path := p }
  probe : ∀ m p, m = .exists_ ∨ m = .metadata → Ancestor ps p →
    P { tag := t, method := m, path := p }
  two : ∀ m s d, BelowC ps s → BelowC ps d → P { tag := t, method := m, path := s, path2 := d }

theorem logged {α} {t : Nat} {P : LogEntry → Prop} {m : Method} {p p2 : Str} {x : M α}
    (h : P { tag := t, method := m, path := p, path2 := p2 }) (hx : Preserves (LogAll t P) x) :
    Preserves (LogAll t P) (logCall t m p p2 >>= fun _ => x) := by
  refine Preserves.bind ⟨fun w hw => ?_⟩ (fun _ => hx)
  unfold logCall LogAll at *
  intro e he
  simp only [List.mem_append, List.mem_singleton] at he
  rcases he with he | rfl
  · exact hw e he
  · exact fun _ => h

theorem recordFS_presAt (t : Nat) (ps : List Str) (P : LogEntry → Prop) (hP : Allows t ps P)
    (inner : FS) (hi : inner.AllPreserve (LogAll t P)) :
    (recordFS t inner).PresAt (LogAll t P) (BelowC ps) (Ancestor ps) where
  readDir p hp := logged (hP.below _ p hp) (hi.readDir p)
  createDir p hp := logged (hP.below _ p hp) (hi.createDir p)
  openFile p hp := logged (hP.below _ p hp) (hi.openFile p)
  createFile p hp := logged (hP.below _ p hp) (hi.createFile p)
  appendFile p hp := logged (hP.below _ p hp) (hi.appendFile p)
  metadata p hp := logged (hp.elim (hP.below _ p) (hP.probe _ p (Or.inr rfl))) (hi.metadata p)
  setCreationTime p x hp := logged (hP.below _ p hp) (hi.setCreationTime p x)
  setModificationTime p x hp := logged (hP.below _ p hp) (hi.setModificationTime p x)
  setAccessTime p x hp := logged (hP.below _ p hp) (hi.setAccessTime p x)
  exists_ p hp := logged (hp.elim (hP.below _ p) (hP.probe _ p (Or.inl rfl))) (hi.exists_ p)
  removeFile p hp := logged (hP.below _ p hp) (hi.removeFile p)
  removeDir p hp := logged (hP.below _ p hp) (hi.removeDir p)
  copyFile s d hs hd := logged (hP.two _ s d hs hd) (hi.copyFile s d)
  moveFile s d hs hd := logged (hP.two _ s d hs hd) (hi.moveFile s d)
  moveDir s d hs hd := logged (hP.two _ s d hs hd) (hi.moveDir s d)
  createHandle p _ := Returns.bind (fun _ => hi.createHandle p)
  appendHandle p _ := Returns.bind (fun _ => hi.appendHandle p)

theorem allows_confined (t : Nat) (ps : List Str) : Allows t ps (EntryConfined ps) where
  below _ _ hp := Or.inl ⟨hp, Or.inl rfl⟩
  probe _ _ hm ha := Or.inr ⟨hm, ha, rfl⟩
  two _ _ _ hs hd := Or.inl ⟨hs, Or.inr hd⟩

theorem allows_below (t : Nat) (ps : List Str) :
    Allows t ps (fun e =>
      (∃ rest, e.path = renderC ps ++ rest ∧ (rest = [] ∨ rest.head? = some '/')) ∨
      (e.method.mutating = false ∧ (e.method = .exists_ ∨ e.method = .metadata) ∧
        ∃ k, e.path = renderC (ps.take k))) where
  below _ _ hp := Or.inl (below_of_belowC hp)
  probe m _ hm ha := Or.inr ⟨by rcases hm with hm | hm <;> rw [hm] <;> rfl, hm, ha⟩
  two _ _ _ hs _ := Or.inl (below_of_belowC hs)

theorem leafFS_logAll (t i : Nat) (P : LogEntry → Prop) : (leafFS i).AllPreserve (LogAll t P) :=
  leafFS_all_preserve i (fun w f h => by unfold LogAll World.setLeafFiles at *; exact h)

/-- confinement for any entry-wise log invariant `P` that admits the entries an altroot rooted at
`/p1/…/pn` may produce (`Allows`): the altroot over a recording wrapper keeps `LogAll t P` -/
theorem altroot_confined_logAll (t : Nat) (ps : List Str) (P : LogEntry → Prop)
    (hP : Allows t ps P) (root : VPath) (inner : FS) (hfs : root.fs = recordFS t inner)
    (hroot : root.path = renderC ps) (hps : ∀ c ∈ ps, GoodComp c)
    (hi : inner.AllPreserve (LogAll t P)) :
    (Altroot.fs root).PresAt (LogAll t P) Canon (fun _ => False) := by
  apply Altroot.presAt root ps hroot hps
  rw [hfs]
  exact recordFS_presAt t ps P hP inner hi

/-- **Confinement on the ghost call log.** The altroot is rooted at `/p1/…/pn` of a
recording wrapper (tag `t`) around an arbitrary filesystem `inner` that itself keeps the log
confined (a leaf; another recorded stack; …). Then every method of the altroot — all 13
forwarding methods, `copy_file` with both paths, `move_file` / `move_dir` (which make no call)
— called with canonical path(s), keeps `LogBelow t ps`; and so does every write through the
handles returned by `create_file` / `append_file`. Whether the call succeeds, fails or panics. -/
theorem altroot_confined_log (t : Nat) (ps : List Str) (root : VPath) (inner : FS)
    (hfs : root.fs = recordFS t inner) (hroot : root.path = renderC ps)
    (hps : ∀ c ∈ ps, GoodComp c) (hi : inner.AllPreserve (LogBelow t ps)) :
    (Altroot.fs root).PresAt (LogBelow t ps) Canon (fun _ => False) :=
  altroot_confined_logAll t ps _ (allows_below t ps) root inner hfs hroot hps hi

/-- the same for the stronger log invariant `LogConfined` (canonical, component-wise below,
second path of `copy_file` included) -/
theorem altroot_confined_strict (t : Nat) (ps : List Str) (root : VPath) (inner : FS)
    (hfs : root.fs = recordFS t inner) (hroot : root.path = renderC ps)
    (hps : ∀ c ∈ ps, GoodComp c) (hi : inner.AllPreserve (LogConfined t ps)) :
    (Altroot.fs root).PresAt (LogConfined t ps) Canon (fun _ => False) :=
  altroot_confined_logAll t ps _ (allows_confined t ps) root inner hfs hroot hps hi

section spelled
variable (t : Nat) (ps : List Str) (root : VPath) (inner : FS)
  (hfs : root.fs = recordFS t inner) (hroot : root.path = renderC ps)
  (hps : ∀ c ∈ ps, GoodComp c) (hi : inner.AllPreserve (LogBelow t ps))
  (q : Str) (hq : Canon q)
include hfs hroot hps hi hq

theorem altroot_confined_log_readDir : Preserves (LogBelow t ps) ((Altroot.fs root).readDir q) :=
  (altroot_confined_log t ps root inner hfs hroot hps hi).readDir q hq
theorem altroot_confined_log_createDir :
    Preserves (LogBelow t ps) ((Altroot.fs root).createDir q) :=
  (altroot_confined_log t ps root inner hfs hroot hps hi).createDir q hq
theorem altroot_confined_log_openFile :
    Preserves (LogBelow t ps) ((Altroot.fs root).openFile q) :=
  (altroot_confined_log t ps root inner hfs hroot hps hi).openFile q hq
theorem altroot_confined_log_createFile :
    Preserves (LogBelow t ps) ((Altroot.fs root).createFile q) :=
  (altroot_confined_log t ps root inner hfs hroot hps hi).createFile q hq
theorem altroot_confined_log_appendFile :
    Preserves (LogBelow t ps) ((Altroot.fs root).appendFile q) :=
  (altroot_confined_log t ps root inner hfs hroot hps hi).appendFile q hq
theorem altroot_confined_log_metadata :
    Preserves (LogBelow t ps) ((Altroot.fs root).metadata q) :=
  (altroot_confined_log t ps root inner hfs hroot hps hi).metadata q (Or.inl hq)
theorem altroot_confined_log_setCreationTime (x : Int) :
    Preserves (LogBelow t ps) ((Altroot.fs root).setCreationTime q x) :=
  (altroot_confined_log t ps root inner hfs hroot hps hi).setCreationTime q x hq
theorem altroot_confined_log_setModificationTime (x : Int) :
    Preserves (LogBelow t ps) ((Altroot.fs root).setModificationTime q x) :=
  (altroot_confined_log t ps root inner hfs hroot hps hi).setModificationTime q x hq
theorem altroot_confined_log_setAccessTime (x : Int) :
    Preserves (LogBelow t ps) ((Altroot.fs root).setAccessTime q x) :=
  (altroot_confined_log t ps root inner hfs hroot hps hi).setAccessTime q x hq
theorem altroot_confined_log_exists :
    Preserves (LogBelow t ps) ((Altroot.fs root).exists_ q) :=
  (altroot_confined_log t ps root inner hfs hroot hps hi).exists_ q (Or.inl hq)
theorem altroot_confined_log_removeFile :
    Preserves (LogBelow t ps) ((Altroot.fs root).removeFile q) :=
  (altroot_confined_log t ps root inner hfs hroot hps hi).removeFile q hq
theorem altroot_confined_log_removeDir :
    Preserves (LogBelow t ps) ((Altroot.fs root).removeDir q) :=
  (altroot_confined_log t ps root inner hfs hroot hps hi).removeDir q hq
theorem altroot_confined_log_copyFile (d : Str) (hd : Canon d) :
    Preserves (LogBelow t ps) ((Altroot.fs root).copyFile q d) :=
  (altroot_confined_log t ps root inner hfs hroot hps hi).copyFile q d hq hd
theorem altroot_confined_log_handles :
    Returns ((Altroot.fs root).createFile q) (HandleOK (LogBelow t ps)) ∧
    Returns ((Altroot.fs root).appendFile q) (HandleOK (LogBelow t ps)) :=
  ⟨(altroot_confined_log t ps root inner hfs hroot hps hi).createHandle q hq,
   (altroot_confined_log t ps root inner hfs hroot hps hi).appendHandle q hq⟩

end spelled

def exRoot : VPath := { fs := recordFS 0 (leafFS 0), fsId := 1, path := "/r".toList }
def exPs : List Str := ["r".toList]

example : (∀ c ∈ exPs, GoodComp c) ∧ exRoot.path = renderC exPs ∧ Canon exRoot.path :=
  ⟨by decide, by decide, exPs, by decide, by decide⟩
example : Canon "/a/b".toList := ⟨["a".toList, "b".toList], by decide, by decide⟩
example : (Altroot.path exRoot "/a/b".toList).map (·.path) = .ok "/r/a/b".toList := by decide +kernel
/-- hostile join arguments from a canonical path of the altroot filesystem -/
example : joinInternal "/a".toList "../../../../etc/passwd".toList = .ok "/etc/passwd".toList ∧
    (Altroot.path exRoot "/etc/passwd".toList).map (·.path) = .ok "/r/etc/passwd".toList := by
  decide +kernel
example : joinInternal "/a".toList "//x/./..//..".toList = .ok [] ∧
    (Altroot.path exRoot []).map (·.path) = .ok "/r".toList := by
  decide +kernel

example : exRoot.fs = recordFS 0 (leafFS 0) ∧ exRoot.path = renderC exPs ∧
    (∀ c ∈ exPs, GoodComp c) ∧ (leafFS 0).AllPreserve (LogBelow 0 exPs) ∧
    (leafFS 0).AllPreserve (LogConfined 0 exPs) :=
  ⟨rfl, by decide, by decide, leafFS_logAll 0 0 _, leafFS_logAll 0 0 _⟩

example : (Altroot.fs exRoot).PresAt (LogBelow 0 exPs) Canon (fun _ => False) :=
  altroot_confined_log 0 exPs exRoot (leafFS 0) rfl (by decide) (by decide) (leafFS_logAll 0 0 _)

example : ({ fs := leafFS 0, fsId := 1, path := "/r".toList } : VPath).fs.PresAt
    (LogBelow 0 exPs) (BelowC exPs) (Ancestor exPs) :=
  (leafFS_logAll 0 0 _).presAt _ _

/-- the invariant is not trivially true: it starts true and a call outside "/r" breaks it -/
example : LogBelow 0 exPs { leaves := [] } := by
  intro e he; simp at he
example : ¬ LogBelow 0 exPs
    { leaves := [], log := [{ tag := 0, method := .removeFile, path := "/etc".toList }] } := by
  intro h
  rcases h _ (List.mem_singleton.2 rfl) rfl with ⟨rest, he, _⟩ | ⟨hm, _⟩
  · simp [exPs] at he
  · cases hm

/-- a concrete run on a memory leaf holding the directories "" and "/r": the recorded calls of
`create_dir("/a")` through the altroot are the parent probe of "/r" and `create_dir("/r/a")`;
`create_dir("")` probes the directory above "/r" with the two observers (the second disjunct of
`LogBelow`) and then asks for "/r" itself -/
def exDir : Entry :=
  { ftype := .dir, content := [], created := .now, modified := .unset, accessed := .unset }
def exWorld : World :=
  { leaves := [{ kind := .mem, files := [("/r".toList, exDir), ([], exDir)] }] }

example : ((Altroot.fs exRoot).createDir "/a".toList exWorld).1 = .ok () ∧
    (((Altroot.fs exRoot).createDir "/a".toList exWorld).2.log.map fun e => (e.method, e.path))
      = [(.exists_, "/r".toList), (.metadata, "/r".toList), (.createDir, "/r/a".toList)] := by
  decide +kernel
example : (((Altroot.fs exRoot).createDir [] exWorld).2.log.map fun e => (e.method, e.path))
    = [(.exists_, []), (.metadata, []), (.createDir, "/r".toList)] := by decide

end Vfs.C07
