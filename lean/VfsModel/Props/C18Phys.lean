/-
  C18 as a LOCK-STEP theorem: EmbeddedFS (`Embedded.fs (Embedded.new fl)`) against the physical
  model (`leafFS i` on a `.phys` leaf) holding the same folder `folderMap fl`. Continued in
  Props/C18PhysOps.lean (mutators, the folder built by the model's operations, fixture).

  * `embedded_matches_physical` (VfsPath level): `exists` equal; `metadata` same type and length;
    `read_dir` same SET of child paths (`Perm`, duplicate-free); `open_file`+`read_to_end` same
    bytes (non-directories); the checked read of `read_to_string` same for every path; no call
    changes the world. Errors are compared by canonical class `ErrKind.cls` (`SameRes`).
    It rests on `classify`: every canonical path not below an embedded file is a file, a directory
    or absent, with the four observer answers of BOTH filesystems computed (`Kind`).
  * `embedded_walk_matches_physical`: both filesystems are `WkG.TreeView`s of `folderMap fl`
    (`embedded_treeView`, `phys_treeView`), hence collected `walk_dir` from any directory yields the
    same set of paths, each once, ancestors first on both sides, both worlds unchanged. It is the
    case `m = folderMap fl` of `embedded_walk_matches_physical_lk`: the leaf may hold ANY map with
    duplicate-free keys and the lookups of `folderMap fl` (its well-formedness follows).
  * The exceptions, exactly: `open_dir_differs`, `below_file_differs` (+ `_vpath`),
    `empty_folder_root_differs`. By design and not exceptions of the theorem: timestamps differ
    (embedded files report created = modified = now, accessed = none; directories no times);
    error KINDS inside one class differ (`read_dir` of a file is `Other` embedded, `IoError`
    physical).
  HYPOTHESES: `GoodFiles fl`; the path is `renderC cs` with `GoodCs cs` (everything `join`
  produces: `goodCs_of_join` in C18PhysOps); not below an embedded file (`¬ BelowFile fl p`); not
  the root of the empty folder (`fl ≠ [] ∨ cs ≠ []`); `PhysLeafAt w i (folderMap fl)`.
  Non-canonical strings are outside on purpose: the embedded `normalize_path` drops the first
  character whatever it is ("xa.txt" opens a.txt; witness in C18PhysOps).
  NOT PROVED HERE: that the model's operations build `folderMap fl` (`folder_built`,
  Props/C18Built.lean). Not covered anywhere: the async port; seek / partial reads on the opened
  handle (the handles are compared as values: equal content and position for files).
-/
import VfsModel.Props.C18
import VfsModel.Props.C05Walk
import VfsModel.Proofs.PhysLemmas
namespace Vfs.C18
open Vfs.Embedded

/-- what the rust-embed macro guarantees about the list `(relative path, bytes)` -/
def GoodFiles (fl : List (Str × Bytes)) : Prop := FolderLike fl

instance (fl : List (Str × Bytes)) : Decidable (GoodFiles fl) := by
  unfold GoodFiles; exact inferInstance

/-- a file written once by a create session on the host -/
def fileEntry (b : Bytes) : Entry :=
  { ftype := .file, content := b, created := .now, modified := .now, accessed := .now }

def dirKeysRaw (fl : List (Str × Bytes)) : List Str :=
  fl.flatMap fun f => (List.range (splitSlash f.1).length).map fun i =>
    renderC ((splitSlash f.1).take i)

def dirKeys (fl : List (Str × Bytes)) : List Str := WkG.dedup ([] :: dirKeysRaw fl)

def fileKVs (fl : List (Str × Bytes)) : FMap := fl.map fun f => ('/' :: f.1, fileEntry f.2)

/-- the physical folder holding exactly the files `fl`: the root, every implied directory once,
every file under "/" ++ its relative path -/
def folderMap (fl : List (Str × Bytes)) : FMap :=
  (dirKeys fl).map (fun k => (k, dirEntryNow)) ++ fileKVs fl

theorem find?_constMap_append (l : List Str) (e : Entry) (m : FMap) (k : Str) :
    FMap.find? (l.map (fun k => (k, e)) ++ m) k = if k ∈ l then some e else m.find? k := by
  induction l with
  | nil => simp
  | cons a l ih =>
    simp only [List.map_cons, List.cons_append, FMap.find?_cons, ih, List.mem_cons]
    by_cases h : a = k
    · simp [h]
    · have : ¬ k = a := fun e => h e.symm
      simp [h, this]

theorem find?_fileKVs_slash (fl : List (Str × Bytes)) (r : Str) :
    (fileKVs fl).find? ('/' :: r) = (fileGet? fl r).map fileEntry := by
  induction fl with
  | nil => rfl
  | cons f rest ih =>
    obtain ⟨k, b⟩ := f
    unfold fileKVs at ih ⊢
    simp only [List.map_cons, FMap.find?_cons, fileGet?, List.cons.injEq, true_and]
    by_cases h : k = r
    · simp [h]
    · simp [h, ih]

theorem find?_fileKVs_nil (fl : List (Str × Bytes)) : (fileKVs fl).find? [] = none := by
  induction fl with
  | nil => rfl
  | cons f rest ih =>
    unfold fileKVs at ih ⊢
    simp only [List.map_cons, FMap.find?_cons]
    rw [if_neg (by simp)]
    exact ih

theorem find?_fileKVs_some (fl : List (Str × Bytes)) (k : Str) (e : Entry)
    (h : (fileKVs fl).find? k = some e) :
    ∃ f b, k = '/' :: f ∧ (f, b) ∈ fl ∧ fileGet? fl f = some b ∧ e = fileEntry b := by
  have hk : k ∈ (fileKVs fl).keys := (FMap.mem_keys_iff _ _).2 ⟨e, h⟩
  unfold fileKVs FMap.keys at hk
  simp only [List.map_map, List.mem_map, Function.comp] at hk
  obtain ⟨g, _, rfl⟩ := hk
  rw [find?_fileKVs_slash] at h
  cases hg : fileGet? fl g.1 with
  | none => rw [hg] at h; cases h
  | some b =>
    rw [hg] at h
    simp only [Option.map_some, Option.some.injEq] at h
    exact ⟨g.1, b, rfl, fileGet?_some_mem fl _ _ hg, hg, h.symm⟩

theorem folderMap_find? (fl : List (Str × Bytes)) (k : Str) :
    (folderMap fl).find? k =
      if k ∈ dirKeys fl then some dirEntryNow else (fileKVs fl).find? k :=
  find?_constMap_append _ _ _ _

theorem mem_dirKeys (fl : List (Str × Bytes)) (k : Str) :
    k ∈ dirKeys fl ↔ k = [] ∨
      ∃ f ∈ fl, ∃ pre x post, splitSlash f.1 = pre ++ x :: post ∧ k = renderC pre := by
  unfold dirKeys dirKeysRaw
  rw [WkG.mem_dedup, List.mem_cons]
  simp only [List.mem_flatMap, List.mem_map, List.mem_range]
  constructor
  · rintro (h | ⟨f, hf, i, hi, rfl⟩)
    · exact Or.inl h
    · exact Or.inr ⟨f, hf, _, _, _, split_at_index (splitSlash f.1) i hi, rfl⟩
  · rintro (h | ⟨f, hf, pre, x, post, hsp, rfl⟩)
    · exact Or.inl h
    · refine Or.inr ⟨f, hf, pre.length, by rw [hsp]; simp, ?_⟩
      rw [hsp]; simp

theorem nil_mem_dirKeys (fl : List (Str × Bytes)) : [] ∈ dirKeys fl :=
  (mem_dirKeys fl []).2 (Or.inl rfl)

theorem renderC_ne_nil {cs : List Str} (h : cs ≠ []) : renderC cs ≠ [] := by
  cases cs with
  | nil => exact absurd rfl h
  | cons c t => simp

theorem folderMap_wf (fl : List (Str × Bytes)) : WF (folderMap fl) := by
  have hdirfind : ∀ k, k ∈ dirKeys fl → (folderMap fl).find? k = some dirEntryNow := by
    intro k hk; rw [folderMap_find?, if_pos hk]
  have hpar : ∀ (f : Str × Bytes), f ∈ fl → ∀ l c rest, splitSlash f.1 = (l ++ [c]) ++ rest →
      '/' ∈ renderC (l ++ [c]) ∧ ∃ pe, (folderMap fl).find? (parentInternal (renderC (l ++ [c])))
        = some pe ∧ pe.ftype = .dir := by
    intro f hf l c rest hsp
    have hns : ∀ x ∈ l ++ [c], '/' ∉ x := by
      intro x hx
      have hx' : x ∈ splitSlash f.1 := by rw [hsp]; exact List.mem_append_left _ hx
      exact splitOnC_no_delim '/' f.1 x hx'
    refine ⟨slash_mem_renderC (by simp), dirEntryNow, ?_, rfl⟩
    rw [parentInternal_renderC _ hns, List.dropLast_concat]
    apply hdirfind
    exact (mem_dirKeys fl _).2 (Or.inr ⟨f, hf, l, c, rest, by rw [hsp]; simp, rfl⟩)
  refine ⟨⟨dirEntryNow, hdirfind [] (nil_mem_dirKeys fl), rfl⟩, ?_⟩
  intro k e h hk
  rw [folderMap_find?] at h
  split at h
  · rename_i hmem
    rcases (mem_dirKeys fl k).1 hmem with rfl | ⟨f, hf, pre, x, post, hsp, rfl⟩
    · exact absurd rfl hk
    · rcases List.eq_nil_or_concat pre with rfl | ⟨l, c, rfl⟩
      · exact absurd rfl hk
      · simp only [List.concat_eq_append] at hsp ⊢
        exact hpar f hf l c (x :: post) hsp
  · obtain ⟨f, b, rfl, hmem, _, _⟩ := find?_fileKVs_some fl k e h
    rw [← renderC_splitSlash f]
    rcases List.eq_nil_or_concat (splitSlash f) with h0 | ⟨l, c, h0⟩
    · exact absurd h0 (splitOnC_ne_nil _ _)
    · simp only [List.concat_eq_append] at h0
      have h0' : splitOnC '/' f = l ++ [c] := h0
      rw [h0']
      exact hpar (f, b) hmem l c [] (by simpa using h0)

theorem folderMap_nodupKeys (fl : List (Str × Bytes)) (hG : GoodFiles fl) :
    FMap.NodupKeys (folderMap fl) := by
  unfold FMap.NodupKeys folderMap FMap.keys fileKVs
  simp only [List.map_append, List.map_map, Function.comp_def, List.map_id']
  rw [List.nodup_append]
  refine ⟨WkG.nodup_dedup _, ?_, ?_⟩
  · have h := hG.2.1
    unfold List.Nodup at *
    rw [List.pairwise_map] at *
    exact h.imp (fun hab hc => hab (by simpa using hc))
  · intro a ha b hb hab
    subst hab
    simp only [List.mem_map] at hb
    obtain ⟨f, hf, rfl⟩ := hb
    rcases (mem_dirKeys fl _).1 ha with h | ⟨g, hg, pre, x, post, hsp, hk⟩
    · cases h
    · have hpre : pre ≠ [] := by intro e; subst e; simp at hk
      rw [renderC_eq pre hpre] at hk
      have hk' : f.1 = key pre := by simpa using hk
      have h1 := hG.dir_not_file g hg pre post x hsp
      rw [← hk', fileGet?_of_mem fl f.1 f.2 hG.2.1 hf] at h1
      cases h1

def NoSlash (cs : List Str) : Prop := ∀ c ∈ cs, '/' ∉ c

def GoodCs (cs : List Str) : Prop := ∀ c ∈ cs, c ≠ [] ∧ '/' ∉ c

instance (cs : List Str) : Decidable (GoodCs cs) := by unfold GoodCs; exact inferInstance

theorem GoodCs.noSlash {cs : List Str} (h : GoodCs cs) : NoSlash cs := fun c hc => (h c hc).2

theorem GoodCs.left {a b : List Str} (h : GoodCs (a ++ b)) : GoodCs a :=
  fun c hc => h c (List.mem_append_left _ hc)

theorem goodCs_split {fl : List (Str × Bytes)} (hG : GoodFiles fl) (f : Str × Bytes) (hf : f ∈ fl) :
    GoodCs (splitSlash f.1) :=
  fun c hc => ⟨hG.1 f hf c hc, splitOnC_no_delim '/' f.1 c hc⟩

theorem noSlash_split (s : Str) : NoSlash (splitSlash s) := splitOnC_no_delim '/' s

theorem key_ne_nil {cs : List Str} (h : GoodCs cs) (hne : cs ≠ []) : key cs ≠ [] := by
  cases cs with
  | nil => exact absurd rfl hne
  | cons c t =>
    have := (h c (by simp)).1
    simp [key, this]

theorem key_eq_iff {cs pre : List Str} (h : GoodCs cs) (h' : GoodCs pre) :
    key cs = key pre ↔ cs = pre := by
  constructor
  · intro hk
    by_cases hc : cs = []
    · subst hc
      by_cases hp : pre = []
      · exact hp.symm
      · exact absurd hk.symm (key_ne_nil h' hp)
    · have hp : pre ≠ [] := by
        intro e; subst e; exact key_ne_nil h hc hk
      apply C06.renderC_injective _ _ h.noSlash h'.noSlash
      rw [renderC_eq cs hc, renderC_eq pre hp, hk]
  · intro e; rw [e]

theorem splitSlash_key {cs : List Str} (h : NoSlash cs) (hne : cs ≠ []) :
    splitSlash (key cs) = cs := by
  apply C06.renderC_injective _ _ (noSlash_split _) h
  rw [renderC_splitSlash, renderC_eq cs hne]

def IsDirC (fl : List (Str × Bytes)) (cs : List Str) : Prop :=
  ∃ f ∈ fl, ∃ x post, splitSlash f.1 = cs ++ x :: post

theorem isDirC_nil {fl : List (Str × Bytes)} (h : fl ≠ []) : IsDirC fl [] := by
  cases fl with
  | nil => exact absurd rfl h
  | cons f rest =>
    cases hsp : splitSlash f.1 with
    | nil => exact absurd hsp (splitOnC_ne_nil _ _)
    | cons c post => exact ⟨f, by simp, c, post, by simpa using hsp⟩

theorem renderC_mem_dirKeys (fl : List (Str × Bytes)) (cs : List Str) (h : NoSlash cs) :
    renderC cs ∈ dirKeys fl ↔ cs = [] ∨ IsDirC fl cs := by
  rw [mem_dirKeys]
  constructor
  · rintro (h0 | ⟨f, hf, pre, x, post, hsp, hk⟩)
    · left
      cases cs with
      | nil => rfl
      | cons c t => simp at h0
    · right
      have hpre : NoSlash pre := fun c hc => noSlash_split f.1 c (by rw [hsp]; simp [hc])
      have := C06.renderC_injective _ _ h hpre hk
      subst this
      exact ⟨f, hf, x, post, hsp⟩
  · rintro (rfl | ⟨f, hf, x, post, hsp⟩)
    · exact Or.inl rfl
    · exact Or.inr ⟨f, hf, cs, x, post, hsp, rfl⟩

theorem folderMap_find?_dir (fl : List (Str × Bytes)) (cs : List Str) (h : NoSlash cs)
    (hd : cs = [] ∨ IsDirC fl cs) : (folderMap fl).find? (renderC cs) = some dirEntryNow := by
  rw [folderMap_find?, if_pos ((renderC_mem_dirKeys fl cs h).2 hd)]

theorem folderMap_find?_nodir (fl : List (Str × Bytes)) (cs : List Str) (h : NoSlash cs)
    (hne : cs ≠ []) (hd : ¬ IsDirC fl cs) :
    (folderMap fl).find? (renderC cs) = (fileGet? fl (key cs)).map fileEntry := by
  rw [folderMap_find?, if_neg (by rw [renderC_mem_dirKeys fl cs h]; simp [hne, hd]),
    renderC_eq cs hne, find?_fileKVs_slash]

theorem folderMap_find?_file {fl : List (Str × Bytes)} (hG : GoodFiles fl) (f : Str × Bytes)
    (hf : f ∈ fl) : (folderMap fl).find? ('/' :: f.1) = some (fileEntry f.2) := by
  have h2 := folderMap_find?_nodir fl (splitSlash f.1) (splitOnC_no_delim '/' f.1)
    (splitOnC_ne_nil _ _) (by
      rintro ⟨g, hg, x, post, hsp⟩
      have := hG.dir_not_file g hg _ post x hsp
      rw [key_splitSlash, fileGet?_of_mem fl f.1 f.2 hG.2.1 hf] at this
      cases this)
  rwa [renderC_splitSlash, key_splitSlash, fileGet?_of_mem fl f.1 f.2 hG.2.1 hf] at h2

theorem dirmap_some_of_isDirC (fl : List (Str × Bytes)) (cs : List Str) (hd : IsDirC fl cs) :
    ∃ ch, (new fl).directoryMap.get? (key cs) = some ch ∧ ch.Nodup := by
  obtain ⟨f, hf, x, post, hsp⟩ := hd
  obtain ⟨v, hv, _, hnd⟩ := children_complete fl f hf cs post x hsp
  exact ⟨v, hv, hnd⟩

theorem dirmap_none_of_not_isDirC (fl : List (Str × Bytes)) (hG : GoodFiles fl) (cs : List Str)
    (h : GoodCs cs) (hd : ¬ IsDirC fl cs) : (new fl).directoryMap.get? (key cs) = none :=
  dirmap_none fl _ fun g hg' pre x post hsp hk => by
    have hgs := goodCs_split hG g hg'
    rw [hsp] at hgs
    obtain rfl := (key_eq_iff h (GoodCs.left hgs)).1 hk
    exact hd ⟨g, hg', x, post, hsp⟩

theorem fileGet?_nil_key {fl : List (Str × Bytes)} (hG : GoodFiles fl) : fileGet? fl [] = none :=
  fileGet?_eq_none fl [] (fun g hg => hG.path_ne_nil g hg)

theorem file_not_dir {fl : List (Str × Bytes)} (hG : GoodFiles fl) (cs : List Str) (b : Bytes)
    (hf : fileGet? fl (key cs) = some b) : cs ≠ [] ∧ ¬ IsDirC fl cs := by
  constructor
  · intro e; subst e; rw [key_nil, fileGet?_nil_key hG] at hf; cases hf
  · rintro ⟨g, hg, x, post, hsp⟩
    rw [hG.dir_not_file g hg cs post x hsp] at hf; cases hf

theorem not_isDirC_nil_iff (fl : List (Str × Bytes)) : ¬ IsDirC fl [] ↔ fl = [] := by
  constructor
  · intro h
    cases fl with
    | nil => rfl
    | cons f r => exact absurd (isDirC_nil (by simp)) h
  · rintro rfl ⟨f, hf, _⟩; cases hf

/-- the link between the two data structures: the children set `EmbeddedFS::new` stores for the
directory `cs` is the set of names present below it in `folderMap` -/
theorem emb_isNames (fl : List (Str × Bytes)) (hG : GoodFiles fl) (cs : List Str) (h : GoodCs cs)
    (ch : List Str) (hch : (new fl).directoryMap.get? (key cs) = some ch) :
    WkG.IsNames (folderMap fl).find? (renderC cs) ch := by
  refine ⟨new_nodupVals fl _ _ hch, fun n => ?_⟩
  have hhas : n ∈ ch ↔ Has (new fl).directoryMap (key cs) n := by
    unfold Has; rw [hch]; simp
  rw [hhas, has_new, ← renderC_snoc]
  constructor
  · rintro ⟨f, hf, pre, post, hsp, hk⟩
    have hgs := goodCs_split hG f hf
    have hgs' := hgs
    rw [hsp] at hgs'
    have hpre : GoodCs pre := GoodCs.left hgs'
    have := (key_eq_iff h hpre).1 hk
    subst this
    have hn : n ∈ splitSlash f.1 := by rw [hsp]; simp
    have hns : NoSlash (cs ++ [n]) := by
      intro c hc
      rcases List.mem_append.1 hc with hc | hc
      · exact (h c hc).2
      · simp at hc; rw [hc]; exact (hgs n hn).2
    refine ⟨(hgs n hn).2, ?_⟩
    by_cases hd : IsDirC fl (cs ++ [n])
    · rw [folderMap_find?_dir fl _ hns (Or.inr hd)]; simp
    · rw [folderMap_find?_nodir fl _ hns (by simp) hd]
      cases post with
      | cons y ys => exact absurd ⟨f, hf, y, ys, by rw [hsp]; simp⟩ hd
      | nil =>
        have hk : key (cs ++ [n]) = f.1 := by
          have hsp' : splitSlash f.1 = cs ++ [n] := hsp
          rw [← hsp', key_splitSlash]
        rw [hk, fileGet?_of_mem fl f.1 f.2 hG.2.1 hf]
        simp
  · rintro ⟨hn, hpres⟩
    have hns : NoSlash (cs ++ [n]) := by
      intro c hc
      rcases List.mem_append.1 hc with hc | hc
      · exact (h c hc).2
      · simp at hc; rw [hc]; exact hn
    by_cases hd : IsDirC fl (cs ++ [n])
    · obtain ⟨f, hf, x, post, hsp⟩ := hd
      exact ⟨f, hf, cs, x :: post, by rw [hsp]; simp, rfl⟩
    · rw [folderMap_find?_nodir fl _ hns (by simp) hd] at hpres
      cases hg : fileGet? fl (key (cs ++ [n])) with
      | none => rw [hg] at hpres; simp at hpres
      | some b =>
        refine ⟨(key (cs ++ [n]), b), fileGet?_some_mem fl _ _ hg, cs, [], ?_, rfl⟩
        exact splitSlash_key hns (by simp)

structure Obs where
  ex : Bool
  md : Res Meta
  rd : Res (List Str)
  op : Res RHandle
  deriving DecidableEq

def embObs (fl : List (Str × Bytes)) (p : Str) : Obs :=
  ⟨Embedded.exists_ (new fl) p, Embedded.metadata (new fl) p, Embedded.readDir (new fl) p,
    Embedded.openFile (new fl) p⟩

def physObs (m : FMap) (p : Str) : Obs :=
  ⟨Phys.exists_ m p, Phys.metadata m p, Phys.readDir m p, Phys.openFile m p⟩

theorem phys_present {m : FMap} (hwf : WF m) (p : Str) (e : Entry) (he : m.find? p = some e) :
    physObs m p = ⟨true,
      .ok { e.meta with len := if e.ftype = .dir then 0 else e.content.length },
      (if e.ftype = .file then fail .io else .ok (Phys.children m p)),
      (if e.ftype = .dir then .ok { content := [], pos := 0, bad := true }
        else .ok { content := e.content, pos := 0 })⟩ := by
  have := hwf.lookup_present p e he
  simp [physObs, Phys.exists_, Phys.metadata, Phys.readDir, Phys.openFile, this]

theorem phys_notfound_answers (m : FMap) (p : Str)
    (h : Phys.lookup m p = .ok none ∨ Phys.lookup m p = fail .fileNotFound) :
    physObs m p = ⟨false, fail .fileNotFound, fail .fileNotFound, fail .fileNotFound⟩ := by
  rcases h with h | h <;>
    simp [physObs, Phys.exists_, Phys.metadata, Phys.readDir, Phys.openFile, h, fail]

theorem phys_io_answers (m : FMap) (p : Str) (h : Phys.lookup m p = fail .io) :
    physObs m p = ⟨false, fail .io, fail .io, fail .io⟩ := by
  simp [physObs, Phys.exists_, Phys.metadata, Phys.readDir, Phys.openFile, h, fail]

def BelowFile (fl : List (Str × Bytes)) (p : Str) : Prop :=
  ∃ f ∈ fl, Wk.below ('/' :: f.1) p = true

instance (fl : List (Str × Bytes)) (p : Str) : Decidable (BelowFile fl p) := by
  unfold BelowFile; exact inferInstance

theorem belowFile_of_M (fl : List (Str × Bytes)) (p : Str) (h : Phys.BelowFile (folderMap fl) p) :
    BelowFile fl p := by
  obtain ⟨a, ha, e, he, hf⟩ := h
  rw [folderMap_find?] at he
  split at he
  · injection he with he; subst he; cases hf
  · obtain ⟨f, b, rfl, hmem, _, _⟩ := find?_fileKVs_some fl a e he
    exact ⟨(f, b), hmem, (Wk.below_iff _ _).2 (ancestor_split p _ ha)⟩

theorem emb_file (fl : List (Str × Bytes)) (p : Str) (b : Bytes)
    (hf : fileGet? fl (normalize p) = some b)
    (hd : (new fl).directoryMap.get? (normalize p) = none) :
    embObs fl p = ⟨true,
      .ok { ftype := .file, len := b.length, created := .now, modified := .now,
            accessed := .unset },
      fail .other, .ok { content := b, pos := 0 }⟩ := by
  have hs : (new fl).files = fl := rfl
  simp [embObs, exists_, metadata, readDir, openFile, hs, hf, hd]

theorem emb_dir (fl : List (Str × Bytes)) (p : Str) (ch : List Str)
    (hf : fileGet? fl (normalize p) = none)
    (hd : (new fl).directoryMap.get? (normalize p) = some ch) :
    embObs fl p = ⟨true,
      .ok { ftype := .dir, len := 0, created := .unset, modified := .unset, accessed := .unset },
      .ok ch, fail .fileNotFound⟩ := by
  have hs : (new fl).files = fl := rfl
  simp [embObs, exists_, metadata, readDir, openFile, hs, hf, hd]

theorem emb_absent (fl : List (Str × Bytes)) (p : Str)
    (hf : fileGet? fl (normalize p) = none)
    (hd : (new fl).directoryMap.get? (normalize p) = none) (hk : normalize p ≠ []) :
    embObs fl p = ⟨false, fail .fileNotFound, fail .fileNotFound, fail .fileNotFound⟩ := by
  have hs : (new fl).files = fl := rfl
  simp [embObs, exists_, metadata, readDir, openFile, hs, hf, hd, hk]

theorem isDirC_not_file {fl : List (Str × Bytes)} (hG : GoodFiles fl) {cs : List Str}
    (hd : IsDirC fl cs) : fileGet? fl (key cs) = none := by
  obtain ⟨g, hg, x, post, hsp⟩ := hd
  exact hG.dir_not_file g hg cs post x hsp

theorem emb_dir_of_isDirC (fl : List (Str × Bytes)) (hG : GoodFiles fl) (cs : List Str)
    (hd : IsDirC fl cs) :
    ∃ ch, (new fl).directoryMap.get? (key cs) = some ch ∧
      embObs fl (renderC cs) = ⟨true,
        .ok { ftype := .dir, len := 0, created := .unset, modified := .unset, accessed := .unset },
        .ok ch, fail .fileNotFound⟩ := by
  obtain ⟨ch, hch, _⟩ := dirmap_some_of_isDirC fl cs hd
  exact ⟨ch, hch, emb_dir fl (renderC cs) ch (isDirC_not_file hG hd) hch⟩

theorem isDirC_of_find?_dir {fl : List (Str × Bytes)} {cs : List Str} (h : NoSlash cs)
    (hroot : fl ≠ [] ∨ cs ≠ [])
    (hfind : (folderMap fl).find? (renderC cs) = some dirEntryNow) : IsDirC fl cs := by
  rw [folderMap_find?] at hfind
  by_cases hm : renderC cs ∈ dirKeys fl
  · rcases (renderC_mem_dirKeys fl cs h).1 hm with h0 | h0
    · subst h0
      rcases hroot with h1 | h1
      · exact isDirC_nil h1
      · exact absurd rfl h1
    · exact h0
  · rw [if_neg hm] at hfind
    obtain ⟨f, b, _, _, _, he'⟩ := find?_fileKVs_some fl _ _ hfind
    cases he'

inductive Kind (fl : List (Str × Bytes)) (p : Str) : Prop where
  | file (b : Bytes)
      (he : embObs fl p = ⟨true,
        .ok { ftype := .file, len := b.length, created := .now, modified := .now,
              accessed := .unset },
        fail .other, .ok { content := b, pos := 0 }⟩)
      (hp : physObs (folderMap fl) p = ⟨true,
        .ok { ftype := .file, len := b.length, created := .now, modified := .now,
              accessed := .now },
        fail .io, .ok { content := b, pos := 0 }⟩)
  | dir (ch : List Str)
      (he : embObs fl p = ⟨true,
        .ok { ftype := .dir, len := 0, created := .unset, modified := .unset,
              accessed := .unset },
        .ok ch, fail .fileNotFound⟩)
      (hp : physObs (folderMap fl) p = ⟨true,
        .ok { ftype := .dir, len := 0, created := .now, modified := .now, accessed := .now },
        .ok (Phys.children (folderMap fl) p), .ok { content := [], pos := 0, bad := true }⟩)
      (hperm : ch.Perm (Phys.children (folderMap fl) p))
      (hnames : WkG.IsNames (folderMap fl).find? p ch)
      (hfind : (folderMap fl).find? p = some dirEntryNow)
  | absent
      (he : embObs fl p = ⟨false, fail .fileNotFound, fail .fileNotFound, fail .fileNotFound⟩)
      (hp : physObs (folderMap fl) p =
        ⟨false, fail .fileNotFound, fail .fileNotFound, fail .fileNotFound⟩)
      (hfind : (folderMap fl).find? p = none)

theorem classify (fl : List (Str × Bytes)) (hG : GoodFiles fl) (cs : List Str) (hcs : GoodCs cs)
    (hnb : ¬ BelowFile fl (renderC cs)) (hroot : fl ≠ [] ∨ cs ≠ []) :
    Kind fl (renderC cs) := by
  have hwf := folderMap_wf fl
  have hnk := folderMap_nodupKeys fl hG
  have hnorm : normalize (renderC cs) = key cs := rfl
  by_cases hd : IsDirC fl cs
  ·
    obtain ⟨ch, hch, he⟩ := emb_dir_of_isDirC fl hG cs hd
    have hfind := folderMap_find?_dir fl cs hcs.noSlash (Or.inr hd)
    have hnames := emb_isNames fl hG cs hcs ch hch
    have hnames' := C05.names_of_map (folderMap fl) hnk (renderC cs)
    refine Kind.dir ch he ?_ ?_ hnames hfind
    · rw [phys_present hwf _ _ hfind]; rfl
    · exact (List.perm_ext_iff_of_nodup hnames.1 hnames'.1).2
        (fun n => by rw [hnames.2 n]; exact (hnames'.2 n).symm)
  · have hne : cs ≠ [] := by
      rcases hroot with h | h
      · intro e; subst e; exact hd (isDirC_nil h)
      · exact h
    have hdm := dirmap_none_of_not_isDirC fl hG cs hcs hd
    have hfind := folderMap_find?_nodir fl cs hcs.noSlash hne hd
    cases hf : fileGet? fl (key cs) with
    | some b =>
      rw [hf] at hfind
      refine Kind.file b (emb_file fl _ b hf hdm) ?_
      rw [phys_present hwf _ _ hfind]; rfl
    | none =>
      rw [hf] at hfind
      refine Kind.absent (emb_absent fl _ hf hdm (key_ne_nil hcs hne)) ?_ hfind
      rcases Phys.lookup_absent_view _ _ hfind with h | h | ⟨_, hb⟩
      · exact phys_notfound_answers _ _ (Or.inl h)
      · exact phys_notfound_answers _ _ (Or.inr h)
      · exact absurd (belowFile_of_M fl _ hb) hnb

abbrev PhysLeafAt (w : World) (i : Nat) (m : FMap) : Prop :=
  w.leaf? i = some { kind := .phys, files := m }

def embVP (fl : List (Str × Bytes)) (id : Nat) (p : Str) : VPath :=
  { fs := Embedded.fs (new fl), fsId := id, path := p }

def physVP (i id : Nat) (p : Str) : VPath := { fs := leafFS i, fsId := id, path := p }

structure RunsObs (V : VPath) (w : World) (o : Obs) : Prop where
  ex : V.fs.exists_ V.path w = (.ok o.ex, w)
  md : V.fs.metadata V.path w = (o.md, w)
  rd : V.fs.readDir V.path w = (o.rd, w)
  op : V.fs.openFile V.path w = (o.op, w)

theorem emb_runs (fl : List (Str × Bytes)) (id : Nat) (p : Str) (w : World) :
    RunsObs (embVP fl id p) w (embObs fl p) := ⟨rfl, rfl, rfl, rfl⟩

theorem phys_runs {w : World} {i : Nat} {m : FMap} (h : PhysLeafAt w i m) (id : Nat) (p : Str) :
    RunsObs (physVP i id p) w (physObs m p) :=
  ⟨LeafAt.exists_eq h p, LeafAt.metadata_eq h p, LeafAt.readDir_eq h p, LeafAt.openFile_eq h p⟩

/-- `open_file` followed by `read_to_end` (errors of the read relabelled like `read_to_string`) -/
def readAll (p : VPath) : M Bytes := do
  let h ← p.openFile
  M.withPath p.path (M.ret h.readToEnd.1)

section runs
variable {V : VPath} {w : World} {o : Obs} (r : RunsObs V w o)
include r

theorem RunsObs.exists_eq : V.exists_ w = (.ok o.ex, w) := r.ex

theorem RunsObs.metadata_eq : V.metadata w = (o.md.withPath V.path, w) :=
  VPath.metadata_of_call r.md

theorem RunsObs.openFile_eq : V.openFile w = (o.op.withPath V.path, w) :=
  VPath.openFile_of_call r.op

omit r in
/-- `get_parent` (path.rs) as a function of what the observers answer at the parent -/
theorem RunsObs.getParent_eq (r : RunsObs V.parent w o) :
    V.getParent w =
      (if o.ex = false then .err .other (some V.path)
       else match o.md with
        | .ok md => if md.ftype ≠ .dir then .err .other (some V.path) else .ok ()
        | .err k _ => .err k (some V.parent.path)
        | .panic => .panic, w) := by
  rw [VPath.getParent_of_calls r.exists_eq fun _ => r.metadata_eq]
  cases o.md <;> rfl

theorem RunsObs.readDir_eq : V.readDir w =
    (match o.rd with
      | .ok names => .ok (names.map fun n => V.withStr (V.path ++ '/' :: n))
      | .err k _ => .err k (some V.path)
      | .panic => .panic, w) := by
  rw [VPath.readDir_of_call r.rd]
  cases o.rd <;> rfl

theorem RunsObs.readAll_eq : readAll V w =
    (match o.op with
      | .ok h => h.readToEnd.1.withPath V.path
      | .err k _ => .err k (some V.path)
      | .panic => .panic, w) := by
  unfold readAll
  rw [bind_eval, r.openFile_eq]
  cases o.op <;> rfl

theorem RunsObs.checked_eq : V.readToEndChecked w =
    (match o.md with
      | .ok md =>
        if md.ftype ≠ .file then .err .other (some V.path)
        else match o.op with
          | .ok h => h.readToEnd.1.withPath V.path
          | .err k _ => .err k (some V.path)
          | .panic => .panic
      | .err k _ => .err k (some V.path)
      | .panic => .panic, w) := by
  unfold VPath.readToEndChecked
  simp only [bind, M.bind, r.metadata_eq]
  cases hmd : o.md with
  | ok md =>
    simp only [Res.withPath]
    by_cases hft : md.ftype ≠ .file
    · rw [if_pos hft, if_pos hft]; rfl
    · rw [if_neg hft, if_neg hft]
      simp only [M.bind, r.openFile_eq]
      cases o.op <;> rfl
  | err k q => rfl
  | panic => rfl

end runs

/-- errors are compared by canonical class (`ErrKind.cls`: `io` and `other` are both "other failure") -/
def SameRes {α β} (R : α → β → Prop) : Res α → Res β → Prop
  | .ok a, .ok b => R a b
  | .err k _, .err k' _ => k.cls = k'.cls
  | .panic, .panic => True
  | _, _ => False

/-- C18, lock-step (hypotheses: see the header). In order: `exists`; `metadata` (type and length);
`read_dir` (set of child paths); `open_file` + `read_to_end`, provided the path is not a directory
(see `open_dir_differs`); the checked read of `read_to_string` (`metadata`, then open, then read),
directories included. -/
theorem embedded_matches_physical (fl : List (Str × Bytes)) (hG : GoodFiles fl) (cs : List Str)
    (hcs : GoodCs cs) (hnb : ¬ BelowFile fl (renderC cs)) (hroot : fl ≠ [] ∨ cs ≠ [])
    (w : World) (i : Nat) (h : PhysLeafAt w i (folderMap fl)) (idE idP : Nat) :
    (((embVP fl idE (renderC cs)).exists_ w).1 = ((physVP i idP (renderC cs)).exists_ w).1 ∧
      ((embVP fl idE (renderC cs)).exists_ w).2 = w ∧
      ((physVP i idP (renderC cs)).exists_ w).2 = w) ∧
    (SameRes (fun a b => a.ftype = b.ftype ∧ a.len = b.len)
        ((embVP fl idE (renderC cs)).metadata w).1 ((physVP i idP (renderC cs)).metadata w).1 ∧
      ((embVP fl idE (renderC cs)).metadata w).2 = w ∧
      ((physVP i idP (renderC cs)).metadata w).2 = w) ∧
    (SameRes (fun a b => (a.map (·.path)).Perm (b.map (·.path)) ∧ (a.map (·.path)).Nodup)
        ((embVP fl idE (renderC cs)).readDir w).1 ((physVP i idP (renderC cs)).readDir w).1 ∧
      ((embVP fl idE (renderC cs)).readDir w).2 = w ∧
      ((physVP i idP (renderC cs)).readDir w).2 = w) ∧
    ((¬ IsDirC fl cs → SameRes (· = ·)
        (readAll (embVP fl idE (renderC cs)) w).1 (readAll (physVP i idP (renderC cs)) w).1) ∧
      (readAll (embVP fl idE (renderC cs)) w).2 = w ∧
      (readAll (physVP i idP (renderC cs)) w).2 = w) ∧
    (SameRes (· = ·)
        ((embVP fl idE (renderC cs)).readToEndChecked w).1
        ((physVP i idP (renderC cs)).readToEndChecked w).1 ∧
      ((embVP fl idE (renderC cs)).readToEndChecked w).2 = w ∧
      ((physVP i idP (renderC cs)).readToEndChecked w).2 = w) := by
  have rE := emb_runs fl idE (renderC cs) w
  have rP := phys_runs h idP (renderC cs)
  rw [rE.exists_eq, rP.exists_eq, rE.metadata_eq, rP.metadata_eq, rE.readDir_eq, rP.readDir_eq,
    rE.readAll_eq, rP.readAll_eq, rE.checked_eq, rP.checked_eq]
  cases classify fl hG cs hcs hnb hroot with
  | file b he hp =>
    rw [he, hp]
    simp [SameRes, Res.withPath, fail, ErrKind.cls, RHandle.readToEnd]
  | dir ch he hp hperm hnames hfind =>
    rw [he, hp]
    have hd : IsDirC fl cs := isDirC_of_find?_dir hcs.noSlash hroot hfind
    simp [SameRes, Res.withPath, fail, ErrKind.cls, RHandle.readToEnd, hd, embVP, physVP,
      VPath.withStr, List.map_map, Function.comp_def]
    refine ⟨(hperm.map _), ?_⟩
    have := hnames.1
    unfold List.Nodup at *
    rw [List.pairwise_map]
    exact this.imp (fun hab hc => hab (by simpa using hc))
  | absent he hp hfind =>
    rw [he, hp]
    simp [SameRes, Res.withPath, fail, ErrKind.cls]

/-! ### `walk_dir`: both filesystems are tree views of `folderMap fl` -/

theorem present_cases (fl : List (Str × Bytes)) (hG : GoodFiles fl) (hne : fl ≠ []) (p : Str)
    (e : Entry) (h : (folderMap fl).find? p = some e) :
    (∃ cs, GoodCs cs ∧ p = renderC cs ∧ IsDirC fl cs ∧ e = dirEntryNow) ∨
    (∃ f b, p = '/' :: f ∧ fileGet? fl f = some b ∧ e = fileEntry b) := by
  rw [folderMap_find?] at h
  split at h
  · rename_i hm
    left
    injection h with h
    rcases (mem_dirKeys fl p).1 hm with rfl | ⟨f, hf, pre, x, post, hsp, rfl⟩
    · have h0 : GoodCs [] := by intro c hc; cases hc
      exact ⟨[], h0, rfl, isDirC_nil hne, h.symm⟩
    · have hgs := goodCs_split hG f hf
      rw [hsp] at hgs
      exact ⟨pre, GoodCs.left hgs, rfl, ⟨f, hf, x, post, hsp⟩, h.symm⟩
  · right
    obtain ⟨f, b, h1, _, h3, h4⟩ := find?_fileKVs_some fl p e h
    exact ⟨f, b, h1, h3, h4⟩

theorem embedded_treeView (fl : List (Str × Bytes)) (hG : GoodFiles fl) (hne : fl ≠ [])
    (w : World) : WkG.TreeView (Embedded.fs (new fl)) w (folderMap fl).find? where
  finite := ⟨(folderMap fl).keys, fun k hk =>
    (FMap.mem_keys_iff _ k).2 ((C05.ne_none_iff _).1 hk)⟩
  root := (folderMap_wf fl).1
  parent := (folderMap_wf fl).2
  readDir := by
    intro w' hw' p e hp hd
    cases hw'
    rcases present_cases fl hG hne p e hp with ⟨cs, hcs, rfl, hdir, _⟩ | ⟨f, b, _, _, he⟩
    · obtain ⟨ch, hch, this⟩ := emb_dir_of_isDirC fl hG cs hdir
      simp only [embObs, Obs.mk.injEq] at this
      refine ⟨ch, w, ?_, rfl, emb_isNames fl hG cs hcs ch hch⟩
      show (Embedded.readDir (new fl) (renderC cs), _) = _
      rw [this.2.2.1]
    · subst he; cases hd
  metadata := by
    intro w' hw' p e hp
    cases hw'
    rcases present_cases fl hG hne p e hp with ⟨cs, hcs, rfl, hdir, he⟩ | ⟨f, b, rfl, hf, he⟩
    · obtain ⟨ch, hch, this⟩ := emb_dir_of_isDirC fl hG cs hdir
      simp only [embObs, Obs.mk.injEq] at this
      refine ⟨{ ftype := .dir, len := 0, created := .unset, modified := .unset,
                accessed := .unset }, w, ?_, rfl, ?_⟩
      · show (Embedded.metadata (new fl) (renderC cs), _) = _
        rw [this.2.1]
      · subst he; rfl
    · obtain ⟨_, h2, _⟩ := file_visible fl f b hf
      refine ⟨{ ftype := .file, len := b.length, created := .now, modified := .now,
                accessed := .unset }, w, ?_, rfl, ?_⟩
      · show (Embedded.metadata (new fl) ('/' :: f), _) = _
        rw [h2]
      · subst he; rfl

/-- `C05.leaf_treeView` at a physical leaf; `C13.phys_treeView` (Props/C13Phys.lean, not imported
here) is the same instance -/
theorem phys_treeView {w : World} {i : Nat} {m : FMap} (h : PhysLeafAt w i m) (hwf : WF m)
    (hk : FMap.NodupKeys m) : WkG.TreeView (leafFS i) w m.find? :=
  C05.leaf_treeView (kd := .phys) h hwf hk

theorem walks_agree {PE PP : VPath} {w : World} {m : FMap}
    (tE : WkG.TreeView PE.fs w m.find?) (tP : WkG.TreeView PP.fs w m.find?)
    (hk : FMap.NodupKeys m) (p : Str) (e : Entry) (hp : m.find? p = some e)
    (hdir : e.ftype = .dir) (fuel : Nat) (hf : (m.keys.filter (Wk.below p)).length < fuel) :
    ∃ LE LP : List Str,
      WkG.collect fuel (PE.withStr p) w = (.ok (LE.map fun k => .ok (PE.withStr k)), w) ∧
      WkG.collect fuel (PP.withStr p) w = (.ok (LP.map fun k => .ok (PP.withStr k)), w) ∧
      LE.Perm LP ∧ LE.Nodup ∧ LP.Nodup ∧
      (∀ k, k ∈ LE ↔ m.find? k ≠ none ∧ Wk.below p k = true) ∧
      LE.Pairwise (fun a b => Wk.below b a = false) ∧
      LP.Pairwise (fun a b => Wk.below b a = false) := by
  obtain ⟨LE, wE, rfl, hE, hWE⟩ :=
    (WkG.collect_outcome tE rfl (C05.keys_below m hk p) hp hdir fuel).1 hf
  obtain ⟨LP, wP, rfl, hP, hWP⟩ :=
    (WkG.collect_outcome tP rfl (C05.keys_below m hk p) hp hdir fuel).1 hf
  exact ⟨LE, LP, hE, hP, hWE.perm hWP, hWE.nodup, hWP.nodup, hWE.mem, hWE.order, hWP.order⟩

theorem WF_congr {a b : FMap} (h : ∀ k, a.find? k = b.find? k) (hb : WF b) : WF a := by
  unfold WF at *
  simp only [h]
  exact hb

/-- the physical leaf holds ANY map with duplicate-free keys and the lookups of `folderMap fl`;
`fuel` bounds the number of `next` calls (any number above the number of descendants) -/
theorem embedded_walk_matches_physical_lk (fl : List (Str × Bytes)) (hG : GoodFiles fl)
    (cs : List Str) (hcs : GoodCs cs) (hd : IsDirC fl cs)
    (w : World) (i : Nat) (m : FMap) (h : PhysLeafAt w i m) (hnk : FMap.NodupKeys m)
    (hm : ∀ k, m.find? k = (folderMap fl).find? k) (idE idP : Nat) (fuel : Nat)
    (hf : ((folderMap fl).keys.filter (Wk.below (renderC cs))).length < fuel) :
    ∃ LE LP : List Str,
      WkG.collect fuel (embVP fl idE (renderC cs)) w =
        (.ok (LE.map fun k => .ok (embVP fl idE k)), w) ∧
      WkG.collect fuel (physVP i idP (renderC cs)) w =
        (.ok (LP.map fun k => .ok (physVP i idP k)), w) ∧
      LE.Perm LP ∧ LE.Nodup ∧ LP.Nodup ∧
      (∀ k, k ∈ LE ↔ (folderMap fl).find? k ≠ none ∧ Wk.below (renderC cs) k = true) ∧
      LE.Pairwise (fun a b => Wk.below b a = false) ∧
      LP.Pairwise (fun a b => Wk.below b a = false) := by
  have hne : fl ≠ [] := by
    obtain ⟨f, hf', _⟩ := hd
    intro e; subst e; cases hf'
  have hwf := folderMap_wf fl
  have hnk' := folderMap_nodupKeys fl hG
  have hwfm : WF m := WF_congr hm hwf
  have hfind := folderMap_find?_dir fl cs hcs.noSlash (Or.inr hd)
  have hfun : m.find? = (folderMap fl).find? := funext hm
  have tP : WkG.TreeView (leafFS i) w (folderMap fl).find? := hfun ▸ phys_treeView h hwfm hnk
  exact walks_agree (PE := embVP fl idE (renderC cs)) (PP := physVP i idP (renderC cs))
    (embedded_treeView fl hG hne w) tP hnk' (renderC cs) dirEntryNow hfind rfl fuel hf

theorem embedded_walk_matches_physical (fl : List (Str × Bytes)) (hG : GoodFiles fl)
    (cs : List Str) (hcs : GoodCs cs) (hd : IsDirC fl cs)
    (w : World) (i : Nat) (h : PhysLeafAt w i (folderMap fl)) (idE idP : Nat) (fuel : Nat)
    (hf : ((folderMap fl).keys.filter (Wk.below (renderC cs))).length < fuel) :
    ∃ LE LP : List Str,
      WkG.collect fuel (embVP fl idE (renderC cs)) w =
        (.ok (LE.map fun k => .ok (embVP fl idE k)), w) ∧
      WkG.collect fuel (physVP i idP (renderC cs)) w =
        (.ok (LP.map fun k => .ok (physVP i idP k)), w) ∧
      LE.Perm LP ∧ LE.Nodup ∧ LP.Nodup ∧
      (∀ k, k ∈ LE ↔ (folderMap fl).find? k ≠ none ∧ Wk.below (renderC cs) k = true) ∧
      LE.Pairwise (fun a b => Wk.below b a = false) ∧
      LP.Pairwise (fun a b => Wk.below b a = false) :=
  embedded_walk_matches_physical_lk fl hG cs hcs hd w i _ h (folderMap_nodupKeys fl hG)
    (fun _ => rfl) idE idP fuel hf

/-- `walk_dir` on a canonical path that is not a directory fails on both sides with the same
error class (not-found for absent paths; "other failure" for files), before any item -/
theorem embedded_walk_nondir (fl : List (Str × Bytes)) (hG : GoodFiles fl)
    (cs : List Str) (hcs : GoodCs cs) (hnb : ¬ BelowFile fl (renderC cs)) (hd : ¬ IsDirC fl cs)
    (hne : cs ≠ [])
    (w : World) (i : Nat) (h : PhysLeafAt w i (folderMap fl)) (idE idP : Nat) (fuel : Nat) :
    SameRes (fun _ _ => False) (WkG.collect fuel (embVP fl idE (renderC cs)) w).1
      (WkG.collect fuel (physVP i idP (renderC cs)) w).1 ∧
    (WkG.collect fuel (embVP fl idE (renderC cs)) w).2 = w ∧
    (WkG.collect fuel (physVP i idP (renderC cs)) w).2 = w := by
  have rE := emb_runs fl idE (renderC cs) w
  have rP := phys_runs h idP (renderC cs)
  cases classify fl hG cs hcs hnb (Or.inr hne) with
  | file b he hp =>
    rw [he] at rE; rw [hp] at rP
    rw [(WkG.collect_readDir_err fuel _ w w _ _ rE.rd).2,
      (WkG.collect_readDir_err fuel _ w w _ _ rP.rd).2]
    simp [SameRes, ErrKind.cls]
  | dir ch he hp hperm hnames hfind =>
    exact absurd (isDirC_of_find?_dir hcs.noSlash (Or.inr hne) hfind) hd
  | absent he hp hfind =>
    rw [he] at rE; rw [hp] at rP
    rw [(WkG.collect_readDir_err fuel _ w w _ _ rE.rd).2,
      (WkG.collect_readDir_err fuel _ w w _ _ rP.rd).2]
    simp [SameRes, ErrKind.cls]

/-! ### the exceptions, stated exactly -/

/-- EXCEPTION 1 (`open_file` on a directory, the root included): the embedded filesystem answers
not-found at once; `File::open` of the physical filesystem succeeds on a directory and the first
read fails with an I/O error ("other failure"). The error CLASSES differ. -/
theorem open_dir_differs (fl : List (Str × Bytes)) (hG : GoodFiles fl) (cs : List Str)
    (hcs : GoodCs cs) (hd : IsDirC fl cs)
    (w : World) (i : Nat) (h : PhysLeafAt w i (folderMap fl)) (idE idP : Nat) :
    (embVP fl idE (renderC cs)).openFile w = (.err .fileNotFound (some (renderC cs)), w) ∧
    (physVP i idP (renderC cs)).openFile w = (.ok { content := [], pos := 0, bad := true }, w) ∧
    readAll (embVP fl idE (renderC cs)) w = (.err .fileNotFound (some (renderC cs)), w) ∧
    readAll (physVP i idP (renderC cs)) w = (.err .io (some (renderC cs)), w) ∧
    ErrKind.fileNotFound.cls ≠ ErrKind.io.cls := by
  obtain ⟨ch, _, he⟩ := emb_dir_of_isDirC fl hG cs hd
  have hfind := folderMap_find?_dir fl cs hcs.noSlash (Or.inr hd)
  have hp := phys_present (folderMap_wf fl) _ _ hfind
  have rE := emb_runs fl idE (renderC cs) w
  have rP := phys_runs h idP (renderC cs)
  rw [he] at rE; rw [hp] at rP
  refine ⟨?_, ?_, ?_, ?_, by decide⟩
  · rw [rE.openFile_eq]; rfl
  · rw [rP.openFile_eq]; rfl
  · rw [rE.readAll_eq]; rfl
  · rw [rP.readAll_eq]; rfl

theorem slashfile_mem_ancestors (a t : Str) : a ∈ Phys.ancestors (a ++ '/' :: t) := by
  rw [mem_ancestors]
  exact ⟨a.length, by simp, by simp, by simp⟩

theorem emb_below_file (fl : List (Str × Bytes)) (hG : GoodFiles fl) (f : Str × Bytes)
    (hf : f ∈ fl) (t : Str) :
    embObs fl ('/' :: f.1 ++ '/' :: t) =
      ⟨false, fail .fileNotFound, fail .fileNotFound, fail .fileNotFound⟩ := by
  have hnorm : normalize ('/' :: f.1 ++ '/' :: t) = f.1 ++ '/' :: t := rfl
  have hsp : splitSlash (f.1 ++ '/' :: t) = splitSlash f.1 ++ splitSlash t :=
    C06.splitOnC_append '/' f.1 t
  have hne : splitSlash t ≠ [] := splitOnC_ne_nil _ _
  have hcontra : ∀ g ∈ fl, ∀ rest, rest ≠ [] → splitSlash g.1 = splitSlash f.1 ++ rest → False := by
    intro g hg rest hrest hsg
    have := hG.2.2 f hf g hg (splitSlash f.1).length (by
      rw [hsg, List.mem_range, List.length_append]
      have : rest.length ≠ 0 := fun e => hrest (List.eq_nil_of_length_eq_zero e)
      omega)
    rw [hsg, List.take_left', key_splitSlash] at this
    · exact this rfl
    · rfl
  have hfile : fileGet? fl (f.1 ++ '/' :: t) = none := by
    apply fileGet?_eq_none
    intro g hg heq
    exact hcontra g hg (splitSlash t) hne (by rw [heq, hsp])
  have hdir : (new fl).directoryMap.get? (f.1 ++ '/' :: t) = none :=
    dirmap_none fl _ fun g hg' pre x post hspg hk => by
      have hpre : pre ≠ [] := by
        intro e; subst e; simp at hk
      have hpns : NoSlash pre := fun c hc => noSlash_split g.1 c (by rw [hspg]; simp [hc])
      have h1 : splitSlash (key pre) = pre := splitSlash_key hpns hpre
      rw [← hk, hsp] at h1
      exact hcontra g hg' (splitSlash t ++ x :: post) (by simp) (by rw [hspg, ← h1]; simp)
  exact emb_absent fl _ (by rw [hnorm]; exact hfile) (by rw [hnorm]; exact hdir)
    (by rw [hnorm]; simp)

/-- EXCEPTION 2 (paths below an embedded FILE, "/<file>/…"): the embedded filesystem answers
not-found to `metadata`, `read_dir` and `open_file`; the physical filesystem fails path resolution
with `ENOTDIR`, an I/O error ("other failure"). `exists` is `false` on both. -/
theorem below_file_differs (fl : List (Str × Bytes)) (hG : GoodFiles fl) (p : Str)
    (hb : BelowFile fl p) :
    embObs fl p = ⟨false, fail .fileNotFound, fail .fileNotFound, fail .fileNotFound⟩ ∧
    physObs (folderMap fl) p = ⟨false, fail .io, fail .io, fail .io⟩ := by
  obtain ⟨f, hf, hbel⟩ := hb
  obtain ⟨t, rfl⟩ := (Wk.below_iff _ _).1 hbel
  refine ⟨emb_below_file fl hG f hf t, ?_⟩
  apply phys_io_answers
  exact Phys.lookup_of_err (Phys.resolveParent_below_file (folderMap_wf fl) _ ('/' :: f.1)
    (slashfile_mem_ancestors ('/' :: f.1) t) _ (folderMap_find?_file hG f hf) rfl)

theorem below_file_differs_vpath (fl : List (Str × Bytes)) (hG : GoodFiles fl) (p : Str)
    (hb : BelowFile fl p) (w : World) (i : Nat) (h : PhysLeafAt w i (folderMap fl))
    (idE idP : Nat) :
    (embVP fl idE p).metadata w = (.err .fileNotFound (some p), w) ∧
    (physVP i idP p).metadata w = (.err .io (some p), w) ∧
    (embVP fl idE p).exists_ w = (.ok false, w) ∧ (physVP i idP p).exists_ w = (.ok false, w) := by
  obtain ⟨he, hp⟩ := below_file_differs fl hG p hb
  have rE := emb_runs fl idE p w
  have rP := phys_runs h idP p
  rw [he] at rE; rw [hp] at rP
  exact ⟨by rw [rE.metadata_eq]; rfl, by rw [rP.metadata_eq]; rfl, rE.exists_eq, rP.exists_eq⟩

/-- EXCEPTION 3 (the root of the EMPTY folder): `exists("")` is true on both, but the embedded
directory map has no entry for the root, so `metadata("")` and `read_dir("")` answer not-found,
while the physical root is an (empty) directory -/
theorem empty_folder_root_differs :
    embObs [] [] = ⟨true, fail .fileNotFound, fail .fileNotFound, fail .fileNotFound⟩ ∧
    physObs (folderMap []) [] =
      ⟨true, .ok { ftype := .dir, len := 0, created := .now, modified := .now, accessed := .now },
        .ok [], .ok { content := [], pos := 0, bad := true }⟩ := by
  decide

end Vfs.C18

#print axioms Vfs.C18.open_dir_differs
#print axioms Vfs.C18.below_file_differs
#print axioms Vfs.C18.embedded_matches_physical
#print axioms Vfs.C18.embedded_walk_matches_physical
#print axioms Vfs.C18.embedded_walk_nondir
