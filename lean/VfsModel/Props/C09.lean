/-
  C09 — an overlay presents the union of its layers and then obeys the ordinary contracts relative
  to that union (src/impls/overlay.rs). This file: two layers.

  Setting (`OW w u l mu ml`, Proofs/OverlayLemmas.lean): the leaves `u ≠ l` of the world are memory
  leaves holding the flat maps `mu` (upper layer) and `ml` (lower layer); the overlay's layers are
  the ROOTS of the two leaf filesystems, `layers2 u l idu idl` (any filesystem ids). Paths are
  canonical: `p = renderC cs`, all components `GoodComp`. The abstraction is the union view
      `marker p = "/.whiteout" ++ p ++ "_wo"`
      `view mu ml p = if mu.contains (marker p) then none else (mu.find? p).or (ml.find? p)`.

  Claims: the observers answer from the view (`exists_is_view`, `metadata_is_view`,
  `openFile_serves_view`); `read_dir_is_union`; the three cases the property names
  (`create_over_lower_fails`, `remove_dir_with_lower_children_fails`,
  `append_continues_lower_bytes`); `ensure_parent_file_refused`. All but
  `append_continues_lower_bytes` are the two-layer instances of the theorems of Props/C09N.lean.

  Hypotheses (each excludes a behaviour of the real code that is outside the property: reserved
  names): `RootOk mu` (the upper root is a directory and "/.whiteout/_wo" does not exist),
  `AncDirs mu ml ds` (every proper ancestor of `p` is a directory of the union view),
  `ds.head? ≠ some woDir` (the path is not inside the ".whiteout" namespace), and for listings
  that "/.whiteout" ++ p is not a FILE of the upper layer. "View unchanged" is up to the timestamps
  of directories (`dirBlind`): `ensure_has_parent` materialises lower-layer parent directories in
  the upper layer with fresh timestamps.

  The removal / re-creation checks on the concrete world at the end of this file, and the known
  finding `remove_file_on_lower_dir_orphans`, are in Props/C10.lean.
-/
import VfsModel.Props.C09N
import VfsModel.Proofs.OverlayEffect
namespace Vfs.C09
open Vfs Vfs.Overlay

theorem view_def (mu ml : FMap) (p : Str) :
    view mu ml p = if mu.contains (marker p) then none else (mu.find? p <|> ml.find? p) := by
  unfold view
  cases mu.find? p <;> rfl

theorem path_computations (layers : List VPath) (hw : (writeLayer layers).path = [])
    (cs : List Str) (hne : cs ≠ []) (hcs : ∀ c ∈ cs, GoodComp c) :
    whiteoutPath layers (renderC cs) = .ok ((writeLayer layers).withStr (marker (renderC cs))) ∧
    writePath layers (renderC cs) = .ok ((writeLayer layers).withStr (renderC cs)) ∧
    ∀ l : VPath, l.path = [] → l.join (tail1 (renderC cs)) = .ok (l.withStr (renderC cs)) := by
  refine ⟨?_, writePath_canon layers hw cs hne hcs, fun l hl => join_root_tail1 l hl cs hne hcs⟩
  rcases List.eq_nil_or_concat cs with rfl | ⟨ds, n, rfl⟩
  · exact absurd rfl hne
  · rw [List.concat_eq_append] at hcs ⊢
    obtain ⟨hds, hn⟩ := good_of_snoc hcs
    exact whiteoutPath_canon layers hw ds n hds hn

theorem marker_is_canonical (ds : List Str) (n : Str) (hds : ∀ c ∈ ds, GoodComp c)
    (hn : GoodComp n) :
    marker (renderC (ds ++ [n])) = renderC ([woDir] ++ ds ++ [n ++ woSuffix]) ∧
    (∀ c ∈ [woDir] ++ ds ++ [n ++ woSuffix], GoodComp c) := by
  refine ⟨by rw [marker_renderC]; simp, ?_⟩
  have := good_markerComps hds hn
  simpa using this

theorem marker_has_parent (ds : List Str) (n : Str) (hds : ∀ c ∈ ds, GoodComp c)
    (hn : GoodComp n) :
    parentInternal (marker (renderC (ds ++ [n]))) = renderC ([woDir] ++ ds) := by
  rw [marker_parent ds n hds hn, woDirOf_renderC]; rfl

theorem stripWo_marker (n : Str) : stripWo (n ++ woSuffix) = some n := stripWo_append n

theorem stripWo_other (m : Str) (h : ¬ woSuffix <:+ m) : stripWo m = none := stripWo_none m h

theorem marker_name_good (c : Str) (h : GoodComp c) : GoodComp (c ++ woSuffix) := goodComp_wo h

theorem marker_inj (p q : Str) (h : marker p = marker q) : p = q := marker_injective p q h

section setting
variable {w : World} {u l idu idl : Nat} {mu ml : FMap} (h : OW w u l mu ml)
include h

theorem exists_is_view (cs : List Str) (hne : cs ≠ []) (hcs : ∀ c ∈ cs, GoodComp c) :
    (Overlay.fs (layers2 u l idu idl)).exists_ (renderC cs) w
      = (.ok (view mu ml (renderC cs)).isSome, w) :=
  exists_is_view_ofN h cs hne hcs

theorem exists_root (hroot : RootOk mu) :
    (Overlay.fs (layers2 u l idu idl)).exists_ [] w = (.ok true, w) := by
  have := exists_rootN (h.toN idu idl) hroot
  rwa [layersN_two] at this

theorem metadata_is_view (cs : List Str) (hne : cs ≠ []) (hcs : ∀ c ∈ cs, GoodComp c) :
    (Overlay.fs (layers2 u l idu idl)).metadata (renderC cs) w =
      (match view mu ml (renderC cs) with
       | some e => .ok e.meta
       | none => .err .fileNotFound none, w) :=
  metadata_is_view_ofN h cs hne hcs

/-- a file of the view is served with exactly its bytes; the only change of the world is the
access-time stamp of that file in the layer that served it -/
theorem openFile_serves_view (cs : List Str) (hne : cs ≠ []) (hcs : ∀ c ∈ cs, GoodComp c)
    (e : Entry) (hv : view mu ml (renderC cs) = some e) (hfile : e.ftype = .file) :
    ∃ w', (Overlay.fs (layers2 u l idu idl)).openFile (renderC cs) w
        = (.ok { content := e.content, pos := 0 }, w') ∧
      ((mu.find? (renderC cs) = some e ∧
          OW w' u l (mu.insert (renderC cs) { e with accessed := .now }) ml) ∨
       (mu.find? (renderC cs) = none ∧
          OW w' u l mu (ml.insert (renderC cs) { e with accessed := .now }))) := by
  obtain ⟨k, i, m, w', hfirst, hi, hm, hrun, _, hown⟩ :=
    openFile_serves_viewN (h.toN idu idl) cs hne hcs e (by rwa [viewN_two]) hfile
  rw [layersN_two] at hrun
  refine ⟨w', hrun, ?_⟩
  match k, hfirst.get, hfirst.before, hown with
  | 0, hg, _, hown =>
    have hg : mu = m := by simpa using hg
    subst hg
    exact Or.inl ⟨hm, hown.toOW⟩
  | 1, hg, hbefore, hown =>
    have hg : ml = m := by simpa using hg
    subst hg
    exact Or.inr ⟨hbefore 0 mu (by omega) rfl, hown.toOW⟩
  | k + 2, hg, _, _ => simp at hg

theorem openFile_absent (cs : List Str) (hne : cs ≠ []) (hcs : ∀ c ∈ cs, GoodComp c)
    (hv : view mu ml (renderC cs) = none) :
    (Overlay.fs (layers2 u l idu idl)).openFile (renderC cs) w = (.err .fileNotFound none, w) := by
  have := openFile_absentN (h.toN idu idl) cs hne hcs (by rwa [viewN_two])
  rwa [layersN_two] at this

theorem openFile_dir (cs : List Str) (hne : cs ≠ []) (hcs : ∀ c ∈ cs, GoodComp c)
    (e : Entry) (hv : view mu ml (renderC cs) = some e) (hd : e.ftype = .dir) :
    ((Overlay.fs (layers2 u l idu idl)).openFile (renderC cs) w).1
      = .err .other (some (renderC cs)) := by
  have := openFile_dirN (h.toN idu idl) cs hne hcs e (by rwa [viewN_two]) hd
  rwa [layersN_two] at this

/-- **read_dir is the union.** For a directory `p` of the view (or the root), `read_dir`
succeeds, changes nothing, lists no name twice, and lists exactly the bare names `n` such that
the union view has an entry at `p/n` (present in some layer and not marked as deleted) — except
that the bookkeeping directory ".whiteout" is never listed at the root. -/
theorem read_dir_is_union (cs : List Str) (hcs : ∀ c ∈ cs, GoodComp c)
    (e : Entry) (hdir : dirEntry? mu ml (renderC cs) = some e) (hd : e.ftype = .dir)
    (hwf : WF mu) (hwfl : WF ml)
    (hwo : ∀ e, mu.find? (woDirOf (renderC cs)) = some e → e.ftype = .dir) :
    ∃ lst, (Overlay.fs (layers2 u l idu idl)).readDir (renderC cs) w = (.ok lst, w) ∧
      lst.Nodup ∧
      (∀ n, n ∈ lst ↔ ('/' ∉ n ∧ (view mu ml (renderC cs ++ '/' :: n)).isSome = true ∧
                        (renderC cs = [] → n ≠ woDir))) ∧
      (renderC cs = [] → woDir ∉ lst) :=
  read_dir_is_union_ofN h cs hcs e hdir hd hwf hwfl hwo

/-- **create over an entry of the view fails as already-existing.** If the union view has an
entry `e` at `p` — in particular when only the lower layer has it — `create_dir(p)` fails with
`FileExists` / `DirectoryExists` according to the type of `e`; the lower layer is untouched, the
upper layer may have gained parent directories, and the union view of every path is unchanged. -/
theorem create_over_lower_fails (ds : List Str) (n : Str) (hds : ∀ c ∈ ds, GoodComp c)
    (hn : GoodComp n) (hroot : RootOk mu) (hanc : AncDirs mu ml ds)
    (hhead : ds.head? ≠ some woDir) (e : Entry)
    (hv : view mu ml (renderC (ds ++ [n])) = some e) :
    ∃ mu', (Overlay.fs (layers2 u l idu idl)).createDir (renderC (ds ++ [n])) w =
        (.err (if e.ftype = .file then .fileExists else .dirExists) none,
          w.setLeafFiles u mu') ∧
      OW (w.setLeafFiles u mu') u l mu' ml ∧ ViewSame mu ml mu' ml :=
  create_over_lower_fails_ofN h ds n hds hn hroot hanc hhead e hv

theorem create_over_lower_only_fails (ds : List Str) (n : Str) (hds : ∀ c ∈ ds, GoodComp c)
    (hn : GoodComp n) (hroot : RootOk mu) (hanc : AncDirs mu ml ds)
    (hhead : ds.head? ≠ some woDir) (e : Entry)
    (hup : mu.find? (renderC (ds ++ [n])) = none)
    (hmk : mu.contains (marker (renderC (ds ++ [n]))) = false)
    (hlow : ml.find? (renderC (ds ++ [n])) = some e) :
    ∃ mu', (Overlay.fs (layers2 u l idu idl)).createDir (renderC (ds ++ [n])) w =
        (.err (if e.ftype = .file then .fileExists else .dirExists) none,
          w.setLeafFiles u mu') ∧
      OW (w.setLeafFiles u mu') u l mu' ml ∧ ViewSame mu ml mu' ml :=
  create_over_lower_fails h ds n hds hn hroot hanc hhead e (by rw [view_lower hmk hup]; exact hlow)

theorem createFile_over_dir_fails (ds : List Str) (n : Str) (hds : ∀ c ∈ ds, GoodComp c)
    (hn : GoodComp n) (hroot : RootOk mu) (hanc : AncDirs mu ml ds)
    (hhead : ds.head? ≠ some woDir) (e : Entry)
    (hv : view mu ml (renderC (ds ++ [n])) = some e) (hd : e.ftype = .dir) :
    ∃ mu', (Overlay.fs (layers2 u l idu idl)).createFile (renderC (ds ++ [n])) w =
        (.err .other none, w.setLeafFiles u mu') ∧
      OW (w.setLeafFiles u mu') u l mu' ml ∧ ViewSame mu ml mu' ml := by
  obtain ⟨mu', hrun, hown, hsame⟩ := createFile_over_dir_failsN (h.toN idu idl) ds n hds hn hroot
    ((AncDirsN_two mu ml ds).2 hanc) hhead e (by rwa [viewN_two]) hd
  rw [layersN_two] at hrun
  exact ⟨mu', hrun, hown.toOW, viewSameN_two.1 hsame⟩

/-- **removing a directory that still has lower-layer children fails as non-empty.** `p` is a
directory of the view and the view has an entry at `p/n` (for instance one that exists only in
the lower layer): `remove_dir(p)` fails with `Other`, and the world is unchanged — no marker is
created, the view is what it was. -/
theorem remove_dir_with_lower_children_fails (cs : List Str) (hne : cs ≠ [])
    (hcs : ∀ c ∈ cs, GoodComp c) (e : Entry) (hv : view mu ml (renderC cs) = some e)
    (hd : e.ftype = .dir) (hwf : WF mu) (hwfl : WF ml)
    (hwo : ∀ e, mu.find? (woDirOf (renderC cs)) = some e → e.ftype = .dir)
    (n : Str) (hn : '/' ∉ n) (hchild : (view mu ml (renderC cs ++ '/' :: n)).isSome = true) :
    (Overlay.fs (layers2 u l idu idl)).removeDir (renderC cs) w = (.err .other none, w) := by
  have := remove_dir_with_lower_children_failsN (h.toN idu idl) cs hne hcs e (by rwa [viewN_two]) hd
    (by intro m hm
        simp only [List.mem_cons, List.not_mem_nil, or_false] at hm
        rcases hm with rfl | rfl
        · exact hwf
        · exact hwfl)
    hwo n hn (by rwa [viewN_two])
  rwa [layersN_two] at this

theorem remove_dir_with_lower_only_child_fails (cs : List Str) (hne : cs ≠ [])
    (hcs : ∀ c ∈ cs, GoodComp c) (e : Entry) (hv : view mu ml (renderC cs) = some e)
    (hd : e.ftype = .dir) (hwf : WF mu) (hwfl : WF ml)
    (hwo : ∀ e, mu.find? (woDirOf (renderC cs)) = some e → e.ftype = .dir)
    (n : Str) (hn : '/' ∉ n) (ce : Entry)
    (hup : mu.find? (renderC cs ++ '/' :: n) = none)
    (hmk : mu.contains (marker (renderC cs ++ '/' :: n)) = false)
    (hlow : ml.find? (renderC cs ++ '/' :: n) = some ce) :
    (Overlay.fs (layers2 u l idu idl)).removeDir (renderC cs) w = (.err .other none, w) :=
  remove_dir_with_lower_children_fails h cs hne hcs e hv hd hwf hwfl hwo n hn
    (by rw [view_lower hmk hup, hlow]; rfl)

/-- **appending continues the lower layer's bytes.** `p` exists only in the lower layer, as a
file with bytes `b`: one append session `append_file(p)?.write_all(bs)` succeeds; afterwards the
upper layer holds `p` as a file with content `b ++ bs`, which is what the view serves, and the
lower layer's map is unchanged except for the access time of `p` (it was read for the copy-up). -/
theorem append_continues_lower_bytes (ds : List Str) (n : Str) (hds : ∀ c ∈ ds, GoodComp c)
    (hn : GoodComp n) (hroot : RootOk mu) (hanc : AncDirs mu ml ds)
    (hhead : ds.head? ≠ some woDir) (e : Entry) (bs : Bytes)
    (hup : mu.find? (renderC (ds ++ [n])) = none)
    (hmk : mu.contains (marker (renderC (ds ++ [n]))) = false)
    (hlow : ml.find? (renderC (ds ++ [n])) = some e) (hfile : e.ftype = .file) :
    ∃ w' mu' e',
      (do let hd ← (Overlay.fs (layers2 u l idu idl)).appendFile (renderC (ds ++ [n]))
          hd.writeAllAndDrop bs : M Unit) w = (.ok (), w') ∧
      OW w' u l mu' (ml.insert (renderC (ds ++ [n])) { e with accessed := .now }) ∧
      mu'.find? (renderC (ds ++ [n])) = some e' ∧
      view mu' (ml.insert (renderC (ds ++ [n])) { e with accessed := .now })
        (renderC (ds ++ [n])) = some e' ∧
      e'.ftype = .file ∧ e'.content = e.content ++ bs := by
  have hcs := good_snoc hds hn
  have hne : ds ++ [n] ≠ [] := by simp
  have hne' : marker (renderC (ds ++ [n])) ≠ renderC (ds ++ [n]) := marker_ne _
  have hancN := (AncDirsN_two mu ml ds).2 hanc
  have hE : pEnsureN [mu, ml] (ds ++ [n]).dropLast = (.ok (), fillDirs mu (chain [] ds)) := by
    rw [List.dropLast_concat]; exact pEnsureN_ok hroot hds hancN
  have hp0 := find?_snoc_fillDirs (mu := mu) hds hn [] (Or.inl rfl)
  simp only [List.append_nil] at hp0
  have hf1 : (fillDirs mu (chain [] ds)).find? (renderC (ds ++ [n])) = none := by rw [hp0]; exact hup
  have hm1 : (fillDirs mu (chain [] ds)).contains (marker (renderC (ds ++ [n]))) = false := by
    rw [contains_marker_fillDirs hds hhead _ (renderC_head _ hne)]; exact hmk
  have hpure := pAppendN_copyUp hne hE hup
    (by rw [viewN_lower hm1 hf1, firstN, hlow]; rfl) hfile hf1
    (parentOk_fillDirs_gen hroot.root hds hn (chain_dirs_of_ancN hancN))
  have hst : stampFirst [ml] (renderC (ds ++ [n])) =
      [ml.insert (renderC (ds ++ [n])) { e with accessed := .now }] := by
    simp only [stampFirst, hlow]; rfl
  obtain ⟨w1, hrun, hw1⟩ := run_oappendFileN (h.toN idu idl) (ds ++ [n]) hne hcs
  rw [hpure, hst] at hrun hw1
  rw [layersN_two] at hrun
  -- the copy-up published over the freshly created file, so a file sits at the key
  obtain ⟨e1, he1, hft1, _⟩ := find?_memPublish_self
    ((fillDirs mu (chain [] ds)).insert (renderC (ds ++ [n])) fileEntryNow)
    (renderC (ds ++ [n])) e.content fileEntryNow (FMap.find?_insert_self _ _ _) rfl
  obtain ⟨e', he', hft, hct⟩ := find?_memPublish_self
    (memPublish ((fillDirs mu (chain [] ds)).insert (renderC (ds ++ [n])) fileEntryNow)
      (renderC (ds ++ [n])) e.content) (renderC (ds ++ [n]))
    (cursorWrite e.content e.content.length bs) e1 he1 hft1
  refine ⟨_, _, e', ?_, (hw1.setHead _).toOW, he', ?_, hft, by rw [hct, cursorWrite_end]⟩
  · show (do let hd ← Overlay.appendFile _ _; hd.writeAllAndDrop bs : M Unit) w = _
    simp only [bind, M.bind, hrun, Res.map, run_writeAllAndDrop hw1.hu]
  · apply view_upper _ he'
    rw [contains_eq_of_find ((find?_memPublish_ne _ _ _ _ hne').trans ((find?_memPublish_ne _ _ _ _ hne').trans
      (FMap.find?_insert_ne _ _ _ _ hne')))]
    exact hm1

/-- **a file of the view cannot get children** (`OverlayFS::ensure_has_parent` checks the parent in
the view before it creates anything: finding O10, DESIGN.md §I.4). The parent `ds` of `p = ds/n` is a FILE of the union view — in
whichever layer it sits: `create_dir(p)`, `create_file(p)` and `append_file(p)` through the
overlay fail with `Other`, and the world is unchanged, so BOTH layer maps are what they were
(in particular no empty directory appears in the upper layer in front of the file). For `append_file` nothing must sit at `p` in the upper map, which is the case in
every well-formed upper map (`upper_child_absent_of_view_file`). -/
theorem ensure_parent_file_refused (ds : List Str) (n : Str) (hdne : ds ≠ [])
    (hds : ∀ c ∈ ds, GoodComp c) (hn : GoodComp n) (e : Entry)
    (hv : view mu ml (renderC ds) = some e) (hf : e.ftype = .file) :
    (Overlay.fs (layers2 u l idu idl)).createDir (renderC (ds ++ [n])) w
        = (.err .other none, w) ∧
    (Overlay.fs (layers2 u l idu idl)).createFile (renderC (ds ++ [n])) w
        = (.err .other none, w) ∧
    (mu.find? (renderC (ds ++ [n])) = none →
      (Overlay.fs (layers2 u l idu idl)).appendFile (renderC (ds ++ [n])) w
        = (.err .other none, w)) := by
  obtain ⟨h1, h2, h3⟩ :=
    ensure_parent_file_refusedN (h.toN idu idl) ds n hdne hds hn e (by rwa [viewN_two]) hf
  rw [layersN_two] at h1 h2 h3
  exact ⟨h1, h2, h3⟩

theorem ensure_parent_file_refused_wf (ds : List Str) (n : Str) (hdne : ds ≠ [])
    (hds : ∀ c ∈ ds, GoodComp c) (hn : GoodComp n) (e : Entry)
    (hv : view mu ml (renderC ds) = some e) (hf : e.ftype = .file) (hwf : WF mu) :
    (Overlay.fs (layers2 u l idu idl)).createDir (renderC (ds ++ [n])) w
        = (.err .other none, w) ∧
    (Overlay.fs (layers2 u l idu idl)).createFile (renderC (ds ++ [n])) w
        = (.err .other none, w) ∧
    (Overlay.fs (layers2 u l idu idl)).appendFile (renderC (ds ++ [n])) w
        = (.err .other none, w) := by
  obtain ⟨h1, h2, h3⟩ := ensure_parent_file_refused (idu := idu) (idl := idl) h ds n hdne hds hn e hv hf
  exact ⟨h1, h2, h3 (upper_child_absent_of_view_file hwf hds hn hv hf)⟩

end setting

/-! A concrete two-leaf world: lower layer { "/d" directory, "/d/x" file with the byte 'L' }, upper
layer empty (root only); the overlay is `layers2 0 1 0 1`. -/

def fileL : Entry := { fileEntryNow with content := [76] }

def exLower : FMap := [("/d/x".toList, fileL), ("/d".toList, dirEntryNow), ([], dirEntryNow)]
def exUpper : FMap := Mem.init

def w0 : World := { leaves := [{ kind := .mem, files := exUpper }, { kind := .mem, files := exLower }] }

def ofs : FS := Overlay.fs (layers2 0 1 0 1)

def mapsOf (w : World) : FMap × FMap :=
  (((w.leaf? 0).map (·.files)).getD [], ((w.leaf? 1).map (·.files)).getD [])

def viewOf (w : World) (p : String) : Option Entry := view (mapsOf w).1 (mapsOf w).2 p.toList

def readAll (fs : FS) (p : String) (w : World) : Res Bytes :=
  match fs.openFile p.toList w with
  | (.ok r, _) => r.readToEnd.1
  | (.err k pth, _) => .err k pth
  | (.panic, _) => .panic

theorem w0_setting : OW w0 0 1 exUpper exLower := ⟨rfl, rfl, by decide⟩

example : RootOk exUpper := ⟨⟨_, rfl, rfl⟩, by decide⟩
example : AncDirs exUpper exLower ["d".toList] := by
  intro j h1 h2
  have : j = 1 := by simp at h2; omega
  subst this
  exact ⟨dirEntryNow, by decide, rfl⟩

example : (ofs.exists_ "/d/x".toList w0).1 = .ok true := by decide +kernel
example : (ofs.exists_ "/d".toList w0).1 = .ok true := by decide +kernel
example : (ofs.exists_ "/nope".toList w0).1 = .ok false := by decide +kernel
example : (ofs.metadata "/d/x".toList w0).1 = .ok fileL.meta := by decide +kernel
example : (ofs.metadata "/nope".toList w0).1 = .err .fileNotFound none := by decide +kernel
example : readAll ofs "/d/x" w0 = .ok [76] := by decide +kernel
example : (ofs.readDir "/d".toList w0).1 = .ok ["x".toList] := by decide +kernel
example : (ofs.readDir [] w0).1 = .ok ["d".toList] := by decide +kernel
example : viewOf w0 "/d/x" = some fileL := by decide +kernel

example : (ofs.createDir "/d".toList w0).1 = .err .dirExists none := by decide +kernel
example : (ofs.createDir "/d/x".toList w0).1 = .err .fileExists none := by decide +kernel
example : (ofs.createFile "/d".toList w0).1 = .err .other none := by decide +kernel
example : viewOf (ofs.createDir "/d/x".toList w0).2 "/d/x" = some fileL := by decide +kernel

example : (ofs.removeDir "/d".toList w0).1 = .err .other none := by decide +kernel
example : mapsOf (ofs.removeDir "/d".toList w0).2 = (exUpper, exLower) := by decide +kernel

example : (ofs.createDir "/d/x/y".toList w0).1 = .err .other none := by decide +kernel
example : mapsOf (ofs.createDir "/d/x/y".toList w0).2 = (exUpper, exLower) := by decide +kernel
example : ((do let _ ← ofs.createFile "/d/x/y".toList; pure () : M Unit) w0).1
    = .err .other none := by decide +kernel
example : mapsOf (ofs.createFile "/d/x/y".toList w0).2 = (exUpper, exLower) := by decide +kernel
example : ((do let _ ← ofs.appendFile "/d/x/y".toList; pure () : M Unit) w0).1
    = .err .other none := by decide +kernel
example : mapsOf (ofs.appendFile "/d/x/y".toList w0).2 = (exUpper, exLower) := by decide +kernel

def wAppended : World :=
  ((do let hd ← ofs.appendFile "/d/x".toList; hd.writeAllAndDrop [85] : M Unit) w0).2
example : ((do let hd ← ofs.appendFile "/d/x".toList; hd.writeAllAndDrop [85] : M Unit) w0).1
    = .ok () := by decide +kernel
example : readAll ofs "/d/x" wAppended = .ok [76, 85] := by decide +kernel
example : ((mapsOf wAppended).2.find? "/d/x".toList).map (·.content) = some [76] := by decide +kernel

end Vfs.C09
