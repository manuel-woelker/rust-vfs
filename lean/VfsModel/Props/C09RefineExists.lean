/-
  C09 — the reference tree of the overlay refinement theorem EXISTS.

  Props/C09Refine.lean proves refinement of the reference backend for every disciplined history
  under the hypothesis `(m0 : FMap) (href : Refines (oview (mu :: ms)) m0)`. Here:

  `refTree all` — a COMPUTABLE flat map built from the layer maps: the keys of all layer maps
  (without repetitions), restricted to the visible ones (`Vis`: the root and absolute paths
  outside ".whiteout") that are present in the view, each with the `dirBlind`-normalised entry
  the view shows.
  `reference_tree_exists`: `ViewWF (oview all)` and `ViewCanon (oview all)` (every present
  non-reserved path of the view is canonical) ⟹ `Refines (oview all) (refTree all)`.
  `reference_tree_exists_iff`: the two hypotheses are NECESSARY as well (`Refines.viewWF`,
  `Refines.viewCanon` for any view). Neither `OInv` nor `WF` of the layer maps is needed.
  `viewCanon_of_canonKeys`: the decidable sufficient condition `CanonKeys all` (every non-reserved
  absolute key of every layer map is the rendering of its own good components).
  `reference_tree_unique`: two reference trees of the same view agree (by `vcore`) on EVERY path
  string.
  `refO3Free_iff_viewO3Free`: under refinement the O3 discipline read off the reference run
  (`RefO3Free`) and the one read off the overlay's own views (`C03.ViewO3Free`) say the same.
  `overlay_refines_some_reference`: there is ONE tree `m0` holding the initial view such that for
  EVERY disciplined history whose O3 discipline is read off the overlay's own views all
  conclusions of `overlay_refines_reference` hold; `vpath_overlay_refines_some_reference`: the
  same for the user-level (`VfsPath`) history `C01.runV` of Props/C01Overlay.lean;
  `overlay_refines_some_reference_initial`: from the initial hypotheses (well-formed,
  type-consistent layers, no markers, `CanonKeys`).
  `removed_stays_absent_history_noref`, `recreated_starts_fresh_history_noref`: the two history
  theorems of Props/C10History.lean with no reference tree in the statement.
  `x_refTree_perm`: on the 3-layer example world of Props/C09Refine.lean the constructed tree is
  a permutation of the hand-written `xRef`. `xBad_no_reference`: a one-layer `WF` world with the
  key "/a/" satisfies `OInv` and `ViewWF` (`xBad_inv`, `xBad_viewWF`) but has NO reference tree;
  `ViewCanon` is exactly what is missing.

  `ViewCanon` is needed only for the INITIAL view (it is re-established by refinement in every
  later state: `Refines.viewCanon`). NOT PROVED: that `CanonKeys` itself (a statement about hidden
  keys, also outside the view) is preserved by the operations — not needed, since `ViewCanon` is.
-/
import VfsModel.Props.C01Overlay
import VfsModel.Props.C10History
namespace Vfs.C09
open Vfs Vfs.Overlay Vfs.C02 Vfs.C01
open Vfs.C10 (mapsOfN)

def ViewCanon (v : View) : Prop :=
  ∀ q, NR q → v q ≠ none → ∃ cs, cs ≠ [] ∧ (∀ c ∈ cs, GoodComp c) ∧ q = renderC cs

def dedupStr : List Str → List Str
  | [] => []
  | a :: l => a :: (dedupStr l).filter (fun x => x ≠ a)

theorem mem_dedupStr (l : List Str) (q : Str) : q ∈ dedupStr l ↔ q ∈ l := by
  induction l with
  | nil => simp [dedupStr]
  | cons a l ih =>
    simp only [dedupStr, List.mem_cons, List.mem_filter, ih, decide_eq_true_eq]
    by_cases h : q = a
    · simp [h]
    · simp [h]

theorem nodup_dedupStr (l : List Str) : (dedupStr l).Nodup := by
  induction l with
  | nil => simp [dedupStr]
  | cons a l ih =>
    simp only [dedupStr, List.nodup_cons, List.mem_filter, decide_eq_true_eq]
    exact ⟨fun h => h.2 rfl, ih.filter _⟩

def tabulate (l : List Str) (g : Str → Option Entry) : FMap :=
  l.filterMap (fun k => (g k).map (fun e => (k, e)))

theorem find?_tabulate (l : List Str) (g : Str → Option Entry) (q : Str) :
    (tabulate l g).find? q = if q ∈ l then g q else none :=
  FMap.find?_tab l g q

def refEntry (v : View) (q : Str) : Option Entry :=
  if Vis q then (v q).map dirBlind else none

def refTreeOf (L : List Str) (v : View) : FMap := tabulate (dedupStr L) (refEntry v)

def cands (all : List FMap) : List Str := all.flatMap FMap.keys

def refTree (all : List FMap) : FMap := refTreeOf (cands all) (oview all)

theorem find?_refTreeOf {L : List Str} {v : View} (hsupp : ∀ q, v q ≠ none → q ∈ L) (q : Str) :
    (refTreeOf L v).find? q = refEntry v q := by
  unfold refTreeOf
  rw [find?_tabulate]
  split
  · rfl
  · rename_i hq
    rw [mem_dedupStr] at hq
    have : v q = none := by
      cases hv : v q with
      | none => rfl
      | some e => exact absurd (hsupp q (by rw [hv]; simp)) hq
    unfold refEntry
    rw [this]; split <;> rfl

theorem oview_supp (all : List FMap) : ∀ q, oview all q ≠ none → q ∈ cands all := by
  intro q hq
  by_cases h : q ∈ cands all
  · exact h
  · exact absurd (oview_none_of_keys h) hq

theorem find?_refTree (all : List FMap) (q : Str) :
    (refTree all).find? q = refEntry (oview all) q :=
  find?_refTreeOf (oview_supp all) q

theorem vcore_dirBlind (e : Entry) : vcore (dirBlind e) = vcore e := by
  by_cases h : e.ftype = .dir
  · rw [vcore_dir h, vcore_dir (by rw [dirBlind_ftype]; exact h)]
  · have hf : e.ftype = .file := by
      cases hft : e.ftype with
      | file => rfl
      | dir => exact absurd hft h
    rw [dirBlind_file e hf]

theorem refEntry_some {v : View} {q : Str} {e : Entry} (h : refEntry v q = some e) :
    Vis q ∧ ∃ e0, v q = some e0 ∧ e = dirBlind e0 := by
  unfold refEntry at h
  split at h
  · rename_i hvis
    cases hv : v q with
    | none => rw [hv] at h; cases h
    | some e0 =>
      rw [hv] at h
      simp only [Option.map_some, Option.some.injEq] at h
      exact ⟨hvis, e0, rfl, h.symm⟩
  · cases h

theorem refEntry_of_isDir {v : View} {q : Str} (hvis : Vis q) (hd : VIsDir v q) :
    ∃ pe, refEntry v q = some pe ∧ pe.ftype = .dir := by
  obtain ⟨e, he, hdir⟩ := hd
  refine ⟨dirBlind e, ?_, by rw [dirBlind_ftype]; exact hdir⟩
  unfold refEntry
  rw [if_pos hvis, he]; rfl

theorem head_ne_wo_of_NR {cs : List Str} (hcs : ∀ c ∈ cs, GoodComp c) (hnr : NR (renderC cs)) :
    cs.head? ≠ some woDir := by
  cases cs with
  | nil => simp
  | cons c cs =>
    intro h
    simp only [List.head?_cons, Option.some.injEq] at h
    apply hnr.2
    rw [firstComp_renderC c cs (hcs c (by simp)).noSlash, h]

theorem reference_tree_exists_of_support {v : View} {L : List Str}
    (hsupp : ∀ q, v q ≠ none → q ∈ L) (hv : ViewWF v) (hcan : ViewCanon v) :
    Refines v (refTreeOf L v) := by
  have hfind := find?_refTreeOf hsupp
  have hkeys : ∀ k e, (refTreeOf L v).find? k = some e → k = [] ∨
      ∃ cs, cs ≠ [] ∧ (∀ c ∈ cs, GoodComp c) ∧ cs.head? ≠ some woDir ∧ k = renderC cs := by
    intro k e hk
    rw [hfind] at hk
    obtain ⟨hvis, e0, he0, _⟩ := refEntry_some hk
    rcases hvis with rfl | hnr
    · exact Or.inl rfl
    · obtain ⟨cs, hne, hcs, rfl⟩ := hcan k hnr (by rw [he0]; simp)
      exact Or.inr ⟨cs, hne, hcs, head_ne_wo_of_NR hcs hnr, rfl⟩
  refine ⟨⟨?_, ?_⟩, hkeys, ?_⟩
  ·
    obtain ⟨pe, hpe, hd⟩ := refEntry_of_isDir (Or.inl rfl) hv.1
    exact ⟨pe, by rw [hfind]; exact hpe, hd⟩
  ·
    intro k e hk hkne
    rcases hkeys k e hk with rfl | ⟨cs, hne, hcs, hhead, rfl⟩
    · exact absurd rfl hkne
    · refine ⟨slash_mem_renderC hne, ?_⟩
      rw [hfind] at hk
      obtain ⟨_, e0, he0, _⟩ := refEntry_some hk
      have hpar := C03.viewWF_no_orphan hv hne hcs hhead (by rw [he0]; simp)
      have hvisp : Vis (parentInternal (renderC cs)) := by
        rcases List.eq_nil_or_concat cs with rfl | ⟨ds, n, rfl⟩
        · exact absurd rfl hne
        · rw [List.concat_eq_append] at hcs hhead ⊢
          obtain ⟨hds, hn⟩ := good_of_snoc hcs
          rw [parent_snoc ds n hds hn]
          exact vis_of_snoc (good_noSlash hds) hhead
      obtain ⟨pe, hpe, hd⟩ := refEntry_of_isDir hvisp hpar
      exact ⟨pe, by rw [hfind]; exact hpe, hd⟩
  ·
    intro q hq
    show (v q).map vcore = ((refTreeOf L v).find? q).map vcore
    rw [hfind]
    unfold refEntry
    rw [if_pos hq]
    cases v q with
    | none => rfl
    | some e => simp [vcore_dirBlind]

/-- **reference_tree_exists.** The view of the overlay over ANY list of layer maps: if it is
well-formed (`ViewWF`) and its present non-reserved paths are canonical (`ViewCanon`), the
constructed tree `refTree all` holds it. -/
theorem reference_tree_exists (all : List FMap) (hv : ViewWF (oview all))
    (hcan : ViewCanon (oview all)) : Refines (oview all) (refTree all) :=
  reference_tree_exists_of_support (oview_supp all) hv hcan

theorem reference_tree_exists' {mu : FMap} {ms : List FMap} (hv : ViewWF (oview (mu :: ms)))
    (hcan : ViewCanon (oview (mu :: ms))) : ∃ m0, Refines (oview (mu :: ms)) m0 :=
  ⟨_, reference_tree_exists _ hv hcan⟩

theorem Refines.viewCanon {v : View} {m : FMap} (href : Refines v m) : ViewCanon v := by
  intro q hnr hpres
  have hs := href.same q (Or.inr hnr)
  cases hm : m.find? q with
  | none =>
    exfalso; apply hpres
    simp only [mview_apply] at hs; rw [hm] at hs
    cases hv : v q with
    | none => rfl
    | some e => rw [hv] at hs; cases hs
  | some e =>
    rcases href.keys q e hm with rfl | ⟨cs, hne, hcs, _, rfl⟩
    · exact absurd rfl hnr.ne_nil
    · exact ⟨cs, hne, hcs, rfl⟩

/-- a well-formed tree, read as a view, is a well-formed view -/
theorem viewWF_mview {m : FMap} (hm : WF m) : ViewWF (mview m) := by
  refine ⟨hm.1, ?_⟩
  intro ds n _ _ hn _ hpres
  cases hf : m.find? (renderC ds ++ '/' :: n) with
  | none => exact absurd hf hpres
  | some e =>
    obtain ⟨_, pe, hpe, hpd⟩ := hm.2 _ e hf (by simp)
    rw [parent_of_child _ n hn] at hpe
    exact ⟨pe, hpe, hpd⟩

theorem Refines.viewWF {v : View} {m : FMap} (href : Refines v m) : ViewWF v :=
  (viewWF_mview href.wf).same href.same

theorem reference_tree_exists_iff (all : List FMap) :
    (∃ m0, Refines (oview all) m0) ↔ ViewWF (oview all) ∧ ViewCanon (oview all) :=
  ⟨fun ⟨_, href⟩ => ⟨href.viewWF, href.viewCanon⟩,
   fun ⟨hv, hcan⟩ => ⟨_, reference_tree_exists all hv hcan⟩⟩

theorem reference_tree_unique {v : View} {m m' : FMap} (h : Refines v m) (h' : Refines v m')
    (q : Str) : (m.find? q).map vcore = (m'.find? q).map vcore := by
  by_cases hq : Vis q
  · exact ((h.same q hq).symm.trans (h'.same q hq))
  · have hnone : ∀ {x : FMap}, Refines v x → x.find? q = none := by
      intro x hx
      cases hf : x.find? q with
      | none => rfl
      | some e =>
        exfalso; apply hq
        rcases hx.keys q e hf with rfl | ⟨cs, hne, hcs, hhead, rfl⟩
        · exact Or.inl rfl
        · exact Or.inr (NR_renderC hne (good_noSlash hcs) hhead)
    rw [hnone h, hnone h']

def CanonKeys (all : List FMap) : Prop :=
  ∀ m ∈ all, ∀ k ∈ m.keys, NR k →
    pathComps k ≠ [] ∧ (∀ c ∈ pathComps k, GoodComp c) ∧ k = renderC (pathComps k)

instance (all : List FMap) : Decidable (CanonKeys all) := by unfold CanonKeys; exact inferInstance

theorem viewCanon_of_canonKeys {all : List FMap} (h : CanonKeys all) : ViewCanon (oview all) := by
  intro q hnr hpres
  obtain ⟨m, hm, hk⟩ := List.mem_flatMap.1 (oview_supp all q hpres)
  obtain ⟨h1, h2, h3⟩ := h m hm q hk hnr
  exact ⟨pathComps q, h1, h2, h3⟩

theorem reference_tree_exists_initial {mu : FMap} {ms : List FMap} (hwf : ∀ m ∈ mu :: ms, WF m)
    (hnw : NoWhiteout mu) (htc : TypeConsistent (mu :: ms)) (hck : CanonKeys (mu :: ms)) :
    Refines (oview (mu :: ms)) (refTree (mu :: ms)) :=
  reference_tree_exists _ (ViewWF.initial hwf hnw htc) (viewCanon_of_canonKeys hck)

section histories
variable {w : World} {u idu : Nat} {mu : FMap} {is ids : List Nat} {ms : List FMap}

theorem refO3Free_iff_viewO3Free (ops : List Mut) (hops : ∀ op ∈ ops, OpOK op)
    (h : OWN w (u :: is) (idu :: ids) (mu :: ms)) (inv : OInv mu ms)
    (hv : ViewWF (oview (mu :: ms))) (m0 : FMap) (href : Refines (oview (mu :: ms)) m0) :
    RefO3Free ops m0 ↔
      C03.ViewO3Free (Overlay.fs (layersN (u :: is) (idu :: ids))) (u :: is) ops w := by
  induction ops generalizing w mu ms m0 with
  | nil => exact ⟨fun _ => trivial, fun _ => trivial⟩
  | cons op rest ih =>
    have hop := hops op (by simp)
    have hhead := o3ok_iff_o3Free href hop
    have key : O3Free (oview (mu :: ms)) op →
        (RefO3Free rest (stepPhys m0 op).2 ↔
          C03.ViewO3Free (Overlay.fs (layersN (u :: is) (idu :: ids))) (u :: is) rest
            (ostep (Overlay.fs (layersN (u :: is) (idu :: ids))) op w).2) := by
      intro hd3
      obtain ⟨mu1, ms1, hown1, _, inv1, hv1, _, href1⟩ :=
        refines_contract_step h inv hv href hop (hhead.2 hd3)
      exact ih (fun o ho => hops o (by simp [ho])) hown1 inv1 hv1 _ href1
    unfold RefO3Free C03.ViewO3Free
    rw [C03.mapsOfN_of_OWN h]
    constructor
    · rintro ⟨h1, h2⟩
      have hd3 := hhead.1 h1
      exact ⟨hd3, (key hd3).1 h2⟩
    · rintro ⟨h1, h2⟩
      exact ⟨hhead.2 h1, (key h1).2 h2⟩

/-- **overlay_refines_some_reference.** n ≥ 1 memory layers (`OWN`), hidden state in order
(`OInv`), well-formed view (`ViewWF`) whose present paths are canonical (`ViewCanon`; e.g.
`CanonKeys`). Then there IS a reference tree `m0` holding the initial view — the constructed
`refTree (mu :: ms)` — such that for EVERY finite list of mutators on disciplined paths (`OpOK`)
that respects the O3 discipline read off the overlay's own views (`C03.ViewO3Free`): the overlay
and the reference backend agree call by call on success / failure, neither ever panics, the final
view is (up to timestamps) the final reference tree, the final world is again in the setting
with `LowerSame` lower maps, all invariants (`ViewCanon` included) hold again, and the reference
run obeys `RefO3Free`. -/
theorem overlay_refines_some_reference
    (h : OWN w (u :: is) (idu :: ids) (mu :: ms)) (inv : OInv mu ms)
    (hv : ViewWF (oview (mu :: ms))) (hcan : ViewCanon (oview (mu :: ms))) :
    ∃ m0, Refines (oview (mu :: ms)) m0 ∧
      ∀ ops : List Mut, (∀ op ∈ ops, OpOK op) →
        C03.ViewO3Free (Overlay.fs (layersN (u :: is) (idu :: ids))) (u :: is) ops w →
        ∃ mu' ms',
          OWN (runOverlay (Overlay.fs (layersN (u :: is) (idu :: ids))) ops w).2
            (u :: is) (idu :: ids) (mu' :: ms') ∧
          LowerSame ms ms' ∧ OInv mu' ms' ∧ ViewWF (oview (mu' :: ms')) ∧
          ViewCanon (oview (mu' :: ms')) ∧
          (runOverlay (Overlay.fs (layersN (u :: is) (idu :: ids))) ops w).1.map Res.isOk
            = (runRef ops m0).1.map Res.isOk ∧
          (∀ r ∈ (runOverlay (Overlay.fs (layersN (u :: is) (idu :: ids))) ops w).1, r ≠ .panic) ∧
          (∀ r ∈ (runRef ops m0).1, r ≠ .panic) ∧
          Refines (oview (mu' :: ms')) (runRef ops m0).2 ∧
          RefO3Free ops m0 := by
  have href := reference_tree_exists (mu :: ms) hv hcan
  refine ⟨refTree (mu :: ms), href, ?_⟩
  intro ops hops hdisc
  have hd := (refO3Free_iff_viewO3Free ops hops h inv hv _ href).2 hdisc
  obtain ⟨mu', ms', hown, hls, inv', hv', hoks, hnp1, hnp2, href'⟩ :=
    overlay_refines_reference ops hops h inv hv _ href hd
  exact ⟨mu', ms', hown, hls, inv', hv', href'.viewCanon, hoks, hnp1, hnp2, href', hd⟩

theorem overlay_refines_some_reference_initial
    (h : OWN w (u :: is) (idu :: ids) (mu :: ms)) (hwf : ∀ m ∈ mu :: ms, WF m)
    (hnw : NoWhiteout mu) (htc : TypeConsistent (mu :: ms)) (hck : CanonKeys (mu :: ms)) :
    ∃ m0, Refines (oview (mu :: ms)) m0 ∧
      ∀ ops : List Mut, (∀ op ∈ ops, OpOK op) →
        C03.ViewO3Free (Overlay.fs (layersN (u :: is) (idu :: ids))) (u :: is) ops w →
        ∃ mu' ms',
          OWN (runOverlay (Overlay.fs (layersN (u :: is) (idu :: ids))) ops w).2
            (u :: is) (idu :: ids) (mu' :: ms') ∧
          LowerSame ms ms' ∧ OInv mu' ms' ∧ ViewWF (oview (mu' :: ms')) ∧
          ViewCanon (oview (mu' :: ms')) ∧
          (runOverlay (Overlay.fs (layersN (u :: is) (idu :: ids))) ops w).1.map Res.isOk
            = (runRef ops m0).1.map Res.isOk ∧
          (∀ r ∈ (runOverlay (Overlay.fs (layersN (u :: is) (idu :: ids))) ops w).1, r ≠ .panic) ∧
          (∀ r ∈ (runRef ops m0).1, r ≠ .panic) ∧
          Refines (oview (mu' :: ms')) (runRef ops m0).2 ∧
          RefO3Free ops m0 :=
  overlay_refines_some_reference h (OInv.initial hwf hnw) (ViewWF.initial hwf hnw htc)
    (viewCanon_of_canonKeys hck)

/-- **vpath_overlay_refines_some_reference.** The same for the history of USER-level calls
(`C01.runV`, through the `VfsPath` layer, any `fsId`): additionally every failure of the overlay
is labelled with the path of its call. -/
theorem vpath_overlay_refines_some_reference (id : Nat)
    (h : OWN w (u :: is) (idu :: ids) (mu :: ms)) (inv : OInv mu ms)
    (hv : ViewWF (oview (mu :: ms))) (hcan : ViewCanon (oview (mu :: ms))) :
    ∃ m0, Refines (oview (mu :: ms)) m0 ∧
      ∀ ops : List Mut, (∀ op ∈ ops, OpOK op) →
        C03.ViewO3Free (Overlay.fs (layersN (u :: is) (idu :: ids))) (u :: is) ops w →
        ∃ mu' ms',
          OWN (runV (Overlay.fs (layersN (u :: is) (idu :: ids))) id ops w).2
            (u :: is) (idu :: ids) (mu' :: ms') ∧
          LowerSame ms ms' ∧ OInv mu' ms' ∧ ViewWF (oview (mu' :: ms')) ∧
          ViewCanon (oview (mu' :: ms')) ∧
          (runV (Overlay.fs (layersN (u :: is) (idu :: ids))) id ops w).1.map Res.isOk
            = (runRef ops m0).1.map Res.isOk ∧
          (∀ r ∈ (runV (Overlay.fs (layersN (u :: is) (idu :: ids))) id ops w).1, r ≠ .panic) ∧
          (∀ r ∈ (runRef ops m0).1, r ≠ .panic) ∧
          Labelled ops (runV (Overlay.fs (layersN (u :: is) (idu :: ids))) id ops w).1 ∧
          Refines (oview (mu' :: ms')) (runRef ops m0).2 := by
  have href := reference_tree_exists (mu :: ms) hv hcan
  refine ⟨refTree (mu :: ms), href, ?_⟩
  intro ops hops hdisc
  have hd := (refO3Free_iff_viewO3Free ops hops h inv hv _ href).2 hdisc
  obtain ⟨mu', ms', hown, hls, inv', hv', hoks, hnp1, hnp2, hlab, href'⟩ :=
    vpath_overlay_refines_reference id ops hops h inv hv _ href hd
  exact ⟨mu', ms', hown, hls, inv', hv', href'.viewCanon, hoks, hnp1, hnp2, hlab, href'⟩

/-- `C10.removed_stays_absent_history` with NO reference tree in the statement: a successful
`remove_file p` / `remove_dir p`, then any disciplined history that does not create `p` (O3
discipline read off the overlay's own views): `p` is absent at the end and every observer says
so. -/
theorem removed_stays_absent_history_noref
    (h : OWN w (u :: is) (idu :: ids) (mu :: ms)) (inv : OInv mu ms)
    (hv : ViewWF (oview (mu :: ms))) (hcan : ViewCanon (oview (mu :: ms)))
    (p : Str) (rm : Mut)
    (hrm : rm = .removeFile p ∨ rm = .removeDir p) (ops : List Mut)
    (hops : ∀ op ∈ rm :: ops, OpOK op) (hnc : ∀ op ∈ ops, ¬ C10.Creates p op)
    (hdisc : C03.ViewO3Free (Overlay.fs (layersN (u :: is) (idu :: ids))) (u :: is) (rm :: ops) w)
    (hok : (ostep (Overlay.fs (layersN (u :: is) (idu :: ids))) rm w).1.isOk = true) :
    let fs := Overlay.fs (layersN (u :: is) (idu :: ids))
    let w' := (runOverlay fs (rm :: ops) w).2
    ∃ mu' ms',
      OWN w' (u :: is) (idu :: ids) (mu' :: ms') ∧ LowerSame ms ms' ∧ OInv mu' ms' ∧
      ViewWF (oview (mu' :: ms')) ∧
      oview (mu' :: ms') p = none ∧
      fs.exists_ p w' = (.ok false, w') ∧
      fs.metadata p w' = (.err .fileNotFound none, w') ∧
      fs.readDir p w' = (.err .fileNotFound none, w') ∧
      fs.openFile p w' = (.err .fileNotFound none, w') := by
  have href := reference_tree_exists (mu :: ms) hv hcan
  exact C10.removed_stays_absent_history h inv hv _ href p rm hrm ops hops hnc
    ((refO3Free_iff_viewO3Free _ hops h inv hv _ href).2 hdisc) hok

/-- `C10.recreated_starts_fresh_history` with NO reference tree in the statement: a re-created
path starts fresh (exactly the new bytes / an empty directory), for every disciplined history
around the re-creation. -/
theorem recreated_starts_fresh_history_noref
    (h : OWN w (u :: is) (idu :: ids) (mu :: ms)) (inv : OInv mu ms)
    (hv : ViewWF (oview (mu :: ms))) (hcan : ViewCanon (oview (mu :: ms)))
    (p : Str) (c : Mut)
    (hc : (∃ bs, c = .write p bs) ∨ c = .createDir p) (pre post : List Mut)
    (hops : ∀ op ∈ pre ++ [c] ++ post, OpOK op)
    (hpost : ∀ op ∈ post, op.path ≠ p ∧ (c = .createDir p → parentInternal op.path ≠ p))
    (hdisc : C03.ViewO3Free (Overlay.fs (layersN (u :: is) (idu :: ids))) (u :: is)
      (pre ++ [c] ++ post) w)
    (hok : (ostep (Overlay.fs (layersN (u :: is) (idu :: ids))) c
      (runOverlay (Overlay.fs (layersN (u :: is) (idu :: ids))) pre w).2).1.isOk = true) :
    let fs := Overlay.fs (layersN (u :: is) (idu :: ids))
    let w' := (runOverlay fs (pre ++ [c] ++ post) w).2
    ∃ mu' ms',
      OWN w' (u :: is) (idu :: ids) (mu' :: ms') ∧ LowerSame ms ms' ∧ OInv mu' ms' ∧
      ViewWF (oview (mu' :: ms')) ∧
      (∀ bs, c = .write p bs → VHasFile (oview (mu' :: ms')) p bs ∧
        ∃ w'', fs.openFile p w' = (.ok { content := bs, pos := 0 }, w'')) ∧
      (c = .createDir p → VIsDir (oview (mu' :: ms')) p ∧ VNoChildren (oview (mu' :: ms')) p ∧
        fs.readDir p w' = (.ok [], w')) := by
  have href := reference_tree_exists (mu :: ms) hv hcan
  exact C10.recreated_starts_fresh_history h inv hv _ href p c hc pre post hops hpost
    ((refO3Free_iff_viewO3Free _ hops h inv hv _ href).2 hdisc) hok

end histories

section example3

theorem x_canonKeys : CanonKeys [xU, xA, xB] := by
  rw [xU_chars, xA_chars, xB_chars]; decide +kernel

theorem x_refTree_perm : (refTree [xU, xA, xB]).Perm xRef := by
  rw [xU_chars, xA_chars, xB_chars, xRef_chars]; decide +kernel

theorem x_refTree_refines : Refines (oview [xU, xA, xB]) (refTree [xU, xA, xB]) :=
  reference_tree_exists_initial xw_wf xw_noWhiteout xw_typeConsistent x_canonKeys

theorem x_viewCanon : ViewCanon (oview [xU, xA, xB]) := viewCanon_of_canonKeys x_canonKeys

theorem x_some_reference :
    ∃ m0, Refines (oview [xU, xA, xB]) m0 ∧
      ∃ mu' ms',
        OWN (runOverlay xfs xOps xw).2 [2, 0, 1] [7, 8, 9] (mu' :: ms') ∧
        LowerSame [xA, xB] ms' ∧ OInv mu' ms' ∧ ViewWF (oview (mu' :: ms')) ∧
        ViewCanon (oview (mu' :: ms')) ∧
        (runOverlay xfs xOps xw).1.map Res.isOk = (runRef xOps m0).1.map Res.isOk ∧
        (∀ r ∈ (runOverlay xfs xOps xw).1, r ≠ .panic) ∧
        (∀ r ∈ (runRef xOps m0).1, r ≠ .panic) ∧
        Refines (oview (mu' :: ms')) (runRef xOps m0).2 ∧ RefO3Free xOps m0 := by
  obtain ⟨m0, href, hall⟩ := overlay_refines_some_reference xw_setting xw_inv xw_viewWF x_viewCanon
  exact ⟨m0, href, hall xOps xOps_ok C03.xOps_viewO3⟩

/-- a world where NO reference tree exists although every layer is `WF`: a key with a trailing
slash ("/a/" below the directory "/a") is visible but not canonical -/
def xBad : FMap := [("/a/".toList, fileOf [1]), ("/a".toList, dirEntryNow), ([], dirEntryNow)]

example : WF xBad := by decide

theorem xBad_inv : OInv xBad [] := OInv.initial (by decide) (noWhiteout_of_keys (by decide))

theorem xBad_viewWF : ViewWF (oview [xBad]) :=
  ViewWF.initial (by decide) (noWhiteout_of_keys (by decide)) (typeConsistent_of_keys (by decide))

example : ¬ CanonKeys [xBad] := by decide

theorem xBad_no_reference : ¬ ∃ m0, Refines (oview [xBad]) m0 := by
  rintro ⟨m0, href⟩
  obtain ⟨cs, hne, hcs, hq⟩ := href.viewCanon "/a/".toList (by decide) (by decide)
  rcases List.eq_nil_or_concat cs with rfl | ⟨ds, n, rfl⟩
  · exact hne rfl
  · rw [List.concat_eq_append, renderC_snoc] at hq
    have hn := (hcs n (by simp)).1
    have hlast : ("/a/".toList).getLast? = (renderC ds ++ '/' :: n).getLast? := by rw [hq]
    cases n with
    | nil => exact hn rfl
    | cons a n =>
      have hns := (hcs (a :: n) (by simp)).noSlash
      rw [List.getLast?_append, List.getLast?_cons_cons] at hlast
      cases hl : (a :: n).getLast? with
      | none => simp at hl
      | some l =>
        rw [hl] at hlast
        have hl' : l = '/' := by
          have h0 : ("/a/".toList).getLast? = some '/' := by decide
          rw [h0] at hlast
          simpa using hlast.symm
        subst hl'
        exact hns (List.mem_of_getLast? hl)

end example3

end Vfs.C09

section audit
open Vfs.C09
#print axioms reference_tree_exists_of_support
#print axioms reference_tree_exists
#print axioms reference_tree_exists_iff
#print axioms reference_tree_unique
#print axioms viewCanon_of_canonKeys
#print axioms reference_tree_exists_initial
#print axioms refO3Free_iff_viewO3Free
#print axioms overlay_refines_some_reference
#print axioms overlay_refines_some_reference_initial
#print axioms vpath_overlay_refines_some_reference
#print axioms removed_stays_absent_history_noref
#print axioms recreated_starts_fresh_history_noref
#print axioms x_refTree_perm
#print axioms x_refTree_refines
#print axioms x_some_reference
#print axioms xBad_no_reference
#print axioms xBad_viewWF
end audit
