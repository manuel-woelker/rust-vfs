/-
  `overlay_create_dir_all_concurrent_OInv` is `overlay_create_dir_all_concurrent`
  (Props/C17OverlayConc.lean) with its hypotheses on the hidden state of the write layer (`hghost`:
  no entry of the write layer at a marked requested prefix is a file; `hmark`: markers of requested
  prefixes are files) and `RootOk` discharged from `OInv mu0 ms`
  (Proofs/OverlayContractLemmas.lean), the invariant every sequential overlay operation preserves.
  What remains as a hypothesis about the initial state is C17's "no files in the way": no non-empty
  prefix of a requested path is a FILE of the n-layer view.
-/
import VfsModel.Props.C17OverlayConc
import VfsModel.Props.C09Contract
namespace Vfs.C17
open Vfs Vfs.Overlay Vfs.OConc Vfs.C09

theorem req_NR {paths : List (List Str)} (hp : PathsOK paths) {q : Str} (hq : Req paths q) : NR q := by
  obtain ⟨cs, hcs, j, h1, h2, rfl⟩ := hq
  exact NR_renderC (take_ne_nil h1 h2)
    (fun c hc => ((hp cs hcs).1 c (List.mem_of_mem_take hc)).noSlash)
    (C10.take_head_ne h1 (hp cs hcs).2)

variable {u idu : Nat} {is ids : List Nat} {ms : List FMap} {paths : List (List Str)}

theorem overlay_create_dir_all_concurrent_OInv (w0 : World) (mu0 : FMap)
    (hown : OWN w0 (u :: is) (idu :: ids) (mu0 :: ms)) (hp : PathsOK paths) (inv : OInv mu0 ms)
    (hnofile : ∀ cs ∈ paths, ∀ j, 1 ≤ j → j ≤ cs.length →
      ∀ e, viewN (mu0 :: ms) (renderC (cs.take j)) = some e → e.ftype = .dir)
    (schedule : List Nat) :
    let s := OConc.run (initSys (layersN (u :: is) (idu :: ids)) w0 (paths.map renderC)) schedule
    ∃ mu,
      (s.world = w0.setLeafFiles u mu ∧ OWN s.world (u :: is) (idu :: ids) (mu :: ms) ∧
        Evolve paths mu0 mu) ∧
      (s.threads.length = paths.length ∧
       ∀ (i : Nat) (cs : List Str) (r : Res Unit), paths[i]? = some cs →
        s.results[i]? = some (some r) →
        r = .ok () ∧ ∀ j, 1 ≤ j → j ≤ cs.length →
          ∃ e, viewN (mu :: ms) (renderC (cs.take j)) = some e ∧ e.ftype = .dir) ∧
      (s.finished = true →
        s.results = paths.map (fun _ => some (.ok ())) ∧
        ∀ cs ∈ paths, ∀ j, 1 ≤ j → j ≤ cs.length →
          ∃ e, viewN (mu :: ms) (renderC (cs.take j)) = some e ∧ e.ftype = .dir) :=
  overlay_create_dir_all_concurrent w0 mu0 hown hp inv.root hnofile
    (fun q hq hm e he => by rw [inv.ghost q (req_NR hp hq) hm] at he; cases he)
    (fun q hq e he => inv.markFile q e (req_NR hp hq) he) schedule

end Vfs.C17

#print axioms Vfs.C17.overlay_create_dir_all_concurrent_OInv
