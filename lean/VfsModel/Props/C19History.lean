/-
  C19 over WHOLE HISTORIES — "Where a backend supports setting a timestamp, metadata afterwards
  reports exactly the value set for that field and leaves the other timestamps, the length, the
  type and the bytes unchanged … appending to a file preserves its creation time, and adapters
  report the timestamps of the entry they serve" — as a refinement to an independent
  specification of ONE path's observable record.

  THE SPECIFICATION (`TRec`, `TOp`, `TOut`, `specStep`, `specHist`, `specStates`) is written from
  the property text and src/impls/memory.rs, not by unfolding the model: `TRec` is what `metadata`
  and a read can observe of a `MemoryFile` (type, bytes, created, modified, accessed); the ten
  `TOp`s are set_creation_time / set_modification_time / set_access_time, a create session
  (create_file + write_all + drop), an append session, remove_file, create_dir, remove_dir,
  metadata, read (open_file + read_to_end; `open_file` of MemoryFS stamps `accessed` BEFORE its
  type check, so a refused read of a directory still touches `accessed` — the spec says so).
  `SystemTime::now()` is a parameter `clk : TS` of the specification; the model stamps the abstract
  reading `TS.now`, so the theorems instantiate `clk := .now` and say nothing about how successive
  readings compare. `busy` = "k has children in the leaf" (constant over a history at `k`, only
  relevant for remove_dir).
  Outcomes are compared through `ofRes`: an error counts as `refused kind` only if it carries the
  path of the call (the `VfsPath` relabelling), anything else (panic, unlabelled error) is
  `abnormal`, which the specification never produces (`specStep_ne_abnormal`).

  WHAT IS PROVED
  * `stepS`, `stepS_spec`: the leaf's step is ONE table — per operation a row giving the answer and
    the write to the slot of the path, from what the leaf reads there (Proofs/LeafSpec.lean) — and
    that table is the specification's, row by row, with no map in sight. `memStep_tab`: the pure
    step `memStep` on a map is the row for the slot (`slotStep`), its write applied.
  * `history_exact_of`: the induction over histories, once, for any path that runs the operations
    as the pure step `memStep` on a memory leaf's map; the theorems below are its instances.
  * `timestamps_history_exact`: for EVERY list of operations run through the model's `VPath.*`
    methods on `{fs := leafFS i, path := k}` from any memory leaf in which the parent of `k` is a
    directory: the outcomes are the outcomes of the spec (step by step), the final entry at `k` is
    the spec's record (five fields), every other key keeps its entry, the world is the old world
    with leaf `i` replaced, `busy` is unchanged, and well-formedness `WF` is preserved.
    `timestamps_trace_exact` / `specStates_eq`: the same for every prefix (record after each step).
  * In the property's words: `set_then_metadata_exact` (after any history, a successful setter reads
    back exactly; other timestamps, len, type, bytes, other keys unchanged),
    `append_preserves_created_history`, `created_stable_without_recreation` (any history of
    appends / reads / metadata / setters of the other two fields keeps `created`),
    `timestamps_independent_of_content` (two histories that differ only in the bytes: equal
    outcomes up to bytes/len, equal type and timestamps after EVERY prefix; also across two
    different leaves that start with equal timestamps).
  * `altroot_history_exact` — ALL ten operations, whole histories, through an AltrootFS over the
    leaf: the run is literally the run at the translated path (same outcomes, same world), hence
    the outcomes of the spec on the record of the SERVED entry. `altroot_paths_canon` discharges
    the two path hypotheses for canonical strings.
  * `overlay_history_exact_fragN` — OverlayFS over any number of memory layers whose TOP layer
    serves `k`: histories of setters / metadata / reads / append sessions (no hypothesis on
    ancestors). `overlay_history_exact_noremoveN` — the same with create sessions and `create_dir`
    as well (every operation except the two removals), when the ancestors of `k` are directories of
    the top layer (`AncTop`) and the first component of `k` is not ".whiteout". In both, the overlay
    run EQUALS the run of the history on the top layer at `k`; `overlay_history_exact_frag` /
    `overlay_history_exact_noremove` are the two-layer instances.
  * `overlay_lower_served` (single steps): an entry served from the LOWER layer — `metadata`
    reports its timestamps, a read stamps its `accessed` in the lower layer, the setters are
    refused with not-found (they address the top layer) and change nothing.
  * Non-vacuity (§7): a concrete world, a history of 21 steps mixing all ten operation kinds; the
    hypotheses hold, and spec, leaf run, altroot run, overlay runs are evaluated.

  HYPOTHESES of `timestamps_history_exact`: leaf `i` of the world is a memory leaf (`MemLeafAt`),
  `'/' ∈ k`, and the parent of `k` is an existing directory of that leaf (`ParentDir`). Nothing
  else (well-formedness is not needed, but is shown to be preserved).

  NOT PROVED HERE: overlay histories that contain `remove_file` / `remove_dir` (these move the path
  behind a whiteout) — see Props/C19HistoryOverlayN.lean, which proves them for all ten operations
  under the side condition "remove_dir is not applied to a directory", and
  Props/C19HistoryOverlay.lean for paths without children (two layers); the fully general statement
  (remove_dir of a directory with children in some layer) is kept as `overlay_history_exact_stmt`.
  Overlays over non-root layers; PhysicalFS histories (C19.phys_* are single-step;
  `set_creation_time` is NotSupported there).
-/
import VfsModel.Props.C19
import VfsModel.Proofs.OverlayEffect
namespace Vfs.C19
open Vfs.FMap

/-! ## 1. The specification -/

/-- the observable record of one path -/
structure TRec where
  ftype : FType
  bytes : Bytes
  created : TS
  modified : TS
  accessed : TS
  deriving DecidableEq, Repr

/-- operations aimed at the one path -/
inductive TOp where
  | setCreated (t : Int)
  | setModified (t : Int)
  | setAccessed (t : Int)
  /-- `create_file()?.write_all(b)`, drop -/
  | write (b : Bytes)
  /-- `append_file()?.write_all(b)`, drop -/
  | append (b : Bytes)
  | removeFile
  | createDir
  | removeDir
  | metadata
  /-- `open_file()?.read_to_end()` -/
  | read
  deriving DecidableEq, Repr

/-- observable outcomes. `abnormal` (a panic, or an error not labelled with the path of the call)
is never produced by the specification. -/
inductive TOut where
  | done
  | info (md : Meta)
  | data (b : Bytes)
  | refused (kind : ErrKind)
  | abnormal
  deriving DecidableEq, Repr

def TRec.info (r : TRec) : Meta :=
  { ftype := r.ftype, len := r.bytes.length, created := r.created, modified := r.modified,
    accessed := r.accessed }

/-- a file / directory that comes into being at clock reading `clk` -/
def TRec.fresh (ft : FType) (b : Bytes) (clk : TS) : TRec :=
  { ftype := ft, bytes := b, created := clk, modified := clk, accessed := clk }

/-- One step of the specification. `busy`: the path has children (then it is a directory that
cannot be removed); `clk`: the clock reading used for every stamp of this step. -/
def specStep (busy : Bool) (clk : TS) : Option TRec → TOp → Option TRec × TOut
  -- setters: exactly the field named, nothing else; not-found on a missing path
  | none, .setCreated _ => (none, .refused .fileNotFound)
  | none, .setModified _ => (none, .refused .fileNotFound)
  | none, .setAccessed _ => (none, .refused .fileNotFound)
  | some r, .setCreated t => (some { r with created := .at t }, .done)
  | some r, .setModified t => (some { r with modified := .at t }, .done)
  | some r, .setAccessed t => (some { r with accessed := .at t }, .done)
  -- create session: a NEW file (truncate semantics: all three stamps are the clock); refused on a
  -- directory
  | none, .write b => (some (TRec.fresh .file b clk), .done)
  | some r, .write b =>
    match r.ftype with
    | .file => (some (TRec.fresh .file b clk), .done)
    | .dir => (some r, .refused .other)
  -- append session: bytes extended, `modified` stamped, `created` and `accessed` kept
  | none, .append _ => (none, .refused .fileNotFound)
  | some r, .append b =>
    match r.ftype with
    | .file => (some { r with bytes := r.bytes ++ b, modified := clk }, .done)
    | .dir => (some r, .refused .other)
  | none, .removeFile => (none, .refused .fileNotFound)
  | some r, .removeFile =>
    match r.ftype with
    | .file => (none, .done)
    | .dir => (some r, .refused .other)
  | none, .createDir => (some (TRec.fresh .dir [] clk), .done)
  | some r, .createDir =>
    match r.ftype with
    | .file => (some r, .refused .fileExists)
    | .dir => (some r, .refused .dirExists)
  | none, .removeDir => (none, .refused .fileNotFound)
  | some r, .removeDir =>
    match r.ftype with
    | .file => (some r, .refused .other)
    | .dir => if busy then (some r, .refused .other) else (none, .done)
  -- metadata: a pure observation
  | none, .metadata => (none, .refused .fileNotFound)
  | some r, .metadata => (some r, .info r.info)
  -- read: opening stamps `accessed` (before the type check), the bytes are reported
  | none, .read => (none, .refused .fileNotFound)
  | some r, .read =>
    match r.ftype with
    | .file => (some { r with accessed := clk }, .data r.bytes)
    | .dir => (some { r with accessed := clk }, .refused .other)

/-- a whole history: outcomes and final record -/
def specHist (busy : Bool) (clk : TS) : Option TRec → List TOp → List TOut × Option TRec
  | r, [] => ([], r)
  | r, op :: ops =>
    ((specStep busy clk r op).2 :: (specHist busy clk (specStep busy clk r op).1 ops).1,
     (specHist busy clk (specStep busy clk r op).1 ops).2)

/-- the record after each step -/
def specStates (busy : Bool) (clk : TS) : Option TRec → List TOp → List (Option TRec)
  | _, [] => []
  | r, op :: ops => (specStep busy clk r op).1 :: specStates busy clk (specStep busy clk r op).1 ops

theorem specStep_ne_abnormal (busy : Bool) (clk : TS) (r : Option TRec) (op : TOp) :
    (specStep busy clk r op).2 ≠ .abnormal := by
  cases op <;> cases r <;> simp only [specStep] <;>
    first
    | (intro h; cases h)
    | (rename_i r; cases r.ftype <;> simp only [] <;> first | (intro h; cases h) | (split <;> intro h <;> cases h))

theorem specHist_append (busy : Bool) (clk : TS) (r : Option TRec) (a b : List TOp) :
    specHist busy clk r (a ++ b) =
      ((specHist busy clk r a).1 ++ (specHist busy clk (specHist busy clk r a).2 b).1,
       (specHist busy clk (specHist busy clk r a).2 b).2) := by
  induction a generalizing r with
  | nil => rfl
  | cons op a ih => simp only [List.cons_append, specHist, ih]

/-! ## 2. The model side -/

/-- observation of a model outcome of a call on the path `k` -/
def ofRes {α} (k : Str) (f : α → TOut) : Res α → TOut
  | .ok a => f a
  | .err kind (some p) => if p = k then .refused kind else .abnormal
  | .err _ none => .abnormal
  | .panic => .abnormal

/-- … which, for the answer of a call ON `k` (the `VfsPath` layer puts `k` on every error), is a
function of the answer alone -/
def outOf {α} (f : α → TOut) : Res α → TOut
  | .ok a => f a
  | .err kind _ => .refused kind
  | .panic => .abnormal

theorem ofRes_withPath {α} (k : Str) (f : α → TOut) (r : Res α) :
    ofRes k f (r.withPath k) = outOf f r := by
  cases r <;> simp [ofRes, Res.withPath, outOf]

/-- one operation through the `VfsPath` methods -/
def runOp (p : VPath) : TOp → World → TOut × World
  | .setCreated t, w => (ofRes p.path (fun _ => .done) (p.setCreationTime t w).1, (p.setCreationTime t w).2)
  | .setModified t, w =>
    (ofRes p.path (fun _ => .done) (p.setModificationTime t w).1, (p.setModificationTime t w).2)
  | .setAccessed t, w => (ofRes p.path (fun _ => .done) (p.setAccessTime t w).1, (p.setAccessTime t w).2)
  | .write b, w =>
    (ofRes p.path (fun _ => .done) ((do let h ← p.createFile; h.writeAllAndDrop b : M Unit) w).1,
      ((do let h ← p.createFile; h.writeAllAndDrop b : M Unit) w).2)
  | .append b, w =>
    (ofRes p.path (fun _ => .done) ((do let h ← p.appendFile; h.writeAllAndDrop b : M Unit) w).1,
      ((do let h ← p.appendFile; h.writeAllAndDrop b : M Unit) w).2)
  | .removeFile, w => (ofRes p.path (fun _ => .done) (p.removeFile w).1, (p.removeFile w).2)
  | .createDir, w => (ofRes p.path (fun _ => .done) (p.createDir w).1, (p.createDir w).2)
  | .removeDir, w => (ofRes p.path (fun _ => .done) (p.removeDir w).1, (p.removeDir w).2)
  | .metadata, w => (ofRes p.path .info (p.metadata w).1, (p.metadata w).2)
  | .read, w =>
    (ofRes p.path .data ((do let h ← p.openFile; M.ret h.readToEnd.1 : M Bytes) w).1,
      ((do let h ← p.openFile; M.ret h.readToEnd.1 : M Bytes) w).2)

def runHist (p : VPath) : List TOp → World → List TOut × World
  | [], w => ([], w)
  | op :: ops, w =>
    ((runOp p op w).1 :: (runHist p ops (runOp p op w).2).1, (runHist p ops (runOp p op w).2).2)

theorem runHist_append (p : VPath) (a b : List TOp) (w : World) :
    runHist p (a ++ b) w =
      ((runHist p a w).1 ++ (runHist p b (runHist p a w).2).1, (runHist p b (runHist p a w).2).2) := by
  induction a generalizing w with
  | nil => rfl
  | cons op a ih => simp only [List.cons_append, runHist, ih]

/-- abstraction: the record of an entry -/
def recOf (e : Entry) : TRec :=
  { ftype := e.ftype, bytes := e.content, created := e.created, modified := e.modified,
    accessed := e.accessed }

def absAt (m : FMap) (k : Str) : Option TRec := (m.find? k).map recOf

/-- `k` has children in the map -/
def busyAt (m : FMap) (k : Str) : Bool := decide (m.keys.filterMap (childName k) ≠ [])

/-- the operation as a pure function of the leaf's map -/
def memStep (m : FMap) (k : Str) : TOp → TOut × FMap
  | .setCreated t =>
    (ofRes k (fun _ => .done) ((Mem.setCreated m k (.at t)).1.withPath k), (Mem.setCreated m k (.at t)).2)
  | .setModified t =>
    (ofRes k (fun _ => .done) ((Mem.setModified m k (.at t)).1.withPath k), (Mem.setModified m k (.at t)).2)
  | .setAccessed t =>
    (ofRes k (fun _ => .done) ((Mem.setAccessed m k (.at t)).1.withPath k), (Mem.setAccessed m k (.at t)).2)
  | .write b => (ofRes k (fun _ => .done) (Mem.pWrite m k b).1, (Mem.pWrite m k b).2)
  | .append b => (ofRes k (fun _ => .done) (Mem.pAppend m k b).1, (Mem.pAppend m k b).2)
  | .removeFile => (ofRes k (fun _ => .done) (Mem.pRemoveFile m k).1, (Mem.pRemoveFile m k).2)
  | .createDir => (ofRes k (fun _ => .done) (Mem.pCreateDir m k).1, (Mem.pCreateDir m k).2)
  | .removeDir => (ofRes k (fun _ => .done) (Mem.pRemoveDir m k).1, (Mem.pRemoveDir m k).2)
  | .metadata => (ofRes k .info ((Mem.metadata m k).withPath k), m)
  | .read =>
    (ofRes k .data
      (match (Mem.openFile m k).1.withPath k with
       | .ok h => h.readToEnd.1
       | .err kind pth => .err kind pth
       | .panic => .panic), (Mem.openFile m k).2)

/-- **the step as a table** (the tables of Proofs/LeafSpec.lean, one row per operation): what the
caller sees and what happens to the slot of the path, from what the leaf reads — is the parent a
directory, has the path children, the entry at the path. No map in sight. -/
def stepS (par kids : Bool) (tgt : Option Entry) : TOp → TOut × Write
  | .setCreated t => (Mem.setS (fun e => { e with created := .at t }) tgt).map (outOf fun _ => .done) id
  | .setModified t => (Mem.setS (fun e => { e with modified := .at t }) tgt).map (outOf fun _ => .done) id
  | .setAccessed t => (Mem.setS (fun e => { e with accessed := .at t }) tgt).map (outOf fun _ => .done) id
  | .write b => (Mem.writeS b par tgt).map (outOf fun _ => .done) id
  | .append b => (Mem.appendS b tgt).map (outOf fun _ => .done) id
  | .removeFile => (Mem.removeFileS tgt).map (outOf fun _ => .done) id
  | .createDir => (Mem.createDirS par tgt).map (outOf fun _ => .done) id
  | .removeDir => (Mem.removeDirS kids tgt).map (outOf fun _ => .done) id
  | .metadata => (match tgt with | some e => .info e.meta | none => .refused .fileNotFound, .keep)
  | .read => (match tgt with
      | some e => if e.ftype = .file then .data e.content else .refused .other
      | none => .refused .fileNotFound, (Mem.openFileS tgt).2)

/-- the row for the slot `k` of the map `m` -/
def slotStep (m : FMap) (k : Str) (op : TOp) : TOut × Write :=
  stepS (Mem.par m k) (Mem.kids m k) (m.find? k) op

/-- the pure step is its row: the answer, and the row's write applied to the slot -/
theorem memStep_tab (m : FMap) (k : Str) (op : TOp) :
    memStep m k op = ((slotStep m k op).1, (slotStep m k op).2.app m k) := by
  cases op <;>
    simp only [memStep, slotStep, stepS, Mem.setCreated_eq, Mem.setModified_eq, Mem.setAccessed_eq,
      Mem.pWrite_eq, Mem.pAppend_eq, Mem.pRemoveFile_eq, Mem.pCreateDir_eq, Mem.pRemoveDir_eq,
      Mem.openFile_eq, onSlot, ofRes_withPath, Prod.map_fst, Prod.map_snd, id]
  case metadata => unfold Mem.metadata; cases m.find? k <;> rfl
  case read =>
    rcases m.find? k with _ | ⟨⟨_ | _, c, cr, mo, ac⟩⟩ <;>
      simp [Mem.openFileS, fail, Res.withPath, ofRes, RHandle.readToEnd]

section run
variable {w : World} {i : Nat} {m : FMap} (h : MemLeafAt w i m)
include h

theorem run_setCreationTime (p : Str) (t : Int) :
    (leafFS i).setCreationTime p t w =
      ((Mem.setCreated m p (.at t)).1, w.setLeafFiles i (Mem.setCreated m p (.at t)).2) :=
  Vfs.run_setCreationTime h p t

theorem run_setModificationTime (p : Str) (t : Int) :
    (leafFS i).setModificationTime p t w =
      ((Mem.setModified m p (.at t)).1, w.setLeafFiles i (Mem.setModified m p (.at t)).2) :=
  Vfs.run_setModificationTime h p t

theorem run_setAccessTime (p : Str) (t : Int) :
    (leafFS i).setAccessTime p t w =
      ((Mem.setAccessed m p (.at t)).1, w.setLeafFiles i (Mem.setAccessed m p (.at t)).2) :=
  Vfs.run_setAccessTime h p t

/-- every operation through the `VfsPath` layer over the leaf computes `memStep` -/
theorem run_memStep (id : Nat) (k : Str) (op : TOp) :
    runOp { fs := leafFS i, fsId := id, path := k } op w =
      ((memStep m k op).1, w.setLeafFiles i (memStep m k op).2) := by
  cases op with
  | setCreated t =>
    simp only [runOp, memStep, VPath.setCreationTime, M.withPath, run_setCreationTime h]
  | setModified t =>
    simp only [runOp, memStep, VPath.setModificationTime, M.withPath, run_setModificationTime h]
  | setAccessed t =>
    simp only [runOp, memStep, VPath.setAccessTime, M.withPath, run_setAccessTime h]
  | write b => simp only [runOp, memStep, run_pWrite h]
  | append b => simp only [runOp, memStep, run_pAppend h]
  | removeFile => simp only [runOp, memStep, run_pRemoveFile h]
  | createDir => simp only [runOp, memStep, run_pCreateDir h]
  | removeDir => simp only [runOp, memStep, run_pRemoveDir h]
  | metadata =>
    simp only [runOp, memStep, VPath.metadata, M.withPath, run_metadata h, h.same]
  | read =>
    simp only [runOp, memStep, VPath.openFile, M.withPath, bind, M.bind, run_openFile h]
    cases (Mem.openFile m k).1 <;> simp [Res.withPath, M.ret]

end run

/-! ### the pure step refines the specification -/

/-- the discipline: `k` is not the root and its parent is an existing directory of the map -/
def ParentDir (m : FMap) (k : Str) : Prop :=
  '/' ∈ k ∧ ∃ pe, m.find? (parentInternal k) = some pe ∧ pe.ftype = .dir

/-- `m'` differs from `m` at most at the key `k` (and lists the same children of `k`) -/
def Upd (m : FMap) (k : Str) (m' : FMap) : Prop :=
  (∀ k', k' ≠ k → m'.find? k' = m.find? k') ∧
  m'.keys.filterMap (childName k) = m.keys.filterMap (childName k)

theorem childName_self (k : Str) : childName k k = none := by
  unfold childName
  have : (k ++ ['/']).isPrefixOf k = false := by
    cases hh : (k ++ ['/']).isPrefixOf k with
    | false => rfl
    | true =>
      rw [List.isPrefixOf_iff_prefix] at hh
      have := hh.length_le
      simp at this
      omega
  simp only [this]
  rfl

theorem keys_erase_children (m : FMap) (k : Str) :
    (FMap.erase m k).keys.filterMap (childName k) = m.keys.filterMap (childName k) := by
  induction m with
  | nil => rfl
  | cons kv rest ih =>
    obtain ⟨k1, v⟩ := kv
    rw [erase_cons]
    by_cases h1 : k1 = k
    · subst h1
      simp only [FMap.keys] at ih
      simp only [if_true, FMap.keys, List.map_cons, List.filterMap_cons, childName_self]
      exact ih
    · simp only [h1, if_false, FMap.keys, List.map_cons, List.filterMap_cons]
      simp only [FMap.keys] at ih
      rw [ih]

theorem Upd.refl (m : FMap) (k : Str) : Upd m k m := ⟨fun _ _ => rfl, rfl⟩

theorem Upd.insert (m : FMap) (k : Str) (v : Entry) : Upd m k (m.insert k v) := by
  refine ⟨fun k' hk => find?_insert_ne m k k' v hk, ?_⟩
  show (FMap.keys ((k, v) :: FMap.erase m k)).filterMap (childName k) = _
  simp only [FMap.keys, List.map_cons, List.filterMap_cons, childName_self]
  exact keys_erase_children m k

theorem Upd.erase (m : FMap) (k : Str) : Upd m k (FMap.erase m k) :=
  ⟨fun k' hk => find?_erase_ne m k k' hk, keys_erase_children m k⟩

theorem Upd.trans {m m1 m2 : FMap} {k : Str} (h1 : Upd m k m1) (h2 : Upd m1 k m2) : Upd m k m2 :=
  ⟨fun k' hk => (h2.1 k' hk).trans (h1.1 k' hk), h2.2.trans h1.2⟩

theorem Upd.busy {m m' : FMap} {k : Str} (h : Upd m k m') : busyAt m' k = busyAt m k := by
  unfold busyAt; rw [h.2]

theorem contains_upd {mu mu' : FMap} {k q : Str} (hu : Upd mu k mu') (hq : q ≠ k) :
    mu'.contains q = mu.contains q := by
  unfold FMap.contains; rw [hu.1 q hq]

theorem Write.upd (m : FMap) (k : Str) (wr : Write) : Upd m k (wr.app m k) := by
  cases wr
  · exact Upd.refl m k
  · exact Upd.insert m k _
  · exact Upd.erase m k

/-- every row's write fits -/
theorem stepS_fits (par kids : Bool) (tgt : Option Entry) (op : TOp) :
    (stepS par kids tgt op).2.Fits par kids tgt := by
  cases op
  case metadata => trivial
  case removeDir => exact Mem.removeDirS_fits ..
  case createDir => exact Mem.createDirS_fits ..
  case removeFile => exact Mem.removeFileS_fits ..
  case write => exact Mem.writeS_fits ..
  case append => exact Mem.appendS_fits ..
  case read => exact Mem.openFileS_fits ..
  all_goals exact Mem.setS_fits _ _ _ _ fun _ => rfl

/-- every step changes the map at most at `k` -/
theorem memStep_upd (m : FMap) (k : Str) (op : TOp) : Upd m k (memStep m k op).2 := by
  rw [memStep_tab]; exact Write.upd m k _

theorem parent_ne_self (k : Str) (hs : '/' ∈ k) : parentInternal k ≠ k := by
  intro h
  have := parentInternal_split k hs
  rw [h] at this
  have hl := congrArg List.length this
  simp at hl

theorem ParentDir.upd {m m' : FMap} {k : Str} (h : ParentDir m k) (hu : Upd m k m') :
    ParentDir m' k := by
  obtain ⟨hs, pe, hpe, hd⟩ := h
  exact ⟨hs, pe, by rw [hu.1 _ (parent_ne_self k hs)]; exact hpe, hd⟩

theorem ParentDir.parentOk {m : FMap} {k : Str} (h : ParentDir m k) : Mem.parentOk m k = true := by
  obtain ⟨_, pe, hpe, hd⟩ := h
  simp [Mem.parentOk, hpe, hd]

theorem ParentDir.ensure {m : FMap} {k : Str} (h : ParentDir m k) :
    Mem.ensureHasParent m k = .ok () :=
  Mem.ensureHasParent_dir m k h.1 h.2

/-- the setters, `metadata`, read and append sessions: they neither probe the parent of the path
nor ask for its children -/
def TOp.inFrag : TOp → Bool
  | .setCreated _ | .setModified _ | .setAccessed _ | .append _ | .metadata | .read => true
  | _ => false

theorem absAt_app (m : FMap) (k : Str) (wr : Write) :
    absAt (wr.app m k) k = (wr.slot (m.find? k)).map recOf := by
  unfold absAt; rw [Write.find?_app_self]

/-- **the two tables agree**: a row's answer is the specification's, and what its write leaves in
the slot is the specification's record. Outside the fragment `inFrag` the parent has to be a
directory and `busy` the leaf's answer; inside, neither matters. -/
theorem stepS_spec (par kids busy : Bool) (tgt : Option Entry) (op : TOp)
    (hp : op.inFrag = false → par = true ∧ busy = kids) :
    (stepS par kids tgt op).1 = (specStep busy .now (tgt.map recOf) op).2 ∧
    ((stepS par kids tgt op).2.slot tgt).map recOf = (specStep busy .now (tgt.map recOf) op).1 := by
  cases op
  case write | createDir | removeFile | removeDir =>
    obtain ⟨rfl, rfl⟩ := hp rfl
    cases busy <;> rcases tgt with _ | ⟨⟨_ | _, c, cr, mo, ac⟩⟩ <;>
      simp [stepS, specStep, outOf, Write.slot, recOf, TRec.fresh, fail, Mem.writeS, Mem.createFileS,
        Mem.createDirS, Mem.removeFileS, Mem.removeDirS, fileEntryNow, dirEntryNow]
  all_goals
    rcases tgt with _ | ⟨⟨_ | _, c, cr, mo, ac⟩⟩ <;>
      simp [stepS, specStep, outOf, Write.slot, recOf, TRec.info, Entry.meta, fail, Mem.setS, Mem.appendS,
        Mem.publishS, Mem.openFileS]

theorem slotStep_spec (m : FMap) (k : Str) (busy : Bool) (op : TOp)
    (hp : op.inFrag = false → ParentDir m k ∧ busy = busyAt m k) :
    (slotStep m k op).1 = (specStep busy .now (absAt m k) op).2 ∧
    ((slotStep m k op).2.slot (m.find? k)).map recOf = (specStep busy .now (absAt m k) op).1 :=
  stepS_spec _ _ _ _ op fun hf => ⟨Mem.par_of_dir (hp hf).1.1 (hp hf).1.2, (hp hf).2⟩

/-- **one step**: the pure step of the model produces the outcome of the specification, and the
record at `k` afterwards is the specification's record -/
theorem memStep_spec_busy (m : FMap) (k : Str) (busy : Bool) (op : TOp)
    (hp : op.inFrag = false → ParentDir m k ∧ busy = busyAt m k) :
    (memStep m k op).1 = (specStep busy .now (absAt m k) op).2 ∧
    absAt (memStep m k op).2 k = (specStep busy .now (absAt m k) op).1 := by
  rw [memStep_tab, absAt_app]; exact slotStep_spec m k busy op hp

theorem memStep_spec (m : FMap) (k : Str) (hp : ParentDir m k) (op : TOp) :
    (memStep m k op).1 = (specStep (busyAt m k) .now (absAt m k) op).2 ∧
    absAt (memStep m k op).2 k = (specStep (busyAt m k) .now (absAt m k) op).1 :=
  memStep_spec_busy m k (busyAt m k) op fun _ => ⟨hp, rfl⟩

theorem memStep_WF (m : FMap) (k : Str) (hs : '/' ∈ k) (op : TOp) (h : WF m) :
    WF (memStep m k op).2 := by
  have hne : k ≠ [] := by rintro rfl; simp at hs
  rw [memStep_tab]
  exact h.fits (by simpa [hne, slotStep] using stepS_fits (Mem.par m k) (Mem.kids m k) (m.find? k) op)

/-! ## 3. Whole histories -/

/-- **Whole histories, one induction.** `p` is a path of some filesystem that, as long as an
invariant `J` of the world and of the map `m` of the memory leaf `i` holds, runs every admitted
operation as the pure step on `m` at `k` and keeps `J`. If the history leaves the fragment `inFrag`,
the parent of `k` is a directory of the STARTING map and `busy` says whether `k` has children there:
a step at `k` changes neither. Every admitted history through `p` is the same history run on the
leaf at `k`, answers as the specification does, and changes leaf `i` only, at the key `k` only. -/
theorem history_exact_of {p : VPath} {i : Nat} {k : Str} {busy : Bool} {ok : TOp → Bool}
    {J : World → FMap → Prop}
    (hstep : ∀ {w m} op, MemLeafAt w i m → J w m → ok op = true →
      runOp p op w = ((memStep m k op).1, w.setLeafFiles i (memStep m k op).2) ∧
      J (w.setLeafFiles i (memStep m k op).2) (memStep m k op).2)
    (id : Nat) {w : World} {m : FMap} (h : MemLeafAt w i m) (hJ : J w m) (ops : List TOp)
    (hops : ∀ op ∈ ops, ok op = true)
    (hp : ∀ op ∈ ops, op.inFrag = false → ParentDir m k ∧ busy = busyAt m k) :
    ∃ m', (runHist p ops w).2 = w.setLeafFiles i m' ∧ J (w.setLeafFiles i m') m' ∧
      (runHist p ops w).1 = (specHist busy .now (absAt m k) ops).1 ∧
      absAt m' k = (specHist busy .now (absAt m k) ops).2 ∧ Upd m k m' ∧
      runHist p ops w = runHist { fs := leafFS i, fsId := id, path := k } ops w := by
  induction ops generalizing w m with
  | nil =>
    exact ⟨m, by simp only [runHist, h.same], by rw [h.same]; exact hJ, rfl, rfl, Upd.refl m k, rfl⟩
  | cons op ops ih =>
    obtain ⟨hr, hJ'⟩ := hstep op h hJ (hops op (by simp))
    have hsp := memStep_spec_busy m k busy op (hp op (by simp))
    have hu := memStep_upd m k op
    obtain ⟨m', e1, e2, e3, e4, e5, e6⟩ := ih (h.set _) hJ' (fun o ho => hops o (by simp [ho]))
      fun o ho hf => ⟨(hp o (by simp [ho]) hf).1.upd hu, (hp o (by simp [ho]) hf).2.trans hu.busy.symm⟩
    simp only [runHist, specHist, hr, run_memStep h]
    rw [hsp.2] at e3 e4
    rw [Vfs.World.setLeafFiles_twice] at e1 e2
    exact ⟨m', e1, e2, by rw [e3, hsp.1], e4, hu.trans e5, by rw [e6]⟩

/-- **C19 over whole histories (in-memory backend).** For every list of operations aimed at the
path `k` (whose parent is a directory of the memory leaf `i`), run through the `VfsPath` methods:
* the outcomes are, step by step, the outcomes of the specification;
* the final world is the initial world with leaf `i` replaced by a map `m'`;
* the entry at `k` in `m'` is the specification's final record (type, bytes, three timestamps);
* every other key of the leaf keeps its entry;
* the discipline (`ParentDir`) and well-formedness carry over. -/
theorem timestamps_history_exact {w : World} {i : Nat} {m : FMap} (h : MemLeafAt w i m) (id : Nat)
    (k : Str) (hp : ParentDir m k) (ops : List TOp) :
    ∃ m', (runHist { fs := leafFS i, fsId := id, path := k } ops w).2 = w.setLeafFiles i m' ∧
      MemLeafAt (runHist { fs := leafFS i, fsId := id, path := k } ops w).2 i m' ∧
      (runHist { fs := leafFS i, fsId := id, path := k } ops w).1 =
        (specHist (busyAt m k) .now (absAt m k) ops).1 ∧
      absAt m' k = (specHist (busyAt m k) .now (absAt m k) ops).2 ∧
      (∀ k', k' ≠ k → m'.find? k' = m.find? k') ∧
      busyAt m' k = busyAt m k ∧ ParentDir m' k ∧ (WF m → WF m') := by
  obtain ⟨m', e1, hW, e3, e4, e5, _⟩ :=
    history_exact_of (p := { fs := leafFS i, fsId := id, path := k }) (busy := busyAt m k)
      (ok := fun _ => true) (J := fun _ m1 => WF m → WF m1)
      (fun op h1 hW _ => ⟨run_memStep h1 id k op, fun x => memStep_WF _ k hp.1 op (hW x)⟩)
      id h (fun x => x) ops (fun _ _ => rfl) (fun _ _ _ => ⟨hp, rfl⟩)
  exact ⟨m', e1, by rw [e1]; exact h.set m', e3, e4, e5.1, e5.busy, hp.upd e5, hW⟩

/-- the same after every prefix of the history: the record after each step is the
specification's -/
theorem timestamps_trace_exact {w : World} {i : Nat} {m : FMap} (h : MemLeafAt w i m) (id : Nat)
    (k : Str) (hp : ParentDir m k) (ops : List TOp) (n : Nat) :
    ∃ m', MemLeafAt (runHist { fs := leafFS i, fsId := id, path := k } (ops.take n) w).2 i m' ∧
      absAt m' k = (specHist (busyAt m k) .now (absAt m k) (ops.take n)).2 := by
  obtain ⟨m', _, e2, _, e4, _⟩ := timestamps_history_exact h id k hp (ops.take n)
  exact ⟨m', e2, e4⟩

theorem specStates_eq (busy : Bool) (clk : TS) (r : Option TRec) (ops : List TOp) (n : Nat)
    (hn : n < ops.length) :
    (specStates busy clk r ops)[n]? = some (specHist busy clk r (ops.take (n + 1))).2 := by
  induction ops generalizing r n with
  | nil => simp at hn
  | cons op ops ih =>
    cases n with
    | zero => simp [specStates, specHist]
    | succ n =>
      simp only [specStates, List.getElem?_cons_succ, List.take_succ_cons, specHist]
      exact ih _ n (by simpa using hn)

/-! ## 4. Corollaries in the property's words -/

/-- **Setters read back exactly.** After ANY history at `k`, if a setter then succeeds, `metadata`
reports exactly the value set for that field; the two other timestamps, the length and the type
are those reported before the setter; the stored entry (hence the bytes) is the old entry with
that one field replaced; every other key is untouched. -/
theorem set_then_metadata_exact {w : World} {i : Nat} {m : FMap} (h : MemLeafAt w i m) (id : Nat)
    (k : Str) (hp : ParentDir m k) (ops : List TOp) (t : Int) :
    let p : VPath := { fs := leafFS i, fsId := id, path := k }
    let w1 := (runHist p ops w).2
    ∃ m1, MemLeafAt w1 i m1 ∧
    (∀ w2, runOp p (.setCreated t) w1 = (.done, w2) →
      ∃ e md0, m1.find? k = some e ∧ (runOp p .metadata w1).1 = .info md0 ∧
        runOp p .metadata w2 = (.info { md0 with created := .at t }, w2) ∧
        w2 = w1.setLeafFiles i (m1.insert k { e with created := .at t })) ∧
    (∀ w2, runOp p (.setModified t) w1 = (.done, w2) →
      ∃ e md0, m1.find? k = some e ∧ (runOp p .metadata w1).1 = .info md0 ∧
        runOp p .metadata w2 = (.info { md0 with modified := .at t }, w2) ∧
        w2 = w1.setLeafFiles i (m1.insert k { e with modified := .at t })) ∧
    (∀ w2, runOp p (.setAccessed t) w1 = (.done, w2) →
      ∃ e md0, m1.find? k = some e ∧ (runOp p .metadata w1).1 = .info md0 ∧
        runOp p .metadata w2 = (.info { md0 with accessed := .at t }, w2) ∧
        w2 = w1.setLeafFiles i (m1.insert k { e with accessed := .at t })) := by
  intro p w1
  obtain ⟨m1, _, h1, _, _, _, _, _, _⟩ := timestamps_history_exact h id k hp ops
  refine ⟨m1, h1, ?_, ?_, ?_⟩
  all_goals
    intro w2 hrun
    rw [run_memStep h1 id k _] at hrun
    rcases Option.eq_none_or_eq_some (m1.find? k) with hf | ⟨e, hf⟩
    · simp [memStep, Mem.setCreated, Mem.setModified, Mem.setAccessed, hf, ofRes, Res.withPath,
        fail] at hrun
    · simp only [memStep, Mem.setCreated, Mem.setModified, Mem.setAccessed, hf, ofRes,
        Res.withPath, Prod.mk.injEq, true_and] at hrun
      subst hrun
      refine ⟨e, e.meta, hf, ?_, ?_, rfl⟩
      · rw [run_memStep h1 id k _]
        simp [memStep, Mem.metadata, hf, ofRes, Res.withPath]
      · rw [run_memStep (h1.set _) id k _]
        simp [memStep, Mem.metadata, ofRes, Res.withPath, Entry.meta,
          Vfs.World.setLeafFiles_twice]

/-- **Appending preserves the creation time.** After ANY history at `k`, a successful append
session of `b` leaves `created` (and `accessed`, and the type) as reported before, the length
grows by `b.length`, and the stored bytes are the old bytes followed by `b`. -/
theorem append_preserves_created_history {w : World} {i : Nat} {m : FMap} (h : MemLeafAt w i m)
    (id : Nat) (k : Str) (hp : ParentDir m k) (ops : List TOp) (b : Bytes) :
    let p : VPath := { fs := leafFS i, fsId := id, path := k }
    let w1 := (runHist p ops w).2
    ∀ w2, runOp p (.append b) w1 = (.done, w2) →
      ∃ m1 e md0, MemLeafAt w1 i m1 ∧ m1.find? k = some e ∧ e.ftype = .file ∧
        (runOp p .metadata w1).1 = .info md0 ∧
        runOp p .metadata w2 =
          (.info { md0 with len := md0.len + b.length, modified := .now }, w2) ∧
        w2 = w1.setLeafFiles i
          (m1.insert k { e with content := e.content ++ b, modified := .now }) := by
  intro p w1 w2 hrun
  obtain ⟨m1, _, h1, _, _, _, _, _, _⟩ := timestamps_history_exact h id k hp ops
  rw [run_memStep h1 id k _] at hrun
  rcases Option.eq_none_or_eq_some (m1.find? k) with hf | ⟨e, hf⟩
  · simp [memStep, Mem.pAppend, Mem.appendFile, hf, ofRes, Res.withPath, fail] at hrun
  · obtain ⟨ft, c, cr, mo, ac⟩ := e
    cases ft
    · simp only [memStep, Mem.pAppend, Mem.appendFile, hf, ofRes, ne_eq, not_true_eq_false,
        ↓reduceIte, memPublish, C14.write_at_end, Prod.mk.injEq, true_and] at hrun
      subst hrun
      refine ⟨m1, _, Entry.meta ⟨.file, c, cr, mo, ac⟩, h1, hf, rfl, ?_, ?_, rfl⟩
      · rw [run_memStep h1 id k _]
        simp [memStep, Mem.metadata, hf, ofRes, Res.withPath]
      · rw [run_memStep (h1.set _) id k _]
        simp [memStep, Mem.metadata, ofRes, Res.withPath, Entry.meta,
          Vfs.World.setLeafFiles_twice]
    · simp [memStep, Mem.pAppend, Mem.appendFile, hf, ofRes, Res.withPath, fail] at hrun

/-- operations that neither create nor remove the entry nor set its creation time -/
def TOp.keepsCreated : TOp → Bool
  | .setModified _ | .setAccessed _ | .append _ | .metadata | .read => true
  | _ => false

theorem spec_created_stable (busy : Bool) (clk : TS) (r : TRec) (ops : List TOp)
    (hops : ∀ op ∈ ops, op.keepsCreated = true) :
    ∃ r', (specHist busy clk (some r) ops).2 = some r' ∧ r'.created = r.created ∧
      r'.ftype = r.ftype := by
  induction ops generalizing r with
  | nil => exact ⟨r, rfl, rfl, rfl⟩
  | cons op ops ih =>
    have h1 := hops op (by simp)
    have hrest : ∀ op ∈ ops, op.keepsCreated = true := fun o ho => hops o (by simp [ho])
    obtain ⟨ft, c, cr, mo, ac⟩ := r
    cases op <;> simp [TOp.keepsCreated] at h1 <;> cases ft <;>
      (simp only [specHist, specStep]
       obtain ⟨r', e1, e2, e3⟩ := ih _ hrest
       exact ⟨r', e1, e2, e3⟩)

/-- **The creation time is stable** over any history of appends, reads, metadata calls and
setters of the two other fields — whatever bytes are appended and however often -/
theorem created_stable_without_recreation {w : World} {i : Nat} {m : FMap} (h : MemLeafAt w i m)
    (id : Nat) (k : Str) (hp : ParentDir m k) (e : Entry) (he : m.find? k = some e)
    (ops : List TOp) (hops : ∀ op ∈ ops, op.keepsCreated = true) :
    ∃ m' e', MemLeafAt (runHist { fs := leafFS i, fsId := id, path := k } ops w).2 i m' ∧
      m'.find? k = some e' ∧ e'.created = e.created ∧ e'.ftype = e.ftype := by
  obtain ⟨m', _, h1, _, e4, _⟩ := timestamps_history_exact h id k hp ops
  have ha : absAt m k = some (recOf e) := by simp [absAt, he]
  obtain ⟨r', e1, e2, e3⟩ := spec_created_stable (busyAt m k) .now (recOf e) ops hops
  rw [ha, e1] at e4
  unfold absAt at e4
  rcases Option.eq_none_or_eq_some (m'.find? k) with hf | ⟨e', hf⟩
  · rw [hf] at e4; cases e4
  · rw [hf] at e4
    simp only [Option.map_some, Option.some.injEq] at e4
    refine ⟨m', e', h1, hf, ?_, ?_⟩
    · have := congrArg TRec.created e4; rw [e2] at this; exact this
    · have := congrArg TRec.ftype e4; rw [e3] at this; exact this

/-! ### timestamps are independent of content -/

/-- the operation with the bytes forgotten -/
def TOp.shape : TOp → TOp
  | .write _ => .write []
  | .append _ => .append []
  | op => op

/-- type and the three timestamps of a record -/
def TRec.times (r : TRec) : FType × TS × TS × TS := (r.ftype, r.created, r.modified, r.accessed)

/-- the outcome with bytes and length forgotten -/
def TOut.shape : TOut → TOut
  | .info md => .info { md with len := 0 }
  | .data _ => .data []
  | o => o

/-- a step and the step on the operation's shape, from records with the same type and stamps,
agree on type, stamps and the outcome's shape -/
theorem spec_step_shape (busy : Bool) (clk : TS) (r r' : Option TRec)
    (hr : r.map TRec.times = r'.map TRec.times) (op : TOp) :
    (specStep busy clk r op).1.map TRec.times = (specStep busy clk r' op.shape).1.map TRec.times ∧
    (specStep busy clk r op).2.shape = (specStep busy clk r' op.shape).2.shape := by
  cases r with
  | none =>
    cases r' with
    | some r' => simp at hr
    | none => cases op <;> simp [TOp.shape, specStep, TRec.times, TRec.fresh, TOut.shape]
  | some r =>
    cases r' with
    | none => simp at hr
    | some r' =>
      obtain ⟨ft, c, cr, mo, ac⟩ := r
      obtain ⟨ft', c', cr', mo', ac'⟩ := r'
      simp only [Option.map_some, TRec.times, Option.some.injEq, Prod.mk.injEq] at hr
      obtain ⟨rfl, rfl, rfl, rfl⟩ := hr
      cases op <;> cases ft <;>
        simp [TOp.shape, specStep, TRec.times, TRec.fresh, TRec.info, TOut.shape] <;>
        (try (cases busy <;> simp [TRec.times]))

theorem spec_step_independent (busy : Bool) (clk : TS) (r r' : Option TRec)
    (hr : r.map TRec.times = r'.map TRec.times) (op op' : TOp) (hop : op.shape = op'.shape) :
    (specStep busy clk r op).1.map TRec.times = (specStep busy clk r' op').1.map TRec.times ∧
    (specStep busy clk r op).2.shape = (specStep busy clk r' op').2.shape := by
  have a := spec_step_shape busy clk r r' hr op
  have b := spec_step_shape busy clk r' r' rfl op'
  rw [hop] at a
  exact ⟨a.1.trans b.1.symm, a.2.trans b.2.symm⟩

theorem spec_hist_independent (busy : Bool) (clk : TS) (r r' : Option TRec)
    (hr : r.map TRec.times = r'.map TRec.times) (ops ops' : List TOp)
    (hops : ops.map TOp.shape = ops'.map TOp.shape) :
    (specHist busy clk r ops).2.map TRec.times = (specHist busy clk r' ops').2.map TRec.times ∧
    (specHist busy clk r ops).1.map TOut.shape = (specHist busy clk r' ops').1.map TOut.shape := by
  induction ops generalizing r r' ops' with
  | nil =>
    cases ops' with
    | nil => exact ⟨hr, rfl⟩
    | cons _ _ => simp at hops
  | cons op ops ih =>
    cases ops' with
    | nil => simp at hops
    | cons op' ops' =>
      simp only [List.map_cons, List.cons.injEq] at hops
      obtain ⟨s1, s2⟩ := spec_step_independent busy clk r r' hr op op' hops.1
      obtain ⟨i1, i2⟩ := ih _ _ s1 ops' hops.2
      simp only [specHist, List.map_cons, i1, i2, s2, and_self]

/-- **Timestamps are independent of content.** Two histories at `k` that differ only in the bytes
written / appended, started from two leaves whose entries at `k` have the same type and
timestamps (for instance the same world): the outcomes agree step by step up to the bytes and the
length, and after EVERY prefix the type and the three timestamps at `k` agree. -/
theorem timestamps_independent_of_content {w w' : World} {i i' : Nat} {m m' : FMap}
    (h : MemLeafAt w i m) (h' : MemLeafAt w' i' m') (id id' : Nat) (k : Str)
    (hp : ParentDir m k) (hp' : ParentDir m' k) (hb : busyAt m k = busyAt m' k)
    (h0 : (absAt m k).map TRec.times = (absAt m' k).map TRec.times)
    (ops ops' : List TOp) (hops : ops.map TOp.shape = ops'.map TOp.shape) :
    (runHist { fs := leafFS i, fsId := id, path := k } ops w).1.map TOut.shape =
      (runHist { fs := leafFS i', fsId := id', path := k } ops' w').1.map TOut.shape ∧
    ∀ n, ∃ m1 m1',
      MemLeafAt (runHist { fs := leafFS i, fsId := id, path := k } (ops.take n) w).2 i m1 ∧
      MemLeafAt (runHist { fs := leafFS i', fsId := id', path := k } (ops'.take n) w').2 i' m1' ∧
      (absAt m1 k).map TRec.times = (absAt m1' k).map TRec.times := by
  constructor
  · obtain ⟨_, _, _, e3, _⟩ := timestamps_history_exact h id k hp ops
    obtain ⟨_, _, _, e3', _⟩ := timestamps_history_exact h' id' k hp' ops'
    rw [e3, e3', hb]
    exact (spec_hist_independent _ _ _ _ h0 ops ops' hops).2
  · intro n
    obtain ⟨m1, _, e2, _, e4, _⟩ := timestamps_history_exact h id k hp (ops.take n)
    obtain ⟨m1', _, e2', _, e4', _⟩ := timestamps_history_exact h' id' k hp' (ops'.take n)
    refine ⟨m1, m1', e2, e2', ?_⟩
    rw [e4, e4', hb]
    refine (spec_hist_independent _ _ _ _ h0 _ _ ?_).1
    rw [List.map_take, List.map_take, hops]

/-! ## 5. Through AltrootFS -/

theorem ofRes_relabel {α} (k' kk : Str) (f : α → TOut) (r : Res α) :
    ofRes k' f ((r.withPath kk).withPath k') = ofRes kk f (r.withPath kk) := by
  cases r <;> simp [ofRes, Res.withPath]

theorem ofRes_relabel1 {α} (k' kk : Str) (f : α → TOut) (r : Res α) :
    ofRes k' f (r.withPath k') = ofRes kk f (r.withPath kk) := by
  cases r <;> simp [ofRes, Res.withPath]

section altroot
variable {w : World} {i : Nat} {m : FMap} (h : MemLeafAt w i m) (idr ida : Nat) (r k' kk : Str)
  (hq : Altroot.path { fs := leafFS i, fsId := idr, path := r } k' =
    .ok { fs := leafFS i, fsId := idr, path := kk })
  (hqp : Altroot.path { fs := leafFS i, fsId := idr, path := r } (parentInternal k') =
    .ok { fs := leafFS i, fsId := idr, path := parentInternal kk })
include h hq

include hqp in
/-- **one step through the altroot** computes the same pure step at the translated path -/
theorem altroot_run_memStep (op : TOp) :
    runOp { fs := Altroot.fs { fs := leafFS i, fsId := idr, path := r }, fsId := ida, path := k' }
        op w =
      ((memStep m kk op).1, w.setLeafFiles i (memStep m kk op).2) := by
  cases op with
  | setCreated t =>
    simp only [runOp, memStep, VPath.setCreationTime, M.withPath, Altroot.fs, bind, M.bind, M.ret,
      hq, run_setCreationTime h, ofRes_relabel]
  | setModified t =>
    simp only [runOp, memStep, VPath.setModificationTime, M.withPath, Altroot.fs, bind, M.bind,
      M.ret, hq, run_setModificationTime h, ofRes_relabel]
  | setAccessed t =>
    simp only [runOp, memStep, VPath.setAccessTime, M.withPath, Altroot.fs, bind, M.bind, M.ret,
      hq, run_setAccessTime h, ofRes_relabel]
  | metadata =>
    simp only [runOp, memStep, VPath.metadata, M.withPath, Altroot.fs, bind, M.bind, M.ret,
      hq, run_metadata h, ofRes_relabel, h.same]
  | removeFile =>
    simp only [runOp, memStep, VPath.removeFile, M.withPath, Altroot.fs, bind, M.bind, M.ret,
      hq, run_removeFile h, ofRes_relabel, Mem.pRemoveFile]
  | removeDir =>
    simp only [runOp, memStep, VPath.removeDir, M.withPath, Altroot.fs, bind, M.bind, M.ret,
      hq, run_removeDir h, ofRes_relabel, Mem.pRemoveDir]
  | read =>
    simp only [runOp, memStep, VPath.openFile, M.withPath, Altroot.fs, bind, M.bind, M.ret,
      hq, run_openFile h]
    cases (Mem.openFile m kk).1 with
    | ok hd =>
      simp only [Res.withPath]
      unfold RHandle.readToEnd
      split <;> simp [ofRes, fail]
    | err kind pth => simp [Res.withPath, ofRes]
    | panic => simp [Res.withPath, ofRes]
  | append b =>
    simp only [runOp, memStep, VPath.appendFile, M.withPath, Altroot.fs, bind, M.bind, M.ret,
      hq, run_appendFile h, Mem.pAppend]
    cases hc : Mem.appendFile m kk with
    | ok old => simp [Res.map, Res.withPath, run_writeAllAndDrop h, ofRes]
    | err kind pth => simp [Res.map, Res.withPath, ofRes, h.same]
    | panic => simp [Res.map, Res.withPath, ofRes, h.same]
  | createDir =>
    simp only [runOp, memStep, VPath.createDir, bind, M.bind,
      run_getParent_altroot h idr ida r k' kk hqp, Mem.pCreateDir]
    by_cases hp : Mem.parentOk m kk = true
    · simp only [hp, ↓reduceIte, M.withPath, Altroot.fs, bind, M.bind, M.ret, hq, VPath.createDir,
        run_getParent h, run_createDir h, ofRes_relabel]
    · simp [hp, ofRes, h.same]
  | write b =>
    simp only [runOp, memStep, VPath.createFile, bind, M.bind,
      run_getParent_altroot h idr ida r k' kk hqp, Mem.pWrite]
    by_cases hp : Mem.parentOk m kk = true
    · simp only [hp, ↓reduceIte, M.withPath, Altroot.fs, bind, M.bind, M.ret, hq, VPath.createFile,
        run_getParent h, run_createFile h]
      cases hc : Mem.createFile m kk with
      | mk res m' =>
        cases res with
        | ok u =>
          simp [Res.map, Res.withPath, run_writeAllAndDrop (h.set m'),
            Vfs.World.setLeafFiles_twice, ofRes]
        | err kind pth => simp [Res.map, Res.withPath, ofRes]
        | panic => simp [Res.map, Res.withPath, ofRes]
    · simp [hp, ofRes, h.same]

end altroot

/-- **C19 through AltrootFS, whole histories.** An altroot whose root is the path `r` of the memory
leaf `i`, asked about the path `k'` which it translates to `kk` (and whose parent it translates to
the parent of `kk` — `altroot_paths_canon` discharges both for canonical strings): every history
gives the outcomes of the specification run on the record of the SERVED entry `kk`, the final
world is the one the same history produces directly at `kk`, and only the key `kk` of the leaf
changes. -/
theorem altroot_history_exact {w : World} {i : Nat} {m : FMap} (h : MemLeafAt w i m)
    (idr ida : Nat) (r k' kk : Str)
    (hq : Altroot.path { fs := leafFS i, fsId := idr, path := r } k' =
      .ok { fs := leafFS i, fsId := idr, path := kk })
    (hqp : Altroot.path { fs := leafFS i, fsId := idr, path := r } (parentInternal k') =
      .ok { fs := leafFS i, fsId := idr, path := parentInternal kk })
    (hp : ParentDir m kk) (ops : List TOp) :
    runHist { fs := Altroot.fs { fs := leafFS i, fsId := idr, path := r }, fsId := ida, path := k' }
        ops w =
      runHist { fs := leafFS i, fsId := idr, path := kk } ops w ∧
    ∃ m', (runHist { fs := Altroot.fs { fs := leafFS i, fsId := idr, path := r }, fsId := ida,
                      path := k' } ops w).2 = w.setLeafFiles i m' ∧
      (runHist { fs := Altroot.fs { fs := leafFS i, fsId := idr, path := r }, fsId := ida,
                 path := k' } ops w).1 = (specHist (busyAt m kk) .now (absAt m kk) ops).1 ∧
      absAt m' kk = (specHist (busyAt m kk) .now (absAt m kk) ops).2 ∧
      (∀ k1, k1 ≠ kk → m'.find? k1 = m.find? k1) := by
  obtain ⟨m', e1, _, e3, e4, e5, e6⟩ :=
    history_exact_of (busy := busyAt m kk) (ok := fun _ => true) (J := fun _ _ => True)
      (fun op h1 _ _ => ⟨altroot_run_memStep h1 idr ida r k' kk hq hqp op, trivial⟩)
      idr h trivial ops (fun _ _ => rfl) (fun _ _ _ => ⟨hp, rfl⟩)
  exact ⟨e6, m', e1, e3, e4, e5.1⟩

/-- the two path hypotheses of `altroot_history_exact` hold for canonical strings: root
`/p1/…/pn`, path `/q1/…/qm` with `m ≥ 1`, served entry `/p1/…/pn/q1/…/qm` -/
theorem altroot_paths_canon (i idr : Nat) (ps qs : List Str) (hps : ∀ c ∈ ps, GoodComp c)
    (hqs : ∀ c ∈ qs, GoodComp c) (hne : qs ≠ []) :
    Altroot.path { fs := leafFS i, fsId := idr, path := renderC ps } (renderC qs) =
      .ok { fs := leafFS i, fsId := idr, path := renderC (ps ++ qs) } ∧
    Altroot.path { fs := leafFS i, fsId := idr, path := renderC ps } (parentInternal (renderC qs)) =
      .ok { fs := leafFS i, fsId := idr, path := parentInternal (renderC (ps ++ qs)) } := by
  refine ⟨Altroot.path_renderC _ ps qs rfl hps hqs, ?_⟩
  have hq' : ∀ c ∈ qs.dropLast, GoodComp c := fun c hc => hqs c (List.dropLast_subset _ hc)
  rw [parentInternal_renderC qs (good_noSlash hqs),
    parentInternal_renderC (ps ++ qs) (good_noSlash (good_append hps hqs)),
    List.dropLast_append_of_ne_nil hne]
  exact Altroot.path_renderC _ ps qs.dropLast rfl hps hq'

/-! ## 6. Through OverlayFS with any number of layers (entry served by the TOP layer) -/

/-- the TOP layer serves `k`: it holds an entry there and no whiteout marker hides it -/
def TopServes (mu : FMap) (k : Str) : Prop :=
  mu.contains (marker k) = false ∧ ∃ e, mu.find? k = some e

theorem marker_ne_self (k : Str) : marker k ≠ k := marker_ne k

/-- every operation except the two removals -/
def TOp.keepsEntry : TOp → Bool
  | .removeFile | .removeDir => false
  | _ => true

theorem keepsEntry_of_inFrag {op : TOp} (h : op.inFrag = true) : op.keepsEntry = true := by
  cases op <;> first | rfl | cases h

/-- a row never takes out an entry it is asked to keep -/
theorem stepS_keeps (par kids : Bool) (tgt : Option Entry) (op : TOp) (hop : op.keepsEntry = true) :
    (stepS par kids tgt op).2 ≠ .del := by
  cases op <;> first | cases hop | skip
  all_goals
    cases par <;> rcases tgt with _ | ⟨⟨_ | _, c, cr, mo, ac⟩⟩ <;>
      simp [stepS, Mem.setS, Mem.writeS, Mem.createFileS, Mem.appendS, Mem.publishS, Mem.createDirS,
        Mem.openFileS, fail]

theorem slotStep_keeps (m : FMap) (k : Str) (op : TOp) (hop : op.keepsEntry = true) :
    (slotStep m k op).2 ≠ .del :=
  stepS_keeps _ _ _ op hop

/-- an operation other than the removals leaves an entry at `k`, and never touches the marker -/
theorem TopServes.step_of_keepsEntry {mu : FMap} {k : Str} (hs : TopServes mu k) (op : TOp)
    (hop : op.keepsEntry = true) : TopServes (memStep mu k op).2 k := by
  obtain ⟨hm, e, he⟩ := hs
  rw [memStep_tab]
  refine ⟨by rw [Write.contains_app, if_neg (marker_ne k)]; exact hm, ?_⟩
  rw [Write.find?_app_self, he]
  cases hw : (slotStep mu k op).2 with
  | keep => exact ⟨e, rfl⟩
  | put e' => exact ⟨e', rfl⟩
  | del => exact absurd hw (slotStep_keeps mu k op hop)

set_option linter.unusedVariables false in
theorem TopServes.step2 {mu : FMap} {k : Str} (hs : TopServes mu k) (hp : ParentDir mu k)
    (op : TOp) (hop : op.keepsEntry = true) : TopServes (memStep mu k op).2 k :=
  hs.step_of_keepsEntry op hop

/-- the three setters -/
def TOp.isSetter : TOp → Bool
  | .setCreated _ | .setModified _ | .setAccessed _ => true
  | _ => false

section overlay
variable {w : World} {u idu : Nat} {mu : FMap} {is ids : List Nat} {ms : List FMap}
  (h : OWN w (u :: is) (idu :: ids) (mu :: ms)) (ido : Nat)
include h

/-- `read_path` when the top layer serves the path -/
theorem run_readPathN_top (cs : List Str) (hne : cs ≠ []) (hcs : ∀ c ∈ cs, GoodComp c)
    (hm : mu.contains (marker (renderC cs)) = false) (hc : mu.contains (renderC cs) = true) :
    Overlay.readPath (layersN (u :: is) (idu :: ids)) (renderC cs) w =
      (.ok { fs := leafFS u, fsId := idu, path := renderC cs }, w) := by
  rw [run_readPathN h cs hne hcs]
  simp [firstPath, hm, hc]

/-- a setter through the overlay addresses `write_path`, i.e. the top layer at the same key,
whatever the layers hold there -/
theorem overlay_run_setterN (cs : List Str) (hne : cs ≠ []) (hcs : ∀ c ∈ cs, GoodComp c) (op : TOp)
    (hop : op.isSetter = true) :
    runOp { fs := Overlay.fs (layersN (u :: is) (idu :: ids)), fsId := ido, path := renderC cs }
        op w =
      ((memStep mu (renderC cs) op).1, w.setLeafFiles u (memStep mu (renderC cs) op).2) := by
  have hwp := writePath_layersN (u := u) (idu := idu) (is := is) (ids := ids) cs hne hcs
  cases op with
  | setCreated t =>
    simp only [runOp, memStep, VPath.setCreationTime, M.withPath, Overlay.fs, bind, M.bind, M.ret,
      hwp, run_setCreationTime h.hu, ofRes_relabel]
  | setModified t =>
    simp only [runOp, memStep, VPath.setModificationTime, M.withPath, Overlay.fs, bind, M.bind,
      M.ret, hwp, run_setModificationTime h.hu, ofRes_relabel]
  | setAccessed t =>
    simp only [runOp, memStep, VPath.setAccessTime, M.withPath, Overlay.fs, bind, M.bind, M.ret,
      hwp, run_setAccessTime h.hu, ofRes_relabel]
  | _ => cases hop

/-- … so it is refused with not-found, and nothing changes, when the top layer holds nothing at
the key — even if a lower layer serves the path -/
theorem overlay_run_setter_noneN (cs : List Str) (hne : cs ≠ []) (hcs : ∀ c ∈ cs, GoodComp c)
    (hk0 : mu.find? (renderC cs) = none) (op : TOp) (hop : op.isSetter = true) :
    runOp { fs := Overlay.fs (layersN (u :: is) (idu :: ids)), fsId := ido, path := renderC cs }
        op w = (.refused .fileNotFound, w) := by
  rw [overlay_run_setterN h ido cs hne hcs op hop]
  cases op with
  | setCreated t | setModified t | setAccessed t =>
    simp [memStep, Mem.setCreated, Mem.setModified, Mem.setAccessed, hk0, fail, Res.withPath, ofRes,
      h.hu.same]
  | _ => cases hop

/-- one step through the n-layer overlay, setters / metadata / read / append, top layer serves -/
theorem overlay_run_memStepN (cs : List Str) (hne : cs ≠ []) (hcs : ∀ c ∈ cs, GoodComp c)
    (hs : TopServes mu (renderC cs)) (op : TOp) (hop : op.inFrag = true) :
    runOp { fs := Overlay.fs (layersN (u :: is) (idu :: ids)), fsId := ido, path := renderC cs }
        op w =
      ((memStep mu (renderC cs) op).1, w.setLeafFiles u (memStep mu (renderC cs) op).2) := by
  obtain ⟨hm, e, he⟩ := hs
  have hc : mu.contains (renderC cs) = true := contains_of_find he
  have hrp := run_readPathN_top h cs hne hcs hm hc
  have hwp := writePath_layersN (u := u) (idu := idu) (is := is) (ids := ids) cs hne hcs
  cases op with
  | setCreated t | setModified t | setAccessed t => exact overlay_run_setterN h ido cs hne hcs _ rfl
  | metadata =>
    simp only [runOp, memStep, VPath.metadata, M.withPath, Overlay.fs, bind, M.bind, hrp,
      run_metadata h.hu, ofRes_relabel, h.hu.same]
  | read =>
    simp only [runOp, memStep, VPath.openFile, M.withPath, Overlay.fs, bind, M.bind, M.ret,
      hrp, run_openFile h.hu]
    cases (Mem.openFile mu (renderC cs)).1 with
    | ok hd =>
      simp only [Res.withPath]
    | err kind pth => simp [Res.withPath, ofRes]
    | panic => simp [Res.withPath, ofRes]
  | append b =>
    simp only [runOp, memStep, VPath.appendFile, M.withPath, Overlay.fs, Overlay.appendFile,
      Overlay.copyUp, bind, M.bind, M.ret, hwp, run_vexists h.hu, hc, Bool.not_true,
      Bool.false_eq_true, if_false, Pure.pure, M.pure, run_appendFile h.hu, Mem.pAppend]
    cases hca : Mem.appendFile mu (renderC cs) with
    | ok old => simp [Res.map, Res.withPath, run_writeAllAndDrop h.hu, ofRes]
    | err kind pth => simp [Res.map, Res.withPath, ofRes, h.hu.same]
    | panic => simp [Res.map, Res.withPath, ofRes, h.hu.same]
  | _ => cases hop

end overlay

/-- **C19 through OverlayFS, histories of the fragment, any number of layers.** The TOP layer
serves `k = /c1/…/cn` (entry present there, no whiteout): every history of setters, `metadata`,
reads and append sessions gives, step by step, the outcomes of the specification run on the record
of the TOP layer's entry; it is literally the run of the same history on the top layer at `k`; only
the key `k` of the top layer changes, the lower layers are untouched. (`busy` is irrelevant for
these operations: any value gives the same answers.) -/
theorem overlay_history_exact_fragN {w : World} {u idu : Nat} {mu : FMap} {is ids : List Nat}
    {ms : List FMap} (h : OWN w (u :: is) (idu :: ids) (mu :: ms)) (ido : Nat) (cs : List Str)
    (hne : cs ≠ []) (hcs : ∀ c ∈ cs, GoodComp c) (hs : TopServes mu (renderC cs)) (busy : Bool)
    (ops : List TOp) (hops : ∀ op ∈ ops, op.inFrag = true) :
    ∃ mu', (runHist { fs := Overlay.fs (layersN (u :: is) (idu :: ids)), fsId := ido,
                      path := renderC cs } ops w).2 = w.setLeafFiles u mu' ∧
      OWN (w.setLeafFiles u mu') (u :: is) (idu :: ids) (mu' :: ms) ∧
      (runHist { fs := Overlay.fs (layersN (u :: is) (idu :: ids)), fsId := ido,
                 path := renderC cs } ops w).1 = (specHist busy .now (absAt mu (renderC cs)) ops).1 ∧
      absAt mu' (renderC cs) = (specHist busy .now (absAt mu (renderC cs)) ops).2 ∧
      (∀ k', k' ≠ renderC cs → mu'.find? k' = mu.find? k') ∧ TopServes mu' (renderC cs) ∧
      (runHist { fs := Overlay.fs (layersN (u :: is) (idu :: ids)), fsId := ido,
                 path := renderC cs } ops w) =
        runHist { fs := leafFS u, fsId := idu, path := renderC cs } ops w := by
  obtain ⟨mu', e1, ⟨e2, e6⟩, e3, e4, e5, e7⟩ :=
    history_exact_of (busy := busy) (ok := TOp.inFrag)
      (J := fun w mu => OWN w (u :: is) (idu :: ids) (mu :: ms) ∧ TopServes mu (renderC cs))
      (fun op _ ⟨h, hs⟩ hop => ⟨overlay_run_memStepN h ido cs hne hcs hs op hop,
        h.setHead _, hs.step_of_keepsEntry op (keepsEntry_of_inFrag hop)⟩)
      idu h.hu ⟨h, hs⟩ ops hops (fun op ho hf => by rw [hops op ho] at hf; cases hf)
  exact ⟨mu', e1, e2, e3, e4, e5.1, e6, e7⟩

/-- the two-layer instance -/
theorem overlay_history_exact_frag {w : World} {u l idu idl : Nat} {mu ml : FMap}
    (h : OW w u l mu ml) (ido : Nat) (cs : List Str) (hne : cs ≠ []) (hcs : ∀ c ∈ cs, GoodComp c)
    (hs : TopServes mu (renderC cs)) (busy : Bool)
    (ops : List TOp) (hops : ∀ op ∈ ops, op.inFrag = true) :
    ∃ mu', (runHist { fs := Overlay.fs (layers2 u l idu idl), fsId := ido, path := renderC cs }
              ops w).2 = w.setLeafFiles u mu' ∧
      OW (w.setLeafFiles u mu') u l mu' ml ∧
      (runHist { fs := Overlay.fs (layers2 u l idu idl), fsId := ido, path := renderC cs }
          ops w).1 = (specHist busy .now (absAt mu (renderC cs)) ops).1 ∧
      absAt mu' (renderC cs) = (specHist busy .now (absAt mu (renderC cs)) ops).2 ∧
      (∀ k', k' ≠ renderC cs → mu'.find? k' = mu.find? k') ∧ TopServes mu' (renderC cs) ∧
      (runHist { fs := Overlay.fs (layers2 u l idu idl), fsId := ido, path := renderC cs }
          ops w) = runHist { fs := leafFS u, fsId := idu, path := renderC cs } ops w := by
  obtain ⟨mu', e1, e2, e3⟩ :=
    overlay_history_exact_fragN (h.toN idu idl) ido cs hne hcs hs busy ops hops
  exact ⟨mu', e1, e2.toOW, e3⟩

/-! ### the overlay, all operations that keep the entry in the top layer -/

/-- the proper ancestors `/d1`, `/d1/d2`, … of the path are directories of the TOP layer, not
hidden by markers; the root of the top layer is in order -/
structure AncTop (mu : FMap) (ds : List Str) : Prop where
  root : RootOk mu
  anc : ∀ j, 1 ≤ j → j ≤ ds.length →
    mu.contains (marker (renderC (ds.take j))) = false ∧
    ∃ e, mu.find? (renderC (ds.take j)) = some e ∧ e.ftype = .dir

/-- `k` is none of the keys `AncTop` speaks about -/
def Apart (k : Str) (ds : List Str) : Prop :=
  k ≠ [] ∧ k ≠ rootMarker ∧
  ∀ j, 1 ≤ j → j ≤ ds.length → k ≠ marker (renderC (ds.take j)) ∧ k ≠ renderC (ds.take j)

theorem AncTop.upd {mu mu' : FMap} {ds : List Str} {k : Str} (ha : AncTop mu ds)
    (hu : Upd mu k mu') (hk : Apart k ds) : AncTop mu' ds := by
  obtain ⟨h1, h2, h3⟩ := hk
  refine ⟨⟨?_, ?_⟩, ?_⟩
  · obtain ⟨e, he, hd⟩ := ha.root.root
    exact ⟨e, by rw [hu.1 [] (Ne.symm h1)]; exact he, hd⟩
  · rw [contains_upd hu (Ne.symm h2)]; exact ha.root.noMark
  · intro j hj1 hj2
    obtain ⟨hm, e, he, hd⟩ := ha.anc j hj1 hj2
    obtain ⟨n1, n2⟩ := h3 j hj1 hj2
    exact ⟨by rw [contains_upd hu (Ne.symm n1)]; exact hm, e,
      by rw [hu.1 _ (Ne.symm n2)]; exact he, hd⟩

theorem AncTop.ancDirsN {mu : FMap} {ds : List Str} (ha : AncTop mu ds) (ms : List FMap) :
    AncDirsN (mu :: ms) ds := by
  intro j hj1 hj2
  obtain ⟨hm, e, he, hd⟩ := ha.anc j hj1 hj2
  exact ⟨e, viewN_upper hm he, hd⟩

theorem fillDirs_id (m : FMap) (ks : List Str) (h : ∀ q ∈ ks, m.contains q = true) :
    fillDirs m ks = m :=
  fillDirs_of_contains m ks h

/-- `ensure_has_parent` of the overlay changes nothing when the ancestors are in the top layer -/
theorem AncTop.fillDirs {mu : FMap} {ds : List Str} (ha : AncTop mu ds) :
    fillDirs mu (chain [] ds) = mu := by
  refine fillDirs_id _ _ fun q hq => ?_
  obtain ⟨j, h1, h2, rfl⟩ := (mem_chain [] ds q).1 hq
  obtain ⟨_, e, he, _⟩ := ha.anc j h1 h2
  simpa using contains_of_find he

theorem AncTop.pEnsureN {mu : FMap} {ds : List Str} (ha : AncTop mu ds) (ms : List FMap)
    (hds : ∀ c ∈ ds, GoodComp c) : pEnsureN (mu :: ms) ds = (.ok (), mu) := by
  rw [pEnsureN_ok ha.root hds (ha.ancDirsN ms), ha.fillDirs]

/-- the two-layer instance -/
theorem AncTop.pEnsure {mu : FMap} {ds : List Str} (ha : AncTop mu ds) (ml : FMap)
    (hds : ∀ c ∈ ds, GoodComp c) : pEnsure mu ml ds = (.ok (), mu) :=
  pEnsureN_two mu ml ds ▸ ha.pEnsureN [ml] hds

theorem parent_snoc' (ds : List Str) (n : Str) (hds : ∀ c ∈ ds, GoodComp c) (hn : GoodComp n) :
    parentInternal (renderC (ds ++ [n])) = renderC ds :=
  parent_snoc ds n hds hn

theorem AncTop.parentDir {mu : FMap} {ds : List Str} (ha : AncTop mu ds) (n : Str)
    (hds : ∀ c ∈ ds, GoodComp c) (hn : GoodComp n) : ParentDir mu (renderC (ds ++ [n])) := by
  refine ⟨slash_mem_renderC (by simp), ?_⟩
  rw [parent_snoc' ds n hds hn]
  by_cases hne : ds = []
  · subst hne; exact ha.root.root
  · have hl : 1 ≤ ds.length := by
      cases ds with
      | nil => exact absurd rfl hne
      | cons d ds => simp
    obtain ⟨_, e, he, hd⟩ := ha.anc ds.length hl (Nat.le_refl _)
    rw [List.take_length] at he
    exact ⟨e, he, hd⟩

/-- a path whose first component is not ".whiteout" is apart from the bookkeeping keys and from
its own proper ancestors -/
theorem apart_of_head (ds : List Str) (n : Str) (hds : ∀ c ∈ ds, GoodComp c) (hn : GoodComp n)
    (hh : (ds ++ [n]).head? ≠ some Overlay.woDir) : Apart (renderC (ds ++ [n])) ds := by
  have hns := good_noSlash (good_snoc hds hn)
  refine ⟨renderC_ne_nil (by simp), ?_, ?_⟩
  · intro he
    have : rootMarker = marker ['/'] := by decide
    rw [this] at he
    exact hh (renderC_eq_marker_head _ _ hns he rfl)
  · intro j hj1 hj2
    constructor
    · intro he
      refine hh (renderC_eq_marker_head _ _ hns he ?_)
      cases ds with
      | nil => simp at hj2; omega
      | cons d ds =>
        cases j with
        | zero => omega
        | succ j => simp
    · intro he
      have hl := congrArg List.length he
      have h1 : (renderC ds).length =
          (renderC (ds.take j)).length + (renderC (ds.drop j)).length := by
        rw [← List.length_append, ← renderC_append, List.take_append_drop]
      simp only [renderC_append, List.length_append, renderC_cons, renderC_nil,
        List.length_cons, List.length_nil] at hl
      omega

section overlay2
variable {w : World} {u idu : Nat} {mu : FMap} {is ids : List Nat} {ms : List FMap}
  (h : OWN w (u :: is) (idu :: ids) (mu :: ms)) (ido : Nat)
include h

/-- the parent probe of the `VfsPath` layer through the n-layer overlay: the ancestors only have to
be directories of the VIEW (they may live in any layer) -/
theorem overlay_getParentN (ds : List Str) (n : Str) (hds : ∀ c ∈ ds, GoodComp c)
    (hn : GoodComp n) (hroot : RootOk mu) (hanc : AncDirsN (mu :: ms) ds) :
    VPath.getParent { fs := Overlay.fs (layersN (u :: is) (idu :: ids)), fsId := ido,
                      path := renderC (ds ++ [n]) } w = (.ok (), w) := by
  rw [run_getParent_overlayN h ido ds n hds hn hroot, pIsDirN_of_anc hroot hanc]
  rfl

variable (ds : List Str) (n : Str) (hds : ∀ c ∈ ds, GoodComp c) (hn : GoodComp n)
include hds hn

/-- one step through the n-layer overlay, every operation but the removals, top layer serves -/
theorem overlay_run_memStep2N (hs : TopServes mu (renderC (ds ++ [n]))) (ha : AncTop mu ds)
    (op : TOp) (hop : op.keepsEntry = true) :
    runOp { fs := Overlay.fs (layersN (u :: is) (idu :: ids)), fsId := ido,
            path := renderC (ds ++ [n]) } op w =
      ((memStep mu (renderC (ds ++ [n])) op).1,
        w.setLeafFiles u (memStep mu (renderC (ds ++ [n])) op).2) := by
  have hne : ds ++ [n] ≠ [] := by simp
  have hcs := good_snoc hds hn
  have hpd := ha.parentDir n hds hn
  have hpo := hpd.parentOk
  have hen := hpd.ensure
  have hgp := overlay_getParentN h ido ds n hds hn ha.root (ha.ancDirsN ms)
  obtain ⟨hm, e, he⟩ := hs
  have hv : viewN (mu :: ms) (renderC (ds ++ [n])) = some e := viewN_upper hm he
  have hE : pEnsureN (mu :: ms) (ds ++ [n]).dropLast = (.ok (), mu) := by
    rw [List.dropLast_concat]; exact ha.pEnsureN ms hds
  cases op with
  | write b =>
    simp only [runOp, memStep, VPath.createFile, bind, M.bind, hgp]
    simp only [M.withPath, Overlay.fs, run_ocreateFileN h _ hne hcs]
    have hpc : pCreateFileN mu ms (ds ++ [n]) =
        if e.ftype = .dir then (.err .other none, mu)
        else (.ok (), mu.insert (renderC (ds ++ [n])) fileEntryNow) := by
      split
      · rename_i hd; exact pCreateFileN_refused hE hv hd
      · rename_i hd
        have := pCreateFileN_unmarked (ms := ms) hds hn ha.root (ha.ancDirsN ms)
          (by rw [ha.fillDirs]; simp only [pRefuseN, hv, if_neg hd])
          (fun e' he' => by rw [he] at he'; cases he'; cases hft : e.ftype <;> simp_all)
          (by rw [ha.fillDirs]; exact hm)
        rwa [ha.fillDirs] at this
    have h' := run_writeAllAndDrop (h.hu.set (mu.insert (renderC (ds ++ [n])) fileEntryNow))
      (renderC (ds ++ [n])) [] 0 b
    generalize renderC (ds ++ [n]) = k at *
    obtain ⟨ft, c, cr, mo, ac⟩ := e
    cases ft
    · simp only [if_false, reduceCtorEq] at hpc
      simp [hpc, Res.map, Res.withPath, h', Vfs.World.setLeafFiles_twice, ofRes, Mem.pWrite, hpo,
        Mem.createFile, hen, he]
    · simp only [if_true] at hpc
      simp [hpc, Res.map, Res.withPath, ofRes, Mem.pWrite, hpo, Mem.createFile, hen, he, fail]
  | createDir =>
    simp only [runOp, memStep, VPath.createDir, bind, M.bind, hgp]
    simp only [M.withPath, Overlay.fs, run_ocreateDirN h _ hne hcs]
    have hpc := pCreateDirN_occupied hE hv
    generalize renderC (ds ++ [n]) = k at *
    obtain ⟨ft, c, cr, mo, ac⟩ := e
    cases ft <;>
      simp [hpc, Res.withPath, ofRes, Mem.pCreateDir, hpo, Mem.createDir, hen, he, fail]
  | removeFile => cases hop
  | removeDir => cases hop
  | _ => exact overlay_run_memStepN h ido _ hne hcs ⟨hm, e, he⟩ _ rfl

end overlay2

section twoLayers
variable {w : World} {u l idu idl : Nat} {mu ml : FMap} (h : OW w u l mu ml) (ido : Nat)
  (ds : List Str) (n : Str) (hds : ∀ c ∈ ds, GoodComp c) (hn : GoodComp n)
include h hds hn

/-- the two-layer instance of `overlay_getParentN`, ancestors in the top layer -/
theorem overlay_getParent (ha : AncTop mu ds) :
    VPath.getParent { fs := Overlay.fs (layers2 u l idu idl), fsId := ido,
                      path := renderC (ds ++ [n]) } w = (.ok (), w) :=
  overlay_getParentN (h.toN idu idl) ido ds n hds hn ha.root (ha.ancDirsN [ml])

/-- the two-layer instance of `overlay_run_memStep2N` -/
theorem overlay_run_memStep2 (hs : TopServes mu (renderC (ds ++ [n]))) (ha : AncTop mu ds)
    (op : TOp) (hop : op.keepsEntry = true) :
    runOp { fs := Overlay.fs (layers2 u l idu idl), fsId := ido, path := renderC (ds ++ [n]) }
        op w =
      ((memStep mu (renderC (ds ++ [n])) op).1,
        w.setLeafFiles u (memStep mu (renderC (ds ++ [n])) op).2) :=
  overlay_run_memStep2N (h.toN idu idl) ido ds n hds hn hs ha op hop

end twoLayers

/-- **C19 through OverlayFS, histories without removals, any number of layers.** The TOP layer
serves `k = /d1/…/dm/n` (entry there, no whiteout) and holds the ancestors of `k` as directories;
the first component of `k` is not the bookkeeping name ".whiteout". Every history of setters,
`metadata`, reads, append sessions, create sessions and `create_dir` calls gives, step by step, the
outcomes of the specification run on the record of the TOP layer's entry; it is literally the run
of the same history on the top layer at `k`; only the key `k` of the top layer changes, the lower
layers are untouched. -/
theorem overlay_history_exact_noremoveN {w : World} {u idu : Nat} {mu : FMap} {is ids : List Nat}
    {ms : List FMap} (h : OWN w (u :: is) (idu :: ids) (mu :: ms)) (ido : Nat) (ds : List Str)
    (n : Str) (hds : ∀ c ∈ ds, GoodComp c) (hn : GoodComp n)
    (hh : (ds ++ [n]).head? ≠ some Overlay.woDir)
    (hs : TopServes mu (renderC (ds ++ [n]))) (ha : AncTop mu ds)
    (ops : List TOp) (hops : ∀ op ∈ ops, op.keepsEntry = true) :
    ∃ mu', (runHist { fs := Overlay.fs (layersN (u :: is) (idu :: ids)), fsId := ido,
                      path := renderC (ds ++ [n]) } ops w).2 = w.setLeafFiles u mu' ∧
      OWN (w.setLeafFiles u mu') (u :: is) (idu :: ids) (mu' :: ms) ∧
      (runHist { fs := Overlay.fs (layersN (u :: is) (idu :: ids)), fsId := ido,
                 path := renderC (ds ++ [n]) } ops w).1 =
        (specHist (busyAt mu (renderC (ds ++ [n]))) .now (absAt mu (renderC (ds ++ [n]))) ops).1 ∧
      absAt mu' (renderC (ds ++ [n])) =
        (specHist (busyAt mu (renderC (ds ++ [n]))) .now (absAt mu (renderC (ds ++ [n]))) ops).2 ∧
      (∀ k', k' ≠ renderC (ds ++ [n]) → mu'.find? k' = mu.find? k') ∧
      TopServes mu' (renderC (ds ++ [n])) ∧ AncTop mu' ds ∧
      (runHist { fs := Overlay.fs (layersN (u :: is) (idu :: ids)), fsId := ido,
                 path := renderC (ds ++ [n]) } ops w) =
        runHist { fs := leafFS u, fsId := idu, path := renderC (ds ++ [n]) } ops w := by
  have hap := apart_of_head ds n hds hn hh
  obtain ⟨mu', e1, ⟨e2, e6, e7⟩, e3, e4, e5, e8⟩ :=
    history_exact_of (busy := busyAt mu (renderC (ds ++ [n]))) (ok := TOp.keepsEntry)
      (J := fun w m1 => OWN w (u :: is) (idu :: ids) (m1 :: ms) ∧ TopServes m1 (renderC (ds ++ [n])) ∧
        AncTop m1 ds)
      (fun op _ ⟨h, hs, ha⟩ hop =>
        ⟨overlay_run_memStep2N h ido ds n hds hn hs ha op hop, h.setHead _,
          hs.step2 (ha.parentDir n hds hn) op hop, ha.upd (memStep_upd _ _ op) hap⟩)
      idu h.hu ⟨h, hs, ha⟩ ops hops (fun _ _ _ => ⟨ha.parentDir n hds hn, rfl⟩)
  exact ⟨mu', e1, e2, e3, e4, e5.1, e6, e7, e8⟩

/-- the two-layer instance -/
theorem overlay_history_exact_noremove {w : World} {u l idu idl : Nat} {mu ml : FMap}
    (h : OW w u l mu ml) (ido : Nat) (ds : List Str) (n : Str) (hds : ∀ c ∈ ds, GoodComp c)
    (hn : GoodComp n) (hh : (ds ++ [n]).head? ≠ some Overlay.woDir)
    (hs : TopServes mu (renderC (ds ++ [n]))) (ha : AncTop mu ds)
    (ops : List TOp) (hops : ∀ op ∈ ops, op.keepsEntry = true) :
    ∃ mu', (runHist { fs := Overlay.fs (layers2 u l idu idl), fsId := ido,
                      path := renderC (ds ++ [n]) } ops w).2 = w.setLeafFiles u mu' ∧
      OW (w.setLeafFiles u mu') u l mu' ml ∧
      (runHist { fs := Overlay.fs (layers2 u l idu idl), fsId := ido,
                 path := renderC (ds ++ [n]) } ops w).1 =
        (specHist (busyAt mu (renderC (ds ++ [n]))) .now (absAt mu (renderC (ds ++ [n]))) ops).1 ∧
      absAt mu' (renderC (ds ++ [n])) =
        (specHist (busyAt mu (renderC (ds ++ [n]))) .now (absAt mu (renderC (ds ++ [n]))) ops).2 ∧
      (∀ k', k' ≠ renderC (ds ++ [n]) → mu'.find? k' = mu.find? k') ∧
      TopServes mu' (renderC (ds ++ [n])) ∧ AncTop mu' ds ∧
      (runHist { fs := Overlay.fs (layers2 u l idu idl), fsId := ido,
                 path := renderC (ds ++ [n]) } ops w) =
        runHist { fs := leafFS u, fsId := idu, path := renderC (ds ++ [n]) } ops w := by
  obtain ⟨mu', e1, e2, e3⟩ :=
    overlay_history_exact_noremoveN (h.toN idu idl) ido ds n hds hn hh hs ha ops hops
  exact ⟨mu', e1, e2.toOW, e3⟩

/-! ### the overlay serving an entry of the LOWER layer (single steps) -/

/-- **The overlay reports the timestamps of the entry it serves**, also when that entry lives in
the LOWER layer (nothing at `k` in the top layer, no whiteout): `metadata` reports the lower
entry's type, length and three timestamps and changes nothing; a read returns its bytes and stamps
ITS `accessed` (in the lower layer); the three setters address `write_path`, i.e. the top layer,
and are refused with not-found, changing nothing. -/
theorem overlay_lower_served {w : World} {u l idu idl : Nat} {mu ml : FMap} (h : OW w u l mu ml)
    (ido : Nat) (cs : List Str) (hne : cs ≠ []) (hcs : ∀ c ∈ cs, GoodComp c)
    (hm : mu.contains (marker (renderC cs)) = false) (hu : mu.find? (renderC cs) = none)
    (e : Entry) (hl : ml.find? (renderC cs) = some e) (t : Int) :
    let p : VPath := { fs := Overlay.fs (layers2 u l idu idl), fsId := ido, path := renderC cs }
    runOp p .metadata w = (.info e.meta, w) ∧
    runOp p .read w =
      (if e.ftype = .file then .data e.content else .refused .other,
        w.setLeafFiles l (ml.insert (renderC cs) { e with accessed := .now })) ∧
    runOp p (.setCreated t) w = (.refused .fileNotFound, w) ∧
    runOp p (.setModified t) w = (.refused .fileNotFound, w) ∧
    runOp p (.setAccessed t) w = (.refused .fileNotFound, w) := by
  intro p
  have hrp := run_readPathN (h.toN idu idl) cs hne hcs
  simp only [hm, firstPath, contains_of_none hu, contains_of_find hl, Bool.false_eq_true, if_false,
    if_true, layersN_two] at hrp
  refine ⟨?_, ?_, ?_, ?_, ?_⟩
  · simp [p, runOp, VPath.metadata, M.withPath, Overlay.fs, bind, M.bind, hrp, run_metadata h.hl,
      Mem.metadata, hl, Res.withPath, ofRes]
  · simp only [p, runOp, VPath.openFile, M.withPath, Overlay.fs, bind, M.bind, hrp,
      run_openFile h.hl]
    by_cases hf : e.ftype = .file
    · simp [Mem.openFile, Mem.setAccessed, hl, hf, Res.withPath, M.ret, ofRes,
        RHandle.readToEnd]
    · simp [Mem.openFile, Mem.setAccessed, hl, hf, Res.withPath, ofRes, fail]
  all_goals exact overlay_run_setter_noneN (h.toN idu idl) ido cs hne hcs hu _ rfl

/-- the FULL adapter statement for the overlay (all ten operations, including the removals, which
put the path behind a whiteout) — NOT proved in this generality (Props/C19HistoryOverlayN.lean
proves it when `remove_dir` is never applied to a directory, Props/C19HistoryOverlay.lean for
paths without children in either layer). `busy` has to be the overlay's notion ("the
merged listing of `k` is non-empty or the top layer holds children"); the top layer is assumed to
have no ".whiteout" area yet. -/
def overlay_history_exact_stmt : Prop :=
  ∀ {w : World} {u l idu idl : Nat} {mu ml : FMap} (_ : OW w u l mu ml) (ido : Nat)
    (ds : List Str) (n : Str) (_ : ∀ c ∈ ds, GoodComp c) (_ : GoodComp n)
    (_ : (ds ++ [n]).head? ≠ some Overlay.woDir) (_ : WF mu) (_ : WF ml)
    (_ : ∀ q, ('/' :: Overlay.woDir).isPrefixOf q = true → mu.find? q = none)
    (_ : TopServes mu (renderC (ds ++ [n]))) (_ : AncTop mu ds) (ops : List TOp),
    (runHist { fs := Overlay.fs (layers2 u l idu idl), fsId := ido, path := renderC (ds ++ [n]) }
        ops w).1 =
      (specHist (busyAt mu (renderC (ds ++ [n])) || decide (pListing mu ml (renderC (ds ++ [n])) ≠ []))
        .now (absAt mu (renderC (ds ++ [n]))) ops).1

/-! ## 7. Non-vacuity: a concrete world and a history that mixes all operation kinds -/

def hDir : Entry :=
  { ftype := .dir, content := [], created := .now, modified := .unset, accessed := .unset }

def hFile : Entry :=
  { ftype := .file, content := [1, 2], created := .at 7, modified := .now, accessed := .unset }

/-- "/" , "/d", "/d/f" (a file of two bytes), "/other" -/
def hMap : FMap :=
  [ ([], hDir), ("/d".toList, hDir), ("/d/f".toList, hFile), ("/other".toList, hFile) ]

def hWorld : World := { leaves := [{ kind := .mem, files := hMap }] }

def hK : Str := "/d/f".toList

/-- all ten kinds: observation, the three setters, append, read, removal, re-creation as a
directory, a refused create session, removal of the directory, a create session, refused
`create_dir` / `remove_dir` / setter on a missing path -/
def hOps : List TOp :=
  [ .metadata, .setCreated 5, .setModified 6, .setAccessed 8, .metadata, .append [3], .read,
    .metadata, .removeFile, .metadata, .setModified 1, .createDir, .write [9], .read, .removeDir,
    .write [9, 9], .append [1], .createDir, .removeDir, .setCreated 11, .metadata ]

example : MemLeafAt hWorld 0 hMap := rfl
example : ParentDir hMap hK := ⟨by decide, hDir, by decide, rfl⟩
example : WF hMap := WF.of_check _ (by decide +kernel)

/-- what the specification says about this history -/
def hExpected : List TOut :=
  [ .info ⟨.file, 2, .at 7, .now, .unset⟩, .done, .done, .done,
    .info ⟨.file, 2, .at 5, .at 6, .at 8⟩, .done, .data [1, 2, 3],
    .info ⟨.file, 3, .at 5, .now, .now⟩, .done, .refused .fileNotFound, .refused .fileNotFound,
    .done, .refused .other, .refused .other, .done, .done, .done, .refused .fileExists,
    .refused .other, .done, .info ⟨.file, 3, .at 11, .now, .now⟩ ]

set_option maxRecDepth 100000 in
example : specHist (busyAt hMap hK) .now (absAt hMap hK) hOps =
    (hExpected, some ⟨.file, [9, 9, 1], .at 11, .now, .now⟩) := by decide +kernel

/-- the history run once through the `VfsPath` layer: outcomes and final leaves -/
theorem hRun_is :
    (runHist { fs := leafFS 0, fsId := 0, path := hK } hOps hWorld).1 = hExpected ∧
    (runHist { fs := leafFS 0, fsId := 0, path := hK } hOps hWorld).2.leaves =
      [{ kind := .mem, files :=
        [ (hK, ⟨.file, [9, 9, 1], .at 11, .now, .now⟩), ([], hDir), ("/d".toList, hDir),
          ("/other".toList, hFile) ] }] := by decide +kernel

set_option maxRecDepth 100000 in
/-- … and the model, run through the `VfsPath` layer, answers exactly that -/
example : (runHist { fs := leafFS 0, fsId := 0, path := hK } hOps hWorld).1 = hExpected :=
  hRun_is.1

set_option maxRecDepth 100000 in
example : (runHist { fs := leafFS 0, fsId := 0, path := hK } hOps hWorld).2.leaf? 0 =
    some { kind := .mem, files :=
      [ (hK, ⟨.file, [9, 9, 1], .at 11, .now, .now⟩), ([], hDir), ("/d".toList, hDir),
        ("/other".toList, hFile) ] } := by
  rw [World.leaf?, hRun_is.2]
  rfl

/-- two histories that differ only in the bytes -/
def hOps' : List TOp :=
  [ .metadata, .setCreated 5, .setModified 6, .setAccessed 8, .metadata, .append [3, 4, 5, 6], .read,
    .metadata, .removeFile, .metadata, .setModified 1, .createDir, .write [], .read, .removeDir,
    .write [1], .append [], .createDir, .removeDir, .setCreated 11, .metadata ]

example : hOps.map TOp.shape = hOps'.map TOp.shape := by decide

/-- the altroot rooted at "/d" serves "/d/f" under the name "/f" -/
example : Altroot.path { fs := leafFS 0, fsId := 0, path := "/d".toList } "/f".toList =
      .ok { fs := leafFS 0, fsId := 0, path := hK } ∧
    Altroot.path { fs := leafFS 0, fsId := 0, path := "/d".toList } (parentInternal "/f".toList) =
      .ok { fs := leafFS 0, fsId := 0, path := parentInternal hK } :=
  altroot_paths_canon 0 0 ["d".toList] ["f".toList] (by decide) (by decide) (by decide)

set_option maxRecDepth 100000 in
example : (runHist { fs := Altroot.fs { fs := leafFS 0, fsId := 0, path := "/d".toList }, fsId := 1,
                     path := "/f".toList } hOps hWorld).1 = hExpected := by
  decide +kernel

/-- an overlay: the top layer (leaf 0) holds `hMap`, the lower layer (leaf 1) holds another file
at the same path with other timestamps and bytes; the overlay reports the TOP entry's -/
def hLower : FMap :=
  [ ([], hDir), ("/d".toList, hDir),
    ("/d/f".toList, { ftype := .file, content := [7, 7, 7, 7], created := .at 100,
                      modified := .at 101, accessed := .at 102 }) ]

def hWorld2 : World :=
  { leaves := [{ kind := .mem, files := hMap }, { kind := .mem, files := hLower }] }

def hFragOps : List TOp :=
  [ .metadata, .setCreated 5, .setModified 6, .setAccessed 8, .metadata, .append [3], .read,
    .metadata, .setAccessed 9, .metadata ]

example : OW hWorld2 0 1 hMap hLower := ⟨rfl, rfl, by decide⟩
example : TopServes hMap (renderC ["d".toList, "f".toList]) := ⟨by decide, hFile, by decide⟩
example : ∀ op ∈ hFragOps, op.inFrag = true := by decide

set_option maxRecDepth 100000 in
example : (runHist { fs := Overlay.fs (layers2 0 1 0 1), fsId := 2,
                     path := renderC ["d".toList, "f".toList] } hFragOps hWorld2).1 =
    [ .info ⟨.file, 2, .at 7, .now, .unset⟩, .done, .done, .done,
      .info ⟨.file, 2, .at 5, .at 6, .at 8⟩, .done, .data [1, 2, 3],
      .info ⟨.file, 3, .at 5, .now, .now⟩, .done, .info ⟨.file, 3, .at 5, .now, .at 9⟩ ] := by
  decide +kernel

/-- a history without removals through the overlay: create sessions and `create_dir` included -/
def hKeepOps : List TOp :=
  [ .metadata, .setCreated 5, .write [4, 4, 4], .metadata, .createDir, .append [3], .read,
    .setAccessed 9, .setModified 2, .metadata ]

example : AncTop hMap ["d".toList] := by
  refine ⟨⟨⟨hDir, by decide, rfl⟩, by decide⟩, ?_⟩
  intro j h1 h2
  have : j = 1 := by simp at h2; omega
  subst this
  exact ⟨by decide, hDir, by decide, rfl⟩
example : (["d".toList] ++ ["f".toList]).head? ≠ some Overlay.woDir := by decide
example : ∀ op ∈ hKeepOps, op.keepsEntry = true := by decide

set_option maxRecDepth 100000 in
example : (runHist { fs := Overlay.fs (layers2 0 1 0 1), fsId := 2,
                     path := renderC (["d".toList] ++ ["f".toList]) } hKeepOps hWorld2).1 =
    [ .info ⟨.file, 2, .at 7, .now, .unset⟩, .done, .done, .info ⟨.file, 3, .now, .now, .now⟩,
      .refused .fileExists, .done, .data [4, 4, 4, 3], .done, .done,
      .info ⟨.file, 4, .now, .at 2, .at 9⟩ ] := by
  decide +kernel

#print axioms Vfs.C19.timestamps_history_exact
#print axioms Vfs.C19.timestamps_trace_exact
#print axioms Vfs.C19.set_then_metadata_exact
#print axioms Vfs.C19.append_preserves_created_history
#print axioms Vfs.C19.created_stable_without_recreation
#print axioms Vfs.C19.timestamps_independent_of_content
#print axioms Vfs.C19.altroot_history_exact
#print axioms Vfs.C19.overlay_history_exact_frag
#print axioms Vfs.C19.overlay_history_exact_noremove

end Vfs.C19
