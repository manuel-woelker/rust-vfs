/-
  C17, overlay part: the race in `OverlayFS::create_dir` on a path hidden by a whiteout (finding O11).

  Two concurrent `create_dir(p)`. The winner creates `p` in the write layer and THEN clears the
  whiteout; in between the write layer holds the directory `p` AND still the marker of `p`. The
  loser's `exists(p)` says no (the marker hides `p`) and its `create_dir` on the write layer answers
  `DirectoryExists`. Were that error returned at once, a caller that takes `DirectoryExists` for
  "the directory is there" (`create_dir_all`) and goes on to create a child of `p` would fail in
  `ensure_has_parent`: the overlay still does not show `p` (`race_state_hidden`). `create_dir`
  therefore clears the whiteout on that path too (`createDir_race_loser_clears_marker`), and
  `clear_whiteout` tolerates a marker that vanishes between its probe and its removal
  (`clearWhiteoutT_absent_ok`, arbitrary layers). Model: `Overlay.createDir`,
  `Overlay.clearWhiteoutT` in Adapters.lean.

  Setting: n memory layers, `OWN` of Proofs/OverlayNLemmas.lean. The theorems describe the loser's
  call as ONE atomic step from the intermediate state the winner leaves; the interleavings
  themselves are the subject of Props/C17OverlayConc.lean.

  `wRace` is such an intermediate state written out (two layers, "/d"): `wRace_instance` instantiates
  the theorem on it, the examples evaluate or read off it what the overlay shows before and after
  the loser's call; `vanishFS` is a write layer whose marker vanishes between probe and removal.
-/
import VfsModel.Proofs.OverlayNLemmas
import VfsModel.Proofs.OverlayEffect
set_option linter.unusedVariables false
namespace Vfs.C17
open Vfs Vfs.Overlay

/-- `clear_whiteout` tolerates an absent or vanishing marker (probe true, then the removal answers
`FileNotFound`: a concurrent caller removed it in between); no other call is made -/
theorem clearWhiteoutT_absent_ok (layers : List VPath) (p : Str) (wo : VPath)
    (hwo : whiteoutPath layers p = .ok wo) (w : World) :
    (∀ w1, wo.exists_ w = (.ok false, w1) → clearWhiteoutT layers p w = (.ok (), w1)) ∧
    (∀ w1 w2 pth, wo.exists_ w = (.ok true, w1) →
      wo.removeFile w1 = (.err .fileNotFound pth, w2) →
      clearWhiteoutT layers p w = (.ok (), w2)) := by
  constructor
  · intro w1 hex
    unfold clearWhiteoutT
    simp [bind, M.bind, M.ret, hwo, hex, Pure.pure, M.pure]
  · intro w1 w2 pth hex hrm
    unfold clearWhiteoutT
    simp [bind, M.bind, M.ret, hwo, hex, hrm]

/-- the non-tolerant clearing (still used by `create_file`) hands the `FileNotFound` on -/
theorem clearWhiteout_notFound_err (layers : List VPath) (p : Str) (wo : VPath)
    (hwo : whiteoutPath layers p = .ok wo) (w w1 w2 : World) (pth : Option Str)
    (hex : wo.exists_ w = (.ok true, w1))
    (hrm : wo.removeFile w1 = (.err .fileNotFound pth, w2)) :
    clearWhiteout layers p w = (.err .fileNotFound pth, w2) := by
  unfold clearWhiteout
  simp [bind, M.bind, M.ret, hwo, hex, hrm]

theorem pCreateDir_existing_dir (m : FMap) (k : Str) (hpar : Mem.parentOk m k = true)
    (hs : '/' ∈ k) (e : Entry) (hf : m.find? k = some e) (hd : e.ftype = .dir) :
    Mem.pCreateDir m k = (.err .dirExists (some k), m) := by
  obtain ⟨pe, hpe, hpd⟩ := Mem.parentOk_spec m k hpar
  unfold Mem.pCreateDir
  rw [if_pos hpar, createDir_existing_dir m k hs pe e hpe hpd hf hd]
  rfl

section race
variable {w : World} {u idu : Nat} {mu : FMap} {is ids : List Nat} {ms : List FMap}
  (h : OWN w (u :: is) (idu :: ids) (mu :: ms))
include h

theorem clearWhiteoutT_absent_okN (cs : List Str) (hne : cs ≠ []) (hcs : ∀ c ∈ cs, GoodComp c)
    (hm : mu.contains (marker (renderC cs)) = false) :
    clearWhiteoutT (layersN (u :: is) (idu :: ids)) (renderC cs) w = (.ok (), w) := by
  rw [run_clearWhiteoutTN h cs hne hcs, pClear_unmarked hm, h.hu.same]

/-- what the caller of the losing `create_dir` runs into while the marker of `p` is still there -/
theorem race_state_hidden (cs : List Str) (hne : cs ≠ []) (hcs : ∀ c ∈ cs, GoodComp c)
    (hmk : mu.contains (marker (renderC cs)) = true) :
    Overlay.exists_ (layersN (u :: is) (idu :: ids)) (renderC cs) w = (.ok false, w) ∧
    ∀ c, GoodComp c →
      ensureHasParent (layersN (u :: is) (idu :: ids)) (renderC (cs ++ [c])) w
        = (.err .other none, w) := by
  constructor
  · rw [run_oexistsN h cs hne hcs, viewN_marked hmk]; rfl
  · intro c hc
    rw [run_ensureHasParentN h (cs ++ [c]) (by simp) (good_snoc hcs hc), List.dropLast_concat]
    have hex : pexistsN (mu :: ms) (renderC cs) = false := by
      unfold pexistsN
      rw [if_neg (renderC_ne_nil hne), viewN_marked hmk]; rfl
    rw [pEnsureN_absent hex]; simp only [List.headD_cons, h.hu.same]

/-- The loser's call from the state the winner leaves between its two steps: write layer holding the
directory `p` AND the whiteout of `p`. `hanc`: the ancestors of `p` are directories of the overlay,
so that the loser's own `ensure_has_parent` passes; `hmf`: markers are created by `create_file`. -/
theorem createDir_race_loser_clears_marker (ds : List Str) (n : Str)
    (hds : ∀ c ∈ ds, GoodComp c) (hn : GoodComp n) (hroot : RootOk mu)
    (hanc : AncDirsN (mu :: ms) ds) (hhead : (ds ++ [n]).head? ≠ some woDir)
    (ed : Entry) (hdir : mu.find? (renderC (ds ++ [n])) = some ed) (hdd : ed.ftype = .dir)
    (em : Entry) (hmk : mu.find? (marker (renderC (ds ++ [n]))) = some em)
    (hmf : em.ftype = .file) :
    ∃ mu', Overlay.createDir (layersN (u :: is) (idu :: ids)) (renderC (ds ++ [n])) w
        = (.err .dirExists (some (renderC (ds ++ [n]))), w.setLeafFiles u mu') ∧
      OWN (w.setLeafFiles u mu') (u :: is) (idu :: ids) (mu' :: ms) ∧
      -- the marker is gone, the directory is the one the winner created, nothing else changed
      -- (ancestor directories missing in the write layer may have been filled in)
      mu'.contains (marker (renderC (ds ++ [n]))) = false ∧
      mu'.find? (renderC (ds ++ [n])) = some ed ∧
      (∀ k, k ≠ marker (renderC (ds ++ [n])) → k ∉ chain [] ds → mu'.find? k = mu.find? k) ∧
      Overlay.exists_ (layersN (u :: is) (idu :: ids)) (renderC (ds ++ [n])) (w.setLeafFiles u mu')
        = (.ok true, w.setLeafFiles u mu') ∧
      viewN (mu' :: ms) (renderC (ds ++ [n])) = some ed ∧
      -- creating a child no longer fails in `ensure_has_parent`
      (∀ c, GoodComp c →
        (ensureHasParent (layersN (u :: is) (idu :: ids)) (renderC (ds ++ [n] ++ [c]))
          (w.setLeafFiles u mu')).1 = .ok ()) := by
  have hcs := good_snoc hds hn
  have hne : ds ++ [n] ≠ [] := by simp
  -- the loser's own `ensure_has_parent` passes and fills in missing ancestor directories
  have hE : pEnsureN (mu :: ms) (ds ++ [n]).dropLast = (.ok (), fillDirs mu (chain [] ds)) := by
    rw [List.dropLast_concat]; exact pEnsureN_ok hroot hds hanc
  generalize hmu1 : fillDirs mu (chain [] ds) = mu1 at hE
  have hp0 : mu1.find? (renderC (ds ++ [n])) = some ed := by
    have := find?_snoc_fillDirs (mu := mu) hds hn [] (Or.inl rfl)
    simp only [List.append_nil] at this
    rw [← hmu1, this]; exact hdir
  have hne' : marker (renderC (ds ++ [n])) ≠ renderC (ds ++ [n]) := marker_ne _
  have hm1 : mu1.find? (marker (renderC (ds ++ [n]))) = some em := by
    rw [← hmu1, find?_fillDirs, hmk]; rfl
  have hpar : Mem.parentOk mu1 (renderC (ds ++ [n])) = true := by
    rw [← hmu1]
    exact parentOk_fillDirs_gen (n := n) hroot.root hds hn (chain_dirs_of_ancN hanc)
  have hmkdir : Mem.pCreateDir mu1 (renderC (ds ++ [n])) =
      (.err .dirExists (some (renderC (ds ++ [n]))), mu1) :=
    pCreateDir_existing_dir _ _ hpar (slash_mem_renderC hne) ed hp0 hdd
  have hclear := C10.pClear_marked (p := renderC (ds ++ [n])) hm1 hmf
  have hpure : pCreateDirN mu ms (ds ++ [n]) =
      (.err .dirExists (some (renderC (ds ++ [n]))),
        mu1.erase (marker (renderC (ds ++ [n])))) := by
    rw [pCreateDirN_free hE (viewN_marked (contains_of_find hm1))]
    exact pCreateTail_dirExists hmkdir hclear
  generalize hmu3 : mu1.erase (marker (renderC (ds ++ [n]))) = mu' at hpure
  have hgone : mu'.contains (marker (renderC (ds ++ [n]))) = false := by
    rw [← hmu3]; unfold FMap.contains; rw [FMap.find?_erase_self]; rfl
  have hp3 : mu'.find? (renderC (ds ++ [n])) = some ed := by
    rw [← hmu3, FMap.find?_erase_ne _ _ _ hne'.symm]; exact hp0
  have hview : viewN (mu' :: ms) (renderC (ds ++ [n])) = some ed := viewN_upper hgone hp3
  have h3 := h.setHead mu'
  refine ⟨mu', ?_, h3, hgone, hp3, ?_, ?_, hview, ?_⟩
  · rw [run_ocreateDirN h _ hne hcs, hpure]
  · intro k hk1 hk2
    rw [← hmu3, FMap.find?_erase_ne _ _ _ hk1, ← hmu1, find?_fillDirs_not_mem _ _ _ hk2]
  · rw [run_oexistsN h3 _ hne hcs, hview]; rfl
  · intro c hc
    rw [run_ensureHasParentN h3 (ds ++ [n] ++ [c]) (by simp) (good_snoc hcs hc),
      List.dropLast_concat]
    have hex : pexistsN (mu' :: ms) (renderC (ds ++ [n])) = true := by
      unfold pexistsN
      rw [if_neg (renderC_ne_nil hne), hview]; rfl
    have hisd : pIsDirN (mu' :: ms) (renderC (ds ++ [n])) = true := by
      unfold pIsDirN
      rw [if_neg (renderC_ne_nil hne), hview]
      simp [hdd]
    rw [pEnsureN_dir hex hisd]
    have hroot3 : ∃ e, mu'.find? (renderC []) = some e ∧ e.ftype = .dir := by
      obtain ⟨e, he, hd⟩ := hroot.root
      refine ⟨e, ?_, hd⟩
      have hnil : ([] : Str) ≠ marker (renderC (ds ++ [n])) := by simp [marker]
      rw [renderC_nil, ← hmu3, FMap.find?_erase_ne _ _ _ hnil, ← hmu1, find?_fillDirs, he]; rfl
    have hdirs3 : ∀ k ∈ chain [] (ds ++ [n]), ∀ e, mu'.find? k = some e → e.ftype = .dir := by
      intro k hk e he
      have he1 : mu1.find? k = some e := by
        rw [← hmu3, FMap.find?_erase] at he
        split at he
        · cases he
        · exact he
      obtain ⟨j, h1, h2, rfl⟩ := (mem_chain [] (ds ++ [n]) k).1 hk
      simp only [List.nil_append, List.length_append, List.length_cons, List.length_nil] at h2 he1 ⊢
      by_cases hj : j ≤ ds.length
      · rw [List.take_append_of_le_length hj] at he1
        have hk' : renderC (ds.take j) ∈ chain [] ds :=
          (mem_chain [] ds _).2 ⟨j, h1, hj, by simp⟩
        rw [← hmu1, find?_fillDirs, if_pos hk'] at he1
        rcases Option.eq_none_or_eq_some (mu.find? (renderC (ds.take j))) with hf | ⟨e0, hf⟩
        · rw [hf] at he1
          simp only [Option.none_or, Option.some.injEq] at he1
          rw [← he1]; rfl
        · rw [hf] at he1
          simp only [Option.some_or, Option.some.injEq] at he1
          subst he1
          exact chain_dirs_of_ancN hanc _ hk' e0 hf
      · have hj' : j = ds.length + 1 := by omega
        subst hj'
        have : (ds ++ [n]).take (ds.length + 1) = ds ++ [n] := by
          rw [List.take_of_length_le]; simp
        rw [this, hp0] at he1
        injection he1 with he1; subst he1; exact hdd
    have := mkdirs_chain mu' [] (ds ++ [n]) (by simp) (good_noSlash hcs) hroot3 hdirs3
    simp only [List.headD_cons]
    rw [this]

end race

def fileOf (b : Bytes) : Entry := { fileEntryNow with content := b }

/-- the race state: the write layer (leaf 1) holds the directory "/d" (the winner's first step)
and still the whiteout of "/d"; the lower layer (leaf 0) holds "/d" with a file in it (that is why
"/d" had been whited out when it was removed through the overlay) -/
def muRace : FMap :=
  [("/d".toList, dirEntryNow), ("/.whiteout/d_wo".toList, fileOf []),
   ("/.whiteout/d/x_wo".toList, fileOf []), ("/.whiteout/d".toList, dirEntryNow),
   ("/.whiteout".toList, dirEntryNow), ([], dirEntryNow)]
def mlRace : FMap :=
  [("/d/x".toList, fileOf [49]), ("/d".toList, dirEntryNow), ([], dirEntryNow)]

def wRace : World :=
  { leaves := [{ kind := .mem, files := mlRace }, { kind := .mem, files := muRace }] }

def ofsRace : List VPath := layersN [1, 0] [7, 8]

theorem wRace_setting : OWN wRace [1, 0] [7, 8] [muRace, mlRace] :=
  .cons rfl (by decide) (.cons rfl (by decide) .nil)

theorem wRace_instance :
    ∃ mu', Overlay.createDir ofsRace "/d".toList wRace
        = (.err .dirExists (some "/d".toList), wRace.setLeafFiles 1 mu') ∧
      mu'.contains (marker "/d".toList) = false ∧
      Overlay.exists_ ofsRace "/d".toList (wRace.setLeafFiles 1 mu')
        = (.ok true, wRace.setLeafFiles 1 mu') := by
  have hroot : RootOk muRace := ⟨⟨_, rfl, rfl⟩, by decide⟩
  have hanc : AncDirsN [muRace, mlRace] [] := by
    intro j h1 h2; simp at h2; omega
  obtain ⟨mu', h1, _, h2, _, _, h3, _, _⟩ :=
    createDir_race_loser_clears_marker wRace_setting [] "d".toList (by simp) (by decide) hroot hanc
      (by decide) dirEntryNow (by decide) rfl (fileOf []) (by decide) rfl
  exact ⟨mu', h1, h2, h3⟩

-- before: the overlay does not show "/d", creating "/d/y" fails in `ensure_has_parent`
example : (Overlay.exists_ ofsRace "/d".toList wRace).1 = .ok false := by decide +kernel
example : (Overlay.createDir ofsRace "/d/y".toList wRace).1 = .err .other none := by decide +kernel
-- the loser's call: `DirectoryExists`, and only the marker of "/d" leaves the write layer
example : (Overlay.createDir ofsRace "/d".toList wRace).1
    = .err .dirExists (some "/d".toList) := by
  obtain ⟨mu', h, _⟩ := wRace_instance
  rw [h]
example : (Overlay.createDir ofsRace "/d".toList wRace).2.leaves =
    [{ kind := .mem, files := mlRace },
     { kind := .mem, files := muRace.erase "/.whiteout/d_wo".toList }] := by decide +kernel
-- after: the overlay shows "/d" (empty: the lower child stays whited out) and "/d/y" can be created
example : (Overlay.exists_ ofsRace "/d".toList
    (Overlay.createDir ofsRace "/d".toList wRace).2).1 = .ok true := by
  obtain ⟨mu', h, _, h3⟩ := wRace_instance
  rw [h, h3]
example : (Overlay.readDir ofsRace "/d".toList
    (Overlay.createDir ofsRace "/d".toList wRace).2).1 = .ok [] := by decide +kernel
example : (Overlay.createDir ofsRace "/d/y".toList
    (Overlay.createDir ofsRace "/d".toList wRace).2).1 = .ok () := by decide +kernel

/-- a write layer whose marker vanishes between the probe and the removal (what a concurrent
`clear_whiteout` looks like to this caller): the probe says yes, the removal says not-found -/
def vanishFS : FS :=
  { leafFS 0 with
    exists_ := fun _ => pure true
    removeFile := fun _ => M.failK .fileNotFound }

def vanishLayers : List VPath := [{ fs := vanishFS, fsId := 0, path := [] }]

example : (clearWhiteoutT vanishLayers "/d".toList wRace).1 = .ok () := by decide
example : (clearWhiteoutT vanishLayers "/d".toList wRace).2.leaves = wRace.leaves := by decide +kernel
example : (clearWhiteout vanishLayers "/d".toList wRace).1
    = .err .fileNotFound (some "/.whiteout/d_wo".toList) := by decide +kernel
example : ∃ wo w1 w2 pth, whiteoutPath vanishLayers "/d".toList = .ok wo ∧
    wo.exists_ wRace = (.ok true, w1) ∧ wo.removeFile w1 = (.err .fileNotFound pth, w2) :=
  ⟨_, _, _, _, rfl, rfl, rfl⟩

end Vfs.C17

#print axioms Vfs.C17.createDir_race_loser_clears_marker
#print axioms Vfs.C17.race_state_hidden
#print axioms Vfs.C17.clearWhiteoutT_absent_ok
#print axioms Vfs.C17.clearWhiteoutT_absent_okN
#print axioms Vfs.C17.wRace_instance
