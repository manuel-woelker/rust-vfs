/-
  C05 for the overlay — existence, metadata, listings and reads THROUGH an overlay over n ≥ 1
  in-memory layers tell one story, in every reachable state. These are the counterparts of the
  five observer theorems of Props/C05.lean (which are about one in-memory map), stated through
  `Overlay.fs (layersN …)` on the WORLD.

  SETTING: `h : OWN w (u :: is) (idu :: ids) (mu :: ms)`, `inv : OInv mu ms` (hidden state of the
  upper map in order), `hv : ViewWF (oview (mu :: ms))` (needed only where said); both are
  invariants of every disciplined history (Props/C03Overlay.lean). Paths: `OpPath cs` —
  canonical, non-root, first component ≠ ".whiteout", no component ending in "_wo" — or the root.

  PROVED (propext, Classical.choice, Quot.sound only)
  * `overlay_readDir_spec`      read_dir(p) = not-found / `Other` / the listing `pListingN`,
                                according to the view's entry at p; the world is unchanged.
  * `overlay_exists_iff_listed_once`  for `OpPath (ds ++ [n])`:
        exists(ds/n) answers true  ⇔  read_dir(ds) succeeds with a listing that contains `n`
        exactly once;   and whatever read_dir(ds) lists has no name twice. (⇒ uses `ViewWF`: the
        parent of a present path is a directory of the view. No hypothesis "read_dir succeeds".)
  * `overlay_isDir_iff_listable`  p is a directory of the view ⇔ metadata(p) reports a directory
                                ⇔ read_dir(p) succeeds (the root included: `overlay_root_listable`).
  * `overlay_isFile_iff_readable` p is a file of the view ⇔ metadata(p) reports a file ⇔
                                open_file(p) succeeds; `overlay_read_returns_content`: the handle
                                holds exactly the view's bytes at position 0.
  * `overlay_metadata_iff_exists` metadata(p) succeeds ⇔ exists(p) answers true;
                                `overlay_metadata_reports`: it reports the view's entry.
  * `overlay_absent_all_fail`   p absent from the view: exists answers false; metadata, read_dir,
                                open_file fail with not-found; the world is unchanged.
  * `overlay_listed_names_bare` every listed name is a bare name of an entry of the view.
  * `overlay_observers_one_story_history`: all of the above in the state after ANY finite
    disciplined history from well-formed type-consistent layers without markers.
  * non-vacuity on the 3-layer world of Props/C09Refine.lean, before and after its 12-call
    history (`decide`).
  walk_dir through the overlay: Props/C05WalkView.lean (`overlay_walk_spec`).
  NOT PROVED: paths with a component ending in "_wo" or inside ".whiteout" (read_dir consults
  "/.whiteout" ++ p, which for such paths may be a marker FILE); the `VfsPath` wrappers (`is_dir`,
  `is_file`) on top.
-/
import VfsModel.Props.C03Overlay
import VfsModel.Proofs.OverlayObservers
namespace Vfs.C05
open Vfs Vfs.Overlay Vfs.C02 Vfs.C01 Vfs.C09

/-! ### in every reachable state -/

/-- **the observers tell one story after every history.** Well-formed type-consistent layers
without markers; any finite history of disciplined mutators (O3 discipline for `remove_file`,
read off the overlay's own views). In the final world, for every disciplined path `ds/n`:
exists ⇔ listed exactly once by the parent; directory ⇔ listable; file ⇔ readable; metadata ⇔
exists; absent ⇒ every observer fails with not-found. -/
theorem overlay_observers_one_story_history (ops : List Mut) (hops : ∀ op ∈ ops, OpOK op)
    {w : World} {u idu : Nat} {mu : FMap} {is ids : List Nat} {ms : List FMap}
    (h : OWN w (u :: is) (idu :: ids) (mu :: ms)) (hwf : ∀ m ∈ mu :: ms, WF m)
    (hnw : NoWhiteout mu) (htc : TypeConsistent (mu :: ms))
    (hdisc : C03.ViewO3Free (Overlay.fs (layersN (u :: is) (idu :: ids))) (u :: is) ops w) :
    let fs := Overlay.fs (layersN (u :: is) (idu :: ids))
    let w' := (runOverlay fs ops w).2
    ∀ (ds : List Str) (n : Str), OpPath (ds ++ [n]) →
      ((fs.exists_ (renderC (ds ++ [n])) w').1 = .ok true ↔
        ∃ lst, fs.readDir (renderC ds) w' = (.ok lst, w') ∧ lst.count n = 1) ∧
      (∀ lst w'', fs.readDir (renderC ds) w' = (.ok lst, w'') → lst.Nodup) ∧
      ((∃ md, (fs.metadata (renderC (ds ++ [n])) w').1 = .ok md ∧ md.ftype = .dir) ↔
        (fs.readDir (renderC (ds ++ [n])) w').1.isOk = true) ∧
      ((∃ md, (fs.metadata (renderC (ds ++ [n])) w').1 = .ok md ∧ md.ftype = .file) ↔
        (fs.openFile (renderC (ds ++ [n])) w').1.isOk = true) ∧
      ((fs.metadata (renderC (ds ++ [n])) w').1.isOk = true ↔
        (fs.exists_ (renderC (ds ++ [n])) w').1 = .ok true) ∧
      ((fs.exists_ (renderC (ds ++ [n])) w').1 = .ok false →
        (fs.metadata (renderC (ds ++ [n])) w').1 = .err .fileNotFound none ∧
        (fs.readDir (renderC (ds ++ [n])) w').1 = .err .fileNotFound none ∧
        (fs.openFile (renderC (ds ++ [n])) w').1 = .err .fileNotFound none) := by
  intro fs w' ds n hp
  obtain ⟨mu', ms', hown, _, inv', hv', _⟩ :=
    C03.overlay_history_invariants ops hops h (OInv.initial hwf hnw) (ViewWF.initial hwf hnw htc)
      hdisc
  have h1 := overlay_exists_iff_listed_once hown inv' hv' hp
  refine ⟨h1.1, fun lst w'' hl => (h1.2 lst w'' hl).1, (overlay_isDir_iff_listable hown inv' hp).2,
    (overlay_isFile_iff_readable hown inv' hp.ne hp.good).2,
    overlay_metadata_iff_exists hown hp.ne hp.good, ?_⟩
  intro hex
  have hex' : (fs.exists_ (renderC (ds ++ [n])) w').1 = .ok false := hex
  have hview : oview (mu' :: ms') (renderC (ds ++ [n])) = none := by
    rw [exists_is_viewN hown _ hp.ne hp.good] at hex'
    rw [oview_NR hp.nr]
    cases hvw : viewN (mu' :: ms') (renderC (ds ++ [n])) with
    | none => rfl
    | some e => rw [hvw] at hex'; simp at hex'
  obtain ⟨_, a, b, c⟩ := overlay_absent_all_fail hown inv' hp hview
  exact ⟨by rw [a], by rw [b], by rw [c]⟩

/-! ### non-vacuity: the 3-layer world of Props/C09Refine.lean -/

section example3

/-- "/d/x" lives in layers 1 and 2: it exists, and "/d" lists "x" exactly once -/
example : (xfs.exists_ "/d/x".toList xw).1 = .ok true ∧
    ∃ lst, xfs.readDir "/d".toList xw = (.ok lst, xw) ∧ lst.count "x".toList = 1 := by
  have := (overlay_exists_iff_listed_once xw_setting xw_inv xw_viewWF
    (ds := ["d".toList]) (n := "x".toList) (by decide)).1
  have hex : (xfs.exists_ "/d/x".toList xw).1 = .ok true := by rw [xw_chars]; decide +kernel
  exact ⟨hex, this.1 hex⟩

example : (xfs.readDir "/d".toList xw).1 = .ok ["x".toList, "b".toList, "c".toList] := by
  rw [xw_chars]; decide +kernel

example := overlay_isDir_iff_listable xw_setting xw_inv (cs := ["e".toList]) (by decide)
example := overlay_isFile_iff_readable xw_setting xw_inv (cs := ["d".toList, "c".toList])
  (by simp) (by decide)
example := overlay_read_returns_content xw_setting (cs := ["d".toList, "x".toList]) (bs := [49])
  (by simp) (by decide) ⟨C09.fileOf [49], by decide, rfl, rfl⟩
example := overlay_absent_all_fail xw_setting xw_inv (cs := ["nope".toList]) (by decide)
  (by decide +kernel)
example := overlay_root_listable xw_setting xw_inv

/-- the history theorem, instantiated on the 12-call history -/
example := overlay_observers_one_story_history xOps xOps_ok xw_setting xw_wf
  xw_noWhiteout xw_typeConsistent C03.xOps_viewO3

/-- … and evaluated independently after the history: "/e" was emptied, removed and re-created
(layer 2 still holds "/e/z"), "/d" lists the union without the removed and with the new names -/
example : (xfs.readDir "/e".toList (runOverlay xfs xOps xw).2).1 = .ok [] := by
  rw [x_run]; decide +kernel
example : (xfs.exists_ "/e/z".toList (runOverlay xfs xOps xw).2).1 = .ok false := by
  rw [x_run]; decide +kernel
example : (xfs.readDir "/d".toList (runOverlay xfs xOps xw).2).1
    = .ok ["b".toList, "c".toList, "new".toList, "x".toList] := by rw [x_run]; decide +kernel

end example3

end Vfs.C05

section audit
open Vfs.C05
#print axioms overlay_readDir_spec
#print axioms overlay_exists_iff_listed_once
#print axioms overlay_isDir_iff_listable
#print axioms overlay_isFile_iff_readable
#print axioms overlay_read_returns_content
#print axioms overlay_metadata_iff_exists
#print axioms overlay_metadata_reports
#print axioms overlay_absent_all_fail
#print axioms overlay_listed_names_bare
#print axioms overlay_root_listable
#print axioms overlay_observers_one_story_history
end audit
