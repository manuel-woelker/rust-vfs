/-
  C14 over whole scripts, on the handles the backends and the altroot return (the n-layer overlay
  is Props/C14ScriptsOverlay.lean).

  Each `opened_handle_*` starts from nothing but a successful `open_file` (`… = (Ok r, w')`) and
  derives what the handle is; each `read_script_on_*` then gives `read_script_is_cursor` of
  Props/C14Scripts.lean for that handle.
   * memory leaf (`opened_handle_good_mem`): the path holds a file `e` and `r = ⟨e.content, 0⟩`.
   * physical leaf (`opened_handle_phys`): the world is unchanged and either the path is a file and
     `r` is the good handle over its bytes, or it is a directory and `r` is the bad handle
     `⟨[], 0, bad⟩` (Linux `File::open` succeeds on a directory); `read_script_on_phys` covers
     both cases.
   * EmbeddedFS (`opened_handle_good_embedded`): `r = ⟨b, 0⟩` for the embedded bytes `b` of the
     normalised path.
   * altroot over any filesystem (`altroot_open_passes`, `altroot_append_passes`,
     `altroot_create_passes`): the handle is the one the underlying filesystem returns on
     `root ++ q`.
   * write handles of the one backend that buffers, memory: `created_handle_mem` (`create_file`
     returns `memH i p [] 0` and leaves an empty file at `p`), `appended_handle_mem` (`append_file`
     returns `memH i p old |old|`); `write_script_on_mem_create / _append` and
     `write_script_on_altroot_mem_*` feed those start states into the theorems of
     Props/C14ScriptsWrite.lean.

  Not covered: scripts on the physical write handles (`physCreate`, `physAppend`: unbuffered, every
  write goes to the file; single-step model only); the harness wrappers (`recordFS`, `faultFS` pass
  handles through unchanged; not restated); the async ports.
-/
import VfsModel.Proofs.LeafRun
import VfsModel.Props.C07
import VfsModel.Props.C14Scripts
import VfsModel.Props.C14ScriptsWrite
namespace Vfs.C14
open Vfs.C04

theorem read_script_on_fresh (bs : Bytes) (ops : List ROp) (hlen : bs.length < u64Max) :
    runROps { content := bs, pos := 0 } ops =
      ((rspecRun bs 0 ops).map (fun o => (o.1.toModel, o.2)),
        { content := bs, pos := rspecPos bs 0 ops }) :=
  read_script_is_cursor { content := bs, pos := 0 } ops rfl hlen

section memleaf
variable {w : World} {i : Nat} {m : FMap}

theorem opened_handle_good_mem (h : MemLeafAt w i m) (p : Str) (r : RHandle) (w' : World)
    (hopen : (leafFS i).openFile p w = (.ok r, w')) :
    ∃ e, m.find? p = some e ∧ e.ftype = .file ∧ r = { content := e.content, pos := 0 } ∧
      Good r ∧ r.pos = 0 := by
  obtain ⟨e, he, hf, hr, _⟩ := (openFile_mem_iff h p r w').1 hopen
  exact ⟨e, he, hf, hr, by rw [hr]; rfl, by rw [hr]⟩

theorem opened_handle_good_mem_path (h : MemLeafAt w i m) (id : Nat) (p : Str) (r : RHandle)
    (w' : World)
    (hopen : VPath.openFile { fs := leafFS i, fsId := id, path := p } w = (.ok r, w')) :
    ∃ e, m.find? p = some e ∧ e.ftype = .file ∧ r = { content := e.content, pos := 0 } ∧
      Good r ∧ r.pos = 0 :=
  opened_handle_good_mem h p r w' ((M.withPath_ok_iff _ _ _ _ _).1 hopen)

theorem mem_open_exists (h : MemLeafAt w i m) (p : Str) (e : Entry) (he : m.find? p = some e)
    (hf : e.ftype = .file) :
    ∃ w', (leafFS i).openFile p w = (.ok { content := e.content, pos := 0 }, w') :=
  ⟨_, (openFile_mem_iff h p _ _).2 ⟨e, he, hf, rfl, rfl⟩⟩

theorem read_script_on_mem (h : MemLeafAt w i m) (p : Str) (r : RHandle) (w' : World)
    (hopen : (leafFS i).openFile p w = (.ok r, w')) (ops : List ROp) :
    ∃ e, m.find? p = some e ∧ e.ftype = .file ∧ (e.content.length < u64Max →
      runROps r ops = ((rspecRun e.content 0 ops).map (fun o => (o.1.toModel, o.2)),
        { content := e.content, pos := rspecPos e.content 0 ops })) := by
  obtain ⟨e, he, hf, hr, _, _⟩ := opened_handle_good_mem h p r w' hopen
  exact ⟨e, he, hf, fun hlen => by rw [hr]; exact read_script_on_fresh e.content ops hlen⟩

end memleaf

/-- leaf `i` of the world is a PhysicalFS whose directory holds `m` -/
def PhysAt (w : World) (i : Nat) (m : FMap) : Prop :=
  w.leaf? i = some { kind := .phys, files := m }

theorem phys_open_pure (m : FMap) (p : Str) (r : RHandle) (h : Phys.openFile m p = .ok r) :
    ∃ e, m.find? p = some e ∧
      ((e.ftype = .file ∧ r = { content := e.content, pos := 0 }) ∨
       (e.ftype = .dir ∧ r = { content := [], pos := 0, bad := true })) := by
  unfold Phys.openFile Phys.lookup at h
  cases hrp : Phys.resolveParent m p <;> rw [hrp] at h <;> simp only [reduceCtorEq] at h
  rcases hf : m.find? p with _ | e <;> rw [hf] at h <;> simp only [fail, reduceCtorEq] at h
  refine ⟨e, rfl, ?_⟩
  cases hft : e.ftype <;> rw [hft] at h
  · exact Or.inl ⟨rfl, (Res.ok.inj h).symm⟩
  · exact Or.inr ⟨rfl, (Res.ok.inj h).symm⟩

section physleaf
variable {w : World} {i : Nat} {m : FMap}

theorem run_openFile_phys (h : PhysAt w i m) (p : Str) :
    (leafFS i).openFile p w = (Phys.openFile m p, w) :=
  LeafAt.openFile_eq h p

theorem opened_handle_phys (h : PhysAt w i m) (p : Str) (r : RHandle) (w' : World)
    (hopen : (leafFS i).openFile p w = (.ok r, w')) :
    w' = w ∧ r.pos = 0 ∧ ∃ e, m.find? p = some e ∧
      ((e.ftype = .file ∧ r = { content := e.content, pos := 0 } ∧ Good r) ∨
       (e.ftype = .dir ∧ r = { content := [], pos := 0, bad := true })) := by
  rw [run_openFile_phys h] at hopen
  simp only [Prod.mk.injEq] at hopen
  obtain ⟨e, he, hcase⟩ := phys_open_pure m p r hopen.1
  refine ⟨hopen.2.symm, ?_, e, he, ?_⟩
  · rcases hcase with ⟨_, hr⟩ | ⟨_, hr⟩ <;> rw [hr]
  · rcases hcase with ⟨hf, hr⟩ | ⟨hd, hr⟩
    · exact Or.inl ⟨hf, hr, by rw [hr]; rfl⟩
    · exact Or.inr ⟨hd, hr⟩

/-- on a FILE of a physical leaf the open succeeds, provided the path resolves (every ancestor
is a directory) -/
theorem phys_open_exists (h : PhysAt w i m) (p : Str) (e : Entry)
    (hres : Phys.resolveParent m p = .ok ()) (he : m.find? p = some e) (hf : e.ftype = .file) :
    (leafFS i).openFile p w = (.ok { content := e.content, pos := 0 }, w) := by
  rw [run_openFile_phys h]
  simp [Phys.openFile, Phys.lookup, hres, he, hf]

theorem read_script_on_phys (h : PhysAt w i m) (p : Str) (r : RHandle) (w' : World)
    (hopen : (leafFS i).openFile p w = (.ok r, w')) (ops : List ROp) :
    ∃ e, m.find? p = some e ∧
      ((e.ftype = .file ∧ (e.content.length < u64Max →
          runROps r ops = ((rspecRun e.content 0 ops).map (fun o => (o.1.toModel, o.2)),
            { content := e.content, pos := rspecPos e.content 0 ops }))) ∨
       (e.ftype = .dir ∧ (runROps r ops).2 = r ∧
          ∀ a ∈ (runROps r ops).1, (a.1 = .inl (fail .io) ∨ a.1 = .inr (fail .io)) ∧ a.2 = 0)) := by
  obtain ⟨_, _, e, he, hcase⟩ := opened_handle_phys h p r w' hopen
  refine ⟨e, he, ?_⟩
  rcases hcase with ⟨hf, hr, _⟩ | ⟨hd, hr⟩
  · exact Or.inl ⟨hf, fun hlen => by rw [hr]; exact read_script_on_fresh e.content ops hlen⟩
  · have := bad_script_all_fail r (by rw [hr]) ops
    refine Or.inr ⟨hd, this.1, fun a ha => ?_⟩
    have h2 := this.2 a ha
    rw [hr] at h2
    exact h2

end physleaf

theorem opened_handle_good_embedded (s : Embedded.State) (p : Str) (w w' : World) (r : RHandle)
    (hopen : (Embedded.fs s).openFile p w = (.ok r, w')) :
    w' = w ∧ ∃ b, Embedded.fileGet? s.files (Embedded.normalize p) = some b ∧
      r = { content := b, pos := 0 } ∧ Good r ∧ r.pos = 0 := by
  have hrun : (Embedded.fs s).openFile p w = (Embedded.openFile s p, w) := rfl
  rw [hrun] at hopen
  simp only [Prod.mk.injEq] at hopen
  refine ⟨hopen.2.symm, ?_⟩
  have h1 := hopen.1
  unfold Embedded.openFile at h1
  cases hg : Embedded.fileGet? s.files (Embedded.normalize p) with
  | none => simp [hg, fail] at h1
  | some b =>
    simp only [hg, Res.ok.injEq] at h1
    exact ⟨b, rfl, h1.symm, by rw [← h1]; rfl, by rw [← h1]⟩

theorem embedded_open_exists (s : Embedded.State) (p : Str) (w : World) (b : Bytes)
    (hb : Embedded.fileGet? s.files (Embedded.normalize p) = some b) :
    (Embedded.fs s).openFile p w = (.ok { content := b, pos := 0 }, w) := by
  show (Embedded.openFile s p, w) = _
  unfold Embedded.openFile
  rw [hb]

theorem read_script_on_embedded (s : Embedded.State) (p : Str) (w w' : World) (r : RHandle)
    (hopen : (Embedded.fs s).openFile p w = (.ok r, w')) (ops : List ROp) :
    ∃ b, Embedded.fileGet? s.files (Embedded.normalize p) = some b ∧ (b.length < u64Max →
      runROps r ops = ((rspecRun b 0 ops).map (fun o => (o.1.toModel, o.2)),
        { content := b, pos := rspecPos b 0 ops })) := by
  obtain ⟨_, b, hb, hr, _, _⟩ := opened_handle_good_embedded s p w w' r hopen
  exact ⟨b, hb, fun hlen => by rw [hr]; exact read_script_on_fresh b ops hlen⟩

section altroot
variable (root : VPath) (q : Str) (hroot : Canon root.path) (hq : Canon q)
include hroot hq

theorem altroot_open_passes (w w' : World) (r : RHandle) :
    (Altroot.fs root).openFile q w = (.ok r, w') ↔
      root.fs.openFile (root.path ++ q) w = (.ok r, w') := by
  rw [C07.altroot_exact_openFile root q hroot hq]
  exact M.withPath_ok_iff _ _ _ _ _

theorem altroot_append_passes (w w' : World) (h : WHandle) :
    (Altroot.fs root).appendFile q w = (.ok h, w') ↔
      root.fs.appendFile (root.path ++ q) w = (.ok h, w') := by
  rw [C07.altroot_exact_appendFile root q hroot hq]
  exact M.withPath_ok_iff _ _ _ _ _

/-- `create_file`: the handle is the one the underlying `create_file(root ++ q)` returned (called
after the parent probe of `VfsPath::create_file`, which may run in between) -/
theorem altroot_create_passes (w w' : World) (h : WHandle)
    (hc : (Altroot.fs root).createFile q w = (.ok h, w')) :
    ∃ w1, root.fs.createFile (root.path ++ q) w1 = (.ok h, w') := by
  rw [C07.altroot_exact_createFile root q hroot hq] at hc
  obtain ⟨_, w1, _, hc1⟩ := M.bind_ok_inv hc
  exact ⟨w1, (M.withPath_ok_iff _ _ _ _ _).1 hc1⟩

variable {w : World} {i : Nat} {m : FMap}

theorem read_script_on_altroot_mem (hfs : root.fs = leafFS i) (h : MemLeafAt w i m) (r : RHandle)
    (w' : World) (hopen : (Altroot.fs root).openFile q w = (.ok r, w')) (ops : List ROp) :
    ∃ e, m.find? (root.path ++ q) = some e ∧ e.ftype = .file ∧
      r = { content := e.content, pos := 0 } ∧ Good r ∧ (e.content.length < u64Max →
      runROps r ops = ((rspecRun e.content 0 ops).map (fun o => (o.1.toModel, o.2)),
        { content := e.content, pos := rspecPos e.content 0 ops })) := by
  have h1 := (altroot_open_passes root q hroot hq w w' r).1 hopen
  rw [hfs] at h1
  obtain ⟨e, he, hf, hr, hg, _⟩ := opened_handle_good_mem h _ r w' h1
  exact ⟨e, he, hf, hr, hg, fun hlen => by rw [hr]; exact read_script_on_fresh e.content ops hlen⟩

theorem read_script_on_altroot_phys (hfs : root.fs = leafFS i) (h : PhysAt w i m) (r : RHandle)
    (w' : World) (hopen : (Altroot.fs root).openFile q w = (.ok r, w')) (ops : List ROp) :
    ∃ e, m.find? (root.path ++ q) = some e ∧
      ((e.ftype = .file ∧ (e.content.length < u64Max →
          runROps r ops = ((rspecRun e.content 0 ops).map (fun o => (o.1.toModel, o.2)),
            { content := e.content, pos := rspecPos e.content 0 ops }))) ∨
       (e.ftype = .dir ∧ (runROps r ops).2 = r ∧
          ∀ a ∈ (runROps r ops).1, (a.1 = .inl (fail .io) ∨ a.1 = .inr (fail .io)) ∧ a.2 = 0)) := by
  have h1 := (altroot_open_passes root q hroot hq w w' r).1 hopen
  rw [hfs] at h1
  exact read_script_on_phys h _ r w' h1 ops

theorem read_script_on_altroot_embedded (s : Embedded.State) (hfs : root.fs = Embedded.fs s)
    (r : RHandle) (w0 w' : World) (hopen : (Altroot.fs root).openFile q w0 = (.ok r, w'))
    (ops : List ROp) :
    ∃ b, Embedded.fileGet? s.files (Embedded.normalize (root.path ++ q)) = some b ∧
      (b.length < u64Max →
      runROps r ops = ((rspecRun b 0 ops).map (fun o => (o.1.toModel, o.2)),
        { content := b, pos := rspecPos b 0 ops })) := by
  have h1 := (altroot_open_passes root q hroot hq w0 w' r).1 hopen
  rw [hfs] at h1
  exact read_script_on_embedded s _ w0 w' r h1 ops

end altroot

section memwrite
variable {w : World} {i : Nat} {m : FMap}

theorem created_handle_mem (h : MemLeafAt w i m) (p : Str) (hd : WHandle) (w' : World)
    (hc : (leafFS i).createFile p w = (.ok hd, w')) :
    hd = memH i p [] 0 ∧ w' = w.setLeafFiles i (m.insert p fileEntryNow) ∧
      MemLeafAt w' i (m.insert p fileEntryNow) ∧
      (m.insert p fileEntryNow).find? p = some fileEntryNow := by
  obtain ⟨_, _, rfl, rfl⟩ := (createFile_mem_iff h p hd w').1 hc
  exact ⟨rfl, rfl, h.set _, FMap.find?_insert_self _ _ _⟩

theorem appended_handle_mem (h : MemLeafAt w i m) (p : Str) (hd : WHandle) (w' : World)
    (hc : (leafFS i).appendFile p w = (.ok hd, w')) :
    w' = w ∧ ∃ e, m.find? p = some e ∧ e.ftype = .file ∧
      hd = memH i p e.content e.content.length :=
  (appendFile_mem_iff h p hd w').1 hc

theorem write_script_on_mem_create (h : MemLeafAt w i m) (p : Str) (hd : WHandle) (w' : World)
    (hc : (leafFS i).createFile p w = (.ok hd, w')) (acts : List Act) :
    traceActs hd w' acts = (wspecTrace [] 0 acts).map (fun o => (o.1.toModel, o.2)) ∧
    (∃ m1, applyActs hd w' acts =
        (memH i p (specRun [] 0 acts).1 (specRun [] 0 acts).2, w'.setLeafFiles i m1) ∧
      Holds m1 p (some (specFlushed [] [] 0 acts)) ∧ (∀ k, k ≠ p → m1.find? k = m.find? k)) ∧
    (∃ m2, C03.runActs hd acts w' = (.ok (), w'.setLeafFiles i m2) ∧
      Holds m2 p (some (specRun [] 0 acts).1) ∧ (∀ k, k ≠ p → m2.find? k = m.find? k)) := by
  obtain ⟨rfl, _, hl', hfind⟩ := created_handle_mem h p hd w' hc
  refine ⟨(write_script_is_cursor [] 0 acts w').1, ?_, ?_⟩
  · obtain ⟨m1, h1, h2, h3⟩ := write_script_published hl' fileEntryNow hfind rfl [] 0 acts
    exact ⟨m1, h1, h2, fun k hk => by rw [h3 k hk, FMap.find?_insert_ne _ _ _ _ hk]⟩
  · obtain ⟨m2, h1, h2, h3⟩ := write_script_dropped hl' fileEntryNow hfind rfl [] 0 acts
    exact ⟨m2, h1, h2, fun k hk => by rw [h3 k hk, FMap.find?_insert_ne _ _ _ _ hk]⟩

theorem write_script_on_mem_append (h : MemLeafAt w i m) (p : Str) (hd : WHandle) (w' : World)
    (hc : (leafFS i).appendFile p w = (.ok hd, w')) (acts : List Act) :
    ∃ e, m.find? p = some e ∧ e.ftype = .file ∧
    traceActs hd w' acts =
      (wspecTrace e.content e.content.length acts).map (fun o => (o.1.toModel, o.2)) ∧
    (∃ m1, applyActs hd w' acts =
        (memH i p (specRun e.content e.content.length acts).1
          (specRun e.content e.content.length acts).2, w'.setLeafFiles i m1) ∧
      Holds m1 p (some (specFlushed e.content e.content e.content.length acts)) ∧
      (∀ k, k ≠ p → m1.find? k = m.find? k)) ∧
    (∃ m2, C03.runActs hd acts w' = (.ok (), w'.setLeafFiles i m2) ∧
      Holds m2 p (some (specRun e.content e.content.length acts).1) ∧
      (∀ k, k ≠ p → m2.find? k = m.find? k)) := by
  obtain ⟨rfl, e, he, hf, rfl⟩ := appended_handle_mem h p hd w' hc
  exact ⟨e, he, hf, (write_script_is_cursor _ _ acts w').1,
    write_script_published h e he hf _ _ acts, write_script_dropped h e he hf _ _ acts⟩

end memwrite

section altrootwrite
variable (root : VPath) (q : Str) (hroot : Canon root.path) (hq : Canon q)
  {w : World} {i : Nat} {m : FMap}
include hroot hq

theorem write_script_on_altroot_mem_append (hfs : root.fs = leafFS i) (h : MemLeafAt w i m)
    (hd : WHandle) (w' : World) (hc : (Altroot.fs root).appendFile q w = (.ok hd, w'))
    (acts : List Act) :
    ∃ e, m.find? (root.path ++ q) = some e ∧ e.ftype = .file ∧
    hd = memH i (root.path ++ q) e.content e.content.length ∧
    traceActs hd w' acts =
      (wspecTrace e.content e.content.length acts).map (fun o => (o.1.toModel, o.2)) ∧
    (∃ m2, C03.runActs hd acts w' = (.ok (), w'.setLeafFiles i m2) ∧
      Holds m2 (root.path ++ q) (some (specRun e.content e.content.length acts).1) ∧
      (∀ k, k ≠ root.path ++ q → m2.find? k = m.find? k)) := by
  have h1 := (altroot_append_passes root q hroot hq w w' hd).1 hc
  rw [hfs] at h1
  obtain ⟨_, e, he, hf, hh⟩ := appended_handle_mem h _ hd w' h1
  obtain ⟨e', he', _, ht, _, hdrop⟩ := write_script_on_mem_append h _ hd w' h1 acts
  rw [he] at he'; injection he' with he'; subst he'
  exact ⟨e, he, hf, hh, ht, hdrop⟩

/-- `create_file` through an altroot over a memory leaf IS the `create_file` of the leaf on
`root ++ q` in the same world (the parent probe of `VfsPath::create_file` changes nothing there) -/
theorem altroot_create_passes_mem (hfs : root.fs = leafFS i) (h : MemLeafAt w i m)
    (hd : WHandle) (w' : World) (hc : (Altroot.fs root).createFile q w = (.ok hd, w')) :
    (leafFS i).createFile (root.path ++ q) w = (.ok hd, w') := by
  rw [C07.altroot_exact_createFile root q hroot hq] at hc
  obtain ⟨fs, id, rp⟩ := root
  simp only at hfs
  subst hfs
  rw [show (VPath.withStr ⟨leafFS i, id, rp⟩ (rp ++ q)).createFile w = _ from
    run_vcreateFile h id (rp ++ q)] at hc
  exact (M.withPath_ok_iff (rp ++ q) ((leafFS i).createFile (rp ++ q)) w w' hd).1 hc

theorem write_script_on_altroot_mem_create (hfs : root.fs = leafFS i) (h : MemLeafAt w i m)
    (hd : WHandle) (w' : World) (hc : (Altroot.fs root).createFile q w = (.ok hd, w'))
    (acts : List Act) :
    hd = memH i (root.path ++ q) [] 0 ∧
    traceActs hd w' acts = (wspecTrace [] 0 acts).map (fun o => (o.1.toModel, o.2)) ∧
    (∃ m2, C03.runActs hd acts w' = (.ok (), w'.setLeafFiles i m2) ∧
      Holds m2 (root.path ++ q) (some (specRun [] 0 acts).1) ∧
      (∀ k, k ≠ root.path ++ q → m2.find? k = m.find? k)) := by
  have h1 := altroot_create_passes_mem root q hroot hq hfs h hd w' hc
  obtain ⟨hh, _, _, _⟩ := created_handle_mem h _ hd w' h1
  obtain ⟨ht, _, hdrop⟩ := write_script_on_mem_create h _ hd w' h1 acts
  exact ⟨hh, ht, hdrop⟩

end altrootwrite

def bkFiles : FMap :=
  [("/d/f".toList, { fileEntryNow with content := [10, 11, 12, 13, 14] }), ("/d".toList, dirEntryNow),
   ([], dirEntryNow)]
def bkMem : World := { leaves := [{ kind := .mem, files := bkFiles }] }
def bkPhys : World := { leaves := [{ kind := .phys, files := bkFiles }] }
def bkEmb : Embedded.State := Embedded.new [("d/f".toList, [10, 11, 12, 13, 14])]
def bkRoot : VPath := { fs := leafFS 0, fsId := 0, path := "/d".toList }

example : MemLeafAt bkMem 0 bkFiles := rfl
example : PhysAt bkPhys 0 bkFiles := rfl
example : Canon bkRoot.path ∧ Canon "/f".toList :=
  ⟨⟨["d".toList], by decide, by decide⟩, ⟨["f".toList], by decide, by decide⟩⟩

example : ((leafFS 0).openFile "/d/f".toList bkMem).1 = .ok { content := [10, 11, 12, 13, 14], pos := 0 } := by
  decide
example : ((leafFS 0).openFile "/d/f".toList bkPhys).1 =
    .ok { content := [10, 11, 12, 13, 14], pos := 0 } := by decide
example : ((leafFS 0).openFile "/d".toList bkPhys).1 = .ok { content := [], pos := 0, bad := true } := by
  decide
example : ((Embedded.fs bkEmb).openFile "/d/f".toList bkMem).1 =
    .ok { content := [10, 11, 12, 13, 14], pos := 0 } := by decide
example : ((Altroot.fs bkRoot).openFile "/f".toList bkMem).1 =
    .ok { content := [10, 11, 12, 13, 14], pos := 0 } := by decide
example : ((Altroot.fs { bkRoot with fs := Embedded.fs bkEmb }).openFile "/f".toList bkMem).1 =
    .ok { content := [10, 11, 12, 13, 14], pos := 0 } := by decide

example :
    (match (Altroot.fs bkRoot).openFile "/f".toList bkMem with
      | (.ok r, _) => (runROps r exScript).1
      | _ => []) =
    (rspecRun [10, 11, 12, 13, 14] 0 exScript).map (fun o => (o.1.toModel, o.2)) := by decide

example : ((Altroot.fs bkRoot).createFile "/g".toList bkMem).1 = .ok (memH 0 "/d/g".toList [] 0) := by
  decide
example : ((leafFS 0).appendFile "/d/f".toList bkMem).1 =
    .ok (memH 0 "/d/f".toList [10, 11, 12, 13, 14] 5) := by decide
example : ((Altroot.fs bkRoot).appendFile "/f".toList bkMem).1 =
    .ok (memH 0 "/d/f".toList [10, 11, 12, 13, 14] 5) := by decide

end Vfs.C14

#print axioms Vfs.C14.opened_handle_good_mem
#print axioms Vfs.C14.read_script_on_mem
#print axioms Vfs.C14.opened_handle_phys
#print axioms Vfs.C14.read_script_on_phys
#print axioms Vfs.C14.opened_handle_good_embedded
#print axioms Vfs.C14.read_script_on_embedded
#print axioms Vfs.C14.altroot_open_passes
#print axioms Vfs.C14.altroot_append_passes
#print axioms Vfs.C14.altroot_create_passes
#print axioms Vfs.C14.read_script_on_altroot_mem
#print axioms Vfs.C14.read_script_on_altroot_phys
#print axioms Vfs.C14.read_script_on_altroot_embedded
#print axioms Vfs.C14.created_handle_mem
#print axioms Vfs.C14.appended_handle_mem
#print axioms Vfs.C14.write_script_on_mem_create
#print axioms Vfs.C14.write_script_on_mem_append
#print axioms Vfs.C14.write_script_on_altroot_mem_append
#print axioms Vfs.C14.write_script_on_altroot_mem_create
