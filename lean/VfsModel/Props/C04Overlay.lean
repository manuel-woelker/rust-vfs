/-
  C04 through the overlay, any number n ≥ 2 of layers: an append session on a path that only lower
  layers have is a copy-up from the FIRST layer that has it, continued by the script — exactly.
  (`C09.append_continues_lower_bytes` is the two-layer case with one `write_all`; here the script
  of writes / seeks / flushes is arbitrary and the result is stated against the
  handle-independent specification `specRun` of Proofs/SessionLemmas.lean.)

  Setting (`OWN w (u :: is) (idu :: ids) (mu :: ms)`, Proofs/OverlayNLemmas.lean): the leaves
  `u :: is` are pairwise distinct memory leaves holding `mu` (upper, writable) and `ms` (the lower
  layers in order); the layers are the ROOTS of those leaf filesystems. The path is canonical,
  `p = renderC (ds ++ [n])`. Hypotheses as for the other overlay write-side theorems: `RootOk mu`,
  `AncDirsN (mu :: ms) ds` (every proper ancestor is a directory of the n-layer view),
  `ds.head? ≠ some woDir` (not inside the ".whiteout" namespace); and: `p` absent from `mu`, not
  marked, `FirstAt (mu :: ms) p k m` (layer `k` is the first that has `p`), `m.find? p = some e`,
  `e` a file. Nothing is assumed about layers deeper than `k`.

   * `append_continues_first_layerN`   the append session `append_file(p)`, any `acts`, drop,
     through `VfsPath` on the overlay: `k ≥ 1`; `Ok`; the upper map then holds at `p` a file with
     bytes exactly `(specRun e.content e.content.length acts).1`; the lower maps are
     `ms.set (k-1) (m.insert p {e with accessed := now})`; the n-layer view at `p` is the new
     upper entry; a fresh `open_file` through the overlay reads exactly those bytes and
     `metadata` reports their length. Since `FirstAt` only constrains layers before `k`, it is the
     first layer's bytes that are continued whatever deeper layers hold.
   * `append_upperN`, `append_sessions_upperN`   once the upper map has the file, an append
     session (any list of them) through the overlay is the append session on the upper leaf: no
     lower map changes, the upper map changes only at `p`, result = `specSessions`.
   * `append_sessions_first_layerN`   copy-up session followed by any further append sessions:
     the upper map ends with `specSessions (some e.content) (all of them)`.

  "All lower maps unchanged" is literally false in the model (and in the code): the copy-up
  reads the lower file through `open_file`, and MemoryFS stamps the access time of the entry it
  opens. Contents, types, creation and modification times of every lower entry are unchanged.

  Not covered here: create sessions through the overlay (Props/C04OverlaySessions.lean); layers
  that are not roots of memory leaves (sub-directories, altroots, nested overlays, physical or
  embedded lower layers); append on a marked (whited-out) path or on a directory (they fail;
  C09N/C10N).
-/
import VfsModel.Proofs.SessionLemmas
import VfsModel.Proofs.OverlayEffect
import VfsModel.Props.C09N
namespace Vfs.C04
open Vfs Vfs.Overlay

theorem FirstAt.unique {all : List FMap} {p : Str} {k k' : Nat} {m m' : FMap}
    (a : FirstAt all p k m) (b : FirstAt all p k' m') : k = k' ∧ m = m' := by
  have hk : k = k' := by
    rcases Nat.lt_trichotomy k k' with hlt | heq | hgt
    · have := b.before k m hlt a.get
      have hc := a.has
      rw [contains_of_none this] at hc; cases hc
    · exact heq
    · have := a.before k' m' hgt b.get
      have hc := b.has
      rw [contains_of_none this] at hc; cases hc
  subst hk
  have := a.get
  rw [b.get] at this
  injection this with this
  exact ⟨rfl, this.symm⟩

theorem set_same_up_to_access (ms : List FMap) (j : Nat) (m m2 : FMap) (hm : ms[j]? = some m)
    (hsame : ∀ q, (m2.find? q).map stripAcc = (m.find? q).map stripAcc) :
    ∀ (j' : Nat) (mj' : FMap), (ms.set j m2)[j']? = some mj' →
      ∃ mj : FMap, ms[j']? = some mj ∧ ∀ q, (mj'.find? q).map stripAcc = (mj.find? q).map stripAcc := by
  intro j' mj' hget
  rw [List.getElem?_set] at hget
  by_cases hjj : j = j'
  · subst hjj
    rw [if_pos rfl] at hget
    split at hget
    · injection hget with hget; subst hget; exact ⟨m, hm, hsame⟩
    · cases hget
  · rw [if_neg hjj] at hget
    exact ⟨mj', hget, fun _ => rfl⟩

theorem insert_touch_same (m : FMap) (p : Str) (e : Entry) (he : m.find? p = some e) :
    ∀ q, ((m.insert p { e with accessed := .now }).find? q).map stripAcc = (m.find? q).map stripAcc := by
  intro q
  rw [FMap.find?_insert]
  split
  · rename_i hq; subst hq; simp [he, stripAcc]
  · rfl

section settingN
variable {w : World} {u idu : Nat} {mu : FMap} {is ids : List Nat} {ms : List FMap}
  (h : OWN w (u :: is) (idu :: ids) (mu :: ms))
include h

/-- `append_file` through the overlay on a path that the upper layer lacks and whose FIRST holder
is lower layer `j + 1`, as a file: `ensure_has_parent`, the copy-up from THAT layer, and the
append handle on the upper copy — positioned at the end of that layer's bytes -/
theorem run_oappendFile_copyUpN (cs : List Str) (hne : cs ≠ []) (hcs : ∀ c ∈ cs, GoodComp c)
    (mu1 : FMap) (hE : pEnsureN (mu :: ms) cs.dropLast = (.ok (), mu1))
    (hc0 : mu.find? (renderC cs) = none)
    (hm1 : mu1.contains (marker (renderC cs)) = false) (hf1 : mu1.find? (renderC cs) = none)
    (hpar : Mem.parentOk mu1 (renderC cs) = true)
    (j : Nat) (m : FMap) (hm : ms[j]? = some m)
    (hbefore : ∀ j' mj, j' < j → ms[j']? = some mj → mj.find? (renderC cs) = none)
    (e : Entry) (hl0 : m.find? (renderC cs) = some e) (hfile : e.ftype = .file) :
    ∃ w', Overlay.appendFile (layersN (u :: is) (idu :: ids)) (renderC cs) w =
        (.ok (memH u (renderC cs) e.content e.content.length), w') ∧
      OWN w' (u :: is) (idu :: ids)
        (memPublish (mu1.insert (renderC cs) fileEntryNow) (renderC cs) e.content ::
          ms.set j (m.insert (renderC cs) { e with accessed := .now })) := by
  have hfirst : FirstAt ms (renderC cs) j m := ⟨hm, contains_of_find hl0, hbefore⟩
  have hv : viewN (mu1 :: ms) (renderC cs) = some e := by
    rw [viewN_unmarked hm1, ← hl0]
    refine firstN_of_firstAt (k := j + 1) ⟨by simpa using hm, contains_of_find hl0, fun j' mj hj' hget => ?_⟩
    cases j' with
    | zero => simp at hget; subst hget; exact hf1
    | succ j' => exact hbefore j' mj (by omega) (by simpa using hget)
  obtain ⟨w', hrun, hw'⟩ := run_oappendFileN h cs hne hcs
  rw [pAppendN_copyUp hne hE hc0 hv hfile hf1 hpar, ← stampFirst_of_firstAt hfirst hl0] at hrun hw'
  exact ⟨w', hrun, hw'⟩

/-- what a client reads through the overlay is the entry the view shows: where the n-layer view
has a file `e`, a fresh `open_file` through `VfsPath` returns the reader over `e.content` and
`metadata` answers `e.meta` -/
theorem overlay_read_view (cs : List Str) (hne : cs ≠ []) (hcs : ∀ c ∈ cs, GoodComp c) (e : Entry)
    (hv : viewN (mu :: ms) (renderC cs) = some e) (hf : e.ftype = .file) (oid : Nat) :
    let P : VPath := { fs := Overlay.fs (layersN (u :: is) (idu :: ids)), fsId := oid, path := renderC cs }
    (∃ w2, P.openFile w = (.ok { content := e.content, pos := 0 }, w2)) ∧
      P.metadata w = (.ok e.meta, w) := by
  obtain ⟨_, _, _, w2, _, _, _, hopen, _, _⟩ := C09.openFile_serves_viewN h cs hne hcs e hv hf
  have hmeta := C09.metadata_is_viewN h cs hne hcs
  rw [hv] at hmeta
  exact ⟨⟨w2, VPath.openFile_of_call (p := ⟨_, oid, _⟩) hopen⟩,
    VPath.metadata_of_call (p := ⟨_, oid, _⟩) hmeta⟩

/-- **append_continues_first_layerN.** n ≥ 2 layers (the roots of pairwise distinct memory
leaves). The path `p = /d1/…/dk/n` is absent from the upper map and not marked as deleted; `k`
is the FIRST layer that has `p` (`FirstAt`: layer `k` has it, no layer before `k` does —
whatever deeper layers hold at `p`), and it holds a file `e` with bytes `old = e.content`. Then
an append session on `p` through the overlay with ANY script `acts` of writes, seeks and flushes:

* succeeds;
* afterwards the upper map holds at `p` a file whose bytes are exactly
  `specRun old old.length acts` — layer `k`'s bytes continued, not any deeper layer's;
* the lower maps are unchanged, except that the entry of `p` in layer `k` had its access time
  stamped (it was read for the copy-up): `ms' = ms.set (k-1) (m.insert p {e with accessed := now})`;
  in particular every lower layer holds the same entries up to access times;
* the n-layer view at `p` is that upper entry, a fresh `open_file` through the overlay reads
  exactly those bytes and `metadata` reports their length. -/
theorem append_continues_first_layerN (ds : List Str) (n : Str) (hds : ∀ c ∈ ds, GoodComp c)
    (hn : GoodComp n) (hroot : RootOk mu) (hanc : AncDirsN (mu :: ms) ds)
    (hhead : ds.head? ≠ some woDir)
    (hup : mu.find? (renderC (ds ++ [n])) = none)
    (hmk : mu.contains (marker (renderC (ds ++ [n]))) = false)
    (k : Nat) (m : FMap) (hfirst : FirstAt (mu :: ms) (renderC (ds ++ [n])) k m)
    (e : Entry) (he : m.find? (renderC (ds ++ [n])) = some e) (hfile : e.ftype = .file)
    (oid : Nat) (acts : List Act) :
    let p := renderC (ds ++ [n])
    let P : VPath := { fs := Overlay.fs (layersN (u :: is) (idu :: ids)), fsId := oid, path := p }
    let new := (specRun e.content e.content.length acts).1
    ∃ w' mu' e',
      1 ≤ k ∧
      (Session.append acts).run P w = (.ok (), w') ∧
      OWN w' (u :: is) (idu :: ids)
        (mu' :: ms.set (k - 1) (m.insert p { e with accessed := .now })) ∧
      Holds mu' p (some new) ∧
      (∀ (j' : Nat) (mj' : FMap),
        (ms.set (k - 1) (m.insert p { e with accessed := .now }))[j']? = some mj' →
        ∃ mj : FMap, ms[j']? = some mj ∧ ∀ q, (mj'.find? q).map stripAcc = (mj.find? q).map stripAcc) ∧
      viewN (mu' :: ms.set (k - 1) (m.insert p { e with accessed := .now })) p = some e' ∧
      e'.ftype = .file ∧ e'.content = new ∧
      (∃ w2, P.openFile w' = (.ok { content := new, pos := 0 }, w2)) ∧
      (∃ md, P.metadata w' = (.ok md, w') ∧ md.len = new.length ∧ md.ftype = .file) := by
  intro p P new
  have hcs := good_snoc hds hn
  have hne : ds ++ [n] ≠ [] := by simp
  -- `k ≥ 1`: the upper map does not have `p`
  obtain ⟨j, rfl⟩ : ∃ j, k = j + 1 := by
    cases k with
    | zero =>
      have hg := hfirst.get
      simp at hg; subst hg
      rw [hup] at he; cases he
    | succ j => exact ⟨j, rfl⟩
  have hm : ms[j]? = some m := by simpa using hfirst.get
  have hbefore : ∀ j' mj, j' < j → ms[j']? = some mj → mj.find? p = none :=
    fun j' mj hj' hget => hfirst.before (j' + 1) mj (by omega) (by simpa using hget)
  -- `ensure_has_parent`
  have hE : pEnsureN (mu :: ms) (ds ++ [n]).dropLast = (.ok (), fillDirs mu (chain [] ds)) := by
    rw [List.dropLast_concat]; exact pEnsureN_ok hroot hds hanc
  have hp0 := find?_snoc_fillDirs (mu := mu) hds hn [] (Or.inl rfl)
  simp only [List.append_nil] at hp0
  have hm1 : (fillDirs mu (chain [] ds)).contains (marker p) = false := by
    rw [contains_marker_fillDirs hds hhead _ (C09.renderC_head _ hne)]; exact hmk
  obtain ⟨w1, hrun, hw1⟩ := run_oappendFile_copyUpN h (ds ++ [n]) hne hcs _ hE hup hm1
    (by rw [hp0]; exact hup)
    (parentOk_fillDirs_gen hroot.root hds hn (chain_dirs_of_ancN hanc)) j m hm hbefore e he hfile
  -- the copy-up left a file at the key; the session runs on it
  obtain ⟨e1, he1, hft1, _⟩ := find?_memPublish_self
    ((fillDirs mu (chain [] ds)).insert p fileEntryNow) p e.content fileEntryNow
    (FMap.find?_insert_self _ _ _) rfl
  obtain ⟨mu', hsess, ⟨e', he', hf', hc'⟩, hfr⟩ :=
    runActs_mem (i := u) (p := p) hw1.hu e1 he1 hft1 e.content e.content.length acts
  have hw' := hw1.setHead mu'
  have hmark : mu'.contains (marker p) = false := by
    rw [contains_eq_of_find ((hfr _ (marker_ne p)).trans ((find?_memPublish_ne _ _ _ _ (marker_ne p)).trans
      (FMap.find?_insert_ne _ _ _ _ (marker_ne p))))]
    exact hm1
  have hv : viewN (mu' :: ms.set j (m.insert p { e with accessed := .now })) p = some e' :=
    viewN_upper hmark he'
  obtain ⟨⟨w2, hopen⟩, hmeta⟩ := overlay_read_view hw' (ds ++ [n]) hne hcs e' hv hf' oid
  rw [hc'] at hopen
  refine ⟨_, mu', e', by omega, ?_, hw', ⟨e', he', hf', hc'⟩,
    set_same_up_to_access ms j m _ hm (insert_touch_same m p e he), hv, hf', hc', ⟨w2, hopen⟩,
    ⟨e'.meta, hmeta, by show e'.content.length = _; rw [hc'], hf'⟩⟩
  rw [Session.run_append, bind_run_ok (VPath.appendFile_of_call (p := P) hrun)]
  exact hsess

/-- `append_file` through the overlay on a path that the UPPER map holds as a file is the
`append_file` of the upper leaf: an open in the sense of `OpensMem`, in the same world -/
theorem append_upper_opens (cs : List Str) (hne : cs ≠ []) (hcs : ∀ c ∈ cs, GoodComp c)
    (old : Bytes) (hup : Holds mu (renderC cs) (some old)) (oid : Nat) :
    OpensMem (VPath.appendFile ⟨Overlay.fs (layersN (u :: is) (idu :: ids)), oid, renderC cs⟩)
      w u (renderC cs) old old.length w mu := by
  obtain ⟨e, he, hf, rfl⟩ := hup
  refine ⟨?_, h.hu, e, he, hf⟩
  have h1 := VPath.appendFile_of_call (p := ⟨leafFS u, idu, renderC cs⟩)
    ((appendFile_mem_iff h.hu _ _ _).2 ⟨rfl, e, he, hf, rfl⟩)
  rw [← oappendFileN_upper h cs hne hcs (contains_of_find he)] at h1
  exact VPath.appendFile_of_call
    (p := ⟨Overlay.fs (layersN (u :: is) (idu :: ids)), oid, renderC cs⟩) h1

/-- an append session through the overlay on a path that the UPPER map holds as a file: it is
the append session on the upper leaf — the bytes continue the upper bytes, the upper map changes
only at `p`, no lower map changes at all -/
theorem append_upperN (cs : List Str) (hne : cs ≠ []) (hcs : ∀ c ∈ cs, GoodComp c)
    (old : Bytes) (hup : Holds mu (renderC cs) (some old)) (oid : Nat) (acts : List Act) :
    let p := renderC cs
    let P : VPath := { fs := Overlay.fs (layersN (u :: is) (idu :: ids)), fsId := oid, path := p }
    ∃ mu', (Session.append acts).run P w = (.ok (), w.setLeafFiles u mu') ∧
      OWN (w.setLeafFiles u mu') (u :: is) (idu :: ids) (mu' :: ms) ∧
      Holds mu' p (some (specRun old old.length acts).1) ∧
      (∀ k, k ≠ p → mu'.find? k = mu.find? k) := by
  obtain ⟨mu', hrun, hh, hfr⟩ := (append_upper_opens h cs hne hcs old hup oid).session acts
  exact ⟨mu', hrun, h.setHead mu', hh, hfr⟩

theorem append_sessions_upperN (cs : List Str) (hne : cs ≠ []) (hcs : ∀ c ∈ cs, GoodComp c)
    (old : Bytes) (hup : Holds mu (renderC cs) (some old)) (oid : Nat) (scripts : List (List Act)) :
    let p := renderC cs
    let P : VPath := { fs := Overlay.fs (layersN (u :: is) (idu :: ids)), fsId := oid, path := p }
    ∃ mu', runSessions P (scripts.map Session.append) w = w.setLeafFiles u mu' ∧
      OWN (w.setLeafFiles u mu') (u :: is) (idu :: ids) (mu' :: ms) ∧
      Holds mu' p (specSessions (some old) (scripts.map Session.append)) ∧
      (∀ k, k ≠ p → mu'.find? k = mu.find? k) := by
  intro p P
  induction scripts generalizing w mu old with
  | nil =>
    refine ⟨mu, ?_, ?_, hup, fun _ _ => rfl⟩
    · exact h.hu.same.symm
    · rw [h.hu.same]; exact h
  | cons a rest ih =>
    obtain ⟨mu1, hrun1, hown1, hh1, hfr1⟩ := append_upperN h cs hne hcs old hup oid a
    obtain ⟨mu', hrun', hown', hh', hfr'⟩ := ih hown1 _ hh1
    rw [World.setLeafFiles_twice] at hrun' hown'
    refine ⟨mu', ?_, hown', hh', fun k hk => by rw [hfr' k hk, hfr1 k hk]⟩
    simp only [List.map_cons, runSessions]
    rw [show (Session.append a).run P w = _ from hrun1]
    exact hrun'

/-- **the copy-up session followed by any further append sessions**: under the hypotheses of
`append_continues_first_layerN`, the list of append sessions `acts :: scripts` through the
overlay ends with the upper map holding exactly what the specification gives for that list
started from the FIRST layer's bytes; the lower maps are as after the first session (layer `k`
access-stamped at `p`, everything else untouched). -/
theorem append_sessions_first_layerN (ds : List Str) (n : Str) (hds : ∀ c ∈ ds, GoodComp c)
    (hn : GoodComp n) (hroot : RootOk mu) (hanc : AncDirsN (mu :: ms) ds)
    (hhead : ds.head? ≠ some woDir)
    (hup : mu.find? (renderC (ds ++ [n])) = none)
    (hmk : mu.contains (marker (renderC (ds ++ [n]))) = false)
    (k : Nat) (m : FMap) (hfirst : FirstAt (mu :: ms) (renderC (ds ++ [n])) k m)
    (e : Entry) (he : m.find? (renderC (ds ++ [n])) = some e) (hfile : e.ftype = .file)
    (oid : Nat) (acts : List Act) (scripts : List (List Act)) :
    let p := renderC (ds ++ [n])
    let P : VPath := { fs := Overlay.fs (layersN (u :: is) (idu :: ids)), fsId := oid, path := p }
    let ss := (acts :: scripts).map Session.append
    ∃ mu',
      OWN (runSessions P ss w) (u :: is) (idu :: ids)
        (mu' :: ms.set (k - 1) (m.insert p { e with accessed := .now })) ∧
      Holds mu' p (specSessions (some e.content) ss) := by
  intro p P ss
  obtain ⟨w1, mu1, e1, _, hrun1, hown1, hh1, _⟩ :=
    append_continues_first_layerN h ds n hds hn hroot hanc hhead hup hmk k m hfirst e he hfile oid acts
  obtain ⟨mu', hrun', hown', hh', _⟩ :=
    append_sessions_upperN hown1 (ds ++ [n]) (by simp) (good_snoc hds hn) _ hh1 oid scripts
  refine ⟨mu', ?_, hh'⟩
  show OWN (runSessions P (Session.append acts :: scripts.map Session.append) w) _ _ _
  simp only [runSessions]
  rw [show (Session.append acts).run P w = _ from hrun1]
  rw [show runSessions P (scripts.map Session.append) w1 = _ from hrun']
  exact hown'

end settingN

/-! ### non-vacuity: the 3-layer world of Props/C09N.lean (leaves in the order 2, 0, 1)

upper (leaf 2): "/d", "/d/a", the marker of "/d/h";
layer 1 (leaf 0): "/d/x" = "1" (byte 49);   layer 2 (leaf 1): "/d/x" = "2" (byte 50).
An append session on "/d/x" through the overlay must continue the "1" of layer 1. -/

section examples
open Vfs.C09 (w3 ofs3 m3u m3a m3b w3_setting fileOf)

/-- append one byte, seek to the start and overwrite the first byte, flush, seek two past the
end, write one byte (zero-fill) -/
def exActs : List Act :=
  [.write [65], .seek (.start 0), .write [66], .flush, .seek (.fromEnd 2), .write [67]]

def exP3 : VPath := { fs := ofs3, fsId := 42, path := "/d/x".toList }

example : (specRun [49] 1 exActs).1 = [66, 65, 0, 0, 67] := by decide

/-- the world after the session: the bytes sit in the upper leaf (leaf 2); the lower leaves hold
what they held (the access stamp on "/d/x" of leaf 0 does not show: `fileOf` entries carry it) -/
def exW3 : World :=
  { leaves := [{ kind := .mem, files := m3a }, { kind := .mem, files := m3b },
               { kind := .mem, files := ("/d/x".toList, fileOf [66, 65, 0, 0, 67]) :: m3u }] }

theorem ex_run : (Session.append exActs).run exP3 w3 = (.ok (), exW3) :=
  run_eq_of_fields (by decide +kernel)

example : ((Session.append exActs).run exP3 w3).1 = .ok () := by rw [ex_run]
example : (exP3.openFile ((Session.append exActs).run exP3 w3).2).1
    = .ok { content := [66, 65, 0, 0, 67], pos := 0 } := by rw [ex_run]; decide +kernel
example : ((exP3.metadata ((Session.append exActs).run exP3 w3).2).1.map fun md => md.len)
    = .ok 5 := by rw [ex_run]; decide +kernel
/-- the bytes sit in the upper leaf (leaf 2); layer 1 (leaf 0) still holds "1" at "/d/x" (only its
access time was stamped); layer 2 (leaf 1) is untouched and still holds "2" -/
example : ((((Session.append exActs).run exP3 w3).2.leaf? 2).bind fun l =>
      (l.files.find? "/d/x".toList).map (·.content)) = some [66, 65, 0, 0, 67] := by
  rw [ex_run]; decide
example : ((((Session.append exActs).run exP3 w3).2.leaf? 0).bind fun l =>
      (l.files.find? "/d/x".toList).map stripAcc) = some (stripAcc (fileOf [49])) := by
  rw [ex_run]; decide
example : ((Session.append exActs).run exP3 w3).2.leaf? 1 = some { kind := .mem, files := m3b } := by
  rw [ex_run]; rfl
/-- a second append session continues the upper copy -/
example : (exP3.openFile (runSessions exP3 [.append exActs, .append [.write [68]]] w3)).1
    = .ok { content := [66, 65, 0, 0, 67, 68], pos := 0 } := by
  rw [runSessions, ex_run]; decide +kernel

/-- the hypotheses of `append_continues_first_layerN` hold in that world, so the theorem applies:
layer 1 is the first holder of "/d/x", layer 2 holds other bytes for it -/
theorem ex_first : FirstAt [m3u, m3a, m3b] (renderC (["d".toList] ++ ["x".toList])) 1 m3a := by
  refine ⟨rfl, by decide +kernel, ?_⟩
  intro j mj hj hget
  have : j = 0 := by omega
  subst this
  simp only [List.getElem?_cons_zero, Option.some.injEq] at hget
  subst hget
  decide +kernel

example : (m3b.find? (renderC (["d".toList] ++ ["x".toList]))).map (·.content) = some [50] := by decide

example : ∃ (w' : World) (mu' : FMap),
    (Session.append exActs).run
      { fs := Overlay.fs (layersN [2, 0, 1] [7, 8, 9]), fsId := 42,
        path := renderC (["d".toList] ++ ["x".toList]) } w3 = (.ok (), w') ∧
    OWN w' [2, 0, 1] [7, 8, 9]
      (mu' :: [m3a, m3b].set (1 - 1) (m3a.insert (renderC (["d".toList] ++ ["x".toList]))
        { fileOf [49] with accessed := .now })) ∧
    Holds mu' (renderC (["d".toList] ++ ["x".toList])) (some (specRun [49] 1 exActs).1) ∧ True := by
  obtain ⟨w', mu', e', _, h2, h3, h4, _⟩ :=
    append_continues_first_layerN w3_setting ["d".toList] "x".toList (by decide +kernel)
      (by decide +kernel)
      ⟨⟨dirEntryNow, by decide +kernel, rfl⟩, by decide +kernel⟩
      (by
        intro j h1 h2
        have : j = 1 := by simp at h2; omega
        subst this
        exact ⟨dirEntryNow, by decide +kernel, rfl⟩)
      (by decide +kernel) (by decide +kernel) (by decide +kernel) 1 m3a ex_first (fileOf [49])
      (by decide +kernel) rfl 42 exActs
  exact ⟨w', mu', h2, h3, h4, trivial⟩

end examples

end Vfs.C04
