/-
  C13 (termination) for the PHYSICAL leaf model — fuel adequacy of the recursive `VfsPath`
  operations (`walk_dir`, `remove_dir_all`, `copy_dir`, `move_dir`) over `leafFS i` when leaf `i`
  is a physical leaf (`PhysLeafAt w i m`: the POSIX tree `m` of Leaf.lean, `Phys.*`).
  Props/C13.lean proves for every backend "a `.panic` of these functions can only be the
  out-of-fuel sentinel"; Props/C13Term.lean proves for the MEMORY leaf that the sentinel is
  unreachable with explicit fuel. This file does the latter for the physical leaf.

  Method. Not by the memory/physical simulation: the class simulation (Proofs/ClassSim*.lean,
  Props/C02Iter.lean) does not cover the operations that iterate over listings. Instead:
   * walk: the physical leaf is a `TreeView` (Proofs/WalkGeneric.lean) — `phys_treeView`;
   * remove_dir_all: the predicate `RemoveDirAllOut` of Proofs/NoPanic.lean ("the run reaches the
     `0 =>` branch"; Props/C13.lean derives it from a `.panic`: `removeDirAll_panic_is_fuel`) is
     refuted by a key-length argument (`phys_removeDirAllOut_false`);
   * copy_dir / move_dir: `CopyItemsOut` (Proofs/NoPanic.lean, `copyItems_panic_is_fuel`) is refuted by a counting argument over a source that shows
     one tree on the keys the walk visits, in every world the loop passes through
     (`copyItemsOut_false_on`; with `walk_dir`'s start in front: `walk_copyItemsOut_false_on`): a
     whole tree view whose world stays in a set `S` (`copyItemsOut_false`), or, within one
     filesystem, the source map itself seen at and below the source while the map changes elsewhere
     (`phys_copy_dir_terminates_same`).

  `WF m`, `NodupKeys m` as in Props/C13Term.lean; `descCount m p` = number of keys strictly
  below `p`.
   * `phys_walk_terminates` (hyp: PhysLeafAt, WF, NodupKeys; ANY path string): directory and
     fuel > descCount ⇒ `.ok` list of `.ok` items; any fuel > descCount (or fuel = m.length) ⇒
     not the sentinel; sentinel IFF directory ∧ fuel ≤ descCount (exact bound); world unchanged.
     `phys_walk_spec` (exactly the entries below `p`, each once, ancestors first),
     `phys_walk_short`, `phys_walk_not_dir` (file / absent / below a file ⇒ an error).
   * `phys_remove_dir_all_terminates` (hyp: PhysLeafAt ONLY — no well-formedness —, fuel ≥ 1,
     `|k| < |p| + fuel` for every key): never `.panic`, ANY path string (root included).
     `…_fuel` (fuel > longest key), `…_keyFuel` (computed fuel `keyFuel m`).
   * `phys_copy_dir_terminates_two`, `phys_move_dir_terminates_two`: source on a physical leaf
     `i` (WF, NodupKeys), destination on ANY other leaf `j` that exists (memory or physical, any
     content, any destination string, no canonicity), `sid ≠ did`; fuel > descCount ms S (move:
     also `|k| < |S| + fuel` for the final remove_dir_all): never `.panic`, EVERY kind of source.
   * `phys_copy_dir_terminates_same` / `…_same_canon`: source and destination on the SAME
     physical leaf with the same `Arc` (fast path `std::fs::copy` per file): '/' ∈ D, `D` not at or
     below `S`, `D` not a proper ancestor of `S`, relative parts joined unchanged (canonical keys),
     fuel > descCount ms S: never `.panic`.
   * `move_dir` within ONE physical filesystem (`phys_move_dir_same_stmt`, stated at the end):
     there the fast path `std::fs::rename` answers; when it fails the generic route fails before
     its loop (`create_dir` of the destination or `walk_dir` of the source) —
     Props/C13PhysMove.lean, `phys_move_dir_same_holds`.
  A `.panic` for a reason other than fuel is excluded by `C13.phys_total`, `C13.leaf_no_panic`
  and `C13.*_panic_is_fuel`; the `unwrap`s of physical.rs are not reachable in the model
  (non-UTF-8 names are outside it).

  NOT PROVED
   * same leaf with DIFFERENT `Arc` identities (two `PhysicalFS` values over one directory): the
     generic open/create/write route with a live write handle on the walked leaf.
   * altroot over a PHYSICAL leaf (altroot over a memory leaf: Props/C13Altroot.lean): the
     subtree simulation `AltSub` / `leafFS_sim_root` is stated for memory leaves only.
   * that `under S D = false` is NECESSARY on the physical model (copy_dir into the own subtree;
     for memory: `C13.copyDir_into_own_subtree_diverges`).
   * the remove_dir_all bound is sufficient, not exact (key lengths bound the nesting depth).
-/
import VfsModel.Props.C13Term
import VfsModel.Proofs.WalkGeneric
import VfsModel.Proofs.PhysPath
namespace Vfs.C13
open Vfs.C05 (walkCollect descCount okItems)
open Vfs.Wk (mk below Good pending)
open Vfs.WkG

section run
variable {w : World} {i : Nat} {m : FMap} (h : PhysLeafAt w i m)
include h

theorem prun_readDir (p : Str) : (leafFS i).readDir p w = (Phys.readDir m p, w) :=
  LeafAt.readDir_eq h p

theorem prun_metadata (p : Str) : (leafFS i).metadata p w = (Phys.metadata m p, w) :=
  LeafAt.metadata_eq h p

theorem prun_removeFile (p : Str) :
    (leafFS i).removeFile p w = ((Phys.removeFile m p).1, w.setLeafFiles i (Phys.removeFile m p).2) :=
  LeafAt.removeFile_eq h p

theorem prun_removeDir (p : Str) :
    (leafFS i).removeDir p w = ((Phys.removeDir m p).1, w.setLeafFiles i (Phys.removeDir m p).2) :=
  LeafAt.removeDir_eq h p

theorem phys_walk_of_readDir_err (id : Nat) (p : Str) (fuel : Nat) {k : ErrKind} {pth : Option Str}
    (hr : Phys.readDir m p = .err k pth) :
    VPath.walkDir (mk i id p) w = (.err k (some p), w) ∧
      walkCollect fuel (mk i id p) w = (.err k (some p), w) :=
  collect_readDir_err fuel (mk i id p) w w k pth (by
    show (leafFS i).readDir p w = _
    rw [prun_readDir h p, hr])

end run

theorem Phys.readDir_dir {m : FMap} (hwf : WF m) (p : Str) (e : Entry) (hp : m.find? p = some e)
    (hd : e.ftype = .dir) : Phys.readDir m p = .ok (m.keys.filterMap (childName p)) := by
  unfold Phys.readDir
  rw [hwf.lookup_present p e hp]
  simp [hd, Phys.children]

theorem Phys.readDir_file {m : FMap} (hwf : WF m) (p : Str) (e : Entry) (hp : m.find? p = some e)
    (hd : e.ftype = .file) : Phys.readDir m p = .err .io none := by
  unfold Phys.readDir
  rw [hwf.lookup_present p e hp]
  simp [hd, fail]

theorem Phys.metadata_present {m : FMap} (hwf : WF m) (p : Str) (e : Entry)
    (hp : m.find? p = some e) :
    ∃ md, Phys.metadata m p = .ok md ∧ md.ftype = e.ftype := by
  unfold Phys.metadata
  rw [hwf.lookup_present p e hp]
  exact ⟨_, rfl, rfl⟩

/-- an absent path: the host answers an error to `read_dir` (`ENOENT` or `ENOTDIR`) -/
theorem Phys.readDir_absent (m : FMap) (p : Str) (hp : m.find? p = none) :
    ∃ k pth, Phys.readDir m p = .err k pth := by
  unfold Phys.readDir
  rcases Phys.lookup_cases m p with h | ⟨k, h, _⟩
  · rw [h, hp]
    exact ⟨_, _, rfl⟩
  · rw [h]
    exact ⟨k, none, rfl⟩

theorem phys_treeViewOn (i : Nat) {m : FMap} (hwf : WF m) (hk : FMap.NodupKeys m)
    {S : World → Prop} (hS : ∀ w, S w → PhysLeafAt w i m) : TreeViewOn (leafFS i) S m.find? :=
  C05.leaf_treeViewOn i .phys hwf hk hS

section walk
variable {w : World} {i : Nat} {m : FMap} (h : PhysLeafAt w i m) (hwf : WF m)
  (hk : FMap.NodupKeys m)
include h hwf hk

/-- **PhysicalFS shows the tree of its map** (on a well-formed tree with unique keys):
`C05.leaf_treeView` at a physical leaf. `C18.phys_treeView` (Props/C18Phys.lean, which does not
import this file) is the same instance, stated with its own `C18.PhysLeafAt`. -/
theorem phys_treeView : TreeView (leafFS i) w m.find? :=
  C05.leaf_treeView (kd := .phys) h hwf hk

/-- **`walk_dir` on the physical leaf, exact.** From a directory `p`, with more fuel than there are
entries strictly below `p`: an `.ok` list of `.ok` items — exactly the entries strictly below `p`,
each once, no entry before one of its ancestors — and the world is unchanged. -/
theorem phys_walk_spec (id : Nat) (p : Str) (e : Entry) (hp : m.find? p = some e)
    (hd : e.ftype = .dir) (fuel : Nat) (hf : descCount m p < fuel) :
    ∃ L : List Str, walkCollect fuel (mk i id p) w = (.ok (okItems i id L), w) ∧
      (∀ k, k ∈ L ↔ k ∈ m.keys ∧ below p k = true) ∧ L.Nodup ∧
      L.Pairwise (fun a b => below b a = false) :=
  C05.leaf_walk_spec (kd := .phys) h hwf hk id p e hp hd fuel hf

/-- … and with no more fuel than entries below `p` the outcome is the sentinel: the bound is exact -/
theorem phys_walk_short (id : Nat) (p : Str) (e : Entry) (hp : m.find? p = some e)
    (hd : e.ftype = .dir) (fuel : Nat) (hf : fuel ≤ descCount m p) :
    walkCollect fuel (mk i id p) w = (.panic, w) :=
  (C05.leaf_walk_of (kd := .phys) h hwf hk id p e hp hd fuel).2 hf

omit hk in
theorem phys_walk_not_dir' (id : Nat) (p : Str) (hnd : ¬ IsDirOf m p) (fuel : Nat) :
    ∃ k, VPath.walkDir (mk i id p) w = (.err k (some p), w) ∧
      walkCollect fuel (mk i id p) w = (.err k (some p), w) := by
  obtain ⟨k, pth, w', hrd, rfl⟩ := C05.leaf_refuses (kd := .phys) h hwf w rfl p trivial
    (fun e he hd => hnd ⟨e, he, hd⟩)
  exact ⟨k, collect_readDir_err fuel (mk i id p) w' w' k pth hrd⟩

omit hk in
/-- `walk_dir` on a path that is not a directory (a file, or absent — below a file included):
an error with the path filled in, world unchanged, any fuel -/
theorem phys_walk_not_dir (id : Nat) (p : Str) (hnd : ¬ IsDirOf m p) (fuel : Nat) :
    ∃ k, walkCollect fuel (mk i id p) w = (.err k (some p), w) :=
  (phys_walk_not_dir' h hwf id p hnd fuel).imp (fun _ hk' => hk'.2)

omit hk in
theorem phys_walkDir_ok_dir (id : Nat) (p : Str) {s : VPath.Walk} {w' : World}
    (hwalk : VPath.walkDir (mk i id p) w = (.ok s, w')) : IsDirOf m p := by
  apply Classical.byContradiction
  intro hnd
  obtain ⟨k, hk', _⟩ := phys_walk_not_dir' h hwf id p hnd 0
  rw [hk'] at hwalk
  cases hwalk

/-- **`phys_walk_terminates`**: on a physical leaf with a well-formed tree, the collected
`walk_dir` from ANY path `p` with fuel above the number of entries below `p` is not the sentinel:
from a directory it is an `.ok` list of `.ok` items; otherwise an error. (1) fuel = number of
entries is enough; (2) the sentinel is the outcome IFF `p` is a directory and
fuel ≤ #descendants; (3) the world is unchanged. -/
theorem phys_walk_terminates (id : Nat) (p : Str) :
    (∀ fuel, descCount m p < fuel → IsDirOf m p →
      ∃ L : List Str, walkCollect fuel (mk i id p) w = (.ok (okItems i id L), w)) ∧
    (∀ fuel, descCount m p < fuel → (walkCollect fuel (mk i id p) w).1 ≠ .panic) ∧
    (walkCollect m.length (mk i id p) w).1 ≠ .panic ∧
    (∀ fuel, (walkCollect fuel (mk i id p) w).1 = .panic ↔ IsDirOf m p ∧ fuel ≤ descCount m p) ∧
    (∀ fuel, (walkCollect fuel (mk i id p) w).2 = w) := by
  have hs := C05.leaf_walk_sentinel (kd := .phys) h hwf hk id p
  have h2 : ∀ fuel, descCount m p < fuel → (walkCollect fuel (mk i id p) w).1 ≠ .panic :=
    fun fuel hf hpan => absurd ((hs fuel).1.1 hpan).2 (by omega)
  refine ⟨fun fuel hf ⟨e, he, hdir⟩ => ?_, h2, h2 _ (descCount_lt_length_any hwf p),
    fun fuel => (hs fuel).1, fun fuel => (hs fuel).2⟩
  obtain ⟨L, hr, _⟩ := phys_walk_spec h hwf hk id p e he hdir fuel hf
  exact ⟨L, hr⟩

end walk

def PhysBound (i B : Nat) (w : World) : Prop :=
  ∃ m, PhysLeafAt w i m ∧ ∀ k e, m.find? k = some e → k.length < B

theorem physBound_onLeaf {α} (i B : Nat) (f : Leaf → Res α × FMap)
    (hf : ∀ m k e, (f { kind := .phys, files := m }).2.find? k = some e → ∃ e', m.find? k = some e') :
    Preserves (PhysBound i B) (onLeaf i f) := by
  refine ⟨fun w hw => ?_⟩
  obtain ⟨m, hm, hb⟩ := hw
  rw [run_onLeaf_phys hm]
  refine ⟨_, hm.set _, fun k e hk => ?_⟩
  obtain ⟨e', he'⟩ := hf m k e hk
  exact hb k e' he'

theorem Phys.removeFile_keys (m : FMap) (p k : Str) (e : Entry)
    (h : (Phys.removeFile m p).2.find? k = some e) : ∃ e', m.find? k = some e' := by
  rw [Phys.removeFile_eq] at h
  exact ⟨e, Write.find?_app_sub (Phys.removeFileS_noput _) h⟩

theorem Phys.removeDir_keys (m : FMap) (p k : Str) (e : Entry)
    (h : (Phys.removeDir m p).2.find? k = some e) : ∃ e', m.find? k = some e' := by
  rw [Phys.removeDir_eq] at h
  exact ⟨e, Write.find?_app_sub (Phys.removeDirS_noput _ _) h⟩

theorem pres_run {α} {I : World → Prop} {m : M α} (h : Preserves I m) {w w' : World} {r : Res α}
    (hw : I w) (hrun : m w = (r, w')) : I w' := by
  have := h.pres w hw
  rw [hrun] at this
  exact this

structure RmPreserve (I : World → Prop) (fs : FS) : Prop where
  obs : fs.ObsPreserve I
  removeFile : ∀ p, Preserves I (fs.removeFile p)
  removeDir : ∀ p, Preserves I (fs.removeDir p)

theorem leaf_rmPreserve (i B : Nat) : RmPreserve (PhysBound i B) (leafFS i) where
  obs := by
    refine ⟨fun p => ?_, fun p => ?_, fun p => ?_, fun p => ?_⟩ <;>
    · refine physBound_onLeaf i B _ (fun m k e hk => ?_)
      exact ⟨e, hk⟩
  removeFile := fun p => physBound_onLeaf i B _ (fun m k e hk => Phys.removeFile_keys m p k e hk)
  removeDir := fun p => physBound_onLeaf i B _ (fun m k e hk => Phys.removeDir_keys m p k e hk)

theorem RmPreserve.rm {I : World → Prop} {fs : FS} (h : RmPreserve I fs) :
    (Spec.preserves I).Rm fs :=
  ⟨h.obs.sat, fun p => (h.removeFile p).sat, fun p => (h.removeDir p).sat⟩

theorem pres_removeDirAll' {I : World → Prop} (fuel : Nat) (p : VPath) (h : RmPreserve I p.fs) :
    Preserves I (VPath.removeDirAll fuel p) :=
  .of_sat (VPath.sat_removeDirAll fuel p h.rm)

theorem pres_removeChildren' {I : World → Prop} (fuel : Nat) (l : List VPath)
    (h : ∀ c ∈ l, RmPreserve I c.fs) : Preserves I (VPath.removeChildren fuel l) :=
  .of_sat (VPath.sat_removeChildren_of fuel l (fun c hc => (h c hc).rm)
    (fun c hc => VPath.sat_removeDirAll fuel c (h c hc).rm))

theorem physEq_obs {w : World} {i : Nat} {m : FMap} (h : PhysLeafAt w i m) :
    (leafFS i).ObsPreserve (fun w' => w' = w) := by
  have key : ∀ {α} (f : Leaf → Res α × FMap), (f { kind := .phys, files := m }).2 = m →
      Preserves (fun w' => w' = w) (onLeaf i f) := by
    intro α f hf
    refine ⟨fun w' hw' => ?_⟩
    subst hw'
    rw [run_onLeaf_phys h, hf]
    exact World.setLeafFiles_self w' i _ h
  exact ⟨fun _ => key _ rfl, fun _ => key _ rfl, fun _ => key _ rfl, fun _ => key _ rfl⟩

theorem phys_metadata_ok {w w1 : World} {i : Nat} {m : FMap} (h : PhysLeafAt w i m) (id : Nat)
    (p : Str) (md : Meta) (hmd : (mk i id p).metadata w = (.ok md, w1)) :
    w1 = w ∧ ∃ e, m.find? p = some e := by
  rw [VPath.metadata_of_call (p := mk i id p) (prun_metadata h p)] at hmd
  have hw : w1 = w := (congrArg Prod.snd hmd).symm
  refine ⟨hw, ?_⟩
  have hr : (Phys.metadata m p).withPath p = .ok md := congrArg Prod.fst hmd
  unfold Phys.metadata at hr
  rcases Phys.lookup_cases m p with hl | ⟨k, hl, _⟩
  · rw [hl] at hr
    cases hf : m.find? p with
    | none => rw [hf] at hr; simp [fail, Res.withPath] at hr
    | some e => exact ⟨e, rfl⟩
  · rw [hl] at hr; simp [Res.withPath] at hr

section remove
variable {i : Nat} (id : Nat)

theorem phys_childrenOut_false (fuel : Nat) (p : Str)
    (ih : ∀ (c : Str) (w : World) (m : FMap), PhysLeafAt w i m →
      (∀ k e, m.find? k = some e → k.length < c.length + fuel) → (∃ e, m.find? c = some e) →
      ¬ VPath.RemoveDirAllOut fuel (mk i id c) w) :
    ∀ (l : List VPath) (w : World), (∀ c ∈ l, ∃ n, c = mk i id (p ++ '/' :: n)) →
      PhysBound i (p.length + fuel + 1) w →
      ¬ VPath.ChildrenOut (VPath.removeDirAll fuel) (VPath.RemoveDirAllOut fuel) l w := by
  intro l
  induction l with
  | nil => intro w _ _ hc; exact hc
  | cons c rest ihl =>
    intro w hl hJ hc
    obtain ⟨n, rfl⟩ := hl c (by simp)
    have hl' : ∀ c ∈ rest, ∃ n, c = mk i id (p ++ '/' :: n) := fun x hx => hl x (by simp [hx])
    unfold VPath.ChildrenOut at hc
    obtain ⟨md, w1, hmd, hcase⟩ := hc
    obtain ⟨m, hm, hb⟩ := hJ
    obtain ⟨hw1, hpres⟩ := phys_metadata_ok hm id _ md hmd
    subst hw1
    have hJ1 : PhysBound i (p.length + fuel + 1) w1 := ⟨m, hm, hb⟩
    rcases hcase with ⟨_, hR⟩ | ⟨_, w2, hact, hrest⟩ | ⟨_, w2, hact, hrest⟩
    · refine ih _ w1 m hm (fun k e hk => ?_) hpres hR
      have := hb k e hk
      simp only [List.length_append, List.length_cons]
      omega
    · exact ihl w2 hl' (pres_run (pres_removeDirAll' fuel (mk i id (p ++ '/' :: n))
        (leaf_rmPreserve i (p.length + fuel + 1))) hJ1 hact) hrest
    · have hrm : Preserves (PhysBound i (p.length + fuel + 1))
          (VPath.removeFile (mk i id (p ++ '/' :: n))) :=
        Preserves.withPath _ ((leaf_rmPreserve i (p.length + fuel + 1)).removeFile _)
      exact ihl w2 hl' (pres_run hrm hJ1 hact) hrest

theorem phys_removeDirAllOut_false : ∀ (fuel : Nat) (p : Str) (w : World) (m : FMap),
    PhysLeafAt w i m → (∀ k e, m.find? k = some e → k.length < p.length + fuel) →
    (∃ e, m.find? p = some e) → ¬ VPath.RemoveDirAllOut fuel (mk i id p) w := by
  intro fuel
  induction fuel with
  | zero =>
    intro p w m hm hb ⟨e, he⟩ _
    have := hb p e he
    omega
  | succ fuel ih =>
    intro p w m hm hb hp hout
    unfold VPath.RemoveDirAllOut at hout
    obtain ⟨w1, children, w2, hex, hrd, hco⟩ := hout
    -- `exists` and `read_dir` leave the world as it is; the children are the paths `p/n`
    have hw1 : w1 = w := pres_run (VPath.pres_exists (mk i id p) (physEq_obs hm)) rfl hex
    subst hw1
    have hw2 : w2 = w1 := pres_run (VPath.pres_readDir (mk i id p) (physEq_obs hm)) rfl hrd
    subst hw2
    have hrd1 : (VPath.readDir (mk i id p) w2).1 = .ok children := by rw [hrd]
    refine phys_childrenOut_false id fuel p ih children w2 ?_ ⟨m, hm, fun k e hk => ?_⟩ hco
    · intro c hc
      obtain ⟨n, hn⟩ := (VPath.readDir_children (mk i id p)).post w2 children hrd1 c hc
      obtain ⟨hfs, hid⟩ := (VPath.readDir_fs (mk i id p)).post w2 children hrd1 c hc
      refine ⟨n, ?_⟩
      cases c
      cases hn
      cases hfs
      cases hid
      rfl
    · have := hb k e hk
      omega

/-- **`phys_remove_dir_all_terminates`**: on a physical leaf — ANY map (well-formedness is not
needed), ANY path string `p` (absent, file, directory, root, below a file) — with fuel ≥ 1 and
`|k| < |p| + fuel` for every key `k` (the bound of `C13.removeDirAll_never_panics` for the memory
leaf: it bounds the nesting depth below `p`), `remove_dir_all` returns `.ok` or `.err`, never
`.panic`: the recursion terminates. -/
theorem phys_remove_dir_all_terminates {w : World} {m : FMap} (h : PhysLeafAt w i m)
    (fuel : Nat) (p : Str) (hf0 : 0 < fuel)
    (hfuel : ∀ k e, m.find? k = some e → k.length < p.length + fuel) :
    (VPath.removeDirAll fuel (mk i id p) w).1 ≠ .panic := by
  intro hpan
  have hle : LeafExists i w := by
    unfold LeafExists; unfold PhysLeafAt at h; rw [h]; simp
  have hout := removeDirAll_panic_is_fuel fuel (mk i id p) (leaf_no_panic i) w hle hpan
  cases hp : m.find? p with
  | some e => exact phys_removeDirAllOut_false id fuel p w m h hfuel ⟨e, hp⟩ hout
  | none =>
    obtain ⟨f, rfl⟩ : ∃ f, fuel = f + 1 := ⟨fuel - 1, by omega⟩
    exact removeDirAll_missing f (mk i id p) w
      (congrArg Prod.fst (LeafAt.vexists_absent h id hp)) hout

theorem phys_remove_dir_all_terminates_fuel {w : World} {m : FMap} (h : PhysLeafAt w i m)
    (fuel : Nat) (p : Str) (hf0 : 0 < fuel) (hfuel : ∀ k e, m.find? k = some e → k.length < fuel) :
    (VPath.removeDirAll fuel (mk i id p) w).1 ≠ .panic :=
  phys_remove_dir_all_terminates id h fuel p hf0 (fun k e hk => by have := hfuel k e hk; omega)

theorem phys_remove_dir_all_terminates_keyFuel {w : World} {m : FMap} (h : PhysLeafAt w i m)
    (p : Str) : (VPath.removeDirAll (keyFuel m) (mk i id p) w).1 ≠ .panic :=
  phys_remove_dir_all_terminates_fuel id h (keyFuel m) p (by unfold keyFuel; omega) (keyFuel_bound m)

theorem ok_or_err_of_ne_panic {α} {r : Res α} (h : r ≠ .panic) :
    (∃ a, r = .ok a) ∨ (∃ k pth, r = .err k pth) := by
  cases r with
  | ok a => exact Or.inl ⟨a, rfl⟩
  | err k pth => exact Or.inr ⟨k, pth, rfl⟩
  | panic => exact absurd rfl h

end remove

/-! The loop of `copy_dir` / `move_dir` interleaves the walk over the source with writes to the
destination. If the writes keep the world inside a set `S` of worlds in which the source
filesystem shows ONE finite well-formed tree `m` (`TreeViewOn`), the number of keys still pending
in the walk drops with every item, so the loop cannot take `fuel` steps. -/

theorem relJoin_fs {dst : VPath} {n : Nat} {x d : VPath} (h : VPath.relJoin dst n x = .ok d) :
    d.fs = dst.fs ∧ d.fsId = dst.fsId :=
  (VPath.relJoin_fs dst n x).post default d h

section generic
variable {S : World → Prop} {m : FMap} {src dst : VPath}

/-- **the copy loop over a walked tree cannot take `fuel` successful rounds** when `fuel` exceeds the
number of keys pending. The source shows ONE tree `m` on a descendant-closed `Dom` in every world
of `J`, whatever happens elsewhere (the destination may be on the same filesystem), and a
successful round keeps `J`. -/
theorem copyItemsOut_false_on {Dom : Str → Prop} {J : World → Prop} (hwf : WF m)
    (hdown : Down Dom) (hs : SeesOn src m Dom J)
    (hstep : ∀ w x d w3, J w → Dom x → (∃ e, m.find? x = some e) →
      VPath.relJoin dst src.path.length (src.withStr x) = .ok d →
      (d.createDir w = (.ok (), w3) ∨ (src.withStr x).copyFile d w = (.ok (), w3)) → J w3) :
    ∀ (fuel : Nat) (inner todo : List Str) (w : World), J w → Good m inner todo →
      In Dom inner todo → (m.keys.filter (pending inner todo)).length < fuel →
      ¬ VPath.CopyItemsOut src dst fuel (st src inner todo) w := by
  intro fuel
  induction fuel with
  | zero => intro inner todo w _ _ _ hf; omega
  | succ fuel ih =>
    intro inner todo w hw hg hl hf hout
    unfold VPath.CopyItemsOut at hout
    obtain ⟨x, s', w1, d, md, w2, w3, hnext, hrj, hmd, hcase, hrest⟩ := hout
    rcases walkNext_sees hwf hdown hs todo inner w hw hg hl with
      ⟨w1', hS1, h1, h2⟩ |
      ⟨x0, inner', todo', w1', hS1, h1, h2, hloc, hDx, ⟨e0, he0⟩, h4, h5, h6, -⟩
    · rw [h1] at hnext
      cases hnext
    · rw [hnext] at h1
      cases h1
      obtain ⟨md', w2', hS2, hmd', _⟩ := hs.mdata w1 hS1 x0 e0 hDx he0
      rw [hmd] at hmd'
      cases hmd'
      have hJ3 := hstep w2 x0 d w3 hS2 hDx ⟨e0, he0⟩ hrj (hcase.imp (fun h => h.2) (fun h => h.2))
      -- exactly `x0` leaves the pending set
      have hpx : pending inner todo x0 = true := by rw [h5 x0 ⟨e0, he0⟩]; simp
      have hlt := Wk.filter_length_lt _ _ _ x0 ((FMap.mem_keys_iff m x0).2 ⟨e0, he0⟩) hpx h4
        (fun k hk' hp => by rw [h5 k ((FMap.mem_keys_iff m k).1 hk'), hp]; simp)
      exact ih inner' todo' w3 hJ3 h2 hloc (by omega) hrest

/-- a source that shows the whole tree in every world of `S`, per-item writes that keep `S` -/
theorem copyItemsOut_false (tv : TreeViewOn src.fs S m.find?) (hwf : WF m)
    (hstep : ∀ (x : Str) (d : VPath), d.fs = dst.fs → d.fsId = dst.fsId →
      Preserves S d.createDir ∧ Preserves S ((src.withStr x).copyFile d)) :
    ∀ (fuel : Nat) (inner todo : List Str) (w : World), S w → Good m inner todo →
      (m.keys.filter (pending inner todo)).length < fuel →
      ¬ VPath.CopyItemsOut src dst fuel (st src inner todo) w := by
  intro fuel inner todo w hw hg hf
  refine copyItemsOut_false_on hwf down_all (SeesOn.of_treeView tv _)
    (fun w x d w3 hV _ _ hrj hcase => ?_) fuel inner todo w hw hg
    ⟨fun _ _ => trivial, fun _ _ => trivial⟩ hf
  obtain ⟨hdfs, hdid⟩ := relJoin_fs hrj
  obtain ⟨hp1, hp2⟩ := hstep x d hdfs hdid
  exact hcase.elim (pres_run hp1 hV) (pres_run hp2 hV)

/-- `walk_dir` of the source, then the loop: the source shows the tree `m` at and below its own
path in every world of `J`, the loop takes fewer rounds than `m` has keys below that path -/
theorem walk_copyItemsOut_false_on {J : World → Prop} (hwf : WF m)
    (hs : SeesOn src m (fun k => Wk.within src.path k = true) J)
    (hstep : ∀ w x d w3, J w → below src.path x = true → (∃ e, m.find? x = some e) →
      VPath.relJoin dst src.path.length (src.withStr x) = .ok d →
      (d.createDir w = (.ok (), w3) ∨ (src.withStr x).copyFile d w = (.ok (), w3)) → J w3)
    (e : Entry) (hp : m.find? src.path = some e) (hd : e.ftype = .dir)
    (fuel : Nat) (hf : descCount m src.path < fuel) (w : World) (hw : J w) (s : VPath.Walk)
    (w3 : World) (hwalk : src.walkDir w = (.ok s, w3)) :
    ¬ VPath.CopyItemsOut src dst fuel s w3 := by
  obtain ⟨l, w', hJ', hl, hrd⟩ := hs.listing w hw src.path e (Wk.within_self _) hp hd
  have hwd : src.walkDir w = (.ok (st src l []), w') := walkDir_of (P := src) hrd
  rw [hwd] at hwalk
  cases hwalk
  obtain ⟨g1, g2⟩ := start_good' hwf src.path e hp hd hl
  have hfilt : m.keys.filter (pending l []) = m.keys.filter (below src.path) :=
    List.filter_congr (fun k hk' => g2 k ((FMap.mem_keys_iff m k).1 hk'))
  exact copyItemsOut_false_on hwf (down_below src.path)
    ⟨fun w hw x e hx => hs.mdata w hw x e (Wk.within_of_below hx),
      fun w hw d e hd' => hs.listing w hw d e (Wk.within_of_below hd')⟩
    hstep fuel l [] _ hJ' g1
    ⟨fun x hx => Wk.child_below ((hl.2 x).1 hx), fun _ h => (nomatch h)⟩ (by rw [hfilt]; exact hf)

end generic

theorem fsId_walkClosed (fs : FS) (sid : Nat) :
    VPath.WalkClosed (fun x => x.fs = fs ∧ x.fsId = sid) (fun _ _ => True) where
  children d hd := (VPath.readDir_fs d).mono fun _ h c hc =>
    ⟨(h c hc).1.trans hd.1, (h c hc).2.trans hd.2⟩
  readDirE _ _ _ _ _ _ := trivial
  metadataE _ _ _ _ _ _ := trivial

theorem pres_copyItems_obs {I : World → Prop} {fs : FS} {sid : Nat} (src dst : VPath)
    (hs : fs.ObsPreserve I) (hd : dst.fs.AllPreserve I) (hid : sid ≠ dst.fsId) (fuel : Nat) :
    ∀ (s : VPath.Walk) (count : Nat), VPath.WalkP (fun x => x.fs = fs ∧ x.fsId = sid) s →
      Preserves I (VPath.copyItems fuel src dst s count) := by
  induction fuel with
  | zero => intro s count _; unfold VPath.copyItems; exact Preserves.ret _
  | succ fuel ih =>
    intro s count hw
    exact .of_sat (VPath.sat_copyItems_step_of (fsId_walkClosed fs sid) src dst
      (fun x hx => by rw [hx.1]; exact hs.sat) (fun _ _ => .ret _ trivial)
      (fun x hx h => absurd (hx.2.symm.trans h) hid) hd.sat fuel s hw count
      (fun s' c h => (ih s' c h).sat))

theorem leaf_exists_pure (j : Nat) (D : Str) (w : World) (hj : w.leaf? j ≠ none) :
    ∃ b, (leafFS j).exists_ D w = (.ok b, w) := by
  obtain ⟨⟨k, m⟩, hl⟩ := Option.ne_none_iff_exists'.1 hj
  exact ⟨_, LeafAt.exists_eq (k := k) (m := m) hl D⟩

def PhysIs (i : Nat) (m : FMap) (w : World) : Prop := PhysLeafAt w i m

theorem physIs_ignores (i j : Nat) (m : FMap) (hij : i ≠ j) : IgnoresLeaf (PhysIs i m) j := by
  intro w f hw
  unfold PhysIs PhysLeafAt at *
  rw [World.leaf?_setLeafFiles_ne w j i f (fun h => hij h.symm)]
  exact hw

theorem physIs_onLeaf {α} (i : Nat) (m : FMap) (f : Leaf → Res α × FMap)
    (hf : (f { kind := .phys, files := m }).2 = m) : Preserves (PhysIs i m) (onLeaf i f) := by
  refine ⟨fun w hw => ?_⟩
  have hw' : PhysLeafAt w i m := hw
  rw [run_onLeaf_phys hw', hf]
  exact hw'.set m

theorem physIs_obs (i : Nat) (m : FMap) : (leafFS i).ObsPreserve (PhysIs i m) where
  readDir _ := physIs_onLeaf i m _ rfl
  openFile _ := physIs_onLeaf i m _ rfl
  metadata _ := physIs_onLeaf i m _ rfl
  exists_ _ := physIs_onLeaf i m _ rfl

theorem leaf_lt_of_some {w : World} {i : Nat} (h : w.leaf? i ≠ none) : i < w.leaves.length :=
  (LeafExists.iff_lt i w).1 h

theorem physLeaf_lt {w : World} {i : Nat} {m : FMap} (h : PhysLeafAt w i m) :
    i < w.leaves.length :=
  leaf_lt_of_some (by unfold PhysLeafAt at h; rw [h]; simp)

section twoLeaves
variable {w : World} {i j : Nat} {ms : FMap} (hi : PhysLeafAt w i ms) (hj : w.leaf? j ≠ none)
  (hwf : WF ms) (hk : FMap.NodupKeys ms) (hij : i ≠ j) (sid did : Nat) (hid : sid ≠ did)
  (fuel : Nat) (S D : Str)
include hi hj hwf hk hij hid

omit hi hj hwf hk in
/-- the per-item writes go to leaf `j` only -/
theorem twoLeaves_step (x : Str) (d : VPath) (hfs : d.fs = leafFS j) (hdid : d.fsId = did) :
    Preserves (PhysIs i ms) d.createDir ∧
    Preserves (PhysIs i ms) ((VPath.withStr { fs := leafFS i, fsId := sid, path := S } x).copyFile d) := by
  have hall : d.fs.AllPreserve (PhysIs i ms) := by
    rw [hfs]; exact leafFS_all_preserve j (physIs_ignores i j ms hij)
  refine ⟨VPath.pres_createDir d hall, VPath.pres_copyFile _ d (physIs_obs i ms) hall ?_⟩
  intro heq
  exact absurd (heq.trans hdid) hid

/-- `copy_dir`, two leaves: source on a physical leaf `i` with a well-formed
tree, destination on ANY other leaf `j` (memory or physical, any content, any destination string),
different `Arc` identities: with fuel above the number of entries below the source, `copy_dir`
returns `.ok` or `.err`, never `.panic` — EVERY source string (directory, file, absent). -/
theorem phys_copy_dir_terminates_two (hfuel : descCount ms S < fuel) :
    (VPath.copyDir fuel { fs := leafFS i, fsId := sid, path := S }
      { fs := leafFS j, fsId := did, path := D } w).1 ≠ .panic := by
  intro hpan
  have hin := physLeaf_lt hi
  have hjn : j < w.leaves.length := leaf_lt_of_some hj
  obtain ⟨w1, w2, s, w3, hex, hcd, hwalk, hout⟩ :=
    copyDir_panic_is_fuel fuel { fs := leafFS i, fsId := sid, path := S }
      { fs := leafFS j, fsId := did, path := D } (leaf_no_panic_len hin) (leaf_no_panic_len hjn)
      w rfl hpan
  have hallj := leafFS_all_preserve j (physIs_ignores i j ms hij)
  have hS1 : PhysIs i ms w1 :=
    pres_run (VPath.pres_exists { fs := leafFS j, fsId := did, path := D } hallj.obs) hi hex
  have hS2 : PhysIs i ms w2 :=
    pres_run (VPath.pres_createDir { fs := leafFS j, fsId := did, path := D } hallj) hS1 hcd
  obtain ⟨e, he, hd⟩ := phys_walkDir_ok_dir (hS2 : PhysLeafAt w2 i ms) hwf sid S hwalk
  refine walk_copyItemsOut_false_on (src := { fs := leafFS i, fsId := sid, path := S })
    (dst := { fs := leafFS j, fsId := did, path := D }) hwf
    (SeesOn.of_treeView (phys_treeViewOn i hwf hk (fun _ h => h)) _)
    (fun w x d w3 hJ _ _ hrj hcase => ?_) e he hd fuel hfuel w2 hS2 s w3 hwalk hout
  obtain ⟨hp1, hp2⟩ := twoLeaves_step hij sid did hid S x d (relJoin_fs hrj).1 (relJoin_fs hrj).2
  exact hcase.elim (pres_run hp1 hJ) (pres_run hp2 hJ)

omit hj hwf hk in
theorem copyDirBody_keeps_two :
    PhysIs i ms (VPath.copyDirBody fuel { fs := leafFS i, fsId := sid, path := S }
      { fs := leafFS j, fsId := did, path := D } w).2 := by
  have hallj := leafFS_all_preserve j (physIs_ignores i j ms hij)
  refine Preserves.pres ?_ w hi
  unfold VPath.copyDirBody
  apply Preserves.bind (VPath.pres_createDir _ hallj)
  intro _
  apply Preserves.bindQ _ (VPath.pres_walkDir _ (physIs_obs i ms))
    (VPath.walkDir_inv (fsId_walkClosed (leafFS i) sid) _ ⟨rfl, rfl⟩)
  intro s hs
  exact pres_copyItems_obs _ _ (physIs_obs i ms) hallj hid fuel s 0 hs

/-- `move_dir`, two leaves: source on a physical leaf `i` with a well-formed
tree, destination on ANY other leaf `j`, different `Arc` identities: with fuel above the number of
entries below the source AND above the length difference between `S` and the longest key (the
bound of `remove_dir_all`), `move_dir` returns `.ok` or `.err`, never `.panic` — EVERY source and
destination string. -/
theorem phys_move_dir_terminates_two (hfuel : descCount ms S < fuel)
    (hb : ∀ k e, ms.find? k = some e → k.length < S.length + fuel) :
    (VPath.moveDir fuel { fs := leafFS i, fsId := sid, path := S }
      { fs := leafFS j, fsId := did, path := D } w).1 ≠ .panic := by
  intro hpan
  obtain ⟨b, hex⟩ := leaf_exists_pure j D w hj
  have hex' : VPath.exists_ { fs := leafFS j, fsId := did, path := D } w = (.ok b, w) := hex
  cases b with
  | true =>
    have := (C11.existing_destination_refused { fs := leafFS i, fsId := sid, path := S }
      { fs := leafFS j, fsId := did, path := D } fuel w hex').2.2.2
    rw [this] at hpan
    cases hpan
  | false =>
    have hcopy := phys_copy_dir_terminates_two hi hj hwf hk hij sid did hid fuel S D hfuel
    rw [copyDir_route fuel _ _ w hex'] at hcopy
    rw [moveDir_route fuel _ _ w hex' (fun h => absurd h hid), moveDirBody_eq] at hpan
    have hkeep := copyDirBody_keeps_two hi hij sid did hid fuel S D
    rw [M.withPath_run] at hcopy hpan
    unfold M.bind at hpan
    rcases hbody : VPath.copyDirBody fuel { fs := leafFS i, fsId := sid, path := S }
      { fs := leafFS j, fsId := did, path := D } w with ⟨r, w4⟩
    rw [hbody] at hcopy hpan hkeep
    cases r with
    | panic => exact hcopy rfl
    | err k p => simp [Res.withPath] at hpan
    | ok n =>
      simp only [Res.withPath_panic] at hpan
      exact phys_remove_dir_all_terminates sid (hkeep : PhysLeafAt w4 i ms) fuel S (by omega) hb hpan

end twoLeaves

theorem not_under_graft {S D : Str} (hout : under S D = false) (hanc : below D S = false)
    (t : Str) : under S (D ++ '/' :: t) = false := by
  cases hu : under S (D ++ '/' :: t) with
  | false => rfl
  | true =>
    -- `S` and `D` both lie at or above `D/t`, so one lies at or above the other
    rcases Wk.within_comparable hu (CD.under_graft D t) with h | h
    · rw [← under_eq_within, hout] at h; cases h
    · rcases (Wk.within_iff D S).1 h with rfl | h'
      · rw [under_self] at hout; cases hout
      · rw [hanc] at h'; cases h'

theorem Phys.lookup_none_find {m : FMap} {q : Str} (h : Phys.lookup m q = .ok none) :
    m.find? q = none ∧ Phys.resolveParent m q = .ok () := by
  exact Phys.lookup_ok_inv h

/-- the invariant of the source filesystem during the loop -/
def SameQ (S : Str) (ms m : FMap) : Prop :=
  WF m ∧ FMap.NodupKeys m ∧ ∀ k, under S k = true → m.find? k = ms.find? k

theorem SameQ.insert {S : Str} {ms m : FMap} (hQ : SameQ S ms m) (q : Str) (v : Entry)
    (hl : Phys.lookup m q = .ok none) (hs : '/' ∈ q) (hu : under S q = false) :
    SameQ S ms (m.insert q v) := by
  obtain ⟨hwf, hnd, hag⟩ := hQ
  refine ⟨hwf.insert_resolved v hl hs, FMap.nodup_insert m q v hnd, fun k hk => ?_⟩
  rw [FMap.find?_insert, if_neg (by rintro rfl; rw [hk] at hu; cases hu)]
  exact hag k hk

theorem phys_vcreateDir_ok {w w3 : World} {i : Nat} {m : FMap} (h : PhysLeafAt w i m) (id : Nat)
    (q : Str) (hok : VPath.createDir (mk i id q) w = (.ok (), w3)) :
    Phys.lookup m q = .ok none ∧ w3 = w.setLeafFiles i (m.insert q dirEntryNow) := by
  obtain ⟨_, w1, hg, hcd⟩ := M.bind_ok_inv (m := (mk i id q).getParent) hok
  -- the parent probe only observes
  obtain rfl : w1 = w := pres_run (VPath.pres_getParent (mk i id q) (physEq_obs h)) rfl hg
  have hrun : (leafFS i).createDir q w1 =
      ((Phys.createDir m q).1, w1.setLeafFiles i (Phys.createDir m q).2) := LeafAt.createDir_eq h q
  rw [M.withPath_ok_iff, show (mk i id q).fs.createDir (mk i id q).path w1 = _ from hrun,
    Phys.createDir_eq] at hcd
  obtain ⟨hl, hwr⟩ := Phys.createDirS_ok (congrArg Prod.fst hcd)
  exact ⟨hl, (congrArg Prod.snd hcd).symm.trans (by rw [onSlot, hwr]; rfl)⟩

theorem Phys.copyFile_ok_fresh {m : FMap} {x q : Str} (hex : Phys.exists_ m q = false)
    (hok : (Phys.copyFile m x q).1 = .ok ()) :
    Phys.lookup m q = .ok none ∧ ∃ v, (Phys.copyFile m x q).2 = m.insert q v := by
  rw [Phys.copyFile_eq] at hok ⊢
  obtain ⟨hd | ⟨d0, hd⟩, v, hv⟩ := Phys.copyFileS_ok hok
  · exact ⟨hd, v, by rw [onSlot, hv]; rfl⟩
  · simp [Phys.exists_, hd] at hex

/-- a successful `copy_file` between two paths of one physical filesystem (same `Arc`): it was
the fast path `std::fs::copy` onto an absent path -/
theorem phys_vcopyFile_ok {w w3 : World} {i : Nat} {m : FMap} (h : PhysLeafAt w i m) (id : Nat)
    (x q : Str) (hok : VPath.copyFile (mk i id x) (mk i id q) w = (.ok (), w3)) :
    Phys.lookup m q = .ok none ∧ ∃ v, w3 = w.setLeafFiles i (m.insert q v) := by
  obtain ⟨w', hex, _⟩ := VPath.guarded_ok _ _ _ _ _ (VPath.copyFile_eq (mk i id x) (mk i id q) ▸ hok)
  have hb : Phys.exists_ m q = false :=
    Res.ok.inj (congrArg Prod.fst ((run_exists_phys h q).symm.trans hex))
  rw [show VPath.copyFile (mk i id x) (mk i id q) w = _ from run_copy_phys h id x q hb] at hok
  have hr : (Phys.copyFile m x q).1 = .ok () := by
    cases hc : (Phys.copyFile m x q).1 <;> simp [hc, Res.withPath] at hok ⊢
  obtain ⟨hl, v, hv⟩ := Phys.copyFile_ok_fresh hb hr
  exact ⟨hl, v, by rw [← hv]; exact (congrArg Prod.snd hok).symm⟩

section sameLeaf
variable {w : World} {i : Nat} {ms : FMap} (hi : PhysLeafAt w i ms) (hwf : WF ms)
  (hk : FMap.NodupKeys ms) (id fuel : Nat) (S D : Str)

theorem same_step
    (hjoin : ∀ t e, ms.find? (S ++ '/' :: t) = some e → joinInternal D t = .ok (D ++ '/' :: t))
    (hout : under S D = false) (hanc : below D S = false) :
    ∀ (m : FMap) (w : World) (x : Str) (d : VPath) (w3 : World), SameQ S ms m → PhysLeafAt w i m →
      below (mk i id S).path x = true → (∃ e, m.find? x = some e) →
      VPath.relJoin (mk i id D) (mk i id S).path.length ((mk i id S).withStr x) = .ok d →
      (d.createDir w = (.ok (), w3) ∨ ((mk i id S).withStr x).copyFile d w = (.ok (), w3)) →
      ∃ m', SameQ S ms m' ∧ PhysLeafAt w3 i m' := by
  intro m w x d w3 hQ hV hbx hpres hrj hcase
  obtain ⟨e, he⟩ := hpres
  obtain ⟨t, rfl⟩ := (Wk.below_iff S x).1 hbx
  have hms : ms.find? (S ++ '/' :: t) = some e := by
    rw [← hQ.2.2 _ (CD.under_of_below hbx)]; exact he
  have hj := hjoin t e hms
  have hg := CD.relJoin_graft i id id i S D t hj
  have hd : d = mk i id (D ++ '/' :: t) := by
    have h1 : VPath.relJoin (mk i id D) (mk i id S).path.length (mk i id (S ++ '/' :: t)) = .ok d := hrj
    rw [hg] at h1
    cases h1; rfl
  subst hd
  have hu := not_under_graft hout hanc t
  have hs : '/' ∈ D ++ '/' :: t := by simp
  rcases hcase with hc | hc
  · obtain ⟨hl, hw3⟩ := phys_vcreateDir_ok hV id _ hc
    exact ⟨_, hQ.insert _ _ hl hs hu, by rw [hw3]; exact hV.set _⟩
  · have hc' : VPath.copyFile (mk i id (S ++ '/' :: t)) (mk i id (D ++ '/' :: t)) w = (.ok (), w3) := hc
    obtain ⟨hl, v, hw3⟩ := phys_vcopyFile_ok hV id _ _ hc'
    exact ⟨_, hQ.insert _ v hl hs hu, by rw [hw3]; exact hV.set _⟩

include hi hwf hk

/-- `copy_dir`, one filesystem: source `S` and destination `D` on the SAME
physical leaf with the same `Arc` identity, well-formed tree. With fuel above the number of
entries below `S`, `copy_dir` returns `.ok` or `.err`, never `.panic` — for EVERY kind of source
(directory, file, absent) — provided `D` contains a '/', is not at or below `S`
(`under S D = false`; for the memory model the divergence without it is
`C13.copyDir_into_own_subtree_diverges`), is
not a proper ancestor of `S` (automatic when the copy runs: `D` must not exist), and the relative
part of every source key is joined onto `D` unchanged (`hjoin`: canonical keys, as in
`CD.Setup.join`). -/
theorem phys_copy_dir_terminates_same (hD : '/' ∈ D)
    (hjoin : ∀ t e, ms.find? (S ++ '/' :: t) = some e → joinInternal D t = .ok (D ++ '/' :: t))
    (hout : under S D = false) (hanc : below D S = false) (hfuel : descCount ms S < fuel) :
    (VPath.copyDir fuel (mk i id S) (mk i id D) w).1 ≠ .panic := by
  intro hpan
  have hin := physLeaf_lt hi
  obtain ⟨w1, w2, s, w3, hex, hcd, hwalk, hout'⟩ :=
    copyDir_panic_is_fuel fuel (mk i id S) (mk i id D) (leaf_no_panic_len hin)
      (leaf_no_panic_len hin) w rfl hpan
  have hex' : VPath.exists_ (mk i id D) w = (.ok (Phys.exists_ ms D), w) := run_exists_phys hi D
  rw [hex'] at hex
  obtain rfl : w1 = w := (congrArg Prod.snd hex).symm
  obtain ⟨hl, hw2⟩ := phys_vcreateDir_ok hi id D hcd
  have hQ0 : SameQ S ms ms := ⟨hwf, hk, fun _ _ => rfl⟩
  have hQ1 := hQ0.insert D dirEntryNow hl hD hout
  have hV1 : PhysLeafAt w2 i (ms.insert D dirEntryNow) := by rw [hw2]; exact hi.set _
  obtain ⟨e, he1, hd⟩ := phys_walkDir_ok_dir hV1 hQ1.1 id S hwalk
  rw [hQ1.2.2 S (under_self S)] at he1
  -- the tree the loop walks is the source map itself: at and below `S` every map of the loop
  -- agrees with it
  exact walk_copyItemsOut_false_on (src := mk i id S) (dst := mk i id D) (m := ms) hwf
    (seesOn_of_family (down_within S) (SameQ S ms) (fun m w => PhysLeafAt w i m)
      (fun m hQ => phys_treeViewOn i hQ.1 hQ.2.1 (fun _ h => h)) (fun m hQ => hQ.2.2))
    (fun w x d w3 ⟨m, hQ, hV⟩ hx ⟨e, he⟩ hrj hcase =>
      same_step id S D hjoin hout hanc m w x d w3 hQ hV hx
        ⟨e, by rw [hQ.2.2 x (CD.under_of_below hx)]; exact he⟩ hrj hcase)
    e he1 hd fuel hfuel w2 ⟨_, hQ1, hV1⟩ s w3 hwalk hout'

theorem phys_copy_dir_terminates_same_canon (bs : List Str) (hbs : ∀ c ∈ bs, '/' ∉ c)
    (hne : bs ≠ []) (hS : Canon S)
    (hcanon : ∀ k e, ms.find? k = some e → under S k = true → Canon k)
    (hout : under S (renderC bs) = false) (hanc : below (renderC bs) S = false)
    (hfuel : descCount ms S < fuel) :
    (VPath.copyDir fuel (mk i id S) (mk i id (renderC bs)) w).1 ≠ .panic := by
  refine phys_copy_dir_terminates_same hi hwf hk id fuel S (renderC bs) ?_
    (fun t e h => CD.rel_join bs S t hbs hS
      (hcanon _ e h ((under_iff S _).2 (Or.inr ⟨t, rfl⟩)))) hout hanc hfuel
  cases bs with
  | nil => exact absurd rfl hne
  | cons c cs => simp [renderC_cons]

end sameLeaf

/-! A nested physical tree (`C11.mN`: depth 4 below `/r`, an empty directory, an empty file,
siblings `a` / `ab` / `a.b`, unsorted storage), a second physical leaf and a memory leaf. -/

def wP : World :=
  { leaves := [{ kind := .phys, files := C11.mN }, { kind := .phys, files := C11.mK },
               { kind := .mem, files := C11.mK }] }

theorem wP_eq : wP =
    { leaves := [{ kind := .phys, files := mNc }, { kind := .phys, files := C11.mK },
                 { kind := .mem, files := C11.mK }] } := by
  unfold wP; rw [mN_eq]

theorem mN_desc_r : descCount C11.mN "/r".toList < 9 := by rw [mN_eq]; decide +kernel

theorem wP_leaf0 : PhysLeafAt wP 0 C11.mN := rfl
theorem wP_leaf1 : PhysLeafAt wP 1 C11.mK := rfl

example : ∃ L : List Str, walkCollect 9 (mk 0 7 "/r".toList) wP = (.ok (okItems 0 7 L), wP) :=
  (phys_walk_terminates wP_leaf0 C11.mN_wf C11.mN_nodup 7 "/r".toList).1 9
    mN_desc_r ⟨dirEntryNow, by rw [mN_eq]; decide +kernel, rfl⟩
/-- … and the bound is exact: fuel 8 is the sentinel (theorem and kernel agree) -/
example : (walkCollect 8 (mk 0 7 "/r".toList) wP).1 = .panic :=
  ((phys_walk_terminates wP_leaf0 C11.mN_wf C11.mN_nodup 7 "/r".toList).2.2.2.1 8).2
    ⟨⟨dirEntryNow, by rw [mN_eq]; decide +kernel, rfl⟩, by rw [mN_eq]; decide +kernel⟩
example : C05.pathsOf (walkCollect 8 (mk 0 7 "/r".toList) wP) = .panic := by
  rw [wP_eq]; decide +kernel
example : ((walkCollect 9 (mk 0 7 "/r".toList) wP).1.map List.length) = .ok 8 := by
  rw [wP_eq]; decide +kernel
example : C05.pathsOf (walkCollect 0 (mk 0 7 "/r/ab".toList) wP) = .err .io (some "/r/ab".toList) := by
  rw [wP_eq]; decide +kernel
example : C05.pathsOf (walkCollect 0 (mk 0 7 "/r/ab/q/z".toList) wP) =
    .err .io (some "/r/ab/q/z".toList) := by rw [wP_eq]; decide +kernel
example : C05.pathsOf (walkCollect 0 (mk 0 7 "/nope".toList) wP) =
    .err .fileNotFound (some "/nope".toList) := by rw [wP_eq]; decide +kernel

example : (VPath.removeDirAll (keyFuel C11.mN) (mk 0 7 "/r".toList) wP).1 ≠ .panic :=
  phys_remove_dir_all_terminates_keyFuel 7 wP_leaf0 "/r".toList
example : keyFuel C11.mN = 11 := by rw [mN_eq]; decide +kernel
example : (VPath.removeDirAll 11 (mk 0 7 "/r".toList) wP).1 = .ok () := by
  rw [wP_eq]; simp only [← C11.rmAllK_eq]; decide +kernel
example : (VPath.removeDirAll 11 (mk 0 7 [])  wP).1 = .ok () := by
  rw [wP_eq]; simp only [← C11.rmAllK_eq]; decide +kernel
example : (VPath.removeDirAll 11 (mk 0 7 "/r/ab".toList) wP).1 = .err .io (some "/r/ab".toList) := by
  rw [wP_eq]; simp only [← C11.rmAllK_eq]; decide +kernel
example : (VPath.removeDirAll 11 (mk 0 7 "/nope".toList) wP).1 = .ok () := by
  rw [wP_eq]; simp only [← C11.rmAllK_eq]; decide +kernel
/-- the sentinel is reachable only by starving the fuel: four nested directories `/r/a/b/c` need 4 -/
example : (VPath.removeDirAll 3 (mk 0 7 "/r".toList) wP).1 = .panic := by
  rw [wP_eq]; simp only [← C11.rmAllK_eq]; decide +kernel
example : (VPath.removeDirAll 4 (mk 0 7 "/r".toList) wP).1 = .ok () := by
  rw [wP_eq]; simp only [← C11.rmAllK_eq]; decide +kernel

example : (VPath.copyDir 9 { fs := leafFS 0, fsId := 0, path := "/r".toList }
    { fs := leafFS 1, fsId := 1, path := "/c".toList } wP).1 ≠ .panic :=
  phys_copy_dir_terminates_two wP_leaf0 (by decide) C11.mN_wf C11.mN_nodup (by decide) 0 1
    (by decide) 9 "/r".toList "/c".toList mN_desc_r
example : (VPath.copyDir 9 { fs := leafFS 0, fsId := 0, path := "/r".toList }
    { fs := leafFS 2, fsId := 2, path := "/c".toList } wP).1 ≠ .panic :=
  phys_copy_dir_terminates_two wP_leaf0 (by decide) C11.mN_wf C11.mN_nodup (by decide) 0 2
    (by decide) 9 "/r".toList "/c".toList mN_desc_r
example : (VPath.copyDir 9 { fs := leafFS 0, fsId := 0, path := "/r".toList }
    { fs := leafFS 1, fsId := 1, path := "/c".toList } wP).1 = .ok 8 := by
  rw [wP_eq]; decide +kernel
example : (VPath.copyDir 8 { fs := leafFS 0, fsId := 0, path := "/r".toList }
    { fs := leafFS 1, fsId := 1, path := "/c".toList } wP).1 = .panic := by
  rw [wP_eq]; decide +kernel
example : (VPath.copyDir 9 { fs := leafFS 0, fsId := 0, path := "/r".toList }
    { fs := leafFS 2, fsId := 2, path := "/c".toList } wP).1 = .ok 8 := by
  rw [wP_eq]; decide +kernel

example : (VPath.copyDir 9 (mk 0 0 "/r".toList) (mk 0 0 (renderC ["r2".toList])) wP).1 ≠ .panic :=
  phys_copy_dir_terminates_same_canon wP_leaf0 C11.mN_wf C11.mN_nodup 0 9 "/r".toList
    ["r2".toList] (by decide) (by decide) (C11.canon_of_check _ (by decide)) (C11.mN_canon _)
    (by decide) (by decide) mN_desc_r
example : (VPath.copyDir 6 (mk 0 0 "/r/a".toList) (mk 0 0 (renderC ["r".toList, "a2".toList])) wP).1 ≠
    .panic :=
  phys_copy_dir_terminates_same_canon wP_leaf0 C11.mN_wf C11.mN_nodup 0 6 "/r/a".toList
    ["r".toList, "a2".toList] (by decide) (by decide) (C11.canon_of_check _ (by decide))
    (C11.mN_canon _) (by decide) (by decide) (by rw [mN_eq]; decide +kernel)
example : (VPath.copyDir 9 (mk 0 0 "/r".toList) (mk 0 0 "/r2".toList) wP).1 = .ok 8 := by
  rw [wP_eq]; decide +kernel
example : (VPath.copyDir 6 (mk 0 0 "/r/a".toList) (mk 0 0 "/r/a2".toList) wP).1 = .ok 5 := by
  rw [wP_eq]; decide +kernel
example : (VPath.copyDir 5 (mk 0 0 "/r/a".toList) (mk 0 0 "/r/a2".toList) wP).1 = .panic := by
  rw [wP_eq]; decide +kernel
/-- `move_dir` within one physical filesystem never reaches the sentinel, for any fuel (the fast
path `std::fs::rename` answers, or the generic route fails before its loop). Proved in
Props/C13PhysMove.lean (`phys_move_dir_same_holds`). -/
def phys_move_dir_same_stmt : Prop :=
  ∀ (w : World) (i : Nat) (ms : FMap) (id fuel : Nat) (S D : Str), PhysLeafAt w i ms → WF ms →
    under S D = false → (VPath.moveDir fuel (mk i id S) (mk i id D) w).1 ≠ .panic

#print axioms phys_walk_terminates
#print axioms phys_remove_dir_all_terminates
#print axioms phys_copy_dir_terminates_two
#print axioms phys_move_dir_terminates_two
#print axioms phys_copy_dir_terminates_same_canon

end Vfs.C13
