/-
  C09 — the overlay obeys the OPERATION CONTRACT (C01) relative to its n-layer union view
  (src/impls/overlay.rs). Props/C09Refine.lean continues with the initial invariants and the
  refinement of the reference backend over histories.

  Setting (`OWN w (u :: is) (idu :: ids) (mu :: ms)`, Proofs/OverlayNLemmas.lean): n ≥ 1 pairwise
  distinct memory leaves whose ROOTS are the overlay's layers; `mu` = upper map, `ms` = lower maps.
  The operations run at the level of the trait `FileSystem`, through
  `Overlay.fs (layersN (u :: is) (idu :: ids))`: `ostep fs op` for `op : Mut` (C02.Mut:
  create_dir p | write p bs = create_file + write_all + drop | append p bs = append_file +
  write_all + drop | remove_file p | remove_dir p).

  The view (Proofs/OverlayContractLemmas.lean): `oview all : Str → Option Entry` = `viewN all` on
  every non-root string, the root entry of the upper map at "". Entries are compared by `vcore`
  (type, and the bytes of a file; = `core ∘ dirBlind`), because `ensure_has_parent` materialises
  lower directories in the upper layer with fresh timestamps. "Visible" paths (`Vis`): the root
  and EVERY absolute path string whose first component is not ".whiteout" (`NR`) — canonical or not.

  `VContract v op r v'`: the call succeeds iff the view meets the documented precondition
  (`VPre`); on success the named path gets exactly the documented entry and every other visible
  path keeps its `vcore` (`VEffect`); on failure every visible path keeps its `vcore` (`VSame`),
  a target missing from an existing directory is not-found, an occupied `create_dir` target is
  file-exists / dir-exists; no panic.
  Claims, for every n ≥ 1, per operation (`overlay_createDir_contractN`,
  `overlay_write_contractN`, `overlay_append_contractN`, `overlay_removeFile_contractN`,
  `overlay_removeDir_contractN`) and bundled (`overlay_contractN`): the call returns `(r, w')`
  with `OWN w' … (mu' :: ms')`, `ms' = ms` (for an append session with copy-up: `LowerSame ms ms'`,
  the copied entry of the serving layer got its access time stamped — literally what the code
  does), `OInv mu' ms'`, `ViewWF` again, and `VContract (oview (mu :: ms)) op r (oview (mu' :: ms'))`.
  `oappend_open`: the open of an append session by itself — outcome, handle, and the upper map it
  leaves in closed form (what Props/C04OverlaySessions.lean calls `Opened`); `VContract.of_ok` /
  `of_fail` build a contract, `VContract.of_pre` reads one from its precondition.
  `ViewWF.step` / `ViewWF.same`: the view invariant is preserved by every contract-respecting
  step (a statement about views only). `C11.OSt` bundles the setting with `OInv` and `ViewWF` (a
  state), and `OSt.step` is `overlay_contractN` from a state to a state.

  Hypotheses: the setting; `OInv mu ms` (hidden state in order: `RootOk mu`; every layer map `WF`;
  no FILE at a bookkeeping-directory position "/.whiteout/<cs>" for cs without "_wo" components;
  no DIRECTORY at a marker position; nothing in the upper map at a marked path) and
  `ViewWF (oview (mu :: ms))` (root a directory; a present child has a directory parent). Both are
  invariants: they hold initially (`OInv.initial`, `ViewWF.initial` in Props/C09Refine.lean) and
  are re-established by every call, so the per-call hypotheses of Props/C09N.lean about
  ancestors, `RootOk`, the bookkeeping area and `WF` are all derived. Per call only the path
  discipline `OpPath (ds ++ [n])` is assumed: components `GoodComp`, first component ≠
  ".whiteout", and no component ending in the reserved suffix "_wo" (`NoWo`). Some such exclusion
  is necessary: a directory "/a_wo" really clashes with the marker of "/a" ("/.whiteout/a_wo").
  Paths with "_wo" components may still EXIST in the layers and are covered by the frame.

  Open defect O3: `remove_file` on a path that is a DIRECTORY of the view may succeed (negative
  theorem: `C10.remove_file_on_lower_dir_orphansN`); `overlay_removeFile_contractN` and
  `overlay_contractN` assume `O3Free` (the path is not a directory of the view);
  `overlay_removeFile_no_panicN` covers panic-freedom in that case too.
  NOT PROVED here: the `VfsPath` layer on top (`get_parent` prelude, error-path relabelling);
  layers that are not roots of memory leaves; the timestamp setters; arbitrary write scripts
  (seek/flush) inside a session (Props/C04Overlay.lean has them for append); paths inside
  ".whiteout" are outside the frame by design.
-/
import VfsModel.Proofs.OverlayContractLemmas
import VfsModel.Props.C01Full
import VfsModel.Proofs.NoPanic
namespace Vfs.C09
open Vfs Vfs.Overlay Vfs.C02 Vfs.C01

def VPre (v : View) : Mut → Prop
  | .createDir p  => VIsDir v (parentInternal p) ∧ VAbsent v p
  | .write p _    => VIsDir v (parentInternal p) ∧ ¬ VIsDir v p
  | .append p _   => VIsFile v p
  | .removeFile p => VIsFile v p
  | .removeDir p  => VIsDir v p ∧ VNoChildren v p

def VNamed (v v' : View) : Mut → Prop
  | .createDir p  => VIsDir v' p ∧ VNoChildren v' p
  | .write p bs   => VHasFile v' p bs
  | .append p bs  => ∃ old, VHasFile v p old ∧ VHasFile v' p (old ++ bs)
  | .removeFile p => VAbsent v' p
  | .removeDir p  => VAbsent v' p

def VEffect (v v' : View) (op : Mut) : Prop := VNamed v v' op ∧ VFrame v v' op.path

structure VContract (v : View) (op : Mut) (r : Res Unit) (v' : View) : Prop where
  ok_iff : r.isOk = true ↔ VPre v op
  effect : r.isOk = true → VEffect v v' op
  unchanged : r.isOk = false → VSame v v'
  missing : needsTarget op = true → VIsDir v (parentInternal op.path) → VAbsent v op.path →
    r.kind? = some .fileNotFound
  occupied : ∀ q, op = .createDir q → VIsDir v (parentInternal q) →
    (VIsFile v q → r.kind? = some .fileExists) ∧ (VIsDir v q → r.kind? = some .dirExists)
  no_panic : r ≠ .panic

theorem not_file_and_dir {v : View} {p : Str} (hf : VIsFile v p) (hd : VIsDir v p) : False := by
  obtain ⟨e, he, h1⟩ := hf
  obtain ⟨e', he', h2⟩ := hd
  rw [he] at he'; injection he' with he'; subst he'; rw [h1] at h2; cases h2

theorem not_absent_of_file {v : View} {p : Str} (hf : VIsFile v p) : ¬ VAbsent v p := by
  obtain ⟨e, he, _⟩ := hf; intro h; rw [VAbsent, he] at h; cases h

theorem not_absent_of_dir {v : View} {p : Str} (hf : VIsDir v p) : ¬ VAbsent v p := by
  obtain ⟨e, he, _⟩ := hf; intro h; rw [VAbsent, he] at h; cases h

theorem VContract.of_ok {v v' : View} {op : Mut} (hpre : VPre v op) (heff : VEffect v v' op) :
    VContract v op (.ok ()) v' where
  ok_iff := ⟨fun _ => hpre, fun _ => rfl⟩
  effect := fun _ => heff
  unchanged := fun h => by cases h
  missing := by
    intro hn _ ha
    exfalso
    cases op with
    | createDir p => cases hn
    | write p bs => cases hn
    | append p bs => exact not_absent_of_file hpre ha
    | removeFile p => exact not_absent_of_file hpre ha
    | removeDir p => exact not_absent_of_dir hpre.1 ha
  occupied := by
    intro q hq _
    subst hq
    exact ⟨fun hf => absurd hpre.2 (not_absent_of_file hf),
      fun hd => absurd hpre.2 (not_absent_of_dir hd)⟩
  no_panic := by simp

theorem VContract.of_fail {v v' : View} {op : Mut} {k : ErrKind} {pth : Option Str}
    (hnpre : ¬ VPre v op) (hsame : VSame v v')
    (hmiss : needsTarget op = true → VIsDir v (parentInternal op.path) → VAbsent v op.path →
      k = .fileNotFound)
    (hocc : ∀ q, op = .createDir q → VIsDir v (parentInternal q) →
      (VIsFile v q → k = .fileExists) ∧ (VIsDir v q → k = .dirExists)) :
    VContract v op (.err k pth) v' where
  ok_iff := ⟨fun h => (by cases h), fun h => absurd h hnpre⟩
  effect := fun h => by cases h
  unchanged := fun _ => hsame
  missing := fun a b c => by rw [hmiss a b c]; rfl
  occupied := fun q hq hpar =>
    ⟨fun hf => by rw [(hocc q hq hpar).1 hf]; rfl, fun hd => by rw [(hocc q hq hpar).2 hd]; rfl⟩
  no_panic := by simp

/-- the contract read from the precondition: where it holds, the call succeeded with the effect -/
theorem VContract.of_pre {v v' : View} {op : Mut} {r : Res Unit} (hc : VContract v op r v')
    (hpre : VPre v op) : r = .ok () ∧ VNamed v v' op ∧ VFrame v v' op.path := by
  have hok := hc.ok_iff.2 hpre
  refine ⟨?_, hc.effect hok⟩
  cases r with
  | ok a => rfl
  | err k p => cases hok
  | panic => cases hok

theorem exact_frame {v v' : View} {p : Str} (h : ∀ q, Vis q → q ≠ p → v' q = v q) : VFrame v v' p :=
  fun q hq hne => by rw [h q hq hne]

theorem ViewWF.same {v v' : View} (hv : ViewWF v) (hs : VSame v v') : ViewWF v' := by
  refine ⟨(isDir_of_vcore (hs [] (Or.inl rfl))).2 hv.1, ?_⟩
  intro ds n hne hds hn hhead hpres
  have hq : Vis (renderC ds ++ '/' :: n) := Or.inr (NR_child hne (good_noSlash hds) hhead n)
  have ha : Vis (renderC ds) := Or.inr (NR_renderC hne (good_noSlash hds) hhead)
  have h1 : v (renderC ds ++ '/' :: n) ≠ none := fun h0 => hpres ((none_of_vcore (hs _ hq)).2 h0)
  exact (isDir_of_vcore (hs _ ha)).2 (hv.2 ds n hne hds hn hhead h1)

theorem ViewWF.step {v v' : View} (hv : ViewWF v) {ds : List Str} {n : Str}
    (hp : OpPath (ds ++ [n])) (op : Mut) (hop : op.path = renderC (ds ++ [n]))
    (hpre : VPre v op) (heff : VEffect v v' op) : ViewWF v' := by
  obtain ⟨hnamed, hframe⟩ := heff
  rw [hop] at hframe
  have hpne : ([] : Str) ≠ renderC (ds ++ [n]) := fun h => hp.nr.ne_nil h.symm
  refine ⟨(isDir_of_vcore (hframe [] (Or.inl rfl) hpne)).2 hv.1, ?_⟩
  intro cs m hne hcs hm hhead hpres
  have hcm : ∀ c ∈ cs ++ [m], '/' ∉ c := by
    intro c hc
    rcases List.mem_append.1 hc with hc | hc
    · exact (hcs c hc).noSlash
    · simp at hc; rw [hc]; exact hm
  have hq : Vis (renderC cs ++ '/' :: m) := Or.inr (NR_child hne (good_noSlash hcs) hhead m)
  have ha : Vis (renderC cs) := Or.inr (NR_renderC hne (good_noSlash hcs) hhead)
  by_cases hqp : renderC cs ++ '/' :: m = renderC (ds ++ [n])
  · -- the named path itself: its parent was a directory and is untouched
    have heq := C06.renderC_injective (cs ++ [m]) _ hcm (good_noSlash hp.good)
      (by rw [renderC_snoc]; exact hqp)
    have hcd : cs = ds := (List.append_inj' heq rfl).1
    subst hcd
    have hane : renderC cs ≠ renderC (cs ++ [n]) := OpPath.parent_ne
    have hpar : VIsDir v (renderC cs) := by
      cases op with
      | createDir p => simp only [Mut.path] at hop; subst hop; rw [← hp.parent]; exact hpre.1
      | write p bs => simp only [Mut.path] at hop; subst hop; rw [← hp.parent]; exact hpre.1
      | append p bs =>
        simp only [Mut.path] at hop; subst hop
        exact hv.2 cs n hne hcs hp.hn.noSlash hhead
          (fun h0 => not_absent_of_file hpre (by rw [renderC_snoc]; exact h0))
      | removeFile p =>
        simp only [Mut.path] at hop; subst hop
        exact absurd (by rw [hqp]; exact hnamed) hpres
      | removeDir p =>
        simp only [Mut.path] at hop; subst hop
        exact absurd (by rw [hqp]; exact hnamed) hpres
    exact (isDir_of_vcore (hframe _ ha hane)).2 hpar
  · have h1 : v (renderC cs ++ '/' :: m) ≠ none :=
      fun h0 => hpres ((none_of_vcore (hframe _ hq hqp)).2 h0)
    have hdir := hv.2 cs m hne hcs hm hhead h1
    by_cases hap : renderC cs = renderC (ds ++ [n])
    · exfalso
      rw [hap] at hdir
      cases op with
      | createDir p => simp only [Mut.path] at hop; subst hop; exact not_absent_of_dir hdir hpre.2
      | write p bs => simp only [Mut.path] at hop; subst hop; exact hpre.2 hdir
      | append p bs => simp only [Mut.path] at hop; subst hop; exact not_file_and_dir hpre hdir
      | removeFile p => simp only [Mut.path] at hop; subst hop; exact not_file_and_dir hpre hdir
      | removeDir p =>
        simp only [Mut.path] at hop; subst hop
        have := hpre.2 m hm
        rw [← hap] at this
        exact h1 this
    · exact (isDir_of_vcore (hframe _ ha hap)).2 hdir

/-- one call of a mutator through a filesystem, at the level of the trait `FileSystem`; a write
session is `create_file`, `write_all`, drop; an append session is `append_file`, `write_all`,
drop -/
def ostep (fs : FS) : Mut → M Unit
  | .createDir p => fs.createDir p
  | .write p bs => do let hd ← fs.createFile p; hd.writeAllAndDrop bs
  | .append p bs => do let hd ← fs.appendFile p; hd.writeAllAndDrop bs
  | .removeFile p => fs.removeFile p
  | .removeDir p => fs.removeDir p

theorem memPublish_pointwise (m : FMap) (p : Str) (buf : Bytes) (e0 : Entry)
    (h0 : m.find? p = some e0) (hf : e0.ftype = .file) :
    ∃ e3, e3.ftype = .file ∧ e3.content = buf ∧
      ∀ k, (memPublish m p buf).find? k = if k = p then some e3 else m.find? k := by
  obtain ⟨e3, h1, h2, h3⟩ := find?_memPublish_self m p buf e0 h0 hf
  refine ⟨e3, h2, h3, fun k => ?_⟩
  split
  · rename_i hk; rw [hk]; exact h1
  · rename_i hk; exact find?_memPublish_ne m p k buf hk

theorem find?_unmarked {m : FMap} {p : Str} (hmk : m.find? (marker p) = none) (x : Option Entry)
    (k : Str) : (if k = p then x else m.find? k) =
      if k = p then x else if k = marker p then none else m.find? k := by
  split
  · rfl
  · split
    · rename_i hk; rw [hk]; exact hmk
    · rfl

section pureOps
variable {mu : FMap} {ms : List FMap} (inv : OInv mu ms) {ds : List Str} {n : Str}
  (hp : OpPath (ds ++ [n]))
include inv hp

theorem upper_none_of_view_none (hv : viewN (mu :: ms) (renderC (ds ++ [n])) = none) :
    mu.find? (renderC (ds ++ [n])) = none := inv.upper_none hp.nr hv

theorem upper_is_view {e : Entry} (he : mu.find? (renderC (ds ++ [n])) = some e) :
    viewN (mu :: ms) (renderC (ds ++ [n])) = some e := inv.upper_view hp.nr he

theorem publish_spec {e0 : Entry} (h0 : mu.find? (renderC (ds ++ [n])) = some e0)
    (hf : e0.ftype = .file) (buf : Bytes) :
    ∃ e3, e3.ftype = .file ∧ e3.content = buf ∧
      OInv (memPublish mu (renderC (ds ++ [n])) buf) ms ∧
      (memPublish mu (renderC (ds ++ [n])) buf).find? (renderC (ds ++ [n])) = some e3 ∧
      oview (memPublish mu (renderC (ds ++ [n])) buf :: ms) (renderC (ds ++ [n])) = some e3 ∧
      ∀ q, Vis q → q ≠ renderC (ds ++ [n]) →
        oview (memPublish mu (renderC (ds ++ [n])) buf :: ms) q = oview (mu :: ms) q := by
  obtain ⟨e3, hf3, hc3, hpw⟩ := memPublish_pointwise mu _ buf e0 h0 hf
  have hmk := find?_none_of_not_contains (m := mu)
    (by rw [(viewN_some_cases (upper_is_view inv hp h0)).1]; exact Bool.false_ne_true)
  have hmu3 : ∀ k, (memPublish mu (renderC (ds ++ [n])) buf).find? k =
      if k = renderC (ds ++ [n]) then some e3
      else if k = marker (renderC (ds ++ [n])) then none else mu.find? k := by
    intro k
    rw [hpw k]
    exact find?_unmarked hmk _ k
  obtain ⟨inv3, hself, hfr⟩ := insert_spec inv hp e3 _ hmu3
    ((inv.wf mu (by simp)).memPublish_any _ _)
  exact ⟨e3, hf3, hc3, inv3, by rw [hmu3, if_pos rfl], hself, hfr⟩

end pureOps

section pureCreate
variable {mu : FMap} {ms : List FMap} (inv : OInv mu ms) (hv : ViewWF (oview (mu :: ms)))
  {ds : List Str} {n : Str} (hp : OpPath (ds ++ [n]))
include inv hv hp

theorem pCreateDirN_contract :
    ∃ r mu', pCreateDirN mu ms (ds ++ [n]) = (r, mu') ∧ OInv mu' ms ∧
      VContract (oview (mu :: ms)) (.createDir (renderC (ds ++ [n]))) r (oview (mu' :: ms)) := by
  have hpar := hp.parent
  have hvis : Vis (renderC (ds ++ [n])) := Or.inr hp.nr
  by_cases hd : VIsDir (oview (mu :: ms)) (renderC ds)
  · obtain ⟨hE, inv1, hs1, _, hp1, _⟩ := ensure_ok inv hp hv hd
    have hov1 := oview_NR (all := fillDirs mu (chain [] ds) :: ms) hp.nr
    rcases Option.eq_none_or_eq_some (viewN (fillDirs mu (chain [] ds) :: ms) (renderC (ds ++ [n])))
      with hv1 | ⟨e1, hv1⟩
    · obtain ⟨mu2, hpure⟩ := eq_clear_ok (pCreateDirN_eq_clear (ms := ms) hp.hds hp.hn inv.root
        (ancDirsN_of_viewWF hv hp.hds hp.dhead hd) hv1
        (by rw [← hp1]; exact upper_none_of_view_none inv1 hp hv1))
        (fun em hem => inv1.markFile _ em hp.nr hem)
      obtain ⟨_, hfind⟩ := pCreateDirN_ok_find hpure
      rw [List.dropLast_concat] at hfind
      have hwf2 : WF mu2 := by
        have := wf_pCreateDirN (ms := ms) (inv.wf mu (by simp)) (ds ++ [n])
        rw [hpure] at this; exact this
      obtain ⟨inv2, hself, hfr⟩ := insert_spec inv1 hp dirEntryNow mu2 hfind hwf2
      refine ⟨.ok (), mu2, hpure, inv2, VContract.of_ok ⟨by rw [hpar]; exact hd, ?_⟩ ⟨?_, ?_⟩⟩
      · exact (none_of_vcore (hs1 _ hvis)).1 (by rw [hov1]; exact hv1)
      · refine ⟨⟨dirEntryNow, hself, rfl⟩, ?_⟩
        -- the new directory is empty: nothing was visible below an absent path
        intro y hy
        have hq : Vis (renderC (ds ++ [n]) ++ '/' :: y) :=
          Or.inr (NR_child hp.ne (good_noSlash hp.good) hp.head y)
        have hqne : renderC (ds ++ [n]) ++ '/' :: y ≠ renderC (ds ++ [n]) := by
          intro h0; have := congrArg List.length h0; simp at this
        apply (none_of_vcore ((VFrame.trans_same hs1 (exact_frame hfr)) _ hq hqne)).2
        cases hc : oview (mu :: ms) (renderC (ds ++ [n]) ++ '/' :: y) with
        | none => rfl
        | some ce =>
          have hdir := hv.2 (ds ++ [n]) y hp.ne hp.good hy hp.head (by rw [hc]; simp)
          exact absurd ((none_of_vcore (hs1 _ hvis)).1 (by rw [hov1]; exact hv1))
            (not_absent_of_dir hdir)
      · exact VFrame.trans_same hs1 (exact_frame hfr)
    · refine ⟨.err (if e1.ftype = .file then .fileExists else .dirExists) none,
        fillDirs mu (chain [] ds), ?_, inv1, VContract.of_fail ?_ hs1 ?_ ?_⟩
      · exact pCreateDirN_occupied (by rw [List.dropLast_concat]; exact hE) hv1
      · intro hpre
        have := (none_of_vcore (hs1 _ hvis)).2 hpre.2
        rw [hov1, hv1] at this; cases this
      · intro hn; cases hn
      · intro q hq _
        injection hq with hq; subst hq
        constructor
        · intro hf
          obtain ⟨e', he', hft⟩ := (isFile_of_vcore (hs1 _ hvis)).2 hf
          rw [hov1, hv1] at he'; injection he' with he'; subst he'
          rw [if_pos hft]
        · intro hdq
          obtain ⟨e', he', hft⟩ := (isDir_of_vcore (hs1 _ hvis)).2 hdq
          rw [hov1, hv1] at he'; injection he' with he'; subst he'
          rw [if_neg (by rw [hft]; simp)]
  · refine ⟨.err .other none, mu, ?_, inv, VContract.of_fail ?_ (VSame.refl _) ?_ ?_⟩
    · exact pCreateDirN_no_parent (by rw [List.dropLast_concat]; exact ensure_fail hd)
    · intro hpre; rw [VPre, hpar] at hpre; exact hd hpre.1
    · intro hn; cases hn
    · intro q hq hpq
      injection hq with hq; subst hq
      rw [hpar] at hpq; exact absurd hpq hd

theorem pCreateFileN_cases :
    (¬ VIsDir (oview (mu :: ms)) (renderC ds) →
      pCreateFileN mu ms (ds ++ [n]) = (.err .other none, mu)) ∧
    (VIsDir (oview (mu :: ms)) (renderC ds) → VIsDir (oview (mu :: ms)) (renderC (ds ++ [n])) →
      pCreateFileN mu ms (ds ++ [n]) = (.err .other none, fillDirs mu (chain [] ds))) ∧
    (VIsDir (oview (mu :: ms)) (renderC ds) → ¬ VIsDir (oview (mu :: ms)) (renderC (ds ++ [n])) →
      ∃ mu2, pCreateFileN mu ms (ds ++ [n]) = (.ok (), mu2) ∧
        ∀ k, mu2.find? k = if k = renderC (ds ++ [n]) then some fileEntryNow
          else if k = marker (renderC (ds ++ [n])) then none
          else (fillDirs mu (chain [] ds)).find? k) := by
  have hvis : Vis (renderC (ds ++ [n])) := Or.inr hp.nr
  refine ⟨fun hd => ?_, fun hd hpd => ?_, fun hd hpd => ?_⟩
  · exact pCreateFileN_no_parent (by rw [List.dropLast_concat]; exact ensure_fail hd)
  · obtain ⟨hE, _, hs1, _⟩ := ensure_ok inv hp hv hd
    obtain ⟨e1, he1, hd1⟩ := (isDir_of_vcore (hs1 _ hvis)).2 hpd
    rw [oview_NR hp.nr] at he1
    exact pCreateFileN_refused (by rw [List.dropLast_concat]; exact hE) he1 hd1
  · obtain ⟨_, inv1, hs1, _, hp1, _⟩ := ensure_ok inv hp hv hd
    have hnd1 : ¬ VIsDir (oview (fillDirs mu (chain [] ds) :: ms)) (renderC (ds ++ [n])) :=
      fun h1 => hpd ((isDir_of_vcore (hs1 _ hvis)).1 h1)
    have hrefuse : pRefuseN (fillDirs mu (chain [] ds) :: ms) (renderC (ds ++ [n])) = .ok () := by
      unfold pRefuseN
      cases hv1 : viewN (fillDirs mu (chain [] ds) :: ms) (renderC (ds ++ [n])) with
      | none => rfl
      | some e1 =>
        have : ¬ e1.ftype = .dir := fun hd1 => hnd1 ⟨e1, by rw [oview_NR hp.nr]; exact hv1, hd1⟩
        simp [this]
    obtain ⟨mu2, hpure⟩ := eq_clear_ok (pCreateFileN_eq_clear (ms := ms) hp.hds hp.hn inv.root
      (ancDirsN_of_viewWF hv hp.hds hp.dhead hd) hrefuse
      (fun e0 hf => by
        cases hft : e0.ftype with
        | file => rfl
        | dir =>
          exact absurd ⟨e0, by rw [oview_NR hp.nr]; exact upper_is_view inv1 hp (hp1.trans hf), hft⟩
            hnd1))
      (fun em hem => inv1.markFile _ em hp.nr hem)
    have hfind := (pCreateFileN_ok_find hpure).2
    rw [List.dropLast_concat] at hfind
    exact ⟨mu2, hpure, hfind⟩

theorem pCreateFileN_ok (hd : VIsDir (oview (mu :: ms)) (renderC ds))
    (hnd : ¬ VIsDir (oview (mu :: ms)) (renderC (ds ++ [n]))) :
    ∃ mu2, pCreateFileN mu ms (ds ++ [n]) = (.ok (), mu2) ∧
      mu2.find? (renderC (ds ++ [n])) = some fileEntryNow ∧ OInv mu2 ms ∧
      oview (mu2 :: ms) (renderC (ds ++ [n])) = some fileEntryNow ∧
      VFrame (oview (mu :: ms)) (oview (mu2 :: ms)) (renderC (ds ++ [n])) := by
  obtain ⟨mu2, hpure, hmu2⟩ := (pCreateFileN_cases inv hv hp).2.2 hd hnd
  obtain ⟨_, inv1, hs1, _⟩ := ensure_ok inv hp hv hd
  have hwf2 : WF mu2 := by
    have := wf_pCreateFileN (ms := ms) (inv.wf mu (by simp)) (ds ++ [n])
    rw [hpure] at this; exact this
  obtain ⟨inv2, hself, hfr⟩ := insert_spec inv1 hp fileEntryNow mu2 hmu2 hwf2
  exact ⟨mu2, hpure, by rw [hmu2, if_pos rfl], inv2, hself,
    VFrame.trans_same hs1 (exact_frame hfr)⟩

end pureCreate

section runAppend
variable {w : World} {u idu : Nat} {mu : FMap} {is ids : List Nat} {ms : List FMap}
  (h : OWN w (u :: is) (idu :: ids) (mu :: ms)) (cs : List Str) (hne : cs ≠ [])
  (hcs : ∀ c ∈ cs, GoodComp c)
include h hne hcs

theorem run_oappend_ensureFail (hup : mu.find? (renderC cs) = none) (k : ErrKind) (pth : Option Str)
    (mu1 : FMap) (hE : pEnsureN (mu :: ms) cs.dropLast = (.err k pth, mu1)) :
    Overlay.appendFile (layersN (u :: is) (idu :: ids)) (renderC cs) w =
      (.err k pth, w.setLeafFiles u mu1) := by
  rw [oappendFileN_lower h cs hne hcs (contains_of_none hup), hE]

theorem run_oappend_notFound (hup : mu.find? (renderC cs) = none) (mu1 : FMap)
    (hE : pEnsureN (mu :: ms) cs.dropLast = (.ok (), mu1))
    (hr : readPath (layersN (u :: is) (idu :: ids)) (renderC cs) (w.setLeafFiles u mu1) =
      (.err .fileNotFound none, w.setLeafFiles u mu1)) :
    Overlay.appendFile (layersN (u :: is) (idu :: ids)) (renderC cs) w =
      (.err .fileNotFound none, w.setLeafFiles u mu1) := by
  rw [oappendFileN_lower h cs hne hcs (contains_of_none hup), hE]
  simp [bind, M.bind, hr]

theorem run_oappend_notFile (hup : mu.find? (renderC cs) = none) (mu1 : FMap)
    (hE : pEnsureN (mu :: ms) cs.dropLast = (.ok (), mu1)) (i id : Nat) (m : FMap) (e1 : Entry)
    (hr : readPath (layersN (u :: is) (idu :: ids)) (renderC cs) (w.setLeafFiles u mu1) =
      (.ok { fs := leafFS i, fsId := id, path := renderC cs }, w.setLeafFiles u mu1))
    (hl : MemLeafAt (w.setLeafFiles u mu1) i m) (he1 : m.find? (renderC cs) = some e1)
    (hfile : ¬ e1.ftype = .file) :
    Overlay.appendFile (layersN (u :: is) (idu :: ids)) (renderC cs) w =
      (.err .other none, w.setLeafFiles u mu1) := by
  rw [oappendFileN_lower h cs hne hcs (contains_of_none hup), hE]
  simp [bind, M.bind, hr, run_visFile hl, he1, hfile, M.failK, fail]

theorem run_oappend_upper (e0 : Entry) (hup : mu.find? (renderC cs) = some e0) :
    Overlay.appendFile (layersN (u :: is) (idu :: ids)) (renderC cs) w =
      (((Mem.appendFile mu (renderC cs)).map (fun b =>
          ({ leaf := u, key := renderC cs, kind := .memFile, buf := b, pos := b.length } : WHandle))).withPath
            (renderC cs), w) := by
  rw [oappendFileN_upper h cs hne hcs (contains_of_find hup), run_vappendFile h.hu]

end runAppend

section settingN
variable {w : World} {u idu : Nat} {mu : FMap} {is ids : List Nat} {ms : List FMap}
  (h : OWN w (u :: is) (idu :: ids) (mu :: ms)) (inv : OInv mu ms)
  (hv : ViewWF (oview (mu :: ms))) {ds : List Str} {n : Str} (hp : OpPath (ds ++ [n]))
include h inv hv hp

theorem overlay_createDir_contractN :
    ∃ r mu', ostep (Overlay.fs (layersN (u :: is) (idu :: ids))) (.createDir (renderC (ds ++ [n]))) w
        = (r, w.setLeafFiles u mu') ∧
      OWN (w.setLeafFiles u mu') (u :: is) (idu :: ids) (mu' :: ms) ∧ OInv mu' ms ∧
      VContract (oview (mu :: ms)) (.createDir (renderC (ds ++ [n]))) r (oview (mu' :: ms)) := by
  obtain ⟨r, mu', hpure, inv', hc⟩ := pCreateDirN_contract inv hv hp
  refine ⟨r, mu', ?_, h.setHead mu', inv', hc⟩
  show Overlay.createDir _ _ w = _
  rw [run_ocreateDirN h _ hp.ne hp.good, hpure]

theorem overlay_write_contractN (bs : Bytes) :
    ∃ r mu', ostep (Overlay.fs (layersN (u :: is) (idu :: ids))) (.write (renderC (ds ++ [n])) bs) w
        = (r, w.setLeafFiles u mu') ∧
      OWN (w.setLeafFiles u mu') (u :: is) (idu :: ids) (mu' :: ms) ∧ OInv mu' ms ∧
      VContract (oview (mu :: ms)) (.write (renderC (ds ++ [n])) bs) r (oview (mu' :: ms)) := by
  have hpar := hp.parent
  obtain ⟨hA, hB, _⟩ := pCreateFileN_cases inv hv hp
  have hrun : ostep (Overlay.fs (layersN (u :: is) (idu :: ids))) (.write (renderC (ds ++ [n])) bs) w
      = (do let hd ← Overlay.createFile (layersN (u :: is) (idu :: ids)) (renderC (ds ++ [n]))
            hd.writeAllAndDrop bs : M Unit) w := rfl
  rw [hrun]
  simp only [bind, M.bind, run_ocreateFileN h _ hp.ne hp.good]
  by_cases hd : VIsDir (oview (mu :: ms)) (renderC ds)
  · obtain ⟨_, inv1, hs1, _⟩ := ensure_ok inv hp hv hd
    by_cases hpd : VIsDir (oview (mu :: ms)) (renderC (ds ++ [n]))
    · rw [hB hd hpd]
      refine ⟨.err .other none, _, rfl, h.setHead _, inv1, VContract.of_fail ?_ hs1 ?_ ?_⟩
      · intro hpre; exact hpre.2 hpd
      · intro hn; cases hn
      · intro q hq; cases hq
    · -- `create_file` puts an empty file at `p`, `write_all` + drop publish the bytes into it
      obtain ⟨mu2, hpure, hself2, inv2, _, hfr2⟩ := pCreateFileN_ok inv hv hp hd hpd
      rw [hpure]
      simp only [Res.map, run_writeAllAndDrop (h.setHead mu2).hu, World.setLeafFiles_twice]
      obtain ⟨e3, hf3, hc3, inv3, _, hself, hfr3⟩ :=
        publish_spec inv2 hp hself2 rfl (cursorWrite [] 0 bs)
      refine ⟨.ok (), _, rfl, h.setHead _, inv3,
        VContract.of_ok ⟨by rw [hpar]; exact hd, hpd⟩ ⟨?_, ?_⟩⟩
      · exact ⟨e3, hself, hf3, by rw [hc3, cursorWrite_nil]⟩
      · intro q hq hne
        rw [hfr3 q hq hne]; exact hfr2 q hq hne
  · rw [hA hd]
    refine ⟨.err .other none, _, rfl, h.setHead _, inv, VContract.of_fail ?_ (VSame.refl _) ?_ ?_⟩
    · intro hpre; rw [VPre, hpar] at hpre; exact hd hpre.1
    · intro hn; cases hn
    · intro q hq; cases hq

omit hv in
/-- **remove_file through the overlay obeys the contract relative to the view** — for a path
that is not a DIRECTORY of the view (the documented open defect O3: on a directory that only
lower layers hold, `remove_file` succeeds; `C10.remove_file_on_lower_dir_orphansN` is the
negative theorem, `overlay_removeFile_no_panicN` below covers panic-freedom in that case) -/
theorem overlay_removeFile_contractN
    (hnd : ¬ VIsDir (oview (mu :: ms)) (renderC (ds ++ [n]))) :
    ∃ r mu', ostep (Overlay.fs (layersN (u :: is) (idu :: ids))) (.removeFile (renderC (ds ++ [n]))) w
        = (r, w.setLeafFiles u mu') ∧
      OWN (w.setLeafFiles u mu') (u :: is) (idu :: ids) (mu' :: ms) ∧ OInv mu' ms ∧
      VContract (oview (mu :: ms)) (.removeFile (renderC (ds ++ [n]))) r (oview (mu' :: ms)) := by
  have hov := oview_NR (all := mu :: ms) hp.nr
  show ∃ r mu', Overlay.removeFile _ _ w = _ ∧ _
  rw [run_oremoveFileN h _ hp.ne hp.good]
  rcases Option.eq_none_or_eq_some (viewN (mu :: ms) (renderC (ds ++ [n]))) with hv0 | ⟨e, hv0⟩
  · rw [pRemoveFileN_absent hv0]
    refine ⟨.err .fileNotFound none, mu, rfl, h.setHead mu, inv,
      VContract.of_fail ?_ (VSame.refl _) (fun _ _ _ => rfl) ?_⟩
    · rintro ⟨e, he, _⟩; rw [hov, hv0] at he; cases he
    · intro q hq; cases hq
  · have hfile : e.ftype = .file := by
      cases hft : e.ftype with
      | file => rfl
      | dir => exact absurd ⟨e, by rw [hov]; exact hv0, hft⟩ hnd
    obtain ⟨mu', ht, hpure⟩ := C10.pRemoveFileN_ok_of ds n hp.hds hp.hn inv.root
      (inv.hwoarea hp.hds hp.nwds) e hv0 hfile
    have hwf : WF mu' := by
      have := wf_pRemoveFileN (ms := ms) (inv.wf mu (by simp)) (ds ++ [n])
      rw [hpure] at this; exact this
    obtain ⟨inv', hgone, hfr⟩ := remove_spec inv hp Mem.erasing_removeFile mu' ht hwf
    rw [hpure]
    exact ⟨.ok (), mu', rfl, h.setHead mu', inv',
      VContract.of_ok ⟨e, by rw [hov]; exact hv0, hfile⟩ ⟨hgone, exact_frame hfr⟩⟩

omit hv in
theorem overlay_removeDir_contractN :
    ∃ r mu', ostep (Overlay.fs (layersN (u :: is) (idu :: ids))) (.removeDir (renderC (ds ++ [n]))) w
        = (r, w.setLeafFiles u mu') ∧
      OWN (w.setLeafFiles u mu') (u :: is) (idu :: ids) (mu' :: ms) ∧ OInv mu' ms ∧
      VContract (oview (mu :: ms)) (.removeDir (renderC (ds ++ [n]))) r (oview (mu' :: ms)) := by
  have hov := oview_NR (all := mu :: ms) hp.nr
  have hpne : renderC (ds ++ [n]) ≠ [] := renderC_ne_nil hp.ne
  show ∃ r mu', Overlay.removeDir _ _ w = _ ∧ _
  rw [run_oremoveDirN h _ hp.ne hp.good (inv.hwo hp.good hp.nowo)]
  rcases Option.eq_none_or_eq_some (viewN (mu :: ms) (renderC (ds ++ [n]))) with hv0 | ⟨e, hv0⟩
  · rw [pRemoveDirN_absent hv0]
    refine ⟨.err .fileNotFound none, mu, rfl, h.setHead mu, inv,
      VContract.of_fail ?_ (VSame.refl _) (fun _ _ _ => rfl) ?_⟩
    · rintro ⟨⟨e, he, _⟩, _⟩; rw [hov, hv0] at he; cases he
    · intro q hq; cases hq
  · have hpresent : ¬ VAbsent (oview (mu :: ms)) (renderC (ds ++ [n])) := by
      intro ha; rw [VAbsent, hov, hv0] at ha; cases ha
    cases hft : e.ftype with
    | file =>
      rw [pRemoveDirN_file hpne hv0 hft]
      refine ⟨.err .other none, mu, rfl, h.setHead mu, inv,
        VContract.of_fail ?_ (VSame.refl _) (fun _ _ ha => absurd ha hpresent) ?_⟩
      · rintro ⟨⟨e', he', hd'⟩, _⟩
        rw [hov, hv0] at he'; injection he' with he'; subst he'; rw [hft] at hd'; cases hd'
      · intro q hq; cases hq
    | dir =>
      by_cases hnoc : VNoChildren (oview (mu :: ms)) (renderC (ds ++ [n]))
      · have hno : ∀ y, '/' ∉ y → mu.find? (renderC (ds ++ [n]) ++ '/' :: y) = none := by
          intro y hy
          have hnr := NR_child hp.ne (good_noSlash hp.good) hp.head y
          exact inv.upper_none hnr (by rw [← oview_NR hnr]; exact hnoc y hy)
        obtain ⟨mu', hpure, _⟩ := C10.pRemoveDirN_result mu ms ds n hp.hds hp.hn
          inv.root (inv.hwoarea hp.hds hp.nwds) hp.head e hv0 hft ((inv.listing_nil_iff hpne).2 hnoc)
          hno
        have hwf : WF mu' := by
          have := wf_pRemoveDirN (ms := ms) (inv.wf mu (by simp)) (ds ++ [n]) hp.ne
          rw [hpure] at this; exact this
        obtain ⟨inv', hgone, hfr⟩ := remove_spec inv hp Mem.erasing_removeDir mu'
          (pRemoveDirN_ok_tail hpure).2.2 hwf
        rw [hpure]
        exact ⟨.ok (), mu', rfl, h.setHead mu', inv',
          VContract.of_ok ⟨⟨e, by rw [hov]; exact hv0, hft⟩, hnoc⟩ ⟨hgone, exact_frame hfr⟩⟩
      · rw [pRemoveDirN_nonempty hpne hv0 hft (fun hl => hnoc ((inv.listing_nil_iff hpne).1 hl))]
        exact ⟨.err .other none, mu, rfl, h.setHead mu, inv,
          VContract.of_fail (fun hpre => hnoc hpre.2) (VSame.refl _)
            (fun _ _ ha => absurd ha hpresent) (fun q hq => by cases hq)⟩

/-- `append_file` through the overlay, the opening of an append session. Whatever the outcome,
the view is unchanged (`ensure_has_parent` only materialises directories, the copy-up re-homes the
served bytes in the upper map, the serving layer gets an access stamp); a failure means that `p`
is not a file of the view; on success the handle is a memory handle on the upper leaf, positioned
at the end of the bytes `e0` holds, and the upper map is a map `mu0` with the view of `mu` (`mu`
itself, or `mu` with the ancestors filled in) in which the file `e0` sits at `p` and the marker of
`p` is gone. -/
theorem oappend_open :
    ∃ ro w1 mu1 ms1,
      Overlay.appendFile (layersN (u :: is) (idu :: ids)) (renderC (ds ++ [n])) w = (ro, w1) ∧
      OWN w1 (u :: is) (idu :: ids) (mu1 :: ms1) ∧ LowerSame ms ms1 ∧ OInv mu1 ms1 ∧
      VSame (oview (mu :: ms)) (oview (mu1 :: ms1)) ∧
      (∀ hd, ro = .ok hd → ∃ e0 mu0,
        hd = C04.memH u (renderC (ds ++ [n])) e0.content e0.content.length ∧ e0.ftype = .file ∧
        WF mu1 ∧ OInv mu0 ms ∧ VSame (oview (mu :: ms)) (oview (mu0 :: ms)) ∧
        ∀ k, mu1.find? k = if k = renderC (ds ++ [n]) then some e0
          else if k = marker (renderC (ds ++ [n])) then none else mu0.find? k) ∧
      (∀ k pth, ro = .err k pth → ¬ VIsFile (oview (mu :: ms)) (renderC (ds ++ [n])) ∧
        (VIsDir (oview (mu :: ms)) (renderC ds) → VAbsent (oview (mu :: ms)) (renderC (ds ++ [n])) →
          k = .fileNotFound)) ∧
      ro ≠ .panic := by
  have hov := oview_NR (all := mu :: ms) hp.nr
  have hvis : Vis (renderC (ds ++ [n])) := Or.inr hp.nr
  obtain ⟨w1, hrun, hown⟩ := run_oappendFileN h (ds ++ [n]) hp.ne hp.good
  rcases Option.eq_none_or_eq_some (mu.find? (renderC (ds ++ [n]))) with hup | ⟨e0, hup⟩
  · -- nothing in the upper map: `ensure_has_parent`, then the copy-up
    have hnc := contains_of_none hup
    by_cases hd : VIsDir (oview (mu :: ms)) (renderC ds)
    · obtain ⟨hE, inv1, hs1, hpok, hp1, _⟩ := ensure_ok inv hp hv hd
      have hE' : pEnsureN (mu :: ms) (ds ++ [n]).dropLast = (.ok (), fillDirs mu (chain [] ds)) := by
        rw [List.dropLast_concat]; exact hE
      have hf1 : (fillDirs mu (chain [] ds)).find? (renderC (ds ++ [n])) = none := by rw [hp1]; exact hup
      have hov1 := oview_NR (all := fillDirs mu (chain [] ds) :: ms) hp.nr
      rcases Option.eq_none_or_eq_some (viewN (fillDirs mu (chain [] ds) :: ms) (renderC (ds ++ [n])))
        with hv1 | ⟨e1, hv1⟩
      · rw [pAppendN_absent hnc hE' hv1] at hrun hown
        refine ⟨_, w1, _, ms, hrun, hown, LowerSame.refl ms, inv1, hs1, (fun _ h0 => nomatch h0), ?_,
          by simp [Res.map]⟩
        intro k pth h0
        injection h0 with hk _
        refine ⟨?_, fun _ _ => hk.symm⟩
        intro hpre
        obtain ⟨e', he', _⟩ := (isFile_of_vcore (hs1 _ hvis)).2 hpre
        rw [hov1, hv1] at he'; cases he'
      · have hv1' : oview (fillDirs mu (chain [] ds) :: ms) (renderC (ds ++ [n])) = some e1 := by
          rw [hov1]; exact hv1
        by_cases hfile : e1.ftype = .file
        · -- the copy-up: an empty file is created at `p`, the served bytes published into it
          have hwfB : WF ((fillDirs mu (chain [] ds)).insert (renderC (ds ++ [n])) fileEntryNow) := by
            have := wf_pOpenW (inv1.wf (fillDirs mu (chain [] ds)) (by simp)) (renderC (ds ++ [n]))
            rw [Mem.pOpenW_fresh _ _ hpok (slash_mem_renderC hp.ne) hf1] at this; exact this
          obtain ⟨eC, hfC, hcC, hpw⟩ := memPublish_pointwise _ _ e1.content fileEntryNow
            (FMap.find?_insert_self (fillDirs mu (chain [] ds)) (renderC (ds ++ [n])) fileEntryNow) rfl
          have hcf : ∀ k, (memPublish ((fillDirs mu (chain [] ds)).insert (renderC (ds ++ [n]))
              fileEntryNow) (renderC (ds ++ [n])) e1.content).find? k =
              if k = renderC (ds ++ [n]) then some eC else if k = marker (renderC (ds ++ [n])) then none
              else (fillDirs mu (chain [] ds)).find? k := by
            intro k
            rw [hpw k, ← find?_unmarked (find?_none_of_contains (viewN_some_cases hv1).1)]
            split
            · rfl
            · rename_i hk; exact FMap.find?_insert_ne _ _ _ _ hk
          have hwfC := hwfB.memPublish_any (renderC (ds ++ [n])) e1.content
          obtain ⟨invC, hselfC, hfrC⟩ := insert_spec inv1 hp eC _ hcf hwfC
          have hls := lowerSame_stampFirst ms (renderC (ds ++ [n]))
          rw [pAppendN_copyUp hp.ne hE' hup hv1 hfile hf1 hpok] at hrun hown
          refine ⟨_, w1, _, _, hrun, hown, hls, invC.lowerSame hls,
            (hs1.trans ?_).trans (oview_lowerSame _ hls), ?_, (fun _ _ h0 => nomatch h0), by simp [Res.map]⟩
          · intro q hq
            by_cases hqp : q = renderC (ds ++ [n])
            · rw [hqp, hselfC, hv1']
              show some (vcore eC) = some (vcore e1)
              rw [vcore_file hfC, vcore_file hfile, hcC]
            · rw [hfrC q hq hqp]
          · intro hd0 h0
            injection h0 with h0
            exact ⟨eC, _, by rw [← h0, hcC], hfC, hwfC, inv1, hs1, hcf⟩
        · rw [pAppendN_notFile hnc hE' hv1 hfile] at hrun hown
          refine ⟨_, w1, _, ms, hrun, hown, LowerSame.refl ms, inv1, hs1, (fun _ h0 => nomatch h0), ?_,
            by simp [Res.map]⟩
          intro k pth h0
          injection h0 with hk _
          constructor
          · intro hpre
            obtain ⟨e', he', hf'⟩ := (isFile_of_vcore (hs1 _ hvis)).2 hpre
            rw [hv1'] at he'; injection he' with he'; subst he'; exact hfile hf'
          · intro _ ha
            have := (none_of_vcore (hs1 _ hvis)).2 ha
            rw [hv1'] at this; cases this
    · rw [pAppendN_no_parent hnc (by rw [List.dropLast_concat]; exact ensure_fail hd)] at hrun hown
      refine ⟨_, w1, mu, ms, hrun, hown, LowerSame.refl ms, inv, VSame.refl _, (fun _ h0 => nomatch h0),
        ?_, by simp [Res.map]⟩
      intro k pth _
      refine ⟨?_, fun hpar _ => absurd hpar hd⟩
      intro hfl
      apply hd
      by_cases hds0 : ds = []
      · subst hds0; exact rootIsDir inv.root
      · exact hv.2 ds n hds0 hp.hds hp.hn.noSlash hp.dhead
          (fun h0 => not_absent_of_file hfl (by rw [renderC_snoc]; exact h0))
  · -- the upper map has the path: the append session runs on the upper leaf
    have hview := upper_is_view inv hp hup
    have hv0 : oview (mu :: ms) (renderC (ds ++ [n])) = some e0 := by rw [hov]; exact hview
    rw [pAppendN_upper (contains_of_find hup)] at hrun hown
    by_cases hfile : e0.ftype = .file
    · have happ : Mem.appendFile mu (renderC (ds ++ [n])) = .ok e0.content := by
        unfold Mem.appendFile; rw [hup]; simp only [hfile, ne_eq, not_true_eq_false, if_false]
      rw [happ] at hrun
      refine ⟨_, w1, mu, ms, hrun, hown, LowerSame.refl ms, inv, VSame.refl _, ?_,
        (fun _ _ h0 => nomatch h0), by simp [Res.map, Res.withPath]⟩
      intro _ h0
      refine ⟨e0, mu, by injection h0 with h0; exact h0.symm, hfile, inv.wf mu (by simp), inv,
        VSame.refl _, fun k => ?_⟩
      rw [← find?_unmarked (find?_none_of_contains (viewN_some_cases hview).1)]
      split
      · rename_i hk; rw [hk]; exact hup
      · rfl
    · have happ : Mem.appendFile mu (renderC (ds ++ [n])) = fail .other := by
        unfold Mem.appendFile; rw [hup]; simp only [hfile, ne_eq, not_false_eq_true, if_true]
      rw [happ] at hrun
      refine ⟨_, w1, mu, ms, hrun, hown, LowerSame.refl ms, inv, VSame.refl _,
        (fun _ h0 => nomatch h0), ?_, by simp [Res.map, Res.withPath, fail]⟩
      intro k pth _
      constructor
      · rintro ⟨e', he', hf'⟩
        rw [hv0] at he'; injection he' with he'; subst he'; exact hfile hf'
      · intro _ ha; rw [VAbsent, hv0] at ha; cases ha

/-- **an append session through the overlay obeys the contract relative to the view**: it
succeeds exactly on a file of the view — served by whichever layer — and continues that layer's
bytes (copy-up); the lower maps are unchanged up to the access stamp of the copied entry
(`LowerSame`) -/
theorem overlay_append_contractN (bs : Bytes) :
    ∃ r w' mu' ms',
      ostep (Overlay.fs (layersN (u :: is) (idu :: ids))) (.append (renderC (ds ++ [n])) bs) w
        = (r, w') ∧
      OWN w' (u :: is) (idu :: ids) (mu' :: ms') ∧ LowerSame ms ms' ∧ OInv mu' ms' ∧
      VContract (oview (mu :: ms)) (.append (renderC (ds ++ [n])) bs) r (oview (mu' :: ms')) := by
  have hvis : Vis (renderC (ds ++ [n])) := Or.inr hp.nr
  obtain ⟨ro, w1, mu1, ms1, hopen, hown1, hls, inv1, hs, hok, herr, hnp⟩ := oappend_open h inv hv hp
  have hrun : ostep (Overlay.fs (layersN (u :: is) (idu :: ids))) (.append (renderC (ds ++ [n])) bs) w
      = (do let hd ← Overlay.appendFile (layersN (u :: is) (idu :: ids)) (renderC (ds ++ [n]))
            hd.writeAllAndDrop bs : M Unit) w := rfl
  rw [hrun]
  cases ro with
  | ok hd =>
    -- the session continues on the upper leaf: `write_all` + drop publish the longer buffer
    obtain ⟨e0, mu0, rfl, hfile, _, _, _, hcf⟩ := hok hd rfl
    have he0 : mu1.find? (renderC (ds ++ [n])) = some e0 := by rw [hcf, if_pos rfl]
    simp only [bind, M.bind, hopen, run_writeAllAndDrop hown1.hu]
    obtain ⟨e3, hf3, hc3, inv3, _, hself, hfr⟩ :=
      publish_spec inv1 hp he0 hfile (cursorWrite e0.content e0.content.length bs)
    have hv1 : oview (mu1 :: ms1) (renderC (ds ++ [n])) = some e0 := by
      rw [oview_NR hp.nr]; exact upper_is_view inv1 hp he0
    refine ⟨.ok (), _, _, ms1, rfl, hown1.setHead _, hls, inv3,
      VContract.of_ok ?_ ⟨⟨e0.content, ?_, e3, hself, hf3, by rw [hc3, cursorWrite_end]⟩,
        VFrame.trans_same hs (exact_frame hfr)⟩⟩
    · exact (isFile_of_vcore (hs _ hvis)).1 ⟨e0, hv1, hfile⟩
    · exact (hasFile_of_vcore (hs _ hvis)).1 ⟨e0, hv1, hfile, rfl⟩
  | err k pth =>
    obtain ⟨hnf, hmiss⟩ := herr k pth rfl
    simp only [bind, M.bind, hopen]
    refine ⟨.err k pth, w1, mu1, ms1, rfl, hown1, hls, inv1,
      VContract.of_fail hnf hs (fun _ hpar ha => hmiss ?_ ha) (fun q hq => by cases hq)⟩
    rw [← hp.parent]; exact hpar
  | panic => exact absurd rfl hnp

end settingN

theorem layersN_np {w : World} {is ids : List Nat} {ms : List FMap} (h : OWN w is ids ms) :
    Overlay.NPLayers (LeavesLen w.leaves.length) (layersN is ids) := by
  induction h with
  | nil => intro l hl; cases hl
  | @cons i id m is ids _ hm _ _ ih =>
    intro l hl
    rcases List.mem_cons.1 hl with rfl | hl
    · apply leafFS_noPanic_len
      exact (List.getElem?_eq_some_iff.1 hm.leaf?).1
    · exact ih l hl

/-- `remove_file` on ANY canonical path, directories of the view included (defect O3): no panic,
only the upper leaf changes -/
theorem overlay_removeFile_no_panicN {w : World} {u idu : Nat} {mu : FMap} {is ids : List Nat}
    {ms : List FMap} (h : OWN w (u :: is) (idu :: ids) (mu :: ms)) (cs : List Str) (hne : cs ≠ [])
    (hcs : ∀ c ∈ cs, GoodComp c) :
    ∃ r mu', ostep (Overlay.fs (layersN (u :: is) (idu :: ids))) (.removeFile (renderC cs)) w
        = (r, w.setLeafFiles u mu') ∧
      OWN (w.setLeafFiles u mu') (u :: is) (idu :: ids) (mu' :: ms) ∧ r ≠ .panic := by
  have hrun : Overlay.removeFile (layersN (u :: is) (idu :: ids)) (renderC cs) w = _ :=
    run_oremoveFileN h cs hne hcs
  refine ⟨(pRemoveFileN mu ms cs).1, (pRemoveFileN mu ms cs).2, hrun, h.setHead _, ?_⟩
  -- the overlay over panic-free layers never panics (Proofs/NoPanic.lean)
  have := ((Overlay.noPanic _ (layersN_np h)).removeFile (renderC cs)).np w rfl
  rwa [show (Overlay.fs (layersN (u :: is) (idu :: ids))).removeFile (renderC cs) w = _ from hrun]
    at this

def OpOK (op : Mut) : Prop := ∃ ds n, OpPath (ds ++ [n]) ∧ op.path = renderC (ds ++ [n])

def O3Free (v : View) (op : Mut) : Prop := ∀ p, op = .removeFile p → ¬ VIsDir v p

theorem viewWF_of_contract {v v' : View} {op : Mut} {r : Res Unit} (hv : ViewWF v) (hop : OpOK op)
    (hc : VContract v op r v') : ViewWF v' := by
  obtain ⟨ds, n, hp, hpath⟩ := hop
  cases hr : r.isOk with
  | true => exact hv.step hp op hpath (hc.ok_iff.1 hr) (hc.effect hr)
  | false => exact hv.same (hc.unchanged hr)

section bundle
variable {w : World} {u idu : Nat} {mu : FMap} {is ids : List Nat} {ms : List FMap}
  (h : OWN w (u :: is) (idu :: ids) (mu :: ms)) (inv : OInv mu ms)
  (hv : ViewWF (oview (mu :: ms)))
include h inv hv

/-- **overlay_contractN.** In the n-layer setting, with the hidden state in order (`OInv`) and a
well-formed view (`ViewWF`), EVERY mutator on a disciplined path (`OpOK`; `remove_file` not on a
directory of the view: `O3Free`) through the overlay leaves a world that is again in the setting,
with the lower maps unchanged (for an append session: up to the access stamp of the entry that
was copied up), the hidden state in order and the view well-formed again, and obeys `VContract`
relative to the n-layer view. -/
theorem overlay_contractN (op : Mut) (hop : OpOK op) (hdisc : O3Free (oview (mu :: ms)) op) :
    ∃ r w' mu' ms',
      ostep (Overlay.fs (layersN (u :: is) (idu :: ids))) op w = (r, w') ∧
      OWN w' (u :: is) (idu :: ids) (mu' :: ms') ∧ LowerSame ms ms' ∧
      ((∀ p bs, op ≠ .append p bs) → ms' = ms) ∧
      OInv mu' ms' ∧ ViewWF (oview (mu' :: ms')) ∧
      VContract (oview (mu :: ms)) op r (oview (mu' :: ms')) := by
  obtain ⟨ds, n, hp, hpath⟩ := hop
  have hopok : OpOK op := ⟨ds, n, hp, hpath⟩
  cases op with
  | createDir p =>
    simp only [Mut.path] at hpath; subst hpath
    obtain ⟨r, mu', hrun, hown, inv', hc⟩ := overlay_createDir_contractN h inv hv hp
    exact ⟨r, _, mu', ms, hrun, hown, LowerSame.refl ms, fun _ => rfl, inv',
      viewWF_of_contract hv hopok hc, hc⟩
  | write p bs =>
    simp only [Mut.path] at hpath; subst hpath
    obtain ⟨r, mu', hrun, hown, inv', hc⟩ := overlay_write_contractN h inv hv hp bs
    exact ⟨r, _, mu', ms, hrun, hown, LowerSame.refl ms, fun _ => rfl, inv',
      viewWF_of_contract hv hopok hc, hc⟩
  | append p bs =>
    simp only [Mut.path] at hpath; subst hpath
    obtain ⟨r, w', mu', ms', hrun, hown, hls, inv', hc⟩ := overlay_append_contractN h inv hv hp bs
    exact ⟨r, w', mu', ms', hrun, hown, hls, fun hna => absurd rfl (hna _ _), inv',
      viewWF_of_contract hv hopok hc, hc⟩
  | removeFile p =>
    simp only [Mut.path] at hpath; subst hpath
    obtain ⟨r, mu', hrun, hown, inv', hc⟩ := overlay_removeFile_contractN h inv hp (hdisc _ rfl)
    exact ⟨r, _, mu', ms, hrun, hown, LowerSame.refl ms, fun _ => rfl, inv',
      viewWF_of_contract hv hopok hc, hc⟩
  | removeDir p =>
    simp only [Mut.path] at hpath; subst hpath
    obtain ⟨r, mu', hrun, hown, inv', hc⟩ := overlay_removeDir_contractN h inv hp
    exact ⟨r, _, mu', ms, hrun, hown, LowerSame.refl ms, fun _ => rfl, inv',
      viewWF_of_contract hv hopok hc, hc⟩

end bundle

end Vfs.C09

namespace Vfs.C11
open Vfs Vfs.Overlay Vfs.C02 Vfs.C09

/-- the n-layer setting with the invariants: the world `w` holds the upper map `mu` at leaf `u`
and the lower maps `ms` at the leaves `is`; hidden state in order; view well-formed. (It stands
here, under the name `C11.OSt` that the transfer theorems of C11 state their results with, because
it is the state between two calls of `overlay_contractN`, and `OSt.step` / `C11.OSt.history`
(Props/C03Overlay.lean) need nothing above this file.) -/
structure OSt (u idu : Nat) (is ids : List Nat) (ms : List FMap) (w : World) (mu : FMap) : Prop where
  own : OWN w (u :: is) (idu :: ids) (mu :: ms)
  inv : OInv mu ms
  vwf : ViewWF (oview (mu :: ms))

/-- `overlay_contractN` from a state to a state: one mutator on a disciplined path leads to a state
again (the lower maps the same up to access stamps, and the same outright unless the call is an
append), and the call obeys the contract between the two views -/
theorem OSt.step {w : World} {u idu : Nat} {mu : FMap} {is ids : List Nat} {ms : List FMap}
    (st : OSt u idu is ids ms w mu) (op : Mut) (hop : OpOK op)
    (hdisc : O3Free (oview (mu :: ms)) op) :
    ∃ r w' mu' ms',
      ostep (Overlay.fs (layersN (u :: is) (idu :: ids))) op w = (r, w') ∧
      OSt u idu is ids ms' w' mu' ∧ LowerSame ms ms' ∧ ((∀ p bs, op ≠ .append p bs) → ms' = ms) ∧
      VContract (oview (mu :: ms)) op r (oview (mu' :: ms')) := by
  obtain ⟨r, w', mu', ms', hrun, hown, hls, hms, inv', hv', hc⟩ :=
    overlay_contractN st.own st.inv st.vwf op hop hdisc
  exact ⟨r, w', mu', ms', hrun, ⟨hown, inv', hv'⟩, hls, hms, hc⟩

end Vfs.C11
