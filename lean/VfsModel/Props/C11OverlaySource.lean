/-
  C11 with an OVERLAY AS THE SOURCE — `copy_dir` / `move_dir` of a tree of ANY depth out of an
  overlay over n ≥ 1 in-memory layers onto a memory leaf that is not a layer produce an exact copy
  of what the overlay SHOWS. ORDER-INSENSITIVE statement, proved directly on the view (no lock-step
  with a reference leaf: the overlay's merged listings come in an order of their own).

  Setting (as in Props/C09Contract.lean / Props/C05WalkView.lean): world `w` with
  `OWN w (u :: is) (idu :: ids) (mu :: ms)`, `OInv mu ms`, `ViewWF (oview (mu :: ms))`, name
  discipline `NamesOK (mu :: ms)` (needed by the walk: Props/C05WalkView.lean); lower layers
  arbitrary, whiteouts allowed. Source `S = renderC ss`, `OpPath ss`, a directory of the view.
  Destination `T = renderC (dp ++ [n0])` (canonical components) on the memory leaf `t ∉ u :: is`
  holding `mt0`; `T`'s parent is a directory of `mt0`; `T` is fresh: nothing at `T` or at a
  canonical path below it (`hfresh`; `fresh_of_wf`: follows from `WF mt0` and `T` absent). The two
  paths carry different `Arc` identities (`id ≠ tid`: two filesystems). Any duplicate-free
  enumeration `D` of the present disciplined paths strictly below `S`
  (`DescList (ovisView (mu :: ms)) S D`), fuel > `D.length`.

  * `copyDir_from_overlay_exact` — the call returns `Ok D.length` (the number of view entries
    strictly below `S`); afterwards, with `mt'` the destination leaf's map:
      - `T` is a directory;
      - for EVERY relative path `ts ≠ []` of canonical components:
          `(mt'.find? (T/ts)).map vcore = (ovisView (mu :: ms) (S/ts)).map vcore`
        i.e. `T/ts` exists iff `S/ts` is in the (disciplined) view, with the same type, a file with
        exactly the bytes the overlay serves (first layer that has it); hidden (whited-out)
        entries, marker files and ".whiteout" are NOT copied (`copy_absent_of_hidden`,
        `copy_faithful_of_shown` read the equation);
      - every key of the destination leaf that is not `T` or `T/ts` is unchanged (`find?` equal);
      - the overlay's layers are unchanged up to access stamps: `MapSame mu mu'`,
        `LowerSame ms ms'`, and `OWN`/`OInv`/`ViewWF`/`NamesOK` hold again.
  * `moveDir_from_overlay_exact` — the same for `move_dir` (generic route; copy phase, then
    `remove_dir_all` of the source THROUGH the overlay with the same fuel; extra hypothesis
    `FuelOK (oview (mu :: ms)) ss fuel` = depth bound of the recursive removal, decidable check
    `fuelOK_of_keys`): NO TRACE of the source in the view; the LOWER layers are unchanged up to
    access stamps (the removal writes whiteouts to the upper layer only).
  * `copyItems_from_overlay`: the loop. Invariant `DInv` = "the destination holds `T` plus exactly
    the items processed so far, each faithful; nothing else below `T`; the rest of the leaf
    untouched"; the loop itself is `CopyLoop.copyItems_run` (Proofs/CopyLoop.lean) with the
    ORIGINAL view as tree (`fromOverlay_setting`): the walker only sees presence and types, so
    access stamps written by `open_file` in the layers do not disturb it; one round is
    `fromOverlay_step`, where ancestors-first gives each `create_dir` / `copy_file` its parent.

  Source and destination in ONE overlay: Props/C11OverlayWithin.lean
  (`copyDir_within_overlay_exact_stmt`, `moveDir_within_overlay_exact_stmt`).
  NOT PROVED: failing runs (occupied destination, missing parent, too little fuel — for the
  latter see the evaluated example in Props/C11OverlaySourceEx.lean); destinations that are not
  canonical strings; a physical or altroot destination; the fast path (equal `Arc` identities
  cannot occur between two filesystems); the relational forms `copyDir_from_overlay_stmt` /
  `copyDir_within_overlay_stmt` of Props/C11OverlayTree.lean (agreement with the same call on a
  reference leaf).
-/
import VfsModel.Proofs.OverlayRemoveAll
import VfsModel.Proofs.OverlayTransfer
import VfsModel.Proofs.CopyLoop
import VfsModel.Proofs.Sim
namespace Vfs.C11
open Vfs Vfs.Overlay Vfs.C02 Vfs.C01 Vfs.C09 Vfs.C05 Vfs.Wk
open Vfs.WkG (TreeViewOn TreeView IsNames)

theorem pCreateDir_fresh {m : FMap} {p : Str} {pe : Entry} (hs : '/' ∈ p)
    (hpar : m.find? (parentInternal p) = some pe) (hpd : pe.ftype = .dir)
    (hab : m.find? p = none) :
    Mem.pCreateDir m p = (.ok (), m.insert p dirEntryNow) :=
  FreshDest.pCreateDir ⟨hab, hs, pe, hpar, hpd⟩

theorem pWrite_fresh {m : FMap} {p : Str} {pe : Entry} (bs : Bytes) (hs : '/' ∈ p)
    (hpar : m.find? (parentInternal p) = some pe) (hpd : pe.ftype = .dir)
    (hab : m.find? p = none) :
    ∃ e', e'.ftype = .file ∧ e'.content = bs ∧
      Mem.pWrite m p bs = (.ok (), (m.insert p fileEntryNow).insert p e') :=
  ⟨copiedEntry bs, rfl, rfl, by
    rw [FreshDest.pWrite ⟨hab, hs, pe, hpar, hpd⟩, FMap.insert_insert]⟩

/-- the destination map `mt` against the original destination map `mt0`; `proc` = the source
path strings processed so far -/
structure DInv (all0 : List FMap) (ss dd : List Str) (mt0 mt : FMap) (proc : Str → Prop) : Prop where
  top : ∃ e, mt.find? (renderC dd) = some e ∧ e.ftype = .dir
  done : ∀ ts, ts ≠ [] → OpPath (ss ++ ts) → proc (renderC (ss ++ ts)) →
    (mt.find? (renderC (dd ++ ts))).map vcore = (oview all0 (renderC (ss ++ ts))).map vcore
  notyet : ∀ ts, ts ≠ [] → (∀ c ∈ ts, GoodComp c) → ¬ proc (renderC (ss ++ ts)) →
    mt.find? (renderC (dd ++ ts)) = none
  frame : ∀ k, (∀ ts, (∀ c ∈ ts, GoodComp c) → k ≠ renderC (dd ++ ts)) → mt.find? k = mt0.find? k

theorem DInv.step {all0 : List FMap} {ss dd : List Str} {mt0 mt mt1 : FMap} {proc proc' : Str → Prop}
    (h : DInv all0 ss dd mt0 mt proc) (hss : ∀ c ∈ ss, GoodComp c) (hdd : ∀ c ∈ dd, GoodComp c)
    {ts : List Str} (hts : ts ≠ []) (hgt : ∀ c ∈ ts, GoodComp c)
    (hproc : ∀ k, proc' k ↔ (proc k ∨ k = renderC (ss ++ ts)))
    (hnew : (mt1.find? (renderC (dd ++ ts))).map vcore
      = (oview all0 (renderC (ss ++ ts))).map vcore)
    (hold : ∀ k, k ≠ renderC (dd ++ ts) → mt1.find? k = mt.find? k) :
    DInv all0 ss dd mt0 mt1 proc' := by
  refine ⟨?_, ?_, ?_, ?_⟩
  · obtain ⟨e, he, hd⟩ := h.top
    refine ⟨e, ?_, hd⟩
    rw [hold _ (by
      have := ne_of_ts (ts1 := []) (ts2 := ts) hdd (by intro c hc; cases hc) hgt (Ne.symm hts)
      simpa using this)]
    exact he
  · intro ts2 hts2 hp2 hpr
    have hg2 : ∀ c ∈ ts2, GoodComp c := fun c hc => hp2.good c (by simp [hc])
    by_cases heq : ts2 = ts
    · subst heq; exact hnew
    · rw [hold _ (ne_of_ts hdd hg2 hgt heq)]
      rcases (hproc _).1 hpr with hpr | hpr
      · exact h.done ts2 hts2 hp2 hpr
      · exact absurd hpr (ne_of_ts hss hg2 hgt heq)
  · intro ts2 hts2 hg2 hnp
    have heq : ts2 ≠ ts := fun h0 => hnp ((hproc _).2 (Or.inr (by rw [h0])))
    rw [hold _ (ne_of_ts hdd hg2 hgt heq)]
    exact h.notyet ts2 hts2 hg2 (fun h0 => hnp ((hproc _).2 (Or.inl h0)))
  · intro k hk
    rw [hold k (hk ts hgt)]
    exact h.frame k hk

/-- `DInv` looks at `proc` only strictly below the source -/
theorem DInv.congr_below {all0 : List FMap} {ss dd : List Str} {mt0 mt : FMap}
    {proc proc' : Str → Prop} (h : DInv all0 ss dd mt0 mt proc)
    (hp : ∀ k, below (renderC ss) k = true → (proc' k ↔ proc k)) : DInv all0 ss dd mt0 mt proc' :=
  ⟨h.top, fun ts a b c => h.done ts a b ((hp _ (below_of_ne ss a)).1 c),
    fun ts a b c => h.notyet ts a b (fun h0 => c ((hp _ (below_of_ne ss a)).2 h0)), h.frame⟩

/-- the invariant of the loop: the overlay's layers are the original ones up to access stamps, the
destination leaf holds the directory plus the copies of the keys in `P` -/
def FromInv (u idu : Nat) (is ids : List Nat) (mu0 : FMap) (ms0 : List FMap) (t : Nat)
    (ss dd : List Str) (mt0 : FMap) (w : World) (P : Str → Prop) : Prop :=
  ∃ mt, SrcSt u idu is ids mu0 ms0 w ∧ MemLeafAt w t mt ∧ DInv (mu0 :: ms0) ss dd mt0 mt P

section loop
variable {u idu : Nat} {is ids : List Nat} {mu0 : FMap} {ms0 : List FMap} {t tid id : Nat}
  (ht : t ∉ u :: is) (hid : id ≠ tid) {m : FMap} (hm : m.find? = ovisView (mu0 :: ms0))
  (hwf : WF m) (hnk : FMap.NodupKeys m) {ss dd : List Str} (hss : OpPath ss)
  (hdd : ∀ c ∈ dd, GoodComp c) (mt0 : FMap)
include ht hid hm hwf hnk hss hdd

local notation "ofs" => Overlay.fs (layersN (u :: is) (idu :: ids))

omit hnk in
/-- one round: `create_dir` or `copy_file` onto the fresh key `dd/ts` of the destination leaf -/
theorem fromOverlay_step (w : World) (P : Str → Prop) (t' : Str) (e : Entry)
    (hJ : FromInv u idu is ids mu0 ms0 t ss dd mt0 w P)
    (hx : m.find? (renderC ss ++ '/' :: t') = some e) (hnP : ¬ P (renderC ss ++ '/' :: t'))
    (hanc : ∀ p, below (renderC ss) p = true → below p (renderC ss ++ '/' :: t') = true →
      (∃ e', m.find? p = some e') → P p) :
    ∃ w', VPath.copyItem e.ftype ((⟨ofs, id, renderC ss⟩ : VPath).withStr (renderC ss ++ '/' :: t'))
        ((⟨leafFS t, tid, renderC dd⟩ : VPath).withStr (renderC dd ++ '/' :: t')) w = (.ok (), w') ∧
      FromInv u idu is ids mu0 ms0 t ss dd mt0 w' (fun k => P k ∨ k = renderC ss ++ '/' :: t') := by
  obtain ⟨mt, hS, hleaf, hD⟩ := hJ
  obtain ⟨ts, hts, hpt, hr, hxe⟩ := below_src hss (by rw [← hm]; exact hx)
  have hsx : renderC ss ++ '/' :: t' = renderC (ss ++ ts) := by rw [renderC_append, hr]
  have hdx : renderC dd ++ '/' :: t' = renderC (dd ++ ts) := by rw [renderC_append, hr]
  rw [hsx] at hx hnP hanc ⊢
  rw [hdx]
  have hgt : ∀ c ∈ ts, GoodComp c := fun c hc => hpt.good c (by simp [hc])
  obtain ⟨mu, ms, st, hmu, hls, hn⟩ := hS
  have hcur := oview_mapSame hmu hls _ hpt.vis
  rw [hxe] at hcur
  obtain ⟨e1, he1, hcur⟩ := vcore_some hcur rfl
  have hft : e1.ftype = e.ftype := ftype_of_vcore hcur
  have hslash : '/' ∈ renderC (dd ++ ts) := slash_mem_renderC (by simp [hts])
  -- the parent of the destination key is a directory of the destination leaf
  obtain ⟨pe', hpe', hpd'⟩ : ∃ pe', mt.find? (parentInternal (renderC (dd ++ ts))) = some pe' ∧
      pe'.ftype = .dir := by
    obtain ⟨ts', n, rfl⟩ := snoc_of_ne hts
    rw [← List.append_assoc, parentInternal_renderC _ (good_noSlash (by
      rw [List.append_assoc]; exact good_append hdd hgt)), List.dropLast_concat]
    exact dst_parent_dir (v := mt.find?) hwf (fun k _ => by rw [hm]) hpt hx hanc hD.top hD.done
  have habs : mt.find? (renderC (dd ++ ts)) = none := hD.notyet ts hts hgt hnP
  cases hfte : e.ftype with
  | dir =>
    have hcd := run_pCreateDir hleaf tid (renderC (dd ++ ts))
    rw [pCreateDir_fresh hslash hpe' hpd' habs] at hcd
    refine ⟨_, hcd, _, ⟨mu, ms, ⟨st.own.frame t ht _, st.inv, st.vwf⟩, hmu, hls, hn⟩,
      hleaf.set _, hD.step hss.good hdd hts hgt (fun _ => Iff.rfl) ?_
        (fun k hk => FMap.find?_insert_ne _ _ _ _ hk)⟩
    rw [FMap.find?_insert_self, hxe]
    simp only [Option.map_some, Option.some.injEq]
    rw [vcore_dir (show dirEntryNow.ftype = .dir from rfl), vcore_dir hfte]
  | file =>
    have hfte1 : e1.ftype = .file := hft.trans hfte
    obtain ⟨w2, mu1, ms1, hopen, st1, hmu1, hls1, _, hn1⟩ :=
      o_openFile_step st id hpt ⟨e1, he1, hfte1, rfl⟩
    have hleaf2 : MemLeafAt w2 t mt := by
      have := (VPath.pres_openFile ⟨ofs, id, renderC (ss ++ ts)⟩
        (overlay_pres_leaf ht _).obs).pres w hleaf
      rw [hopen] at this; exact this
    have hexd := run_vexists_absent hleaf tid _ habs
    have hw := run_pWrite hleaf2 tid (renderC (dd ++ ts)) e1.content
    obtain ⟨e', hf', hc', hpw⟩ := pWrite_fresh e1.content hslash hpe' hpd' habs
    rw [hpw] at hw
    refine ⟨_, VPath.copyFile_of_calls ⟨ofs, id, renderC (ss ++ ts)⟩ ⟨leafFS t, tid, renderC (dd ++ ts)⟩
        w w2 _ e1.content hexd (fun h => absurd h hid) hopen hw, _,
      ⟨mu1, ms1, ⟨st1.own.frame t ht _, st1.inv, st1.vwf⟩, mapSame_trans hmu hmu1, hls.trans hls1,
        hn1 hn⟩,
      hleaf2.set _, hD.step hss.good hdd hts hgt (fun _ => Iff.rfl) ?_ (fun k hk => by
        rw [FMap.find?_insert_ne _ _ _ _ hk, FMap.find?_insert_ne _ _ _ _ hk])⟩
    rw [FMap.find?_insert_self, hxe]
    simp only [Option.map_some, Option.some.injEq]
    rw [← hcur, vcore_file hf', vcore_file hfte1, hc']

theorem fromOverlay_setting :
    CopyLoop.Setting ⟨ofs, id, renderC ss⟩ ⟨leafFS t, tid, renderC dd⟩ m (fun _ => True)
      (FromInv u idu is ids mu0 ms0 t ss dd mt0) where
  wf := hwf
  nodup := hnk
  down := WkG.down_all
  join t' e hx := join_below_src hss hdd (by rw [← hm]; exact hx)
  sees w P := fun ⟨_, ⟨mu, ms, st, hmu, hls, hn⟩, _, _⟩ =>
    overlay_seesOn st hn id _ WkG.down_all fun k _ => by
      rw [hm]
      exact ft_of_vcore
        (ovisView_map_congr fun hv => (oview_mapSame hmu hls k (vis_of_ovis hv)).symm)
  congr w P P' := fun ⟨mt, hS, hl, hD⟩ hp => ⟨mt, hS, hl, DInv.congr_below hD hp⟩
  step := fromOverlay_step ht hid hm hwf hss hdd mt0

theorem copyItems_from_overlay :
    ∀ (fuel : Nat) (inner todo : List Str) (count : Nat) (w : World) (mt : FMap),
      SrcSt u idu is ids mu0 ms0 w → MemLeafAt w t mt → Good m inner todo →
      (∀ k, (∃ e, m.find? k = some e) → pending inner todo k = true →
        below (renderC ss) k = true) →
      DInv (mu0 :: ms0) ss dd mt0 mt
        (fun k => (∃ e, m.find? k = some e) ∧ pending inner todo k = false) →
      (m.keys.filter (pending inner todo)).length < fuel →
      ∃ w' mt', VPath.copyItems fuel ⟨ofs, id, renderC ss⟩ ⟨leafFS t, tid, renderC dd⟩
          (WkG.st ⟨ofs, id, renderC ss⟩ inner todo) count w
          = (.ok (count + (m.keys.filter (pending inner todo)).length), w') ∧
        SrcSt u idu is ids mu0 ms0 w' ∧ MemLeafAt w' t mt' ∧
        DInv (mu0 :: ms0) ss dd mt0 mt' (fun k => ∃ e, m.find? k = some e) := by
  intro fuel inner todo count w mt hS hleaf hg hbel hD hf
  obtain ⟨w', hrun, mt', hS', hleaf', hD'⟩ :=
    CopyLoop.copyItems_run (fromOverlay_setting ht hid hm hwf hnk hss hdd mt0) fuel inner todo count w hg
      ⟨fun _ _ => trivial, fun _ _ => trivial⟩ hbel ⟨mt, hS, hleaf, hD⟩ hf
  exact ⟨w', mt', hrun, hS', hleaf', hD'⟩

end loop

set_option linter.unusedVariables false in
theorem fresh_of_wf {mt0 : FMap} (hwf : WF mt0) {dd : List Str} (hdd : ∀ c ∈ dd, GoodComp c)
    (habs : mt0.find? (renderC dd) = none) :
    ∀ ts, (∀ c ∈ ts, GoodComp c) → mt0.find? (renderC (dd ++ ts)) = none := by
  intro ts _
  by_cases hts : ts = []
  · rw [hts, List.append_nil]; exact habs
  · -- a present key strictly below `dd` would make `dd` a present directory (`Wk.ancestor_dir`)
    cases hq : mt0.find? (renderC (dd ++ ts)) with
    | none => rfl
    | some e =>
      obtain ⟨pe, hpe, _⟩ := Wk.ancestor_dir hwf ⟨e, hq⟩ (below_of_ne dd hts)
      rw [habs] at hpe; cases hpe

section main
variable {w : World} {u idu : Nat} {mu : FMap} {is ids : List Nat} {ms : List FMap}
  (h : OWN w (u :: is) (idu :: ids) (mu :: ms)) (inv : OInv mu ms)
  (hv : ViewWF (oview (mu :: ms))) (hn : NamesOK (mu :: ms))
include h inv hv hn

/-- the copy phase of `copy_dir` and `move_dir`: the probe of the destination, and the body
(`create_dir`, `walk_dir`, the loop) with the state it leads to -/
theorem copyBody_from_overlay {t tid id : Nat} (ht : t ∉ u :: is) (hid : id ≠ tid)
    {ss dp : List Str} {n0 : Str} (hss : OpPath ss)
    (hsrc : VIsDir (oview (mu :: ms)) (renderC ss))
    (hdd : ∀ c ∈ dp ++ [n0], GoodComp c) {mt0 : FMap} (hleaf : MemLeafAt w t mt0)
    {pe : Entry} (hpar : mt0.find? (renderC dp) = some pe) (hpd : pe.ftype = .dir)
    (hfresh : ∀ ts, (∀ c ∈ ts, GoodComp c) → mt0.find? (renderC (dp ++ [n0] ++ ts)) = none)
    {D : List Str} (hD : DescList (ovisView (mu :: ms)) (renderC ss) D) {fuel : Nat}
    (hfuel : D.length < fuel) :
    ∃ w' mu' ms' mt',
      VPath.exists_ ⟨leafFS t, tid, renderC (dp ++ [n0])⟩ w = (.ok false, w) ∧
      VPath.copyDirBody fuel ⟨Overlay.fs (layersN (u :: is) (idu :: ids)), id, renderC ss⟩
        ⟨leafFS t, tid, renderC (dp ++ [n0])⟩ w = (.ok D.length, w') ∧
      OSt u idu is ids ms' w' mu' ∧ MapSame mu mu' ∧ LowerSame ms ms' ∧ NamesOK (mu' :: ms') ∧
      MemLeafAt w' t mt' ∧
      (∃ e, mt'.find? (renderC (dp ++ [n0])) = some e ∧ e.ftype = .dir) ∧
      (∀ ts, ts ≠ [] → (∀ c ∈ ts, GoodComp c) →
        (mt'.find? (renderC (dp ++ [n0] ++ ts))).map vcore
          = (ovisView (mu :: ms) (renderC (ss ++ ts))).map vcore) ∧
      (∀ k, (∀ ts, (∀ c ∈ ts, GoodComp c) → k ≠ renderC (dp ++ [n0] ++ ts)) →
        mt'.find? k = mt0.find? k) := by
  have tv0 := overlay_treeView h inv hv hn
  obtain ⟨m, hm0, hwf, hnk⟩ := WkG.exists_map tv0.finite tv0.root tv0.parent
  have hm : m.find? = ovisView (mu :: ms) := hm0.symm
  have habs0 : mt0.find? (renderC (dp ++ [n0])) = none := by
    have := hfresh [] (by intro c hc; cases hc)
    rwa [List.append_nil] at this
  have hexd := run_vexists_absent hleaf tid _ habs0
  have hpe : parentInternal (renderC (dp ++ [n0])) = renderC dp := by
    rw [parentInternal_renderC _ (good_noSlash hdd), List.dropLast_concat]
  have hcd := run_pCreateDir hleaf tid (renderC (dp ++ [n0]))
  rw [pCreateDir_fresh (slash_mem_renderC (by simp)) (hpe ▸ hpar) hpd habs0] at hcd
  obtain ⟨e, hse, hsd⟩ := hsrc
  have hsm : m.find? (renderC ss) = some e := by
    rw [hm, ovisView_of_vis (Or.inr ⟨ss, hss, rfl⟩)]; exact hse
  -- after `create_dir`: the destination directory, nothing copied
  have hJ : FromInv u idu is ids mu ms t ss (dp ++ [n0]) mt0
      (w.setLeafFiles t (mt0.insert (renderC (dp ++ [n0])) dirEntryNow)) (fun _ => False) := by
    refine ⟨_, ⟨mu, ms, ⟨h.frame t ht _, inv, hv⟩, MapSame.refl _, LowerSame.refl _, hn⟩,
      hleaf.set _, ⟨dirEntryNow, FMap.find?_insert_self _ _ _, rfl⟩, fun _ _ _ hf => hf.elim,
      fun ts hts hgt _ => ?_, fun k hk => ?_⟩
    · have hne := ne_of_ts (ts1 := ts) (ts2 := []) hdd hgt (by intro c hc; cases hc) hts
      rw [List.append_nil] at hne
      rw [FMap.find?_insert_ne _ _ _ _ hne]
      exact hfresh ts hgt
    · have hne := hk [] (by intro c hc; cases hc)
      rw [List.append_nil] at hne
      exact FMap.find?_insert_ne _ _ _ _ hne
  have hlen : (m.keys.filter (below (renderC ss))).length = D.length := by
    have h1 := descList_of_map m hnk (renderC ss)
    rw [hm] at h1
    exact DescList.length_eq h1 hD
  obtain ⟨w', hrun, mt', ⟨mu', ms', st', hmu', hls', hn'⟩, hleaf', hD'⟩ :=
    CopyLoop.copyDirBody_run (fromOverlay_setting ht hid hm hwf hnk hss hdd mt0) hcd hsm hsd trivial
      hJ (by rw [hlen]; exact hfuel)
  rw [hlen] at hrun
  refine ⟨w', mu', ms', mt', hexd, hrun, st', hmu', hls', hn', hleaf', hD'.top, ?_, hD'.frame⟩
  intro ts hts hgt
  cases hq : ovisView (mu :: ms) (renderC (ss ++ ts)) with
  | none =>
    rw [hD'.notyet ts hts hgt (by rintro ⟨e2, he2⟩; rw [hm, hq] at he2; cases he2)]
  | some e2 =>
    obtain ⟨hp, he2⟩ := opPath_of_shown hss.good hts hgt hq
    have := hD'.done ts hts hp ⟨e2, by rw [hm]; exact hq⟩
    rw [he2] at this
    exact this

/-- **copy_dir of a tree of ANY depth OUT OF an overlay onto a memory leaf: an exact copy of what
the overlay SHOWS.** See the header of this file. -/
theorem copyDir_from_overlay_exact {t tid id : Nat} (ht : t ∉ u :: is) (hid : id ≠ tid)
    {ss dp : List Str} {n0 : Str} (hss : OpPath ss)
    (hsrc : VIsDir (oview (mu :: ms)) (renderC ss))
    (hdd : ∀ c ∈ dp ++ [n0], GoodComp c) {mt0 : FMap} (hleaf : MemLeafAt w t mt0)
    {pe : Entry} (hpar : mt0.find? (renderC dp) = some pe) (hpd : pe.ftype = .dir)
    (hfresh : ∀ ts, (∀ c ∈ ts, GoodComp c) → mt0.find? (renderC (dp ++ [n0] ++ ts)) = none)
    {D : List Str} (hD : DescList (ovisView (mu :: ms)) (renderC ss) D) {fuel : Nat}
    (hfuel : D.length < fuel) :
    ∃ w' mu' ms' mt',
      VPath.copyDir fuel ⟨Overlay.fs (layersN (u :: is) (idu :: ids)), id, renderC ss⟩
        ⟨leafFS t, tid, renderC (dp ++ [n0])⟩ w = (.ok D.length, w') ∧
      OSt u idu is ids ms' w' mu' ∧ MapSame mu mu' ∧ LowerSame ms ms' ∧ NamesOK (mu' :: ms') ∧
      MemLeafAt w' t mt' ∧
      (∃ e, mt'.find? (renderC (dp ++ [n0])) = some e ∧ e.ftype = .dir) ∧
      (∀ ts, ts ≠ [] → (∀ c ∈ ts, GoodComp c) →
        (mt'.find? (renderC (dp ++ [n0] ++ ts))).map vcore
          = (ovisView (mu :: ms) (renderC (ss ++ ts))).map vcore) ∧
      (∀ k, (∀ ts, (∀ c ∈ ts, GoodComp c) → k ≠ renderC (dp ++ [n0] ++ ts)) →
        mt'.find? k = mt0.find? k) := by
  obtain ⟨w', mu', ms', mt', hexd, hrun, rest⟩ :=
    copyBody_from_overlay h inv hv hn ht hid hss hsrc hdd hleaf hpar hpd hfresh hD hfuel
  exact ⟨w', mu', ms', mt', VPath.copyDir_of_body hexd hrun, rest⟩

/-- **move_dir of a tree of ANY depth OUT OF an overlay onto a memory leaf** (generic route:
different `Arc` identities; the copy phase, then `remove_dir_all` of the source THROUGH the overlay
with the same fuel). Hypotheses of `copyDir_from_overlay_exact` plus the depth bound `FuelOK` of
`remove_dir_all`. Then: Ok; the destination subtree is the exact copy of what the overlay showed;
NO TRACE of the source in the view: `S` and every disciplined path at or below it is absent;
every visible path outside the source subtree keeps its type and bytes; the LOWER layers are
unchanged up to the access stamps of the files read (whiteouts went to the upper layer only);
all invariants hold again. -/
theorem moveDir_from_overlay_exact {t tid id : Nat} (ht : t ∉ u :: is) (hid : id ≠ tid)
    {ss dp : List Str} {n0 : Str} (hss : OpPath ss)
    (hsrc : VIsDir (oview (mu :: ms)) (renderC ss))
    (hdd : ∀ c ∈ dp ++ [n0], GoodComp c) {mt0 : FMap} (hleaf : MemLeafAt w t mt0)
    {pe : Entry} (hpar : mt0.find? (renderC dp) = some pe) (hpd : pe.ftype = .dir)
    (hfresh : ∀ ts, (∀ c ∈ ts, GoodComp c) → mt0.find? (renderC (dp ++ [n0] ++ ts)) = none)
    {D : List Str} (hD : DescList (ovisView (mu :: ms)) (renderC ss) D) {fuel : Nat}
    (hfuel : D.length < fuel) (hdepth : FuelOK (oview (mu :: ms)) ss fuel) :
    ∃ w' mu' ms' mt',
      VPath.moveDir fuel ⟨Overlay.fs (layersN (u :: is) (idu :: ids)), id, renderC ss⟩
        ⟨leafFS t, tid, renderC (dp ++ [n0])⟩ w = (.ok (), w') ∧
      OSt u idu is ids ms' w' mu' ∧ LowerSame ms ms' ∧ NamesOK (mu' :: ms') ∧
      MemLeafAt w' t mt' ∧
      (∃ e, mt'.find? (renderC (dp ++ [n0])) = some e ∧ e.ftype = .dir) ∧
      (∀ ts, ts ≠ [] → (∀ c ∈ ts, GoodComp c) →
        (mt'.find? (renderC (dp ++ [n0] ++ ts))).map vcore
          = (ovisView (mu :: ms) (renderC (ss ++ ts))).map vcore) ∧
      (∀ k, (∀ ts, (∀ c ∈ ts, GoodComp c) → k ≠ renderC (dp ++ [n0] ++ ts)) →
        mt'.find? k = mt0.find? k) ∧
      (∀ q, InSub ss q → oview (mu' :: ms') q = none) ∧
      (∀ q, Vis q → ¬ InSub ss q →
        (oview (mu' :: ms') q).map vcore = (oview (mu :: ms) q).map vcore) := by
  obtain ⟨w2, mu2, ms2, mt', hexd, hrun, st2, hmu2, hls2, hn2, hleaf2, htop, hcopy, hframe⟩ :=
    copyBody_from_overlay h inv hv hn ht hid hss hsrc hdd hleaf hpar hpd hfresh hD hfuel
  have hvs : VSame (oview (mu :: ms)) (oview (mu2 :: ms2)) := oview_mapSame hmu2 hls2
  have hsrc2 : VIsDir (oview (mu2 :: ms2)) (renderC ss) := (isDir_of_vcore (hvs _ hss.vis)).2 hsrc
  have hdepth2 : FuelOK (oview (mu2 :: ms2)) ss fuel := by
    intro ts hp hpres
    exact hdepth ts hp (fun h0 => hpres ((none_of_vcore (hvs _ hp.vis)).2 h0))
  obtain ⟨mu3, hrun3, ⟨own3, inv3, vwf3⟩, hn3, hgone3, hframe3⟩ :=
    rda_all (id := id) fuel _ mu2 ss st2 hn2 hss hsrc2 hdepth2
  have hut : u ≠ t := fun e => ht (by simp [e])
  refine ⟨_, mu3, ms2, mt', ?_, ⟨own3, inv3, vwf3⟩, hls2, hn3, ?_, htop, hcopy, hframe, hgone3,
    fun q hq hns => (hframe3 q hq hns).trans (hvs q hq)⟩
  · exact VPath.moveDir_of_body hexd (fun h => absurd h hid) hrun hrun3
  · exact hleaf2.set_ne hut _

end main

/-- reading the result: a path the overlay HIDES (whited out, or never there) is absent from the
copy -/
theorem copy_absent_of_hidden {all : List FMap} {a : Option Entry} {k : Str}
    (h : a.map vcore = (ovisView all k).map vcore) (hh : oview all k = none) : a = none := by
  have : ovisView all k = none :=
    Classical.not_not.1 fun hne => (ovisView_ne_none_iff.1 hne).2 hh
  rw [this] at h
  cases a <;> simp at h ⊢

/-- reading the result: on a disciplined path that the view shows, the copy has the same type,
and for a file the bytes the overlay serves -/
theorem copy_faithful_of_shown {all : List FMap} {a : Option Entry} {cs : List Str} {e : Entry}
    (h : a.map vcore = (ovisView all (renderC cs)).map vcore) (hp : OpPath cs)
    (he : oview all (renderC cs) = some e) :
    ∃ e', a = some e' ∧ e'.ftype = e.ftype ∧ (e.ftype = .file → e'.content = e.content) := by
  rw [ovisView_of_vis (Or.inr ⟨cs, hp, rfl⟩), he] at h
  obtain ⟨e', rfl, hv⟩ := vcore_some h rfl
  exact ⟨e', rfl, ftype_of_vcore hv, content_of_vcore hv⟩

end Vfs.C11

section audit
open Vfs.C11
#print axioms copyItems_from_overlay
#print axioms copyDir_from_overlay_exact
#print axioms moveDir_from_overlay_exact
end audit
