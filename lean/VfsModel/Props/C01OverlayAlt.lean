/-
  C01 for an altroot on top of an overlay, `alt(ovl(mem, …, mem))`: an `AltrootFS` whose root is
  the path `Q` of the overlay filesystem `Overlay.fs (layersN …)` over n ≥ 1 memory layers.

  * `ostep_altroot_eq` (from `C07.altroot_exact_*`): for canonical `Q` and a canonical path `q`,
    a mutator at `q` through the altroot's trait methods is, as a state transformer, the
    user-level (`VfsPath`) mutator of the underlying filesystem at `Q ++ q`:
        ostep (Altroot.fs ⟨fs, idQ, Q⟩) op = vstep fs idQ (op.shift Q).
  * `altroot_over_overlay_contract`: in the setting of `overlay_contractN` (`OWN`, `OInv`,
    `ViewWF`), for `Q = renderC Qs` and an operation at `q = renderC (qs ++ [n])` with
    `OpPath (Qs ++ (qs ++ [n]))` and the O3 discipline at `Q ++ q`, the call through the altroot
    ends in a world that is again in the setting, obeys the overlay's contract at `Q ++ q`
    (`VContract (oview …) (op.shift Q)`) and the contract at `q` relative to the view restricted
    below `Q` (`VContract (vsub Q (oview …)) op`: what a user of the altroot sees), and a failure
    is labelled `Q ++ q` (the altroot's methods hand the label of the underlying `VfsPath` up
    unchanged).
  That `Q` is a directory of the view is not needed: if it is not, every call fails with the view
  unchanged, and the contract says so (the parent of `Q ++ q` is not a directory, or, for
  `qs = []`, `Q` itself is not).

  Not covered: the user-level call through the altroot's own `VfsPath` layer
  (`vstep (Altroot.fs ⟨ovl, idQ, Q⟩) id op`: one more parent probe, which goes through the altroot
  to the overlay, and one more relabelling with `q`); operations on the altroot's own root
  `q = ""` (outside `OpPath`); physical or nested layers below the overlay.
-/
import VfsModel.Props.C01Overlay
import VfsModel.Props.C07
namespace Vfs.C01
open Vfs Vfs.Overlay Vfs.C02 Vfs.C09

def _root_.Vfs.C02.Mut.shift (Q : Str) : Mut → Mut
  | .createDir p => .createDir (Q ++ p)
  | .write p bs => .write (Q ++ p) bs
  | .append p bs => .append (Q ++ p) bs
  | .removeFile p => .removeFile (Q ++ p)
  | .removeDir p => .removeDir (Q ++ p)

theorem shift_path (Q : Str) (op : Mut) : (op.shift Q).path = Q ++ op.path := by
  cases op <;> rfl

theorem shift_needsTarget (Q : Str) (op : Mut) : needsTarget (op.shift Q) = needsTarget op := by
  cases op <;> rfl

/-- **exactness**: a mutator at `q` through the altroot rooted at `Q` IS the user-level mutator
of the underlying filesystem at `Q ++ q` -/
theorem ostep_altroot_eq (fs : FS) (idQ : Nat) {Q : Str} (hQ : Canon Q) (op : Mut)
    (hq : Canon op.path) :
    ostep (Altroot.fs ⟨fs, idQ, Q⟩) op = vstep fs idQ (op.shift Q) := by
  cases op with
  | createDir p => exact C07.altroot_exact_createDir ⟨fs, idQ, Q⟩ p hQ hq
  | write p bs =>
    show ((Altroot.fs ⟨fs, idQ, Q⟩).createFile p >>= fun hd => hd.writeAllAndDrop bs) = _
    rw [C07.altroot_exact_createFile ⟨fs, idQ, Q⟩ p hQ hq]; rfl
  | append p bs =>
    show ((Altroot.fs ⟨fs, idQ, Q⟩).appendFile p >>= fun hd => hd.writeAllAndDrop bs) = _
    rw [C07.altroot_exact_appendFile ⟨fs, idQ, Q⟩ p hQ hq]; rfl
  | removeFile p => exact C07.altroot_exact_removeFile ⟨fs, idQ, Q⟩ p hQ hq
  | removeDir p => exact C07.altroot_exact_removeDir ⟨fs, idQ, Q⟩ p hQ hq

def vsub (Q : Str) (v : View) : View := fun q => v (Q ++ q)

/-- `Q` keeps visible paths visible: `Q` is "" or an absolute canonical path outside ".whiteout" -/
theorem vis_append {Qs : List Str} (hQs : ∀ c ∈ Qs, GoodComp c) (hhead : Qs.head? ≠ some woDir)
    {x : Str} (hx : Vis x) : Vis (renderC Qs ++ x) := by
  cases Qs with
  | nil => simpa using hx
  | cons c cs =>
    right
    refine ⟨by simp, ?_⟩
    have hrw : renderC (c :: cs) ++ x = '/' :: (c ++ (renderC cs ++ x)) := by
      simp [List.append_assoc]
    rw [hrw, firstComp_cons c _ (hQs c (by simp)).noSlash ?_]
    · intro h0; apply hhead; simp [h0]
    · rcases hx with rfl | hx
      · simpa using renderC_nil_or_head cs
      · right
        cases cs with
        | nil =>
          have := hx.1
          simpa using this
        | cons d ds => simp

section restrict
variable {Qs qs : List Str} {n : Str} (hp : OpPath (Qs ++ (qs ++ [n])))
include hp

theorem shift_parent :
    parentInternal (renderC Qs ++ renderC (qs ++ [n])) = renderC Qs ++ parentInternal (renderC (qs ++ [n])) := by
  have hp' : OpPath ((Qs ++ qs) ++ [n]) := by rw [List.append_assoc]; exact hp
  have hqs : ∀ c ∈ qs, GoodComp c := fun c hc => hp'.hds c (by simp [hc])
  rw [← renderC_append, ← List.append_assoc, hp'.parent, parent_snoc qs n hqs hp'.hn, renderC_append]

theorem VContract.restrict {v v' : View} {op : Mut} (hpath : op.path = renderC (qs ++ [n]))
    {r : Res Unit} (hc : VContract v (op.shift (renderC Qs)) r v') :
    VContract (vsub (renderC Qs) v) op r (vsub (renderC Qs) v') := by
  have hQs : ∀ c ∈ Qs, GoodComp c := fun c hc => hp.good c (by simp [hc])
  have hhead : Qs.head? ≠ some woDir := by
    intro h0; apply hp.head
    cases Qs with
    | nil => simp at h0
    | cons c cs => simpa using h0
  have hpar := shift_parent hp
  have hvis : ∀ {x}, Vis x → Vis (renderC Qs ++ x) := fun hx => vis_append hQs hhead hx
  have hpre : VPre (vsub (renderC Qs) v) op ↔ VPre v (op.shift (renderC Qs)) := by
    cases op with
    | createDir p =>
      simp only [Mut.path] at hpath; subst hpath
      simp only [VPre, Mut.shift, VIsDir, VAbsent, vsub, hpar]
    | write p bs =>
      simp only [Mut.path] at hpath; subst hpath
      simp only [VPre, Mut.shift, VIsDir, vsub, hpar]
    | append p bs => simp only [VPre, Mut.shift, VIsFile, vsub]
    | removeFile p => simp only [VPre, Mut.shift, VIsFile, vsub]
    | removeDir p =>
      simp only [VPre, Mut.shift, VIsDir, VNoChildren, vsub, List.append_assoc]
  have hsame : VSame v v' → VSame (vsub (renderC Qs) v) (vsub (renderC Qs) v') :=
    fun hs x hx => hs _ (hvis hx)
  have hframe : ∀ p, VFrame v v' (renderC Qs ++ p) →
      VFrame (vsub (renderC Qs) v) (vsub (renderC Qs) v') p :=
    fun p hf x hx hne => hf _ (hvis hx) (fun h0 => hne (List.append_cancel_left h0))
  have heff : VEffect v v' (op.shift (renderC Qs)) →
      VEffect (vsub (renderC Qs) v) (vsub (renderC Qs) v') op := by
    intro ⟨hnamed, hfr⟩
    rw [shift_path] at hfr
    refine ⟨?_, hframe _ hfr⟩
    cases op with
    | createDir p =>
      simpa only [VNamed, Mut.shift, VIsDir, VNoChildren, vsub, List.append_assoc] using hnamed
    | write p bs => simpa only [VNamed, Mut.shift, VHasFile, vsub] using hnamed
    | append p bs => simpa only [VNamed, Mut.shift, VHasFile, vsub] using hnamed
    | removeFile p => simpa only [VNamed, Mut.shift, VAbsent, vsub] using hnamed
    | removeDir p => simpa only [VNamed, Mut.shift, VAbsent, vsub] using hnamed
  have hparent : VIsDir (vsub (renderC Qs) v) (parentInternal op.path) →
      VIsDir v (parentInternal (op.shift (renderC Qs)).path) := by
    intro hd
    rw [shift_path, hpath, hpar]
    rw [hpath] at hd
    exact hd
  exact {
    ok_iff := hc.ok_iff.trans hpre.symm
    effect := fun hr => heff (hc.effect hr)
    unchanged := fun hr => hsame (hc.unchanged hr)
    missing := fun hn hd ha =>
      hc.missing (by rw [shift_needsTarget]; exact hn) (hparent hd) (by rw [shift_path]; exact ha)
    occupied := by
      intro q hq hd
      subst hq
      have := hc.occupied (renderC Qs ++ q) rfl (hparent hd)
      exact this
    no_panic := hc.no_panic }

end restrict

section settingN
variable {w : World} {u idu : Nat} {mu : FMap} {is ids : List Nat} {ms : List FMap}
  (h : OWN w (u :: is) (idu :: ids) (mu :: ms)) (inv : OInv mu ms)
  (hv : ViewWF (oview (mu :: ms)))
  {Qs qs : List Str} {n : Str} (hp : OpPath (Qs ++ (qs ++ [n])))
include h inv hv hp

/-- **altroot_over_overlay_contract.** An `AltrootFS` rooted at the canonical path `Q =
renderC Qs` of the overlay over n ≥ 1 memory layers; a mutator at the canonical path `q =
renderC (qs ++ [n])` through the altroot is the overlay's user-level mutator at `Q ++ q`; hence it
obeys the overlay's contract at `Q ++ q` relative to the n-layer view, and the contract at `q`
relative to the view restricted below `Q`; the world is in the setting again; a failure is
labelled `Q ++ q`. -/
theorem altroot_over_overlay_contract (idQ : Nat) (op : Mut) (hpath : op.path = renderC (qs ++ [n]))
    (hdisc : O3Free (oview (mu :: ms)) (op.shift (renderC Qs))) :
    ∃ r w' mu' ms',
      ostep (Altroot.fs ⟨Overlay.fs (layersN (u :: is) (idu :: ids)), idQ, renderC Qs⟩) op w
        = (r, w') ∧
      vstep (Overlay.fs (layersN (u :: is) (idu :: ids))) idQ (op.shift (renderC Qs)) w = (r, w') ∧
      OWN w' (u :: is) (idu :: ids) (mu' :: ms') ∧ LowerSame ms ms' ∧
      ((∀ p bs, op ≠ .append p bs) → ms' = ms) ∧
      OInv mu' ms' ∧ ViewWF (oview (mu' :: ms')) ∧
      VContract (oview (mu :: ms)) (op.shift (renderC Qs)) r (oview (mu' :: ms')) ∧
      VContract (vsub (renderC Qs) (oview (mu :: ms))) op r
        (vsub (renderC Qs) (oview (mu' :: ms'))) ∧
      (∀ k pth, r = .err k pth → pth = some (renderC Qs ++ op.path)) := by
  have hQs : ∀ c ∈ Qs, GoodComp c := fun c hc => hp.good c (by simp [hc])
  have hqn : ∀ c ∈ qs ++ [n], GoodComp c := fun c hc => hp.good c (by simp [hc])
  have hopQ : OpOK (op.shift (renderC Qs)) := by
    refine ⟨Qs ++ qs, n, by rw [List.append_assoc]; exact hp, ?_⟩
    rw [shift_path, hpath, ← renderC_append, List.append_assoc]
  obtain ⟨r, w', mu', ms', hrun, hown, hls, hms, inv', hv', hc, hlab, _⟩ :=
    vpath_overlay_contractN h inv hv idQ (op.shift (renderC Qs)) hopQ hdisc
  refine ⟨r, w', mu', ms', ?_, hrun, hown, hls, ?_, inv', hv', hc,
    VContract.restrict hp hpath hc, ?_⟩
  · rw [ostep_altroot_eq _ idQ ⟨Qs, hQs, rfl⟩ op (by rw [hpath]; exact ⟨_, hqn, rfl⟩)]
    exact hrun
  · intro hna
    apply hms
    intro p bs h0
    cases op <;> simp [Mut.shift] at h0
    exact hna _ _ rfl
  · intro k pth he
    rw [hlab k pth he, shift_path]

end settingN

section example3

/-- rooted at "/d" of the 3-layer world of Props/C09Refine.lean, a directory split over layers 1 and 2 -/
def xAlt : FS := Altroot.fs ⟨xfs, 4, "/d".toList⟩

-- the hypotheses hold for a call of each kind ("/new", "/x", "/c", "/b" below "/d"; "/sub/deep"
-- below a missing parent)
example := altroot_over_overlay_contract xw_setting xw_inv xw_viewWF (Qs := ["d".toList])
  (qs := []) (n := "new".toList) (by decide) 4 (.createDir "/new".toList) rfl
  (by intro p hp; cases hp)
example := altroot_over_overlay_contract xw_setting xw_inv xw_viewWF (Qs := ["d".toList])
  (qs := []) (n := "x".toList) (by decide) 4 (.write "/x".toList [1, 2]) rfl
  (by intro p hp; cases hp)
example := altroot_over_overlay_contract xw_setting xw_inv xw_viewWF (Qs := ["d".toList])
  (qs := []) (n := "c".toList) (by decide) 4 (.append "/c".toList [9]) rfl
  (by intro p hp; cases hp)
example := altroot_over_overlay_contract xw_setting xw_inv xw_viewWF (Qs := ["d".toList])
  (qs := []) (n := "b".toList) (by decide) 4 (.removeFile "/b".toList) rfl
  (by intro p hp; injection hp with hp; subst hp; decide)
example := altroot_over_overlay_contract xw_setting xw_inv xw_viewWF (Qs := ["d".toList])
  (qs := ["sub".toList]) (n := "deep".toList) (by decide) 4 (.createDir "/sub/deep".toList) rfl
  (by intro p hp; cases hp)

/-- by evaluation: the outcomes through the altroot, the label of the failure, and the view
below "/d" before and after the append with copy-up from layer 2 -/
example :
    (ostep xAlt (.createDir "/new".toList) xw).1 = .ok () ∧
    (ostep xAlt (.removeFile "/b".toList) xw).1 = .ok () ∧
    (ostep xAlt (.createDir "/sub/deep".toList) xw).1 = .err .other (some "/d/sub/deep".toList) ∧
    (ostep xAlt (.createDir "/x".toList) xw).1 = .err .fileExists (some "/d/x".toList) ∧
    (vsub "/d".toList (oview [xU, xA, xB]) "/c".toList).map vcore = some (.file, [67]) ∧
    (vsub "/d".toList (oview (C10.mapsOfN (ostep xAlt (.append "/c".toList [9]) xw).2 [2, 0, 1]))
      "/c".toList).map vcore = some (.file, [67, 9]) := by
  rw [xw_chars, xU_chars, xA_chars, xB_chars]; decide +kernel

end example3

section audit
#print axioms ostep_altroot_eq
#print axioms VContract.restrict
#print axioms altroot_over_overlay_contract
end audit

end Vfs.C01
