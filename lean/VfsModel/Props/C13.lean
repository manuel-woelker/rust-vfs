/-
  C13 — No operation panics.

  In the model every site where the Rust code can panic is the explicit outcome `Res.panic`
  (Basic.lean): slices out of range (`relJoin`, `RHandle.read`), position overflow
  (`RHandle.read`), a leaf of the world that does not exist (`onLeaf`), and the fuel sentinel of
  the recursive functions. Notions (Proofs/NoPanic.lean):

    `NoPanic I m`    : `(∀ w, I w → I (m w).2) ∧ (∀ w, I w → (m w).1 ≠ .panic)` — started in a world
                       satisfying the invariant `I`, `m` does not panic and re-establishes `I`
                       (whatever its outcome), so the notion is closed under `bind`.
    `FS.NoPanic I fs`: all 15 trait methods of `fs` are `NoPanic I`, and the write handles
                       returned by create_file / append_file keep `I` (`HandleOK I`; that handles
                       never panic holds for *every* handle in *every* world: `whandle_no_panic`).
    `LeafExists i`, `LeavesLen n` : the invariants "leaf i exists" / "there are n leaves".
                       `onLeaf i` panics exactly when leaf `i` is missing (`onLeaf_panics`), and no
                       operation changes the number of leaves.

  Claims
    * Path level, all strings: `join_total`, `vpath_join_no_panic`, `altroot_path_no_panic`.
      `parentInternal`, `filenameInternal`, `extensionInternal` are total functions into `Str` /
      `Option Str` — they have no `Res` outcome, so there is no panic outcome to exclude.
    * Handles: `read_no_panic` (every content shorter than 2^64, every position, every buffer
      size, zero included), `seek_no_panic` (every offset), `readToEnd_no_panic`;
      `whandle_no_panic`: write / seek / flush / drop / write_all+drop of EVERY write handle in
      EVERY world — no invariant at all: a handle whose leaf is missing or whose file was removed
      is tolerated ("handles used after their file was removed").
    * Leaves: `mem_total`, `phys_total` (every `Mem.*` / `Phys.*` function, every map, every path
      string: root, parentless paths, wrong-type targets), `leaf_no_panic`.
    * `VfsPath` layer over an ARBITRARY `fs` with `FS.NoPanic I fs`: `pathops_no_panic`,
      `transfers_no_panic`, `walkNext_no_panic`, `write_session_no_panic`.
      `relJoin` — the slice `&src_path[prefix_len + 1..]` of copy_dir / move_dir: `walk_below`
      (every path held or yielded by a walk started at `src.walk_dir()` extends
      `src.path ++ "/"`), `relJoin_in_range`, `relJoin_no_panic`; `relJoin_site_is_real` (outside
      the invariant the model does panic).
      Fuel-taking functions (`removeDirAll`, `walkAll`, `copyItems`, `copyDir`, `moveDir`), whose
      `.panic` at fuel 0 is a sentinel of the MODEL for unbounded recursion / an endless iterator
      (not a Rust panic site): `*_panic_is_fuel` — if the outcome is `.panic` then the run
      reached the `0 =>` branch (`RemoveDirAllOut`, `WalkAllOut`, `CopyItemsOut`: recursive
      predicates that follow the run through its successful steps down to fuel 0). In particular
      a `.panic` of `copyItems` is never the out-of-range slice. That the sentinel is unreachable
      with a computable fuel: Props/C13Term.lean (memory), Props/C13Phys.lean (physical),
      Props/C13Altroot.lean.
    * Adapters: `altroot_no_panic`, `overlay_no_panic` (any number of layers, any nesting),
      `embedded_no_panic` (every state, every invariant), and the regression
      `embedded_old_open_file_panics` (the `split_at(1)` version of `open_file` panics on the
      root; commit "fix: EmbeddedFS::open_file panicked on the root path").
    * `stack_no_panic`, `stack_pathops_no_panic`: altroot over overlay over leaves, with the
      `VfsPath` operations on top, on every world in which the leaves exist.
      `script_no_panic`: ANY finite sequence of public operations (arbitrary join strings from
      the root, errors ignored and the sequence continued, handle sessions that keep writing
      after the file was removed) never panics — closure of `NoPanic` under sequencing.

  NOT PROVED / assumptions / out of scope
    * A stack overflow by unbounded recursion would be an abort, not an unwinding panic.
    * `RHandle.read` needs `content.length < 2^64` (a `Vec<u8>` cannot be longer); it is a
      hypothesis of `read_no_panic`, not an invariant of the world, and reads are therefore not
      part of `script_no_panic` (seeks and read_to_end are).
    * The async API: `async_vfs` mirrors the sync `VfsPath` code line by line over an async trait
      (what is not a line-by-line port is modelled in AsyncOps.lean, AsyncHandle.lean,
      AsyncWalk.lean and related to the sync model in Props/C15*.lean); C13 for it rests on that
      correspondence (harness side), not on a Lean theorem. Panics inside the async runtime / `block_on` are outside the model.
    * OverlayFS: the model writes `&path[1..]` as `drop 1` and `&name[..len-3]` as
      `take (len-3)`, which are total. In the Rust code these slices are guarded by
      `path.is_empty()` / `ends_with("_wo")`; a non-empty trait-level path always starts with the
      one-byte '/', so index 1 is in range and a char boundary. `OverlayFS::new(&[])` panics by
      design (documented constructor precondition) and is not an operation of the property.
    * EmbeddedFS::metadata still contains `path.split_at(1)`, reached only when the file map has
      an entry for the normalised path, which for the root would be a file named "" (RustEmbed
      cannot produce one); the model uses `normalize` there.
    * PhysicalFS on non-UTF-8 file names / host behaviours outside the `Phys` table are outside
      the model (the `Phys.*` functions are the modelling assumption about the host).
-/
import VfsModel.Proofs.NoPanic
import VfsModel.Props.C14
namespace Vfs.C13
open Vfs.VPath

theorem join_total (base arg : Str) : joinInternal base arg ≠ .panic :=
  joinInternal_ne_panic base arg

theorem path_level_total (p : Str) :
    (∃ s : Str, parentInternal p = s) ∧ (∃ s : Str, filenameInternal p = s) ∧
    (∃ o : Option Str, extensionInternal p = o) := ⟨⟨_, rfl⟩, ⟨_, rfl⟩, ⟨_, rfl⟩⟩

theorem vpath_join_no_panic (p : VPath) (arg : Str) : p.join arg ≠ .panic := join_ne_panic p arg

theorem vpath_join_ok_or_invalid (p : VPath) (arg : Str) :
    (∃ q, p.join arg = .ok q) ∨ p.join arg = .err .invalidPath (some arg) :=
  VPath.join_ok_or_invalid p arg

/-- `AltrootFS::path` (with its `&path[1..]`, taken only behind a leading '/') -/
theorem altroot_path_no_panic (root : VPath) (p : Str) : Altroot.path root p ≠ .panic :=
  Altroot.path_ne_panic root p

theorem read_no_panic (r : RHandle) (n : Nat) (hlen : r.content.length < u64Max) :
    (r.read n).1 ≠ .panic := C14.read_no_panic r n hlen

theorem read_zero_len (r : RHandle) : (r.read 0).1 ≠ .panic ∧ (r.read 0).2 = r := by
  unfold RHandle.read
  split
  · exact ⟨fail_ne_panic _, rfl⟩
  · have : r.amt 0 = 0 := by unfold RHandle.amt; simp
    rw [if_pos this]
    exact ⟨Res.ok_ne_panic _, rfl⟩

theorem seek_no_panic (r : RHandle) (s : SeekFrom) : (r.seek s).1 ≠ .panic := C14.seek_no_panic r s

theorem readToEnd_no_panic (r : RHandle) : r.readToEnd.1 ≠ .panic := r.readToEnd_ne_panic

theorem seek_script_no_panic (r : RHandle) (ss : List SeekFrom) :
    (ss.foldl (fun h s => (h.seek s).2) r).readToEnd.1 ≠ .panic := RHandle.readToEnd_ne_panic _

/-- **write handles never panic — every handle, every world, no invariant**: the leaf may be
missing, the file may have been removed or replaced by a directory -/
theorem whandle_no_panic (h : WHandle) (w : World) :
    (∀ bs, (h.write bs w).1 ≠ .panic) ∧ (∀ s, (h.seek s w).1 ≠ .panic) ∧
    (h.flush w).1 ≠ .panic ∧ (h.drop w).1 ≠ .panic ∧ (∀ bs, (h.writeAllAndDrop bs w).1 ≠ .panic) :=
  ⟨fun bs => h.write_ne_panic bs w, fun s => h.seek_ne_panic s w, h.flush_ne_panic w,
    h.drop_ne_panic w, fun bs => h.writeAllAndDrop_ne_panic bs w⟩

theorem whandle_ops_no_panic {I : World → Prop} (h : WHandle) (hk : HandleOK I h) :
    (∀ bs, NoPanic I (h.write bs)) ∧ (∀ s, NoPanic I (h.seek s)) ∧ NoPanic I h.flush ∧
    NoPanic I h.drop ∧ (∀ bs, NoPanic I (h.writeAllAndDrop bs)) :=
  ⟨hk.np_write, fun s => HandleOK.np_seek s, hk.np_flush, hk.np_drop, hk.np_writeAllAndDrop⟩

theorem mem_total (m : FMap) (p : Str) (t : TS) :
    Mem.readDir m p ≠ .panic ∧ Mem.ensureHasParent m p ≠ .panic ∧ (Mem.createDir m p).1 ≠ .panic ∧
    (Mem.setAccessed m p t).1 ≠ .panic ∧ (Mem.setModified m p t).1 ≠ .panic ∧
    (Mem.setCreated m p t).1 ≠ .panic ∧ (Mem.openFile m p).1 ≠ .panic ∧
    (Mem.createFile m p).1 ≠ .panic ∧ Mem.appendFile m p ≠ .panic ∧ Mem.metadata m p ≠ .panic ∧
    (Mem.removeFile m p).1 ≠ .panic ∧ (Mem.removeDir m p).1 ≠ .panic :=
  ⟨Mem.readDir_np m p, Mem.ensureHasParent_np m p, Mem.createDir_np m p, Mem.setAccessed_np m p t,
    Mem.setModified_np m p t, Mem.setCreated_np m p t, Mem.openFile_np m p, Mem.createFile_np m p,
    Mem.appendFile_np m p, Mem.metadata_np m p, Mem.removeFile_np m p, Mem.removeDir_np m p⟩

theorem phys_total (m : FMap) (p q : Str) (upd : Entry → Entry) :
    Phys.resolveParent m p ≠ .panic ∧ Phys.lookup m p ≠ .panic ∧ Phys.readDir m p ≠ .panic ∧
    (Phys.createDir m p).1 ≠ .panic ∧ Phys.openFile m p ≠ .panic ∧ (Phys.createFile m p).1 ≠ .panic ∧
    Phys.appendFile m p ≠ .panic ∧ Phys.metadata m p ≠ .panic ∧ (Phys.removeFile m p).1 ≠ .panic ∧
    (Phys.removeDir m p).1 ≠ .panic ∧ (Phys.setTime upd m p).1 ≠ .panic ∧
    (Phys.copyFile m p q).1 ≠ .panic ∧ (Phys.rename m p q).1 ≠ .panic :=
  ⟨Phys.resolveParent_np m p, Phys.lookup_np m p, Phys.readDir_np m p, Phys.createDir_np m p,
    Phys.openFile_np m p, Phys.createFile_np m p, Phys.appendFile_np m p, Phys.metadata_np m p,
    Phys.removeFile_np m p, Phys.removeDir_np m p, Phys.setTime_np upd m p, Phys.copyFile_np m p q,
    Phys.rename_np m p q⟩

theorem leaf_no_panic (i : Nat) : (leafFS i).NoPanic (LeafExists i) := leafFS_noPanic i

theorem leaf_no_panic_len {n i : Nat} (hi : i < n) : (leafFS i).NoPanic (LeavesLen n) :=
  leafFS_noPanic_len hi

theorem leaf_no_panic_of {I : World → Prop} (i : Nat) (hI : IgnoresLeaf I i)
    (hex : ∀ w, I w → LeafExists i w) : (leafFS i).NoPanic I := leafFS_noPanic_of i hI hex

/-- the invariant is necessary: without the leaf every method of `leafFS i` panics -/
theorem leaf_panics_without_leaf {α} (i : Nat) (f : Leaf → Res α × FMap) (w : World)
    (h : w.leaf? i = none) : (onLeaf i f w).1 = .panic := onLeaf_panics i f w h

theorem invariants_stable (n i j : Nat) :
    IgnoresLeaf (LeavesLen n) j ∧ IgnoresLeaf (LeafExists i) j :=
  ⟨LeavesLen.ignores n j, LeafExists.ignores i j⟩

structure PathOps (I : World → Prop) (p : VPath) : Prop where
  exists_ : NoPanic I p.exists_
  metadata : NoPanic I p.metadata
  getParent : NoPanic I p.getParent
  createDir : NoPanic I p.createDir
  createDirAll : NoPanic I p.createDirAll
  readDir : NoPanic I p.readDir
  createFile : NoPanic I p.createFile
  openFile : NoPanic I p.openFile
  appendFile : NoPanic I p.appendFile
  removeFile : NoPanic I p.removeFile
  removeDir : NoPanic I p.removeDir
  setCreationTime : ∀ t, NoPanic I (p.setCreationTime t)
  setModificationTime : ∀ t, NoPanic I (p.setModificationTime t)
  setAccessTime : ∀ t, NoPanic I (p.setAccessTime t)
  isFile : NoPanic I p.isFile
  isDir : NoPanic I p.isDir
  readToEndChecked : NoPanic I p.readToEndChecked
  walkDir : NoPanic I p.walkDir
  createHandle : Returns p.createFile (HandleOK I)
  appendHandle : Returns p.appendFile (HandleOK I)

theorem pathops_no_panic {I : World → Prop} (p : VPath) (h : p.fs.NoPanic I) : PathOps I p where
  exists_ := np_exists p h
  metadata := np_metadata p h
  getParent := np_getParent p h
  createDir := np_createDir p h
  createDirAll := np_createDirAll p h
  readDir := np_readDir p h
  createFile := np_createFile p h
  openFile := np_openFile p h
  appendFile := np_appendFile p h
  removeFile := np_removeFile p h
  removeDir := np_removeDir p h
  setCreationTime t := np_setCreationTime p t h
  setModificationTime t := np_setModificationTime p t h
  setAccessTime t := np_setAccessTime p t h
  isFile := np_isFile p h
  isDir := np_isDir p h
  readToEndChecked := np_readToEndChecked p h
  walkDir := np_walkDir p h
  createHandle := createFile_handleOK p h
  appendHandle := appendFile_handleOK p h

theorem transfers_no_panic {I : World → Prop} (src dst : VPath) (hs : src.fs.NoPanic I)
    (hd : dst.fs.NoPanic I) : NoPanic I (src.copyFile dst) ∧ NoPanic I (src.moveFile dst) :=
  ⟨np_copyFile src dst hs hd, np_moveFile src dst hs hd⟩

theorem write_session_no_panic {I : World → Prop} (p : VPath) (h : p.fs.NoPanic I)
    (bs bs' : Bytes) (s : SeekFrom) :
    NoPanic I (do
      let hd ← p.createFile
      let (_, h1) ← hd.write bs
      let (_, h2) ← h1.seek s
      let (_, h3) ← h2.write bs'
      h3.drop) ∧
    NoPanic I (do
      let hd ← p.appendFile
      hd.writeAllAndDrop bs) := by
  constructor
  · apply NoPanic.bindQ _ (np_createFile p h) (createFile_handleOK p h)
    intro hd hk
    apply NoPanic.bindQ _ (hk.np_write bs) (hk.write_ret bs)
    intro r1 hk1
    apply NoPanic.bindQ _ (HandleOK.np_seek s) (hk1.seek_ret s)
    intro r2 hk2
    apply NoPanic.bindQ _ (hk2.np_write bs') (hk2.write_ret bs')
    intro r3 hk3
    exact hk3.np_drop
  · apply NoPanic.bindQ _ (np_appendFile p h) (appendFile_handleOK p h)
    intro hd hk
    exact hk.np_writeAllAndDrop bs

theorem walkNext_no_panic {I : World → Prop} (fs : FS) (hfs : fs.NoPanic I) (s : Walk) (hs : s.On fs) :
    NoPanic I (walkNext s) ∧ Returns (walkNext s) (fun r => r.1 ≠ some .panic ∧ r.2.On fs) :=
  ⟨np_walkNext fs hfs s hs, (walkNext_item s).and ((walkNext_on fs s hs).mono (fun _ h => h.2))⟩

/-- **the walk invariant**: a walk started by `src.walk_dir()` holds only paths of the form
`src.path ++ "/" ++ t`; `next` keeps that and yields only such paths -/
theorem walk_below (src : VPath) :
    Returns src.walkDir (fun s => s.Below src.path) ∧
    ∀ s : Walk, s.Below src.path → Returns (walkNext s) (WalkRetB src.path) :=
  ⟨walkDir_below src, fun s hs => walkNext_below src.path s hs⟩

theorem relJoin_in_range (src x : VPath) (hx : Below src.path x) :
    src.path.length + 1 ≤ x.path.length := hx.length

theorem relJoin_no_panic (dst src x : VPath) (hx : Below src.path x) :
    relJoin dst src.path.length x ≠ .panic ∧
    relJoin dst src.path.length x = dst.join (x.path.drop (src.path.length + 1)) :=
  ⟨relJoin_ne_panic dst src.path x hx, relJoin_eq_join dst src.path x hx⟩

theorem relJoin_relative (base t : Str) : (base ++ '/' :: t).drop (base.length + 1) = t :=
  relJoin_arg base t

/-- the site is a real one: outside the invariant the model panics -/
theorem relJoin_site_is_real (dst : VPath) (n : Nat) (x : VPath) (h : x.path.length < n + 1) :
    relJoin dst n x = .panic := relJoin_panics dst n x h

theorem removeDirAll_step {I : World → Prop} (fuel : Nat) (p : VPath) (h : p.fs.NoPanic I)
    (hrec : ∀ c : VPath, c.fs = p.fs → NoPanic I (removeDirAll fuel c)) :
    NoPanic I (removeDirAll (fuel + 1) p) := np_removeDirAll_step fuel p h hrec

theorem removeDirAll_panic_is_fuel {I : World → Prop} (fuel : Nat) (p : VPath) (h : p.fs.NoPanic I)
    (w : World) (hw : I w) (hp : (removeDirAll fuel p w).1 = .panic) : RemoveDirAllOut fuel p w :=
  removeDirAll_panic fuel p h w hw hp

theorem removeDirAll_missing (fuel : Nat) (p : VPath) (w : World)
    (h : (p.exists_ w).1 = .ok false) : ¬ RemoveDirAllOut (fuel + 1) p w := by
  unfold RemoveDirAllOut
  rintro ⟨w1, children, w2, hex, _⟩
  rw [hex] at h
  cases h

theorem walkAll_step {I : World → Prop} (fs : FS) (hfs : fs.NoPanic I) (fuel : Nat) (s : Walk)
    (hs : s.On fs) (hrec : ∀ s' : Walk, s'.On fs → NoPanic I (walkAll fuel s')) :
    NoPanic I (walkAll (fuel + 1) s) := np_walkAll_step fs hfs fuel s hs hrec

theorem walkAll_panic_is_fuel {I : World → Prop} (fs : FS) (hfs : fs.NoPanic I) (fuel : Nat)
    (s : Walk) (hs : s.On fs) (w : World) (hw : I w) (hp : (walkAll fuel s w).1 = .panic) :
    WalkAllOut fuel s w := walkAll_panic fs hfs fuel s hs w hw hp

theorem copyItems_step {I : World → Prop} (fuel : Nat) (src dst : VPath) (hs : src.fs.NoPanic I)
    (hd : dst.fs.NoPanic I) (s : Walk) (hfrom : s.From src) (count : Nat)
    (hrec : ∀ (s' : Walk) (c : Nat), s'.From src → NoPanic I (copyItems fuel src dst s' c)) :
    NoPanic I (copyItems (fuel + 1) src dst s count) :=
  np_copyItems_step fuel src dst hs hd s hfrom count hrec

/-- **a `.panic` of the loop of copy_dir / move_dir can only be the fuel sentinel** — never the
slice `&src_path[prefix_len + 1..]` -/
theorem copyItems_panic_is_fuel {I : World → Prop} (fuel : Nat) (src dst : VPath)
    (hs : src.fs.NoPanic I) (hd : dst.fs.NoPanic I) (s : Walk) (hfrom : s.From src) (count : Nat)
    (w : World) (hw : I w) (hp : (copyItems fuel src dst s count w).1 = .panic) :
    CopyItemsOut src dst fuel s w := copyItems_panic fuel src dst hs hd s hfrom count w hw hp

theorem copyDir_step {I : World → Prop} (fuel : Nat) (src dst : VPath) (hs : src.fs.NoPanic I)
    (hd : dst.fs.NoPanic I)
    (hrec : ∀ s : Walk, s.From src → NoPanic I (copyItems fuel src dst s 0)) :
    NoPanic I (src.copyDir fuel dst) := np_copyDir_of fuel src dst hs hd hrec

theorem copyDir_panic_is_fuel {I : World → Prop} (fuel : Nat) (src dst : VPath)
    (hs : src.fs.NoPanic I) (hd : dst.fs.NoPanic I) (w : World) (hw : I w)
    (hp : (src.copyDir fuel dst w).1 = .panic) :
    ∃ w1 w2 s w3, dst.exists_ w = (.ok false, w1) ∧ dst.createDir w1 = (.ok (), w2) ∧
      src.walkDir w2 = (.ok s, w3) ∧ CopyItemsOut src dst fuel s w3 :=
  copyDir_panic fuel src dst hs hd w hw hp

theorem moveDir_step {I : World → Prop} (fuel : Nat) (src dst : VPath) (hs : src.fs.NoPanic I)
    (hd : dst.fs.NoPanic I)
    (hrec1 : ∀ s : Walk, s.From src → NoPanic I (copyItems fuel src dst s 0))
    (hrec2 : NoPanic I (removeDirAll fuel src)) :
    NoPanic I (src.moveDir fuel dst) := np_moveDir_of fuel src dst hs hd hrec1 hrec2

theorem moveDir_panic_is_fuel {I : World → Prop} (fuel : Nat) (src dst : VPath)
    (hs : src.fs.NoPanic I) (hd : dst.fs.NoPanic I) (w : World) (hw : I w)
    (hp : (src.moveDir fuel dst w).1 = .panic) :
    (∃ s w', s.From src ∧ I w' ∧ CopyItemsOut src dst fuel s w') ∨
    (∃ w', I w' ∧ RemoveDirAllOut fuel src w') := moveDir_panic fuel src dst hs hd w hw hp

theorem altroot_no_panic {I : World → Prop} (root : VPath) (h : root.fs.NoPanic I) :
    (Altroot.fs root).NoPanic I := Altroot.noPanic root h

theorem overlay_no_panic {I : World → Prop} (layers : List VPath)
    (hl : ∀ l ∈ layers, l.fs.NoPanic I) : (Overlay.fs layers).NoPanic I :=
  Overlay.noPanic layers hl

theorem embedded_no_panic {I : World → Prop} (s : Embedded.State) : (Embedded.fs s).NoPanic I :=
  Embedded.noPanic s

/-- the regression: the `split_at(1)` version of `EmbeddedFS::open_file` panics on the root, for
every state; away from the root it agrees with the fixed version -/
theorem embedded_old_open_file_panics (s : Embedded.State) :
    Embedded.openFileSplitAt s [] = .panic ∧
    (∀ p, p ≠ [] → Embedded.openFileSplitAt s p = Embedded.openFile s p) ∧
    Embedded.openFile s [] ≠ .panic :=
  ⟨rfl, Embedded.openFileSplitAt_eq s, Embedded.openFile_ne_panic s []⟩

/-- the harness-side recording wrapper is transparent for panics when the invariant does not
look at the ghost log -/
theorem recordFS_no_panic {I : World → Prop} (tag : Nat) (inner : FS) (h : inner.NoPanic I)
    (hlog : ∀ w l, I w → I { w with log := l }) : (recordFS tag inner).NoPanic I :=
  .of_sat (recordFS_sat tag (fun _ _ _ => ⟨fun w hw => ⟨hlog w _ hw, nofun⟩⟩) h.sat)

def leafLayer (l : Nat × Str) : VPath := { fs := leafFS l.1, fsId := l.1, path := l.2 }

def stackFS (layers : List (Nat × Str)) (id : Nat) (at_ : Str) : FS :=
  Altroot.fs { fs := Overlay.fs (layers.map leafLayer), fsId := id, path := at_ }

theorem stack_no_panic (n : Nat) (layers : List (Nat × Str)) (h : ∀ l ∈ layers, l.1 < n)
    (id : Nat) (at_ : Str) : (stackFS layers id at_).NoPanic (LeavesLen n) := by
  apply Altroot.noPanic
  apply Overlay.noPanic
  intro l hl
  simp only [List.mem_map] at hl
  obtain ⟨x, hx, rfl⟩ := hl
  exact leafFS_noPanic_len (h x hx)

theorem stack_pathops_no_panic (n : Nat) (layers : List (Nat × Str)) (h : ∀ l ∈ layers, l.1 < n)
    (id : Nat) (at_ : Str) (k : Nat) (p : Str) :
    PathOps (LeavesLen n) { fs := stackFS layers id at_, fsId := k, path := p } :=
  pathops_no_panic _ (stack_no_panic n layers h id at_)

theorem stack_raw (n : Nat) (layers : List (Nat × Str)) (h : ∀ l ∈ layers, l.1 < n)
    (id : Nat) (at_ : Str) (k : Nat) (p q : Str) (w : World) (hw : w.leaves.length = n) :
    let P : VPath := { fs := stackFS layers id at_, fsId := k, path := p }
    let Q : VPath := { fs := stackFS layers id at_, fsId := k, path := q }
    (P.createDirAll w).1 ≠ .panic ∧ (P.readToEndChecked w).1 ≠ .panic ∧
    (P.copyFile Q w).1 ≠ .panic ∧ (P.moveFile Q w).1 ≠ .panic := by
  intro P Q
  have hfs := stack_no_panic n layers h id at_
  exact ⟨(np_createDirAll P hfs).np w hw, (np_readToEndChecked P hfs).np w hw,
    (np_copyFile P Q hfs hfs).np w hw, (np_moveFile P Q hfs hfs).np w hw⟩

/-- the public operations of a call sequence; every path is an arbitrary join string applied
to the root of the filesystem -/
inductive Op where
  | exists_ (p : Str) | metadata (p : Str) | createDir (p : Str) | createDirAll (p : Str)
  | readDir (p : Str) | openAndRead (p : Str) (seeks : List SeekFrom)
  | readToString (p : Str) | removeFile (p : Str) | removeDir (p : Str)
  | isFile (p : Str) | isDir (p : Str)
  | setCreationTime (p : Str) (t : Int) | setModificationTime (p : Str) (t : Int)
  | setAccessTime (p : Str) (t : Int)
  | copyFile (s d : Str) | moveFile (s d : Str)
  | walkStep (p : Str)
  /-- create, write, seek, write; remove the file while the handle is open; write again, flush,
  drop -/
  | createSession (p : Str) (bs : Bytes) (s : SeekFrom) (bs' : Bytes)
  | appendSession (p : Str) (bs : Bytes)

def Op.run (root : VPath) : Op → M Unit
  | .exists_ p => do let q ← M.ret (root.join p); let _ ← q.exists_; pure ()
  | .metadata p => do let q ← M.ret (root.join p); let _ ← q.metadata; pure ()
  | .createDir p => do let q ← M.ret (root.join p); q.createDir
  | .createDirAll p => do let q ← M.ret (root.join p); q.createDirAll
  | .readDir p => do let q ← M.ret (root.join p); let _ ← q.readDir; pure ()
  | .openAndRead p seeks => do
      let q ← M.ret (root.join p)
      let r ← q.openFile
      let _ ← M.ret (seeks.foldl (fun h s => (h.seek s).2) r).readToEnd.1
      pure ()
  | .readToString p => do let q ← M.ret (root.join p); let _ ← q.readToEndChecked; pure ()
  | .removeFile p => do let q ← M.ret (root.join p); q.removeFile
  | .removeDir p => do let q ← M.ret (root.join p); q.removeDir
  | .isFile p => do let q ← M.ret (root.join p); let _ ← q.isFile; pure ()
  | .isDir p => do let q ← M.ret (root.join p); let _ ← q.isDir; pure ()
  | .setCreationTime p t => do let q ← M.ret (root.join p); q.setCreationTime t
  | .setModificationTime p t => do let q ← M.ret (root.join p); q.setModificationTime t
  | .setAccessTime p t => do let q ← M.ret (root.join p); q.setAccessTime t
  | .copyFile s d => do
      let a ← M.ret (root.join s)
      let b ← M.ret (root.join d)
      a.copyFile b
  | .moveFile s d => do
      let a ← M.ret (root.join s)
      let b ← M.ret (root.join d)
      a.moveFile b
  | .walkStep p => do
      let q ← M.ret (root.join p)
      let s ← q.walkDir
      let _ ← walkNext s
      pure ()
  | .createSession p bs s bs' => do
      let q ← M.ret (root.join p)
      let h ← q.createFile
      let (_, h1) ← h.write bs
      let _ ← M.attempt (h1.seek s)
      let (_, h2) ← h1.write bs'
      let _ ← M.attempt q.removeFile
      let (_, h3) ← h2.write bs
      h3.flush
      h3.drop
  | .appendSession p bs => do
      let q ← M.ret (root.join p)
      let h ← q.appendFile
      h.writeAllAndDrop bs

/-- a call sequence: errors are observed by the caller and the sequence goes on -/
def runScript (root : VPath) : List Op → M Unit
  | [] => pure ()
  | op :: rest => do
    let _ ← M.attempt (op.run root)
    runScript root rest

theorem op_no_panic {I : World → Prop} (root : VPath) (h : root.fs.NoPanic I) (op : Op) :
    NoPanic I (op.run root) := by
  have hj : ∀ p, NoPanic I (M.ret (root.join p)) := fun p => .ret _ (join_ne_panic root p)
  have hq : ∀ p, Returns (M.ret (root.join p)) (fun q => q.fs.NoPanic I) := fun p =>
    Returns.ret _ (fun q he => by rw [(join_fs _ _ _ he).1]; exact h)
  cases op with
  | exists_ p =>
    exact .bindQ _ (hj p) (hq p) (fun q hq => .bind (np_exists q hq) (fun _ => .pure _))
  | metadata p =>
    exact .bindQ _ (hj p) (hq p) (fun q hq => .bind (np_metadata q hq) (fun _ => .pure _))
  | createDir p => exact .bindQ _ (hj p) (hq p) (fun q hq => np_createDir q hq)
  | createDirAll p => exact .bindQ _ (hj p) (hq p) (fun q hq => np_createDirAll q hq)
  | readDir p =>
    exact .bindQ _ (hj p) (hq p) (fun q hq => .bind (np_readDir q hq) (fun _ => .pure _))
  | openAndRead p seeks =>
    exact .bindQ _ (hj p) (hq p) (fun q hq => .bind (np_openFile q hq) (fun r =>
      .bind (.ret _ (RHandle.readToEnd_ne_panic _)) (fun _ => .pure _)))
  | readToString p =>
    exact .bindQ _ (hj p) (hq p) (fun q hq => .bind (np_readToEndChecked q hq) (fun _ => .pure _))
  | removeFile p => exact .bindQ _ (hj p) (hq p) (fun q hq => np_removeFile q hq)
  | removeDir p => exact .bindQ _ (hj p) (hq p) (fun q hq => np_removeDir q hq)
  | isFile p =>
    exact .bindQ _ (hj p) (hq p) (fun q hq => .bind (np_isFile q hq) (fun _ => .pure _))
  | isDir p =>
    exact .bindQ _ (hj p) (hq p) (fun q hq => .bind (np_isDir q hq) (fun _ => .pure _))
  | setCreationTime p t => exact .bindQ _ (hj p) (hq p) (fun q hq => np_setCreationTime q t hq)
  | setModificationTime p t =>
    exact .bindQ _ (hj p) (hq p) (fun q hq => np_setModificationTime q t hq)
  | setAccessTime p t => exact .bindQ _ (hj p) (hq p) (fun q hq => np_setAccessTime q t hq)
  | copyFile s d =>
    exact .bindQ _ (hj s) (hq s) (fun a ha => .bindQ _ (hj d) (hq d) (fun b hb =>
      np_copyFile a b ha hb))
  | moveFile s d =>
    exact .bindQ _ (hj s) (hq s) (fun a ha => .bindQ _ (hj d) (hq d) (fun b hb =>
      np_moveFile a b ha hb))
  | walkStep p =>
    refine .bindQ _ (hj p) (hq p) (fun q hq => ?_)
    refine .bindQ _ (np_walkDir q hq) (walkDir_on q) (fun s hs => ?_)
    exact .bind (np_walkNext q.fs hq s hs) (fun _ => .pure _)
  | createSession p bs s bs' =>
    refine .bindQ _ (hj p) (hq p) (fun q hq => ?_)
    refine .bindQ _ (np_createFile q hq) (createFile_handleOK q hq) (fun hd hk => ?_)
    refine .bindQ _ (hk.np_write bs) (hk.write_ret bs) (fun r1 hk1 => ?_)
    refine .bind (.attempt (HandleOK.np_seek s)) (fun _ => ?_)
    refine .bindQ _ (hk1.np_write bs') (hk1.write_ret bs') (fun r2 hk2 => ?_)
    refine .bind (.attempt (np_removeFile q hq)) (fun _ => ?_)
    refine .bindQ _ (hk2.np_write bs) (hk2.write_ret bs) (fun r3 hk3 => ?_)
    exact .bind hk3.np_flush (fun _ => hk3.np_drop)
  | appendSession p bs =>
    refine .bindQ _ (hj p) (hq p) (fun q hq => ?_)
    exact .bindQ _ (np_appendFile q hq) (appendFile_handleOK q hq) (fun hd hk =>
      hk.np_writeAllAndDrop bs)

/-- **no call sequence makes the library panic**: any finite sequence of the public
non-recursive operations, on arbitrary join strings, continued after every error -/
theorem script_no_panic {I : World → Prop} (root : VPath) (h : root.fs.NoPanic I) (ops : List Op) :
    NoPanic I (runScript root ops) := by
  induction ops with
  | nil => exact .pure _
  | cons op rest ih =>
    exact .bind (.attempt (op_no_panic root h op)) (fun _ => ih)

theorem stack_script_no_panic (n : Nat) (layers : List (Nat × Str)) (h : ∀ l ∈ layers, l.1 < n)
    (id : Nat) (at_ : Str) (k : Nat) (ops : List Op) (w : World) (hw : w.leaves.length = n) :
    (runScript { fs := stackFS layers id at_, fsId := k, path := [] } ops w).1 ≠ .panic :=
  (script_no_panic _ (stack_no_panic n layers h id at_) ops).np w hw

def w0 : World := { leaves := [{ kind := .mem, files := Mem.init }, { kind := .phys, files := Phys.init }] }

def memRoot : VPath := { fs := leafFS 0, fsId := 0, path := [] }
def memA : VPath := { fs := leafFS 0, fsId := 0, path := ['/', 'a'] }
def memAB : VPath := { fs := leafFS 0, fsId := 0, path := ['/', 'a', '/', 'b'] }

example : LeavesLen 2 w0 := rfl
example : LeafExists 0 w0 ∧ LeafExists 1 w0 :=
  ⟨(LeafExists.iff_lt 0 w0).2 (by decide), (LeafExists.iff_lt 1 w0).2 (by decide)⟩

/-- **why the invariant is needed**: `onLeaf` DOES panic when the leaf is missing -/
example : ((leafFS 2).exists_ [] w0).1 = .panic := by decide
example : ¬ LeafExists 2 w0 := fun h => absurd ((LeafExists.iff_lt 2 w0).1 h) (by decide)
example : ((leafFS 0).exists_ [] { leaves := [] }).1 = .panic := by decide

example : (memRoot.removeFile w0).1 = .err .other (some []) := by decide
example : (memRoot.createDir w0).1 = .err .other (some []) := by decide
example : (memRoot.openFile w0).1.isOk = false := by decide
example : (memRoot.readToEndChecked w0).1 = .err .other (some []) := by decide
example : (memA.readDir w0).1.kind? = some .fileNotFound := by decide
example : (({ fs := leafFS 1, fsId := 1, path := [] } : VPath).removeDir w0).1.isPanic = false := by
  decide

example : (memAB.createDirAll w0).1 = .ok () := by decide

example : ((do
    let h ← memA.createFile
    memA.removeFile
    let (_, h') ← h.write [1, 2]
    h'.flush
    h'.drop : M Unit) w0).1 = .ok () := by decide
/-- … and, since `memPublish` publishes only while the destination is still an existing file, the
flush / drop of such a handle leaves the map unchanged: the removed file is NOT resurrected -/
example : ((do
    let h ← memA.createFile
    memA.removeFile
    let (_, h') ← h.write [1, 2]
    h'.flush
    h'.drop
    memA.exists_ : M Bool) w0).1 = .ok false := by decide

example : ((({ leaf := 7, key := ['/', 'x'], kind := .physCreate, buf := [], pos := 0 } : WHandle).write
    [1] w0).1).isPanic = false := by decide
example : ((({ leaf := 7, key := ['/', 'x'], kind := .memFile, buf := [1], pos := 1 } : WHandle).flush
    w0).1) = .ok () := by decide

example : (relJoin memRoot 5 memA).isPanic = true := by decide
example : ((relJoin memRoot 2 memAB).map (·.path)) = .ok ['/', 'b'] := by decide

/-- the fuel sentinel: with fuel 0 the model "panics", with enough fuel it does not; the
exhaustion predicate tells the two apart -/
example : (removeDirAll 0 memA w0).1 = .panic := by unfold removeDirAll; rfl
example : RemoveDirAllOut 0 memA w0 := by unfold RemoveDirAllOut; trivial
example : (removeDirAll 1 memA w0).1 = .ok () := by unfold removeDirAll; decide
example : ¬ RemoveDirAllOut 1 memA w0 := removeDirAll_missing 0 memA w0 (by decide)

def w1 : World := (memAB.createDirAll w0).2

/-- `/a` now has depth 2: fuel 1 hits the sentinel (in the recursive call on `/a/b`), fuel 2
removes the tree (`removeDirAll` is defined by well-founded recursion, hence the unfolding
before `decide`) -/
example : (removeDirAll 1 memA w1).1 = .panic := by
  unfold removeDirAll; unfold removeChildren; unfold removeDirAll; decide
example : (removeDirAll 2 memA w1).1 = .ok () := by
  unfold removeDirAll; unfold removeChildren; unfold removeDirAll; unfold removeChildren; decide
example : RemoveDirAllOut 1 memA w1 :=
  removeDirAll_panic_is_fuel 1 memA (leaf_no_panic_len (n := 2) (by decide)) w1
    (show w1.leaves.length = 2 by decide)
    (by unfold removeDirAll; unfold removeChildren; unfold removeDirAll; decide)
example : (walkAll 1 { inner := [memAB], todo := [] } w1).1.isPanic = true := by decide
example : (walkAll 2 { inner := [memAB], todo := [] } w1).1.isPanic = false := by decide

example : Embedded.openFileSplitAt (Embedded.new [(['a'], [1])]) [] = .panic := rfl
example : Embedded.openFile (Embedded.new [(['a'], [1])]) [] = fail .fileNotFound := by decide

example (ops : List Op) :
    (runScript { fs := stackFS [(0, []), (1, [])] 9 [], fsId := 9, path := [] } ops w0).1 ≠ .panic :=
  stack_script_no_panic 2 _ (by decide) 9 [] 9 ops w0 rfl

end Vfs.C13
