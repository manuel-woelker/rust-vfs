/-
  C09 — the invariants of Props/C09Contract.lean hold initially, and the overlay REFINES the
  reference backend over every finite history.

  `OInv.initial`: every layer map `WF` and no key of the upper map inside ".whiteout"
  (`NoWhiteout`: no markers yet) ⟹ `OInv mu ms`. `ViewWF.initial`: additionally the layers agree on
  the type of every path they share (`TypeConsistent`) ⟹ `ViewWF (oview (mu :: ms))`.
  `Refines v m`: `m` is a well-formed reference tree whose keys are the root and canonical paths
  outside ".whiteout", and `v q ≈ m.find? q` (`vcore`) for the root and EVERY absolute path `q`
  outside ".whiteout".
  `vpre_iff_pre`: under refinement `VPre v op ↔ C01.Pre m op`.
  `refines_step`: a call that obeys `VContract v op r v'` has the same outcome class as
  `stepPhys m op` (Props/C02.lean: the reference model) and `Refines v' (stepPhys m op).2`.
  `overlay_refines_reference`: for every finite list of mutators on disciplined paths (`OpOK`),
  under the O3 type discipline read off the reference run (`RefO3Free`: `remove_file` never hits
  a directory): equal success/failure call by call, no panic on either side, final view ≈ final
  reference tree, final world in the setting with `LowerSame` lower maps, invariants re-established.

  Section `example3`: a 3-layer world, the reference tree holding its view, and a history of 12
  calls; the theorem is instantiated (`x_refines`), and — independently — the run is evaluated:
  `x_outcomes`, `x_ref_outcomes`, `x_final_agree`.

  That a reference tree holding a given view exists (here a hypothesis `Refines (oview …) m0`) is
  proved in Props/C09RefineExists.lean. NOT PROVED: refinement for histories that violate the
  path discipline or O3.
-/
import VfsModel.Props.C09Contract
import VfsModel.Proofs.RunEq
namespace Vfs.C09
open Vfs Vfs.Overlay Vfs.C02 Vfs.C01

def TypeConsistent (all : List FMap) : Prop :=
  ∀ m ∈ all, ∀ m' ∈ all, ∀ p e e', m.find? p = some e → m'.find? p = some e' → e.ftype = e'.ftype

def NoWhiteout (mu : FMap) : Prop := ∀ k e, mu.find? k = some e → firstComp k ≠ woDir

theorem no_marker_of_noWhiteout {mu : FMap} (hnw : NoWhiteout mu) {q : Str}
    (hq : q.head? = some '/') : mu.find? (marker q) = none := by
  cases hf : mu.find? (marker q) with
  | none => rfl
  | some e => exact absurd (firstComp_marker q hq) (hnw _ e hf)

theorem OInv.initial {mu : FMap} {ms : List FMap} (hwf : ∀ m ∈ mu :: ms, WF m)
    (hnw : NoWhiteout mu) : OInv mu ms := by
  refine ⟨⟨(hwf mu (by simp)).1, ?_⟩, hwf, ?_, ?_, ?_⟩
  · cases hf : mu.find? rootMarker with
    | none => exact contains_of_none hf
    | some e => exact absurd (by decide) (hnw _ e hf)
  · intro cs _ _ e he
    exact absurd (firstComp_renderC woDir cs (by decide)) (hnw _ e he)
  · intro q e hq he
    rw [no_marker_of_noWhiteout hnw hq.1] at he; cases he
  · intro q hq hc
    rw [contains_of_none (no_marker_of_noWhiteout hnw hq.1)] at hc; cases hc

theorem ViewWF.initial {mu : FMap} {ms : List FMap} (hwf : ∀ m ∈ mu :: ms, WF m)
    (hnw : NoWhiteout mu) (htc : TypeConsistent (mu :: ms)) : ViewWF (oview (mu :: ms)) := by
  refine ⟨rootIsDir (OInv.initial (ms := ms) hwf hnw).root, ?_⟩
  intro ds n hne hds hn hhead hpres
  have hpne : renderC ds ++ '/' :: n ≠ [] := by simp
  have hdne : renderC ds ≠ [] := renderC_ne_nil hne
  rw [oview_ne hpne] at hpres
  have hm1 : mu.contains (marker (renderC ds ++ '/' :: n)) = false :=
    contains_of_none (no_marker_of_noWhiteout hnw (NR_child hne (good_noSlash hds) hhead n).1)
  have hm2 : mu.contains (marker (renderC ds)) = false :=
    contains_of_none (no_marker_of_noWhiteout hnw (renderC_head _ hne))
  rw [viewN_unmarked hm1] at hpres
  cases hf : firstN (mu :: ms) (renderC ds ++ '/' :: n) with
  | none => exact absurd hf hpres
  | some e =>
    obtain ⟨k, m, hfa, he⟩ := firstN_some hf
    have hmem : m ∈ mu :: ms := List.mem_of_getElem? hfa.get
    obtain ⟨_, pe, hpe, hpd⟩ := (hwf m hmem).2 _ e he hpne
    rw [parent_of_child (renderC ds) n hn] at hpe
    cases hf2 : firstN (mu :: ms) (renderC ds) with
    | none => rw [(firstN_none_iff _ _).1 hf2 m hmem] at hpe; cases hpe
    | some e2 =>
      obtain ⟨k2, m2, hfa2, he2⟩ := firstN_some hf2
      have hmem2 : m2 ∈ mu :: ms := List.mem_of_getElem? hfa2.get
      refine ⟨e2, by rw [oview_ne hdne, viewN_unmarked hm2]; exact hf2, ?_⟩
      rw [htc m2 hmem2 m hmem _ e2 pe he2 hpe]; exact hpd

def mview (m : FMap) : View := fun q => m.find? q

theorem mview_apply (m : FMap) (q : Str) : mview m q = m.find? q := rfl

def RefKeys (m : FMap) : Prop :=
  ∀ k e, m.find? k = some e → k = [] ∨
    ∃ cs, cs ≠ [] ∧ (∀ c ∈ cs, GoodComp c) ∧ cs.head? ≠ some woDir ∧ k = renderC cs

/-- the view `v` is (up to timestamps) the reference tree `m`: on the root and on EVERY absolute
path outside ".whiteout" — the canonical ones and the others, which are absent on both sides -/
structure Refines (v : View) (m : FMap) : Prop where
  wf : WF m
  keys : RefKeys m
  same : VSame (mview m) v

theorem opOK_vis {op : Mut} (hop : OpOK op) : Vis op.path := by
  obtain ⟨ds, n, hp, hpath⟩ := hop; rw [hpath]; exact Or.inr hp.nr

theorem opOK_parentVis {op : Mut} (hop : OpOK op) : Vis (parentInternal op.path) := by
  obtain ⟨ds, n, hp, hpath⟩ := hop; rw [hpath, hp.parent]; exact hp.parentVis

theorem opOK_abs {op : Mut} (hop : OpOK op) : Abs op.path := by
  obtain ⟨ds, n, hp, hpath⟩ := hop; rw [hpath]; exact hp.abs

theorem wf_stepPhys {m : FMap} (hm : WF m) (op : Mut) (hp : Abs op.path) : WF (stepPhys m op).2 := by
  obtain ⟨_, hce, hw⟩ := step_agree hm (CoreEq.refl m) op hp
  exact hw.of_coreEq hce

theorem vpre_iff_pre {v : View} {m : FMap} (href : Refines v m) {op : Mut} (hop : OpOK op) :
    VPre v op ↔ Pre m op := by
  have hp := href.same _ (opOK_vis hop)
  have hpar := href.same _ (opOK_parentVis hop)
  obtain ⟨ds, n, hpth, hpath⟩ := hop
  cases op with
  | createDir p =>
    simp only [Mut.path] at hp hpar
    exact and_congr (isDir_of_vcore hpar) (none_of_vcore hp)
  | write p bs =>
    simp only [Mut.path] at hp hpar
    refine and_congr (isDir_of_vcore hpar) ?_
    rw [isDir_of_vcore hp]
    constructor
    · intro hnd
      rcases present_cases m p with ha | hf | hd
      · exact Or.inl ha
      · exact Or.inr hf
      · exact absurd hd hnd
    · rintro (ha | hf) hd
      · exact not_isDir_of_absent ha hd
      · exact not_isDir_of_isFile hf hd
  | append p bs => simp only [Mut.path] at hp; exact isFile_of_vcore hp
  | removeFile p => simp only [Mut.path] at hp; exact isFile_of_vcore hp
  | removeDir p =>
    simp only [Mut.path] at hp hpath
    refine and_congr (isDir_of_vcore hp) ?_
    subst hpath
    constructor
    · intro hnc k e hk hs hpk
      rcases href.keys k e hk with rfl | ⟨cs, hne, hcs, hhead, rfl⟩
      · simp at hs
      · rcases List.eq_nil_or_concat cs with rfl | ⟨xs, x, rfl⟩
        · exact hne rfl
        · rw [List.concat_eq_append] at hcs hpk hk hhead
          obtain ⟨hxs, hx⟩ := good_of_snoc hcs
          rw [parent_snoc xs x hxs hx] at hpk
          have hq : Vis (renderC (ds ++ [n]) ++ '/' :: x) :=
            Or.inr (NR_child hpth.ne (good_noSlash hpth.good) hpth.head x)
          have h1 := hnc x hx.noSlash
          have h2 := (none_of_vcore (href.same _ hq)).1 h1
          rw [← hpk, ← renderC_snoc] at h2
          simp only [mview_apply] at h2; rw [hk] at h2; cases h2
    · intro hnc x hx
      have hq : Vis (renderC (ds ++ [n]) ++ '/' :: x) :=
        Or.inr (NR_child hpth.ne (good_noSlash hpth.good) hpth.head x)
      apply (none_of_vcore (href.same _ hq)).2
      show m.find? _ = none
      cases hf : m.find? (renderC (ds ++ [n]) ++ '/' :: x) with
      | none => rfl
      | some e => exact absurd (parent_of_child _ x hx) (hnc _ e hf (by simp))

theorem vcore_eq_of_isDir {a b : Option Entry}
    (ha : ∃ e, a = some e ∧ e.ftype = .dir) (hb : ∃ e, b = some e ∧ e.ftype = .dir) :
    a.map vcore = b.map vcore := by
  obtain ⟨e1, rfl, h1⟩ := ha
  obtain ⟨e2, rfl, h2⟩ := hb
  simp [vcore_dir h1, vcore_dir h2]

theorem vcore_eq_of_hasFile {a b : Option Entry} {bs : Bytes}
    (ha : ∃ e, a = some e ∧ e.ftype = .file ∧ e.content = bs)
    (hb : ∃ e, b = some e ∧ e.ftype = .file ∧ e.content = bs) :
    a.map vcore = b.map vcore := by
  obtain ⟨e1, rfl, h1, c1⟩ := ha
  obtain ⟨e2, rfl, h2, c2⟩ := hb
  simp [vcore_file h1, vcore_file h2, c1, c2]

/-- **one step of the refinement.** The view `v` refines the reference tree `m`; a call obeys the
view contract from `v` to `v'` with outcome `r`. Then the reference call `stepPhys m op` has the
same outcome class (both succeed or both fail, neither panics; a target missing from an existing
directory is not-found on both sides; `create_dir` on an occupied path reports the same
occupant), and `v'` refines the reference tree after the call. -/
theorem refines_step {v v' : View} {m : FMap} (href : Refines v m) {op : Mut} (hop : OpOK op)
    {r : Res Unit} (hc : VContract v op r v') :
    SameOutcome r (stepPhys m op).1 ∧
    (needsTarget op = true → IsDir m (parentInternal op.path) → Absent m op.path →
      r.kind? = some .fileNotFound ∧ (stepPhys m op).1.kind? = some .fileNotFound) ∧
    (∀ q, op = .createDir q → IsDir m (parentInternal q) →
      (IsFile m q → r.kind? = some .fileExists ∧ (stepPhys m op).1.kind? = some .fileExists) ∧
      (IsDir m q → r.kind? = some .dirExists ∧ (stepPhys m op).1.kind? = some .dirExists)) ∧
    Refines v' (stepPhys m op).2 := by
  have hvis := opOK_vis hop
  have hpvis := opOK_parentVis hop
  have C := (primitive_contracts href.wf op (opOK_abs hop)).1
  have hpre := vpre_iff_pre href hop
  have hok : r.isOk = (stepPhys m op).1.isOk := by
    rw [Bool.eq_iff_iff, hc.ok_iff, C.ok_iff, hpre]
  refine ⟨⟨hok, hc.no_panic, C.no_panic⟩, ?_, ?_, ?_⟩
  · intro hn hpar ha
    exact ⟨hc.missing hn ((isDir_of_vcore (href.same _ hpvis)).2 hpar)
      ((none_of_vcore (href.same _ hvis)).2 ha), C.missing hn hpar ha⟩
  · intro q hq hpar
    have hpar' : VIsDir v (parentInternal q) := by
      subst hq; exact (isDir_of_vcore (href.same _ hpvis)).2 hpar
    have hqv : Vis q := by subst hq; exact hvis
    constructor
    · intro hf
      exact ⟨(hc.occupied q hq hpar').1 ((isFile_of_vcore (href.same _ hqv)).2 hf),
        (C.occupied q hq hpar).1 hf⟩
    · intro hd
      exact ⟨(hc.occupied q hq hpar').2 ((isDir_of_vcore (href.same _ hqv)).2 hd),
        (C.occupied q hq hpar).2 hd⟩
  · cases hr : r.isOk with
    | false =>
      have hun := C.unchanged (by rw [← hok]; exact hr)
      rw [hun]
      exact ⟨href.wf, href.keys, VSame.trans href.same (hc.unchanged hr)⟩
    | true =>
      obtain ⟨hvnamed, hvframe⟩ := hc.effect hr
      obtain ⟨hnamed, hframe⟩ := C.effect (by rw [← hok]; exact hr)
      refine ⟨wf_stepPhys href.wf op (opOK_abs hop), ?_, ?_⟩
      · intro k e hk
        by_cases hkp : k = op.path
        · right
          obtain ⟨ds, n, hp, hpath⟩ := hop
          exact ⟨ds ++ [n], hp.ne, hp.good, hp.head, by rw [hkp, hpath]⟩
        · rw [hframe k hkp] at hk; exact href.keys k e hk
      · intro q hq
        by_cases hqp : q = op.path
        · subst hqp
          have hsame := href.same _ hvis
          cases op with
          | createDir p => exact vcore_eq_of_isDir hvnamed.1 hnamed
          | write p bs => exact vcore_eq_of_hasFile hvnamed hnamed
          | append p bs =>
            obtain ⟨old1, ho1, hn1⟩ := hvnamed
            obtain ⟨old2, ho2, hn2⟩ := hnamed
            have : old1 = old2 := by
              obtain ⟨e1, he1, hf1, hc1⟩ := ho1
              obtain ⟨e2, he2, hf2, hc2⟩ := ho2
              simp only [Mut.path] at hsame
              simp only [mview_apply] at hsame
              rw [he1, he2] at hsame
              simp only [Option.map_some, Option.some.injEq] at hsame
              rw [vcore_file hf1, vcore_file hf2] at hsame
              rw [← hc1, ← hc2]; exact congrArg Prod.snd hsame
            subst this
            exact vcore_eq_of_hasFile hn1 hn2
          | removeFile p =>
            simp only [VNamed, VAbsent, Named, Absent, Mut.path] at hvnamed hnamed ⊢
            simp only [mview_apply]; rw [hvnamed, hnamed]
          | removeDir p =>
            simp only [VNamed, VAbsent, Named, Absent, Mut.path] at hvnamed hnamed ⊢
            simp only [mview_apply]; rw [hvnamed, hnamed]
        · rw [hvframe q hq hqp, href.same q hq]
          simp only [mview_apply]; rw [hframe q hqp]

def runOverlay (fs : FS) : List Mut → World → List (Res Unit) × World
  | [], w => ([], w)
  | op :: rest, w =>
    ((ostep fs op w).1 :: (runOverlay fs rest (ostep fs op w).2).1,
      (runOverlay fs rest (ostep fs op w).2).2)

def runRef : List Mut → FMap → List (Res Unit) × FMap
  | [], m => ([], m)
  | op :: rest, m =>
    ((stepPhys m op).1 :: (runRef rest (stepPhys m op).2).1, (runRef rest (stepPhys m op).2).2)

/-- the type discipline of the open defect O3 along a history, read off the REFERENCE run:
`remove_file` is never applied to a path that is a directory at that moment -/
def o3ok (m : FMap) : Mut → Prop
  | .removeFile p => ¬ IsDir m p
  | _ => True

instance (m : FMap) (op : Mut) : Decidable (o3ok m op) := by
  cases op <;> unfold o3ok <;> exact inferInstance

def RefO3Free : List Mut → FMap → Prop
  | [], _ => True
  | op :: rest, m => o3ok m op ∧ RefO3Free rest (stepPhys m op).2

instance : (ops : List Mut) → (m : FMap) → Decidable (RefO3Free ops m)
  | [], _ => isTrue trivial
  | op :: rest, m =>
    have := instDecidableRefO3Free rest (stepPhys m op).2
    by unfold RefO3Free; exact inferInstance

theorem o3ok_iff_o3Free {v : View} {m : FMap} (href : Refines v m) {op : Mut} (hop : OpOK op) :
    o3ok m op ↔ O3Free v op := by
  have hs := isDir_of_vcore (href.same _ (opOK_vis hop))
  cases op with
  | removeFile p =>
    simp only [Mut.path] at hs
    constructor
    · intro h q hq hd
      injection hq with hq; subst hq
      exact h (hs.1 hd)
    · intro h hd
      exact h p rfl (hs.2 hd)
  | createDir p => exact ⟨fun _ q hq => (by cases hq), fun _ => trivial⟩
  | write p bs => exact ⟨fun _ q hq => (by cases hq), fun _ => trivial⟩
  | append p bs => exact ⟨fun _ q hq => (by cases hq), fun _ => trivial⟩
  | removeDir p => exact ⟨fun _ q hq => (by cases hq), fun _ => trivial⟩

theorem refines_contract_step {w : World} {u idu : Nat} {mu : FMap} {is ids : List Nat}
    {ms : List FMap} (h : OWN w (u :: is) (idu :: ids) (mu :: ms)) (inv : OInv mu ms)
    (hv : ViewWF (oview (mu :: ms))) {m0 : FMap} (href : Refines (oview (mu :: ms)) m0) {op : Mut}
    (hop : OpOK op) (hd : o3ok m0 op) :
    ∃ mu1 ms1,
      OWN (ostep (Overlay.fs (layersN (u :: is) (idu :: ids))) op w).2 (u :: is) (idu :: ids)
        (mu1 :: ms1) ∧
      LowerSame ms ms1 ∧ OInv mu1 ms1 ∧ ViewWF (oview (mu1 :: ms1)) ∧
      SameOutcome (ostep (Overlay.fs (layersN (u :: is) (idu :: ids))) op w).1 (stepPhys m0 op).1 ∧
      Refines (oview (mu1 :: ms1)) (stepPhys m0 op).2 := by
  obtain ⟨r, w', mu1, ms1, hrun, hown1, hls1, _, inv1, hv1, hc⟩ :=
    overlay_contractN h inv hv op hop ((o3ok_iff_o3Free href hop).1 hd)
  obtain ⟨hso, _, _, href1⟩ := refines_step href hop hc
  rw [hrun]
  exact ⟨mu1, ms1, hown1, hls1, inv1, hv1, hso, href1⟩

/-- **overlay_refines_reference.** n ≥ 1 memory layers (`OWN`), hidden state in order (`OInv`),
well-formed view (`ViewWF`) — e.g. well-formed type-consistent layers without markers
(`OInv.initial`, `ViewWF.initial`) —, a reference tree `m0` holding the initial view
(`Refines`). For EVERY finite list of mutators on disciplined paths (`OpOK`), under the O3 type
discipline for `remove_file` (`RefO3Free`): the overlay and the reference backend agree call by
call on success / failure, neither ever panics, and the final view of the overlay is (up to
timestamps) the final reference tree; the final world is again in the setting, with the lower
maps unchanged up to access stamps, and all invariants hold again. -/
theorem overlay_refines_reference (ops : List Mut) (hops : ∀ op ∈ ops, OpOK op)
    {w : World} {u idu : Nat} {mu : FMap} {is ids : List Nat} {ms : List FMap}
    (h : OWN w (u :: is) (idu :: ids) (mu :: ms)) (inv : OInv mu ms)
    (hv : ViewWF (oview (mu :: ms))) (m0 : FMap) (href : Refines (oview (mu :: ms)) m0)
    (hdisc : RefO3Free ops m0) :
    ∃ mu' ms',
      OWN (runOverlay (Overlay.fs (layersN (u :: is) (idu :: ids))) ops w).2
        (u :: is) (idu :: ids) (mu' :: ms') ∧
      LowerSame ms ms' ∧ OInv mu' ms' ∧ ViewWF (oview (mu' :: ms')) ∧
      (runOverlay (Overlay.fs (layersN (u :: is) (idu :: ids))) ops w).1.map Res.isOk
        = (runRef ops m0).1.map Res.isOk ∧
      (∀ r ∈ (runOverlay (Overlay.fs (layersN (u :: is) (idu :: ids))) ops w).1, r ≠ .panic) ∧
      (∀ r ∈ (runRef ops m0).1, r ≠ .panic) ∧
      Refines (oview (mu' :: ms')) (runRef ops m0).2 := by
  induction ops generalizing w mu ms m0 with
  | nil =>
    exact ⟨mu, ms, h, LowerSame.refl ms, inv, hv, rfl, by simp [runOverlay], by simp [runRef], href⟩
  | cons op rest ih =>
    obtain ⟨mu1, ms1, hown1, hls1, inv1, hv1, hso, href1⟩ :=
      refines_contract_step h inv hv href (hops op (by simp)) hdisc.1
    obtain ⟨mu', ms', hown', hls', inv', hv', hoks, hnp1, hnp2, href'⟩ :=
      ih (fun o ho => hops o (by simp [ho])) hown1 inv1 hv1 _ href1 hdisc.2
    refine ⟨mu', ms', hown', hls1.trans hls', inv', hv', ?_, List.forall_mem_cons.2 ⟨hso.2.1, hnp1⟩,
      List.forall_mem_cons.2 ⟨hso.2.2, hnp2⟩, href'⟩
    simp only [runOverlay, runRef, List.map_cons, hso.1, hoks]

section checkers

def pathComps (p : Str) : List Str := (splitSlash p).tail

def opOKb (op : Mut) : Bool :=
  decide (OpPath (pathComps op.path) ∧ renderC (pathComps op.path) = op.path)

theorem opOK_of_check {op : Mut} (h : opOKb op = true) : OpOK op := by
  unfold opOKb at h
  obtain ⟨hp, hr⟩ := of_decide_eq_true h
  have hsplit := List.dropLast_concat_getLast hp.ne
  refine ⟨(pathComps op.path).dropLast, (pathComps op.path).getLast hp.ne, ?_, ?_⟩
  · rw [hsplit]; exact hp
  · rw [hsplit]; exact hr.symm

theorem noWhiteout_of_keys {mu : FMap} (h : ∀ k ∈ mu.keys, firstComp k ≠ woDir) : NoWhiteout mu :=
  fun k e he => h k ((FMap.mem_keys_iff mu k).2 ⟨e, he⟩)

theorem typeConsistent_of_keys {all : List FMap}
    (h : ∀ m ∈ all, ∀ m' ∈ all, ∀ k ∈ m.keys,
      m'.find? k = none ∨ (m.find? k).map (·.ftype) = (m'.find? k).map (·.ftype)) :
    TypeConsistent all := by
  intro m hm m' hm' p e e' he he'
  rcases h m hm m' hm' p ((FMap.mem_keys_iff m p).2 ⟨e, he⟩) with h0 | h0
  · rw [he'] at h0; cases h0
  · rw [he, he'] at h0; simpa using h0

theorem refKeys_of_keys {m : FMap}
    (h : ∀ k ∈ m.keys, k = [] ∨ (pathComps k ≠ [] ∧ (∀ c ∈ pathComps k, GoodComp c) ∧
      (pathComps k).head? ≠ some woDir ∧ k = renderC (pathComps k))) : RefKeys m := by
  intro k e he
  rcases h k ((FMap.mem_keys_iff m k).2 ⟨e, he⟩) with h0 | ⟨h1, h2, h3, h4⟩
  · exact Or.inl h0
  · exact Or.inr ⟨pathComps k, h1, h2, h3, h4⟩

instance (q : Str) : Decidable (Vis q) := by unfold Vis; exact inferInstance

theorem oview_none_of_keys {all : List FMap} {q : Str} (hq : q ∉ all.flatMap FMap.keys) :
    oview all q = none := by
  have hall : ∀ m ∈ all, m.find? q = none := by
    intro m hm
    cases hf : m.find? q with
    | none => rfl
    | some e =>
      exact absurd (List.mem_flatMap.2 ⟨m, hm, (FMap.mem_keys_iff m q).2 ⟨e, hf⟩⟩) hq
  unfold oview dirEntryN
  split
  · cases all with
    | nil => rfl
    | cons m rest => rename_i hq0; rw [← hq0]; exact hall m (by simp)
  · unfold viewN
    split
    · rfl
    · exact (firstN_none_iff _ _).2 hall

theorem vsame_of_keys (all : List FMap) (m0 : FMap)
    (h : ∀ q ∈ all.flatMap FMap.keys ++ m0.keys, Vis q →
      (oview all q).map vcore = (m0.find? q).map vcore) : VSame (mview m0) (oview all) := by
  intro q hq
  by_cases hmem : q ∈ all.flatMap FMap.keys ++ m0.keys
  · exact h q hmem hq
  · have h0 : m0.find? q = none := by
      cases hf : m0.find? q with
      | none => rfl
      | some e => exact absurd (List.mem_append_right _ ((FMap.mem_keys_iff m0 q).2 ⟨e, hf⟩)) hmem
    show (oview all q).map vcore = (m0.find? q).map vcore
    rw [oview_none_of_keys (fun hk => hmem (List.mem_append_left _ hk)), h0]

end checkers

section example3
open Vfs.C10 (mapsOfN world3)

/-! upper (leaf 2): only the root and a file "/top";
layer 1 (leaf 0): "/d", "/d/x" = "1", "/d/b" = "B";
layer 2 (leaf 1): "/d", "/d/x" = "2", "/d/c" = "C", "/e", "/e/z" = "Z". -/

def xU : FMap := [("/top".toList, fileOf [84]), ([], dirEntryNow)]
def xA : FMap :=
  [("/d/x".toList, fileOf [49]), ("/d/b".toList, fileOf [66]), ("/d".toList, dirEntryNow),
   ([], dirEntryNow)]
def xB : FMap :=
  [("/d/x".toList, fileOf [50]), ("/d/c".toList, fileOf [67]), ("/d".toList, dirEntryNow),
   ("/e/z".toList, fileOf [90]), ("/e".toList, dirEntryNow), ([], dirEntryNow)]

def xw : World := world3 xA xB xU
def xfs : FS := Overlay.fs (layersN [2, 0, 1] [7, 8, 9])

def xRef : FMap :=
  [("/top".toList, fileOf [84]), ("/d/x".toList, fileOf [49]), ("/d/b".toList, fileOf [66]),
   ("/d/c".toList, fileOf [67]), ("/d".toList, dirEntryNow), ("/e/z".toList, fileOf [90]),
   ("/e".toList, dirEntryNow), ([], dirEntryNow)]

/-- create_dir over a lower-only parent, a write session below it, an append session with copy-up
from layer 2, remove_file of a layer-1 file, emptying and removing a lower-only directory,
re-creating both; and four calls that must fail (occupied, non-empty, missing, parent is a file) -/
def xOps : List Mut :=
  [.createDir "/d/new".toList, .write "/d/new/f".toList [7, 8], .append "/d/c".toList [9],
   .removeFile "/d/b".toList, .removeFile "/e/z".toList, .removeDir "/e".toList,
   .createDir "/e".toList, .write "/d/b".toList [1],
   .createDir "/d".toList, .removeDir "/d".toList, .append "/nope".toList [1],
   .write "/d/x/y".toList [2]]

/-! The same maps and history with every path spelt as a list of characters. The kernel decodes
a string literal again at each use, which would dominate the evaluations below; they are therefore
run on these copies, after rewriting with `xw_chars`, `xRef_chars`, `xOps_chars`. -/

def xUc : FMap := [(['/', 't', 'o', 'p'], fileOf [84]), ([], dirEntryNow)]
def xAc : FMap :=
  [(['/', 'd', '/', 'x'], fileOf [49]), (['/', 'd', '/', 'b'], fileOf [66]),
   (['/', 'd'], dirEntryNow), ([], dirEntryNow)]
def xBc : FMap :=
  [(['/', 'd', '/', 'x'], fileOf [50]), (['/', 'd', '/', 'c'], fileOf [67]),
   (['/', 'd'], dirEntryNow), (['/', 'e', '/', 'z'], fileOf [90]), (['/', 'e'], dirEntryNow),
   ([], dirEntryNow)]
def xRefc : FMap :=
  [(['/', 't', 'o', 'p'], fileOf [84]), (['/', 'd', '/', 'x'], fileOf [49]),
   (['/', 'd', '/', 'b'], fileOf [66]), (['/', 'd', '/', 'c'], fileOf [67]),
   (['/', 'd'], dirEntryNow), (['/', 'e', '/', 'z'], fileOf [90]), (['/', 'e'], dirEntryNow),
   ([], dirEntryNow)]
def xOpsc : List Mut :=
  [.createDir ['/', 'd', '/', 'n', 'e', 'w'],
   .write ['/', 'd', '/', 'n', 'e', 'w', '/', 'f'] [7, 8], .append ['/', 'd', '/', 'c'] [9],
   .removeFile ['/', 'd', '/', 'b'], .removeFile ['/', 'e', '/', 'z'], .removeDir ['/', 'e'],
   .createDir ['/', 'e'], .write ['/', 'd', '/', 'b'] [1],
   .createDir ['/', 'd'], .removeDir ['/', 'd'], .append ['/', 'n', 'o', 'p', 'e'] [1],
   .write ['/', 'd', '/', 'x', '/', 'y'] [2]]

theorem xU_chars : xU = xUc := by decide +kernel
theorem xA_chars : xA = xAc := by decide +kernel
theorem xB_chars : xB = xBc := by decide +kernel
theorem xRef_chars : xRef = xRefc := by decide +kernel
theorem xOps_chars : xOps = xOpsc := by rfl
theorem xw_chars : xw = world3 xAc xBc xUc := by rw [xw, xA_chars, xB_chars, xU_chars]

theorem xw_setting : OWN xw [2, 0, 1] [7, 8, 9] [xU, xA, xB] :=
  .cons rfl (by decide) (.cons rfl (by decide) (.cons rfl (by decide) .nil))

theorem xw_wf : ∀ m ∈ [xU, xA, xB], WF m := by decide +kernel

theorem xw_noWhiteout : NoWhiteout xU := noWhiteout_of_keys (by decide)

theorem xw_typeConsistent : TypeConsistent [xU, xA, xB] :=
  typeConsistent_of_keys (by decide +kernel)

theorem xw_inv : OInv xU [xA, xB] := OInv.initial xw_wf xw_noWhiteout

theorem xw_viewWF : ViewWF (oview [xU, xA, xB]) :=
  ViewWF.initial xw_wf xw_noWhiteout xw_typeConsistent

theorem xw_refines : Refines (oview [xU, xA, xB]) xRef := by
  rw [xU_chars, xA_chars, xB_chars, xRef_chars]
  exact ⟨by decide, refKeys_of_keys (by decide +kernel), vsame_of_keys _ _ (by decide +kernel)⟩

theorem xOps_ok : ∀ op ∈ xOps, OpOK op := by
  intro op hop
  apply opOK_of_check
  revert op
  rw [xOps_chars]
  decide +kernel

theorem xOps_o3 : RefO3Free xOps xRef := by rw [xOps_chars, xRef_chars]; decide +kernel

theorem x_refines :
    ∃ mu' ms',
      OWN (runOverlay xfs xOps xw).2 [2, 0, 1] [7, 8, 9] (mu' :: ms') ∧
      LowerSame [xA, xB] ms' ∧ OInv mu' ms' ∧ ViewWF (oview (mu' :: ms')) ∧
      (runOverlay xfs xOps xw).1.map Res.isOk = (runRef xOps xRef).1.map Res.isOk ∧
      (∀ r ∈ (runOverlay xfs xOps xw).1, r ≠ .panic) ∧
      (∀ r ∈ (runRef xOps xRef).1, r ≠ .panic) ∧
      Refines (oview (mu' :: ms')) (runRef xOps xRef).2 :=
  overlay_refines_reference xOps xOps_ok xw_setting xw_inv xw_viewWF xRef xw_refines xOps_o3

instance (v : View) (p : Str) : Decidable (VIsDir v p) :=
  decidable_of_iff ((v p).any (fun e => decide (e.ftype = .dir)) = true)
    (by unfold VIsDir; cases v p <;> simp)

example := overlay_contractN xw_setting xw_inv xw_viewWF (.createDir "/d/new".toList)
  (opOK_of_check (by decide +kernel)) (by intro p hp; cases hp)
example := overlay_contractN xw_setting xw_inv xw_viewWF (.write "/d/x".toList [1, 2])
  (opOK_of_check (by decide +kernel)) (by intro p hp; cases hp)
example := overlay_contractN xw_setting xw_inv xw_viewWF (.append "/d/c".toList [9])
  (opOK_of_check (by decide +kernel)) (by intro p hp; cases hp)
example := overlay_contractN xw_setting xw_inv xw_viewWF (.removeFile "/d/b".toList)
  (opOK_of_check (by decide +kernel)) (by intro p hp; injection hp with hp; subst hp; decide)
example := overlay_contractN xw_setting xw_inv xw_viewWF (.removeDir "/e".toList)
  (opOK_of_check (by decide +kernel)) (by intro p hp; cases hp)
example := overlay_createDir_contractN xw_setting xw_inv xw_viewWF
  (ds := ["d".toList]) (n := "new".toList) (by decide)
example := overlay_removeFile_contractN xw_setting xw_inv
  (ds := ["d".toList]) (n := "b".toList) (by decide) (by decide)
example : VPre (oview [xU, xA, xB]) (.append "/d/c".toList [9]) :=
  ⟨fileOf [67], by decide, rfl⟩

/-- the upper map and layer 2 after the history (layer 1 is untouched; in layer 2 the copy-up has
moved "/d/c" to the front), and the reference tree after it -/
def xUEnd : FMap :=
  [(['/', 'd', '/', 'b'], fileOf [1]), (['/', 'e'], dirEntryNow),
   (['/', '.', 'w', 'h', 'i', 't', 'e', 'o', 'u', 't', '/', 'e', '/', 'z', '_', 'w', 'o'],
     fileEntryNow),
   (['/', '.', 'w', 'h', 'i', 't', 'e', 'o', 'u', 't', '/', 'e'], dirEntryNow),
   (['/', '.', 'w', 'h', 'i', 't', 'e', 'o', 'u', 't', '/', 'd'], dirEntryNow),
   (['/', '.', 'w', 'h', 'i', 't', 'e', 'o', 'u', 't'], dirEntryNow),
   (['/', 'd', '/', 'c'], fileOf [67, 9]), (['/', 'd', '/', 'n', 'e', 'w', '/', 'f'], fileOf [7, 8]),
   (['/', 'd', '/', 'n', 'e', 'w'], dirEntryNow), (['/', 'd'], dirEntryNow),
   (['/', 't', 'o', 'p'], fileOf [84]), ([], dirEntryNow)]
def xBEnd : FMap :=
  [(['/', 'd', '/', 'c'], fileOf [67]), (['/', 'd', '/', 'x'], fileOf [50]),
   (['/', 'd'], dirEntryNow), (['/', 'e', '/', 'z'], fileOf [90]), (['/', 'e'], dirEntryNow),
   ([], dirEntryNow)]
def xRefEnd : FMap :=
  [(['/', 'd', '/', 'b'], fileOf [1]), (['/', 'e'], dirEntryNow),
   (['/', 'd', '/', 'c'], fileOf [67, 9]), (['/', 'd', '/', 'n', 'e', 'w', '/', 'f'], fileOf [7, 8]),
   (['/', 'd', '/', 'n', 'e', 'w'], dirEntryNow), (['/', 't', 'o', 'p'], fileOf [84]),
   (['/', 'd', '/', 'x'], fileOf [49]), (['/', 'd'], dirEntryNow), ([], dirEntryNow)]

def xwEnd : World := world3 xAc xBEnd xUEnd

theorem x_run : runOverlay xfs xOps xw =
    ([.ok (), .ok (), .ok (), .ok (), .ok (), .ok (), .ok (), .ok (),
      .err .dirExists none, .err .other none, .err .fileNotFound none, .err .other none],
     xwEnd) := by
  rw [xOps_chars, xw_chars]
  exact run_eq_of_fields (by decide +kernel)

theorem x_ref_run : runRef xOps xRef =
    ([.ok (), .ok (), .ok (), .ok (), .ok (), .ok (), .ok (), .ok (),
      .err .dirExists (some ['/', 'd']), .err .io (some ['/', 'd']),
      .err .fileNotFound (some ['/', 'n', 'o', 'p', 'e']),
      .err .other (some ['/', 'd', '/', 'x', '/', 'y'])], xRefEnd) := by
  rw [xOps_chars, xRef_chars]
  decide +kernel

theorem x_outcomes : (runOverlay xfs xOps xw).1 =
    [.ok (), .ok (), .ok (), .ok (), .ok (), .ok (), .ok (), .ok (),
     .err .dirExists none, .err .other none, .err .fileNotFound none, .err .other none] := by
  rw [x_run]

theorem x_ref_outcomes : (runRef xOps xRef).1.map Res.isOk =
    [true, true, true, true, true, true, true, true, false, false, false, false] := by
  rw [x_ref_run]
  rfl

theorem x_final_agree :
    ∀ q ∈ (mapsOfN (runOverlay xfs xOps xw).2 [2, 0, 1]).flatMap FMap.keys ++ (runRef xOps xRef).2.keys,
      Vis q → (oview (mapsOfN (runOverlay xfs xOps xw).2 [2, 0, 1]) q).map vcore
        = ((runRef xOps xRef).2.find? q).map vcore := by
  rw [x_run, x_ref_run]
  decide +kernel

example : (oview (mapsOfN (runOverlay xfs xOps xw).2 [2, 0, 1]) "/d/c".toList).map vcore
    = some (.file, [67, 9]) := by rw [x_run]; decide +kernel
example : (oview (mapsOfN (runOverlay xfs xOps xw).2 [2, 0, 1]) "/d/b".toList).map vcore
    = some (.file, [1]) := by rw [x_run]; decide +kernel
example : (oview (mapsOfN (runOverlay xfs xOps xw).2 [2, 0, 1]) "/e/z".toList) = none := by
  rw [x_run]; decide +kernel
example : (oview (mapsOfN (runOverlay xfs xOps xw).2 [2, 0, 1]) "/d/new/f".toList).map vcore
    = some (.file, [7, 8]) := by rw [x_run]; decide +kernel
example : ∀ q ∈ xA.keys ++ xB.keys,
    (((mapsOfN (runOverlay xfs xOps xw).2 [2, 0, 1]).drop 1).map (fun m => (m.find? q).map core))
      = [xA, xB].map (fun m => (m.find? q).map core) := by rw [x_run]; decide +kernel

end example3

end Vfs.C09

section audit
open Vfs.C09
#print axioms overlay_createDir_contractN
#print axioms overlay_write_contractN
#print axioms overlay_append_contractN
#print axioms overlay_removeFile_contractN
#print axioms overlay_removeDir_contractN
#print axioms overlay_removeFile_no_panicN
#print axioms overlay_contractN
#print axioms OInv.initial
#print axioms ViewWF.initial
#print axioms ViewWF.step
#print axioms refines_step
#print axioms overlay_refines_reference
#print axioms x_refines
#print axioms x_outcomes
#print axioms x_final_agree
end audit
