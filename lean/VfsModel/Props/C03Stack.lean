/-
  C03 through every stacking of adapters — the namespace of every in-memory leaf stays a
  well-formed tree whatever is called on whatever filesystem value is built on top of it.

  Props/C03.lean proves `WF` preservation for the path-layer primitives run directly on one
  in-memory leaf. Here the filesystem is ANY value of the inductive family `Stack`:
      leaf i | AltrootFS over a path of a Stack | OverlayFS over ≥ 1 layers, each a path of a Stack
             | the harness wrappers RecordingFs / FaultFs over a Stack | EmbeddedFS
  — any nesting, any number of layers, layers and altroot roots at any sub-path (any path
  string at all: existing, missing, a file, with `..`), several adapters sharing one leaf, the
  same leaf appearing as several layers of one overlay, physical and memory leaves mixed.

  The invariant `Inv w` (Proofs/StackLemmas.lean): every memory leaf of the world holds a map `m`
  with `WF m ∨ m = []`. The alternative `m = []` is exactly the case the property sets aside: the
  code lets `remove_dir` remove the leaf's OWN root when it lists nothing (src/impls/memory.rs
  `remove_dir` has no root check), the map is then EMPTY — there is no orphan in it — and it
  stays empty for ever (`stack_history_empty_absorbing`). The root of the *leaf* is meant: through
  an altroot rooted at P, `remove_dir("")` reaches the inner directory P, an ordinary removal.
  With the disjunctive invariant no hypothesis "this call does not reach the leaf root" is needed
  (an altroot at "/up" reaches it with the path "/.."). The strict form is recovered by
  `stack_history_wf_of_root`: while the leaf's root entry still exists, `WF` holds in full; and
  the no-orphan half of C03 holds unconditionally (`stack_history_no_orphan`).

  Not claimed:
    * This is about the LEAVES (the stored state). The overlay's own merged VIEW is a computed
      union; it can still show an entry whose parent the view does not show (finding O3 in
      known_findings.json: a whiteout on a directory hides the directory but the lower layers'
      children are still found by `read_path`). O3 is a statement about what
      `Overlay.readDir/exists_` answer, this theorem is about what the leaves hold. The view of
      an *altroot* over a memory leaf is a subtree of that leaf (C07), so there the leaf
      statement transfers; for overlays see C09/C10.
    * Physical leaves: `Inv` says nothing about them (their tree shape is the host's business).
    * The sequential semantics of the model (`M`); interleavings are C16/C17.
    * `Stack` does not include user-defined `FileSystem` implementations. For such a value `fs`,
      `op_pres` still applies once `fs.AllPreserve Inv` is shown.
-/
import VfsModel.Proofs.StackLemmas
import VfsModel.Props.C03
import VfsModel.Props.C08
namespace Vfs.C03
open Vfs.Stk Vfs.VPath

/-- every filesystem value that can be built from the leaves of the world by the adapters of the
crate (and the two harness wrappers), in any nesting -/
inductive Stack : FS → Prop where
  /-- leaf `i` of the world: MemoryFS or PhysicalFS (or no such leaf: every call panics) -/
  | leaf (i : Nat) : Stack (leafFS i)
  /-- `AltrootFS::new(root)`, `root` any path of a stacked filesystem -/
  | alt (root : VPath) (h : Stack root.fs) : Stack (Altroot.fs root)
  /-- `OverlayFS::new(layers)`, at least one layer, each any path of a stacked filesystem -/
  | ovl (layers : List VPath) (hne : layers ≠ []) (h : ∀ l ∈ layers, Stack l.fs) :
      Stack (Overlay.fs layers)
  /-- `RecordingFs` (harness) -/
  | record (tag : Nat) (inner : FS) (h : Stack inner) : Stack (recordFS tag inner)
  /-- `FaultFs` (harness): injected I/O failures in front of any layer -/
  | fault (inner : FS) (h : Stack inner) : Stack (faultFS inner)
  /-- `EmbeddedFS` (read-only; typically a lower layer of an overlay) -/
  | embedded (s : Embedded.State) : Stack (Embedded.fs s)

/-- **every method of every stacked filesystem keeps the invariant of every memory leaf**, for
every predicate on leaf maps that the raw MemoryFS steps keep -/
theorem stack_all_preserveP {P : Nat → FMap → Prop} (hP : MemClosed P) {fs : FS} (h : Stack fs) :
    fs.AllPreserve (InvP P) := by
  induction h with
  | leaf i => exact leafFS_all_preserveP hP i
  | alt root _ ih => exact Altroot.all_preserve root ih
  | ovl layers hne _ ih => exact C08.overlay_all_preserve layers (.of_all hne ih)
  | record tag inner _ ih => exact recordFS_all_preserve tag inner (logCall_pres (invP_leavesOnly P) tag) ih
  | fault inner _ ih => exact faultFS_all_preserve (invP_leavesOnly P).faultFree inner ih
  | embedded s => exact embedded_all_preserve s

/-- **stack_all_preserve**: each of the 15 trait methods of a stacked filesystem, and every write
handle it returns, keeps every memory leaf of the world well-formed (or emptied by the removal
of its own bare root) — on every path string, whether the call succeeds, fails or panics -/
theorem stack_all_preserve {fs : FS} (h : Stack fs) : fs.AllPreserve Inv :=
  stack_all_preserveP leafOK_closed h

/-- what a client does with an open write handle -/
inductive HAct where
  | write (bs : Bytes)
  | flush
  | seek (s : SeekFrom)

/-- one action through a handle: the handle afterwards (unchanged when the call fails) and the
world afterwards -/
def HAct.apply (a : HAct) (h : WHandle) (w : World) : WHandle × World :=
  match a with
  | .write bs =>
    match h.write bs w with
    | (.ok (_, h'), w') => (h', w')
    | (_, w') => (h, w')
  | .flush => (h, (h.flush w).2)
  | .seek s =>
    match h.seek s w with
    | (.ok (_, h'), w') => (h', w')
    | (_, w') => (h, w')

/-- any actions through the handle (errors ignored or not: a failed action leaves the handle as
it was, and the list may stop anywhere), then `drop` -/
def runActs (h : WHandle) : List HAct → M Unit
  | [] => h.drop
  | a :: rest => fun w => runActs (a.apply h w).1 rest (a.apply h w).2

/-- the public path operations; every path carries its own filesystem value, so source and
destination of a transfer may live on different stacked filesystems -/
inductive Op where
  | exists_ (p : VPath)
  | metadata (p : VPath)
  | isFile (p : VPath)
  | isDir (p : VPath)
  | readDir (p : VPath)
  | openFile (p : VPath)                       -- stamps the access time of a memory file
  | readToString (p : VPath)
  | walk (fuel : Nat) (p : VPath)              -- walk_dir, iterated to the end
  | createDir (p : VPath)
  | createDirAll (p : VPath)
  | removeFile (p : VPath)
  | removeDir (p : VPath)
  | removeDirAll (fuel : Nat) (p : VPath)
  | setCreationTime (p : VPath) (t : Int)
  | setModificationTime (p : VPath) (t : Int)
  | setAccessTime (p : VPath) (t : Int)
  | copyFile (src dst : VPath)
  | moveFile (src dst : VPath)
  | copyDir (fuel : Nat) (src dst : VPath)
  | moveDir (fuel : Nat) (src dst : VPath)
  | writeSession (p : VPath) (acts : List HAct)   -- create_file, acts, drop
  | appendSession (p : VPath) (acts : List HAct)  -- append_file, acts, drop

def Op.run : Op → M Unit
  | .exists_ p => do let _ ← p.exists_; pure ()
  | .metadata p => do let _ ← p.metadata; pure ()
  | .isFile p => do let _ ← p.isFile; pure ()
  | .isDir p => do let _ ← p.isDir; pure ()
  | .readDir p => do let _ ← p.readDir; pure ()
  | .openFile p => do let _ ← p.openFile; pure ()
  | .readToString p => do let _ ← p.readToEndChecked; pure ()
  | .walk fuel p => do
    let s ← p.walkDir
    let _ ← walkAll fuel s
    pure ()
  | .createDir p => p.createDir
  | .createDirAll p => p.createDirAll
  | .removeFile p => p.removeFile
  | .removeDir p => p.removeDir
  | .removeDirAll fuel p => p.removeDirAll fuel
  | .setCreationTime p t => p.setCreationTime t
  | .setModificationTime p t => p.setModificationTime t
  | .setAccessTime p t => p.setAccessTime t
  | .copyFile s d => s.copyFile d
  | .moveFile s d => s.moveFile d
  | .copyDir fuel s d => do let _ ← s.copyDir fuel d; pure ()
  | .moveDir fuel s d => s.moveDir fuel d
  | .writeSession p acts => do let h ← p.createFile; runActs h acts
  | .appendSession p acts => do let h ← p.appendFile; runActs h acts

/-- every path of the operation lives on a stacked filesystem (nothing is asked of the path
strings, the filesystem ids, the fuel, the bytes) -/
def Op.OnStack : Op → Prop
  | .exists_ p | .metadata p | .isFile p | .isDir p | .readDir p | .openFile p | .readToString p
  | .walk _ p | .createDir p | .createDirAll p | .removeFile p | .removeDir p | .removeDirAll _ p
  | .setCreationTime p _ | .setModificationTime p _ | .setAccessTime p _
  | .writeSession p _ | .appendSession p _ => Stack p.fs
  | .copyFile s d | .moveFile s d | .copyDir _ s d | .moveDir _ s d => Stack s.fs ∧ Stack d.fs

section generic
variable {I : World → Prop}

def keepOr (h : WHandle) : Res (Nat × WHandle) × World → WHandle × World
  | (.ok (_, h'), w') => (h', w')
  | (_, w') => (h, w')

theorem keepOr_ok {h : WHandle} (hk : HandleOK I h) (act : M (Nat × WHandle)) (w : World)
    (h1 : I (act w).2) (h2 : ∀ a, (act w).1 = .ok a → HandleOK I a.2) :
    HandleOK I (keepOr h (act w)).1 ∧ I (keepOr h (act w)).2 := by
  rcases hres : act w with ⟨_ | _ | _, w'⟩ <;> rw [hres] at h1 h2
  · exact ⟨h2 _ rfl, h1⟩
  · exact ⟨hk, h1⟩
  · exact ⟨hk, h1⟩

theorem HAct.apply_ok (a : HAct) (h : WHandle) (hk : HandleOK I h) (w : World) (hw : I w) :
    HandleOK I (a.apply h w).1 ∧ I (a.apply h w).2 := by
  cases a with
  | write bs =>
    exact keepOr_ok hk (h.write bs) w ((hk.write bs).pres w hw) ((HandleOK.write_ret hk bs).post w)
  | flush => exact ⟨hk, hk.flush.pres w hw⟩
  | seek s =>
    exact keepOr_ok hk (h.seek s) w ((WHandle.seek_pres h s).pres w hw) ((hk.seek_ret s).post w)

theorem pres_runActs (acts : List HAct) (h : WHandle) (hk : HandleOK I h) :
    Preserves I (runActs h acts) := by
  induction acts generalizing h with
  | nil => exact hk.drop
  | cons a rest ih =>
    refine ⟨fun w hw => ?_⟩
    obtain ⟨h1, h2⟩ := a.apply_ok h hk w hw
    exact (ih _ h1).pres _ h2

theorem op_pres (o : Op) (stk : FS → Prop) (hstk : ∀ fs, stk fs → fs.AllPreserve I)
    (h : match o with
      | .exists_ p | .metadata p | .isFile p | .isDir p | .readDir p | .openFile p
      | .readToString p | .walk _ p | .createDir p | .createDirAll p | .removeFile p
      | .removeDir p | .removeDirAll _ p | .setCreationTime p _ | .setModificationTime p _
      | .setAccessTime p _ | .writeSession p _ | .appendSession p _ => stk p.fs
      | .copyFile s d | .moveFile s d | .copyDir _ s d | .moveDir _ s d => stk s.fs ∧ stk d.fs) :
    Preserves I o.run := by
  cases o with
  | exists_ p => exact Preserves.bind (pres_exists p (hstk _ h).obs) (fun _ => Preserves.pure _)
  | metadata p => exact Preserves.bind (pres_metadata p (hstk _ h).obs) (fun _ => Preserves.pure _)
  | isFile p => exact Preserves.bind (pres_isFile p (hstk _ h).obs) (fun _ => Preserves.pure _)
  | isDir p => exact Preserves.bind (pres_isDir p (hstk _ h).obs) (fun _ => Preserves.pure _)
  | readDir p => exact Preserves.bind (pres_readDir p (hstk _ h).obs) (fun _ => Preserves.pure _)
  | openFile p => exact Preserves.bind (pres_openFile p (hstk _ h).obs) (fun _ => Preserves.pure _)
  | readToString p =>
    exact Preserves.bind (pres_readToEndChecked p (hstk _ h).obs) (fun _ => Preserves.pure _)
  | walk fuel p =>
    have hg : Good I p := hstk _ h
    apply Preserves.bindQ _ (pres_walkDir p hg.obs) (walkDir_good p hg)
    intro s hs
    exact Preserves.bind (pres_walkAll fuel s hs) (fun _ => Preserves.pure _)
  | createDir p => exact pres_createDir p (hstk _ h)
  | createDirAll p => exact pres_createDirAll p (hstk _ h)
  | removeFile p => exact pres_removeFile p (hstk _ h)
  | removeDir p => exact pres_removeDir p (hstk _ h)
  | removeDirAll fuel p => exact pres_removeDirAll fuel p (hstk _ h)
  | setCreationTime p t => exact pres_setCreationTime p t (hstk _ h)
  | setModificationTime p t => exact pres_setModificationTime p t (hstk _ h)
  | setAccessTime p t => exact pres_setAccessTime p t (hstk _ h)
  | copyFile s d =>
    exact pres_copyFile s d (hstk _ h.1).obs (hstk _ h.2) (fun _ => hstk _ h.1)
  | moveFile s d => exact pres_moveFile s d (hstk _ h.1) (hstk _ h.2)
  | copyDir fuel s d =>
    exact Preserves.bind (pres_copyDir fuel s d (hstk _ h.1) (hstk _ h.2)) (fun _ => Preserves.pure _)
  | moveDir fuel s d => exact pres_moveDir fuel s d (hstk _ h.1) (hstk _ h.2)
  | writeSession p acts =>
    exact Preserves.bindQ _ (pres_createFile p (hstk _ h)) (createFile_handle p (hstk _ h))
      (fun hd hk => pres_runActs acts hd hk)
  | appendSession p acts =>
    exact Preserves.bindQ _ (pres_appendFile p (hstk _ h)) (appendFile_handle p (hstk _ h))
      (fun hd hk => pres_runActs acts hd hk)

end generic

/-- generic form of `stack_op_wf` -/
theorem stack_op_presP {P : Nat → FMap → Prop} (hP : MemClosed P) (o : Op) (h : o.OnStack) :
    Preserves (InvP P) o.run := by
  apply op_pres o Stack (fun fs hfs => stack_all_preserveP hP hfs)
  cases o <;> exact h

/-- **stack_op_wf**: every public path operation, on every path string of every stacked
filesystem, keeps every memory leaf of the world well-formed — whether the call succeeds,
fails or panics, whether the target has the right type or not. Composite operations
(create_dir_all, remove_dir_all, copy_file, move_file, copy_dir, move_dir, the walk) and whole
write / append sessions included. -/
theorem stack_op_wf (o : Op) (h : o.OnStack) : Preserves Inv o.run :=
  stack_op_presP leafOK_closed o h

theorem stack_createDir_wf (p : VPath) (h : Stack p.fs) : Preserves Inv p.createDir :=
  stack_op_wf (.createDir p) h
theorem stack_createDirAll_wf (p : VPath) (h : Stack p.fs) : Preserves Inv p.createDirAll :=
  stack_op_wf (.createDirAll p) h
theorem stack_removeFile_wf (p : VPath) (h : Stack p.fs) : Preserves Inv p.removeFile :=
  stack_op_wf (.removeFile p) h
theorem stack_removeDir_wf (p : VPath) (h : Stack p.fs) : Preserves Inv p.removeDir :=
  stack_op_wf (.removeDir p) h
theorem stack_removeDirAll_wf (fuel : Nat) (p : VPath) (h : Stack p.fs) :
    Preserves Inv (p.removeDirAll fuel) := stack_op_wf (.removeDirAll fuel p) h
theorem stack_setCreationTime_wf (p : VPath) (t : Int) (h : Stack p.fs) :
    Preserves Inv (p.setCreationTime t) := stack_op_wf (.setCreationTime p t) h
theorem stack_setModificationTime_wf (p : VPath) (t : Int) (h : Stack p.fs) :
    Preserves Inv (p.setModificationTime t) := stack_op_wf (.setModificationTime p t) h
theorem stack_setAccessTime_wf (p : VPath) (t : Int) (h : Stack p.fs) :
    Preserves Inv (p.setAccessTime t) := stack_op_wf (.setAccessTime p t) h
theorem stack_copyFile_wf (s d : VPath) (hs : Stack s.fs) (hd : Stack d.fs) :
    Preserves Inv (s.copyFile d) := stack_op_wf (.copyFile s d) ⟨hs, hd⟩
theorem stack_moveFile_wf (s d : VPath) (hs : Stack s.fs) (hd : Stack d.fs) :
    Preserves Inv (s.moveFile d) := stack_op_wf (.moveFile s d) ⟨hs, hd⟩
theorem stack_copyDir_wf (fuel : Nat) (s d : VPath) (hs : Stack s.fs) (hd : Stack d.fs) :
    Preserves Inv (s.copyDir fuel d) :=
  pres_copyDir fuel s d (stack_all_preserve hs) (stack_all_preserve hd)
theorem stack_moveDir_wf (fuel : Nat) (s d : VPath) (hs : Stack s.fs) (hd : Stack d.fs) :
    Preserves Inv (s.moveDir fuel d) := stack_op_wf (.moveDir fuel s d) ⟨hs, hd⟩
theorem stack_openFile_wf (p : VPath) (h : Stack p.fs) : Preserves Inv p.openFile :=
  pres_openFile p (stack_all_preserve h).obs
theorem stack_exists_wf (p : VPath) (h : Stack p.fs) : Preserves Inv p.exists_ :=
  pres_exists p (stack_all_preserve h).obs
theorem stack_metadata_wf (p : VPath) (h : Stack p.fs) : Preserves Inv p.metadata :=
  pres_metadata p (stack_all_preserve h).obs
theorem stack_readDir_wf (p : VPath) (h : Stack p.fs) : Preserves Inv p.readDir :=
  pres_readDir p (stack_all_preserve h).obs
theorem stack_walkDir_wf (p : VPath) (h : Stack p.fs) : Preserves Inv p.walkDir :=
  pres_walkDir p (stack_all_preserve h).obs
theorem stack_walkNext_wf (s : Walk) (h : ∀ c, c ∈ s.inner ∨ c ∈ s.todo → Stack c.fs) :
    Preserves Inv (walkNext s) :=
  pres_walkNext s ⟨fun c hc => stack_all_preserve (h c (Or.inl hc)),
    fun c hc => stack_all_preserve (h c (Or.inr hc))⟩

theorem stack_createFile_wf (p : VPath) (h : Stack p.fs) :
    Preserves Inv p.createFile ∧ Returns p.createFile (HandleOK Inv) :=
  ⟨pres_createFile p (stack_all_preserve h), createFile_handle p (stack_all_preserve h)⟩

theorem stack_appendFile_wf (p : VPath) (h : Stack p.fs) :
    Preserves Inv p.appendFile ∧ Returns p.appendFile (HandleOK Inv) :=
  ⟨pres_appendFile p (stack_all_preserve h), appendFile_handle p (stack_all_preserve h)⟩

/-- a session through a handle obtained from a stacked filesystem: any writes, flushes, seeks,
then drop -/
theorem stack_session_wf (h : WHandle) (hk : HandleOK Inv h) (acts : List HAct) :
    Preserves Inv (runActs h acts) := pres_runActs acts h hk

/-! ### histories: client programs with a table of open handles -/

structure St where
  world : World
  handles : List WHandle

inductive Step where
  /-- a path operation (complete sessions included) -/
  | op (o : Op)
  /-- `create_file`: on success the handle is kept open (appended to the table) -/
  | openCreate (p : VPath)
  /-- `append_file`: on success the handle is kept open -/
  | openAppend (p : VPath)
  /-- write / flush / seek through the open handle in `slot` -/
  | act (slot : Nat) (a : HAct)
  /-- drop the handle in `slot` (publishes the buffer of a memory handle) -/
  | drop (slot : Nat)
  /-- `mem::forget` the handle in `slot`: it leaves the table without being dropped -/
  | forget (slot : Nat)

def Step.OnStack : Step → Prop
  | .op o => o.OnStack
  | .openCreate p | .openAppend p => Stack p.fs
  | .act _ _ | .drop _ | .forget _ => True

def openWith (m : M WHandle) (st : St) : St :=
  match m st.world with
  | (.ok h, w') => { world := w', handles := st.handles ++ [h] }
  | (_, w') => { st with world := w' }

/-- run one step (outcomes are ignored: the program goes on whatever happened) -/
def Step.run : Step → St → St
  | .op o, st => { st with world := (o.run st.world).2 }
  | .openCreate p, st => openWith p.createFile st
  | .openAppend p, st => openWith p.appendFile st
  | .act slot a, st =>
    match st.handles[slot]? with
    | some h => { world := (a.apply h st.world).2, handles := st.handles.set slot (a.apply h st.world).1 }
    | none => st
  | .drop slot, st =>
    match st.handles[slot]? with
    | some h => { world := (h.drop st.world).2, handles := st.handles.eraseIdx slot }
    | none => st
  | .forget slot, st => { st with handles := st.handles.eraseIdx slot }

def runSteps : List Step → St → St
  | [], st => st
  | s :: rest, st => runSteps rest (s.run st)

theorem openWith_world {P : Nat → FMap → Prop} (m : M WHandle) (hm : Preserves (InvP P) m) (st : St)
    (hw : InvP P st.world) : InvP P (openWith m st).world := by
  have := hm.pres st.world hw
  unfold openWith
  cases hres : m st.world with
  | mk r w' =>
    rw [hres] at this
    cases r <;> exact this

/-- generic form of `stack_step_wf` -/
theorem stack_step_presP {P : Nat → FMap → Prop} (hP : MemClosed P) (s : Step) (hs : s.OnStack)
    (st : St) (hw : InvP P st.world) : InvP P (s.run st).world := by
  cases s with
  | op o => exact (stack_op_presP hP o hs).pres st.world hw
  | openCreate p => exact openWith_world _ (pres_createFile p (stack_all_preserveP hP hs)) st hw
  | openAppend p => exact openWith_world _ (pres_appendFile p (stack_all_preserveP hP hs)) st hw
  | act slot a =>
    simp only [Step.run]
    split
    · rename_i h _; exact (a.apply_ok h (handleOK_any hP h) st.world hw).2
    · exact hw
  | drop slot =>
    simp only [Step.run]
    split
    · rename_i h _; exact (handleOK_any hP h).drop.pres st.world hw
    · exact hw
  | forget slot => exact hw

/-- **one step of any client program keeps every memory leaf well-formed** — whatever handles
the table holds (fresh, stale, opened on any filesystem, or not obtained from any call at all) -/
theorem stack_step_wf (s : Step) (hs : s.OnStack) (st : St) (hw : Inv st.world) :
    Inv (s.run st).world := stack_step_presP leafOK_closed s hs st hw

theorem stack_history_presP {P : Nat → FMap → Prop} (hP : MemClosed P) (steps : List Step)
    (hs : ∀ s ∈ steps, s.OnStack) (st : St) (hw : InvP P st.world) :
    InvP P (runSteps steps st).world := by
  induction steps generalizing st with
  | nil => exact hw
  | cons s rest ih =>
    exact ih (fun x hx => hs x (by simp [hx])) _ (stack_step_presP hP s (hs s (by simp)) st hw)

/-- **stack_history_wf — every reachable state of every stacking is well-formed.** Any finite
program of path operations, sessions and free use of open handles, on any path strings, on any
stacked filesystems sharing one world, from any state satisfying `Inv`, ends in a state
satisfying `Inv`: every memory leaf holds a well-formed tree (or the empty map, once its own
bare root was removed). -/
theorem stack_history_wf (steps : List Step) (hs : ∀ s ∈ steps, s.OnStack) (st : St)
    (hw : Inv st.world) : Inv (runSteps steps st).world :=
  stack_history_presP leafOK_closed steps hs st hw

/-- **the emptied leaf stays empty**: once the map of memory leaf `i0` is `[]` (its own root
was removed), no program puts anything into it again — `remove_dir` of the leaf root is the one
way out of `WF`, and there is no way back into a malformed non-empty state -/
theorem stack_history_empty_absorbing (i0 : Nat) (steps : List Step) (hs : ∀ s ∈ steps, s.OnStack)
    (st : St) (h0 : MemLeafAt st.world i0 []) :
    ∀ l, (runSteps steps st).world.leaf? i0 = some l → l.kind = .mem → l.files = [] := by
  have := stack_history_presP (emptyAt_closed i0) steps hs st (by
    intro i l hl hk hi
    subst hi
    rw [h0.leaf?] at hl; injection hl with hl; subst hl; rfl)
  intro l hl hk
  exact this i0 l hl hk rfl

def initWorld (n : Nat) : World := { leaves := List.replicate n { kind := .mem, files := Mem.init } }

theorem init_inv (n : Nat) : Inv (initWorld n) := by
  intro i l hl _
  unfold initWorld World.leaf? at hl
  simp only [List.getElem?_replicate] at hl
  split at hl
  · injection hl with hl; subst hl; exact Or.inl WF.init_mem
  · cases hl

theorem init_inv_mixed (kinds : List LeafKind) :
    Inv { leaves := kinds.map fun k => { kind := k, files := if k = .mem then Mem.init else Phys.init } } := by
  intro i l hl hk
  unfold World.leaf? at hl
  simp only [List.getElem?_map] at hl
  cases hk' : kinds[i]? with
  | none => simp [hk'] at hl
  | some k =>
    simp only [hk', Option.map_some, Option.some.injEq] at hl
    subst hl
    simp only at hk
    subst hk
    exact Or.inl WF.init_mem

/-- from the initial world: every program on every stacking keeps all leaves well-formed -/
theorem stack_history_wf_init (n : Nat) (steps : List Step) (hs : ∀ s ∈ steps, s.OnStack) :
    Inv (runSteps steps { world := initWorld n, handles := [] }).world :=
  stack_history_wf steps hs _ (init_inv n)

/-- no entry of the map is an orphan: it is the root, or it has a '/' and its parent is an
existing directory -/
def NoOrphan (m : FMap) : Prop :=
  ∀ k e, m.find? k = some e → k ≠ [] →
    '/' ∈ k ∧ ∃ pe, m.find? (parentInternal k) = some pe ∧ pe.ftype = .dir

theorem leafOK_noOrphan {m : FMap} (h : LeafOK m) : NoOrphan m := by
  rcases h with h | h
  · exact h.2
  · subst h; intro k e hk; cases hk

section consequences
variable (steps : List Step) (hs : ∀ s ∈ steps, s.OnStack) (st : St) (hw : Inv st.world)
  (i : Nat) (m : FMap) (hm : MemLeafAt (runSteps steps st).world i m)
include hs hw hm

theorem stack_history_leaf : LeafOK m :=
  stack_history_wf steps hs st hw i _ hm rfl

/-- **no call can create an orphan** — unconditionally (root removal included) -/
theorem stack_history_no_orphan : NoOrphan m :=
  leafOK_noOrphan (stack_history_leaf steps hs st hw i m hm)

/-- **the root is an existing directory** unless the leaf's own root was removed, in which case
nothing at all exists in the leaf -/
theorem stack_history_root : (∃ e, m.find? [] = some e ∧ e.ftype = .dir) ∨ m = [] := by
  rcases stack_history_leaf steps hs st hw i m hm with h | h
  · exact Or.inl h.1
  · exact Or.inr h

/-- while the leaf's root entry exists, the tree is well-formed in full -/
theorem stack_history_wf_of_root (e : Entry) (he : m.find? [] = some e) : WF m :=
  LeafOK.wf_of_root (stack_history_leaf steps hs st hw i m hm) e he

/-- a leaf that holds an entry is well-formed in full (it is not the emptied one) -/
theorem stack_history_wf_of_entry (k : Str) (e : Entry) (hk : m.find? k = some e) : WF m :=
  (stack_history_leaf steps hs st hw i m hm).wf_of_ne (fun h => by subst h; cases hk)

theorem stack_history_listed (k : Str) (e : Entry) (hk : m.find? k = some e) (hne : k ≠ []) :
    ∃ l, Mem.readDir m (parentInternal k) = .ok l ∧ afterLast '/' k ∈ l ∧ '/' ∉ afterLast '/' k :=
  listed_by_parent (stack_history_wf_of_entry steps hs st hw i m hm k e hk) k e hk hne

/-- every entry is reachable from the root through directory listings -/
theorem stack_history_reachable (k : Str) (e : Entry) (hk : m.find? k = some e) : Reach m k :=
  reachable (stack_history_wf_of_entry steps hs st hw i m hm k e hk) k.length k e (Nat.le_refl _) hk

end consequences

def exAlt : FS := Altroot.fs { fs := leafFS 0, fsId := 0, path := "/up".toList }

def exOvl : FS :=
  Overlay.fs [{ fs := exAlt, fsId := 10, path := [] }, { fs := leafFS 1, fsId := 1, path := [] }]

/-- an altroot at "/sub" of that overlay, behind a fault wrapper, as the upper layer of a second
overlay whose lower layers are a recorded view of leaf 0 at "/up/low" and leaf 0 itself: three
adapters deep, leaf 0 shared by three routes -/
def exDeep : FS :=
  Overlay.fs [
    { fs := faultFS (Altroot.fs { fs := exOvl, fsId := 11, path := "/sub".toList }), fsId := 12, path := [] },
    { fs := recordFS 7 (leafFS 0), fsId := 13, path := "/up/low".toList },
    { fs := leafFS 0, fsId := 0, path := [] }]

theorem exAlt_stack : Stack exAlt := Stack.alt _ (Stack.leaf 0)

theorem exOvl_stack : Stack exOvl := by
  apply Stack.ovl _ (by simp)
  intro l hl
  simp only [List.mem_cons, List.mem_nil_iff, or_false] at hl
  rcases hl with rfl | rfl
  · exact exAlt_stack
  · exact Stack.leaf 1

theorem exDeep_stack : Stack exDeep := by
  apply Stack.ovl _ (by simp)
  intro l hl
  simp only [List.mem_cons, List.mem_nil_iff, or_false] at hl
  rcases hl with rfl | rfl | rfl
  · exact Stack.fault _ (Stack.alt _ exOvl_stack)
  · exact Stack.record 7 _ (Stack.leaf 0)
  · exact Stack.leaf 0

example : Inv (initWorld 2) := init_inv 2

example : Inv { leaves := [{ kind := .mem, files := Mem.init }, { kind := .phys, files := Phys.init }] } :=
  init_inv_mixed [.mem, .phys]

/-- `WF` really holds there (the left disjunct, not the empty map) -/
example : ∃ m, MemLeafAt (initWorld 2) 1 m ∧ WF m ∧ m ≠ [] :=
  ⟨Mem.init, rfl, WF.init_mem, by simp [Mem.init]⟩

/-- a program over the three stackings sharing the two leaves: directories made directly on
leaf 0 and through the overlay, a write session through the overlay, a handle opened through the
deep stacking (it lands on leaf 0 at "/up/sub/g") and kept open, a cross-filesystem move, a
recursive removal through the plain leaf that makes the open handle stale, writes through the
stale handle and its drop, the removal of the root of leaf 0 itself (leaf 0 is then empty), and
a copy_dir through the adapters afterwards -/
def exProgram : List Step := [
  .op (.createDirAll { fs := leafFS 0, fsId := 0, path := "/up/low/x".toList }),
  .op (.createDir { fs := exOvl, fsId := 20, path := "/sub".toList }),
  .op (.writeSession { fs := exOvl, fsId := 20, path := "/f".toList } [.write [1, 2, 3], .flush, .write [4]]),
  .openCreate { fs := exDeep, fsId := 21, path := "/g".toList },
  .act 0 (.write [9]),
  .op (.moveFile { fs := exOvl, fsId := 20, path := "/f".toList } { fs := leafFS 1, fsId := 1, path := "/h".toList }),
  .op (.removeDirAll 8 { fs := leafFS 0, fsId := 0, path := "/up".toList }),
  .act 0 (.write [7]),
  .drop 0,
  .op (.removeDir { fs := leafFS 0, fsId := 0, path := [] }),
  .op (.copyDir 8 { fs := exDeep, fsId := 21, path := [] } { fs := exAlt, fsId := 22, path := "/c".toList })]

theorem exProgram_onStack : ∀ s ∈ exProgram, s.OnStack := by
  intro s hs
  simp only [exProgram, List.mem_cons, List.mem_nil_iff, or_false] at hs
  rcases hs with rfl | rfl | rfl | rfl | rfl | rfl | rfl | rfl | rfl | rfl | rfl
  · exact Stack.leaf 0
  · exact exOvl_stack
  · exact exOvl_stack
  · exact exDeep_stack
  · trivial
  · exact ⟨exOvl_stack, Stack.leaf 1⟩
  · exact Stack.leaf 0
  · trivial
  · trivial
  · exact Stack.leaf 0
  · exact ⟨exDeep_stack, exAlt_stack⟩

example : Inv (runSteps exProgram { world := initWorld 2, handles := [] }).world :=
  stack_history_wf_init 2 exProgram exProgram_onStack

end Vfs.C03
