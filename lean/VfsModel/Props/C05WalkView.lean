/-
  C05 (traversal) for ANY filesystem that shows a well-formed tree — `VfsPath::walk_dir` yields
  every descendant exactly once and every directory before anything inside it — and its instances
  for the in-memory backend, the overlay over n in-memory layers, and the altroot over an
  in-memory leaf.

  Interface (Proofs/WalkGeneric.lean). `TreeViewOn fs S v`: `v : Str → Option Entry` is a finite
  well-formed tree (finitely many present paths; the root "" is a directory; every other present
  path contains '/', and its `parent_internal` is a present directory), and in EVERY world of the
  set `S` the two trait methods the walker calls answer by `v` and keep the world inside `S`:
  `read_dir p` of a directory `p` succeeds with exactly the bare names `n` ('/' ∉ n) for which
  `v (p ++ "/" ++ n)` is present, each once, in SOME order (which may change from call to call);
  `metadata p` of a present `p` succeeds and reports the type of `v p`. `TreeView fs w v` is
  `S = {w}`: the observers leave the world unchanged (true for the three instances below;
  `open_file` stamps access times but the walker never opens a file). `S` may be larger, e.g. for a
  recording wrapper whose ghost log grows with every call — any set of worlds all showing `v`
  and closed under the two observers.

  Generic theorems (`fs`, `S`, `v` arbitrary with `TreeViewOn fs S v`; `p` a directory of `v`; `D`
  any duplicate-free enumeration of the present proper descendants of `p`: `DescList v p D`, one
  exists by `descList_exists` (both in Props/C05Walk.lean); start world in `S`; no assumption on
  the order of any listing):
    * `walk_view_spec`: fuel > |D|: `.ok` list of `.ok` items on the same filesystem, the yielded
      paths L are a permutation of D, duplicate-free, no path before one of its ancestors, final
      world in S; fuel ≤ |D|: the out-of-fuel sentinel `.panic`. `walk_view_panic_iff`: the bound
      is exact. `walk_view_result`: EVERY `.ok` outcome, whatever the fuel, is the right one.
    * `walk_view_complete_nodup`, `walk_view_dirs_first`, `walk_view_dir_before_content`,
      `walk_view_root_complete`: the clauses of C05 read off that list.
    * `walk_view_not_dir`: `walk_dir` on an absent path / a file of the view fails (not-found /
      the error `read_dir` gives), no iterator (`ViewAbsent`).
  Instances:
    * `mem_treeView` (Props/C05Walk.lean, whose theorems are this instance), `mem_walk_spec`.
    * `overlay_treeView` (Proofs/OverlayTreeView.lean, with `OVis`, `ovisView`, `NamesOK` and
      their lemmas), `overlay_walk_spec` (here): overlay over n ≥ 1 in-memory layers under `OWN`,
      `OInv`, `ViewWF` and the name discipline `NamesOK`, view = `ovisView all` = `oview all` cut
      down to the root and the disciplined canonical paths (`OVis`: outside ".whiteout", no
      component ending in "_wo"). `descList_overlay_check` is a decidable check of `DescList` for
      that view.
    * `altroot_treeView`, `altroot_walk_spec`: altroot over a directory `P` of an in-memory leaf,
      view = lookup in the sub-map `sub P m` (hypotheses `Inv0 (sub P m)`, `AncOK P m`, `Canon P`
      as in Props/C07Subtree.lean, plus `WF m`, unique keys).
    * `record_treeViewOn`, `recorded_mem_walk_spec`: an instance where the world DOES change — a
      recording wrapper around MemoryFS, `S` = "leaf i holds m".

  Hypotheses of the overlay instance. `OWN`, `OInv`, `ViewWF` are invariants of every disciplined
  history (Props/C03Overlay.lean). `NamesOK all` is an additional STATE hypothesis: below the root
  and below every disciplined path, every present bare name is a canonical component that does not
  end in "_wo" (at the root ".whiteout" is exempt). It is needed: a lower-layer directory called
  "x_wo" would make `read_dir` consult the marker FILE of "x". `namesOK_of_keys` is a decidable
  sufficient check on the keys of the layer maps. It is an invariant too (`namesOK_step`; both
  lemmas are in Proofs/OverlayTreeView.lean), and `overlay_walk_history` (here) states the walk theorem for EVERY reachable state, from the initial
  hypotheses of Props/C03Overlay.lean plus `NamesOK` of the initial layers.

  Physical leaves: `C13.phys_treeView`, `phys_walk_spec` (Props/C13Phys.lean); the embedded
  filesystem: `C18.embedded_treeView` (Props/C18Phys.lean).
  Not covered: the async iterator; overlays whose layers are not roots of memory leaves; walks
  started at an overlay path with a component ending in "_wo" or inside
  ".whiteout" (outside the view by design); histories with `VfsPath`-level operations (as in
  Props/C03Overlay.lean); concurrent mutation during the walk (the worlds of `S` all show the
  SAME view `v`).
-/
import VfsModel.Proofs.WalkGeneric
import VfsModel.Props.C05Walk
import VfsModel.Props.C05Overlay
import VfsModel.Props.C07Subtree
import VfsModel.Proofs.OverlayTreeView
namespace Vfs.C05
open Vfs.Wk
open Vfs.WkG (TreeViewOn TreeView ViewAbsent IsNames)

section generic
variable {fs : FS} {S : World → Prop} {v : Str → Option Entry} (tv : TreeViewOn fs S v) (id : Nat)
  {w : World} (hw : S w) {p : Str} {e : Entry} (hp : v p = some e) (hdir : e.ftype = .dir)
  {D : List Str} (hD : DescList v p D)
include tv hw hp hdir hD

/-- **walk_dir over any tree view.** Whatever order the listings come in: with more fuel than
present proper descendants of `p`, the collected walk is an `.ok` list of `.ok` items — exactly
the present proper descendants of `p`, each once, no path before one of its ancestors — and never
`.panic`; with less fuel it is the out-of-fuel sentinel. The final world is in `S`. -/
theorem walk_view_spec (fuel : Nat) :
    (D.length < fuel →
      ∃ (L : List Str) (w' : World), S w' ∧
        walkCollect fuel (vp fs id p) w = (.ok (okItemsOn fs id L), w') ∧
        L.Perm D ∧ L.Nodup ∧ (∀ k, k ∈ L ↔ (v k ≠ none ∧ below p k = true)) ∧
        L.Pairwise (fun a b => below b a = false)) ∧
    (fuel ≤ D.length → ∃ w', S w' ∧ walkCollect fuel (vp fs id p) w = (.panic, w')) := by
  obtain ⟨h1, h2⟩ := WkG.collect_outcome (P := vp fs id p) tv hw hD hp hdir fuel
  refine ⟨fun hf => ?_, h2⟩
  obtain ⟨L, w', hS, hrun, hL⟩ := h1 hf
  exact ⟨L, w', hS, hrun, hL.perm_desc hD, hL.nodup, hL.mem, hL.order⟩

/-- EVERY `.ok` outcome of the collected walk, whatever the fuel, is a walk of the tree -/
theorem walk_view_ok_inv {fuel : Nat} {items : List (Res VPath)} {w' : World}
    (hrun : walkCollect fuel (vp fs id p) w = (.ok items, w')) :
    S w' ∧ ∃ L : List Str, items = okItemsOn fs id L ∧ WkG.WalkOf v p L :=
  WkG.collect_ok_inv (P := vp fs id p) tv hw hD hp hdir hrun

/-- the bound is exact: the out-of-fuel sentinel is the outcome iff fuel ≤ #descendants -/
theorem walk_view_panic_iff (fuel : Nat) :
    (walkCollect fuel (vp fs id p) w).1 = .panic ↔ fuel ≤ D.length :=
  WkG.collect_panic_iff (P := vp fs id p) tv hw hD hp hdir fuel

theorem walk_view_result (fuel : Nat) (items : List (Res VPath)) (w' : World)
    (hrun : walkCollect fuel (vp fs id p) w = (.ok items, w')) :
    S w' ∧ ∃ L : List Str, items = okItemsOn fs id L ∧
      L.Perm D ∧ L.Nodup ∧ (∀ k, k ∈ L ↔ (v k ≠ none ∧ below p k = true)) ∧
      L.Pairwise (fun a b => below b a = false) := by
  obtain ⟨hS, L, hL, hW⟩ := walk_view_ok_inv tv id hw hp hdir hD hrun
  exact ⟨hS, L, hL, hW.perm_desc hD, hW.nodup, hW.mem, hW.order⟩

theorem walk_view_fuel_irrelevant (fuel fuel' : Nat) (hf : D.length < fuel)
    (hf' : D.length < fuel') :
    walkCollect fuel (vp fs id p) w = walkCollect fuel' (vp fs id p) w := by
  obtain ⟨L, w', _, h1, _⟩ := (walk_view_spec tv id hw hp hdir hD (D.length + 1)).1 (by omega)
  rw [walkCollect_fuel_le (show D.length + 1 ≤ fuel by omega) _ w w' _ h1,
    walkCollect_fuel_le (show D.length + 1 ≤ fuel' by omega) _ w w' _ h1]

/-- every item is `.ok`: a present path strictly below p, on the same filesystem -/
theorem walk_view_items_ok (fuel : Nat) (items : List (Res VPath)) (w' : World)
    (hrun : walkCollect fuel (vp fs id p) w = (.ok items, w')) :
    ∀ it ∈ items, ∃ k, it = .ok (vp fs id k) ∧ v k ≠ none ∧ below p k = true := by
  obtain ⟨_, L, rfl, hW⟩ := walk_view_ok_inv tv id hw hp hdir hD hrun
  intro it hit
  obtain ⟨k, hkL, rfl⟩ := List.mem_map.1 hit
  exact ⟨k, rfl, (hW.mem k).1 hkL⟩

/-- every present proper descendant of p exactly once, and nothing else -/
theorem walk_view_complete_nodup (fuel : Nat) (L : List Str) (w' : World)
    (hrun : walkCollect fuel (vp fs id p) w = (.ok (okItemsOn fs id L), w')) :
    L.Perm D ∧ L.Nodup ∧
    (∀ k, k ∈ L ↔ v k ≠ none ∧ k ≠ p ∧ (k = p ∨ ∃ t, k = p ++ '/' :: t)) ∧
    (∀ k, v k ≠ none → k ≠ p → (k = p ∨ ∃ t, k = p ++ '/' :: t) → L.count k = 1) := by
  obtain ⟨_, L', hL, hW⟩ := walk_view_ok_inv tv id hw hp hdir hD hrun
  obtain rfl := WkG.items_inj (P := vp fs id p) hL
  exact ⟨hW.perm_desc hD, hW.nodup, hW.mem_iff,
    fun k h1 h2 h3 => hW.count_one h1 ((below_iff_under p k).2 ⟨h2, h3⟩)⟩

/-- directories first, index form: a proper ancestor comes strictly earlier -/
theorem walk_view_dirs_first (fuel : Nat) (L : List Str) (w' : World)
    (hrun : walkCollect fuel (vp fs id p) w = (.ok (okItemsOn fs id L), w'))
    (a b : Nat) (ha : a < L.length) (hb : b < L.length) (hab : below L[a] L[b] = true) :
    a < b := by
  obtain ⟨_, L', hL, hW⟩ := walk_view_ok_inv tv id hw hp hdir hD hrun
  obtain rfl := WkG.items_inj (P := vp fs id p) hL
  exact WkG.dirs_first_index hW.order a b ha hb hab

/-- the C05 sentence: a directory is yielded before anything inside it — if k2 is yielded and
k1 (below p) is a proper ancestor of k2, the list splits as `… k1 … k2 …` -/
theorem walk_view_dir_before_content (fuel : Nat) (L : List Str) (w' : World)
    (hrun : walkCollect fuel (vp fs id p) w = (.ok (okItemsOn fs id L), w'))
    (k1 k2 : Str) (h2 : k2 ∈ L) (hp1 : below p k1 = true) (h12 : below k1 k2 = true) :
    ∃ l1 l2 l3, L = l1 ++ k1 :: l2 ++ k2 :: l3 := by
  obtain ⟨_, L', hL, hW⟩ := walk_view_ok_inv tv id hw hp hdir hD hrun
  obtain rfl := WkG.items_inj (P := vp fs id p) hL
  exact hW.dir_before_content tv h2 hp1 h12

end generic

/-- the observers leave the world unchanged (`TreeView`): so does the walk -/
theorem walk_view_spec_fixed {fs : FS} {w : World} {v : Str → Option Entry} (tv : TreeView fs w v)
    (id : Nat) {p : Str} {e : Entry} (hp : v p = some e) (hdir : e.ftype = .dir)
    {D : List Str} (hD : DescList v p D) (fuel : Nat) :
    (D.length < fuel →
      ∃ L : List Str, walkCollect fuel (vp fs id p) w = (.ok (okItemsOn fs id L), w) ∧
        L.Perm D ∧ L.Nodup ∧ (∀ k, k ∈ L ↔ (v k ≠ none ∧ below p k = true)) ∧
        L.Pairwise (fun a b => below b a = false)) ∧
    (fuel ≤ D.length → walkCollect fuel (vp fs id p) w = (.panic, w)) := by
  obtain ⟨h1, h2⟩ := WkG.collect_outcome_fixed (P := vp fs id p) tv hD hp hdir fuel
  refine ⟨fun hf => ?_, h2⟩
  obtain ⟨L, hrun, hL⟩ := h1 hf
  exact ⟨L, hrun, hL.perm_desc hD, hL.nodup, hL.mem, hL.order⟩

/-- walking the root `""` yields every present path but the root, each once, ancestors first -/
theorem walk_view_root_complete {fs : FS} {S : World → Prop} {v : Str → Option Entry}
    (tv : TreeViewOn fs S v) (id : Nat) {w : World} (hw : S w) {D : List Str}
    (hD : D.Nodup ∧ ∀ k, k ∈ D ↔ (v k ≠ none ∧ k ≠ [])) :
    ∃ (L : List Str) (w' : World), S w' ∧
      walkCollect (D.length + 1) (vp fs id []) w = (.ok (okItemsOn fs id L), w') ∧
      L.Perm D ∧ L.Nodup ∧
      (∀ a b (ha : a < L.length) (hb : b < L.length), below L[a] L[b] = true → a < b) := by
  obtain ⟨e, hp, hdir⟩ := tv.root
  have hD' : DescList v [] D := by
    obtain ⟨m, rfl, hwf, _⟩ := WkG.exists_map tv.finite tv.root tv.parent
    exact ⟨hD.1, fun k => (hD.2 k).trans
      (and_congr_right fun h1 => (below_root_iff hwf ((ne_none_iff _).1 h1)).symm)⟩
  obtain ⟨L, w', hS, hrun, hperm, hnd, _, hord⟩ :=
    (walk_view_spec tv id hw hp hdir hD' (D.length + 1)).1 (by omega)
  exact ⟨L, w', hS, hrun, hperm, hnd, fun a b ha hb => WkG.dirs_first_index hord a b ha hb⟩

/-- `walk_dir` on a path of `dom` that is absent / a file of the view: `walk_dir` itself fails
(not-found for an absent path), the path filled in, and there is no iterator -/
theorem walk_view_not_dir {fs : FS} {S : World → Prop} {v : Str → Option Entry}
    {dom : Str → Prop} (va : ViewAbsent fs S v dom) (id : Nat) {w : World} (hw : S w) {p : Str}
    (hdom : dom p) (fuel : Nat) :
    (v p = none → ∃ w', S w' ∧
      VPath.walkDir (vp fs id p) w = (.err .fileNotFound (some p), w') ∧
      walkCollect fuel (vp fs id p) w = (.err .fileNotFound (some p), w')) ∧
    (∀ e, v p = some e → e.ftype = .file → ∃ k w', S w' ∧
      VPath.walkDir (vp fs id p) w = (.err k (some p), w') ∧
      walkCollect fuel (vp fs id p) w = (.err k (some p), w')) := by
  constructor
  · intro hp
    obtain ⟨⟨pth, w', hrd, hS⟩, _⟩ := va.absent w hw p hdom hp
    have := WkG.collect_readDir_err fuel (vp fs id p) w w' .fileNotFound pth hrd
    exact ⟨w', hS, this.1, this.2⟩
  · intro e hp hf
    obtain ⟨k, pth, w', hrd, hS⟩ := va.file w hw p e hdom hp hf
    have := WkG.collect_readDir_err fuel (vp fs id p) w w' k pth hrd
    exact ⟨k, w', hS, this.1, this.2⟩

theorem treeViewOn_of_fixed {fs : FS} {S : World → Prop} {v : Str → Option Entry} (w0 : World)
    (hw0 : S w0) (h : ∀ w, S w → TreeView fs w v) : TreeViewOn fs S v where
  finite := (h w0 hw0).finite
  root := (h w0 hw0).root
  parent := (h w0 hw0).parent
  readDir := by
    intro w hw p e hp hd
    obtain ⟨names, w', h1, h2, h3⟩ := (h w hw).readDir w rfl p e hp hd
    cases h2
    exact ⟨names, w, h1, hw, h3⟩
  metadata := by
    intro w hw p e hp
    obtain ⟨md, w', h1, h2, h3⟩ := (h w hw).metadata w rfl p e hp
    cases h2
    exact ⟨md, w, h1, hw, h3⟩

/-! ### a wrapper that DOES change the world: the recording filesystem

`recordFS tag inner` appends one entry to the ghost log of the world on every trait call and then
forwards. If `inner` shows `v` on a set of worlds that does not look at the log, so does the
wrapper — with `S` unchanged. The walk through the wrapper therefore has the same specification,
while the world is NOT left unchanged (the log grows): this is what the parameter `S` is for. -/

theorem record_treeViewOn {fs : FS} {S : World → Prop} {v : Str → Option Entry} (tag : Nat)
    (tv : TreeViewOn fs S v)
    (hlog : ∀ w, S w → ∀ l, S { w with log := l }) : TreeViewOn (recordFS tag fs) S v where
  finite := tv.finite
  root := tv.root
  parent := tv.parent
  readDir := by
    intro w hw p e hp hd
    exact tv.readDir _ (hlog w hw _) p e hp hd
  metadata := by
    intro w hw p e hp
    exact tv.metadata _ (hlog w hw _) p e hp

section memory
variable {w : World} {i : Nat} {m : FMap} (h : MemLeafAt w i m) (hwf : WF m)
  (hk : FMap.NodupKeys m)
include h hwf hk

omit hwf hk in
theorem mem_viewAbsent :
    ViewAbsent (leafFS i) (fun w' => w' = w) m.find? (fun _ => True) where
  absent := by
    intro w' hw' p _ hp
    cases hw'
    obtain ⟨_, h2, h3, _⟩ := absent_all_fail m p hp
    exact ⟨⟨none, w, by rw [run_readDir h p, h3]; rfl, rfl⟩,
      ⟨none, w, by rw [run_metadata h p, h2]; rfl, rfl⟩⟩
  file := by
    intro w' hw' p e _ hp hf
    cases hw'
    refine ⟨.other, none, w, ?_, rfl⟩
    rw [run_readDir h p]
    simp [Mem.readDir, hp, hf, fail]

/-- the in-memory theorems `C05.walk_spec`, `C05.walk_panic_iff` (Props/C05Walk.lean) are the
generic ones at `mem_treeView` -/
theorem mem_walk_spec (id : Nat) (p : Str) (e : Entry) (hp : m.find? p = some e)
    (hdir : e.ftype = .dir) (fuel : Nat) (hf : descCount m p < fuel) :
    ∃ L : List Str, walkCollect fuel (mk i id p) w = (.ok (okItems i id L), w) ∧
      (∀ k, k ∈ L ↔ k ∈ m.keys ∧ below p k = true) ∧ L.Nodup ∧
      L.Pairwise (fun a b => below b a = false) :=
  walk_spec h hwf hk id p e hp hdir fuel hf

theorem mem_walk_panic_iff (id : Nat) (p : Str) (e : Entry) (hp : m.find? p = some e)
    (hdir : e.ftype = .dir) (fuel : Nat) :
    (walkCollect fuel (mk i id p) w).1 = .panic ↔ fuel ≤ descCount m p :=
  walk_panic_iff h hwf hk id p e hp hdir fuel

end memory

/-- MemoryFS shows the tree of its map in every world whose leaf `i` holds that map; a recording
wrapper around it does too, although every call changes the world (the ghost log) -/
theorem mem_treeViewOn (w0 : World) {i : Nat} {m : FMap} (h0 : MemLeafAt w0 i m) (hwf : WF m)
    (hk : FMap.NodupKeys m) : TreeViewOn (leafFS i) (fun w => MemLeafAt w i m) m.find? :=
  treeViewOn_of_fixed w0 h0 (fun _ hw => mem_treeView hw hwf hk)

theorem recorded_mem_treeViewOn (tag : Nat) (w0 : World) {i : Nat} {m : FMap}
    (h0 : MemLeafAt w0 i m) (hwf : WF m) (hk : FMap.NodupKeys m) :
    TreeViewOn (recordFS tag (leafFS i)) (fun w => MemLeafAt w i m) m.find? :=
  record_treeViewOn tag (mem_treeViewOn w0 h0 hwf hk) (fun _ hw _ => hw)

/-- walk_dir through a recording wrapper over MemoryFS: the same items as without the wrapper
(up to the filesystem the paths carry), in a world that still holds the map -/
theorem recorded_mem_walk_spec (tag : Nat) {w : World} {i : Nat} {m : FMap}
    (h : MemLeafAt w i m) (hwf : WF m) (hk : FMap.NodupKeys m) (id : Nat) (p : Str) (e : Entry)
    (hp : m.find? p = some e) (hdir : e.ftype = .dir) (fuel : Nat) :
    (descCount m p < fuel →
      ∃ (L : List Str) (w' : World), MemLeafAt w' i m ∧
        walkCollect fuel (vp (recordFS tag (leafFS i)) id p) w
          = (.ok (okItemsOn (recordFS tag (leafFS i)) id L), w') ∧
        L.Perm (m.keys.filter (below p)) ∧ L.Nodup ∧
        L.Pairwise (fun a b => below b a = false)) ∧
    (fuel ≤ descCount m p →
      ∃ w', MemLeafAt w' i m ∧
        walkCollect fuel (vp (recordFS tag (leafFS i)) id p) w = (.panic, w')) := by
  obtain ⟨h1, h2⟩ := walk_view_spec (recorded_mem_treeViewOn tag w h hwf hk) id
    (S := fun w => MemLeafAt w i m) h hp hdir (descList_of_map m hk p) fuel
  refine ⟨fun hf => ?_, h2⟩
  obtain ⟨L, w', a, b, c, d, _, e'⟩ := h1 hf
  exact ⟨L, w', a, b, c, d, e'⟩

/-! ### the overlay over n in-memory layers -/

section overlay
open Vfs.Overlay Vfs.C09 Vfs.C02 Vfs.C01

def ovisB (k : Str) : Bool :=
  decide (k = [] ∨ (OpPath (pathComps k) ∧ renderC (pathComps k) = k))

theorem ovis_of_check {k : Str} (h : ovisB k = true) : OVis k := by
  rcases of_decide_eq_true h with h | ⟨h1, h2⟩
  · exact Or.inl h
  · exact Or.inr ⟨_, h1, h2.symm⟩

/-- a decidable sufficient check that `D` enumerates the descendants of `p` in the overlay's
(cut-down) view: every member is visible, present and below `p`; every key of a layer map is a
member, or absent from the view, or not below `p`, or inside ".whiteout" -/
theorem descList_overlay_check {all : List FMap} {p : Str} {D : List Str} (hnd : D.Nodup)
    (h1 : ∀ k ∈ D, ovisB k = true ∧ oview all k ≠ none ∧ below p k = true)
    (h2 : ∀ k ∈ all.flatMap FMap.keys,
      k ∈ D ∨ oview all k = none ∨ below p k = false ∨ ¬ NR k) :
    DescList (ovisView all) p D := by
  refine ⟨hnd, fun k => ⟨fun hk => ?_, ?_⟩⟩
  · obtain ⟨a, b, c⟩ := h1 k hk
    exact ⟨ovisView_ne_none_iff.2 ⟨ovis_of_check a, b⟩, c⟩
  · rintro ⟨hpres, hb⟩
    obtain ⟨hvis, hov⟩ := ovisView_ne_none_iff.1 hpres
    have hne : k ≠ [] := by
      intro h0; subst h0
      have := below_length hb
      simp at this
    have hvn := hov
    rw [oview_ne hne] at hvn
    obtain ⟨m, hm, hkm⟩ := viewN_some_key hvn
    rcases h2 k (List.mem_flatMap.2 ⟨m, hm, hkm⟩) with h | h | h | h
    · exact h
    · exact absurd h hov
    · rw [hb] at h; cases h
    · exact absurd (hvis.nr hne) h

variable {w : World} {u idu : Nat} {mu : FMap} {is ids : List Nat} {ms : List FMap}
  (h : OWN w (u :: is) (idu :: ids) (mu :: ms)) (inv : OInv mu ms)
  (hv : ViewWF (oview (mu :: ms))) (hn : NamesOK (mu :: ms))

section owalk
variable (id : Nat) {cs : List Str} (hcs : RootOrOp cs) {e : Entry}
  (hp : oview (mu :: ms) (renderC cs) = some e) (hdir : e.ftype = .dir)
  {D : List Str} (hD : DescList (ovisView (mu :: ms)) (renderC cs) D)
include h inv hv hn hcs hp hdir hD

/-- **walk_dir through the overlay.** From the root or a disciplined directory `cs` of the view:
with more fuel than present (disciplined) proper descendants, the collected walk is an `.ok` list
of `.ok` items — exactly those descendants, each once, every directory before anything inside it
— the world unchanged, never `.panic`; with less fuel it is the out-of-fuel sentinel. -/
theorem overlay_walk_spec (fuel : Nat) :
    (D.length < fuel →
      ∃ L : List Str,
        walkCollect fuel (vp (Overlay.fs (layersN (u :: is) (idu :: ids))) id (renderC cs)) w
          = (.ok (okItemsOn (Overlay.fs (layersN (u :: is) (idu :: ids))) id L), w) ∧
        L.Perm D ∧ L.Nodup ∧
        (∀ k, k ∈ L ↔ ((OVis k ∧ oview (mu :: ms) k ≠ none) ∧ below (renderC cs) k = true)) ∧
        L.Pairwise (fun a b => below b a = false)) ∧
    (fuel ≤ D.length →
      walkCollect fuel (vp (Overlay.fs (layersN (u :: is) (idu :: ids))) id (renderC cs)) w
        = (.panic, w)) := by
  obtain ⟨h1, h2⟩ := walk_view_spec_fixed (overlay_treeView h inv hv hn) id
    ((ovisView_of_vis hcs.vis).trans hp) hdir hD fuel
  refine ⟨fun hf => ?_, h2⟩
  obtain ⟨L, a, b, c, d, e'⟩ := h1 hf
  exact ⟨L, a, b, c, fun k => by rw [d k, ovisView_ne_none_iff], e'⟩

theorem overlay_walk_result (fuel : Nat) (items : List (Res VPath)) (w' : World)
    (hrun : walkCollect fuel
      (vp (Overlay.fs (layersN (u :: is) (idu :: ids))) id (renderC cs)) w = (.ok items, w')) :
    w' = w ∧ ∃ L : List Str,
      items = okItemsOn (Overlay.fs (layersN (u :: is) (idu :: ids))) id L ∧
      L.Perm D ∧ L.Nodup ∧
      (∀ k, k ∈ L ↔ ((OVis k ∧ oview (mu :: ms) k ≠ none) ∧ below (renderC cs) k = true)) ∧
      L.Pairwise (fun a b => below b a = false) := by
  obtain ⟨hS, L, a, b, c, d, e'⟩ := walk_view_result (overlay_treeView h inv hv hn) id
    (S := fun w' => w' = w) rfl ((ovisView_of_vis hcs.vis).trans hp) hdir hD fuel items w'
    hrun
  exact ⟨hS, L, a, b, c, fun k => by rw [d k, ovisView_ne_none_iff], e'⟩

theorem overlay_walk_panic_iff (fuel : Nat) :
    (walkCollect fuel
      (vp (Overlay.fs (layersN (u :: is) (idu :: ids))) id (renderC cs)) w).1 = .panic
      ↔ fuel ≤ D.length := by
  exact walk_view_panic_iff (overlay_treeView h inv hv hn) id (S := fun w' => w' = w) rfl
    ((ovisView_of_vis hcs.vis).trans hp) hdir hD fuel

theorem overlay_walk_dir_before_content (fuel : Nat) (L : List Str) (w' : World)
    (hrun : walkCollect fuel
      (vp (Overlay.fs (layersN (u :: is) (idu :: ids))) id (renderC cs)) w
        = (.ok (okItemsOn (Overlay.fs (layersN (u :: is) (idu :: ids))) id L), w'))
    (k1 k2 : Str) (h2 : k2 ∈ L) (hp1 : below (renderC cs) k1 = true) (h12 : below k1 k2 = true) :
    (k1 ∈ L ∧ VIsDir (oview (mu :: ms)) k1) ∧ ∃ l1 l2 l3, L = l1 ++ k1 :: l2 ++ k2 :: l3 := by
  have tv := overlay_treeView h inv hv hn
  obtain ⟨_, L', hL, hW⟩ := walk_view_ok_inv tv id (S := fun w' => w' = w) rfl
    ((ovisView_of_vis hcs.vis).trans hp) hdir hD hrun
  obtain rfl := WkG.items_inj (P := vp _ id (renderC cs)) hL
  obtain ⟨a, e1, he1, hd1⟩ := hW.ancestor_listed tv h2 hp1 h12
  exact ⟨⟨a, e1, (ovisView_some he1).2, hd1⟩, hW.dir_before_content tv h2 hp1 h12⟩

end owalk

include h inv in
theorem overlay_walk_not_dir (id : Nat) {cs : List Str} (hcs : OpPath cs) (fuel : Nat) :
    (oview (mu :: ms) (renderC cs) = none →
      walkCollect fuel (vp (Overlay.fs (layersN (u :: is) (idu :: ids))) id (renderC cs)) w
        = (.err .fileNotFound (some (renderC cs)), w)) ∧
    (VIsFile (oview (mu :: ms)) (renderC cs) →
      ∃ k, walkCollect fuel (vp (Overlay.fs (layersN (u :: is) (idu :: ids))) id (renderC cs)) w
        = (.err k (some (renderC cs)), w)) := by
  have := walk_view_not_dir (overlay_viewAbsent h inv) id (S := fun w' => w' = w) (w := w) rfl
    (p := renderC cs) ⟨cs, hcs, rfl⟩ fuel
  have hvis : OVis (renderC cs) := Or.inr ⟨cs, hcs, rfl⟩
  constructor
  · intro h0
    obtain ⟨w', hS, _, h2⟩ := this.1 (by rw [ovisView_of_vis hvis]; exact h0)
    cases hS; exact h2
  · rintro ⟨e, he, hf⟩
    obtain ⟨k, w', hS, _, h2⟩ := this.2 e (by rw [ovisView_of_vis hvis]; exact he) hf
    cases hS; exact ⟨k, h2⟩

omit hv hn in
/-- **the hypotheses of the walk theorem hold in every reachable state**: `OWN`, `OInv`, `ViewWF`
(Props/C03Overlay.lean) and the name discipline `NamesOK` are kept by every finite history of
mutators on disciplined paths that respects the O3 discipline -/
theorem overlay_history_walkable (ops : List Mut) (hops : ∀ op ∈ ops, OpOK op)
    {w : World} {mu : FMap} {ms : List FMap}
    (h : OWN w (u :: is) (idu :: ids) (mu :: ms)) (inv : OInv mu ms)
    (hv : ViewWF (oview (mu :: ms))) (hn : NamesOK (mu :: ms))
    (hdisc : C03.ViewO3Free (Overlay.fs (layersN (u :: is) (idu :: ids))) (u :: is) ops w) :
    ∃ mu' ms',
      OWN (runOverlay (Overlay.fs (layersN (u :: is) (idu :: ids))) ops w).2
        (u :: is) (idu :: ids) (mu' :: ms') ∧
      OInv mu' ms' ∧ ViewWF (oview (mu' :: ms')) ∧ NamesOK (mu' :: ms') := by
  obtain ⟨mu', ms', st', _, hn', _⟩ := C11.OSt.history namesOK_step ops hops ⟨h, inv, hv⟩ hn hdisc
  exact ⟨mu', ms', st'.own, st'.inv, st'.vwf, hn'⟩

omit h inv hv hn in
/-- **walk_dir through the overlay in every reachable state.** Well-formed type-consistent layers
without markers whose keys are disciplined names (`namesCheck`); any finite history of
disciplined mutators (O3 discipline for `remove_file`). In the final world the overlay shows a
tree, and from the root and from every disciplined directory of the final view the collected
walk yields exactly the present descendants, each once, directories first, world unchanged, with
the exact fuel bound. -/
theorem overlay_walk_history (ops : List Mut) (hops : ∀ op ∈ ops, OpOK op)
    {w : World} {mu : FMap} {ms : List FMap}
    (h : OWN w (u :: is) (idu :: ids) (mu :: ms)) (hwf : ∀ m ∈ mu :: ms, WF m)
    (hnw : NoWhiteout mu) (htc : TypeConsistent (mu :: ms)) (hnames : NamesOK (mu :: ms))
    (hdisc : C03.ViewO3Free (Overlay.fs (layersN (u :: is) (idu :: ids))) (u :: is) ops w) :
    ∃ mu' ms',
      OWN (runOverlay (Overlay.fs (layersN (u :: is) (idu :: ids))) ops w).2
        (u :: is) (idu :: ids) (mu' :: ms') ∧
      TreeView (Overlay.fs (layersN (u :: is) (idu :: ids)))
        (runOverlay (Overlay.fs (layersN (u :: is) (idu :: ids))) ops w).2
        (ovisView (mu' :: ms')) ∧
      ∀ (id : Nat) (cs : List Str), RootOrOp cs → ∀ e,
        oview (mu' :: ms') (renderC cs) = some e → e.ftype = .dir →
        ∀ D, DescList (ovisView (mu' :: ms')) (renderC cs) D → ∀ fuel,
        (D.length < fuel →
          ∃ L : List Str,
            walkCollect fuel (vp (Overlay.fs (layersN (u :: is) (idu :: ids))) id (renderC cs))
              (runOverlay (Overlay.fs (layersN (u :: is) (idu :: ids))) ops w).2
              = (.ok (okItemsOn (Overlay.fs (layersN (u :: is) (idu :: ids))) id L),
                  (runOverlay (Overlay.fs (layersN (u :: is) (idu :: ids))) ops w).2) ∧
            L.Perm D ∧ L.Nodup ∧ L.Pairwise (fun a b => below b a = false)) ∧
        (fuel ≤ D.length →
          walkCollect fuel (vp (Overlay.fs (layersN (u :: is) (idu :: ids))) id (renderC cs))
            (runOverlay (Overlay.fs (layersN (u :: is) (idu :: ids))) ops w).2
            = (.panic, (runOverlay (Overlay.fs (layersN (u :: is) (idu :: ids))) ops w).2)) := by
  obtain ⟨mu', ms', hown, inv', hv', hn'⟩ :=
    overlay_history_walkable ops hops h (OInv.initial hwf hnw) (ViewWF.initial hwf hnw htc) hnames
      hdisc
  refine ⟨mu', ms', hown, overlay_treeView hown inv' hv' hn', ?_⟩
  intro id cs hcs e hp hdir D hD fuel
  obtain ⟨h1, h2⟩ := overlay_walk_spec hown inv' hv' hn' id hcs hp hdir hD fuel
  refine ⟨fun hf => ?_, h2⟩
  obtain ⟨L, a, b, c, _, e'⟩ := h1 hf
  exact ⟨L, a, b, c, e'⟩

end overlay

/-! ### the altroot over a directory of an in-memory leaf -/

section altroot
variable {w : World} {i : Nat} {P : Str} {m : FMap} (h : MemLeafAt w i m)
  (hinv : Inv0 (sub P m)) (hanc : AncOK P m) (hP : Canon P) (hwf : WF (sub P m))
  (hk : FMap.NodupKeys (sub P m)) (id : Nat)
include h hinv hanc hP hwf hk

/-- **the altroot shows the subtree**: the observers of the altroot rooted at the directory `P`
of a memory leaf are those of the sub-map `sub P m` (keys at or below `P`, `P` stripped) -/
theorem altroot_treeView :
    TreeView (Altroot.fs { fs := leafFS i, fsId := id, path := P }) w (sub P m).find? := by
  refine treeView_of_map hwf hk ?_ ?_
  · intro p e hp hd
    have hq : Canon p := hinv.2 p ((FMap.mem_keys_iff _ p).2 ⟨e, hp⟩)
    obtain ⟨hrel, hw⟩ := C07.altroot_view_readDir h hinv hanc hP id hq
    have hm : Mem.readDir (sub P m) p = .ok ((sub P m).keys.filterMap (childName p)) := by
      simp [Mem.readDir, hp, hd]
    rw [hm] at hrel
    rcases hr : (Altroot.fs { fs := leafFS i, fsId := id, path := P }).readDir p w with ⟨r, w1⟩
    rw [hr] at hrel hw
    simp only at hrel hw
    subst hw
    cases hrel with
    | ok hq' => rw [hq'.1]
  · intro p e hp
    have hq : Canon p := hinv.2 p ((FMap.mem_keys_iff _ p).2 ⟨e, hp⟩)
    refine ⟨e.meta, ?_, rfl⟩
    rw [C07.altroot_view_metadata h hinv hP id hq, metadata_reports _ p e hp]
    rfl

/-- **walk_dir through the altroot**: from a directory `p` of the subtree, exactly the keys of
the sub-map strictly below `p`, each once, directories first, world unchanged; exact fuel bound -/
theorem altroot_walk_spec (id' : Nat) {p : Str} {e : Entry} (hp : (sub P m).find? p = some e)
    (hdir : e.ftype = .dir) (fuel : Nat) :
    (descCount (sub P m) p < fuel →
      ∃ L : List Str,
        walkCollect fuel (vp (Altroot.fs { fs := leafFS i, fsId := id, path := P }) id' p) w
          = (.ok (okItemsOn (Altroot.fs { fs := leafFS i, fsId := id, path := P }) id' L), w) ∧
        L.Perm ((sub P m).keys.filter (below p)) ∧ L.Nodup ∧
        (∀ k, k ∈ L ↔ (k ∈ (sub P m).keys ∧ below p k = true)) ∧
        L.Pairwise (fun a b => below b a = false)) ∧
    (fuel ≤ descCount (sub P m) p →
      walkCollect fuel (vp (Altroot.fs { fs := leafFS i, fsId := id, path := P }) id' p) w
        = (.panic, w)) := by
  obtain ⟨h1, h2⟩ := walk_view_spec_fixed (altroot_treeView h hinv hanc hP hwf hk id) id' hp hdir
    (descList_of_map (sub P m) hk p) fuel
  refine ⟨fun hf => ?_, h2⟩
  obtain ⟨L, a, b, c, d, e'⟩ := h1 hf
  exact ⟨L, a, b, c, fun k => by rw [d k, FMap.mem_keys_iff, ne_none_iff], e'⟩

end altroot

/-- the same with the hypotheses on the LEAF map: `WF m`, unique keys, `P` a directory of `m`
whose subtree has canonical keys (`Inv0 (sub P m)`), ancestors of `P` directories -/
theorem altroot_walk_spec_leaf {w : World} {i : Nat} {P : Str} {m : FMap} (h : MemLeafAt w i m)
    (hinv : Inv0 (sub P m)) (hanc : AncOK P m) (hP : Canon P) (hwf : WF m)
    (hk : FMap.NodupKeys m) (id id' : Nat) {p : Str} {e : Entry}
    (hp : (sub P m).find? p = some e) (hdir : e.ftype = .dir) (fuel : Nat) :
    (descCount (sub P m) p < fuel →
      ∃ L : List Str,
        walkCollect fuel (vp (Altroot.fs { fs := leafFS i, fsId := id, path := P }) id' p) w
          = (.ok (okItemsOn (Altroot.fs { fs := leafFS i, fsId := id, path := P }) id' L), w) ∧
        L.Perm ((sub P m).keys.filter (below p)) ∧ L.Nodup ∧
        (∀ k, k ∈ L ↔ (k ∈ (sub P m).keys ∧ below p k = true)) ∧
        L.Pairwise (fun a b => below b a = false)) ∧
    (fuel ≤ descCount (sub P m) p →
      walkCollect fuel (vp (Altroot.fs { fs := leafFS i, fsId := id, path := P }) id' p) w
        = (.panic, w)) :=
  altroot_walk_spec h hinv hanc hP (wf_sub hwf hinv) (nodupKeys_sub P hk) id id' hp hdir fuel

/-! ### the scenario: the 3-layer world of Props/C09Refine.lean (section example3)

upper (leaf 2): "/top"; layer 1 (leaf 0): "/d", "/d/x", "/d/b"; layer 2 (leaf 1): "/d", "/d/x",
"/d/c", "/e", "/e/z". Walked through the overlay from "" and from "/d", before and after the
12-call history `xOps` (which leaves markers and a ".whiteout" tree in the upper layer). -/

section example3
open Vfs.Overlay Vfs.C09 Vfs.C02 Vfs.C01
open Vfs.C10 (mapsOfN)

theorem xw_names : NamesOK [xU, xA, xB] := namesOK_of_keys (by decide +kernel)

/-- the present proper descendants of the root / of "/d" in the initial view -/
def xDroot : List Str :=
  ["/top".toList, "/d".toList, "/e".toList, "/e/z".toList, "/d/x".toList, "/d/b".toList,
   "/d/c".toList]
def xDd : List Str := ["/d/x".toList, "/d/b".toList, "/d/c".toList]

theorem xDroot_desc : DescList (ovisView [xU, xA, xB]) [] xDroot :=
  descList_overlay_check (by decide) (by decide +kernel) (by decide +kernel)
theorem xDd_desc : DescList (ovisView [xU, xA, xB]) "/d".toList xDd :=
  descList_overlay_check (by decide) (by decide +kernel) (by decide +kernel)

/-- the walk from the root as the model computes it (7 items; fuel 8 suffices, fuel 7 does not) -/
example : pathsOf (walkCollect 8 (vp xfs 0 []) xw) =
    .ok [.ok "/top".toList, .ok "/d".toList, .ok "/e".toList, .ok "/e/z".toList,
         .ok "/d/x".toList, .ok "/d/b".toList, .ok "/d/c".toList] := by decide +kernel
example : pathsOf (walkCollect 7 (vp xfs 0 []) xw) = .panic := by decide +kernel
/-- … and from "/d" ("/d/x" of layers 1 and 2 once) -/
example : pathsOf (walkCollect 4 (vp xfs 0 "/d".toList) xw) =
    .ok [.ok "/d/x".toList, .ok "/d/b".toList, .ok "/d/c".toList] := by decide +kernel
example : pathsOf (walkCollect 3 (vp xfs 0 "/d".toList) xw) = .panic := by decide +kernel

/-- item multiset and dirs-first order of the computed lists, checked directly -/
example :
    ["/top".toList, "/d".toList, "/e".toList, "/e/z".toList, "/d/x".toList, "/d/b".toList,
      "/d/c".toList].Perm xDroot ∧
    (["/top".toList, "/d".toList, "/e".toList, "/e/z".toList, "/d/x".toList, "/d/b".toList,
      "/d/c".toList] : List Str).Pairwise (fun a b => below b a = false) := by decide +kernel

example : (["/d/x".toList, "/d/b".toList, "/d/c".toList] : List Str).Perm xDd ∧
    (["/d/x".toList, "/d/b".toList, "/d/c".toList] : List Str).Pairwise
      (fun a b => below b a = false) := by decide

example := overlay_walk_spec xw_setting xw_inv xw_viewWF xw_names 0 (cs := []) (Or.inl rfl)
  (e := dirEntryNow) (by decide) rfl xDroot_desc 8
example := overlay_walk_spec xw_setting xw_inv xw_viewWF xw_names 0 (cs := ["d".toList])
  (Or.inr (by decide)) (e := dirEntryNow) (by decide) rfl xDd_desc 4
example := overlay_walk_panic_iff xw_setting xw_inv xw_viewWF xw_names 0 (cs := ["d".toList])
  (Or.inr (by decide)) (e := dirEntryNow) (by decide) rfl xDd_desc 3
example := overlay_walk_not_dir xw_setting xw_inv 0 (cs := ["d".toList, "x".toList]) (by decide) 5
example := overlay_treeView xw_setting xw_inv xw_viewWF xw_names

/-- theorem and evaluation agree: the theorem's list for fuel 8 is the evaluated one -/
example : ∃ L : List Str, walkCollect 8 (vp xfs 0 []) xw = (.ok (okItemsOn xfs 0 L), xw) ∧
    L.Perm xDroot ∧ L.Pairwise (fun a b => below b a = false) := by
  obtain ⟨L, a, b, _, _, e⟩ := (overlay_walk_spec xw_setting xw_inv xw_viewWF xw_names 0 (cs := [])
    (Or.inl rfl) (e := dirEntryNow) (by decide) rfl xDroot_desc 8).1 (by decide)
  exact ⟨L, a, b, e⟩

/-! after the 12-call history: "/d/new", "/d/new/f" created, "/d/b" removed and re-created,
"/e/z" removed (marker "/.whiteout/e/z_wo"), "/e" removed and re-created -/

def xw2 : World := (runOverlay xfs xOps xw).2

theorem xw2_setting : ∃ mu' ms', mu' :: ms' = mapsOfN xw2 [2, 0, 1] ∧
    OWN xw2 [2, 0, 1] [7, 8, 9] (mu' :: ms') ∧ OInv mu' ms' ∧ ViewWF (oview (mu' :: ms')) := by
  -- `xw2` is unfolded by its equation: left to the kernel's unifier it would run the history
  rw [xw2]
  obtain ⟨mu', ms', hown, _, inv', hv', _⟩ := x_refines
  exact ⟨mu', ms', (C03.mapsOfN_of_OWN hown).symm, hown, inv', hv'⟩

theorem xw2_is : xw2 = xwEnd := by rw [xw2, x_run]

theorem xw2_names : NamesOK (mapsOfN xw2 [2, 0, 1]) := by
  rw [xw2_is]
  exact namesOK_of_keys (by decide +kernel)

def xDroot2 : List Str :=
  ["/e".toList, "/d".toList, "/top".toList, "/d/b".toList, "/d/c".toList, "/d/new".toList,
   "/d/x".toList, "/d/new/f".toList]

theorem xDroot2_desc : DescList (ovisView (mapsOfN xw2 [2, 0, 1])) [] xDroot2 := by
  rw [xw2_is]
  exact descList_overlay_check (by decide) (by decide +kernel) (by decide +kernel)

/-- the walk from the root after the history, as the model computes it: nothing of ".whiteout",
"/e" empty (its lower-layer child "/e/z" is marked) -/
example : pathsOf (walkCollect 9 (vp xfs 0 []) xw2) =
    .ok [.ok "/e".toList, .ok "/d".toList, .ok "/top".toList, .ok "/d/b".toList,
         .ok "/d/c".toList, .ok "/d/new".toList, .ok "/d/x".toList, .ok "/d/new/f".toList] := by
  rw [xw2_is]
  decide +kernel
example : pathsOf (walkCollect 8 (vp xfs 0 []) xw2) = .panic := by
  rw [xw2_is]
  decide +kernel

example : ∃ L : List Str, walkCollect 9 (vp xfs 0 []) xw2 = (.ok (okItemsOn xfs 0 L), xw2) ∧
    L.Perm xDroot2 ∧ L.Nodup ∧ L.Pairwise (fun a b => below b a = false) := by
  obtain ⟨mu', ms', hmaps, hown, inv', hv'⟩ := xw2_setting
  have hn : NamesOK (mu' :: ms') := by rw [hmaps]; exact xw2_names
  have hD : DescList (ovisView (mu' :: ms')) (renderC []) xDroot2 := by
    rw [hmaps]; exact xDroot2_desc
  have hroot := rootIsDir (ms := ms') inv'.root
  obtain ⟨e, he, hd⟩ := hroot
  obtain ⟨L, a, b, c, _, e'⟩ := (overlay_walk_spec hown inv' hv' hn 0 (cs := []) (Or.inl rfl) he hd
    hD 9).1 (by decide)
  exact ⟨L, a, b, c, e'⟩

example := overlay_walk_history xOps xOps_ok xw_setting xw_wf
  (noWhiteout_of_keys (by decide +kernel)) (typeConsistent_of_keys (by decide +kernel)) xw_names
  C03.xOps_viewO3

end example3

/-! the in-memory sample of Props/C05Walk.lean through the generic theorem, and an altroot on it -/

example := mem_walk_spec sampleW_leaf sampleW_wf sampleW_nodup 0 "/a".toList dirEntryNow
  (by decide +kernel) rfl 7 (by decide +kernel)
example := mem_treeView sampleW_leaf sampleW_wf sampleW_nodup

section examplealt
open Vfs.C07

/-- the altroot at "/r" of the world of Props/C07Subtree.lean shows a tree -/
example := altroot_treeView (w := xW1) (i := 0) (P := xP) (m := xM) rfl xInv xAnc xP_canon
  (WF.of_check _ (by decide +kernel)) (by decide +kernel) 7

/-! the altroot at "/a" of the in-memory sample of Props/C05Walk.lean (siblings "/ab", "/a.b"
stay outside): its subtree walked from its root "" -/

def aP : Str := "/a".toList
def aRoot : VPath := { fs := leafFS 0, fsId := 3, path := aP }

theorem aP_canon : Canon aP := ⟨["a".toList], by decide, by decide⟩
theorem aInv : Inv0 (sub aP sampleW) := .of_check (by decide +kernel)
theorem aAnc : AncOK aP sampleW :=
  ancOK_one "a".toList (by decide) sampleW dirEntryNow (by decide +kernel) rfl

example : (sub aP sampleW).keys =
    ["/x/y/z".toList, "/x".toList, [], "/f".toList, "/x/y".toList, "/x/y/w".toList, "/e".toList] := by
  decide +kernel

/-- the walk of the altroot's root as the model computes it: six items, "/x/y" after "/x" and
before its contents; fuel 7 suffices, fuel 6 does not -/
example : pathsOf (walkCollect 7 (vp (Altroot.fs aRoot) 0 []) worldW) =
    .ok [.ok "/x".toList, .ok "/f".toList, .ok "/e".toList, .ok "/x/y".toList,
         .ok "/x/y/z".toList, .ok "/x/y/w".toList] := by decide +kernel
example : pathsOf (walkCollect 6 (vp (Altroot.fs aRoot) 0 []) worldW) = .panic := by decide +kernel
example : descCount (sub aP sampleW) [] = 6 := by decide +kernel

example : ∃ L : List Str,
    walkCollect 7 (vp (Altroot.fs aRoot) 0 []) worldW = (.ok (okItemsOn (Altroot.fs aRoot) 0 L), worldW) ∧
    L.Perm ((sub aP sampleW).keys.filter (below [])) ∧ L.Nodup ∧
    L.Pairwise (fun a b => below b a = false) := by
  obtain ⟨L, a, b, c, _, e⟩ := (altroot_walk_spec_leaf sampleW_leaf aInv aAnc aP_canon sampleW_wf
    sampleW_nodup 3 0 (p := []) (e := dirEntryNow) (by decide +kernel) rfl 7).1 (by decide +kernel)
  exact ⟨L, a, b, c, e⟩

end examplealt

/-! a recording wrapper around the in-memory sample: the same items, the world changed (11 calls
logged: 5 `read_dir`, 6 `metadata`), still holding the map -/

example : pathsOf (walkCollect 7 (vp (recordFS 5 (leafFS 0)) 0 "/a".toList) worldW) =
    .ok [.ok "/a/x".toList, .ok "/a/f".toList, .ok "/a/e".toList, .ok "/a/x/y".toList,
         .ok "/a/x/y/z".toList, .ok "/a/x/y/w".toList] := by decide +kernel
example : (walkCollect 7 (vp (recordFS 5 (leafFS 0)) 0 "/a".toList) worldW).2.log.length = 11 := by
  decide +kernel
example := recorded_mem_walk_spec 5 sampleW_leaf sampleW_wf sampleW_nodup 0 "/a".toList dirEntryNow
  (by decide) rfl 7

end Vfs.C05

section audit
open Vfs.C05
#print axioms walk_view_spec
#print axioms walk_view_panic_iff
#print axioms walk_view_result
#print axioms walk_view_complete_nodup
#print axioms walk_view_dirs_first
#print axioms walk_view_dir_before_content
#print axioms walk_view_root_complete
#print axioms walk_view_not_dir
#print axioms mem_treeView
#print axioms mem_walk_spec
#print axioms overlay_treeView
#print axioms overlay_walk_spec
#print axioms overlay_walk_result
#print axioms overlay_walk_dir_before_content
#print axioms overlay_walk_not_dir
#print axioms altroot_treeView
#print axioms altroot_walk_spec
#print axioms xDroot2_desc
end audit

section audit2
open Vfs.C05
#print axioms overlay_history_walkable
#print axioms overlay_walk_history
#print axioms namesOK_step
#print axioms recorded_mem_walk_spec
#print axioms altroot_walk_spec_leaf
#print axioms treeViewOn_of_fixed
end audit2
