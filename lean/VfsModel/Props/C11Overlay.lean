/-
  C11 THROUGH AN OVERLAY — the composite `VfsPath` operations (src/path.rs) on an overlay over
  n ≥ 1 in-memory layers are exact relative to the overlay's view `oview`.

  Setting (as in Props/C09Contract.lean / Props/C01Overlay.lean): `h : OWN w (u :: is) (idu :: ids)
  (mu :: ms)` (pairwise distinct memory leaves whose roots are the layers; `mu` upper map, `ms`
  lower maps), `inv : OInv mu ms`, `hv : ViewWF (oview (mu :: ms))` — invariants of every
  disciplined history. Paths: `OpPath cs` (canonical, non-root, first component ≠ ".whiteout", no
  component ending in "_wo"). The calls are the USER-LEVEL ones of VfsModel/PathOps.lean on
  `⟨Overlay.fs (layersN …), id, renderC cs⟩`, any `id`. Entries are compared by `vcore` (type,
  bytes of a file); "visible" = `Vis` (root and every absolute path outside ".whiteout").
  "Lower layers unchanged" = the resulting world is `w.setLeafFiles u mu'` and is again in the
  setting with the SAME `ms`; where a file is READ (copy_file, move_file) the serving layer gets
  an access stamp, and the statement is `LowerSame ms ms'` (same maps up to access times).

  1. `overlay_createDirAll_exact`, `overlay_createDirAll_file_prefix` (the error is labelled with
     THAT PREFIX; the view is unchanged — `VSame`; the upper map may have materialised lower
     directories, which `vcore` does not see), `overlay_createDirAll_existing`.
  2. `overlay_removeDirAll_exact`: `cs` a directory of the view, name discipline `NamesOK`
     (Proofs/OverlayTreeView.lean: every present bare name below a disciplined path is a canonical
     component not ending in "_wo" — what `read_dir` lists must be a legal operand), fuel above
     the depth of the subtree (`FuelOK`: every present disciplined `cs ++ ts` has `|ts| < fuel`;
     `fuelOK_of_keys` is a decidable sufficient check) ⇒ Ok; `cs` and EVERY disciplined path at or
     below it (`InSub cs`; `inSub_iff`: = `OVis q ∧ within (renderC cs) q`) is absent afterwards;
     every other visible path keeps its `vcore`; only the upper leaf changed; all invariants
     (`NamesOK` included) hold again. NO O3 hypothesis is needed: the recursion asks `metadata`
     first and calls `remove_file` only on files of the view, `remove_dir_all` on directories —
     this is proved, not assumed (Proofs/OverlayRemoveAll.lean).
     `overlay_removeDirAll_absent`; `overlay_removeDirAll_file` (`Other` from `read_dir`).
  3. `overlay_copyFile_exact` / `overlay_moveFile_exact` WITHIN one overlay (any two `Arc`
     identities: the overlay's own `copy_file` / `move_file` answer NotSupported, so the generic
     route open_file → create_file → write → [remove_file] → drop runs).
     `overlay_transfer_refused`, `overlay_transfer_missing_source`: both fail, labelled with the
     source path, the WORLD is unchanged.
  `copy_dir` / `move_dir` of a flat directory: Props/C11OverlayDir.lean.

  NOT PROVED: the root as operand of `remove_dir_all` (its final `remove_dir("")` is outside the
  path discipline); undisciplined strings below `cs` (they are never listed, never operated on
  and are covered by the FRAME clause: they keep their `vcore`); a missing destination parent for
  copy_file / move_file (it fails in `get_parent`; not stated here); `copy_file` / `move_file`
  between an overlay and another filesystem; layers that are not roots of memory leaves.
-/
import VfsModel.Proofs.OverlayRemoveAll
import VfsModel.Proofs.OverlayCreateAll
import VfsModel.Proofs.OverlayTransfer
import VfsModel.Proofs.RunEq
import VfsModel.Props.C05WalkView
set_option linter.unusedSimpArgs false
set_option linter.unusedVariables false
set_option linter.unusedSectionVars false
namespace Vfs.C11
open Vfs Vfs.Overlay Vfs.C02 Vfs.C01 Vfs.C09 Vfs.C05 Vfs.Wk

theorem noFilePrefix_of_check {v : View} {cs : List Str}
    (h : ∀ k ∈ List.range cs.length, ¬ VIsFile v (renderC (cs.take (k + 1)))) :
    ∀ j, 1 ≤ j → j ≤ cs.length → ¬ VIsFile v (renderC (cs.take j)) := by
  intro j h1 h2
  obtain ⟨k, rfl⟩ : ∃ k, j = k + 1 := ⟨j - 1, by omega⟩
  exact h k (List.mem_range.2 (by omega))

section createAll
variable {w : World} {u idu : Nat} {mu : FMap} {is ids : List Nat} {ms : List FMap}
  (h : OWN w (u :: is) (idu :: ids) (mu :: ms)) (inv : OInv mu ms)
  (hv : ViewWF (oview (mu :: ms))) (id : Nat)
include h inv hv

/-- **create_dir_all through the overlay, no prefix a file of the view**: Ok; every prefix is a
directory of the view afterwards; every visible path that is not a prefix, and every visible path
that was present, keeps its type and bytes; only the upper leaf changed; invariants again. -/
theorem overlay_createDirAll_exact {cs : List Str} (hp : OpPath cs)
    (hnf : ∀ j, 1 ≤ j → j ≤ cs.length → ¬ VIsFile (oview (mu :: ms)) (renderC (cs.take j))) :
    ∃ mu', VPath.createDirAll ⟨Overlay.fs (layersN (u :: is) (idu :: ids)), id, renderC cs⟩ w
        = (.ok (), w.setLeafFiles u mu') ∧
      OWN (w.setLeafFiles u mu') (u :: is) (idu :: ids) (mu' :: ms) ∧ OInv mu' ms ∧
      ViewWF (oview (mu' :: ms)) ∧ (NamesOK (mu :: ms) → NamesOK (mu' :: ms)) ∧
      (∀ j, 1 ≤ j → j ≤ cs.length → VIsDir (oview (mu' :: ms)) (renderC (cs.take j))) ∧
      (∀ q, Vis q → (∀ j, 1 ≤ j → j ≤ cs.length → q ≠ renderC (cs.take j)) →
        (oview (mu' :: ms) q).map vcore = (oview (mu :: ms) q).map vcore) ∧
      (∀ q, Vis q → oview (mu :: ms) q ≠ none →
        (oview (mu' :: ms) q).map vcore = (oview (mu :: ms) q).map vcore) := by
  have st : OSt u idu is ids ms w mu := ⟨h, inv, hv⟩
  obtain ⟨mu', hrun, st', hn', hM⟩ := cda_loop
    (⟨Overlay.fs (layersN (u :: is) (idu :: ids)), id, renderC cs⟩ : VPath) rfl cs [] w mu st
    (rootIsDir inv.root) (fun _ => hp) hnf
  unfold Made at hM
  simp only [List.nil_append] at hM
  refine ⟨mu', ?_, st'.own, st'.inv, st'.vwf, hn', hM.1, hM.2, ?_⟩
  · rw [VPath.createDirAll_canon _ hp.good rfl]
    exact hrun
  · intro q hq hpres
    open Classical in
    by_cases hpre : ∃ j, 1 ≤ j ∧ j ≤ cs.length ∧ q = renderC (cs.take j)
    · obtain ⟨j, h1, h2, rfl⟩ := hpre
      obtain ⟨e, he⟩ := (C05.ne_none_iff _).1 hpres
      have hdir : e.ftype = .dir := by
        cases hft : e.ftype with
        | dir => rfl
        | file => exact absurd ⟨e, he, hft⟩ (hnf j h1 h2)
      obtain ⟨e', he', hdir'⟩ := hM.1 j h1 h2
      rw [he, he']
      simp only [Option.map_some, vcore_dir hdir, vcore_dir hdir']
    · exact hM.2 q hq (fun j h1 h2 h0 => hpre ⟨j, h1, h2, h0⟩)

/-- **create_dir_all below a FILE of the view**: `FileExists` labelled with the file prefix; the
prefixes before it were directories of the view already, nothing visible changes (`VSame`);
invariants again. -/
theorem overlay_createDirAll_file_prefix (a b : List Str) (c : Str) (hp : OpPath (a ++ c :: b))
    (hf : VIsFile (oview (mu :: ms)) (renderC (a ++ [c]))) :
    ∃ mu', VPath.createDirAll
        ⟨Overlay.fs (layersN (u :: is) (idu :: ids)), id, renderC (a ++ c :: b)⟩ w
        = (.err .fileExists (some (renderC (a ++ [c]))), w.setLeafFiles u mu') ∧
      OWN (w.setLeafFiles u mu') (u :: is) (idu :: ids) (mu' :: ms) ∧ OInv mu' ms ∧
      ViewWF (oview (mu' :: ms)) ∧ (NamesOK (mu :: ms) → NamesOK (mu' :: ms)) ∧
      VSame (oview (mu :: ms)) (oview (mu' :: ms)) ∧
      (∀ j, 1 ≤ j → j ≤ a.length → VIsDir (oview (mu :: ms)) (renderC (a.take j))) := by
  have st : OSt u idu is ids ms w mu := ⟨h, inv, hv⟩
  obtain ⟨mu', hrun, st', hn', hs⟩ := cdf_loop
    (⟨Overlay.fs (layersN (u :: is) (idu :: ids)), id, renderC (a ++ c :: b)⟩ : VPath) rfl c b a []
    w mu st (rootIsDir inv.root) (by simpa using hp) (by simpa using hf)
  simp only [List.nil_append] at hrun
  refine ⟨mu', ?_, st'.own, st'.inv, st'.vwf, hn', hs, ?_⟩
  · rw [VPath.createDirAll_canon _ hp.good rfl]
    exact hrun
  · intro j h1 h2
    have hne : a.take j ≠ [] := by
      intro h0
      have := congrArg List.length h0
      rw [List.length_take, List.length_nil] at this; omega
    have hpf : OpPath (a ++ [c]) := by
      have : OpPath ((a ++ [c]) ++ b) := by rw [← List.append_cons]; exact hp
      exact this.prefix (by simp)
    have hsplit : a ++ [c] = a.take j ++ (a.drop j ++ [c]) := by
      rw [← List.append_assoc, List.take_append_drop]
    exact present_below_dir hv hne (a.drop j ++ [c]) (by simp) (by rw [← hsplit]; exact hpf)
      (by rw [← hsplit]; exact not_absent_of_file hf)

theorem overlay_createDirAll_existing {cs : List Str} (hp : OpPath cs)
    (hall : ∀ j, 1 ≤ j → j ≤ cs.length → VIsDir (oview (mu :: ms)) (renderC (cs.take j))) :
    ∃ mu', VPath.createDirAll ⟨Overlay.fs (layersN (u :: is) (idu :: ids)), id, renderC cs⟩ w
        = (.ok (), w.setLeafFiles u mu') ∧
      OWN (w.setLeafFiles u mu') (u :: is) (idu :: ids) (mu' :: ms) ∧ OInv mu' ms ∧
      ViewWF (oview (mu' :: ms)) ∧ VSame (oview (mu :: ms)) (oview (mu' :: ms)) := by
  obtain ⟨mu', hrun, a, b, c, _, _, hfr, hold⟩ := overlay_createDirAll_exact h inv hv id hp
    (fun j h1 h2 hf => not_file_and_dir hf (hall j h1 h2))
  refine ⟨mu', hrun, a, b, c, fun q hq => ?_⟩
  cases hvq : oview (mu :: ms) q with
  | some e => rw [← hvq]; exact hold q hq (by rw [hvq]; simp)
  | none =>
    rw [← hvq]
    exact hfr q hq (fun j h1 h2 h0 => not_absent_of_dir (hall j h1 h2) (by rw [← h0]; exact hvq))

end createAll

section removeAll
variable {w : World} {u idu : Nat} {mu : FMap} {is ids : List Nat} {ms : List FMap}
  (h : OWN w (u :: is) (idu :: ids) (mu :: ms)) (inv : OInv mu ms)
  (hv : ViewWF (oview (mu :: ms))) (id : Nat)
include h inv

omit inv in
theorem overlay_removeDirAll_absent {cs : List Str} (hp : OpPath cs)
    (ha : oview (mu :: ms) (renderC cs) = none) (fuel : Nat) :
    VPath.removeDirAll (fuel + 1)
      ⟨Overlay.fs (layersN (u :: is) (idu :: ids)), id, renderC cs⟩ w = (.ok (), w) := by
  have hex := h.vexists id hp
  rw [ha] at hex
  exact removeDirAll_absent' w fuel _ hex

theorem overlay_removeDirAll_file {cs : List Str} (hp : OpPath cs)
    (hf : VIsFile (oview (mu :: ms)) (renderC cs)) (fuel : Nat) :
    VPath.removeDirAll (fuel + 1)
      ⟨Overlay.fs (layersN (u :: is) (idu :: ids)), id, renderC cs⟩ w
      = (.err .other (some (renderC cs)), w) := by
  obtain ⟨e, he, hft⟩ := hf
  have hex := h.vexists id hp
  rw [he] at hex
  have hspec := overlay_readDir_spec h inv cs hp.good hp.nowo
  rw [he] at hspec
  simp only [hft, reduceCtorEq, if_false] at hspec
  exact removeDirAll_readDir_err w fuel
    ⟨Overlay.fs (layersN (u :: is) (idu :: ids)), id, renderC cs⟩ hex hspec

include hv in
/-- **remove_dir_all through the overlay removes exactly the subtree.** `cs` a directory of the
view, name discipline, fuel above the depth of the subtree: Ok; `cs` and every disciplined path
at or below it is absent from the view afterwards; every other visible path keeps its type and
bytes; only the upper leaf changed (the lower maps `ms` are the same); all invariants hold again. -/
theorem overlay_removeDirAll_exact (hn : NamesOK (mu :: ms)) (fuel : Nat) {cs : List Str}
    (hp : OpPath cs) (hd : VIsDir (oview (mu :: ms)) (renderC cs))
    (hfuel : FuelOK (oview (mu :: ms)) cs fuel) :
    ∃ mu', VPath.removeDirAll fuel
        ⟨Overlay.fs (layersN (u :: is) (idu :: ids)), id, renderC cs⟩ w
        = (.ok (), w.setLeafFiles u mu') ∧
      OWN (w.setLeafFiles u mu') (u :: is) (idu :: ids) (mu' :: ms) ∧ OInv mu' ms ∧
      ViewWF (oview (mu' :: ms)) ∧ NamesOK (mu' :: ms) ∧
      (∀ q, InSub cs q → oview (mu' :: ms) q = none) ∧
      (∀ q, Vis q → ¬ InSub cs q →
        (oview (mu' :: ms) q).map vcore = (oview (mu :: ms) q).map vcore) := by
  obtain ⟨mu', hrun, st', hn', hG⟩ := rda_all (id := id) fuel w mu cs ⟨h, inv, hv⟩ hn hp hd hfuel
  exact ⟨mu', hrun, st'.own, st'.inv, st'.vwf, hn', hG.1, hG.2⟩

include hv in
theorem overlay_removeDirAll_exact_str (hn : NamesOK (mu :: ms)) (fuel : Nat) {cs : List Str}
    (hp : OpPath cs) (hd : VIsDir (oview (mu :: ms)) (renderC cs))
    (hfuel : FuelOK (oview (mu :: ms)) cs fuel) :
    ∃ mu', VPath.removeDirAll fuel
        ⟨Overlay.fs (layersN (u :: is) (idu :: ids)), id, renderC cs⟩ w
        = (.ok (), w.setLeafFiles u mu') ∧
      OWN (w.setLeafFiles u mu') (u :: is) (idu :: ids) (mu' :: ms) ∧ OInv mu' ms ∧
      ViewWF (oview (mu' :: ms)) ∧ NamesOK (mu' :: ms) ∧
      (∀ q, OVis q → within (renderC cs) q = true → oview (mu' :: ms) q = none) ∧
      (∀ q, Vis q → ¬ (OVis q ∧ within (renderC cs) q = true) →
        (oview (mu' :: ms) q).map vcore = (oview (mu :: ms) q).map vcore) := by
  obtain ⟨mu', a, b, c, d, e, f, g⟩ := overlay_removeDirAll_exact h inv hv id hn fuel hp hd hfuel
  exact ⟨mu', a, b, c, d, e, fun q h1 h2 => f q ((inSub_iff hp q).2 ⟨h1, h2⟩),
    fun q hq hns => g q hq (fun h0 => hns ((inSub_iff hp q).1 h0))⟩

end removeAll

section transfer
variable {w : World} {u idu : Nat} {mu : FMap} {is ids : List Nat} {ms : List FMap}
  (h : OWN w (u :: is) (idu :: ids) (mu :: ms)) (inv : OInv mu ms)
  (hv : ViewWF (oview (mu :: ms))) (id id' : Nat)
include h

/-- **an existing destination is refused without side effects** (file or directory of the
view): `copy_file` and `move_file` answer `Other` labelled with the SOURCE path, the world is
unchanged -/
theorem overlay_transfer_refused (s : Str) {cs : List Str} (hp : OpPath cs)
    (hpres : oview (mu :: ms) (renderC cs) ≠ none) :
    VPath.copyFile ⟨Overlay.fs (layersN (u :: is) (idu :: ids)), id, s⟩
        ⟨Overlay.fs (layersN (u :: is) (idu :: ids)), id', renderC cs⟩ w
      = (.err .other (some s), w) ∧
    VPath.moveFile ⟨Overlay.fs (layersN (u :: is) (idu :: ids)), id, s⟩
        ⟨Overlay.fs (layersN (u :: is) (idu :: ids)), id', renderC cs⟩ w
      = (.err .other (some s), w) := by
  obtain ⟨e, he⟩ := (C05.ne_none_iff _).1 hpres
  have hex := h.vexists id' hp
  rw [he] at hex
  exact ⟨VPath.guarded_refused _ _ _ _ w hex, VPath.guarded_refused _ _ _ _ w hex⟩

include inv in
theorem overlay_transfer_missing_source {ss cs : List Str} (hs : OpPath ss) (hp : OpPath cs)
    (hsabs : oview (mu :: ms) (renderC ss) = none) (hdabs : oview (mu :: ms) (renderC cs) = none) :
    VPath.copyFile ⟨Overlay.fs (layersN (u :: is) (idu :: ids)), id, renderC ss⟩
        ⟨Overlay.fs (layersN (u :: is) (idu :: ids)), id', renderC cs⟩ w
      = (.err .fileNotFound (some (renderC ss)), w) ∧
    VPath.moveFile ⟨Overlay.fs (layersN (u :: is) (idu :: ids)), id, renderC ss⟩
        ⟨Overlay.fs (layersN (u :: is) (idu :: ids)), id', renderC cs⟩ w
      = (.err .fileNotFound (some (renderC ss)), w) := by
  have hex := h.vexists id' hp
  rw [hdabs] at hex
  have hopen : VPath.openFile ⟨Overlay.fs (layersN (u :: is) (idu :: ids)), id, renderC ss⟩ w
      = (.err .fileNotFound (some (renderC ss)), w) :=
    VPath.openFile_of_call (p := ⟨_, id, _⟩) (overlay_absent_all_fail h inv hs hsabs).2.2.2
  constructor
  · rw [VPath.copyFile_eq, VPath.guarded_run _ _ _ _ w hex, M.withPath,
      VPath.fastOr_slow fun _ => (overlay_noFast _ _ _ w).1]
    simp only [VPath.copyGeneric, bind, M.bind, hopen, Res.withPath]
  · rw [VPath.moveFile_eq, VPath.guarded_run _ _ _ _ w hex, M.withPath,
      VPath.fastOr_slow fun _ => (overlay_noFast _ _ _ w).2.1]
    simp only [VPath.moveGeneric, bind, M.bind, hopen, Res.withPath]

end transfer

section example3

example : ∃ mu', VPath.removeDirAll 2 ⟨xfs, 5, "/d".toList⟩ xw = (.ok (), xw.setLeafFiles 2 mu') ∧
    OWN (xw.setLeafFiles 2 mu') [2, 0, 1] [7, 8, 9] [mu', xA, xB] ∧ OInv mu' [xA, xB] ∧
    ViewWF (oview [mu', xA, xB]) ∧ NamesOK [mu', xA, xB] ∧
    (∀ q, InSub ["d".toList] q → oview [mu', xA, xB] q = none) ∧
    (∀ q, Vis q → ¬ InSub ["d".toList] q →
      (oview [mu', xA, xB] q).map vcore = (oview [xU, xA, xB] q).map vcore) :=
  overlay_removeDirAll_exact xw_setting xw_inv xw_viewWF 5 xw_names 2 (cs := ["d".toList])
    (by decide +kernel) (by decide +kernel) (fuelOK_of_keys (by decide +kernel) (by decide +kernel))

example :
    let w' := (VPath.removeDirAll 2 ⟨xfs, 5, "/d".toList⟩ xw).2
    (VPath.removeDirAll 2 ⟨xfs, 5, "/d".toList⟩ xw).1 = .ok () ∧
    (xfs.exists_ "/d".toList w').1 = .ok false ∧ (xfs.exists_ "/d/x".toList w').1 = .ok false ∧
    (xfs.exists_ "/d/c".toList w').1 = .ok false ∧ (xfs.exists_ "/e/z".toList w').1 = .ok true ∧
    (xfs.exists_ "/top".toList w').1 = .ok true ∧ (xfs.readDir [] w').1 = .ok ["top".toList, "e".toList] := by
  rw [← rmAllK_eq, xw_chars]; decide +kernel

/-- with fuel 1 the recursion runs out of fuel only if there is a sub-DIRECTORY: "/d" has files
only, so fuel 2 is what `FuelOK` asks (the files are at depth 1) and fuel 1 … still works: the
bound of the theorem is sufficient, not necessary -/
example : (VPath.removeDirAll 1 ⟨xfs, 5, "/d".toList⟩ xw).1 = .ok () := by
  rw [← rmAllK_eq, xw_chars]; decide +kernel

example := overlay_removeDirAll_absent xw_setting 5 (cs := ["nope".toList]) (by decide +kernel) (by decide +kernel) 3
example := overlay_removeDirAll_file xw_setting xw_inv 5 (cs := ["top".toList]) (by decide +kernel)
  (by decide +kernel) 3

example := overlay_createDirAll_exact xw_setting xw_inv xw_viewWF 5
  (cs := ["d".toList, "p".toList, "q".toList]) (by decide +kernel) (noFilePrefix_of_check (by decide +kernel))

example :
    let w' := (VPath.createDirAll ⟨xfs, 5, "/d/p/q".toList⟩ xw).2
    (VPath.createDirAll ⟨xfs, 5, "/d/p/q".toList⟩ xw).1 = .ok () ∧
    (xfs.readDir "/d".toList w').1 = .ok ["p".toList, "x".toList, "b".toList, "c".toList] ∧
    (xfs.readDir "/d/p".toList w').1 = .ok ["q".toList] := by
  rw [xw_chars]; decide +kernel

example := overlay_createDirAll_file_prefix xw_setting xw_inv xw_viewWF 5
  ["d".toList] ["y".toList] "x".toList (by decide +kernel) (by decide +kernel)

example : (VPath.createDirAll ⟨xfs, 5, "/d/x/y".toList⟩ xw).1
    = .err .fileExists (some "/d/x".toList) := by decide +kernel

/-! copy_file / move_file on the 3-layer world: "/d/x" lives in layers 1 and 2 (the view serves
layer 1's byte 49), "/d/c" only in layer 2, "/e" only in layer 2 -/

example := overlay_copyFile_exact xw_setting xw_inv xw_viewWF 5 6
  (ss := ["d".toList, "x".toList]) (dd := ["e".toList]) (n := "y".toList) (bs := [49])
  (by decide +kernel) (by decide +kernel) ⟨C09.fileOf [49], by decide +kernel, rfl, rfl⟩ (by decide +kernel)
  (show oview [xU, xA, xB] "/e/y".toList = none by decide +kernel)

example :
    let w' := (VPath.copyFile ⟨xfs, 5, "/d/x".toList⟩ ⟨xfs, 5, "/e/y".toList⟩ xw).2
    (VPath.copyFile ⟨xfs, 5, "/d/x".toList⟩ ⟨xfs, 5, "/e/y".toList⟩ xw).1 = .ok () ∧
    C09.readAllN xfs "/e/y" w' = .ok [49] ∧ C09.readAllN xfs "/d/x" w' = .ok [49] ∧
    (xfs.readDir "/e".toList w').1 = .ok ["y".toList, "z".toList] := by
  rw [xw_chars]; decide +kernel

example := overlay_moveFile_exact xw_setting xw_inv xw_viewWF 5 5
  (ss := ["d".toList, "c".toList]) (dd := ["d".toList]) (n := "moved".toList) (bs := [67])
  (by decide +kernel) (by decide +kernel) ⟨C09.fileOf [67], by decide +kernel, rfl, rfl⟩ (by decide +kernel)
  (show oview [xU, xA, xB] "/d/moved".toList = none by decide +kernel)

example :
    let w' := (VPath.moveFile ⟨xfs, 5, "/d/c".toList⟩ ⟨xfs, 5, "/d/moved".toList⟩ xw).2
    (VPath.moveFile ⟨xfs, 5, "/d/c".toList⟩ ⟨xfs, 5, "/d/moved".toList⟩ xw).1 = .ok () ∧
    C09.readAllN xfs "/d/moved" w' = .ok [67] ∧ (xfs.exists_ "/d/c".toList w').1 = .ok false ∧
    (xfs.readDir "/d".toList w').1 = .ok ["moved".toList, "x".toList, "b".toList] := by
  rw [xw_chars]; decide +kernel

example := overlay_transfer_refused xw_setting 5 5 "/top".toList (cs := ["d".toList, "b".toList])
  (by decide +kernel) (by decide +kernel)

/-! a nested tree spread over the layers: "/t/s/r/g" three levels deep, "/t/s" in layers 0 and 2,
"/t/s/f" only in the upper layer, "/t/s/r" only in layer 2 -/

def nU : FMap := [("/t/s/f".toList, C09.fileOf [1]), ("/t/s".toList, dirEntryNow),
  ("/t".toList, dirEntryNow), ("/keep".toList, C09.fileOf [7]), ([], dirEntryNow)]
def nA : FMap := [("/t/a".toList, C09.fileOf [2]), ("/t".toList, dirEntryNow), ([], dirEntryNow)]
def nB : FMap := [("/t/s/r/g".toList, C09.fileOf [3]), ("/t/s/r".toList, dirEntryNow),
  ("/t/s/h".toList, C09.fileOf [4]), ("/t/s".toList, dirEntryNow), ("/t".toList, dirEntryNow),
  ("/other/k".toList, C09.fileOf [5]), ("/other".toList, dirEntryNow), ([], dirEntryNow)]
def nw : World := C10.world3 nA nB nU

def nUc : FMap := [(chars "/t/s/f", C09.fileOf [1]), (chars "/t/s", dirEntryNow),
  (chars "/t", dirEntryNow), (chars "/keep", C09.fileOf [7]), ([], dirEntryNow)]
def nAc : FMap := [(chars "/t/a", C09.fileOf [2]), (chars "/t", dirEntryNow), ([], dirEntryNow)]
def nBc : FMap := [(chars "/t/s/r/g", C09.fileOf [3]), (chars "/t/s/r", dirEntryNow),
  (chars "/t/s/h", C09.fileOf [4]), (chars "/t/s", dirEntryNow), (chars "/t", dirEntryNow),
  (chars "/other/k", C09.fileOf [5]), (chars "/other", dirEntryNow), ([], dirEntryNow)]
theorem nw_chars : nw = C10.world3 nAc nBc nUc := by
  rw [nw, show nA = nAc by decide +kernel, show nB = nBc by decide +kernel,
    show nU = nUc by decide +kernel]

theorem nw_setting : OWN nw [2, 0, 1] [7, 8, 9] [nU, nA, nB] :=
  .cons rfl (by decide) (.cons rfl (by decide) (.cons rfl (by decide) .nil))
theorem nw_wf : ∀ m ∈ [nU, nA, nB], WF m := by decide +kernel
theorem nw_inv : OInv nU [nA, nB] := OInv.initial nw_wf (noWhiteout_of_keys (by decide +kernel))
theorem nw_viewWF : ViewWF (oview [nU, nA, nB]) :=
  ViewWF.initial nw_wf (noWhiteout_of_keys (by decide +kernel)) (typeConsistent_of_keys (by decide +kernel))
theorem nw_names : NamesOK [nU, nA, nB] := namesOK_of_keys (by decide +kernel)

example := overlay_removeDirAll_exact nw_setting nw_inv nw_viewWF 5 nw_names 4 (cs := ["t".toList])
  (by decide) (by decide) (fuelOK_of_keys (by decide) (by decide +kernel))

example :
    let w' := (VPath.removeDirAll 4 ⟨xfs, 5, "/t".toList⟩ nw).2
    (VPath.removeDirAll 4 ⟨xfs, 5, "/t".toList⟩ nw).1 = .ok () ∧
    (xfs.exists_ "/t".toList w').1 = .ok false ∧ (xfs.exists_ "/t/s/r/g".toList w').1 = .ok false ∧
    (xfs.exists_ "/t/s/f".toList w').1 = .ok false ∧ (xfs.exists_ "/t/a".toList w').1 = .ok false ∧
    (xfs.readDir [] w').1 = .ok ["keep".toList, "other".toList] ∧
    (xfs.readDir "/other".toList w').1 = .ok ["k".toList] := by
  rw [← rmAllK_eq, nw_chars]; decide +kernel

/-- … and with too little fuel the model reports the out-of-fuel sentinel -/
example : (VPath.removeDirAll 2 ⟨xfs, 5, "/t".toList⟩ nw).1 = .panic := by
  rw [← rmAllK_eq, nw_chars]; decide +kernel

end example3

section audit
#print axioms overlay_createDirAll_exact
#print axioms overlay_createDirAll_file_prefix
#print axioms overlay_removeDirAll_exact
#print axioms overlay_removeDirAll_exact_str
#print axioms overlay_removeDirAll_absent
#print axioms overlay_removeDirAll_file
#print axioms overlay_createDirAll_existing
#print axioms overlay_transfer_missing_source
#print axioms overlay_transfer_refused
#print axioms overlay_copyFile_exact
#print axioms overlay_moveFile_exact
#print axioms fuelOK_of_keys
#print axioms inSub_iff
end audit

end Vfs.C11
