/-
  C09, n layers — the overlay presents the upper-shadows-lower union of ANY NUMBER n ≥ 1 of
  layers as an ordinary tree (Props/C09.lean repeats the case n = 2 in its own vocabulary).

  Setting (`OWN w (u :: is) (idu :: ids) (mu :: ms)`, Proofs/OverlayNLemmas.lean): the leaves
  `u :: is` of the world are pairwise distinct memory leaves holding the flat maps `mu :: ms`
  (`mu` = the upper, writable layer; `ms` = the n-1 ≥ 0 lower layers, in order; the same path may
  be present in several of them); the overlay's layers are the ROOTS of those leaf filesystems,
  `layersN (u :: is) (idu :: ids)` (any filesystem ids). Paths are canonical: `p = renderC cs`,
  all components `GoodComp`. The abstraction is the n-layer union view
      `firstN all p`  = the entry of the first layer (in order) whose map has `p`
      `viewN all p`   = if (head of all).contains (marker p) then none else firstN all p.

  Claims, for every n ≥ 1. The observers answer from the view (`exists_is_viewN`, `exists_rootN`,
  `metadata_is_viewN`, `openFile_serves_viewN`, `openFile_absentN`, `openFile_dirN`), with no
  hypothesis besides the setting and canonicity. `read_dir_is_unionN`. Write side:
  `create_over_lower_failsN`, `createFile_over_dir_failsN`,
  `remove_dir_with_lower_children_failsN`, `ensure_parent_file_refusedN`.
  Hypotheses of the write side: `RootOk mu` (the upper root is a directory and "/.whiteout/_wo"
  does not exist), `AncDirsN (mu :: ms) ds` (every proper ancestor is a directory of the view),
  `ds.head? ≠ some woDir`; for listings that "/.whiteout" ++ p is not a FILE of the upper layer
  and the maps are well-formed (`WF`). "View unchanged" (`ViewSameN`) is up to the timestamps of
  directories, because `ensure_has_parent` materialises lower-layer parents in the upper layer.

  NOT PROVED for n layers: `append_continues_lower_bytes` (the copy-up from layer k; a two-layer
  theorem of Props/C09.lean), the timestamp setters. The success paths of `remove_file` /
  `remove_dir` / re-creation are in Props/C10N.lean. Layers that are not the root of a memory leaf
  (a sub-directory of a leaf, an altroot or a nested overlay as a layer) are outside the setting.
-/
import VfsModel.Proofs.OverlayEffect
set_option linter.unusedVariables false
namespace Vfs.C09
open Vfs Vfs.Overlay

theorem OWN_iff (w : World) (is ids : List Nat) (ms : List FMap) :
    OWN w is ids ms ↔
      (is.length = ids.length ∧ is.length = ms.length ∧ is.Nodup ∧
        ∀ (k i : Nat) (m : FMap), is[k]? = some i → ms[k]? = some m → MemLeafAt w i m) :=
  ⟨fun h => ⟨h.len_ids, h.len_ms, h.nodup, fun k i m => h.leafAt k i m⟩,
    fun ⟨h1, h2, h3, h4⟩ => OWN.of_lists h1 h2 h3 h4⟩

theorem viewN_def (mu : FMap) (ms : List FMap) (p : Str) :
    viewN (mu :: ms) p =
      if mu.contains (marker p) then none else (mu :: ms).findSome? (fun m => m.find? p) := by
  rw [viewN_cons]
  congr 1
  generalize mu :: ms = all
  induction all with
  | nil => rfl
  | cons m rest ih =>
    rw [firstN, List.findSome?_cons, ih]
    cases m.find? p <;> rfl

theorem viewN_is_view (mu ml : FMap) (p : Str) : viewN [mu, ml] p = view mu ml p := viewN_two mu ml p

theorem viewN_single (mu : FMap) (p : Str) :
    viewN [mu] p = if mu.contains (marker p) then none else mu.find? p := by
  rw [viewN_cons]; simp [firstN]

theorem renderC_head (cs : List Str) (hne : cs ≠ []) : (renderC cs).head? = some '/' := by
  cases cs with
  | nil => exact absurd rfl hne
  | cons c cs => simp

section settingN
variable {w : World} {u idu : Nat} {mu : FMap} {is ids : List Nat} {ms : List FMap}
  (h : OWN w (u :: is) (idu :: ids) (mu :: ms))
include h

theorem exists_is_viewN (cs : List Str) (hne : cs ≠ []) (hcs : ∀ c ∈ cs, GoodComp c) :
    (Overlay.fs (layersN (u :: is) (idu :: ids))).exists_ (renderC cs) w
      = (.ok (viewN (mu :: ms) (renderC cs)).isSome, w) :=
  run_oexistsN h cs hne hcs

theorem exists_rootN (hroot : RootOk mu) :
    (Overlay.fs (layersN (u :: is) (idu :: ids))).exists_ [] w = (.ok true, w) := by
  have := run_oexists_rootN h
  obtain ⟨e, he, _⟩ := hroot.root
  rw [hroot.noMark, contains_of_find he] at this
  exact this

theorem metadata_is_viewN (cs : List Str) (hne : cs ≠ []) (hcs : ∀ c ∈ cs, GoodComp c) :
    (Overlay.fs (layersN (u :: is) (idu :: ids))).metadata (renderC cs) w =
      (match viewN (mu :: ms) (renderC cs) with
       | some e => .ok e.meta
       | none => .err .fileNotFound none, w) :=
  run_ometadataN h cs hne hcs

/-- **the first layer that has the path serves it.** A file of the view is served with exactly
its bytes, by the first layer `k` whose map has the path (`FirstAt`: layer `k` has it, no layer
before `k` does); the only change of the world is the access-time stamp of that entry in the
map of that layer. -/
theorem openFile_serves_viewN (cs : List Str) (hne : cs ≠ []) (hcs : ∀ c ∈ cs, GoodComp c)
    (e : Entry) (hv : viewN (mu :: ms) (renderC cs) = some e) (hfile : e.ftype = .file) :
    ∃ (k i : Nat) (m : FMap) (w' : World),
      FirstAt (mu :: ms) (renderC cs) k m ∧ (u :: is)[k]? = some i ∧
      m.find? (renderC cs) = some e ∧
      (Overlay.fs (layersN (u :: is) (idu :: ids))).openFile (renderC cs) w
        = (.ok { content := e.content, pos := 0 }, w') ∧
      w' = w.setLeafFiles i (m.insert (renderC cs) { e with accessed := .now }) ∧
      OWN w' (u :: is) (idu :: ids)
        ((mu :: ms).set k (m.insert (renderC cs) { e with accessed := .now })) := by
  rcases readPath_casesN h cs hne hcs with ⟨hv', _⟩ | ⟨k, i, id, m, e', hf, hi, _, hl, he, _, hv', hr⟩
  · rw [hv] at hv'; cases hv'
  · rw [hv] at hv'; injection hv' with hv'; subst hv'
    refine ⟨k, i, m, _, hf, hi, he, ?_, rfl, h.setAt k i hi _⟩
    show (do let q ← readPath (layersN (u :: is) (idu :: ids)) (renderC cs); q.openFile : M RHandle) w = _
    simp only [bind, M.bind, hr, run_vopenFile hl, Mem.openFile_some m _ e he]
    simp [hfile, Res.withPath]

theorem openFile_absentN (cs : List Str) (hne : cs ≠ []) (hcs : ∀ c ∈ cs, GoodComp c)
    (hv : viewN (mu :: ms) (renderC cs) = none) :
    (Overlay.fs (layersN (u :: is) (idu :: ids))).openFile (renderC cs) w
      = (.err .fileNotFound none, w) := by
  show (do let q ← readPath (layersN (u :: is) (idu :: ids)) (renderC cs); q.openFile : M RHandle) w = _
  rcases readPath_casesN h cs hne hcs with ⟨_, hr⟩ | ⟨k, i, id, m, e', _, _, _, _, _, _, hv', _⟩
  · simp [bind, M.bind, hr]
  · rw [hv] at hv'; cases hv'

theorem openFile_dirN (cs : List Str) (hne : cs ≠ []) (hcs : ∀ c ∈ cs, GoodComp c)
    (e : Entry) (hv : viewN (mu :: ms) (renderC cs) = some e) (hd : e.ftype = .dir) :
    ((Overlay.fs (layersN (u :: is) (idu :: ids))).openFile (renderC cs) w).1
      = .err .other (some (renderC cs)) := by
  show ((do let q ← readPath (layersN (u :: is) (idu :: ids)) (renderC cs); q.openFile : M RHandle) w).1 = _
  rcases readPath_casesN h cs hne hcs with ⟨hv', _⟩ | ⟨k, i, id, m, e', _, _, _, hl, he, _, hv', hr⟩
  · rw [hv] at hv'; cases hv'
  · rw [hv] at hv'; injection hv' with hv'; subst hv'
    simp only [bind, M.bind, hr, run_vopenFile hl, Mem.openFile_some m _ e he]
    simp [hd, Res.withPath, fail]

/-- **read_dir is the union of n layers.** For a directory `p` of the view (or the root),
`read_dir` succeeds, changes nothing, lists no name twice, and lists exactly the bare names `n`
such that the n-layer view has an entry at `p/n` (present in some layer and not marked as
deleted) — except that the bookkeeping directory ".whiteout" is never listed at the root. -/
theorem read_dir_is_unionN (cs : List Str) (hcs : ∀ c ∈ cs, GoodComp c)
    (e : Entry) (hdir : dirEntryN (mu :: ms) (renderC cs) = some e) (hd : e.ftype = .dir)
    (hwf : ∀ m ∈ mu :: ms, WF m)
    (hwo : ∀ e, mu.find? (woDirOf (renderC cs)) = some e → e.ftype = .dir) :
    ∃ lst, (Overlay.fs (layersN (u :: is) (idu :: ids))).readDir (renderC cs) w = (.ok lst, w) ∧
      lst.Nodup ∧
      (∀ n, n ∈ lst ↔ ('/' ∉ n ∧ (viewN (mu :: ms) (renderC cs ++ '/' :: n)).isSome = true ∧
                        (renderC cs = [] → n ≠ woDir))) ∧
      (renderC cs = [] → woDir ∉ lst) := by
  refine ⟨pListingN (mu :: ms) (renderC cs), ?_, nodup_pListingN _ _, ?_, ?_⟩
  · show Overlay.readDir _ _ w = _
    rw [run_oreadDirN h cs hcs hwo]
    unfold pReadDirN
    rw [hdir]; simp [hd]
  · intro n
    exact mem_pListingN mu ms _ n (fun m hm => (hwf m hm).childrenHaveDir _)
      ((hwf mu (by simp)).childrenHaveDir _)
  · intro hp; rw [hp]; exact woDir_not_listedN _

def ViewSameN (all all' : List FMap) : Prop :=
  ∀ q : Str, q.head? = some '/' → (viewN all' q).map dirBlind = (viewN all q).map dirBlind

omit h in
theorem ViewSameN.ftype {all all' : List FMap} (hs : ViewSameN all all') (q : Str)
    (hq : q.head? = some '/') (e : Entry) (hv : viewN all q = some e) :
    ∃ e', viewN all' q = some e' ∧ e'.ftype = e.ftype ∧ (e.ftype = .file → e' = e) := by
  have := hs q hq
  rw [hv] at this
  rcases Option.eq_none_or_eq_some (viewN all' q) with hn | ⟨e', he'⟩
  · rw [hn] at this; cases this
  · rw [he'] at this
    simp only [Option.map_some, Option.some.injEq] at this
    refine ⟨e', he', ?_, ?_⟩
    · rw [← dirBlind_ftype e', this, dirBlind_ftype]
    · intro hf
      have hf' : e'.ftype = .file := by rw [← dirBlind_ftype e', this, dirBlind_ftype]; exact hf
      rw [dirBlind_file e hf, dirBlind_file e' hf'] at this
      exact this

/-- **create over an entry of the n-layer view fails as already-existing.** If the view has an
entry `e` at `p` — in particular when only some lower layer has it — `create_dir(p)` fails with
`FileExists` / `DirectoryExists` according to the type of `e`; the lower layers are untouched
(same maps `ms`), the upper layer may have gained parent directories, and the view of every
path is unchanged. -/
theorem create_over_lower_failsN (ds : List Str) (n : Str) (hds : ∀ c ∈ ds, GoodComp c)
    (hn : GoodComp n) (hroot : RootOk mu) (hanc : AncDirsN (mu :: ms) ds)
    (hhead : ds.head? ≠ some woDir) (e : Entry)
    (hv : viewN (mu :: ms) (renderC (ds ++ [n])) = some e) :
    ∃ mu', (Overlay.fs (layersN (u :: is) (idu :: ids))).createDir (renderC (ds ++ [n])) w =
        (.err (if e.ftype = .file then .fileExists else .dirExists) none,
          w.setLeafFiles u mu') ∧
      OWN (w.setLeafFiles u mu') (u :: is) (idu :: ids) (mu' :: ms) ∧
      ViewSameN (mu :: ms) (mu' :: ms) := by
  have hcs := good_snoc hds hn
  have hne : ds ++ [n] ≠ [] := by simp
  have hsame : ViewSameN (mu :: ms) (fillDirs mu (chain [] ds) :: ms) :=
    fun q hq => view_fillDirsN hds hanc hhead q hq
  obtain ⟨e', he', hft, _⟩ := hsame.ftype _ (renderC_head _ hne) e hv
  refine ⟨fillDirs mu (chain [] ds), ?_, h.setHead _, hsame⟩
  show Overlay.createDir _ _ w = _
  rw [run_ocreateDirN h _ hne hcs, pCreateDirN_occupied
    (by rw [List.dropLast_concat]; exact pEnsureN_ok hroot hds hanc) he', hft]

theorem create_over_lower_only_failsN (ds : List Str) (n : Str) (hds : ∀ c ∈ ds, GoodComp c)
    (hn : GoodComp n) (hroot : RootOk mu) (hanc : AncDirsN (mu :: ms) ds)
    (hhead : ds.head? ≠ some woDir) (e : Entry) (k : Nat) (m : FMap) (hk : 1 ≤ k)
    (hfirst : FirstAt (mu :: ms) (renderC (ds ++ [n])) k m)
    (hmk : mu.contains (marker (renderC (ds ++ [n]))) = false)
    (hlow : m.find? (renderC (ds ++ [n])) = some e) :
    ∃ mu', (Overlay.fs (layersN (u :: is) (idu :: ids))).createDir (renderC (ds ++ [n])) w =
        (.err (if e.ftype = .file then .fileExists else .dirExists) none,
          w.setLeafFiles u mu') ∧
      OWN (w.setLeafFiles u mu') (u :: is) (idu :: ids) (mu' :: ms) ∧
      ViewSameN (mu :: ms) (mu' :: ms) :=
  create_over_lower_failsN h ds n hds hn hroot hanc hhead e
    (by rw [viewN_unmarked hmk, firstN_of_firstAt hfirst]; exact hlow)

theorem create_over_lower_unchangedN (ds : List Str) (n : Str) (hds : ∀ c ∈ ds, GoodComp c)
    (hn : GoodComp n) (hroot : RootOk mu) (hanc : AncDirsN (mu :: ms) ds)
    (hhead : ds.head? ≠ some woDir) (e : Entry)
    (hv : viewN (mu :: ms) (renderC (ds ++ [n])) = some e)
    (hup : ∀ j, 1 ≤ j → j ≤ ds.length → mu.contains (renderC (ds.take j)) = true) :
    (Overlay.fs (layersN (u :: is) (idu :: ids))).createDir (renderC (ds ++ [n])) w =
      (.err (if e.ftype = .file then .fileExists else .dirExists) none, w) := by
  have hcs := good_snoc hds hn
  have hne : ds ++ [n] ≠ [] := by simp
  have hfill : fillDirs mu (chain [] ds) = mu := by
    apply fillDirs_of_contains
    intro k hk
    obtain ⟨j, h1, h2, rfl⟩ := (mem_chain [] ds k).1 hk
    simpa using hup j h1 h2
  show Overlay.createDir _ _ w = _
  rw [run_ocreateDirN h _ hne hcs, pCreateDirN_occupied
    (by rw [List.dropLast_concat, pEnsureN_ok hroot hds hanc, hfill]) hv, h.hu.same]

theorem createFile_over_dir_failsN (ds : List Str) (n : Str) (hds : ∀ c ∈ ds, GoodComp c)
    (hn : GoodComp n) (hroot : RootOk mu) (hanc : AncDirsN (mu :: ms) ds)
    (hhead : ds.head? ≠ some woDir) (e : Entry)
    (hv : viewN (mu :: ms) (renderC (ds ++ [n])) = some e) (hd : e.ftype = .dir) :
    ∃ mu', (Overlay.fs (layersN (u :: is) (idu :: ids))).createFile (renderC (ds ++ [n])) w =
        (.err .other none, w.setLeafFiles u mu') ∧
      OWN (w.setLeafFiles u mu') (u :: is) (idu :: ids) (mu' :: ms) ∧
      ViewSameN (mu :: ms) (mu' :: ms) := by
  have hcs := good_snoc hds hn
  have hne : ds ++ [n] ≠ [] := by simp
  have hsame : ViewSameN (mu :: ms) (fillDirs mu (chain [] ds) :: ms) :=
    fun q hq => view_fillDirsN hds hanc hhead q hq
  obtain ⟨e', he', hft, _⟩ := hsame.ftype _ (renderC_head _ hne) e hv
  refine ⟨fillDirs mu (chain [] ds), ?_, h.setHead _, hsame⟩
  show Overlay.createFile _ _ w = _
  rw [run_ocreateFileN h _ hne hcs, pCreateFileN_refused
    (by rw [List.dropLast_concat]; exact pEnsureN_ok hroot hds hanc) he' (hft.trans hd)]
  rfl

/-- **removing a directory that still has children in some layer fails as non-empty.** `p` is a
directory of the n-layer view and the view has an entry at `p/n` (for instance one that exists
only in a lower layer): `remove_dir(p)` fails with `Other`, and the world is unchanged — no
marker is created, the view is what it was. -/
theorem remove_dir_with_lower_children_failsN (cs : List Str) (hne : cs ≠ [])
    (hcs : ∀ c ∈ cs, GoodComp c) (e : Entry) (hv : viewN (mu :: ms) (renderC cs) = some e)
    (hd : e.ftype = .dir) (hwf : ∀ m ∈ mu :: ms, WF m)
    (hwo : ∀ e, mu.find? (woDirOf (renderC cs)) = some e → e.ftype = .dir)
    (n : Str) (hn : '/' ∉ n)
    (hchild : (viewN (mu :: ms) (renderC cs ++ '/' :: n)).isSome = true) :
    (Overlay.fs (layersN (u :: is) (idu :: ids))).removeDir (renderC cs) w
      = (.err .other none, w) := by
  show Overlay.removeDir _ _ w = _
  have hmem : n ∈ pListingN (mu :: ms) (renderC cs) :=
    (mem_pListingN mu ms _ n (fun m hm => (hwf m hm).childrenHaveDir _)
      ((hwf mu (by simp)).childrenHaveDir _)).2
      ⟨hn, hchild, fun hp => absurd hp (renderC_ne_nil hne)⟩
  have hnil : pListingN (mu :: ms) (renderC cs) ≠ [] := by
    intro h0; rw [h0] at hmem; cases hmem
  rw [run_oremoveDirN h cs hne hcs hwo, pRemoveDirN_nonempty (renderC_ne_nil hne) hv hd hnil,
    h.hu.same]

theorem remove_dir_with_lower_only_child_failsN (cs : List Str) (hne : cs ≠ [])
    (hcs : ∀ c ∈ cs, GoodComp c) (e : Entry) (hv : viewN (mu :: ms) (renderC cs) = some e)
    (hd : e.ftype = .dir) (hwf : ∀ m ∈ mu :: ms, WF m)
    (hwo : ∀ e, mu.find? (woDirOf (renderC cs)) = some e → e.ftype = .dir)
    (n : Str) (hn : '/' ∉ n) (k : Nat) (m : FMap) (hk : 1 ≤ k)
    (hfirst : FirstAt (mu :: ms) (renderC cs ++ '/' :: n) k m)
    (hmk : mu.contains (marker (renderC cs ++ '/' :: n)) = false) :
    (Overlay.fs (layersN (u :: is) (idu :: ids))).removeDir (renderC cs) w
      = (.err .other none, w) := by
  apply remove_dir_with_lower_children_failsN h cs hne hcs e hv hd hwf hwo n hn
  obtain ⟨ce, hce⟩ := (FMap.contains_iff _ _).1 hfirst.has
  rw [viewN_unmarked hmk, firstN_of_firstAt hfirst, hce]; rfl

/-- **a file of the n-layer view cannot get children** (`OverlayFS::ensure_has_parent` checks the
parent in the view before it creates anything: finding O10, DESIGN.md §I.4; n layers). The parent `ds` of `p = ds/n` is a FILE of the view —
in whichever of the n layers it sits: `create_dir(p)`, `create_file(p)` and `append_file(p)`
through the overlay fail with `Other`, and the world is unchanged, so EVERY layer map is what it
was (in particular no empty directory appears in the upper layer in front of the file). For `append_file` nothing must sit at `p` in the upper map, which is the case
in every well-formed upper map (`upper_child_absent_of_viewN_file`). -/
theorem ensure_parent_file_refusedN (ds : List Str) (n : Str) (hdne : ds ≠ [])
    (hds : ∀ c ∈ ds, GoodComp c) (hn : GoodComp n) (e : Entry)
    (hv : viewN (mu :: ms) (renderC ds) = some e) (hf : e.ftype = .file) :
    (Overlay.fs (layersN (u :: is) (idu :: ids))).createDir (renderC (ds ++ [n])) w
        = (.err .other none, w) ∧
    (Overlay.fs (layersN (u :: is) (idu :: ids))).createFile (renderC (ds ++ [n])) w
        = (.err .other none, w) ∧
    (mu.find? (renderC (ds ++ [n])) = none →
      (Overlay.fs (layersN (u :: is) (idu :: ids))).appendFile (renderC (ds ++ [n])) w
        = (.err .other none, w)) := by
  have hcs := good_snoc hds hn
  have hne : ds ++ [n] ≠ [] := by simp
  have hE : pEnsureN (mu :: ms) (ds ++ [n]).dropLast = (.err .other none, mu) := by
    rw [List.dropLast_concat]; exact pEnsureN_file hdne hv hf
  refine ⟨?_, ?_, ?_⟩
  · show Overlay.createDir _ _ w = _
    rw [run_ocreateDirN h _ hne hcs, pCreateDirN_no_parent hE, h.hu.same]
  · show Overlay.createFile _ _ w = _
    rw [run_ocreateFileN h _ hne hcs, pCreateFileN_no_parent hE, h.hu.same]
    rfl
  · intro hup
    show Overlay.appendFile _ _ w = _
    rw [oappendFileN_lower h _ hne hcs (contains_of_none hup), hE]
    simp only [h.hu.same]

theorem ensure_parent_file_refused_wfN (ds : List Str) (n : Str) (hdne : ds ≠ [])
    (hds : ∀ c ∈ ds, GoodComp c) (hn : GoodComp n) (e : Entry)
    (hv : viewN (mu :: ms) (renderC ds) = some e) (hf : e.ftype = .file) (hwf : WF mu) :
    (Overlay.fs (layersN (u :: is) (idu :: ids))).createDir (renderC (ds ++ [n])) w
        = (.err .other none, w) ∧
    (Overlay.fs (layersN (u :: is) (idu :: ids))).createFile (renderC (ds ++ [n])) w
        = (.err .other none, w) ∧
    (Overlay.fs (layersN (u :: is) (idu :: ids))).appendFile (renderC (ds ++ [n])) w
        = (.err .other none, w) := by
  obtain ⟨h1, h2, h3⟩ := ensure_parent_file_refusedN h ds n hdne hds hn e hv hf
  exact ⟨h1, h2, h3 (upper_child_absent_of_viewN_file hwf hds hn hv hf)⟩

end settingN

def ViewSame (mu ml mu' ml' : FMap) : Prop :=
  ∀ q : Str, q.head? = some '/' → (view mu' ml' q).map dirBlind = (view mu ml q).map dirBlind

theorem viewSameN_two {mu ml mu' ml' : FMap} :
    ViewSameN [mu, ml] [mu', ml'] ↔ ViewSame mu ml mu' ml' := by
  unfold ViewSameN ViewSame
  simp only [viewN_two]

theorem ViewSame.ftype {mu ml mu' ml' : FMap} (hs : ViewSame mu ml mu' ml') (q : Str)
    (hq : q.head? = some '/') (e : Entry) (hv : view mu ml q = some e) :
    ∃ e', view mu' ml' q = some e' ∧ e'.ftype = e.ftype ∧ (e.ftype = .file → e' = e) := by
  have := (viewSameN_two.2 hs).ftype q hq e (by rwa [viewN_two])
  rwa [viewN_two] at this

section two
variable {w : World} {u l idu idl : Nat} {mu ml : FMap} (h : OW w u l mu ml)
include h

theorem exists_is_view_ofN (cs : List Str) (hne : cs ≠ []) (hcs : ∀ c ∈ cs, GoodComp c) :
    (Overlay.fs (layers2 u l idu idl)).exists_ (renderC cs) w
      = (.ok (view mu ml (renderC cs)).isSome, w) := by
  have := exists_is_viewN (h.toN idu idl) cs hne hcs
  rwa [layersN_two, viewN_two] at this

theorem metadata_is_view_ofN (cs : List Str) (hne : cs ≠ []) (hcs : ∀ c ∈ cs, GoodComp c) :
    (Overlay.fs (layers2 u l idu idl)).metadata (renderC cs) w =
      (match view mu ml (renderC cs) with
       | some e => .ok e.meta
       | none => .err .fileNotFound none, w) := by
  have := metadata_is_viewN (h.toN idu idl) cs hne hcs
  rwa [layersN_two, viewN_two] at this

theorem read_dir_is_union_ofN (cs : List Str) (hcs : ∀ c ∈ cs, GoodComp c)
    (e : Entry) (hdir : dirEntry? mu ml (renderC cs) = some e) (hd : e.ftype = .dir)
    (hwf : WF mu) (hwfl : WF ml)
    (hwo : ∀ e, mu.find? (woDirOf (renderC cs)) = some e → e.ftype = .dir) :
    ∃ lst, (Overlay.fs (layers2 u l idu idl)).readDir (renderC cs) w = (.ok lst, w) ∧
      lst.Nodup ∧
      (∀ n, n ∈ lst ↔ ('/' ∉ n ∧ (view mu ml (renderC cs ++ '/' :: n)).isSome = true ∧
                        (renderC cs = [] → n ≠ woDir))) ∧
      (renderC cs = [] → woDir ∉ lst) := by
  have := read_dir_is_unionN (h.toN idu idl) cs hcs e (by rw [dirEntryN_two]; exact hdir) hd
    (by intro m hm; simp at hm; rcases hm with rfl | rfl <;> assumption) hwo
  simpa only [layersN_two, viewN_two] using this

theorem create_over_lower_fails_ofN (ds : List Str) (n : Str) (hds : ∀ c ∈ ds, GoodComp c)
    (hn : GoodComp n) (hroot : RootOk mu) (hanc : AncDirs mu ml ds)
    (hhead : ds.head? ≠ some woDir) (e : Entry)
    (hv : view mu ml (renderC (ds ++ [n])) = some e) :
    ∃ mu', (Overlay.fs (layers2 u l idu idl)).createDir (renderC (ds ++ [n])) w =
        (.err (if e.ftype = .file then .fileExists else .dirExists) none,
          w.setLeafFiles u mu') ∧
      OW (w.setLeafFiles u mu') u l mu' ml ∧ ViewSame mu ml mu' ml := by
  obtain ⟨mu', hrun, hown, hsame⟩ := create_over_lower_failsN (h.toN idu idl) ds n hds hn hroot
    ((AncDirsN_two mu ml ds).2 hanc) hhead e (by rw [viewN_two]; exact hv)
  exact ⟨mu', by rwa [layersN_two] at hrun, hown.toOW, viewSameN_two.1 hsame⟩

end two

theorem exists_single {w : World} {u idu : Nat} {mu : FMap} (h : MemLeafAt w u mu)
    (cs : List Str) (hne : cs ≠ []) (hcs : ∀ c ∈ cs, GoodComp c) :
    (Overlay.fs (layersN [u] [idu])).exists_ (renderC cs) w
      = (.ok (!mu.contains (marker (renderC cs)) && mu.contains (renderC cs)), w) := by
  have := exists_is_viewN (OWN.cons (id := idu) h (by simp) .nil) cs hne hcs
  rw [this, viewN_isSome]
  simp

def fileOf (b : Bytes) : Entry := { fileEntryNow with content := b }

def readAllN (fs : FS) (p : String) (w : World) : Res Bytes :=
  match fs.openFile p.toList w with
  | (.ok r, _) => r.readToEnd.1
  | (.err k pth, _) => .err k pth
  | (.panic, _) => .panic

def agreesAt (fs : FS) (w : World) (all : List FMap) (p : String) : Bool :=
  decide ((fs.exists_ p.toList w).1 = .ok (viewN all p.toList).isSome) &&
  decide ((fs.metadata p.toList w).1 =
    (match viewN all p.toList with
     | some e => .ok e.meta
     | none => .err .fileNotFound none)) &&
  decide ((fs.exists_ p.toList w).2.leaves = w.leaves) &&
  decide ((fs.metadata p.toList w).2.leaves = w.leaves) &&
  (match viewN all p.toList with
   | some e => if e.ftype = .file then decide (readAllN fs p w = .ok e.content) else true
   | none => decide (readAllN fs p w = .err .fileNotFound none))

/-! #### three layers, the leaves in the order 2, 0, 1

upper (leaf 2): "/d", "/d/a" = "A", and the marker of "/d/h";
layer 1 (leaf 0): "/d", "/d/x" = "1", "/d/b" = "B", "/d/h" = "H";
layer 2 (leaf 1): "/d", "/d/x" = "2", "/d/c" = "C". -/

def m3u : FMap :=
  [("/.whiteout/d/h_wo".toList, fileOf []), ("/.whiteout/d".toList, dirEntryNow),
   ("/.whiteout".toList, dirEntryNow), ("/d/a".toList, fileOf [65]), ("/d".toList, dirEntryNow),
   ([], dirEntryNow)]
def m3a : FMap :=
  [("/d/x".toList, fileOf [49]), ("/d/b".toList, fileOf [66]), ("/d/h".toList, fileOf [72]),
   ("/d".toList, dirEntryNow), ([], dirEntryNow)]
def m3b : FMap :=
  [("/d/x".toList, fileOf [50]), ("/d/c".toList, fileOf [67]), ("/d".toList, dirEntryNow),
   ([], dirEntryNow)]

def w3 : World :=
  { leaves := [{ kind := .mem, files := m3a }, { kind := .mem, files := m3b },
               { kind := .mem, files := m3u }] }

def ofs3 : FS := Overlay.fs (layersN [2, 0, 1] [7, 8, 9])

theorem w3_setting : OWN w3 [2, 0, 1] [7, 8, 9] [m3u, m3a, m3b] :=
  .cons rfl (by decide) (.cons rfl (by decide) (.cons rfl (by decide) .nil))

example : RootOk m3u := ⟨⟨_, rfl, rfl⟩, by decide⟩

/-! The kernel decodes a string literal byte by byte every time it meets one, and on these small
worlds that is most of what an evaluation costs. So the evaluations run on the same maps with the
keys written as character lists (`k3u` … and `k3` for `m3u` … and `w3`). -/

def pD : Str := ['/', 'd']
def k3u : FMap :=
  [(marker (pD ++ ['/', 'h']), fileOf []), (woDirOf pD, dirEntryNow), (woDirOf [], dirEntryNow),
   (pD ++ ['/', 'a'], fileOf [65]), (pD, dirEntryNow), ([], dirEntryNow)]
def k3a : FMap :=
  [(pD ++ ['/', 'x'], fileOf [49]), (pD ++ ['/', 'b'], fileOf [66]), (pD ++ ['/', 'h'], fileOf [72]),
   (pD, dirEntryNow), ([], dirEntryNow)]
def k3b : FMap :=
  [(pD ++ ['/', 'x'], fileOf [50]), (pD ++ ['/', 'c'], fileOf [67]), (pD, dirEntryNow),
   ([], dirEntryNow)]
def k3 : World :=
  { leaves := [{ kind := .mem, files := k3a }, { kind := .mem, files := k3b },
               { kind := .mem, files := k3u }] }

theorem m3u_eq : m3u = k3u := by decide +kernel
theorem m3a_eq : m3a = k3a := by decide +kernel
theorem m3b_eq : m3b = k3b := by decide +kernel
theorem w3_eq : w3 = k3 := by rw [w3, k3, m3u_eq, m3a_eq, m3b_eq]

example : readAllN ofs3 "/d/x" w3 = .ok [49] := by
  rw [w3_eq]; decide +kernel
example : viewN [m3u, m3a, m3b] "/d/x".toList = some (fileOf [49]) := by
  rw [m3u_eq, m3a_eq, m3b_eq]; decide +kernel
example : (ofs3.exists_ "/d/h".toList w3).1 = .ok false := by
  rw [w3_eq]; decide +kernel
example : viewN [m3u, m3a, m3b] "/d/h".toList = none := by
  rw [m3u_eq, m3a_eq, m3b_eq]; decide +kernel
example : (ofs3.readDir "/d".toList w3).1 = .ok ["a".toList, "x".toList, "b".toList, "c".toList] := by
  rw [w3_eq]; decide +kernel
example : (ofs3.readDir [] w3).1 = .ok ["d".toList] := by
  rw [w3_eq]; decide +kernel
example : ∀ p ∈ ["/d", "/d/a", "/d/x", "/d/b", "/d/c", "/d/h", "/nope", "/d/nope"],
    agreesAt ofs3 w3 [m3u, m3a, m3b] p = true := by
  rw [w3_eq, m3u_eq, m3a_eq, m3b_eq]; decide +kernel
example : (ofs3.exists_ "/d/c".toList w3) = (.ok true, w3) :=
  exists_is_viewN w3_setting ["d".toList, "c".toList] (by simp) (by decide)
example : (ofs3.createDir "/d/c".toList w3).1 = .err .fileExists none := by
  rw [w3_eq]; decide +kernel
example : (ofs3.createDir "/d/c".toList w3).2.leaves = w3.leaves := by
  rw [w3_eq]; decide +kernel
example : (ofs3.removeDir "/d".toList w3).1 = .err .other none := by
  rw [w3_eq]; decide +kernel
example : (ofs3.removeDir "/d".toList w3).2.leaves = w3.leaves := by
  rw [w3_eq]; decide +kernel

/-! #### four layers

upper (leaf 0): only the marker of "/h";
layer 1 (leaf 1): "/h" = "H1", "/s", "/s/p";
layer 2 (leaf 2): "/s", "/s/q", "/f" = "L2";
layer 3 (leaf 3): "/h" = "H3", "/s", "/s/r", "/f" = "L3", "/s/p" (again). -/

def m4u : FMap :=
  [("/.whiteout/h_wo".toList, fileOf []), ("/.whiteout".toList, dirEntryNow), ([], dirEntryNow)]
def m4a : FMap :=
  [("/h".toList, fileOf [72, 49]), ("/s/p".toList, fileOf [1]), ("/s".toList, dirEntryNow),
   ([], dirEntryNow)]
def m4b : FMap :=
  [("/s/q".toList, fileOf [2]), ("/s".toList, dirEntryNow), ("/f".toList, fileOf [76, 50]),
   ([], dirEntryNow)]
def m4c : FMap :=
  [("/h".toList, fileOf [72, 51]), ("/s/r".toList, fileOf [3]), ("/s/p".toList, fileOf [4]),
   ("/s".toList, dirEntryNow), ("/f".toList, fileOf [76, 51]), ([], dirEntryNow)]

def w4 : World :=
  { leaves := [{ kind := .mem, files := m4u }, { kind := .mem, files := m4a },
               { kind := .mem, files := m4b }, { kind := .mem, files := m4c }] }

def ofs4 : FS := Overlay.fs (layersN [0, 1, 2, 3] [0, 1, 2, 3])

theorem w4_setting : OWN w4 [0, 1, 2, 3] [0, 1, 2, 3] [m4u, m4a, m4b, m4c] :=
  .cons rfl (by decide) (.cons rfl (by decide) (.cons rfl (by decide) (.cons rfl (by decide) .nil)))

def pS : Str := ['/', 's']
def k4u : FMap := [(marker ['/', 'h'], fileOf []), (woDirOf [], dirEntryNow), ([], dirEntryNow)]
def k4a : FMap :=
  [(['/', 'h'], fileOf [72, 49]), (pS ++ ['/', 'p'], fileOf [1]), (pS, dirEntryNow),
   ([], dirEntryNow)]
def k4b : FMap :=
  [(pS ++ ['/', 'q'], fileOf [2]), (pS, dirEntryNow), (['/', 'f'], fileOf [76, 50]),
   ([], dirEntryNow)]
def k4c : FMap :=
  [(['/', 'h'], fileOf [72, 51]), (pS ++ ['/', 'r'], fileOf [3]), (pS ++ ['/', 'p'], fileOf [4]),
   (pS, dirEntryNow), (['/', 'f'], fileOf [76, 51]), ([], dirEntryNow)]
def k4 : World :=
  { leaves := [{ kind := .mem, files := k4u }, { kind := .mem, files := k4a },
               { kind := .mem, files := k4b }, { kind := .mem, files := k4c }] }

theorem m4u_eq : m4u = k4u := by decide +kernel
theorem m4a_eq : m4a = k4a := by decide +kernel
theorem m4b_eq : m4b = k4b := by decide +kernel
theorem m4c_eq : m4c = k4c := by decide +kernel
theorem w4_eq : w4 = k4 := by rw [w4, k4, m4u_eq, m4a_eq, m4b_eq, m4c_eq]

example : (ofs4.exists_ "/h".toList w4).1 = .ok false := by
  rw [w4_eq]; decide +kernel
example : readAllN ofs4 "/h" w4 = .err .fileNotFound none := by
  rw [w4_eq]; decide +kernel
example : readAllN ofs4 "/f" w4 = .ok [76, 50] := by
  rw [w4_eq]; decide +kernel
example : readAllN ofs4 "/s/p" w4 = .ok [1] := by
  rw [w4_eq]; decide +kernel
example : (ofs4.readDir "/s".toList w4).1 = .ok ["p".toList, "q".toList, "r".toList] := by
  rw [w4_eq]; decide +kernel
example : (ofs4.readDir [] w4).1 = .ok ["s".toList, "f".toList] := by
  rw [w4_eq]; decide +kernel
example : ∀ p ∈ ["/h", "/f", "/s", "/s/p", "/s/q", "/s/r", "/s/none", "/.whiteout/h_wo"],
    agreesAt ofs4 w4 [m4u, m4a, m4b, m4c] p = true := by
  rw [w4_eq, m4u_eq, m4a_eq, m4b_eq, m4c_eq]; decide +kernel
example : ((ofs4.openFile "/f".toList w4).2.leaves.map (·.files)) =
    [m4u, m4a, m4b.insert "/f".toList { fileOf [76, 50] with accessed := .now }, m4c] := by
  rw [w4_eq, m4u_eq, m4a_eq, m4b_eq, m4c_eq]; decide +kernel
example : (ofs4.createDir "/s".toList w4).1 = .err .dirExists none := by
  rw [w4_eq]; decide +kernel
example : (ofs4.createDir "/f".toList w4).1 = .err .fileExists none := by
  rw [w4_eq]; decide +kernel
example : (ofs4.createFile "/s".toList w4).1 = .err .other none := by
  rw [w4_eq]; decide +kernel
example : (ofs4.createDir "/s".toList w4).2.leaves = w4.leaves := by
  rw [w4_eq]; decide +kernel
example : (ofs4.removeDir "/s".toList w4).1 = .err .other none := by
  rw [w4_eq]; decide +kernel
example : (ofs4.removeDir "/s".toList w4).2.leaves = w4.leaves := by
  rw [w4_eq]; decide +kernel
example : (ofs4.createDir "/f/y".toList w4).1 = .err .other none := by
  rw [w4_eq]; decide +kernel
example : (ofs4.createDir "/f/y".toList w4).2.leaves = w4.leaves := by
  rw [w4_eq]; decide +kernel
example : (ofs4.createFile "/f/y".toList w4).2.leaves = w4.leaves := by
  rw [w4_eq]; decide +kernel
example : ((do let _ ← ofs4.appendFile "/f/y".toList; pure () : M Unit) w4).1
    = .err .other none := by
  rw [w4_eq]; decide +kernel
example : (ofs4.appendFile "/f/y".toList w4).2.leaves = w4.leaves := by
  rw [w4_eq]; decide +kernel
example : ofs4.createDir "/f/y".toList w4 = (.err .other none, w4) :=
  (ensure_parent_file_refusedN w4_setting ["f".toList] "y".toList (by simp) (by decide)
    (by decide) (fileOf [76, 50]) (by decide) rfl).1

end Vfs.C09
