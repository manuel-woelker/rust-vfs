/-
  C18 — EmbeddedFS is a faithful read-only view of the embedded folder.

  * every mutator is `NotSupported` and leaves the world alone; observers never change the
    world and never panic;
  * the directory map built by `EmbeddedFS::new` is characterised EXACTLY, for every file list
    (no hypothesis): `d ↦ children` with `c ∈ children` iff some embedded path has components
    `pre ++ c :: post` with `d = pre` joined by '/'  (`has_new`);
  * under `FolderLike fl` (what a real folder gives: non-empty components, distinct paths, no
    file that is also a directory) files, directories, the root and absent paths are observed
    as they should be.
  `key cs` is the relative path "c1/c2/…/cn" of a component list; the VFS path is `'/' :: key cs`.
-/
import VfsModel.Embedded
import VfsModel.Proofs.PathLemmas
import VfsModel.Props.C06
namespace Vfs.C18
open Vfs.Embedded

theorem embedded_readonly (s : State) (p q : Str) (t : Int) (w : World) :
    (fs s).createDir p w = (fail .notSupported, w) ∧
    ((fs s).createFile p w).2 = w ∧ ((fs s).createFile p w).1 = fail .notSupported ∧
    ((fs s).appendFile p w).2 = w ∧ ((fs s).appendFile p w).1 = fail .notSupported ∧
    (fs s).removeFile p w = (fail .notSupported, w) ∧
    (fs s).removeDir p w = (fail .notSupported, w) ∧
    (fs s).setCreationTime p t w = (fail .notSupported, w) ∧
    (fs s).setModificationTime p t w = (fail .notSupported, w) ∧
    (fs s).setAccessTime p t w = (fail .notSupported, w) ∧
    (fs s).copyFile p q w = (fail .notSupported, w) ∧
    (fs s).moveFile p q w = (fail .notSupported, w) ∧
    (fs s).moveDir p q w = (fail .notSupported, w) :=
  ⟨rfl, rfl, rfl, rfl, rfl, rfl, rfl, rfl, rfl, rfl, rfl, rfl, rfl⟩

theorem observers_pure (s : State) (p : Str) (w : World) :
    (fs s).readDir p w = (readDir s p, w) ∧
    (fs s).openFile p w = (openFile s p, w) ∧
    (fs s).metadata p w = (metadata s p, w) ∧
    (fs s).exists_ p w = (.ok (exists_ s p), w) := ⟨rfl, rfl, rfl, rfl⟩

/-- `normalize_path("")` is `""`, and `open_file` goes through `normalize_path` like the others -/
theorem observers_no_panic (s : State) (p : Str) :
    readDir s p ≠ .panic ∧ openFile s p ≠ .panic ∧ metadata s p ≠ .panic := by
  refine ⟨?_, ?_, ?_⟩
  · unfold readDir; split
    · simp
    · split <;> simp [fail]
  · unfold openFile; split <;> simp [fail]
  · unfold metadata; split
    · simp
    · split <;> simp [fail]

def key (cs : List Str) : Str := (renderC cs).drop 1

@[simp] theorem key_nil : key [] = [] := rfl
@[simp] theorem key_single (c : Str) : key [c] = c := by simp [key]

theorem renderC_eq (cs : List Str) (h : cs ≠ []) : renderC cs = '/' :: key cs := by
  cases cs with
  | nil => exact absurd rfl h
  | cons c cs => simp [key]

theorem key_snoc (cs : List Str) (c : Str) (h : cs ≠ []) :
    key (cs ++ [c]) = key cs ++ '/' :: c := by
  show (renderC (cs ++ [c])).drop 1 = _
  rw [renderC_snoc, renderC_eq cs h]
  simp

theorem key_append (a b : List Str) (ha : a ≠ []) (hb : b ≠ []) :
    key (a ++ b) = key a ++ '/' :: key b := by
  show (renderC (a ++ b)).drop 1 = _
  rw [renderC_append, renderC_eq a ha, renderC_eq b hb]
  simp

theorem normalize_renderC (cs : List Str) : normalize (renderC cs) = key cs := rfl

theorem renderC_splitSlash (s : Str) : renderC (splitOnC '/' s) = '/' :: s := by
  induction s with
  | nil => simp [splitOnC]
  | cons c cs ih =>
    unfold splitOnC
    split
    · rename_i h; subst h; simp [ih]
    · cases hsp : splitOnC '/' cs with
      | nil => exact absurd hsp (splitOnC_ne_nil _ _)
      | cons h t =>
        rw [hsp] at ih
        simp only [renderC_cons, List.cons_append, List.cons.injEq, true_and] at ih ⊢
        exact ih

theorem key_splitSlash (s : Str) : key (splitSlash s) = s := by
  unfold key splitSlash; rw [renderC_splitSlash]; rfl

theorem splitOnC_length_le (d : Char) (s : Str) : (splitOnC d s).length ≤ s.length + 1 := by
  induction s with
  | nil => simp [splitOnC]
  | cons c cs ih =>
    unfold splitOnC
    split
    · simp; omega
    · cases hsp : splitOnC d cs with
      | nil => simp
      | cons h t => rw [hsp] at ih; simp at ih ⊢; omega

theorem rsplitOnce_key_snoc (cs : List Str) (c : Str) (h : cs ≠ []) (hc : '/' ∉ c) :
    rsplitOnce (key (cs ++ [c])) = some (key cs, c) := by
  rw [key_snoc cs c h]
  unfold rsplitOnce
  rw [if_pos (by simp), beforeLast_append_delim _ _ _ hc, afterLast_append_delim _ _ _ hc]

theorem rsplitOnce_no_slash (c : Str) (hc : '/' ∉ c) : rsplitOnce c = none := by
  unfold rsplitOnce; rw [if_neg hc]

def Has (d : DirMap) (k c : Str) : Prop := ∃ v, d.get? k = some v ∧ c ∈ v

/-- no key maps to the empty set (an entry is created only together with a child) -/
def NonEmptyVals (d : DirMap) : Prop := ∀ k v, d.get? k = some v → v ≠ []

/-- no child is listed twice (the Rust value is a `HashSet`) -/
def NodupVals (d : DirMap) : Prop := ∀ k v, d.get? k = some v → v.Nodup

theorem get?_add_self (d : DirMap) (k c : Str) :
    (d.add k c).get? k = some (match d.get? k with
      | none => [c]
      | some v => if c ∈ v then v else v ++ [c]) := by
  induction d with
  | nil => simp [DirMap.add, DirMap.get?]
  | cons kv rest ih =>
    obtain ⟨k', v⟩ := kv
    unfold DirMap.add
    by_cases h : k' = k
    · simp [h, DirMap.get?]
    · simp [h, DirMap.get?, ih]

theorem get?_add_ne (d : DirMap) (k c k' : Str) (h : k' ≠ k) :
    (d.add k c).get? k' = d.get? k' := by
  induction d with
  | nil =>
    have h' : ¬ k = k' := fun e => h e.symm
    simp [DirMap.add, DirMap.get?, h']
  | cons kv rest ih =>
    obtain ⟨k1, v⟩ := kv
    unfold DirMap.add
    by_cases h1 : k1 = k
    · subst h1
      have h' : ¬ k1 = k' := fun e => h e.symm
      simp [DirMap.get?, h']
    · simp only [if_neg h1, DirMap.get?, ih]

theorem has_add (d : DirMap) (k c k' c' : Str) :
    Has (d.add k c) k' c' ↔ Has d k' c' ∨ (k' = k ∧ c' = c) := by
  unfold Has
  by_cases hk : k' = k
  · subst hk
    rw [get?_add_self]
    cases hg : d.get? k' with
    | none => simp
    | some v =>
      by_cases hc : c ∈ v
      · simp only [hc, if_true, Option.some.injEq, exists_eq_left', true_and]
        constructor
        · exact Or.inl
        · rintro (h | rfl)
          · exact h
          · exact hc
      · simp [hc]
  · rw [get?_add_ne _ _ _ _ hk]; simp [hk]

/-- a property of the child sets that holds of a fresh set `[c]` and survives the insertion of `c`
survives `add` -/
theorem vals_add (P : List Str → Prop) (d : DirMap) (k c : Str) (h0 : P [c])
    (hins : ∀ v, P v → c ∉ v → P (v ++ [c])) (h : ∀ k v, d.get? k = some v → P v) :
    ∀ k' v, (d.add k c).get? k' = some v → P v := by
  intro k' v hv
  by_cases hk : k' = k
  · subst hk
    rw [get?_add_self] at hv
    injection hv with hv
    subst hv
    cases hg : d.get? k' with
    | none => exact h0
    | some v0 =>
      dsimp only
      split
      · exact h k' v0 hg
      · rename_i hc; exact hins v0 (h k' v0 hg) hc
  · rw [get?_add_ne _ _ _ _ hk] at hv; exact h k' v hv

theorem nonEmptyVals_add (d : DirMap) (k c : Str) (h : NonEmptyVals d) :
    NonEmptyVals (d.add k c) :=
  vals_add (· ≠ []) d k c (by simp) (fun v _ _ => by simp) h

theorem nodupVals_add (d : DirMap) (k c : Str) (h : NodupVals d) : NodupVals (d.add k c) :=
  vals_add List.Nodup d k c (by simp) (fun v hv hc => by
    rw [List.nodup_append]
    refine ⟨hv, by simp, ?_⟩
    intro a ha b hb
    simp at hb; subst hb
    intro e; subst e; exact hc ha) h

theorem climb_preserves (P : DirMap → Prop) (hadd : ∀ d k c, P d → P (d.add k c))
    (fuel : Nat) (d : DirMap) (path : Str) (h : P d) : P (climb fuel d path) := by
  induction fuel generalizing d path with
  | zero => unfold climb; exact hadd _ _ _ h
  | succ fuel ih =>
    unfold climb
    split
    · exact ih _ _ (hadd _ _ _ h)
    · exact hadd _ _ _ h

theorem fold_preserves (P : DirMap → Prop) (hadd : ∀ d k c, P d → P (d.add k c))
    (fl : List (Str × Bytes)) (d : DirMap) (h : P d) :
    P (fl.foldl (fun d f => climb f.1.length d f.1) d) := by
  induction fl generalizing d with
  | nil => exact h
  | cons f _ ih => exact ih _ (climb_preserves P hadd _ _ _ h)

theorem new_nonEmptyVals (fl : List (Str × Bytes)) : NonEmptyVals (new fl).directoryMap :=
  fold_preserves _ nonEmptyVals_add fl [] (fun k v h => by simp [DirMap.get?] at h)

theorem new_nodupVals (fl : List (Str × Bytes)) : NodupVals (new fl).directoryMap :=
  fold_preserves _ nodupVals_add fl [] (fun k v h => by simp [DirMap.get?] at h)

theorem isSome_get?_iff (d : DirMap) (h : NonEmptyVals d) (k : Str) :
    (d.get? k).isSome = true ↔ ∃ c, Has d k c := by
  unfold Has
  cases hg : d.get? k with
  | none => simp
  | some v =>
    have := h k v hg
    cases v with
    | nil => exact absurd rfl this
    | cons a t => simp

/-- one run of the `while let Some((prefix, suffix)) = rsplit_once(path)` loop on the path
with components `cs`: it records, for every split `cs = pre ++ x :: post`, the child `x`
under the directory `pre` — and nothing else. The fuel used by `new` (the length of the
string) is always enough. -/
theorem has_climb_aux (n : Nat) : ∀ (cs : List Str), cs.length = n + 1 → (∀ c ∈ cs, '/' ∉ c) →
    ∀ fuel, n ≤ fuel → ∀ (d : DirMap) (k x : Str),
    (Has (climb fuel d (key cs)) k x ↔
      Has d k x ∨ ∃ pre post, cs = pre ++ x :: post ∧ k = key pre) := by
  induction n with
  | zero =>
    intro cs hlen hsl fuel _ d k x
    cases cs with
    | nil => simp at hlen
    | cons c t =>
      cases t with
      | cons _ _ => simp at hlen
      | nil =>
        have hc : '/' ∉ c := hsl c (by simp)
        have hcl : climb fuel d (key [c]) = d.add [] c := by
          rw [key_single]
          cases fuel with
          | zero => rfl
          | succ f => unfold climb; rw [rsplitOnce_no_slash c hc]
        rw [hcl, has_add]
        constructor
        · rintro (h | ⟨rfl, rfl⟩)
          · exact Or.inl h
          · exact Or.inr ⟨[], [], rfl, rfl⟩
        · rintro (h | ⟨pre, post, he, rfl⟩)
          · exact Or.inl h
          · right
            cases pre with
            | nil => simp at he; exact ⟨rfl, he.1.symm⟩
            | cons a pre' => simp at he
  | succ n ih =>
    intro cs hlen hsl fuel hfuel d k x
    rcases List.eq_nil_or_concat cs with rfl | ⟨l, c, rfl⟩
    · simp at hlen
    · simp only [List.concat_eq_append] at hlen hsl ⊢
      have hl : l.length = n + 1 := by simpa using hlen
      have hlne : l ≠ [] := by intro e; subst e; simp at hl
      have hc : '/' ∉ c := hsl c (by simp)
      obtain ⟨fuel', rfl⟩ : ∃ f', fuel = f' + 1 := ⟨fuel - 1, by omega⟩
      have hcl : climb (fuel' + 1) d (key (l ++ [c])) = climb fuel' (d.add (key l) c) (key l) := by
        rw [climb, rsplitOnce_key_snoc l c hlne hc]
      rw [hcl, ih l hl (fun c hc => hsl c (by simp [hc])) fuel' (by omega), has_add]
      constructor
      · rintro ((h | ⟨rfl, rfl⟩) | ⟨pre, post, rfl, rfl⟩)
        · exact Or.inl h
        · exact Or.inr ⟨l, [], rfl, rfl⟩
        · exact Or.inr ⟨pre, post ++ [c], by simp, rfl⟩
      · rintro (h | ⟨pre, post, he, rfl⟩)
        · exact Or.inl (Or.inl h)
        · rcases List.eq_nil_or_concat post with rfl | ⟨post', y, rfl⟩
          · have := List.append_inj' he rfl
            obtain ⟨h1, h2⟩ := this
            simp at h2
            subst h1; subst h2
            exact Or.inl (Or.inr ⟨rfl, rfl⟩)
          · simp only [List.concat_eq_append] at he
            have he' : l ++ [c] = (pre ++ x :: post') ++ [y] := by simpa using he
            have := (List.append_inj' he' rfl).1
            exact Or.inr ⟨pre, post', this, rfl⟩

theorem has_climb (s : Str) (d : DirMap) (k x : Str) :
    Has (climb s.length d s) k x ↔
      Has d k x ∨ ∃ pre post, splitSlash s = pre ++ x :: post ∧ k = key pre := by
  have hne := splitOnC_ne_nil '/' s
  have hlen := splitOnC_length_le '/' s
  obtain ⟨n, hn⟩ : ∃ n, (splitSlash s).length = n + 1 := by
    refine ⟨(splitSlash s).length - 1, ?_⟩
    have : (splitSlash s).length ≠ 0 := fun e => hne (List.eq_nil_of_length_eq_zero e)
    omega
  have := has_climb_aux n (splitSlash s) hn (splitOnC_no_delim '/' s) s.length
    (by unfold splitSlash at hn; omega) d k x
  rw [key_splitSlash] at this
  exact this

theorem has_fold (fl : List (Str × Bytes)) (d0 : DirMap) (k x : Str) :
    Has (fl.foldl (fun d f => climb f.1.length d f.1) d0) k x ↔
      Has d0 k x ∨ ∃ f ∈ fl, ∃ pre post, splitSlash f.1 = pre ++ x :: post ∧ k = key pre := by
  induction fl generalizing d0 with
  | nil => simp
  | cons f rest ih =>
    rw [List.foldl_cons, ih, has_climb]
    simp only [List.mem_cons, exists_eq_or_imp, or_assoc]

/-- THE characterisation of the directory map of `EmbeddedFS::new`, for every file list:
`x` is listed under `k` iff some embedded path splits as `pre / x / post` with `k = pre` -/
theorem has_new (fl : List (Str × Bytes)) (k x : Str) :
    Has (new fl).directoryMap k x ↔
      ∃ f ∈ fl, ∃ pre post, splitSlash f.1 = pre ++ x :: post ∧ k = key pre := by
  unfold new
  rw [has_fold]
  simp [Has, DirMap.get?]

theorem isDir_new_iff (fl : List (Str × Bytes)) (k : Str) :
    ((new fl).directoryMap.get? k).isSome = true ↔
      ∃ f ∈ fl, ∃ pre x post, splitSlash f.1 = pre ++ x :: post ∧ k = key pre := by
  rw [isSome_get?_iff _ (new_nonEmptyVals fl)]
  constructor
  · rintro ⟨c, hc⟩
    obtain ⟨f, hf, pre, post, h1, h2⟩ := (has_new fl k c).mp hc
    exact ⟨f, hf, pre, c, post, h1, h2⟩
  · rintro ⟨f, hf, pre, x, post, h1, h2⟩
    exact ⟨x, (has_new fl k x).mpr ⟨f, hf, pre, post, h1, h2⟩⟩

theorem dirmap_none (fl : List (Str × Bytes)) (k : Str)
    (h : ∀ f ∈ fl, ∀ pre x post, splitSlash f.1 = pre ++ x :: post → k ≠ key pre) :
    (new fl).directoryMap.get? k = none := by
  cases hg : (new fl).directoryMap.get? k with
  | none => rfl
  | some v =>
    obtain ⟨g, hg', pre, x, post, hsp, hk⟩ := (isDir_new_iff fl k).mp (by rw [hg]; rfl)
    exact absurd hk (h g hg' pre x post hsp)

/-- soundness of `read_dir` listings, for every file list -/
theorem children_sound (fl : List (Str × Bytes)) (d : Str) (children : List Str) (c : Str)
    (h : (new fl).directoryMap.get? d = some children) (hc : c ∈ children) :
    ∃ f ∈ fl, ∃ pre post, splitSlash f.1 = pre ++ c :: post ∧ d = key pre :=
  (has_new fl d c).mp ⟨children, h, hc⟩

theorem children_sound_str (fl : List (Str × Bytes)) (d : Str) (children : List Str) (c : Str)
    (h : (new fl).directoryMap.get? d = some children) (hc : c ∈ children) (hd : d ≠ []) :
    ∃ f ∈ fl, f.1 = d ++ '/' :: c ∨ ∃ rest, f.1 = d ++ '/' :: c ++ '/' :: rest := by
  obtain ⟨f, hf, pre, post, hsp, rfl⟩ := children_sound fl d children c h hc
  refine ⟨f, hf, ?_⟩
  have hpre : pre ≠ [] := by intro e; subst e; exact hd rfl
  have : f.1 = key (pre ++ c :: post) := by rw [← hsp, key_splitSlash]
  rw [this]
  cases post with
  | nil => left; exact key_snoc pre c hpre
  | cons y ys =>
    right
    refine ⟨key (y :: ys), ?_⟩
    rw [key_append pre (c :: y :: ys) hpre (by simp),
      show c :: y :: ys = [c] ++ (y :: ys) from rfl, key_append [c] (y :: ys) (by simp) (by simp)]
    simp

theorem root_children_sound (fl : List (Str × Bytes)) (children : List Str) (c : Str)
    (h : (new fl).directoryMap.get? [] = some children) (hc : c ∈ children) :
    ∃ f ∈ fl, ∃ pre post, splitSlash f.1 = pre ++ c :: post ∧ key pre = [] := by
  obtain ⟨f, hf, pre, post, h1, h2⟩ := children_sound fl [] children c h hc
  exact ⟨f, hf, pre, post, h1, h2.symm⟩

/-- completeness of `read_dir` listings, each name listed once -/
theorem children_complete (fl : List (Str × Bytes)) (f : Str × Bytes) (hf : f ∈ fl)
    (pre post : List Str) (c : Str) (hsp : splitSlash f.1 = pre ++ c :: post) :
    ∃ children, (new fl).directoryMap.get? (key pre) = some children ∧ c ∈ children ∧
      children.Nodup := by
  obtain ⟨v, hv, hc⟩ := (has_new fl (key pre) c).mpr ⟨f, hf, pre, post, hsp, rfl⟩
  exact ⟨v, hv, hc, new_nodupVals fl _ v hv⟩

theorem children_complete_str (fl : List (Str × Bytes)) (d rest : Str) (b : Bytes)
    (hf : (d ++ '/' :: rest, b) ∈ fl) :
    ∃ children, (new fl).directoryMap.get? d = some children ∧
      (splitSlash rest).head? = some ((splitSlash rest).headD []) ∧
      (splitSlash rest).headD [] ∈ children := by
  have hsp : splitSlash (d ++ '/' :: rest) = splitSlash d ++ splitSlash rest :=
    C06.splitOnC_append '/' d rest
  cases hr : splitSlash rest with
  | nil => exact absurd hr (splitOnC_ne_nil _ _)
  | cons c post =>
    rw [hr] at hsp
    obtain ⟨v, hv, hc, _⟩ := children_complete fl _ hf (splitSlash d) post c hsp
    rw [key_splitSlash] at hv
    exact ⟨v, hv, rfl, hc⟩

theorem fileGet?_eq_none (fl : List (Str × Bytes)) (k : Str) (h : ∀ f ∈ fl, f.1 ≠ k) :
    fileGet? fl k = none := by
  induction fl with
  | nil => rfl
  | cons f rest ih =>
    obtain ⟨k', v⟩ := f
    unfold fileGet?
    rw [if_neg (h (k', v) (by simp))]
    exact ih (fun f hf => h f (by simp [hf]))

theorem fileGet?_some_mem (fl : List (Str × Bytes)) (k : Str) (b : Bytes)
    (h : fileGet? fl k = some b) : (k, b) ∈ fl := by
  induction fl with
  | nil => cases h
  | cons f rest ih =>
    obtain ⟨k', v⟩ := f
    unfold fileGet? at h
    split at h
    · rename_i hk; injection h with h; subst hk; subst h; simp
    · simp [ih h]

theorem fileGet?_of_mem (fl : List (Str × Bytes)) (k : Str) (b : Bytes)
    (hnd : (fl.map (·.1)).Nodup) (h : (k, b) ∈ fl) : fileGet? fl k = some b := by
  induction fl with
  | nil => cases h
  | cons f rest ih =>
    obtain ⟨k', v⟩ := f
    simp only [List.map_cons, List.nodup_cons] at hnd
    unfold fileGet?
    simp only [List.mem_cons, Prod.mk.injEq] at h
    rcases h with ⟨rfl, rfl⟩ | h
    · simp
    · have : k' ≠ k := by
        intro e; subst e
        exact hnd.1 (List.mem_map.mpr ⟨(k', b), h, rfl⟩)
      rw [if_neg this]
      exact ih hnd.2 h

/-- the shape of the list `RustEmbed` produces for a folder: every path is a '/'-joined list
of non-empty components (hence relative, without leading, trailing or doubled '/'), the paths
are distinct, and no file path is a proper directory prefix of a file path -/
def FolderLike (fl : List (Str × Bytes)) : Prop :=
  (∀ f ∈ fl, ∀ c ∈ splitSlash f.1, c ≠ []) ∧
  (fl.map (·.1)).Nodup ∧
  (∀ f ∈ fl, ∀ g ∈ fl, ∀ i ∈ List.range (splitSlash g.1).length,
      f.1 ≠ key ((splitSlash g.1).take i))

instance (fl : List (Str × Bytes)) : Decidable (FolderLike fl) := by
  unfold FolderLike; exact inferInstance

theorem FolderLike.path_ne_nil {fl} (h : FolderLike fl) (f : Str × Bytes) (hf : f ∈ fl) :
    f.1 ≠ [] := by
  intro e
  have := h.1 f hf [] (by rw [e]; simp [splitSlash, splitOnC])
  exact this rfl

theorem FolderLike.relative {fl} (h : FolderLike fl) (f : Str × Bytes) (hf : f ∈ fl) :
    f.1.head? ≠ some '/' := by
  intro e
  cases hp : f.1 with
  | nil => rw [hp] at e; cases e
  | cons c cs =>
    rw [hp] at e; simp at e; subst e
    have := h.1 f hf [] (by rw [hp]; simp [splitSlash, splitOnC])
    exact this rfl

theorem FolderLike.dir_not_file {fl} (h : FolderLike fl) (g : Str × Bytes) (hg : g ∈ fl)
    (pre post : List Str) (c : Str) (hsp : splitSlash g.1 = pre ++ c :: post) :
    fileGet? fl (key pre) = none := by
  apply fileGet?_eq_none
  intro f hf
  have := h.2.2 f hf g hg pre.length (by rw [hsp]; simp)
  rw [hsp] at this
  simpa using this

/-- `h`: first occurrence of the path `f` in the list; no other hypothesis on the list -/
theorem file_visible (fl : List (Str × Bytes)) (f : Str) (b : Bytes)
    (h : fileGet? fl f = some b) :
    exists_ (new fl) ('/' :: f) = true ∧
    metadata (new fl) ('/' :: f) =
      .ok { ftype := .file, len := b.length, created := .now, modified := .now,
            accessed := .unset } ∧
    openFile (new fl) ('/' :: f) = .ok { content := b, pos := 0 } := by
  have hs : (new fl).files = fl := rfl
  simp [exists_, metadata, openFile, normalize, hs, h]

theorem file_visible_mem (fl : List (Str × Bytes)) (hF : FolderLike fl) (f : Str) (b : Bytes)
    (h : (f, b) ∈ fl) :
    exists_ (new fl) ('/' :: f) = true ∧
    metadata (new fl) ('/' :: f) =
      .ok { ftype := .file, len := b.length, created := .now, modified := .now,
            accessed := .unset } ∧
    openFile (new fl) ('/' :: f) = .ok { content := b, pos := 0 } :=
  file_visible fl f b (fileGet?_of_mem fl f b hF.2.1 h)

theorem readDir_file (fl : List (Str × Bytes)) (hF : FolderLike fl) (f : Str) (b : Bytes)
    (h : (f, b) ∈ fl) : readDir (new fl) ('/' :: f) = fail .other := by
  have hs : (new fl).files = fl := rfl
  have hnot : (new fl).directoryMap.get? f = none :=
    dirmap_none fl f fun g hg' pre x post hsp hk => by
      have := hF.dir_not_file g hg' pre post x hsp
      rw [← hk, fileGet?_of_mem fl f b hF.2.1 h] at this
      cases this
  simp [readDir, normalize, hs, hnot, fileGet?_of_mem fl f b hF.2.1 h]

/-- every proper directory prefix `pre` of an embedded path is observed as a directory (`pre = []` is
the root, spelled "/") -/
theorem dir_visible (fl : List (Str × Bytes)) (hF : FolderLike fl) (f : Str × Bytes)
    (hf : f ∈ fl) (pre post : List Str) (c : Str)
    (hsp : splitSlash f.1 = pre ++ c :: post) :
    ∃ children, (new fl).directoryMap.get? (key pre) = some children ∧ c ∈ children ∧
      children.Nodup ∧
      readDir (new fl) ('/' :: key pre) = .ok children ∧
      metadata (new fl) ('/' :: key pre) =
        .ok { ftype := .dir, len := 0, created := .unset, modified := .unset,
              accessed := .unset } ∧
      exists_ (new fl) ('/' :: key pre) = true ∧
      openFile (new fl) ('/' :: key pre) = fail .fileNotFound := by
  obtain ⟨v, hv, hc, hnd⟩ := children_complete fl f hf pre post c hsp
  have hnf := hF.dir_not_file f hf pre post c hsp
  have hs : (new fl).files = fl := rfl
  refine ⟨v, hv, hc, hnd, ?_, ?_, ?_, ?_⟩ <;>
    simp [readDir, metadata, exists_, openFile, normalize, hs, hv, hnf]

theorem split_at_index (cs : List Str) (k : Nat) (hk : k < cs.length) :
    cs = cs.take k ++ cs[k] :: cs.drop (k + 1) := by
  conv => lhs; rw [← List.take_append_drop k cs]
  rw [List.drop_eq_getElem_cons hk]

theorem dir_visible_index (fl : List (Str × Bytes)) (hF : FolderLike fl) (f : Str × Bytes)
    (hf : f ∈ fl) (k : Nat) (hk : k < (splitSlash f.1).length) :
    ∃ children,
      (new fl).directoryMap.get? (key ((splitSlash f.1).take k)) = some children ∧
      (splitSlash f.1)[k] ∈ children ∧
      readDir (new fl) ('/' :: key ((splitSlash f.1).take k)) = .ok children ∧
      metadata (new fl) ('/' :: key ((splitSlash f.1).take k)) =
        .ok { ftype := .dir, len := 0, created := .unset, modified := .unset,
              accessed := .unset } := by
  obtain ⟨v, h1, h2, _, h3, h4, _⟩ := dir_visible fl hF f hf _ _ _
    (split_at_index (splitSlash f.1) k hk)
  exact ⟨v, h1, h2, h3, h4⟩

theorem dir_visible_str (fl : List (Str × Bytes)) (hF : FolderLike fl) (d rest : Str) (b : Bytes)
    (hf : (d ++ '/' :: rest, b) ∈ fl) :
    ∃ children, readDir (new fl) ('/' :: d) = .ok children ∧
      (splitSlash rest).headD [] ∈ children ∧
      metadata (new fl) ('/' :: d) =
        .ok { ftype := .dir, len := 0, created := .unset, modified := .unset,
              accessed := .unset } ∧
      exists_ (new fl) ('/' :: d) = true ∧ openFile (new fl) ('/' :: d) = fail .fileNotFound := by
  have hsp : splitSlash (d ++ '/' :: rest) = splitSlash d ++ splitSlash rest :=
    C06.splitOnC_append '/' d rest
  cases hr : splitSlash rest with
  | nil => exact absurd hr (splitOnC_ne_nil _ _)
  | cons c post =>
    rw [hr] at hsp
    obtain ⟨v, _, h2, _, h3, h4, h5, h6⟩ := dir_visible fl hF _ hf (splitSlash d) post c hsp
    rw [key_splitSlash] at h3 h4 h5 h6
    exact ⟨v, h3, h2, h4, h5, h6⟩

theorem root_exists (fl : List (Str × Bytes)) :
    exists_ (new fl) [] = true ∧ exists_ (new fl) ['/'] = true := by
  simp [exists_, normalize]

theorem root_listed (fl : List (Str × Bytes)) (f : Str × Bytes) (hf : f ∈ fl) :
    ∃ children, (new fl).directoryMap.get? [] = some children ∧
      (∀ g ∈ fl, (splitSlash g.1).headD [] ∈ children) ∧
      readDir (new fl) [] = .ok children ∧ readDir (new fl) ['/'] = .ok children := by
  cases hr : splitSlash f.1 with
  | nil => exact absurd hr (splitOnC_ne_nil _ _)
  | cons c post =>
    obtain ⟨v, hv, _, _⟩ := children_complete fl f hf [] post c hr
    rw [key_nil] at hv
    refine ⟨v, hv, ?_, by simp [readDir, normalize, hv], by simp [readDir, normalize, hv]⟩
    intro g hg
    cases hr' : splitSlash g.1 with
    | nil => exact absurd hr' (splitOnC_ne_nil _ _)
    | cons c' post' =>
      obtain ⟨v', hv', hc', _⟩ := children_complete fl g hg [] post' c' hr'
      rw [key_nil, hv] at hv'
      injection hv' with hv'
      subst hv'
      exact hc'

/-- the root behaves like any other directory -/
theorem root_is_dir (fl : List (Str × Bytes)) (hF : FolderLike fl) (f : Str × Bytes)
    (hf : f ∈ fl) :
    openFile (new fl) [] = fail .fileNotFound ∧ openFile (new fl) ['/'] = fail .fileNotFound ∧
    metadata (new fl) ['/'] =
      .ok { ftype := .dir, len := 0, created := .unset, modified := .unset,
            accessed := .unset } := by
  have hs : (new fl).files = fl := rfl
  have hnf : fileGet? fl [] = none :=
    fileGet?_eq_none fl [] (fun g hg => hF.path_ne_nil g hg)
  obtain ⟨v, hv, _⟩ := root_listed fl f hf
  simp [openFile, metadata, normalize, hs, hnf, hv]

/-- the empty folder: the root still exists, but it is not in the directory map, so
`read_dir("")` and `metadata("")` answer not-found (a quirk of the implementation) -/
theorem empty_folder_root :
    exists_ (new []) [] = true ∧ readDir (new []) [] = fail .fileNotFound ∧
    metadata (new []) [] = fail .fileNotFound := by
  simp [exists_, readDir, metadata, normalize, new, DirMap.get?, fileGet?]

/-- every observer answers not-found on a path that is neither an embedded file nor a directory
prefix of one; no hypothesis on the list -/
theorem absent (fl : List (Str × Bytes)) (p : Str) (hp : p ≠ [])
    (hfile : ∀ f ∈ fl, f.1 ≠ p)
    (hdir : ∀ f ∈ fl, ∀ pre x post, splitSlash f.1 = pre ++ x :: post → p ≠ key pre) :
    (new fl).directoryMap.get? p = none ∧
    exists_ (new fl) ('/' :: p) = false ∧
    metadata (new fl) ('/' :: p) = fail .fileNotFound ∧
    readDir (new fl) ('/' :: p) = fail .fileNotFound ∧
    openFile (new fl) ('/' :: p) = fail .fileNotFound := by
  have hs : (new fl).files = fl := rfl
  have hnf := fileGet?_eq_none fl p hfile
  have hnd : (new fl).directoryMap.get? p = none := dirmap_none fl p hdir
  refine ⟨hnd, ?_, ?_, ?_, ?_⟩ <;>
    simp [exists_, metadata, readDir, openFile, normalize, hs, hnf, hnd, hp]

def fixture : List (Str × Bytes) :=
  [ ("a.txt".toList, [1, 2, 3]), ("a/d.txt".toList, [4]), ("a/x/y.bin".toList, [5, 6]),
    ("ab".toList, []) ]

example : FolderLike fixture := by decide +kernel

example : ¬ FolderLike [("a".toList, []), ("a/b".toList, [])] := by decide +kernel
example : ¬ FolderLike [("/a".toList, [])] := by decide +kernel
example : ¬ FolderLike [("a//b".toList, [])] := by decide +kernel

example : readDir (new fixture) "/a".toList = .ok ["d.txt".toList, "x".toList] := by
  decide +kernel
example : ∀ l, readDir (new fixture) "/a".toList = .ok l →
    l.isPerm ["x".toList, "d.txt".toList] = true := by
  intro l h
  have : readDir (new fixture) "/a".toList = .ok ["d.txt".toList, "x".toList] := by
    decide +kernel
  rw [this] at h; injection h with h; subst h; decide
example : readDir (new fixture) [] = .ok ["a.txt".toList, "a".toList, "ab".toList] := by
  decide +kernel
example : readDir (new fixture) "/".toList = .ok ["a.txt".toList, "a".toList, "ab".toList] := by
  decide +kernel
example : readDir (new fixture) "/a/x".toList = .ok ["y.bin".toList] := by decide +kernel
/-- test: "a" and "ab" and "a.txt" are not confused by prefix matching -/
example : readDir (new fixture) "/ab".toList = fail .other := by decide +kernel
example : readDir (new fixture) "/a.t".toList = fail .fileNotFound := by decide +kernel
example : exists_ (new fixture) "/a/x".toList = true ∧ exists_ (new fixture) "/a/y".toList = false
    ∧ exists_ (new fixture) "/a/".toList = false := by decide +kernel
example : metadata (new fixture) "/a/x/y.bin".toList =
    .ok { ftype := .file, len := 2, created := .now, modified := .now, accessed := .unset } := by
  decide +kernel
example : metadata (new fixture) "/a".toList =
    .ok { ftype := .dir, len := 0, created := .unset, modified := .unset, accessed := .unset } := by
  decide +kernel
example : openFile (new fixture) "/a/d.txt".toList = .ok { content := [4], pos := 0 } := by
  decide +kernel
example : openFile (new fixture) "/a".toList = fail .fileNotFound := by decide +kernel
example : openFile (new fixture) [] = fail .fileNotFound := by decide +kernel
example : splitSlash "a/x/y.bin".toList = ["a".toList, "x".toList, "y.bin".toList] := by
  decide +kernel
example : key ["a".toList, "x".toList] = "a/x".toList := by decide +kernel

end Vfs.C18
