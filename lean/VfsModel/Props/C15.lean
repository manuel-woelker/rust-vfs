/-
  C15, streams and read handles. `pollNext` (async `WalkDirIterator::poll_next`,
  src/async_vfs/path.rs) against `syncNext` (sync `WalkDirIterator::next`, src/path.rs), both of
  VfsModel/AsyncWalk.lean, over the same tree; every await point (inner stream, `read_dir` future of
  the top of `todo`, metadata future) asks an arbitrary oracle `List Bool`, `true` = Pending.
  Claimed: a Pending poll changes nothing observable and a Ready poll is the sync step
  (`poll_pending_stutters`, `poll_ready_matches_sync`); hence what a stream delivers is a prefix of
  the sync sequence under every schedule, and all of it once the oracle runs out of Pending answers
  (`prefix_of_sync`, `complete_when_fair`, `exact_when_sync_terminates`, `schedule_independent`);
  the path parked in `prev_result` while its metadata future is pending is the next item
  (`no_item_lost_on_metadata_pending`). Second part: the async in-memory read handle
  (`AsyncReadableFile`) is the sync one on every read/seek script (`runA_eq_sync`); the `poll_seek`
  of before commit 7765d49 was not (`seekHist_ne_sync`).

  The one-step simulation needs no invariant on the async state: the flags `rdFut`/`mdFut` do not
  steer the model, and `abs` puts `prev` back in front of the listing.

  Built into the model: listings are fused (a list), the tree does not change during the walk and
  answers the sync and the async calls alike, a panic inside `read_dir`/`metadata` is on both sides
  the item `error other none` instead of an unwinding.
-/
import VfsModel.AsyncWalk
import VfsModel.Handle
import VfsModel.Props.C14
namespace Vfs.C15
open Vfs.AsyncWalk

/-- the item both iterators yield for a path `x` taken from a listing -/
def mdItem (t : Tree) (x : Str) : Item :=
  match t.md x with
  | .ok _ => .path x
  | .err k p => .error k p
  | .panic => .error .other none

def mdPush (t : Tree) (x : Str) (todo : List Str) : List Str :=
  match t.md x with
  | .ok .dir => x :: todo
  | _ => todo

theorem syncNext_cons (t : Tree) (x : Str) (inner todo : List Str) :
    syncNext t { inner := x :: inner, todo := todo }
      = (some (mdItem t x), { inner := inner, todo := mdPush t x todo }) := by
  simp only [syncNext, syncFind, mdItem, mdPush]
  cases h : t.md x with
  | ok ty => cases ty <;> rfl
  | err k p => rfl
  | panic => rfl

theorem metaStep_eq (t : Tree) (s : AsyncSt) (x : Str) (o : List Bool) :
    metaStep t s x o =
      if (ask o).1 then (.pending, { s with prev := some x, mdFut := true }, (ask o).2)
      else (.ready (some (mdItem t x)),
            { s with prev := none, mdFut := false, todo := mdPush t x s.todo }, (ask o).2) := by
  simp only [metaStep, mdItem, mdPush]
  cases (ask o).1
  · cases h : t.md x with
    | ok ty => cases ty <;> simp
    | err k p => simp
    | panic => simp
  · simp

theorem syncFind_pop (t : Tree) (d : Str) (rest l : List Str) (h : t.ls d = .ok l) :
    syncFind t [] (d :: rest) = syncFind t l rest := by
  cases l with
  | nil => simp only [syncFind, h]
  | cons x inner => simp only [syncFind, h]

theorem findLoop_eq (t : Tree) (todo : List Str) (s : AsyncSt) (o : List Bool) :
    findLoop t todo s o =
      if (ask o).1 then (.pending, { s with todo := todo }, (ask o).2)
      else
        match s.inner with
        | x :: inner => metaStep t { s with inner := inner, todo := todo } x (ask o).2
        | [] =>
          match todo with
          | [] => (.ready none, { s with todo := [] }, (ask o).2)
          | d :: rest =>
            if (ask (ask o).2).1 then
              (.pending, { s with todo := d :: rest, rdFut := true }, (ask (ask o).2).2)
            else
              match t.ls d with
              | .ok l => findLoop t rest { s with inner := l, rdFut := false } (ask (ask o).2).2
              | .err k p => (.ready (some (.error k p)), { s with todo := rest, rdFut := false }, (ask (ask o).2).2)
              | .panic => (.ready (some (.error .other none)), { s with todo := rest, rdFut := false }, (ask (ask o).2).2) := by
  cases todo <;> rw [findLoop] <;> rfl

def pendings : List Bool → Nat
  | [] => 0
  | true :: o => pendings o + 1
  | false :: o => pendings o

def cost : Poll → Nat
  | .pending => 1
  | .ready _ => 0

theorem ask_pendings (o : List Bool) :
    pendings o = (if (ask o).1 then 1 else 0) + pendings (ask o).2 := by
  match o with
  | [] => rfl
  | true :: o => simp [ask, pendings, Nat.add_comm]
  | false :: o => simp [ask, pendings]

def Sim (t : Tree) (a : SyncSt) (p : Poll) (s' : AsyncSt) : Prop :=
  match p with
  | .pending => syncNext t (abs s') = syncNext t a
  | .ready item => syncNext t a = (item, abs s')

theorem metaStep_sim (t : Tree) (s : AsyncSt) (x : Str) (o : List Bool) :
    Sim t { inner := x :: s.inner, todo := s.todo } (metaStep t s x o).1 (metaStep t s x o).2.1
    ∧ pendings o = cost (metaStep t s x o).1 + pendings (metaStep t s x o).2.2 := by
  rw [metaStep_eq, ask_pendings o]
  cases (ask o).1
  · simp [Sim, cost, abs, syncNext_cons]
  · simp [Sim, cost, abs]

theorem findLoop_sim (t : Tree) (todo : List Str) (s : AsyncSt) (o : List Bool)
    (hp : s.prev = none) :
    Sim t { inner := s.inner, todo := todo } (findLoop t todo s o).1 (findLoop t todo s o).2.1
    ∧ pendings o = cost (findLoop t todo s o).1 + pendings (findLoop t todo s o).2.2 := by
  induction todo generalizing s o with
  | nil =>
    rw [findLoop_eq, ask_pendings o]
    cases (ask o).1
    · cases hi : s.inner with
      | nil => simp [Sim, cost, abs, hp, syncNext, syncFind]
      | cons x inner =>
        have := metaStep_sim t { s with inner := inner, todo := [] } x (ask o).2
        simpa using this
    · simp [Sim, cost, abs, hp]
  | cons d rest ih =>
    rw [findLoop_eq, ask_pendings o]
    cases (ask o).1
    · cases hi : s.inner with
      | nil =>
        simp only [Bool.false_eq_true, ↓reduceIte, Nat.zero_add]
        rw [ask_pendings (ask o).2]
        cases (ask (ask o).2).1
        · cases hl : t.ls d with
          | ok l =>
            have := ih { s with inner := l, rdFut := false } (ask (ask o).2).2 hp
            simp only [Bool.false_eq_true, ↓reduceIte, Nat.zero_add]
            refine ⟨?_, this.2⟩
            have h1 := this.1
            revert h1
            generalize findLoop t rest { s with inner := l, rdFut := false } (ask (ask o).2).2 = r
            cases r.1 <;> simp [Sim, syncNext, syncFind_pop t d rest l hl]
          | err k p => simp [Sim, cost, abs, hp, syncNext, syncFind, hl]
          | panic => simp [Sim, cost, abs, hp, syncNext, syncFind, hl]
        · simp [Sim, cost, abs, hp]
      | cons x inner =>
        have := metaStep_sim t { s with inner := inner, todo := d :: rest } x (ask o).2
        simpa using this
    · simp [Sim, cost, abs, hp]

theorem pollNext_sim (t : Tree) (s : AsyncSt) (o : List Bool) :
    Sim t (abs s) (pollNext t s o).1 (pollNext t s o).2.1
    ∧ pendings o = cost (pollNext t s o).1 + pendings (pollNext t s o).2.2 := by
  unfold pollNext
  cases hp : s.prev with
  | none =>
    have := findLoop_sim t s.todo s o hp
    simpa [abs, hp] using this
  | some x =>
    have := metaStep_sim t s x o
    simpa [abs, hp] using this

/-- a `Pending` poll changes nothing observable; `s` need not be reachable -/
theorem poll_pending_stutters (t : Tree) (s s' : AsyncSt) (o o' : List Bool)
    (h : pollNext t s o = (.pending, s', o')) :
    syncNext t (abs s') = syncNext t (abs s) := by
  have := (pollNext_sim t s o).1
  rw [h] at this
  exact this

/-- a `Ready` poll yields exactly the item the sync iterator yields (`none` = end of the walk) -/
theorem poll_ready_matches_sync (t : Tree) (s s' : AsyncSt) (o o' : List Bool) (item : Option Item)
    (h : pollNext t s o = (.ready item, s', o')) :
    syncNext t (abs s) = (item, abs s') := by
  have := (pollNext_sim t s o).1
  rw [h] at this
  exact this

theorem poll_pending_cost (t : Tree) (s s' : AsyncSt) (o o' : List Bool)
    (h : pollNext t s o = (.pending, s', o')) : pendings o = pendings o' + 1 := by
  have := (pollNext_sim t s o).2
  rw [h] at this
  simpa [cost, Nat.add_comm] using this

theorem poll_ready_cost (t : Tree) (s s' : AsyncSt) (o o' : List Bool) (item : Option Item)
    (h : pollNext t s o = (.ready item, s', o')) : pendings o = pendings o' := by
  have := (pollNext_sim t s o).2
  rw [h] at this
  simpa [cost] using this

theorem poll_ready_when_exhausted (t : Tree) (s : AsyncSt) (o : List Bool) (h : pendings o = 0) :
    (pollNext t s o).1 ≠ .pending := by
  intro hp
  have := (pollNext_sim t s o).2
  rw [hp, h] at this
  simp [cost] at this
  omega

def drive : Nat → Tree → AsyncSt → List Bool → List Item
  | 0, _, _, _ => []
  | fuel + 1, t, s, o =>
    match pollNext t s o with
    | (.pending, s', o') => drive fuel t s' o'
    | (.ready (some it), s', o') => it :: drive fuel t s' o'
    | (.ready none, _, _) => []

def syncRun : Nat → Tree → SyncSt → List Item
  | 0, _, _ => []
  | fuel + 1, t, a =>
    match syncNext t a with
    | (some it, a') => it :: syncRun fuel t a'
    | (none, _) => []

theorem syncRun_congr (t : Tree) (a b : SyncSt) (n : Nat) (h : syncNext t a = syncNext t b) :
    syncRun n t a = syncRun n t b := by
  cases n with
  | zero => rfl
  | succ n => simp only [syncRun, h]

/-- whatever the poll schedule, the items delivered so far are a prefix of the sync sequence -/
theorem prefix_of_sync (t : Tree) (fuel : Nat) (s : AsyncSt) (o : List Bool) (fuel' : Nat)
    (hf : fuel ≤ fuel') : drive fuel t s o <+: syncRun fuel' t (abs s) := by
  induction fuel generalizing s o fuel' with
  | zero => exact List.nil_prefix
  | succ fuel ih =>
    obtain ⟨f', rfl⟩ : ∃ f', fuel' = f' + 1 := ⟨fuel' - 1, by omega⟩
    rw [drive]
    match hpoll : pollNext t s o with
    | (.pending, s', o') =>
      simp only
      rw [← syncRun_congr t (abs s') (abs s) _ (poll_pending_stutters t s s' o o' hpoll)]
      exact ih s' o' (f' + 1) (by omega)
    | (.ready (some it), s', o') =>
      simp only
      rw [syncRun, poll_ready_matches_sync t s s' o o' _ hpoll]
      simp only [List.cons_prefix_cons, true_and]
      exact ih s' o' f' (by omega)
    | (.ready none, _, _) => exact List.nil_prefix

/-- `hk` stands for "every future completes eventually": then `k + n` polls deliver at least
everything `n` sync steps deliver -/
theorem complete_when_fair (t : Tree) (k n : Nat) (s : AsyncSt) (o : List Bool)
    (hk : pendings o ≤ k) : syncRun n t (abs s) <+: drive (k + n) t s o := by
  induction hm : k + n generalizing k n s o with
  | zero =>
    have : n = 0 := by omega
    subst this; exact List.nil_prefix
  | succ m ih =>
    cases n with
    | zero => exact List.nil_prefix
    | succ n =>
      rw [drive]
      match hpoll : pollNext t s o with
      | (.pending, s', o') =>
        simp only
        have hc := poll_pending_cost t s s' o o' hpoll
        rw [← syncRun_congr t (abs s') (abs s) _ (poll_pending_stutters t s s' o o' hpoll)]
        exact ih (k - 1) (n + 1) s' o' (by omega) (by omega)
      | (.ready (some it), s', o') =>
        simp only
        have hc := poll_ready_cost t s s' o o' _ hpoll
        rw [syncRun, poll_ready_matches_sync t s s' o o' _ hpoll]
        simp only [List.cons_prefix_cons, true_and]
        exact ih k n s' o' (by omega) (by omega)
      | (.ready none, s', o') =>
        rw [syncRun, poll_ready_matches_sync t s s' o o' _ hpoll]
        exact List.nil_prefix

theorem syncRun_stable (t : Tree) (n m : Nat) (a : SyncSt)
    (hterm : (syncRun n t a).length < n) (hm : n ≤ m) : syncRun m t a = syncRun n t a := by
  induction n generalizing a m with
  | zero => simp at hterm
  | succ n ih =>
    obtain ⟨m', rfl⟩ : ∃ m', m = m' + 1 := ⟨m - 1, by omega⟩
    rw [syncRun] at hterm
    rw [syncRun, syncRun]
    match hs : syncNext t a with
    | (some it, a') =>
      rw [hs] at hterm
      simp only [List.length_cons, Nat.add_lt_add_iff_right] at hterm
      simp only [List.cons.injEq, true_and]
      exact ih m' a' hterm (by omega)
    | (none, _) => rfl

/-- `hterm`: `next` returns `None` among the first `n` calls. Then any `k + n` or more polls
deliver exactly the sync sequence -/
theorem exact_when_sync_terminates (t : Tree) (k n fuel : Nat) (s : AsyncSt) (o : List Bool)
    (hk : pendings o ≤ k) (hterm : (syncRun n t (abs s)).length < n) (hf : k + n ≤ fuel) :
    drive fuel t s o = syncRun n t (abs s) := by
  have h1 := complete_when_fair t k (fuel - k) s o hk
  rw [show k + (fuel - k) = fuel by omega,
    syncRun_stable t n (fuel - k) (abs s) hterm (by omega)] at h1
  have h2 := prefix_of_sync t fuel s o fuel (Nat.le_refl _)
  rw [syncRun_stable t n fuel (abs s) hterm (by omega)] at h2
  exact h2.eq_of_length_le h1.length_le

/-- the delivered list does not depend on the schedule: two oracles, enough polls for each -/
theorem schedule_independent (t : Tree) (k1 k2 n f1 f2 : Nat) (s : AsyncSt) (o1 o2 : List Bool)
    (h1 : pendings o1 ≤ k1) (h2 : pendings o2 ≤ k2)
    (hterm : (syncRun n t (abs s)).length < n) (hf1 : k1 + n ≤ f1) (hf2 : k2 + n ≤ f2) :
    drive f1 t s o1 = drive f2 t s o2 := by
  rw [exact_when_sync_terminates t k1 n f1 s o1 h1 hterm hf1,
    exact_when_sync_terminates t k2 n f2 s o2 h2 hterm hf2]

theorem schedule_independent_prefix (t : Tree) (f1 f2 : Nat) (s : AsyncSt) (o1 o2 : List Bool) :
    drive f1 t s o1 <+: drive f2 t s o2 ∨ drive f2 t s o2 <+: drive f1 t s o1 :=
  List.prefix_or_prefix_of_prefix
    (prefix_of_sync t f1 s o1 (max f1 f2) (Nat.le_max_left _ _))
    (prefix_of_sync t f2 s o2 (max f1 f2) (Nat.le_max_right _ _))

theorem schedule_independent_upto (t : Tree) (k1 k2 n : Nat) (s : AsyncSt) (o1 o2 : List Bool)
    (h1 : pendings o1 ≤ k1) (h2 : pendings o2 ≤ k2) :
    (drive (k1 + n) t s o1).take (syncRun n t (abs s)).length
      = (drive (k2 + n) t s o2).take (syncRun n t (abs s)).length := by
  have a := complete_when_fair t k1 n s o1 h1
  have b := complete_when_fair t k2 n s o2 h2
  rw [List.prefix_iff_eq_take] at a b
  rw [← a, ← b]

theorem abs_init (l : List Str) :
    abs { inner := l, todo := [] } = { inner := l, todo := [] } := rfl

/-- `exact_when_sync_terminates` at the state `walk_dir` creates from the listing `l` -/
theorem walk_same_as_sync (t : Tree) (l : List Str) (k n fuel : Nat) (o : List Bool)
    (hk : pendings o ≤ k) (hterm : (syncRun n t { inner := l, todo := [] }).length < n)
    (hf : k + n ≤ fuel) :
    drive fuel t { inner := l, todo := [] } o = syncRun n t { inner := l, todo := [] } :=
  exact_when_sync_terminates t k n fuel { inner := l, todo := [] } o hk hterm hf

/-! ### the hazard named in the comment at the head of `poll_next`: a path taken from the listing
while its metadata future is pending -/

theorem mdItem_ok (t : Tree) (x : Str) (ty : FType) (h : t.md x = .ok ty) :
    mdItem t x = .path x := by
  simp [mdItem, h]

theorem metadata_pending_stores_next (t : Tree) (s s' : AsyncSt) (o o' : List Bool) (x : Str)
    (h : pollNext t s o = (.pending, s', o')) (hx : s'.prev = some x) :
    syncNext t (abs s) = (some (mdItem t x), { inner := s'.inner, todo := mdPush t x s'.todo }) := by
  rw [← poll_pending_stutters t s s' o o' h]
  simp only [abs, hx]
  exact syncNext_cons t x s'.inner s'.todo

theorem metadata_pending_keeps (t : Tree) (s s' : AsyncSt) (o o' : List Bool) (x : Str)
    (hx : s.prev = some x) (h : pollNext t s o = (.pending, s', o')) :
    s'.prev = some x ∧ s'.inner = s.inner ∧ s'.todo = s.todo := by
  simp only [pollNext, hx, metaStep_eq] at h
  cases ha : (ask o).1 <;> simp [ha] at h
  obtain ⟨rfl, _⟩ := h
  simp

/-- the stored path is not dropped: the next `Ready` poll yields it (as `Ok(path)` when its
metadata can be read, as that metadata error otherwise), and it is then gone from `prev_result` -/
theorem no_item_lost_on_metadata_pending (t : Tree) (s s' : AsyncSt) (o o' : List Bool) (x : Str)
    (item : Option Item) (hx : s.prev = some x) (h : pollNext t s o = (.ready item, s', o')) :
    item = some (mdItem t x) ∧ s'.prev = none ∧ s'.inner = s.inner ∧ s'.todo = mdPush t x s.todo := by
  simp only [pollNext, hx, metaStep_eq] at h
  cases ha : (ask o).1 <;> simp [ha] at h
  obtain ⟨rfl, rfl, _⟩ := h
  simp

theorem no_item_lost_two_polls (t : Tree) (s s1 s2 : AsyncSt) (o o1 o2 : List Bool) (x : Str)
    (item : Option Item)
    (h1 : pollNext t s o = (.pending, s1, o1)) (hx : s1.prev = some x)
    (h2 : pollNext t s1 o1 = (.ready item, s2, o2)) :
    item = some (mdItem t x) ∧ syncNext t (abs s) = (item, abs s2) := by
  refine ⟨(no_item_lost_on_metadata_pending t s1 s2 o1 o2 x item hx h2).1, ?_⟩
  rw [← poll_pending_stutters t s s1 o o1 h1]
  exact poll_ready_matches_sync t s1 s2 o1 o2 item h2

theorem stored_path_is_delivered_first (t : Tree) (fuel : Nat) (s : AsyncSt) (o : List Bool)
    (x : Str) (hx : s.prev = some x) (hf : pendings o < fuel) :
    ∃ rest, drive fuel t s o = mdItem t x :: rest := by
  induction fuel generalizing s o with
  | zero => omega
  | succ fuel ih =>
    rw [drive]
    match hpoll : pollNext t s o with
    | (.pending, s', o') =>
      have hc := poll_pending_cost t s s' o o' hpoll
      exact ih s' o' (metadata_pending_keeps t s s' o o' x hx hpoll).1 (by omega)
    | (.ready item, s', o') =>
      have := (no_item_lost_on_metadata_pending t s s' o o' x item hx hpoll).1
      subst this
      exact ⟨_, rfl⟩

/-! ### the stored futures are consistent (not needed above; it justifies that the model may
ignore *which* directory/path a stored future was created for) -/

def WF (s : AsyncSt) : Prop :=
  s.mdFut = s.prev.isSome ∧ (s.rdFut = true → s.prev = none ∧ s.inner = [] ∧ s.todo ≠ [])

theorem wf_init (l : List Str) : WF { inner := l, todo := [] } := by simp [WF]

theorem findLoop_wf (t : Tree) (todo : List Str) (s : AsyncSt) (o : List Bool)
    (hp : s.prev = none) (hm : s.mdFut = false)
    (hr : s.rdFut = true → s.inner = [] ∧ todo ≠ []) : WF (findLoop t todo s o).2.1 := by
  have hcons : ∀ x inner, s.inner = x :: inner → s.rdFut = false := by
    intro x inner hi
    cases hb : s.rdFut with
    | false => rfl
    | true => have := (hr hb).1; simp [hi] at this
  induction todo generalizing s o with
  | nil =>
    have hrf : s.rdFut = false := by
      cases hb : s.rdFut with
      | false => rfl
      | true => exact absurd rfl (hr hb).2
    rw [findLoop_eq]
    cases (ask o).1
    · cases hi : s.inner with
      | nil => simp [WF, hp, hm, hrf]
      | cons x inner =>
        simp only [Bool.false_eq_true, ↓reduceIte, metaStep_eq]
        cases (ask (ask o).2).1 <;> simp [WF, hrf]
    · simp [WF, hp, hm, hrf]
  | cons d rest ih =>
    rw [findLoop_eq]
    cases (ask o).1
    · cases hi : s.inner with
      | nil =>
        simp only [Bool.false_eq_true, ↓reduceIte]
        cases (ask (ask o).2).1
        · cases hl : t.ls d with
          | ok l =>
            exact ih { s with inner := l, rdFut := false } _ hp hm (by simp) (by simp)
          | err k p => simp [WF, hp, hm]
          | panic => simp [WF, hp, hm]
        · simp [WF, hp, hm]
      | cons x inner =>
        have hrf := hcons x inner hi
        simp only [Bool.false_eq_true, ↓reduceIte, metaStep_eq]
        cases (ask (ask o).2).1 <;> simp [WF, hrf]
    · simp [WF, hp, hm]; intro h; exact (hr h).1

theorem wf_preserved (t : Tree) (s : AsyncSt) (o : List Bool) (h : WF s) :
    WF (pollNext t s o).2.1 := by
  unfold pollNext
  cases hp : s.prev with
  | none =>
    refine findLoop_wf t s.todo s o hp (by simp [h.1, hp]) (fun hr => ?_)
    exact (h.2 hr).2
  | some x =>
    have hr : s.rdFut = false := by
      cases hb : s.rdFut with
      | false => rfl
      | true => have := (h.2 hb).1; simp [hp] at this
    simp only [metaStep_eq]
    cases (ask o).1 <;> simp [WF, hr]

def pa : Str := ['/', 'a']
def pb : Str := ['/', 'b']
def pax : Str := ['/', 'a', '/', 'x']

def exTree : Tree where
  ls p := if p = pa then .ok [pax] else .err .other (some p)
  md p := if p = pa then .ok .dir else if p = pb ∨ p = pax then .ok .file
          else .err .fileNotFound (some p)

def exInit : AsyncSt := { inner := [pa, pb], todo := [] }

/-- the sync walk: `todo` is a stack, the subdirectory is walked after its siblings -/
example : syncRun 10 exTree (abs exInit) = [.path pa, .path pb, .path pax] := by decide +kernel
example : (syncRun 4 exTree (abs exInit)).length < 4 := by decide +kernel

example : drive 10 exTree exInit [] = [.path pa, .path pb, .path pax] := by decide +kernel
example : drive 10 exTree exInit [true, false, true, true, false, false, true, false, false, true]
    = [.path pa, .path pb, .path pax] := by decide +kernel
example : drive 14 exTree exInit [true, true, true, true, true, true, true, true, true, true]
    = [.path pa, .path pb, .path pax] := by decide +kernel
example : drive 4 exTree exInit [true, false, true, true, false, false, true]
    = [.path pa] := by decide +kernel

/-- the polls really are Pending at the three kinds of await point -/
example : pollNext exTree exInit [true] = (.pending, exInit, []) := by decide +kernel
example : pollNext exTree exInit [false, true]
    = (.pending, { inner := [pb], todo := [], prev := some pa, mdFut := true }, []) := by decide +kernel
example : pollNext exTree { inner := [], todo := [pa] } [false, true]
    = (.pending, { inner := [], todo := [pa], rdFut := true }, []) := by decide +kernel
/-- the hazard: `/a` was taken from the listing, its metadata was pending; the next poll yields it -/
example : (pollNext exTree { inner := [pb], todo := [], prev := some pa, mdFut := true } []).1
    = .ready (some (.path pa)) := by decide +kernel

def pd : Str := ['/', 'd']
def pe : Str := ['/', 'e']
def pdx : Str := ['/', 'd', '/', 'x']
def pbad : Str := ['/', 'z']

/-- root listing `[/d, /e, /z]`; `/d` holds `/d/x`; `/e` is an empty directory (popped inside the
loop without yielding); `/z` is a directory whose listing fails; `/d/x` has unreadable metadata -/
def exTree2 : Tree where
  ls p := if p = pd then .ok [pdx] else if p = pe then .ok [] else .err .io (some p)
  md p := if p = pd ∨ p = pe ∨ p = pbad then .ok .dir else .err .fileNotFound (some p)

def exInit2 : AsyncSt := { inner := [pd, pe, pbad], todo := [] }

example : syncRun 10 exTree2 (abs exInit2)
    = [.path pd, .path pe, .path pbad, .error .io (some pbad), .error .fileNotFound (some pdx)] := by
  decide +kernel
example : drive 10 exTree2 exInit2 []
    = [.path pd, .path pe, .path pbad, .error .io (some pbad), .error .fileNotFound (some pdx)] := by
  decide +kernel
/-- Pending on the `read_dir` of `/d` right after the empty `/e` was popped in the same poll:
`abs` changes (the stack lost `/e`), the sync continuation does not -/
example : pollNext exTree2 { inner := [], todo := [pe, pd] } [false, false, false, true]
    = (.pending, { inner := [], todo := [pd], rdFut := true }, []) := by decide +kernel
example : drive 16 exTree2 exInit2
      [true, false, true, false, false, true, false, true, false, false, true, false, false, false, true]
    = [.path pd, .path pe, .path pbad, .error .io (some pbad), .error .fileNotFound (some pdx)] := by
  decide +kernel

/-! ### the async read handle of the in-memory filesystem
(`AsyncReadableFile`, src/async_vfs/impls/memory.rs; `poll_read`/`poll_seek` never return
Pending, so one poll is the whole operation) -/

structure AsyncReader where
  content : Bytes
  cursorPos : Nat
  deriving DecidableEq, Repr

namespace AsyncReader

def toSync (r : AsyncReader) : RHandle := { content := r.content, pos := r.cursorPos }

/-- `poll_read` with a buffer of `n` bytes -/
def readA (r : AsyncReader) (n : Nat) : Res Bytes × AsyncReader :=
  let bytesLeft := r.content.length - r.cursorPos          -- `saturating_sub`
  let bytesRead := min n bytesLeft
  if bytesLeft = 0 then (.ok [], r)
  -- slice `content[cursor_pos .. cursor_pos + bytes_read]` out of range, or the sum overflowing
  else if r.cursorPos + bytesRead > r.content.length ∨ r.cursorPos + bytesRead ≥ u64Max then
    (.panic, r)
  else (.ok ((r.content.drop r.cursorPos).take bytesRead),
        { r with cursorPos := r.cursorPos + bytesRead })

/-- `new_pos` of `poll_seek`, an `i128` -/
def newPos (r : AsyncReader) : SeekFrom → Int
  | .start o => (o : Int)
  | .fromEnd o => (r.content.length : Int) + o
  | .cur o => (r.cursorPos : Int) + o

/-- `poll_seek` -/
def seekA (r : AsyncReader) (s : SeekFrom) : Res Nat × AsyncReader :=
  if r.newPos s < 0 ∨ r.newPos s > (u64Max : Int) - 1 then (fail .io, r)
  else (.ok (r.newPos s).toNat, { r with cursorPos := (r.newPos s).toNat })

/-- `new_pos` of the historical `poll_seek` (before commit 7765d49): `End(o)` relative to the
cursor and with the wrong sign -/
def newPosHist (r : AsyncReader) : SeekFrom → Int
  | .start o => (o : Int)
  | .fromEnd o => (r.cursorPos : Int) - o
  | .cur o => (r.cursorPos : Int) + o

/-- the historical `poll_seek`: error when `new_pos < 0 || new_pos >= len` -/
def seekHist (r : AsyncReader) (s : SeekFrom) : Res Nat × AsyncReader :=
  if r.newPosHist s < 0 ∨ r.newPosHist s ≥ (r.content.length : Int) then (fail .io, r)
  else (.ok (r.newPosHist s).toNat, { r with cursorPos := (r.newPosHist s).toNat })

end AsyncReader

/-- `SeekFrom::Start` carries a `u64` -/
def SeekInRange : SeekFrom → Prop
  | .start o => o < u64Max
  | _ => True

theorem seekA_eq_sync (r : AsyncReader) (s : SeekFrom) (hs : SeekInRange s) :
    ((r.seekA s).1, (r.seekA s).2.toSync) = r.toSync.seek s := by
  unfold AsyncReader.seekA RHandle.seek
  cases s with
  | start o =>
    have : (o : Int) < (u64Max : Int) := by exact_mod_cast hs
    have h : ¬ ((o : Int) < 0 ∨ (o : Int) > (u64Max : Int) - 1) := by omega
    simp [AsyncReader.newPos, AsyncReader.toSync, h]
  | cur o =>
    simp only [AsyncReader.newPos, AsyncReader.toSync, RHandle.seekTarget]
    by_cases h : (r.cursorPos : Int) + o < 0 ∨ (r.cursorPos : Int) + o ≥ (u64Max : Int)
    · have h' : (r.cursorPos : Int) + o < 0 ∨ (r.cursorPos : Int) + o > (u64Max : Int) - 1 := by omega
      simp [h, h']
    · have h' : ¬ ((r.cursorPos : Int) + o < 0 ∨ (r.cursorPos : Int) + o > (u64Max : Int) - 1) := by omega
      simp [h, h']
  | fromEnd o =>
    simp only [AsyncReader.newPos, AsyncReader.toSync, RHandle.seekTarget]
    by_cases h : (r.content.length : Int) + o < 0 ∨ (r.content.length : Int) + o ≥ (u64Max : Int)
    · have h' : (r.content.length : Int) + o < 0 ∨ (r.content.length : Int) + o > (u64Max : Int) - 1 := by omega
      simp [h, h']
    · have h' : ¬ ((r.content.length : Int) + o < 0 ∨ (r.content.length : Int) + o > (u64Max : Int) - 1) := by omega
      simp [h, h']

theorem readA_eq_sync (r : AsyncReader) (n : Nat) (hlen : r.content.length < u64Max) :
    ((r.readA n).1, (r.readA n).2.toSync) = r.toSync.read n := by
  unfold AsyncReader.readA RHandle.read RHandle.amt RHandle.remaining
  simp only [AsyncReader.toSync, Bool.false_eq_true, ↓reduceIte]
  by_cases h0 : r.content.length - r.cursorPos = 0
  · simp [h0]
  · have hp : ¬ (r.cursorPos + min n (r.content.length - r.cursorPos) > r.content.length ∨
        r.cursorPos + min n (r.content.length - r.cursorPos) ≥ u64Max) := by omega
    simp only [h0, ↓reduceIte, hp]
    by_cases hn : min n (r.content.length - r.cursorPos) = 0
    · simp [hn]
    · simp [hn]

theorem readA_no_panic (r : AsyncReader) (n : Nat) (hlen : r.content.length < u64Max) :
    (r.readA n).1 ≠ .panic := by
  rw [show (r.readA n).1 = (r.toSync.read n).1 from congrArg Prod.fst (readA_eq_sync r n hlen)]
  exact C14.read_no_panic r.toSync n hlen

inductive ROp where
  | read (n : Nat)
  | seek (s : SeekFrom)

def ROp.InRange : ROp → Prop
  | .read _ => True
  | .seek s => SeekInRange s

def runA (r : AsyncReader) : List ROp → List (Res Bytes ⊕ Res Nat) × AsyncReader
  | [] => ([], r)
  | .read n :: ops => let (x, r') := r.readA n; let (xs, r'') := runA r' ops; (.inl x :: xs, r'')
  | .seek s :: ops => let (x, r') := r.seekA s; let (xs, r'') := runA r' ops; (.inr x :: xs, r'')

def runS (r : RHandle) : List ROp → List (Res Bytes ⊕ Res Nat) × RHandle
  | [] => ([], r)
  | .read n :: ops => let (x, r') := r.read n; let (xs, r'') := runS r' ops; (.inl x :: xs, r'')
  | .seek s :: ops => let (x, r') := r.seek s; let (xs, r'') := runS r' ops; (.inr x :: xs, r'')

theorem readA_content (r : AsyncReader) (n : Nat) : (r.readA n).2.content = r.content := by
  unfold AsyncReader.readA; simp only; split
  · rfl
  · split <;> rfl

theorem seekA_content (r : AsyncReader) (s : SeekFrom) : (r.seekA s).2.content = r.content := by
  unfold AsyncReader.seekA; split <;> rfl

theorem runA_eq_sync (r : AsyncReader) (ops : List ROp) (hlen : r.content.length < u64Max)
    (hops : ∀ op ∈ ops, op.InRange) :
    ((runA r ops).1, (runA r ops).2.toSync) = runS r.toSync ops := by
  induction ops generalizing r with
  | nil => rfl
  | cons op ops ih =>
    have hrest : ∀ op ∈ ops, op.InRange := fun op h => hops op (List.mem_cons_of_mem _ h)
    cases op with
    | read n =>
      have h := readA_eq_sync r n hlen
      have ih' := ih (r.readA n).2 (by rw [readA_content]; exact hlen) hrest
      simp only [runA, runS, ← h, ← ih']
    | seek s =>
      have h := seekA_eq_sync r s (hops (.seek s) List.mem_cons_self)
      have ih' := ih (r.seekA s).2 (by rw [seekA_content]; exact hlen) hrest
      simp only [runA, runS, ← h, ← ih']

/-- `End(-1)` on a 3-byte file at position 0: the sync reader goes to 2, the historical async
reader went to 1 (cursor-relative, sign flipped) -/
theorem seekHist_differs_end :
    (({ content := [1, 2, 3], cursorPos := 0 } : AsyncReader).seekHist (.fromEnd (-1))).1 = .ok 1 ∧
    ((({ content := [1, 2, 3], cursorPos := 0 } : AsyncReader).toSync).seek (.fromEnd (-1))).1 = .ok 2 ∧
    (({ content := [1, 2, 3], cursorPos := 0 } : AsyncReader).seekA (.fromEnd (-1))).1 = .ok 2 := by
  decide

/-- `Start(0)` on an empty file, and seeking to the end of a file: errors historically, allowed
by the sync reader (and by std's cursor) -/
theorem seekHist_differs_start :
    (({ content := [], cursorPos := 0 } : AsyncReader).seekHist (.start 0)).1 = fail .io ∧
    ((({ content := [], cursorPos := 0 } : AsyncReader).toSync).seek (.start 0)).1 = .ok 0 ∧
    (({ content := [7], cursorPos := 0 } : AsyncReader).seekHist (.start 1)).1 = fail .io ∧
    ((({ content := [7], cursorPos := 0 } : AsyncReader).toSync).seek (.start 1)).1 = .ok 1 := by
  decide

theorem seekHist_ne_sync : ∃ (r : AsyncReader) (s : SeekFrom), SeekInRange s ∧
    ((r.seekHist s).1, (r.seekHist s).2.toSync) ≠ r.toSync.seek s :=
  ⟨{ content := [1, 2, 3], cursorPos := 0 }, .fromEnd (-1), trivial, by decide⟩

example : (({ content := [1, 2, 3], cursorPos := 1 } : AsyncReader).readA 5).1 = .ok [2, 3] := by
  decide
example : (({ content := [1, 2, 3], cursorPos := 9 } : AsyncReader).readA 5) =
    (.ok [], { content := [1, 2, 3], cursorPos := 9 }) := by decide

end Vfs.C15
