/-
  C19 — Timestamps round-trip and are independent of content.
  * the three setters of MemoryFS store exactly the value passed, touch no other field and no
    other key, and fail with not-found (changing nothing) on a missing path;
  * setters of different fields commute;
  * publishing a writer (flush / drop — what `create_file` + write and `append_file` + write end
    with) keeps `created` and `accessed`, stamps `modified`; a fresh key gets `created := now`;
  * `create_file` over an existing file replaces the entry (truncate semantics: new creation time);
  * PhysicalFS: `set_creation_time` is `NotSupported` and changes nothing, the two other setters
    change one field;
  * the adapters forward to the `VfsPath` setter of the translated path; EmbeddedFS refuses.
-/
import VfsModel.Leaf
import VfsModel.Adapters
import VfsModel.Embedded
import VfsModel.Proofs.FMapLemmas
import VfsModel.Proofs.MemRun
import VfsModel.Proofs.PhysLemmas
import VfsModel.Props.C14
namespace Vfs.C19
open Vfs.FMap

/-! ### MemoryFS: the three setters -/

/-- the three setters are one table, `Mem.setS upd` (Proofs/LeafSpec.lean): on an existing entry
the call succeeds and the slot holds `upd e` -/
theorem setS_entry (upd : Entry → Entry) (m : FMap) (p : Str) (e : Entry) (h : m.find? p = some e) :
    onSlot m p (Mem.setS upd (m.find? p)) = (.ok (), m.insert p (upd e)) := by
  rw [h]; rfl

theorem setCreated_entry (m : FMap) (p : Str) (e : Entry) (ts : TS) (h : m.find? p = some e) :
    Mem.setCreated m p ts = (.ok (), m.insert p { e with created := ts }) := by
  rw [Mem.setCreated_eq, setS_entry _ m p e h]

theorem setModified_entry (m : FMap) (p : Str) (e : Entry) (ts : TS) (h : m.find? p = some e) :
    Mem.setModified m p ts = (.ok (), m.insert p { e with modified := ts }) := by
  rw [Mem.setModified_eq, setS_entry _ m p e h]

theorem setAccessed_entry (m : FMap) (p : Str) (e : Entry) (ts : TS) (h : m.find? p = some e) :
    Mem.setAccessed m p ts = (.ok (), m.insert p { e with accessed := ts }) := by
  rw [Mem.setAccessed_eq, setS_entry _ m p e h]

/-- round trip of a rewrite `upd` that keeps type and bytes: the call succeeds, `metadata` reports
the rewritten entry, the content and the type are the old ones, and no other key is touched -/
theorem setS_roundtrip (upd : Entry → Entry) (hu : ∀ e, (upd e).content = e.content ∧ (upd e).ftype = e.ftype)
    (m : FMap) (p : Str) (e : Entry) (h : m.find? p = some e) :
    (onSlot m p (Mem.setS upd (m.find? p))).1 = .ok () ∧
    Mem.metadata (onSlot m p (Mem.setS upd (m.find? p))).2 p = .ok (upd e).meta ∧
    (onSlot m p (Mem.setS upd (m.find? p))).2.find? p = some (upd e) ∧
    (∀ e', (onSlot m p (Mem.setS upd (m.find? p))).2.find? p = some e' →
        e'.content = e.content ∧ e'.ftype = e.ftype) ∧
    ∀ k, k ≠ p → (onSlot m p (Mem.setS upd (m.find? p))).2.find? k = m.find? k := by
  rw [setS_entry upd m p e h]
  refine ⟨rfl, by simp [Mem.metadata], find?_insert_self _ _ _, ?_, fun k hk => find?_insert_ne m p k _ hk⟩
  intro e' he'
  rw [find?_insert_self] at he'
  cases he'; exact hu e

/-- round trip of `set_creation_time`: the call succeeds, `metadata` reports exactly `at t` as
creation time and the old values of the type, the length and the two other times, the content
is the old content, and no other key is touched -/
theorem set_roundtrip_created (m : FMap) (p : Str) (e : Entry) (t : Int)
    (h : m.find? p = some e) :
    (Mem.setCreated m p (.at t)).1 = .ok () ∧
    Mem.metadata (Mem.setCreated m p (.at t)).2 p =
      .ok { ftype := e.ftype, len := e.content.length, created := .at t,
            modified := e.modified, accessed := e.accessed } ∧
    (Mem.setCreated m p (.at t)).2.find? p = some { e with created := .at t } ∧
    (∀ e', (Mem.setCreated m p (.at t)).2.find? p = some e' →
        e'.content = e.content ∧ e'.ftype = e.ftype) ∧
    ∀ k, k ≠ p → (Mem.setCreated m p (.at t)).2.find? k = m.find? k := by
  rw [Mem.setCreated_eq]
  exact setS_roundtrip (fun e => { e with created := .at t }) (fun _ => ⟨rfl, rfl⟩) m p e h

theorem set_roundtrip_modified (m : FMap) (p : Str) (e : Entry) (t : Int)
    (h : m.find? p = some e) :
    (Mem.setModified m p (.at t)).1 = .ok () ∧
    Mem.metadata (Mem.setModified m p (.at t)).2 p =
      .ok { ftype := e.ftype, len := e.content.length, created := e.created,
            modified := .at t, accessed := e.accessed } ∧
    (Mem.setModified m p (.at t)).2.find? p = some { e with modified := .at t } ∧
    (∀ e', (Mem.setModified m p (.at t)).2.find? p = some e' →
        e'.content = e.content ∧ e'.ftype = e.ftype) ∧
    ∀ k, k ≠ p → (Mem.setModified m p (.at t)).2.find? k = m.find? k := by
  rw [Mem.setModified_eq]
  exact setS_roundtrip (fun e => { e with modified := .at t }) (fun _ => ⟨rfl, rfl⟩) m p e h

theorem set_roundtrip_accessed (m : FMap) (p : Str) (e : Entry) (t : Int)
    (h : m.find? p = some e) :
    (Mem.setAccessed m p (.at t)).1 = .ok () ∧
    Mem.metadata (Mem.setAccessed m p (.at t)).2 p =
      .ok { ftype := e.ftype, len := e.content.length, created := e.created,
            modified := e.modified, accessed := .at t } ∧
    (Mem.setAccessed m p (.at t)).2.find? p = some { e with accessed := .at t } ∧
    (∀ e', (Mem.setAccessed m p (.at t)).2.find? p = some e' →
        e'.content = e.content ∧ e'.ftype = e.ftype) ∧
    ∀ k, k ≠ p → (Mem.setAccessed m p (.at t)).2.find? k = m.find? k := by
  rw [Mem.setAccessed_eq]
  exact setS_roundtrip (fun e => { e with accessed := .at t }) (fun _ => ⟨rfl, rfl⟩) m p e h

/-- a setter on a missing path: not-found, and the map is the very same map -/
theorem set_absent (m : FMap) (p : Str) (ts : TS) (h : m.find? p = none) :
    Mem.setCreated m p ts = (fail .fileNotFound, m) ∧
    Mem.setModified m p ts = (fail .fileNotFound, m) ∧
    Mem.setAccessed m p ts = (fail .fileNotFound, m) := by
  simp [Mem.setCreated, Mem.setModified, Mem.setAccessed, h]

/-- the metadata of any other path is the same before and after a setter -/
theorem set_frame_metadata (m : FMap) (p k : Str) (ts : TS) (hk : k ≠ p) :
    Mem.metadata (Mem.setCreated m p ts).2 k = Mem.metadata m k ∧
    Mem.metadata (Mem.setModified m p ts).2 k = Mem.metadata m k ∧
    Mem.metadata (Mem.setAccessed m p ts).2 k = Mem.metadata m k := by
  unfold Mem.setCreated Mem.setModified Mem.setAccessed Mem.metadata
  cases h : m.find? p <;> simp [find?_insert_ne _ _ _ _ hk]

/-! ### setters of distinct fields commute -/

/-- the shape the three setters share: the entry at `p` rewritten by `upd` -/
def setWith (upd : Entry → Entry) (m : FMap) (p : Str) : Res Unit × FMap :=
  match m.find? p with
  | none => (fail .fileNotFound, m)
  | some e => (.ok (), m.insert p (upd e))

/-- two rewrites that commute on every entry give, in either order, the same map (as a function of
the key), hence the same metadata everywhere; `Mem.setCreated`, `Mem.setModified`, `Mem.setAccessed`
unfold to `setWith` -/
theorem setWith_comm (u1 u2 : Entry → Entry) (hc : ∀ e, u2 (u1 e) = u1 (u2 e)) (m : FMap)
    (p k : Str) :
    (setWith u2 (setWith u1 m p).2 p).2.find? k = (setWith u1 (setWith u2 m p).2 p).2.find? k := by
  cases h : m.find? p with
  | none => simp [setWith, h]
  | some e =>
    simp only [setWith, h, find?_insert_self, find?_insert, hc]
    split <;> rfl

theorem metadata_congr (m1 m2 : FMap) (q : Str) (h : m1.find? q = m2.find? q) :
    Mem.metadata m1 q = Mem.metadata m2 q := by
  unfold Mem.metadata; rw [h]

/-- setting two different time fields in either order yields the same metadata, for every
path `q` (the one set and all others), whether or not `p` exists -/
theorem setters_commute_on_distinct_fields (m : FMap) (p : Str) (a b : TS) (q : Str) :
    Mem.metadata (Mem.setModified (Mem.setCreated m p a).2 p b).2 q =
      Mem.metadata (Mem.setCreated (Mem.setModified m p b).2 p a).2 q ∧
    Mem.metadata (Mem.setAccessed (Mem.setCreated m p a).2 p b).2 q =
      Mem.metadata (Mem.setCreated (Mem.setAccessed m p b).2 p a).2 q ∧
    Mem.metadata (Mem.setAccessed (Mem.setModified m p a).2 p b).2 q =
      Mem.metadata (Mem.setModified (Mem.setAccessed m p b).2 p a).2 q :=
  ⟨metadata_congr _ _ q (setWith_comm (fun e => { e with created := a })
      (fun e => { e with modified := b }) (fun _ => rfl) m p q),
   metadata_congr _ _ q (setWith_comm (fun e => { e with created := a })
      (fun e => { e with accessed := b }) (fun _ => rfl) m p q),
   metadata_congr _ _ q (setWith_comm (fun e => { e with modified := a })
      (fun e => { e with accessed := b }) (fun _ => rfl) m p q)⟩

/-- all three fields set, in any order: `metadata` reports the three values -/
theorem set_all_three (m : FMap) (p : Str) (e : Entry) (c mo a : Int) (h : m.find? p = some e) :
    Mem.metadata
      (Mem.setAccessed (Mem.setModified (Mem.setCreated m p (.at c)).2 p (.at mo)).2 p (.at a)).2 p
      = .ok { ftype := e.ftype, len := e.content.length, created := .at c, modified := .at mo,
              accessed := .at a } := by
  rw [setCreated_entry m p e _ h, setModified_entry _ p _ _ (find?_insert_self _ _ _),
      setAccessed_entry _ p _ _ (find?_insert_self _ _ _)]
  simp [Mem.metadata, Entry.meta]

/-! ### writers: publication keeps `created` and `accessed` -/

/-- flush / drop of a writer on an existing file: content := buffer, `modified := now`,
`created` and `accessed` kept; every other key untouched -/
theorem publish_keeps_created_accessed (files : FMap) (key : Str) (buf : Bytes) (e : Entry)
    (h : files.find? key = some e) (hf : e.ftype = .file) :
    (memPublish files key buf).find? key =
      some { ftype := .file, content := buf, created := e.created, modified := .now,
             accessed := e.accessed } ∧
    ∀ k, k ≠ key → (memPublish files key buf).find? k = files.find? k := by
  refine ⟨?_, fun k hk => find?_memPublish_ne files key k buf hk⟩
  rw [Mem.memPublish_eq, Write.find?_app_self, h]
  simp only [Mem.publishS, hf, if_true, Write.slot]

/-- a key that is gone (the file was removed while the handle was open): nothing is published,
no entry — and no timestamp — appears -/
theorem publish_fresh (files : FMap) (key : Str) (buf : Bytes) (h : files.find? key = none) :
    memPublish files key buf = files := by
  rw [Mem.memPublish_eq, h]; rfl

/-- a creation time set explicitly survives any number of later publications -/
theorem publish_after_setCreated (m : FMap) (p : Str) (e : Entry) (t : Int) (buf : Bytes)
    (h : m.find? p = some e) (hf : e.ftype = .file) :
    ∃ md, Mem.metadata (memPublish (Mem.setCreated m p (.at t)).2 p buf) p = .ok md ∧
      md.created = .at t ∧ md.accessed = e.accessed ∧ md.modified = .now ∧ md.len = buf.length := by
  rw [setCreated_entry m p e _ h]
  have := (publish_keeps_created_accessed (m.insert p { e with created := .at t }) p buf _
    (find?_insert_self _ _ _) hf).1
  exact ⟨{ ftype := .file, len := buf.length, created := .at t, modified := .now,
           accessed := e.accessed }, by simp [Mem.metadata, this, Entry.meta], rfl, rfl, rfl, rfl⟩

/-- one append session on the in-memory backend, at the level of the file map: `append_file`
hands out the old bytes, the write lands at their end, and the publication keeps the creation
time (and the access time); the content is `old ++ bs` -/
theorem append_session_keeps_created (m : FMap) (p : Str) (e : Entry) (bs : Bytes)
    (h : m.find? p = some e) (hf : e.ftype = .file) :
    Mem.appendFile m p = .ok e.content ∧
    (memPublish m p (cursorWrite e.content e.content.length bs)).find? p =
      some { ftype := .file, content := e.content ++ bs, created := e.created, modified := .now,
             accessed := e.accessed } ∧
    Mem.metadata (memPublish m p (cursorWrite e.content e.content.length bs)) p =
      .ok { ftype := .file, len := e.content.length + bs.length, created := e.created,
            modified := .now, accessed := e.accessed } := by
  have hp := (publish_keeps_created_accessed m p (cursorWrite e.content e.content.length bs) e h hf).1
  rw [C14.write_at_end] at hp ⊢
  refine ⟨by simp [Mem.appendFile, h, hf], hp, ?_⟩
  simp [Mem.metadata, hp, Entry.meta]

theorem World.setLeafFiles_twice (w : World) (i : Nat) (f g : FMap) :
    (w.setLeafFiles i f).setLeafFiles i g = w.setLeafFiles i g :=
  Vfs.World.setLeafFiles_twice w i f g

/-- the same session through the world: `append_file` on leaf `i` (an in-memory leaf), one
`write_all(bs)`, drop. The world afterwards holds, under `p`, the old bytes followed by `bs`,
with the old creation and access times. -/
theorem append_session_world (i : Nat) (w : World) (l : Leaf) (p : Str) (e : Entry) (bs : Bytes)
    (hl : w.leaf? i = some l) (hk : l.kind = .mem)
    (h : l.files.find? p = some e) (hf : e.ftype = .file) :
    ((do let hd ← (leafFS i).appendFile p; hd.writeAllAndDrop bs) : M Unit) w =
      (.ok (), w.setLeafFiles i (l.files.insert p
        { ftype := .file, content := e.content ++ bs, created := e.created, modified := .now,
          accessed := e.accessed })) := by
  have hw : w.setLeafFiles i l.files = w := World.setLeafFiles_self w i l hl
  simp only [bind, M.bind, leafFS, onLeaf, hl, hk, Mem.appendFile, h, hf, Res.map, hw,
    WHandle.writeAllAndDrop, WHandle.write, WHandle.drop, WHandle.flush, C14.write_at_end,
    memPublish, ne_eq, not_true_eq_false, ↓reduceIte]

/-- `create_file` over an existing file replaces the entry by a new empty file whose three
times are `now`: truncation resets the creation time -/
theorem create_file_resets (m : FMap) (p : Str) (e : Entry) (h : m.find? p = some e)
    (hf : e.ftype = .file) (hpar : Mem.ensureHasParent m p = .ok ()) :
    Mem.createFile m p = (.ok (), m.insert p fileEntryNow) ∧
    Mem.metadata (Mem.createFile m p).2 p =
      .ok { ftype := .file, len := 0, created := .now, modified := .now, accessed := .now } := by
  have : Mem.createFile m p = (.ok (), m.insert p fileEntryNow) := by
    simp [Mem.createFile, hpar, h, hf]
  rw [this]
  exact ⟨rfl, by simp [Mem.metadata, Entry.meta, fileEntryNow]⟩

/-- … and the writer published afterwards keeps that new creation time, not the old one -/
theorem create_session_created_now (m : FMap) (p : Str) (e : Entry) (buf : Bytes)
    (h : m.find? p = some e) (hf : e.ftype = .file) (hpar : Mem.ensureHasParent m p = .ok ()) :
    ∃ md, Mem.metadata (memPublish (Mem.createFile m p).2 p buf) p = .ok md ∧
      md.created = .now ∧ md.len = buf.length := by
  rw [(create_file_resets m p e h hf hpar).1]
  have := (publish_keeps_created_accessed (m.insert p fileEntryNow) p buf _
    (find?_insert_self _ _ _) rfl).1
  exact ⟨{ ftype := .file, len := buf.length, created := .now, modified := .now,
           accessed := .now }, by rw [Mem.metadata, this]; rfl, rfl, rfl⟩

/-! ### PhysicalFS -/

/-- `set_creation_time` of PhysicalFS: `NotSupported`, world unchanged -/
theorem phys_setCreationTime_notSupported (i : Nat) (w : World) (l : Leaf) (p : Str) (t : Int)
    (hl : w.leaf? i = some l) (hk : l.kind = .phys) :
    (leafFS i).setCreationTime p t w = (fail .notSupported, w) := by
  simp only [leafFS, onLeaf, hl, hk, World.setLeafFiles_self w i l hl]

/-- `Phys.setTime` on an existing entry rewrites that entry with `upd`, nothing else -/
theorem phys_setTime_entry (upd : Entry → Entry) (m : FMap) (p : Str) (e : Entry)
    (h : Phys.lookup m p = .ok (some e)) :
    Phys.setTime upd m p = (.ok (), m.insert p (upd e)) ∧
    (Phys.setTime upd m p).2.find? p = some (upd e) ∧
    ∀ k, k ≠ p → (Phys.setTime upd m p).2.find? k = m.find? k := by
  have : Phys.setTime upd m p = (.ok (), m.insert p (upd e)) := by simp [Phys.setTime, h]
  rw [this]
  exact ⟨rfl, by simp, fun k hk => find?_insert_ne _ _ _ _ hk⟩

/-- the two supported setters of PhysicalFS change exactly one field -/
theorem phys_set_one_field (m : FMap) (p : Str) (e : Entry) (t : Int)
    (h : Phys.lookup m p = .ok (some e)) :
    (Phys.setTime (fun e => { e with modified := .at t }) m p).2.find? p =
      some { ftype := e.ftype, content := e.content, created := e.created, modified := .at t,
             accessed := e.accessed } ∧
    (Phys.setTime (fun e => { e with accessed := .at t }) m p).2.find? p =
      some { ftype := e.ftype, content := e.content, created := e.created, modified := e.modified,
             accessed := .at t } :=
  ⟨(phys_setTime_entry _ m p e h).2.1, (phys_setTime_entry _ m p e h).2.1⟩

theorem phys_setTime_absent (upd : Entry → Entry) (m : FMap) (p : Str)
    (h : Phys.lookup m p = .ok none) : Phys.setTime upd m p = (fail .fileNotFound, m) := by
  simp [Phys.setTime, h]

/-- replacing an entry by one of the same type does not change path resolution -/
theorem phys_resolveParent_insert (m : FMap) (p q : Str) (e e' : Entry)
    (h : m.find? p = some e) (ht : e'.ftype = e.ftype) :
    Phys.resolveParent (m.insert p e') q = Phys.resolveParent m q :=
  resolveParent_congr fun a _ => by
    rw [find?_insert]
    split
    · rename_i hap; rw [hap, h, Option.map_some, Option.map_some, ht]
    · rfl

/-- round trip on PhysicalFS for a rewrite that keeps type and bytes: the metadata afterwards is
that of the rewritten entry -/
theorem phys_setTime_roundtrip (upd : Entry → Entry) (m : FMap) (p : Str) (e : Entry)
    (h : Phys.lookup m p = .ok (some e)) (ht : (upd e).ftype = e.ftype)
    (hc : (upd e).content = e.content) :
    Phys.metadata m p = .ok { e.meta with len := if e.ftype = .dir then 0 else e.content.length } ∧
    Phys.metadata (Phys.setTime upd m p).2 p =
      .ok { (upd e).meta with len := if e.ftype = .dir then 0 else e.content.length } := by
  have hf : m.find? p = some e ∧ Phys.resolveParent m p = .ok () := Phys.lookup_ok_inv h
  rw [(phys_setTime_entry _ m p e h).1]
  constructor
  · simp only [Phys.metadata, h]
  · simp only [Phys.metadata, Phys.lookup, phys_resolveParent_insert m p p e (upd e) hf.1 ht, hf.2,
      find?_insert_self, ht, hc]

/-- round trip on PhysicalFS: after `set_modification_time(t)` the metadata reports `at t`, the
other fields as before -/
theorem phys_set_roundtrip_modified (m : FMap) (p : Str) (e : Entry) (t : Int)
    (h : Phys.lookup m p = .ok (some e)) :
    ∃ md0, Phys.metadata m p = .ok md0 ∧
      Phys.metadata (Phys.setTime (fun e => { e with modified := .at t }) m p).2 p =
        .ok { md0 with modified := .at t } :=
  ⟨_, phys_setTime_roundtrip _ m p e h rfl rfl⟩

theorem phys_set_roundtrip_accessed (m : FMap) (p : Str) (e : Entry) (t : Int)
    (h : Phys.lookup m p = .ok (some e)) :
    ∃ md0, Phys.metadata m p = .ok md0 ∧
      Phys.metadata (Phys.setTime (fun e => { e with accessed := .at t }) m p).2 p =
        .ok { md0 with accessed := .at t } :=
  ⟨_, phys_setTime_roundtrip _ m p e h rfl rfl⟩

/-! ### through the world -/

/-- `metadata` through the trait object right after an entry was stored: that entry's -/
theorem world_metadata_insert {i : Nat} {w : World} {l : Leaf} (hl : w.leaf? i = some l)
    (hk : l.kind = .mem) (p : Str) (v : Entry) :
    ((leafFS i).metadata p (w.setLeafFiles i (l.files.insert p v))).1 = .ok v.meta := by
  simp only [leafFS, onLeaf, World.setLeafFiles_same w i l _ hl, hk, Mem.metadata, find?_insert_self]

/-- `set_modification_time` through the trait object of an in-memory leaf: success, the world
afterwards is explicit, and `metadata` on that world reports `at t` -/
theorem world_setModificationTime (i : Nat) (w : World) (l : Leaf) (p : Str) (e : Entry) (t : Int)
    (hl : w.leaf? i = some l) (hk : l.kind = .mem) (h : l.files.find? p = some e) :
    (leafFS i).setModificationTime p t w =
      (.ok (), w.setLeafFiles i (l.files.insert p { e with modified := .at t })) ∧
    ((leafFS i).metadata p (w.setLeafFiles i (l.files.insert p { e with modified := .at t }))).1 =
      .ok { ftype := e.ftype, len := e.content.length, created := e.created, modified := .at t,
            accessed := e.accessed } := by
  exact ⟨by simp only [leafFS, onLeaf, hl, hk, setModified_entry l.files p e _ h], world_metadata_insert hl hk p _⟩

theorem world_setCreationTime (i : Nat) (w : World) (l : Leaf) (p : Str) (e : Entry) (t : Int)
    (hl : w.leaf? i = some l) (hk : l.kind = .mem) (h : l.files.find? p = some e) :
    (leafFS i).setCreationTime p t w =
      (.ok (), w.setLeafFiles i (l.files.insert p { e with created := .at t })) ∧
    ((leafFS i).metadata p (w.setLeafFiles i (l.files.insert p { e with created := .at t }))).1 =
      .ok { ftype := e.ftype, len := e.content.length, created := .at t, modified := e.modified,
            accessed := e.accessed } := by
  exact ⟨by simp only [leafFS, onLeaf, hl, hk, setCreated_entry l.files p e _ h], world_metadata_insert hl hk p _⟩

theorem world_setAccessTime (i : Nat) (w : World) (l : Leaf) (p : Str) (e : Entry) (t : Int)
    (hl : w.leaf? i = some l) (hk : l.kind = .mem) (h : l.files.find? p = some e) :
    (leafFS i).setAccessTime p t w =
      (.ok (), w.setLeafFiles i (l.files.insert p { e with accessed := .at t })) ∧
    ((leafFS i).metadata p (w.setLeafFiles i (l.files.insert p { e with accessed := .at t }))).1 =
      .ok { ftype := e.ftype, len := e.content.length, created := e.created,
            modified := e.modified, accessed := .at t } := by
  exact ⟨by simp only [leafFS, onLeaf, hl, hk, setAccessed_entry l.files p e _ h], world_metadata_insert hl hk p _⟩

/-- a setter through the world on a missing path: not-found, world unchanged -/
theorem world_set_absent (i : Nat) (w : World) (l : Leaf) (p : Str) (t : Int)
    (hl : w.leaf? i = some l) (hk : l.kind = .mem) (h : l.files.find? p = none) :
    (leafFS i).setCreationTime p t w = (fail .fileNotFound, w) ∧
    (leafFS i).setModificationTime p t w = (fail .fileNotFound, w) ∧
    (leafFS i).setAccessTime p t w = (fail .fileNotFound, w) := by
  obtain ⟨h1, h2, h3⟩ := set_absent l.files p (.at t) h
  simp only [leafFS, onLeaf, hl, hk, h1, h2, h3, World.setLeafFiles_self w i l hl, and_self]

/-- the `VfsPath` setter over that leaf: same effect (the relabelling touches errors only) -/
theorem vpath_setModificationTime (i fsId : Nat) (w : World) (l : Leaf) (p : Str) (e : Entry)
    (t : Int) (hl : w.leaf? i = some l) (hk : l.kind = .mem) (h : l.files.find? p = some e) :
    VPath.setModificationTime { fs := leafFS i, fsId := fsId, path := p } t w =
      (.ok (), w.setLeafFiles i (l.files.insert p { e with modified := .at t })) := by
  unfold VPath.setModificationTime M.withPath
  simp only [(world_setModificationTime i w l p e t hl hk h).1, Res.withPath]

/-! ### adapters -/

/-- OverlayFS: each setter is the `VfsPath` setter of `write_path(p)` (the top layer) -/
theorem overlay_setters (layers : List VPath) (p : Str) (t : Int) (wp : VPath)
    (h : Overlay.writePath layers p = .ok wp) :
    (Overlay.fs layers).setCreationTime p t = wp.setCreationTime t ∧
    (Overlay.fs layers).setModificationTime p t = wp.setModificationTime t ∧
    (Overlay.fs layers).setAccessTime p t = wp.setAccessTime t := by
  refine ⟨?_, ?_, ?_⟩ <;>
    (funext w; simp only [Overlay.fs, bind, M.bind, M.ret, h])

/-- … and when `write_path` rejects the path, that error is the outcome and nothing changes -/
theorem overlay_setters_badpath (layers : List VPath) (p : Str) (t : Int) (k : ErrKind)
    (pth : Option Str) (h : Overlay.writePath layers p = .err k pth) (w : World) :
    (Overlay.fs layers).setCreationTime p t w = (.err k pth, w) ∧
    (Overlay.fs layers).setModificationTime p t w = (.err k pth, w) ∧
    (Overlay.fs layers).setAccessTime p t w = (.err k pth, w) := by
  refine ⟨?_, ?_, ?_⟩ <;> simp only [Overlay.fs, bind, M.bind, M.ret, h]

/-- AltrootFS: each setter is the `VfsPath` setter of the translated path -/
theorem altroot_setters (root : VPath) (p : Str) (t : Int) (q : VPath)
    (h : Altroot.path root p = .ok q) :
    (Altroot.fs root).setCreationTime p t = q.setCreationTime t ∧
    (Altroot.fs root).setModificationTime p t = q.setModificationTime t ∧
    (Altroot.fs root).setAccessTime p t = q.setAccessTime t := by
  refine ⟨?_, ?_, ?_⟩ <;>
    (funext w; simp only [Altroot.fs, bind, M.bind, M.ret, h])

theorem altroot_setters_badpath (root : VPath) (p : Str) (t : Int) (k : ErrKind)
    (pth : Option Str) (h : Altroot.path root p = .err k pth) (w : World) :
    (Altroot.fs root).setCreationTime p t w = (.err k pth, w) ∧
    (Altroot.fs root).setModificationTime p t w = (.err k pth, w) ∧
    (Altroot.fs root).setAccessTime p t w = (.err k pth, w) := by
  refine ⟨?_, ?_, ?_⟩ <;> simp only [Altroot.fs, bind, M.bind, M.ret, h]

/-- EmbeddedFS: the three setters are `NotSupported` and change nothing -/
theorem embedded_setters (s : Embedded.State) (p : Str) (t : Int) (w : World) :
    (Embedded.fs s).setCreationTime p t w = (fail .notSupported, w) ∧
    (Embedded.fs s).setModificationTime p t w = (fail .notSupported, w) ∧
    (Embedded.fs s).setAccessTime p t w = (fail .notSupported, w) := ⟨rfl, rfl, rfl⟩

/-! ### Non-vacuity: a concrete map -/

def exEntry : Entry :=
  { ftype := .file, content := [1, 2], created := .at 7, modified := .now, accessed := .unset }

def exMap : FMap :=
  [ ([], { ftype := .dir, content := [], created := .now, modified := .unset, accessed := .unset }),
    ("/f".toList, exEntry) ]

example : exMap.find? "/f".toList = some exEntry := by decide
example : Mem.ensureHasParent exMap "/f".toList = .ok () := by decide
example : Mem.metadata (Mem.setCreated exMap "/f".toList (.at 42)).2 "/f".toList =
    .ok { ftype := .file, len := 2, created := .at 42, modified := .now, accessed := .unset } := by
  decide
example : Mem.metadata (memPublish exMap "/f".toList [1, 2, 3]) "/f".toList =
    .ok { ftype := .file, len := 3, created := .at 7, modified := .now, accessed := .unset } := by
  decide
example : Mem.metadata (Mem.createFile exMap "/f".toList).2 "/f".toList =
    .ok { ftype := .file, len := 0, created := .now, modified := .now, accessed := .now } := by
  decide
example : Mem.setCreated exMap "/g".toList (.at 1) = (fail .fileNotFound, exMap) := by decide
example : Phys.lookup exMap "/f".toList = .ok (some exEntry) := by decide
example : (World.leaf? { leaves := [{ kind := .mem, files := exMap }] } 0) =
    some { kind := .mem, files := exMap } := rfl

end Vfs.C19
