/-
  C17 for an overlay whose layers are SUB-DIRECTORY paths of in-memory filesystems
  (`OverlayFS::new(&[up_fs_root.join("layers/up")?, low_fs_root.join("low")?])`), interleaving
  model VfsModel/OverlayConc.lean — KERNEL-EVALUATED INSTANCES (the general theorem is in
  Props/C17OverlaySubdirConc.lean).

  World `wS`: leaf 1 holds "/layers/up" with the markers "/layers/up/.whiteout/c_wo" and
  "/layers/up/.whiteout/c/o_wo" (left by `remove_file("/c/o")`, `remove_dir("/c")` through the
  overlay), leaf 0 holds "/low/c", "/low/c/o".  Threads T0 = `create_dir_all("/c/x")`,
  T1 = `create_dir_all("/c/y")` on the overlay (32 layer calls each: four more than over root-path
  layers, because `create_dir_all` on the write path "/layers/up/…" first walks "/layers",
  "/layers/up", each answering `DirectoryExists`).

  PROVED (by `decide +kernel`, the sweeps through the evaluator of Proofs/ScheduleSweep.lean;
  axioms: propext, Quot.sound):
  * `subdir_new_ok_preemptOnce` : every schedule in which each thread is preempted at most once
    (`preemptOnce 36 36`, 2738 schedules, all steps of both threads) ends with both `Ok(())`,
    "/layers/up/c", "/layers/up/c/x", "/layers/up/c/y" directories of leaf 1, the marker of "/c"
    gone, leaf 0 as before — threads over `OConc.createDir` (which clears the whiteout also when the
    write layer answers `DirectoryExists`: finding O11);
  * `subdir_new_ok_window` : ALL C(10,5) = 252 interleavings of the critical window (the 5 calls of
    each thread starting with its `create_dir("/layers/up/c")` on the write layer), then completion;
  * `subdir_old_fails` : over `OConc.createDirOld` (which returns that answer at once) the threads
    fail on `badScheduleS` (T1 runs up to and
    including its `create_dir("/layers/up/c")`, then T0 runs to completion): T0 = `Err(Other)`.
  The tie `small_step_is_createDirAll` (Props/C17OverlayConc.lean) holds for these layers as for
  any (it has no hypothesis on the layers).  `wS_instance` (Props/C17OverlaySubdirConc.lean)
  instantiates the general theorem on this world, for every schedule.
-/
import VfsModel.Props.C17OverlayConc
namespace Vfs.C17
open Vfs Vfs.Overlay Vfs.OConc

def sUp : Str := ['/', 'l', 'a', 'y', 'e', 'r', 's', '/', 'u', 'p']
def sLayers : Str := ['/', 'l', 'a', 'y', 'e', 'r', 's']
def sLow : Str := ['/', 'l', 'o', 'w']

/-- the upper filesystem: the write layer is its directory "/layers/up" -/
def muS : FMap :=
  [(sUp ++ kMC, fileOf' []), (sUp ++ kMOld, fileOf' []), (sUp ++ kWoC, dirEntryNow),
   (sUp ++ kWo, dirEntryNow), (sUp, dirEntryNow), (sLayers, dirEntryNow), ([], dirEntryNow)]
/-- the lower filesystem: the lower layer is its directory "/low" -/
def mlS : FMap :=
  [(sLow ++ kOld, fileOf' [49]), (sLow ++ kC, dirEntryNow), (sLow, dirEntryNow), ([], dirEntryNow)]
def wS : World := { leaves := [{ kind := .mem, files := mlS }, { kind := .mem, files := muS }] }
def layS : List VPath :=
  [{ fs := leafFS 1, fsId := 7, path := sUp }, { fs := leafFS 0, fsId := 8, path := sLow }]

def sNewS : Sys := initSys layS wS [pX, pY]
def sOldS : Sys := initSysOld layS wS [pX, pY]

/-- both `Ok(())`; "/layers/up/c", ".../c/x", ".../c/y" directories of leaf 1 and the marker of
"/c" gone there; leaf 0 as before -/
def goodS (s : Sys) : Bool :=
  s.results = [some (.ok ()), some (.ok ())] &&
  (s.world.leaves.map fun l =>
      ([sUp ++ kC, sUp ++ pX, sUp ++ pY, sUp ++ kMC].map fun q => (l.files.find? q).map (·.ftype))) ==
    [[none, none, none, none], [some .dir, some .dir, some .dir, none]] &&
  (s.world.leaves.map (·.files))[0]? == some mlS

example : (OConc.createDirAll layS pX).callsFrom wS = 32 ∧
    (OConc.createDirAll layS pY).callsFrom wS = 32 := by decide +kernel

/-- T1's tenth call is the `create_dir("/layers/up/c")` on the write layer -/
example : ((OConc.run sOldS (List.replicate 9 1)).threads.map Prog.label)[1]? = some "create_dir" ∧
    (OConc.run sOldS (List.replicate 10 1)).world.leaves.map
        (fun l => l.files.contains (sUp ++ kC) && l.files.contains (sUp ++ kMC))
      = [false, true] := by decide +kernel

def badScheduleS : List Nat := List.replicate 10 1 ++ List.replicate 36 0 ++ List.replicate 26 1

/-- `createDirOld` fails over sub-directory layers as over root layers -/
theorem subdir_old_fails :
    (OConc.run sOldS badScheduleS).results = [some (.err .other (some pX)), some (.ok ())] := by
  decide +kernel

/-! ### every schedule that preempts each thread at most once -/

example : (preemptOnce 36 36).length = 2738 := length_preemptOnce 36 36

/-- every schedule of the family ends with both `Ok` and the three directories present -/
theorem subdir_new_ok_preemptOnce : ∀ sc ∈ preemptOnce 36 36, goodS (OConc.run sNewS sc) = true :=
  sweepOnce_spec (by decide +kernel)

example : goodS (OConc.run sNewS (List.replicate 36 0 ++ List.replicate 36 1)) = true :=
  subdir_new_ok_preemptOnce _ (mem_preemptOnce_01 (i := 36) (j := 0) (by decide) (by decide))

theorem badScheduleS_mem : badScheduleS ∈ preemptOnce 36 36 :=
  mem_preemptOnce_10 (i := 36) (j := 10) (by decide) (by decide)

theorem subdir_new_ok_badSchedule : goodS (OConc.run sNewS badScheduleS) = true :=
  subdir_new_ok_preemptOnce _ badScheduleS_mem

/-- over `createDirOld` some schedule of the family fails -/
theorem subdir_old_fails_some : ∃ sc ∈ preemptOnce 36 36, goodS (OConc.run sOldS sc) = false :=
  ⟨badScheduleS, badScheduleS_mem, by simp [goodS, subdir_old_fails]⟩

/-! ### all interleavings of the critical window -/

/-- both threads have made their first 9 calls (each is about to call `create_dir("/layers/up/c")`
on the write layer); then EVERY interleaving of the next 5 calls of each thread; then both run to
completion -/
def windowSchedulesS : List (List Nat) :=
  (interleavings 5 5).map fun mid =>
    List.replicate 9 0 ++ List.replicate 9 1 ++ mid ++ List.replicate 36 0 ++ List.replicate 36 1

example : (OConc.run sNewS (List.replicate 9 0 ++ List.replicate 9 1)).threads.map Prog.label
    = ["create_dir", "create_dir"] := by decide +kernel

theorem subdir_new_ok_window : windowSchedulesS.all (fun sc => goodS (OConc.run sNewS sc)) = true :=
  sweepWindow_spec (s := sNewS) (p := 9) (q := 9) (m := 36) (n := 36) (by decide +kernel)

/-- T1's `create_dir("/layers/up/c")` first, then T0's five calls -/
theorem subdir_old_fails_window : windowSchedulesS.any (fun sc => !goodS (OConc.run sOldS sc)) = true :=
  List.any_eq_true.2 ⟨List.replicate 9 0 ++ List.replicate 9 1 ++ [1, 0, 0, 0, 0, 0, 1, 1, 1, 1] ++
    List.replicate 36 0 ++ List.replicate 36 1,
    List.mem_map.2 ⟨[1, 0, 0, 0, 0, 0, 1, 1, 1, 1], by decide +kernel, rfl⟩, by decide +kernel⟩

end Vfs.C17

#print axioms Vfs.C17.subdir_new_ok_preemptOnce
#print axioms Vfs.C17.subdir_new_ok_window
#print axioms Vfs.C17.subdir_old_fails
#print axioms Vfs.C17.subdir_old_fails_some
