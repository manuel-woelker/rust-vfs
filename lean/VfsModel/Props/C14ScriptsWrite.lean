/-
  C14 over whole scripts of calls on a write handle.

  The growable cursor is specified in Proofs/SessionLemmas.lean (`C04.specWrite`, `C04.specSeek`,
  `C04.specRun`: `std::io::Cursor<Vec<u8>>` by structural recursion, independent of `cursorWrite` /
  `cursorSeek` / `WHandle.*`); `specFlushed init buf pos acts` is what the file holds while the
  handle is still open: the vector as of the last `flush` of the script, `init` if there was none.
  `wspecTrace` adds what each call answers. The handle is the memory one, `memH i p buf pos` =
  `WritableFile` on key `p` of leaf `i`.
  `write_script_is_cursor`: in any world, from any vector and position, under any script of
  `write` / `flush` / `seek` calls the answers and positions are the specification's, call by call
  (`write` answers `Ok(len)`, `flush` `Ok(())`, `seek` the new position or `Err(io)` with the
  position left alone). `write_script_published` / `write_script_dropped` (a file sits at `p`): the
  file holds `specFlushed …` while the handle is open and `(specRun …).1` after the drop, other keys
  untouched. `script_write_past_end` (zero-filled gap), `script_write_inside`,
  `script_seek_before_start_w`, `create_starts_empty`, `append_starts_at_end` are the property's
  clauses after an arbitrary script.

  Not covered: the physical write handles (`physCreate` / `physAppend` write straight to the file,
  there is no buffer to publish); positions ≥ 2^64 reached by `write` (model and specification let
  the position grow). That `create_file` / `append_file` of each backend start a session at
  (`[]`, 0) / (`old`, `|old|`) is in Props/C14ScriptsBackends.lean and C14ScriptsOverlay.lean.
-/
import VfsModel.Proofs.SessionLemmas
namespace Vfs.C14
open Vfs.C04

inductive WOut where
  | wrote (n : Nat)
  | flushed
  | moved (pos : Nat)
  | invalidSeek
  deriving DecidableEq, Repr

def wspecAns (st : Bytes × Nat) : Act → WOut
  | .write bs => .wrote bs.length
  | .flush => .flushed
  | .seek s =>
    match specSeek st.1.length st.2 s with
    | some n => .moved n
    | none => .invalidSeek

def wspecTrace (buf : Bytes) (pos : Nat) : List Act → List (WOut × Nat)
  | [] => []
  | a :: rest =>
    (wspecAns (buf, pos) a, (specStep (buf, pos) a).2) ::
      wspecTrace (specStep (buf, pos) a).1 (specStep (buf, pos) a).2 rest

inductive WAns where
  | write (r : Res Nat)
  | flush (r : Res Unit)
  | seek (r : Res Nat)
  deriving DecidableEq, Repr

def WOut.toModel : WOut → WAns
  | .wrote n => .write (.ok n)
  | .flushed => .flush (.ok ())
  | .moved n => .seek (.ok n)
  | .invalidSeek => .seek (fail .io)

def actAns (a : Act) (h : WHandle) (w : World) : WAns :=
  match a with
  | .write bs => .write ((h.write bs w).1.map (·.1))
  | .flush => .flush (h.flush w).1
  | .seek s => .seek ((h.seek s w).1.map (·.1))

/-- answers and positions of a script; the state advances as in `C03.runActs` -/
def traceActs (h : WHandle) (w : World) : List Act → List (WAns × Nat)
  | [] => []
  | a :: rest =>
    (actAns a h w, (a.apply h w).1.pos) :: traceActs (a.apply h w).1 (a.apply h w).2 rest

theorem traceActs_append (h : WHandle) (w : World) (a b : List Act) :
    traceActs h w (a ++ b) =
      traceActs h w a ++ traceActs (applyActs h w a).1 (applyActs h w a).2 b := by
  induction a generalizing h w with
  | nil => rfl
  | cons x xs ih => simp only [List.cons_append, traceActs, applyActs, ih]

section mem
variable {i : Nat} {p : Str}

theorem actAns_mem (a : Act) (buf : Bytes) (pos : Nat) (w : World) :
    actAns a (memH i p buf pos) w = (wspecAns (buf, pos) a).toModel := by
  cases a with
  | write bs => rfl
  | flush =>
    show WAns.flush ((memH i p buf pos).flush w).1 = _
    rw [WHandle.flush_ok]
    rfl
  | seek s =>
    show WAns.seek (((memH i p buf pos).seek s w).1.map (·.1)) = _
    rw [WHandle.seek_mem _ rfl]
    simp only [wspecAns, specSeek_eq_cursorSeek]
    cases specSeek buf.length pos s <;> rfl

theorem write_script_is_cursor (buf : Bytes) (pos : Nat) (acts : List Act) (w : World) :
    traceActs (memH i p buf pos) w acts =
        (wspecTrace buf pos acts).map (fun o => (o.1.toModel, o.2)) ∧
      (applyActs (memH i p buf pos) w acts).1 =
        memH i p (specRun buf pos acts).1 (specRun buf pos acts).2 := by
  refine ⟨?_, applyActs_mem_fst buf pos acts w⟩
  induction acts generalizing buf pos w with
  | nil => rfl
  | cons a rest ih =>
    simp only [traceActs, wspecTrace, List.map_cons]
    rw [apply_mem_handle, actAns_mem, ih]

theorem write_script_published {m : FMap} {w : World} (h : MemLeafAt w i m) (e : Entry)
    (he : m.find? p = some e) (hf : e.ftype = .file) (buf : Bytes) (pos : Nat) (acts : List Act) :
    ∃ m', applyActs (memH i p buf pos) w acts =
        (memH i p (specRun buf pos acts).1 (specRun buf pos acts).2, w.setLeafFiles i m') ∧
      Holds m' p (some (specFlushed e.content buf pos acts)) ∧
      (∀ k, k ≠ p → m'.find? k = m.find? k) :=
  applyActs_mem h e he hf buf pos acts

theorem write_script_dropped {m : FMap} {w : World} (h : MemLeafAt w i m) (e : Entry)
    (he : m.find? p = some e) (hf : e.ftype = .file) (buf : Bytes) (pos : Nat) (acts : List Act) :
    ∃ m', C03.runActs (memH i p buf pos) acts w = (.ok (), w.setLeafFiles i m') ∧
      Holds m' p (some (specRun buf pos acts).1) ∧
      (∀ k, k ≠ p → m'.find? k = m.find? k) :=
  runActs_mem h e he hf buf pos acts

end mem

theorem specWrite_past_end (b : Bytes) (n : Nat) (bs : Bytes) (hn : b.length ≤ n) :
    specWrite b n bs = b ++ List.replicate (n - b.length) 0 ++ bs := by
  rw [specWrite_eq_cursorWrite]
  unfold cursorWrite padTo
  have hl : (b ++ List.replicate (n - b.length) (0 : UInt8)).length = n := by
    simp only [List.length_append, List.length_replicate]; omega
  rw [List.take_of_length_le (by omega), List.drop_of_length_le (by omega), List.append_nil]

theorem script_write_past_end (buf : Bytes) (pos : Nat) (pre : List Act) (bs : Bytes)
    (hn : (specRun buf pos pre).1.length ≤ (specRun buf pos pre).2) :
    specRun buf pos (pre ++ [.write bs]) =
      ((specRun buf pos pre).1 ++
          List.replicate ((specRun buf pos pre).2 - (specRun buf pos pre).1.length) 0 ++ bs,
        (specRun buf pos pre).2 + bs.length) := by
  rw [specRun_snoc]
  simp only [specStep, specWrite_past_end _ _ _ hn]

theorem script_write_inside (buf : Bytes) (pos : Nat) (pre : List Act) (bs : Bytes) :
    let b := (specRun buf pos pre).1
    let n := (specRun buf pos pre).2
    let b' := (specRun buf pos (pre ++ [.write bs])).1
    (specRun buf pos (pre ++ [.write bs])).2 = n + bs.length ∧
    b'.length = max b.length (n + bs.length) ∧
    b'.take n = (b ++ List.replicate (n - b.length) 0).take n ∧
    (b'.drop n).take bs.length = bs ∧
    b'.drop (n + bs.length) = b.drop (n + bs.length) := by
  intro b n b'
  have hb' : b' = cursorWrite b n bs := by
    show (specRun buf pos (pre ++ [.write bs])).1 = _
    rw [specRun_snoc]
    simp only [specStep, specWrite_eq_cursorWrite]
    rfl
  refine ⟨?_, ?_, ?_, ?_, ?_⟩
  · rw [specRun_snoc]; rfl
  · rw [hb']; exact write_length b n bs
  · rw [hb']; exact write_before b n bs
  · rw [hb']; exact write_at b n bs
  · rw [hb']; exact write_after b n bs

theorem script_seek_before_start_w {i : Nat} {p : Str} (buf : Bytes) (pos : Nat) (pre : List Act)
    (s : SeekFrom) (w : World)
    (hrej : specSeek (specRun buf pos pre).1.length (specRun buf pos pre).2 s = none) :
    specRun buf pos (pre ++ [.seek s]) = specRun buf pos pre ∧
    traceActs (memH i p buf pos) w (pre ++ [.seek s]) =
      traceActs (memH i p buf pos) w pre ++ [(.seek (fail .io), (specRun buf pos pre).2)] := by
  constructor
  · rw [specRun_snoc]
    simp only [specStep, hrej]
  · rw [traceActs_append]
    congr 1
    have hh := (write_script_is_cursor (i := i) (p := p) buf pos pre w).2
    rw [show applyActs (memH i p buf pos) w pre =
      ((applyActs (memH i p buf pos) w pre).1, (applyActs (memH i p buf pos) w pre).2) from rfl, hh]
    simp only [traceActs]
    rw [apply_mem_handle, actAns_mem]
    simp only [wspecAns, specStep, hrej, WOut.toModel]

theorem create_starts_empty (bs : Bytes) (rest : List Act) :
    specRun [] 0 (.write bs :: rest) = specRun bs bs.length rest := by
  rw [specRun_cons]
  simp only [specStep, specWrite_fresh, Nat.zero_add]

theorem append_starts_at_end (old bs : Bytes) (rest : List Act) :
    specRun old old.length (.write bs :: rest) = specRun (old ++ bs) (old ++ bs).length rest := by
  rw [specRun_cons]
  simp only [specStep, specWrite_end, List.length_append]

def exActs : List Act :=
  [.write [1, 2, 3], .seek (.fromEnd 2), .write [9], .flush, .seek (.cur (-100)),
   .seek (.fromEnd (-5)), .write [7, 7], .seek (.fromEnd 10)]

example : specRun [] 0 exActs = ([1, 7, 7, 0, 0, 9], 16) := by decide

example : wspecTrace [] 0 exActs =
    [(.wrote 3, 3), (.moved 5, 5), (.wrote 1, 6), (.flushed, 6), (.invalidSeek, 6), (.moved 1, 1),
     (.wrote 2, 3), (.moved 16, 16)] := by decide

example : specFlushed [] [] 0 exActs = [1, 2, 3, 0, 0, 9] := by decide

def exWorld : World := { leaves := [{ kind := .mem, files := [("/f".toList, fileEntryNow), ([], dirEntryNow)] }] }

example : traceActs (memH 0 "/f".toList [] 0) exWorld exActs =
    [(.write (.ok 3), 3), (.seek (.ok 5), 5), (.write (.ok 1), 6), (.flush (.ok ()), 6),
     (.seek (fail .io), 6), (.seek (.ok 1), 1), (.write (.ok 2), 3), (.seek (.ok 16), 16)] := by
  decide

example : MemLeafAt exWorld 0 [("/f".toList, fileEntryNow), ([], dirEntryNow)] := rfl
example : FMap.find? [("/f".toList, fileEntryNow), ([], dirEntryNow)] "/f".toList = some fileEntryNow ∧
    fileEntryNow.ftype = .file := by decide

example : specRun [4, 5] 2 [.write [6], .seek (.start 0), .write [1]] = ([1, 5, 6], 1) := by decide

end Vfs.C14

#print axioms Vfs.C14.write_script_is_cursor
#print axioms Vfs.C14.write_script_published
#print axioms Vfs.C14.write_script_dropped
#print axioms Vfs.C14.script_write_past_end
#print axioms Vfs.C14.script_write_inside
#print axioms Vfs.C14.script_seek_before_start_w
#print axioms Vfs.C14.create_starts_empty
#print axioms Vfs.C14.append_starts_at_end
