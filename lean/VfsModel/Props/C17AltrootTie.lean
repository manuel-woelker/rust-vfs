/-
  The program the driver executes for an altroot (`OConc.altCreateDirAll`, model file
  AltrootConc.lean) IS the program of the every-interleaving theorem
  `C17.altroot_create_dir_all_concurrent` (Props/C17AltrootConc.lean), definitionally.
-/
import VfsModel.AltrootConc
import VfsModel.Props.C17AltrootConc
namespace Vfs.C17
open Vfs

theorem driver_altMk_eq (root : VPath) (d : Str) : OConc.altMk root d = AConc.altMk root d := rfl

theorem driver_altCreateDirAll_eq (root : VPath) (p : Str) :
    OConc.altCreateDirAll root p = AConc.altCreateDirAll root p := rfl

theorem driver_altCreateDirAll_run (root : VPath) (id : Nat) (p : Str) :
    (OConc.altCreateDirAll root p).run = VPath.createDirAll ⟨Altroot.fs root, id, p⟩ := by
  rw [driver_altCreateDirAll_eq]; exact small_step_is_altroot_createDirAll root id p

end Vfs.C17
