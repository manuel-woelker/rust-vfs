/-
  C12, classification part, for EVERY adapter stacking over in-memory leaves.

  Classes
    * `MStackW fs` : a memory leaf `leafFS i`, or AltrootFS (rooted at a canonical path) over an
      `MStackW`.
    * `MStack fs`  : an `MStackW`, AltrootFS (canonical root) over an `MStack`, or OverlayFS over ANY
      list of layers each of which is a path of an `MStack` (overlays of overlays, overlays of
      altroots, altroots over overlays, ... included).
    The world hypothesis is `AllMem w` (every leaf of the world is a memory leaf).

  ABSENCE is read off the stacking itself: "`p` is absent from the view" is
  `(fs.exists_ p w).1 = .ok false` (the stacking's own `exists` answers `false`).

  Claims
    * `missing_is_not_found` (`stack_miss`): for every `MStack`, every world of memory leaves, every
      canonical non-root `p` that the stacking's `exists` reports absent:
      `metadata`, `open_file`, `read_dir`, `remove_file`, `remove_dir` through the `VfsPath` layer
      return EXACTLY `.err .fileNotFound (some p)` and leave the world unchanged.  (No hypothesis on
      the parent is needed over memory leaves: MemoryFS answers not-found on any missing key, also
      below a missing or a file parent; PhysicalFS would answer `io`/ENOTDIR below a file, see
      `C12.phys_missing_ancestor`.  No invariant (OInv/ViewWF) is needed either.)
    * `missing_is_not_found_W` (`stackW_missW`): for `MStackW` additionally `append_file`, the three
      time setters; `copy_file` / `move_file` FROM `p` to a canonical absent destination of the
      same filesystem or of any filesystem with another identity (the fast path answers
      NotSupported, the generic route fails in `open_file`; path.rs copy_file/move_file, same).
    * `overlay_missing_is_not_found` : the same five operations for an overlay over ANY layers whose
      `exists` leaves the world unchanged (`ExPure`: memory AND physical leaves `leaf_exPure`,
      EmbeddedFS `embedded_exPure`, altroots `altroot_exPure`, overlays `overlay_exPure`): no
      hypothesis on the leaf kinds at all — the overlay decides by `exists` of its layers.
    * `missing_copy_move` / `overlay_missing_copy_move` : `copy_file` / `move_file` FROM an absent
      path of any `MStack` (to another filesystem identity / within one overlay).
    * `overlay_setters_missing` (`_of`): the three setters THROUGH an overlay whose write layer is an
      `MStackW`: not-found provided the write layer itself has nothing at `p`
      (`exists` of the write layer at `p` is `false`; under `OInv` this follows from absence in the
      view, clause `ghost`, see `C12.overlayN_setters_missing`).  NOTE the model (and overlay.rs)
      send setters to the write layer only, so a path that exists only in a lower layer ALSO
      answers not-found: see the example with "/d/f" at the end.
    * `occupied_create_dir` (`stackW_occ`): for `MStackW`, `create_dir` through the `VfsPath`
      layer on a canonical non-root path whose parent exists and is a directory: occupant a
      directory → `.err .dirExists (some p)`, a file → `.err .fileExists (some p)`, world unchanged.
    * `unsupported_set_creation_time` : `set_creation_time` on a physical leaf, through altroots and
      through overlays whose WRITE layer is such a stacking (`UStack (PhysLeaf w)`; the lower layers
      are arbitrary) → `.err .notSupported (some p)`, world unchanged.
      `unsupported_setters_embedded` : the three setters of EmbeddedFS, directly / through altroots /
      through overlays with an embedded-backed write layer (`UStack IsEmbedded`).
      `unsupported_mutators_embedded` : `append_file`, `remove_file`, `remove_dir` of EmbeddedFS
      directly and through altroots (`EStackW`).  `unsupported_create_embedded` : `create_dir` /
      `create_file` directly on EmbeddedFS once `get_parent` has passed.  The transfers:
      `C12.embedded_defaults`, `C12.overlay_defaults`, `C12.altroot_defaults`.
    * `walk_error_items_labelled` : for ANY `FS` record: every `.err` item of
      `VPath.walkAll fuel s` after `root.walkDir = ok s` carries a label (never the placeholder),
      and the label is `root.path` or has the prefix `root.path ++ "/"` (`Below`); ok items are
      below the root too; no item is a panic.
  NOT PROVED HERE
    * `append_file` and `create_dir`-occupied THROUGH an overlay (they run `ensure_has_parent`, which
      writes to the write layer; needs the invariants): Props/C12StackN.lean does them for overlays
      over n memory leaves (OWN/OInv/ViewWF); for altroot over such an overlay see
      Props/C01OverlayAlt.lean.  Overlays over altroots: only the operations above.
    * leaves/altroots over PHYSICAL leaves for the not-found part (needs the parent-chain hypothesis
      `Phys.resolveParent = ok`, cf. `C12.vpath_missing_phys`); overlays over physical layers ARE
      covered for the five operations (`overlay_missing_is_not_found`).
    * `create_dir`/`create_file` of EmbeddedFS through altroot (the `get_parent` prelude answers
      `Other`/not-found first when the parent is missing); `append_file`/`remove_*` through an
      overlay with an embedded write layer (they fail in `create_dir_all` of the bookkeeping area).
-/
import VfsModel.Props.C12
import VfsModel.Props.C07
import VfsModel.Proofs.StackLemmas
import VfsModel.Proofs.Tame
namespace Vfs.C12
open Vfs

def Post {α} (m : M α) (w : World) (Q : α → Prop) : Prop :=
  (m w).2 = w ∧ ∀ a, (m w).1 = .ok a → Q a

theorem Post.pure {α} (a : α) (w : World) {Q : α → Prop} (h : Q a) : Post (Pure.pure a : M α) w Q :=
  ⟨rfl, fun b hb => by cases hb; exact h⟩

theorem Post.ret {α} (r : Res α) (w : World) {Q : α → Prop} (h : ∀ a, r = .ok a → Q a) :
    Post (M.ret r) w Q := ⟨rfl, fun a ha => h a ha⟩

theorem Post.failK {α} (k : ErrKind) (w : World) {Q : α → Prop} : Post (M.failK k : M α) w Q :=
  ⟨rfl, fun a ha => by cases ha⟩

theorem Post.bind {α β} {m : M α} {f : α → M β} {w : World} {Q : α → Prop} {R : β → Prop}
    (hm : Post m w Q) (hf : ∀ a, Q a → Post (f a) w R) : Post (m >>= f) w R := by
  obtain ⟨h1, h2⟩ := hm
  show Post (M.bind m f) w R
  unfold Post M.bind
  cases hr : m w with
  | mk r w' =>
    rw [hr] at h1 h2
    simp only at h1; subst h1
    cases r with
    | ok a => exact hf a (h2 a rfl)
    | err k p => exact ⟨rfl, fun a ha => by cases ha⟩
    | panic => exact ⟨rfl, fun a ha => by cases ha⟩

theorem Post.mono {α} {m : M α} {w : World} {Q R : α → Prop} (h : Post m w Q)
    (hqr : ∀ a, Q a → R a) : Post m w R := ⟨h.1, fun a ha => hqr a (h.2 a ha)⟩

def ExPure (fs : FS) : Prop := ∀ p w, (fs.exists_ p w).2 = w

theorem ExPure.post {fs : FS} (h : ExPure fs) (x : VPath) (hx : x.fs = fs) (w : World) :
    Post x.exists_ w (fun b => x.exists_ w = (.ok b, w)) := by
  refine ⟨by unfold VPath.exists_; rw [hx]; exact h _ _, fun b hb => ?_⟩
  have h2 : (x.exists_ w).2 = w := by unfold VPath.exists_; rw [hx]; exact h _ _
  exact Prod.ext hb h2

theorem exPure_default : ExPure (default : FS) := fun _ _ => rfl

def NF {α} (m : M α) (w : World) : Prop := ∃ lbl, m w = (.err .fileNotFound lbl, w)

theorem NF.bind {α β} {m : M α} {w : World} (h : NF m w) (f : α → M β) : NF (m >>= f) w := by
  obtain ⟨lbl, h⟩ := h
  exact ⟨lbl, bind_run_err h⟩

theorem NF.withPath {α} {m : M α} {w : World} (h : NF m w) (p : Str) :
    M.withPath p m w = (.err .fileNotFound (some p), w) := by
  obtain ⟨lbl, h⟩ := h
  exact withPath_of_err p h

theorem NF.withPath' {α} {m : M α} {w : World} (h : NF m w) (p : Str) : NF (M.withPath p m) w :=
  ⟨_, h.withPath p⟩

theorem NF.failK {α} (w : World) : NF (M.failK .fileNotFound : M α) w := ⟨none, rfl⟩

structure Miss (fs : FS) (w : World) (p : Str) : Prop where
  metadata : NF (fs.metadata p) w
  openFile : NF (fs.openFile p) w
  readDir : NF (fs.readDir p) w
  removeFile : NF (fs.removeFile p) w
  removeDir : NF (fs.removeDir p) w

structure MissW (fs : FS) (w : World) (p : Str) : Prop extends Miss fs w p where
  appendFile : NF (fs.appendFile p) w
  setC : ∀ t, NF (fs.setCreationTime p t) w
  setM : ∀ t, NF (fs.setModificationTime p t) w
  setA : ∀ t, NF (fs.setAccessTime p t) w
  copyFile : ∀ d, Canon d → (fs.exists_ d w).1 = .ok false →
    ∃ k lbl, fs.copyFile p d w = (.err k lbl, w) ∧ (k = .notSupported ∨ k = .fileNotFound)
  moveFile : ∀ d, fs.moveFile p d w = (fail .notSupported, w)

def AllMem (w : World) : Prop := ∀ i l, w.leaf? i = some l → l.kind = .mem

inductive MStackW : FS → Prop
  | leaf (i : Nat) : MStackW (leafFS i)
  | altroot {fs : FS} (id : Nat) (root : Str) : MStackW fs → Canon root →
      MStackW (Altroot.fs { fs := fs, fsId := id, path := root })

inductive MStack : FS → Prop
  | w {fs : FS} : MStackW fs → MStack fs
  | altroot {fs : FS} (id : Nat) (root : Str) : MStack fs → Canon root →
      MStack (Altroot.fs { fs := fs, fsId := id, path := root })
  | overlay (layers : List VPath) : (∀ l ∈ layers, MStack l.fs) → MStack (Overlay.fs layers)

theorem leaf_exPure (i : Nat) : ExPure (leafFS i) := (C02.leaf_tame i).existsP

theorem leaf_exists_false {i : Nat} {w : World} {p : Str} (hm : AllMem w)
    (h : ((leafFS i).exists_ p w).1 = .ok false) :
    ∃ l, w.leaf? i = some l ∧ l.kind = .mem ∧ l.files.find? p = none := by
  simp only [leafFS, onLeaf] at h
  cases hl : w.leaf? i with
  | none => rw [hl] at h; cases h
  | some l =>
    have hk := hm i l hl
    simp only [hl, hk, Res.ok.injEq] at h
    exact ⟨l, rfl, hk, find?_none_of_contains h⟩

theorem leaf_missW_of {i : Nat} {w : World} {p : Str} {l : Leaf} (hl : w.leaf? i = some l)
    (hk : l.kind = .mem) (hf : l.files.find? p = none) : MissW (leafFS i) w p := by
  obtain ⟨h1, h2, h3, h4, h5, h6, _⟩ := mem_missing l.files p .now hf
  have hset := fun t => (mem_missing l.files p (.at t) hf).2.2.2.2.2.2
  refine { metadata := ⟨none, onLeaf_unchanged hl ?_⟩, openFile := ⟨none, onLeaf_unchanged hl ?_⟩,
           readDir := ⟨none, onLeaf_unchanged hl ?_⟩, removeFile := ⟨none, onLeaf_unchanged hl ?_⟩,
           removeDir := ⟨none, onLeaf_unchanged hl ?_⟩, appendFile := ⟨none, onLeaf_unchanged hl ?_⟩,
           setC := fun t => ⟨none, onLeaf_unchanged hl ?_⟩, setM := fun t => ⟨none, onLeaf_unchanged hl ?_⟩,
           setA := fun t => ⟨none, onLeaf_unchanged hl ?_⟩,
           copyFile := fun d _ _ => ⟨.notSupported, none, onLeaf_unchanged hl ?_, Or.inl rfl⟩,
           moveFile := fun d => onLeaf_unchanged hl ?_ }
  · simp only [hk, h1]; rfl
  · simp only [hk, h2]; rfl
  · simp only [hk, h5]; rfl
  · simp only [hk, h4]; rfl
  · simp only [hk, h6]; rfl
  · simp only [hk, h3]; rfl
  · simp only [hk, (hset t).1]; rfl
  · simp only [hk, (hset t).2.1]; rfl
  · simp only [hk, (hset t).2.2]; rfl
  · simp only [hk]; rfl
  · simp only [hk]

theorem leaf_missW {i : Nat} {w : World} {p : Str} (hm : AllMem w)
    (h : ((leafFS i).exists_ p w).1 = .ok false) : MissW (leafFS i) w p := by
  obtain ⟨l, hl, hk, hf⟩ := leaf_exists_false hm h
  exact leaf_missW_of hl hk hf

section altroot
variable {fs : FS} {id : Nat} {root : Str}

theorem altroot_exPure (r : VPath) (h : ExPure r.fs) : ExPure (Altroot.fs r) :=
  fun p => C02.MPure.of_sat fun w => Altroot.sat_exists_of r (fun q => C02.MPure.sat (h q) w) p

theorem altroot_exists_eq (hroot : Canon root) {p : Str} (hp : Canon p) (w : World) :
    (Altroot.fs { fs := fs, fsId := id, path := root }).exists_ p w = fs.exists_ (root ++ p) w :=
  congrFun (C07.altroot_exact_exists ⟨fs, id, root⟩ p hroot hp) w

/-- a method of AltrootFS at a canonical `p` runs `op` at the translated path `root ++ p`, so it
fails there as `op` does -/
theorem altroot_lift {α} {k : ErrKind} (hroot : Canon root) {p : Str} (hp : Canon p) {w : World}
    {op : VPath → M α} (h : ∃ lbl, op { fs := fs, fsId := id, path := root ++ p } w = (.err k lbl, w)) :
    ∃ lbl, (M.ret (Altroot.path { fs := fs, fsId := id, path := root } p) >>= op) w
      = (.err k lbl, w) := by
  rw [Altroot.run_method ⟨fs, id, root⟩ p hroot hp]; exact h

theorem altroot_miss (hroot : Canon root) {p : Str} (hp : Canon p) {w : World}
    (h : Miss fs w (root ++ p)) : Miss (Altroot.fs { fs := fs, fsId := id, path := root }) w p :=
  ⟨altroot_lift hroot hp (h.metadata.withPath' _), altroot_lift hroot hp (h.openFile.withPath' _),
    altroot_lift hroot hp (((h.readDir.withPath' _).bind _).bind _),
    altroot_lift hroot hp (h.removeFile.withPath' _), altroot_lift hroot hp (h.removeDir.withPath' _)⟩

end altroot

section overlay
open Overlay
variable {layers : List VPath}

theorem join_fs (l : VPath) (arg : Str) (q : VPath) (h : l.join arg = .ok q) : q.fs = l.fs :=
  (VPath.join_fs l q arg h).1

theorem writeLayer_exPure (h : ∀ l ∈ layers, ExPure l.fs) : ExPure (writeLayer layers).fs :=
  writeLayer_of ExPure exPure_default layers h

theorem whiteoutPath_fs (p : Str) (q : VPath) (h : whiteoutPath layers p = .ok q) :
    q.fs = (writeLayer layers).fs :=
  ((whiteoutPath_inUpper layers p).post default q h).1

theorem writePath_fs (p : Str) (q : VPath) (h : writePath layers p = .ok q) :
    q.fs = (writeLayer layers).fs :=
  ((writePath_inUpper layers p).post default q h).1

theorem firstExisting_post (p : Str) (w : World) : ∀ (ls : List VPath), (∀ l ∈ ls, ExPure l.fs) →
    Post (firstExisting p ls) w (fun o => ∀ lp, o = some lp → lp.exists_ w = (.ok true, w))
  | [], _ => Post.pure none w (by intro lp h; cases h)
  | l :: rest, h => by
    rw [firstExisting_cons]
    refine Post.bind (Q := fun lp => lp.fs = l.fs) (Post.ret _ w (fun a ha => join_fs _ _ _ ha)) ?_
    intro lp hlp
    refine Post.bind ((h l (by simp)).post lp hlp w) ?_
    intro b hb
    split
    · rename_i hbt
      subst hbt
      exact Post.pure _ w (by intro x hx; cases hx; exact hb)
    · exact firstExisting_post p w rest (fun x hx => h x (by simp [hx]))

theorem readPath_post (h : ∀ l ∈ layers, ExPure l.fs) {p : Str} (hp : p ≠ []) (w : World) :
    Post (readPath layers p) w (fun q => q.exists_ w = (.ok true, w)) := by
  unfold readPath
  rw [if_neg hp]
  refine Post.bind (Q := fun wo => wo.fs = (writeLayer layers).fs)
    (Post.ret _ w (fun a ha => whiteoutPath_fs _ _ ha)) ?_
  intro wo hwo
  refine Post.bind ((writeLayer_exPure h).post wo hwo w) ?_
  intro marked _
  split
  · exact Post.failK _ w
  · refine Post.bind (firstExisting_post p w layers h) ?_
    intro found hfound
    split
    · rename_i lp; exact Post.pure _ w (hfound lp rfl)
    · refine Post.bind (Q := fun rp => rp.fs = (writeLayer layers).fs)
        (Post.ret _ w (fun a ha => join_fs _ _ _ ha)) ?_
      intro rp hrp
      refine Post.bind ((writeLayer_exPure h).post rp hrp w) ?_
      intro ex hex
      split
      · exact Post.failK _ w
      · rename_i hne
        refine Post.pure _ w ?_
        cases ex
        · exact absurd rfl hne
        · exact hex

theorem overlay_exPure (h : ∀ l ∈ layers, ExPure l.fs) : ExPure (Overlay.fs layers) :=
  fun p => C02.MPure.of_sat fun w => Overlay.sat_exists_of (fun l hl q => C02.MPure.sat (h l hl q) w)
    (fun q => C02.MPure.sat (writeLayer_exPure h q) w) p

/-- **the key fact**: if the overlay's own `exists` says `false` for a non-root path, its
`read_path` fails with not-found (marker, or no layer has the path) -/
theorem overlay_readPath_nf (h : ∀ l ∈ layers, ExPure l.fs) {p : Str} (hp : p ≠ []) {w : World}
    (hex : ((Overlay.fs layers).exists_ p w).1 = .ok false) : NF (readPath layers p) w := by
  have hex' : Overlay.exists_ layers p w = (.ok false, w) := Prod.ext hex (overlay_exPure h p w)
  unfold Overlay.exists_ at hex'
  obtain ⟨wo, w0, hwo, h1⟩ := M.bind_ok_inv hex'
  obtain ⟨hwo, hw0⟩ := M.ret_ok_inv hwo
  rw [hw0] at h1
  obtain ⟨marked, w1, hmk, h2⟩ := M.bind_ok_inv h1
  have hw1 : w1 = w := by
    have := ((writeLayer_exPure h).post wo (whiteoutPath_fs _ _ hwo) w).1
    rw [hmk] at this; exact this
  rw [hw1] at hmk h2
  cases marked with
  | true =>
    refine ⟨none, ?_⟩
    unfold readPath
    rw [if_neg hp, hwo, ret_ok_bind, bind_run_ok hmk]
    rfl
  | false =>
    obtain ⟨hpw, hpq⟩ := readPath_post h hp w
    simp only [Bool.false_eq_true, if_false] at h2
    rcases hr : readPath layers p w with ⟨r, w2⟩
    rw [hr] at h2 hpw hpq
    have hw2 : w2 = w := hpw
    rw [hw2] at h2 hr
    cases r with
    | ok q =>
      have h3 : q.exists_ w = (.ok false, w) := h2
      rw [hpq q rfl] at h3; cases h3
    | err k l => cases k <;> first | exact ⟨l, hr⟩ | cases h2
    | panic => cases h2

theorem overlay_miss (h : ∀ l ∈ layers, ExPure l.fs) {p : Str} (hp : p ≠ []) {w : World}
    (hex : ((Overlay.fs layers).exists_ p w).1 = .ok false) : Miss (Overlay.fs layers) w p := by
  have hnf := overlay_readPath_nf h hp hex
  exact { metadata := hnf.bind _, openFile := hnf.bind _, readDir := hnf.bind _,
          removeFile := hnf.bind _, removeDir := hnf.bind _ }

end overlay

/-- altroots over a leaf are tame (Proofs/Tame.lean): in particular their `exists` and `metadata`
keep the world -/
theorem stackW_tame {fs : FS} (h : MStackW fs) : C02.Tame fs := by
  induction h with
  | leaf i => exact C02.leaf_tame i
  | altroot id root _ _ ih => exact C02.Altroot.tame ih

theorem stackW_exPure {fs : FS} (h : MStackW fs) : ExPure fs := (stackW_tame h).existsP

theorem stack_exPure {fs : FS} (h : MStack fs) : ExPure fs := by
  induction h with
  | w hw => exact stackW_exPure hw
  | altroot id root _ _ ih => exact altroot_exPure _ ih
  | overlay layers _ ih => exact overlay_exPure ih

theorem canon_append_ne {a b : Str} (hb : b ≠ []) : a ++ b ≠ [] := by
  intro h; exact hb (List.append_eq_nil_iff.1 h).2

/-- the same-filesystem shortcut fails with not-supported or not-found, the generic route with
not-found: so does the whole -/
theorem fastOr_nf {c : Prop} [Decidable c] {fast slow : M Unit} {w : World}
    (hfast : c → ∃ k lbl, fast w = (.err k lbl, w) ∧ (k = .notSupported ∨ k = .fileNotFound))
    (hs : NF slow w) : NF (VPath.fastOr c fast slow) w := by
  by_cases hc : c
  · obtain ⟨k, lbl, hk, rfl | rfl⟩ := hfast hc
    · rw [NF, VPath.fastOr_slow fun _ => ⟨lbl, hk⟩]; exact hs
    · exact ⟨lbl, by rw [VPath.fastOr_final hc (by rw [hk]; exact nofun), hk]⟩
  · rw [NF, VPath.fastOr_slow fun h => absurd h hc]; exact hs

theorem vpath_copyFile_missing (src dst : VPath) (w : World)
    (hdst : dst.exists_ w = (.ok false, w))
    (hfast : src.fsId = dst.fsId → ∃ k lbl, src.fs.copyFile src.path dst.path w = (.err k lbl, w) ∧
      (k = .notSupported ∨ k = .fileNotFound))
    (hopen : NF (src.fs.openFile src.path) w) :
    src.copyFile dst w = (.err .fileNotFound (some src.path), w) := by
  rw [VPath.copyFile_eq, VPath.guarded_run _ _ _ _ w hdst]
  exact (fastOr_nf hfast ((hopen.withPath' _).bind _)).withPath _

theorem vpath_moveFile_missing (src dst : VPath) (w : World)
    (hdst : dst.exists_ w = (.ok false, w))
    (hfast : src.fsId = dst.fsId → src.fs.moveFile src.path dst.path w = (fail .notSupported, w))
    (hopen : NF (src.fs.openFile src.path) w) :
    src.moveFile dst w = (.err .fileNotFound (some src.path), w) := by
  rw [VPath.moveFile_eq, VPath.guarded_run _ _ _ _ w hdst]
  exact (fastOr_nf (fun hid => ⟨.notSupported, none, hfast hid, Or.inl rfl⟩)
    ((hopen.withPath' _).bind _)).withPath _

theorem altroot_missW {fs : FS} {id : Nat} {root : Str} (hroot : Canon root) (hpure : ExPure fs)
    {p : Str} (hp : Canon p) {w : World} (h : MissW fs w (root ++ p)) :
    MissW (Altroot.fs { fs := fs, fsId := id, path := root }) w p := by
  refine { toMiss := altroot_miss hroot hp h.toMiss,
           appendFile := altroot_lift hroot hp (h.appendFile.withPath' _),
           setC := fun t => altroot_lift hroot hp ((h.setC t).withPath' _),
           setM := fun t => altroot_lift hroot hp ((h.setM t).withPath' _),
           setA := fun t => altroot_lift hroot hp ((h.setA t).withPath' _),
           copyFile := fun d hd hdex => ?_, moveFile := fun d => rfl }
  by_cases hd0 : d = []
  · exact ⟨.notSupported, none, by rw [hd0, C07.altroot_copyFile_root]; rfl, Or.inl rfl⟩
  · rw [altroot_exists_eq hroot hd] at hdex
    refine ⟨.fileNotFound, some (root ++ p), ?_, Or.inr rfl⟩
    rw [C07.altroot_exact_copyFile ⟨fs, id, root⟩ p hroot hp d hd hd0]
    exact vpath_copyFile_missing _ _ w (Prod.ext hdex (hpure _ _))
      (fun _ => h.copyFile (root ++ d) (canon_append hroot hd) hdex) h.openFile

theorem stackW_missW {fs : FS} (hs : MStackW fs) {w : World} (hm : AllMem w) :
    ∀ {p : Str}, Canon p → (fs.exists_ p w).1 = .ok false → MissW fs w p := by
  induction hs with
  | leaf i => intro p _ h; exact leaf_missW hm h
  | altroot id root hw hroot ih =>
    intro p hp h
    rw [altroot_exists_eq hroot hp] at h
    exact altroot_missW hroot (stackW_exPure hw) hp (ih (canon_append hroot hp) h)

theorem stack_miss {fs : FS} (hs : MStack fs) {w : World} (hm : AllMem w) :
    ∀ {p : Str}, Canon p → p ≠ [] → (fs.exists_ p w).1 = .ok false → Miss fs w p := by
  induction hs with
  | w hw => intro p hp _ h; exact (stackW_missW hw hm hp h).toMiss
  | altroot id root _ hroot ih =>
    intro p hp hne h
    rw [altroot_exists_eq hroot hp] at h
    exact altroot_miss hroot hp (ih (canon_append hroot hp) (canon_append_ne hne) h)
  | overlay layers hl _ =>
    intro p _ hne h
    exact overlay_miss (fun l hl' => stack_exPure (hl l hl')) hne h

/-- **missing_is_not_found** (the five operations, every stacking). For every `MStack fs`, every
world of memory leaves, every canonical non-root `p` which `fs`'s own `exists` reports absent:
the `VfsPath` operations answer `FileNotFound`, labelled with `p`, and change nothing. -/
theorem missing_is_not_found {fs : FS} (hs : MStack fs) {w : World} (hm : AllMem w) (id : Nat)
    {p : Str} (hc : Canon p) (hne : p ≠ []) (hex : (fs.exists_ p w).1 = .ok false) :
    let vp : VPath := { fs := fs, fsId := id, path := p }
    vp.exists_ w = (.ok false, w) ∧
    vp.metadata w = (.err .fileNotFound (some p), w) ∧
    vp.openFile w = (.err .fileNotFound (some p), w) ∧
    vp.readDir w = (.err .fileNotFound (some p), w) ∧
    vp.walkDir w = (.err .fileNotFound (some p), w) ∧
    vp.removeFile w = (.err .fileNotFound (some p), w) ∧
    vp.removeDir w = (.err .fileNotFound (some p), w) ∧
    vp.readToEndChecked w = (.err .fileNotFound (some p), w) := by
  have h := stack_miss hs hm hc hne hex
  have hrd : VPath.readDir { fs := fs, fsId := id, path := p } w
      = (.err .fileNotFound (some p), w) := by
    unfold VPath.readDir; exact bind_run_err (h.readDir.withPath p)
  refine ⟨Prod.ext hex (stack_exPure hs p w), h.metadata.withPath p, h.openFile.withPath p, hrd,
    ?_, h.removeFile.withPath p, h.removeDir.withPath p, ?_⟩
  · unfold VPath.walkDir; exact bind_run_err hrd
  · unfold VPath.readToEndChecked; exact bind_run_err (h.metadata.withPath p)

/-- the same for an overlay over ANY layers whose `exists` does not change the world (memory,
physical, embedded leaves, altroots over them, overlays of such): no hypothesis on the kinds of
the leaves, no invariant -/
theorem overlay_missing_is_not_found {layers : List VPath} (h : ∀ l ∈ layers, ExPure l.fs)
    {w : World} (id : Nat) {p : Str} (hne : p ≠ [])
    (hex : ((Overlay.fs layers).exists_ p w).1 = .ok false) :
    let vp : VPath := { fs := Overlay.fs layers, fsId := id, path := p }
    vp.metadata w = (.err .fileNotFound (some p), w) ∧
    vp.openFile w = (.err .fileNotFound (some p), w) ∧
    vp.readDir w = (.err .fileNotFound (some p), w) ∧
    vp.removeFile w = (.err .fileNotFound (some p), w) ∧
    vp.removeDir w = (.err .fileNotFound (some p), w) := by
  have hm := overlay_miss h hne hex
  refine ⟨hm.metadata.withPath p, hm.openFile.withPath p, ?_, hm.removeFile.withPath p,
    hm.removeDir.withPath p⟩
  unfold VPath.readDir; exact bind_run_err (hm.readDir.withPath p)

theorem embedded_exPure (st : Embedded.State) : ExPure (Embedded.fs st) := fun _ _ => rfl

/-- **missing_is_not_found, single-backend stackings** (leaf, altroots over a leaf): additionally
`append_file`, the three setters, and `copy_file` / `move_file` FROM `p` to a canonical absent
destination `d` — on the same filesystem (`dst` with the same identity) or on ANY filesystem with
another identity whose `exists` answers `false` without changing the world. -/
theorem missing_is_not_found_W {fs : FS} (hs : MStackW fs) {w : World} (hm : AllMem w) (id : Nat)
    {p : Str} (hc : Canon p) (hex : (fs.exists_ p w).1 = .ok false) (t : Int) :
    let vp : VPath := { fs := fs, fsId := id, path := p }
    vp.appendFile w = (.err .fileNotFound (some p), w) ∧
    vp.setCreationTime t w = (.err .fileNotFound (some p), w) ∧
    vp.setModificationTime t w = (.err .fileNotFound (some p), w) ∧
    vp.setAccessTime t w = (.err .fileNotFound (some p), w) ∧
    (∀ d, Canon d → (fs.exists_ d w).1 = .ok false →
      vp.copyFile { fs := fs, fsId := id, path := d } w = (.err .fileNotFound (some p), w) ∧
      vp.moveFile { fs := fs, fsId := id, path := d } w = (.err .fileNotFound (some p), w)) ∧
    (∀ dst : VPath, dst.fsId ≠ id → dst.exists_ w = (.ok false, w) →
      vp.copyFile dst w = (.err .fileNotFound (some p), w) ∧
      vp.moveFile dst w = (.err .fileNotFound (some p), w)) := by
  have h := stackW_missW hs hm hc hex
  refine ⟨h.appendFile.withPath p, (h.setC t).withPath p, (h.setM t).withPath p,
    (h.setA t).withPath p, fun d hd hdex => ?_, fun dst hne hdst => ?_⟩
  · have hde : VPath.exists_ { fs := fs, fsId := id, path := d } w = (.ok false, w) :=
      Prod.ext hdex (stackW_exPure hs d w)
    exact ⟨vpath_copyFile_missing _ _ w hde (fun _ => h.copyFile d hd hdex) h.openFile,
      vpath_moveFile_missing _ _ w hde (fun _ => h.moveFile d) h.openFile⟩
  · exact ⟨vpath_copyFile_missing _ _ w hdst (fun he => absurd he.symm hne) h.openFile,
      vpath_moveFile_missing _ _ w hdst (fun he => absurd he.symm hne) h.openFile⟩

/-- `copy_file` / `move_file` FROM an absent path of ANY stacking (overlays included): the overlay
does not override the fast paths, the generic route fails in `open_file` -/
theorem missing_copy_move {fs : FS} (hs : MStack fs) {w : World} (hm : AllMem w) (id : Nat)
    {p : Str} (hc : Canon p) (hne : p ≠ []) (hex : (fs.exists_ p w).1 = .ok false)
    (dst : VPath) (hdst : dst.exists_ w = (.ok false, w)) (hid : dst.fsId ≠ id) :
    VPath.copyFile { fs := fs, fsId := id, path := p } dst w = (.err .fileNotFound (some p), w) ∧
    VPath.moveFile { fs := fs, fsId := id, path := p } dst w = (.err .fileNotFound (some p), w) := by
  have h := stack_miss hs hm hc hne hex
  exact ⟨vpath_copyFile_missing _ _ w hdst (fun he => absurd he.symm hid) h.openFile,
    vpath_moveFile_missing _ _ w hdst (fun he => absurd he.symm hid) h.openFile⟩

/-- the same within ONE overlay (same identity): the overlay's fast paths are the trait defaults -/
theorem overlay_missing_copy_move {layers : List VPath} (hl : ∀ l ∈ layers, MStack l.fs)
    {w : World} (hm : AllMem w) (id : Nat) {p d : Str} (hc : Canon p) (hne : p ≠ [])
    (hex : ((Overlay.fs layers).exists_ p w).1 = .ok false)
    (hdex : ((Overlay.fs layers).exists_ d w).1 = .ok false) :
    VPath.copyFile { fs := Overlay.fs layers, fsId := id, path := p }
      { fs := Overlay.fs layers, fsId := id, path := d } w = (.err .fileNotFound (some p), w) ∧
    VPath.moveFile { fs := Overlay.fs layers, fsId := id, path := p }
      { fs := Overlay.fs layers, fsId := id, path := d } w = (.err .fileNotFound (some p), w) := by
  have hs : MStack (Overlay.fs layers) := .overlay layers hl
  have h := stack_miss hs hm hc hne hex
  have hde : VPath.exists_ { fs := Overlay.fs layers, fsId := id, path := d } w = (.ok false, w) :=
    Prod.ext hdex (stack_exPure hs d w)
  exact ⟨vpath_copyFile_missing _ _ w hde (fun _ => ⟨.notSupported, none, rfl, Or.inl rfl⟩) h.openFile,
    vpath_moveFile_missing _ _ w hde (fun _ => rfl) h.openFile⟩

section overlaySetters
open Overlay
variable {layers : List VPath}

theorem canon_head {p : Str} (hp : Canon p) (hne : p ≠ []) : p.head? = some '/' := by
  obtain ⟨cs, _, rfl⟩ := hp
  cases cs with
  | nil => exact absurd rfl hne
  | cons c cs => simp

/-- `write_path` of a canonical string is the translation `AltrootFS::path` makes at the write
layer: both strip the leading '/' and `join` -/
theorem writePath_eq_path {p : Str} (hp : Canon p) :
    writePath layers p = Altroot.path (writeLayer layers) p := by
  unfold Altroot.path
  by_cases hne : p = []
  · rw [if_pos hne, hne]; rfl
  · rw [if_neg hne, if_pos (canon_head hp hne), writePath_of_ne layers hne]; rfl

/-- so a method of the overlay of the shape `self.write_path(p)?.op()` fails as it would through an
altroot at the write layer: as `op` fails at the write layer's path with `p` appended -/
theorem overlay_write_lift {α} {k : ErrKind} (hwc : Canon (writeLayer layers).path) {p : Str}
    (hp : Canon p) {w : World} {op : VPath → M α}
    (h : ∃ lbl, op ((writeLayer layers).withStr ((writeLayer layers).path ++ p)) w = (.err k lbl, w)) :
    ∃ lbl, (M.ret (writePath layers p) >>= op) w = (.err k lbl, w) := by
  rw [writePath_eq_path hp, Altroot.run_method _ p hwc hp]; exact h

set_option linter.unusedVariables false in
/-- the three setters go to the write layer only (overlay.rs: `self.write_path(path)?.set_…`):
when the write layer answers not-found at `p` they answer not-found — whether or not a lower
layer has `p` (`hne` is not needed: at the root `write_path` is the write layer itself) -/
theorem overlay_setters_missing_of (hwc : Canon (writeLayer layers).path) {w : World} {p : Str}
    (hp : Canon p) (hne : p ≠ [])
    (h : MissW (writeLayer layers).fs w ((writeLayer layers).path ++ p)) (id : Nat) (t : Int) :
    let vp : VPath := { fs := Overlay.fs layers, fsId := id, path := p }
    vp.setCreationTime t w = (.err .fileNotFound (some p), w) ∧
    vp.setModificationTime t w = (.err .fileNotFound (some p), w) ∧
    vp.setAccessTime t w = (.err .fileNotFound (some p), w) := by
  refine ⟨NF.withPath ?_ _, NF.withPath ?_ _, NF.withPath ?_ _⟩
  · exact overlay_write_lift hwc hp ((h.setC t).withPath' _)
  · exact overlay_write_lift hwc hp ((h.setM t).withPath' _)
  · exact overlay_write_lift hwc hp ((h.setA t).withPath' _)

/-- … in particular when the write layer is an `MStackW` over memory leaves that has nothing at
`p` (under `OInv` this follows from absence in the view, clause `ghost`) -/
theorem overlay_setters_missing (hw : MStackW (writeLayer layers).fs)
    (hwc : Canon (writeLayer layers).path) {w : World} (hm : AllMem w) {p : Str} (hp : Canon p)
    (hne : p ≠ [])
    (hup : ((writeLayer layers).fs.exists_ ((writeLayer layers).path ++ p) w).1 = .ok false)
    (id : Nat) (t : Int) :
    let vp : VPath := { fs := Overlay.fs layers, fsId := id, path := p }
    vp.setCreationTime t w = (.err .fileNotFound (some p), w) ∧
    vp.setModificationTime t w = (.err .fileNotFound (some p), w) ∧
    vp.setAccessTime t w = (.err .fileNotFound (some p), w) :=
  overlay_setters_missing_of hwc hp hne (stackW_missW hw hm (canon_append hwc hp) hup) id t

end overlaySetters

theorem vpath_createDir_err (vp : VPath) {w : World} {pmd : Meta} {k : ErrKind} {lbl : Option Str}
    (hex : vp.parent.exists_ w = (.ok true, w)) (hmeta : vp.parent.metadata w = (.ok pmd, w))
    (hpd : pmd.ftype = .dir) (hcd : vp.fs.createDir vp.path w = (.err k lbl, w)) :
    vp.createDir w = (.err k (some vp.path), w) := by
  have hgp : vp.getParent w = (.ok (), w) := by
    rw [VPath.getParent_of_calls hex fun _ => hmeta]; simp [hpd]
  exact VPath.createDir_of_calls hgp hcd

theorem stackW_occ {fs : FS} (hs : MStackW fs) {w : World} (hm : AllMem w) :
    ∀ {p : Str}, Canon p → p ≠ [] → ∀ (md pmd : Meta),
      fs.exists_ (parentInternal p) w = (.ok true, w) →
      fs.metadata (parentInternal p) w = (.ok pmd, w) → pmd.ftype = .dir →
      fs.metadata p w = (.ok md, w) →
      ∃ lbl, fs.createDir p w
        = (.err (if md.ftype = .file then .fileExists else .dirExists) lbl, w) := by
  induction hs with
  | leaf i =>
    intro p hp hne md pmd hpe hpm hpd hmd
    cases hl : w.leaf? i with
    | none =>
      change onLeaf i _ w = _ at hmd
      rw [onLeaf_none hl] at hmd; cases hmd
    | some l =>
      have hM : MemLeafAt w i l.files := by
        have hk := hm i l hl
        cases l
        subst hk; exact hl
      rw [run_metadata hM] at hpm hmd
      rw [run_createDir hM]
      simp only [Prod.mk.injEq, and_true] at hpm hmd
      have hslash : '/' ∈ p := by
        have := canon_head hp hne
        cases p with
        | nil => cases this
        | cons c cs => simp at this; subst this; simp
      unfold Mem.metadata at hpm hmd
      cases hfp : l.files.find? (parentInternal p) with
      | none => rw [hfp] at hpm; cases hpm
      | some pe =>
        rw [hfp] at hpm
        cases hf : l.files.find? p with
        | none => rw [hf] at hmd; cases hmd
        | some e =>
          rw [hf] at hmd
          have hpar : Mem.ensureHasParent l.files p = .ok () :=
            Mem.ensureHasParent_dir l.files p hslash ⟨pe, hfp, by cases hpm; exact hpd⟩
          have hty : md.ftype = e.ftype := by cases hmd; rfl
          refine ⟨none, ?_⟩
          rw [mem_createDir_occupied l.files p e hpar hf, hM.same, hty]
          rfl
  | @altroot fs0 id root _ hroot ih =>
    intro p hp hne md pmd hpe hpm hpd hmd
    have hpa := parentInternal_append root hp hne
    have hpc := C06.parent_canonical p hp
    rw [altroot_exists_eq hroot hpc] at hpe
    rw [C07.altroot_exact_metadata ⟨fs0, id, root⟩ _ hroot hpc] at hpm
    rw [C07.altroot_exact_metadata ⟨fs0, id, root⟩ p hroot hp] at hmd
    rw [C07.altroot_exact_createDir ⟨fs0, id, root⟩ p hroot hp]
    have hpm' := (M.withPath_ok_iff ..).1 hpm
    have hmd' := (M.withPath_ok_iff ..).1 hmd
    obtain ⟨lbl, hcd⟩ := ih (canon_append hroot hp) (canon_append_ne hne) md pmd
      (by rw [hpa]; exact hpe) (by rw [hpa]; exact hpm') hpd hmd'
    refine ⟨some (root ++ p), vpath_createDir_err { fs := fs0, fsId := id, path := root ++ p }
      (pmd := pmd) ?_ ?_ hpd hcd⟩
    · show VPath.exists_ { fs := fs0, fsId := id, path := parentInternal (root ++ p) } w = _
      rw [hpa]; exact hpe
    · show VPath.metadata { fs := fs0, fsId := id, path := parentInternal (root ++ p) } w = _
      rw [hpa]; exact (M.withPath_ok_iff ..).2 hpm'

/-- **occupied_create_dir** (leaf, altroots over a leaf; memory leaves): `create_dir` through the
`VfsPath` layer on a canonical non-root path whose parent exists and is a directory, and which
itself is present with metadata `md`: `DirectoryExists` for a directory, `FileExists` for a
file, labelled `p`, nothing changed. -/
theorem occupied_create_dir {fs : FS} (hs : MStackW fs) {w : World} (hm : AllMem w) (id : Nat)
    {p : Str} (hc : Canon p) (hne : p ≠ []) (md pmd : Meta)
    (hpe : (fs.exists_ (parentInternal p) w).1 = .ok true)
    (hpm : (fs.metadata (parentInternal p) w).1 = .ok pmd) (hpd : pmd.ftype = .dir)
    (hmd : (fs.metadata p w).1 = .ok md) :
    VPath.createDir { fs := fs, fsId := id, path := p } w
      = (.err (if md.ftype = .file then .fileExists else .dirExists) (some p), w) := by
  have hpe' : fs.exists_ (parentInternal p) w = (.ok true, w) := Prod.ext hpe (stackW_exPure hs _ _)
  have hpm' : fs.metadata (parentInternal p) w = (.ok pmd, w) :=
    Prod.ext hpm ((stackW_tame hs).metadataP _ _)
  have hmd' : fs.metadata p w = (.ok md, w) := Prod.ext hmd ((stackW_tame hs).metadataP _ _)
  obtain ⟨lbl, hcd⟩ := stackW_occ hs hm hc hne md pmd hpe' hpm' hpd hmd'
  exact vpath_createDir_err { fs := fs, fsId := id, path := p } hpe' ((M.withPath_ok_iff ..).2 hpm') hpd hcd

def NS {α} (m : M α) (w : World) : Prop := ∃ lbl, m w = (.err .notSupported lbl, w)

theorem NS.withPath {α} {m : M α} {w : World} (h : NS m w) (p : Str) :
    M.withPath p m w = (.err .notSupported (some p), w) := by
  obtain ⟨lbl, h⟩ := h
  exact withPath_of_err p h

theorem NS.withPath' {α} {m : M α} {w : World} (h : NS m w) (p : Str) : NS (M.withPath p m) w :=
  ⟨_, h.withPath p⟩

inductive SetK where
  | c | m | a

def setter : SetK → FS → Str → Int → M Unit
  | .c, fs => fs.setCreationTime
  | .m, fs => fs.setModificationTime
  | .a, fs => fs.setAccessTime

/-- stackings over a base class `B` of backends in which the WRITE layer of every overlay is
again such a stacking (the lower layers of the overlays are arbitrary `VfsPath`s) -/
inductive UStack (B : FS → Prop) : FS → Prop
  | base {fs : FS} : B fs → UStack B fs
  | altroot {fs : FS} (id : Nat) (root : Str) : UStack B fs → Canon root →
      UStack B (Altroot.fs { fs := fs, fsId := id, path := root })
  | overlay (layers : List VPath) : UStack B (Overlay.writeLayer layers).fs →
      Canon (Overlay.writeLayer layers).path → UStack B (Overlay.fs layers)

theorem ustack_setter_ns {B : FS → Prop} (j : SetK) (w : World)
    (hB : ∀ fs, B fs → ∀ p t, NS (setter j fs p t) w) {fs : FS} (hs : UStack B fs) :
    ∀ {p : Str}, Canon p → ∀ t, NS (setter j fs p t) w := by
  induction hs with
  | base hb => intro p _ t; exact hB _ hb p t
  | altroot id root _ hroot ih =>
    intro p hp t
    cases j <;> exact altroot_lift hroot hp ((ih (canon_append hroot hp) t).withPath' _)
  | overlay layers _ hwc ih =>
    intro p hp t
    cases j <;> exact overlay_write_lift hwc hp ((ih (canon_append hwc hp) t).withPath' _)

def PhysLeaf (w : World) (fs : FS) : Prop := ∃ i l, fs = leafFS i ∧ w.leaf? i = some l ∧ l.kind = .phys

def IsEmbedded (fs : FS) : Prop := ∃ st, fs = Embedded.fs st

/-- `set_creation_time` on a physical leaf, through any number of altroots, and through overlays
whose write layer is such a stacking: `NotSupported`, labelled with the caller's path, nothing
changed (physical.rs does not override `set_creation_time`; filesystem.rs default =
`Err(VfsErrorKind::NotSupported.into())`) -/
theorem unsupported_set_creation_time {w : World} {fs : FS} (hs : UStack (PhysLeaf w) fs)
    (id : Nat) {p : Str} (hp : Canon p) (t : Int) :
    VPath.setCreationTime { fs := fs, fsId := id, path := p } t w
      = (.err .notSupported (some p), w) := by
  refine (ustack_setter_ns .c w ?_ hs hp t).withPath p
  rintro _ ⟨i, l, rfl, hl, hk⟩ q t
  exact ⟨none, onLeaf_unchanged hl (by simp only [hk]; rfl)⟩

/-- all three setters of EmbeddedFS, directly, through altroots, and through overlays whose write
layer is embedded-backed -/
theorem unsupported_setters_embedded {w : World} {fs : FS} (hs : UStack IsEmbedded fs)
    (id : Nat) {p : Str} (hp : Canon p) (t : Int) :
    let vp : VPath := { fs := fs, fsId := id, path := p }
    vp.setCreationTime t w = (.err .notSupported (some p), w) ∧
    vp.setModificationTime t w = (.err .notSupported (some p), w) ∧
    vp.setAccessTime t w = (.err .notSupported (some p), w) := by
  have hB : ∀ j fs, IsEmbedded fs → ∀ p t, NS (setter j fs p t) w := by
    rintro j _ ⟨st, rfl⟩ q t
    cases j <;> exact ⟨none, rfl⟩
  exact ⟨(ustack_setter_ns .c w (hB .c) hs hp t).withPath p,
    (ustack_setter_ns .m w (hB .m) hs hp t).withPath p,
    (ustack_setter_ns .a w (hB .a) hs hp t).withPath p⟩

structure Unsup (fs : FS) (w : World) (p : Str) : Prop where
  appendFile : NS (fs.appendFile p) w
  removeFile : NS (fs.removeFile p) w
  removeDir : NS (fs.removeDir p) w

inductive EStackW : FS → Prop
  | emb (st : Embedded.State) : EStackW (Embedded.fs st)
  | altroot {fs : FS} (id : Nat) (root : Str) : EStackW fs → Canon root →
      EStackW (Altroot.fs { fs := fs, fsId := id, path := root })

theorem estackW_unsup {fs : FS} (hs : EStackW fs) (w : World) :
    ∀ {p : Str}, Canon p → Unsup fs w p := by
  induction hs with
  | emb st => intro p _; exact ⟨⟨none, rfl⟩, ⟨none, rfl⟩, ⟨none, rfl⟩⟩
  | altroot id root _ hroot ih =>
    intro p hp
    have h := ih (canon_append hroot hp)
    exact ⟨altroot_lift hroot hp (h.appendFile.withPath' _),
      altroot_lift hroot hp (h.removeFile.withPath' _), altroot_lift hroot hp (h.removeDir.withPath' _)⟩

theorem estackW_ustack {fs : FS} (hs : EStackW fs) : UStack IsEmbedded fs := by
  induction hs with
  | emb st => exact .base ⟨st, rfl⟩
  | altroot id root _ hroot ih => exact .altroot id root ih hroot

/-- `append_file`, `remove_file`, `remove_dir` of EmbeddedFS, directly and through altroots;
`create_dir` / `create_file` directly on EmbeddedFS once `get_parent` has passed; the three
transfers (trait defaults) -/
theorem unsupported_mutators_embedded {fs : FS} (hs : EStackW fs) (w : World) (id : Nat)
    {p : Str} (hp : Canon p) :
    let vp : VPath := { fs := fs, fsId := id, path := p }
    vp.appendFile w = (.err .notSupported (some p), w) ∧
    vp.removeFile w = (.err .notSupported (some p), w) ∧
    vp.removeDir w = (.err .notSupported (some p), w) := by
  have h := estackW_unsup hs w hp
  exact ⟨h.appendFile.withPath p, h.removeFile.withPath p, h.removeDir.withPath p⟩

theorem unsupported_create_embedded (st : Embedded.State) (id : Nat) (p : Str) (w w' : World)
    (hgp : VPath.getParent { fs := Embedded.fs st, fsId := id, path := p } w = (.ok (), w')) :
    VPath.createDir { fs := Embedded.fs st, fsId := id, path := p } w
      = (.err .notSupported (some p), w') ∧
    (VPath.createFile { fs := Embedded.fs st, fsId := id, path := p } w)
      = (.err .notSupported (some p), w') := by
  unfold VPath.createDir VPath.createFile
  rw [bind_run_ok hgp, bind_run_ok hgp]
  exact ⟨rfl, rfl⟩

theorem Below.child {base d : Str} (n : Str) (h : Below base d) : Below base (d ++ '/' :: n) := by
  right
  rcases h with rfl | ⟨t, rfl⟩
  · exact ⟨n, by simp⟩
  · exact ⟨t ++ '/' :: n, by simp⟩

theorem below_walkClosed (base : Str) :
    VPath.WalkClosed (fun x => Below base x.path) (fun _ p => ∃ s, p = some s ∧ Below base s) where
  children d hd := ⟨fun w l he x hx => by
    obtain ⟨_, n, hn⟩ := (readDir_children d).post w l he x hx
    rw [hn]; exact hd.child n⟩
  readDirE d w k p hd he := by
    obtain ⟨s, h1, h2⟩ := readDir_err d w k p he
    exact ⟨s, h1, by rw [h2]; exact hd⟩
  metadataE x w k p hx he := by
    obtain ⟨s, h1, h2⟩ := metadata_err x w k p he
    exact ⟨s, h1, by rw [h2]; exact hx⟩

/-- **walk_error_items_labelled** — for ANY filesystem record (nothing is assumed about the
labels of the backend's errors): in a completed walk of `root`, every item is either a path
at or below `root.path`, or an error whose label is present (never the
placeholder) and is `root.path` or has the prefix `root.path ++ "/"`.  The error of `walk_dir`
itself names `root.path` (`C12.walkDir_err`). -/
theorem walk_error_items_labelled (root : VPath) (fuel : Nat) (w w1 w2 : World) (s : VPath.Walk)
    (l : List (Res VPath)) (hw : root.walkDir w = (.ok s, w1))
    (ha : VPath.walkAll fuel s w1 = (.ok l, w2)) :
    (∀ k lbl, Res.err k lbl ∈ l → ∃ q, lbl = some q ∧ Below root.path q) ∧
    (∀ x, Res.ok x ∈ l → Below root.path x.path) ∧ Res.panic ∉ l := by
  have hc := below_walkClosed root.path
  have hs := (VPath.walkDir_inv hc root (Below.refl _)).post w s (by rw [hw])
  have hall := (VPath.walkAll_inv hc fuel s hs).post w1 l (by rw [ha])
  exact ⟨fun k lbl hm => hall _ hm, fun x hm => hall _ hm, fun hm => hall _ hm⟩

section examples

def rootDir : Entry :=
  { ftype := .dir, content := [], created := .now, modified := .unset, accessed := .unset }

/-- leaf 0: "/up" (the overlay's write area); leaf 1: "/d", "/d/f" (file), "/d/sub" -/
def exW : World :=
  { leaves := [ { kind := .mem, files := [([], rootDir), ("/up".toList, dirEntryNow)] },
                { kind := .mem, files := [([], rootDir), ("/d".toList, dirEntryNow),
                    ("/d/f".toList, fileEntryNow), ("/d/sub".toList, dirEntryNow)] } ] }

theorem exW_allMem : AllMem exW := by
  intro i l h
  unfold exW World.leaf? at h
  rcases i with _ | _ | i
  · simp at h; subst h; rfl
  · simp at h; subst h; rfl
  · simp at h

theorem canon_of_comps (cs : List Str) (h : ∀ c ∈ cs, GoodComp c) : Canon (renderC cs) := ⟨cs, h, rfl⟩

/-- write layer: the root of an altroot at "/up" of leaf 0; lower layer: the root of leaf 1 -/
def exLayers : List VPath :=
  [ { fs := Altroot.fs { fs := leafFS 0, fsId := 10, path := "/up".toList }, fsId := 11, path := [] },
    { fs := leafFS 1, fsId := 1, path := [] } ]

/-- altroot at "/d" over the overlay over (altroot over leaf 0, leaf 1) -/
def exFS : FS := Altroot.fs { fs := Overlay.fs exLayers, fsId := 20, path := "/d".toList }

theorem exFS_stack : MStack exFS := by
  refine .altroot 20 _ (.overlay exLayers ?_) (canon_of_comps ["d".toList] (by decide +kernel))
  intro l hl
  simp only [exLayers, List.mem_cons, List.not_mem_nil, or_false] at hl
  rcases hl with rfl | rfl
  · exact .w (.altroot 10 _ (.leaf 0) (canon_of_comps ["up".toList] (by decide +kernel)))
  · exact .w (.leaf 1)

example : Canon "/nope".toList ∧ "/nope".toList ≠ [] ∧
    (exFS.exists_ "/nope".toList exW).1 = .ok false ∧
    (exFS.exists_ [] exW).1 = .ok true ∧ (exFS.exists_ "/f".toList exW).1 = .ok true :=
  ⟨canon_of_comps ["nope".toList] (by decide +kernel), by decide +kernel, by decide +kernel, by decide +kernel, by decide +kernel⟩

example : VPath.metadata { fs := exFS, fsId := 0, path := "/nope".toList } exW
    = (.err .fileNotFound (some "/nope".toList), exW) :=
  (missing_is_not_found exFS_stack exW_allMem 0 (canon_of_comps ["nope".toList] (by decide +kernel))
    (by decide +kernel) (by decide +kernel)).2.1

example : VPath.removeDir { fs := exFS, fsId := 0, path := "/sub/x".toList } exW
    = (.err .fileNotFound (some "/sub/x".toList), exW) :=
  (missing_is_not_found exFS_stack exW_allMem 0
    (canon_of_comps ["sub".toList, "x".toList] (by decide +kernel)) (by decide +kernel) (by decide +kernel)).2.2.2.2.2.2.1

/-- single-backend stacking: altroot at "/d" of leaf 1 -/
def exFSW : FS := Altroot.fs { fs := leafFS 1, fsId := 1, path := "/d".toList }

theorem exFSW_stack : MStackW exFSW :=
  .altroot 1 _ (.leaf 1) (canon_of_comps ["d".toList] (by decide +kernel))

example : VPath.setModificationTime { fs := exFSW, fsId := 0, path := "/nope".toList } 5 exW
    = (.err .fileNotFound (some "/nope".toList), exW) :=
  (missing_is_not_found_W exFSW_stack exW_allMem 0 (canon_of_comps ["nope".toList] (by decide +kernel))
    (by decide +kernel) 5).2.2.1

example : VPath.copyFile { fs := exFSW, fsId := 0, path := "/nope".toList }
    { fs := exFSW, fsId := 0, path := "/new".toList } exW
    = (.err .fileNotFound (some "/nope".toList), exW) :=
  ((missing_is_not_found_W exFSW_stack exW_allMem 0 (canon_of_comps ["nope".toList] (by decide +kernel))
    (by decide +kernel) 5).2.2.2.2.1 _ (canon_of_comps ["new".toList] (by decide +kernel)) (by decide +kernel)).1

/-- the setters through the overlay: "/d/f" EXISTS in the view (lower layer) but not in the
write layer — not-found all the same (the behaviour of overlay.rs) -/
example : VPath.setAccessTime { fs := Overlay.fs exLayers, fsId := 0, path := "/d/f".toList } 7 exW
    = (.err .fileNotFound (some "/d/f".toList), exW) ∧
    ((Overlay.fs exLayers).exists_ "/d/f".toList exW).1 = .ok true :=
  ⟨(overlay_setters_missing (layers := exLayers)
      (.altroot 10 _ (.leaf 0) (canon_of_comps ["up".toList] (by decide +kernel))) (canon_of_comps [] (by decide +kernel))
      exW_allMem (canon_of_comps ["d".toList, "f".toList] (by decide +kernel)) (by decide +kernel) (by decide +kernel) 0 7).2.2,
    by decide +kernel⟩

example : VPath.createDir { fs := exFSW, fsId := 0, path := "/f".toList } exW
    = (.err .fileExists (some "/f".toList), exW) :=
  occupied_create_dir exFSW_stack exW_allMem 0 (canon_of_comps ["f".toList] (by decide +kernel)) (by decide +kernel)
    fileEntryNow.meta dirEntryNow.meta (by decide +kernel) (by decide +kernel) rfl (by decide +kernel)

example : VPath.createDir { fs := exFSW, fsId := 0, path := "/sub".toList } exW
    = (.err .dirExists (some "/sub".toList), exW) :=
  occupied_create_dir exFSW_stack exW_allMem 0 (canon_of_comps ["sub".toList] (by decide +kernel)) (by decide +kernel)
    dirEntryNow.meta dirEntryNow.meta (by decide +kernel) (by decide +kernel) rfl (by decide +kernel)

/-- a physical write layer below an overlay below an altroot -/
def exWP : World := { leaves := [ { kind := .phys, files := Phys.init } ] }

example : VPath.setCreationTime
    { fs := Altroot.fs { fs := Overlay.fs [{ fs := leafFS 0, fsId := 0, path := [] }], fsId := 1,
                          path := "/a".toList }, fsId := 2, path := "/x".toList } 3 exWP
    = (.err .notSupported (some "/x".toList), exWP) :=
  unsupported_set_creation_time
    (.altroot 1 _ (.overlay [{ fs := leafFS 0, fsId := 0, path := [] }] (.base ⟨0, _, rfl, rfl, rfl⟩)
        ⟨[], by simp, rfl⟩)
      (canon_of_comps ["a".toList] (by decide +kernel))) 2 (canon_of_comps ["x".toList] (by decide +kernel)) 3

def exEmb : Embedded.State := Embedded.new [("a/b.txt".toList, [1, 2])]

example : VPath.removeFile
    { fs := Altroot.fs { fs := Embedded.fs exEmb, fsId := 0, path := "/a".toList }, fsId := 1,
      path := "/b.txt".toList } exW = (.err .notSupported (some "/b.txt".toList), exW) :=
  (unsupported_mutators_embedded (.altroot 0 _ (.emb exEmb) (canon_of_comps ["a".toList] (by decide +kernel)))
    exW 1 (canon_of_comps ["b.txt".toList] (by decide +kernel))).2.1

example : VPath.setAccessTime
    { fs := Overlay.fs [{ fs := Embedded.fs exEmb, fsId := 0, path := [] }], fsId := 1,
      path := "/a/b.txt".toList } 9 exW = (.err .notSupported (some "/a/b.txt".toList), exW) :=
  (unsupported_setters_embedded (.overlay [{ fs := Embedded.fs exEmb, fsId := 0, path := [] }]
      (.base ⟨exEmb, rfl⟩) ⟨[], by simp, rfl⟩)
    1 (canon_of_comps ["a".toList, "b.txt".toList] (by decide +kernel)) 9).2.2

/-- a backend whose errors carry no label: `read_dir("")` lists "x", everything else is the
trait default. The walk yields one error item, labelled "/x" by the `VfsPath` layer. -/
def exBadFS : FS :=
  { (default : FS) with readDir := fun p => if p = [] then pure ["x".toList] else M.failK .io }

example :
    (match VPath.walkDir { fs := exBadFS, fsId := 0, path := [] } exW with
     | (.ok s, w1) => ((VPath.walkAll 3 s w1).1.toOption.map
        (·.map fun it => (it.kind?, it.errPath?)))
     | _ => none)
    = some [(some .notSupported, some (some "/x".toList))] := by decide +kernel

end examples

end Vfs.C12

