/-
  C04 through the overlay for write sessions with arbitrary scripts of write / seek / flush
  actions — create AND append sessions, any list of them on one path, n ≥ 1 in-memory layers.
  (Props/C04Sessions.lean has this for the in-memory backend and altroots; Props/C04Overlay.lean
  for append sessions under layer-level hypotheses; Props/C09Contract.lean / C01Overlay.lean for
  sessions that consist of one `write_all`. Here the hypotheses are read off the VIEW and the
  invariants are re-established, so lists go by induction.)

  Specification (Proofs/SessionLemmas.lean, independent of the handle code): `Act = write bs |
  flush | seek s`, `specWrite`/`specSeek`/`specRun` (= `std::io::Cursor<Vec<u8>>`; a failing seek
  leaves vector and position alone), `Session = create acts | append acts`, `specSession`,
  `specSessions`. Model side: `Session.run P s` (`VfsPath::create_file` / `append_file`, the
  actions through the handle, drop), `runSessions P ss w`, with
  `P = ovP u idu is ids oid p = ⟨Overlay.fs (layersN (u :: is) (idu :: ids)), oid, p⟩`.

  Setting (as Props/C09Contract.lean / C01Overlay.lean): `OWN w (u :: is) (idu :: ids) (mu :: ms)`
  (pairwise distinct memory leaves whose roots are the layers; `mu` upper, `ms` lower maps),
  `OInv mu ms`, `ViewWF (oview (mu :: ms))` — both re-established by every theorem here —, the
  path discipline `OpPath (ds ++ [n])`, `p = renderC (ds ++ [n])`, any identity `oid`.
  Per-path hypothesis `VReady v ds n c`, read off the view `v = oview (mu :: ms)`: the parent
  `renderC ds` is a directory of the view, and the view shows at `p` nothing (`c = none`) or a
  FILE with bytes `bs` (`c = some bs`) — in whichever layer (`VHolds`; `vholds_of_firstAt`: with no
  marker, the FIRST layer that has `p` decides). Nothing is assumed about what the individual
  layers hold at `p` (upper file, several lower files, a whiteout marker, nothing).

  Method: `Opened mu ms p muS ms'` is the overlay state while/after a write handle on `p` exists
  (base map with a file at `p`, marker of `p` cleared, lower maps up to access stamps);
  `Opened.publish` translates "bytes put at `p` of the upper map" into "what the view then holds
  at `p`", with `VFrame` for all other visible paths. The open through the overlay is an open in
  the sense of `OpensMem` (Proofs/SessionLemmas.lean; `overlay_opens`), so what happens after the
  open (`OpensMem.session`, `OpensMem.flush`, `runActs_seek_fail`) is proved there, once for the
  memory leaf and the overlay.

  * `overlay_open_exact`: the open of a session (with the `get_parent` probe of
    `VfsPath::create_file`; with `ensure_has_parent` + copy-up from the first layer for
    `append_file`) returns the in-memory handle on the UPPER leaf with the specification's start
    state and leaves an `Opened` world.
  * `overlay_session_exact`, `overlay_sessions_exact`: one session, any list of sessions: the
    view holds at `p` exactly `specSessions c ss`, `VFrame` for the rest, `LowerSame` lower maps
    (equal for create), invariants again. A failing append on an absent path may still change
    the world (`ensure_has_parent` materialises parents) but not the view.
    `overlay_create_session_exact`, `overlay_append_session_exact`,
    `overlay_append_session_first_layer`: the two kinds spelled out; for the view a create
    session IS one write of the specified bytes (`VContract`).
  * `overlay_sessions_read_exact`: afterwards a fresh `open_file` through the overlay reads
    exactly those bytes (whole, in chunks of any sizes, `readToEndChecked`), `metadata.len`.
  * `overlay_flush_visible`, `overlay_seek_errors_harmless`: as in Props/C04Sessions.lean, seen
    through the view.
  * The scenario: the 3-layer world `xw` of Props/C09Refine.lean, a 3-session history on "/d/x".

  Not covered:
   * layers that are not roots of memory leaves (sub-directories, altroots, nested overlays,
     physical / embedded lower layers); an altroot on top of the overlay;
   * paths violating the discipline `OpPath` (components ending in "_wo", inside ".whiteout");
   * sessions on a path that is a DIRECTORY of the view or below a non-directory parent (the open
     fails; C09Contract covers the outcome for the one-write sessions);
   * "lower layers unchanged" is `LowerSame` (equal up to access stamps) for append sessions —
     literally what the code does: the copy-up opens the lower file and MemoryFS stamps its
     access time; for create sessions it is equality;
   * two handles open at once on the same path (C16/C17), positions ≥ 2^64 reached by `write`.
-/
import VfsModel.Props.C01Overlay
namespace Vfs.C04
open Vfs Vfs.Overlay Vfs.C02 Vfs.C09 Vfs.C14

theorem wf_replace_file {m m' : FMap} {p : Str} {e e' : Entry} (hwf : WF m)
    (he : m.find? p = some e) (hf : e.ftype = .file) (he' : m'.find? p = some e')
    (hfr : ∀ k, k ≠ p → m'.find? k = m.find? k) : WF m' := by
  obtain ⟨⟨r, hr, hrd⟩, hall⟩ := hwf
  have hpar : ∀ k pe, m.find? k = some pe → pe.ftype = .dir → m'.find? k = some pe := by
    intro k pe hk hd
    have : k ≠ p := by
      intro h0; subst h0; rw [he] at hk; injection hk with hk; subst hk; rw [hf] at hd; cases hd
    rw [hfr k this]; exact hk
  refine ⟨⟨r, hpar _ _ hr hrd, hrd⟩, ?_⟩
  intro k ek hk hk0
  by_cases hkp : k = p
  · subst hkp
    obtain ⟨hs, pe, hpe, hpd⟩ := hall k e he hk0
    exact ⟨hs, pe, hpar _ _ hpe hpd, hpd⟩
  · rw [hfr k hkp] at hk
    obtain ⟨hs, pe, hpe, hpd⟩ := hall k ek hk hk0
    exact ⟨hs, pe, hpar _ _ hpe hpd, hpd⟩

theorem VFrame.trans {a b c : View} {p : Str} (h1 : VFrame a b p) (h2 : VFrame b c p) :
    VFrame a c p := fun q hq hne => (h2 q hq hne).trans (h1 q hq hne)

/-- **the state of the overlay while a write handle on `p` is open** (and after it was dropped):
the upper map `muS` is a base map `mu1` — in order with the lower maps `ms` and showing the same
view as `mu :: ms` — with a FILE put at `p` and the marker of `p` cleared; the lower maps `ms'` are
`ms` up to access stamps. -/
def Opened (mu : FMap) (ms : List FMap) (p : Str) (muS : FMap) (ms' : List FMap) : Prop :=
  LowerSame ms ms' ∧ WF muS ∧ ∃ mu1 eS, OInv mu1 ms ∧ VSame (oview (mu :: ms)) (oview (mu1 :: ms)) ∧
    eS.ftype = .file ∧
    ∀ k, muS.find? k = if k = p then some eS else if k = marker p then none else mu1.find? k

theorem Opened.step {mu : FMap} {ms : List FMap} {p : Str} {muS m' : FMap} {ms' : List FMap}
    (ho : Opened mu ms p muS ms') {e' : Entry} (he' : m'.find? p = some e') (hf' : e'.ftype = .file)
    (hfr : ∀ k, k ≠ p → m'.find? k = muS.find? k) : Opened mu ms p m' ms' := by
  obtain ⟨hls, hwf, mu1, eS, inv1, hs1, hfS, hS⟩ := ho
  refine ⟨hls, wf_replace_file hwf (by rw [hS, if_pos rfl]) hfS he' hfr, mu1, e', inv1, hs1, hf', ?_⟩
  intro k
  by_cases hk : k = p
  · rw [if_pos hk, hk]; exact he'
  · rw [if_neg hk, hfr k hk, hS, if_neg hk]

theorem Opened.spec {mu : FMap} {ms : List FMap} {muS : FMap} {ms' : List FMap} {ds : List Str}
    {n : Str} (hp : OpPath (ds ++ [n])) (ho : Opened mu ms (renderC (ds ++ [n])) muS ms') :
    OInv muS ms' ∧ ∃ eS, muS.find? (renderC (ds ++ [n])) = some eS ∧ eS.ftype = .file ∧
      viewN (muS :: ms') (renderC (ds ++ [n])) = some eS ∧
      oview (muS :: ms') (renderC (ds ++ [n])) = some eS ∧
      VFrame (oview (mu :: ms)) (oview (muS :: ms')) (renderC (ds ++ [n])) := by
  obtain ⟨hls, hwf, mu1, eS, inv1, hs1, hfS, hS⟩ := ho
  obtain ⟨inv2, _, hfr⟩ := insert_spec inv1 hp eS muS hS hwf
  have hfind : muS.find? (renderC (ds ++ [n])) = some eS := by rw [hS, if_pos rfl]
  have hmk : muS.contains (marker (renderC (ds ++ [n]))) = false := by
    exact contains_of_none (by rw [hS, if_neg (C10.marker_ne_self ds n), if_pos rfl])
  have hview : viewN (muS :: ms') (renderC (ds ++ [n])) = some eS := viewN_upper hmk hfind
  refine ⟨inv2.lowerSame hls, eS, hfind, hfS, hview, by rw [oview_NR hp.nr]; exact hview, ?_⟩
  exact VFrame.same_trans (VFrame.trans_same hs1 (exact_frame hfr)) (oview_lowerSame _ hls)

/-- **publishing through an open handle, seen from the view**: a file with bytes `bs` put at `p`
of the upper map of an `Opened` state, no other key touched — the hidden state is in order, the
VIEW holds exactly `bs` at `p`, and every other visible path shows what it showed before -/
theorem Opened.publish {mu : FMap} {ms : List FMap} {muS : FMap} {ms' : List FMap} {ds : List Str}
    {n : Str} (hp : OpPath (ds ++ [n])) (ho : Opened mu ms (renderC (ds ++ [n])) muS ms')
    {m' : FMap} {bs : Bytes} (hh : Holds m' (renderC (ds ++ [n])) (some bs))
    (hfr : ∀ k, k ≠ renderC (ds ++ [n]) → m'.find? k = muS.find? k) :
    OInv m' ms' ∧ VHasFile (oview (m' :: ms')) (renderC (ds ++ [n])) bs ∧
      VFrame (oview (mu :: ms)) (oview (m' :: ms')) (renderC (ds ++ [n])) := by
  obtain ⟨e', he', hf', hc'⟩ := hh
  obtain ⟨inv', e2, he2, _, _, hov2, hframe⟩ := (ho.step he' hf' hfr).spec hp
  rw [he'] at he2; injection he2 with he2; subst he2
  exact ⟨inv', ⟨e', hov2, hf', hc'⟩, hframe⟩

def Session.opener (P : VPath) : Session → M WHandle
  | .create _ => P.createFile
  | .append _ => P.appendFile

def Session.withActs : Session → List Act → Session
  | .create _, a => .create a
  | .append _, a => .append a

/-- the vector and the position a session starts from (`none`: the open fails) -/
def startOf : Option Bytes → Session → Option (Bytes × Nat)
  | _, .create _ => some ([], 0)
  | some old, .append _ => some (old, old.length)
  | none, .append _ => none

theorem specSession_eq_startOf (c : Option Bytes) (s : Session) :
    specSession c s = (startOf c s).map fun st => (specRun st.1 st.2 s.acts).1 := by
  cases s <;> cases c <;> rfl

theorem startOf_withActs (c : Option Bytes) (s : Session) (a : List Act) :
    startOf c (s.withActs a) = startOf c s := by
  cases s <;> cases c <;> rfl

theorem Session.acts_withActs (s : Session) (a : List Act) : (s.withActs a).acts = a := by
  cases s <;> rfl

theorem Session.opener_withActs (P : VPath) (s : Session) (a : List Act) :
    (s.withActs a).opener P = s.opener P := by
  cases s <;> rfl

theorem Session.run_eq_opener (P : VPath) (s : Session) :
    s.run P = (do let h ← s.opener P; C03.runActs h s.acts) := by
  cases s <;> rfl

/-- the outcome of a session according to the specification: `Ok`, except for an append on an
absent path (`FileNotFound`, labelled with the path) -/
def sessOutcome (p : Str) (c : Option Bytes) : Session → Res Unit
  | .create _ => .ok ()
  | .append _ => match c with
    | some _ => .ok ()
    | none => .err .fileNotFound (some p)

/-- the view shows at `p`: nothing (`none`) / a FILE with exactly these bytes (`some bs`) -/
def VHolds (v : View) (p : Str) : Option Bytes → Prop
  | none => VAbsent v p
  | some bs => VHasFile v p bs

/-- the hypotheses on the path `ds ++ [n]` read off the VIEW: its parent is a directory of the
view and the path itself is absent (`c = none`) or a FILE with bytes `bs` (`c = some bs`) — in
whichever layer -/
structure VReady (v : View) (ds : List Str) (n : Str) (c : Option Bytes) : Prop where
  parent : VIsDir v (renderC ds)
  holds : VHolds v (renderC (ds ++ [n])) c

theorem VHolds.not_dir {v : View} {p : Str} {c : Option Bytes} (h : VHolds v p c) :
    ¬ VIsDir v p := by
  intro hd
  cases c with
  | none => exact not_absent_of_dir hd h
  | some bs => obtain ⟨e, he, hf, _⟩ := h; exact not_file_and_dir ⟨e, he, hf⟩ hd

theorem VHolds.unique {v : View} {p : Str} {a b : Option Bytes} (ha : VHolds v p a)
    (hb : VHolds v p b) : a = b := by
  cases a with
  | none =>
    cases b with
    | none => rfl
    | some y =>
      obtain ⟨e, he, _⟩ := hb
      simp only [VHolds, VAbsent] at ha; rw [ha] at he; cases he
  | some x =>
    obtain ⟨e, he, _, hc⟩ := ha
    cases b with
    | none => simp only [VHolds, VAbsent] at hb; rw [hb] at he; cases he
    | some y =>
      obtain ⟨e', he', _, hc'⟩ := hb
      rw [he] at he'; injection he' with he'; subst he'
      rw [← hc, ← hc']

/-- the FIRST layer that has the path decides what the view holds (no marker in the upper map):
this is how `VHolds … (some bs)` reads in terms of layers -/
theorem vholds_of_firstAt {mu : FMap} {ms : List FMap} {ds : List Str} {n : Str}
    (hp : OpPath (ds ++ [n])) (hmk : mu.contains (marker (renderC (ds ++ [n]))) = false)
    {k : Nat} {m : FMap} (hfirst : FirstAt (mu :: ms) (renderC (ds ++ [n])) k m) {e : Entry}
    (he : m.find? (renderC (ds ++ [n])) = some e) (hf : e.ftype = .file) :
    VHolds (oview (mu :: ms)) (renderC (ds ++ [n])) (some e.content) := by
  refine ⟨e, ?_, hf, rfl⟩
  rw [oview_NR hp.nr, viewN_unmarked hmk, firstN_of_firstAt hfirst, he]

section settingN
variable {w : World} {u idu : Nat} {mu : FMap} {is ids : List Nat} {ms : List FMap}
  (h : OWN w (u :: is) (idu :: ids) (mu :: ms)) (inv : OInv mu ms)
  (hv : ViewWF (oview (mu :: ms))) {ds : List Str} {n : Str} (hp : OpPath (ds ++ [n])) (oid : Nat)
include h inv hv hp

abbrev ovP (u idu : Nat) (is ids : List Nat) (oid : Nat) (p : Str) : VPath :=
  { fs := Overlay.fs (layersN (u :: is) (idu :: ids)), fsId := oid, path := p }

/-- **opening a session through the overlay.** Whatever layer serves `p` (or none): the open
returns the IN-MEMORY handle on the key `p` of the UPPER leaf, with the start vector and position
of the specification (`create_file`: empty, 0; `append_file`: the bytes the VIEW shows — the
first layer's — and their length, after the copy-up); the world is again in the setting, in the
state `Opened` (file at `p` in the upper map, marker of `p` cleared, nothing else different in the
view); for a create session the lower maps are literally unchanged. -/
theorem overlay_open_exact (c : Option Bytes) (hr : VReady (oview (mu :: ms)) ds n c)
    (s : Session) (b0 : Bytes) (n0 : Nat) (hst : startOf c s = some (b0, n0)) :
    ∃ w0 muS ms', s.opener (ovP u idu is ids oid (renderC (ds ++ [n]))) w
        = (.ok (memH u (renderC (ds ++ [n])) b0 n0), w0) ∧
      OWN w0 (u :: is) (idu :: ids) (muS :: ms') ∧
      Opened mu ms (renderC (ds ++ [n])) muS ms' ∧
      (∀ a, s = .create a → ms' = ms) := by
  cases s with
  | create acts =>
    simp only [startOf, Option.some.injEq, Prod.mk.injEq] at hst
    obtain ⟨rfl, rfl⟩ := hst
    obtain ⟨_, inv1, hs1, _⟩ := ensure_ok inv hp hv hr.parent
    obtain ⟨mu2, hpure, hmu2⟩ := (pCreateFileN_cases inv hv hp).2.2 hr.parent hr.holds.not_dir
    have hg := C01.run_getParent_overlay h inv hp oid
    rw [if_pos ((pIsDirN_iff _ _).2 hr.parent)] at hg
    have hwf2 : WF mu2 := by
      have := wf_pCreateFileN (ms := ms) (inv.wf mu (by simp)) (ds ++ [n])
      rw [hpure] at this; exact this
    have hX : (Overlay.fs (layersN (u :: is) (idu :: ids))).createFile (renderC (ds ++ [n])) w
        = (.ok (memH u (renderC (ds ++ [n])) [] 0), w.setLeafFiles u mu2) := by
      show Overlay.createFile _ _ w = _
      rw [run_ocreateFileN h _ hp.ne hp.good, hpure]; rfl
    exact ⟨w.setLeafFiles u mu2, mu2, ms,
      VPath.createFile_of_calls (p := ovP u idu is ids oid _) hg hX, h.setHead mu2,
      ⟨LowerSame.refl ms, hwf2, _, fileEntryNow, inv1, hs1, rfl, hmu2⟩, fun _ _ => rfl⟩
  | append acts =>
    cases c with
    | none => cases hst
    | some old =>
      simp only [startOf, Option.some.injEq, Prod.mk.injEq] at hst
      obtain ⟨rfl, rfl⟩ := hst
      -- `C09.oappend_open`: the open succeeds on a file of the view, and what it leaves is `Opened`
      obtain ⟨ro, w1, mu1, ms1, hopen, hown1, hls, inv1, hs, hok, herr, hnp⟩ := oappend_open h inv hv hp
      have hfileV : VHasFile (oview (mu :: ms)) (renderC (ds ++ [n])) old := hr.holds
      cases ro with
      | ok hd =>
        obtain ⟨e0, mu0, rfl, hf0, hwf1, inv0, hs0, hcf⟩ := hok hd rfl
        have hv1 : oview (mu1 :: ms1) (renderC (ds ++ [n])) = some e0 := by
          rw [oview_NR hp.nr]; exact upper_is_view inv1 hp (by rw [hcf, if_pos rfl])
        obtain ⟨e', he', _, hc'⟩ := (hasFile_of_vcore (hs _ (Or.inr hp.nr))).2 hfileV
        rw [hv1] at he'; injection he' with he'; subst he'
        rw [hc'] at hopen
        exact ⟨w1, mu1, ms1, VPath.appendFile_of_call (p := ovP u idu is ids oid _) hopen, hown1,
          ⟨hls, hwf1, mu0, e0, inv0, hs0, hf0, hcf⟩, fun a ha => by cases ha⟩
      | err k pth =>
        obtain ⟨e, he, hf, _⟩ := hfileV
        exact absurd ⟨e, he, hf⟩ (herr k pth rfl).1
      | panic => exact absurd rfl hnp

/-- the open of a session through the overlay is an open in the sense of `OpensMem`: everything
after it happens at the key `p` of the upper map -/
theorem overlay_opens (c : Option Bytes) (hr : VReady (oview (mu :: ms)) ds n c)
    (s : Session) (b0 : Bytes) (n0 : Nat) (hst : startOf c s = some (b0, n0)) :
    ∃ w0 muS ms',
      OpensMem (s.opener (ovP u idu is ids oid (renderC (ds ++ [n])))) w u (renderC (ds ++ [n]))
        b0 n0 w0 muS ∧
      OWN w0 (u :: is) (idu :: ids) (muS :: ms') ∧
      Opened mu ms (renderC (ds ++ [n])) muS ms' ∧
      (∀ a, s = .create a → ms' = ms) := by
  obtain ⟨w0, muS, ms', hopen, hown0, ho, hcr⟩ :=
    overlay_open_exact h inv hv hp oid c hr s b0 n0 hst
  obtain ⟨_, eS, heS, hfS, _⟩ := ho.spec hp
  exact ⟨w0, muS, ms', ⟨hopen, hown0.hu, eS, heS, hfS⟩, hown0, ho, hcr⟩

end settingN

section sessions
variable {w : World} {u idu : Nat} {mu : FMap} {is ids : List Nat} {ms : List FMap}
  (h : OWN w (u :: is) (idu :: ids) (mu :: ms)) (inv : OInv mu ms)
  (hv : ViewWF (oview (mu :: ms))) {ds : List Str} {n : Str} (hp : OpPath (ds ++ [n])) (oid : Nat)
include h inv hv hp

omit h inv in
theorem ready_after (c : Option Bytes) (hr : VReady (oview (mu :: ms)) ds n c) {v' : View}
    {bs : Bytes} (hfile : VHasFile v' (renderC (ds ++ [n])) bs)
    (hfr : VFrame (oview (mu :: ms)) v' (renderC (ds ++ [n]))) :
    ViewWF v' ∧ VReady v' ds n (some bs) := by
  refine ⟨hv.step hp (.write (renderC (ds ++ [n])) bs) rfl
    ⟨by rw [hp.parent]; exact hr.parent, hr.holds.not_dir⟩ ⟨hfile, hfr⟩, ?_, hfile⟩
  exact (isDir_of_vcore (hfr _ hp.parentVis OpPath.parent_ne)).2 hr.parent

/-- **overlay_session_exact.** One session — create or append, ANY script of writes, seeks and
flushes, drop — on the disciplined path `p = /ds/n` through an overlay over n memory layers, the
view showing a directory at the parent and at `p` nothing (`c = none`) or a file with bytes `bs`
(`c = some bs`), in whichever layer, whatever deeper layers hold:
* the outcome is the specified one (`Ok`; `FileNotFound(p)` for an append on an absent path);
* the world is again in the setting, lower maps unchanged up to access stamps (`LowerSame`;
  literally unchanged for a create session), `OInv` and `ViewWF` hold again;
* the view then holds at `p` exactly `specSession c s`; the parent is still a directory;
* every other visible path keeps its type and bytes (`VFrame`). -/
theorem overlay_session_exact (c : Option Bytes) (hr : VReady (oview (mu :: ms)) ds n c)
    (s : Session) :
    ∃ w' mu' ms', s.run (ovP u idu is ids oid (renderC (ds ++ [n]))) w
        = (sessOutcome (renderC (ds ++ [n])) c s, w') ∧
      OWN w' (u :: is) (idu :: ids) (mu' :: ms') ∧ LowerSame ms ms' ∧
      ((∃ a, s = .create a) → ms' = ms) ∧
      OInv mu' ms' ∧ ViewWF (oview (mu' :: ms')) ∧
      VReady (oview (mu' :: ms')) ds n (specSession c s) ∧
      VFrame (oview (mu :: ms)) (oview (mu' :: ms')) (renderC (ds ++ [n])) := by
  cases hst : startOf c s with
  | some st =>
    obtain ⟨b0, n0⟩ := st
    obtain ⟨w0, muS, ms', hom, hown0, ho, hcr⟩ := overlay_opens h inv hv hp oid c hr s b0 n0 hst
    obtain ⟨m', hrun, hh, hfr⟩ := hom.session s.acts
    obtain ⟨inv', hfile, hframe⟩ := ho.publish hp hh hfr
    have hspec : specSession c s = some (specRun b0 n0 s.acts).1 := by
      rw [specSession_eq_startOf, hst]; rfl
    obtain ⟨hv', hr'⟩ := ready_after hv hp c hr hfile hframe
    refine ⟨_, m', ms', ?_, hown0.setHead m', ho.1, fun ⟨a, ha⟩ => hcr a ha, inv', hv',
      by rw [hspec]; exact hr', hframe⟩
    rw [Session.run_eq_opener, hrun]
    cases s with
    | create a => rfl
    | append a =>
      cases c with
      | none => cases hst
      | some old => rfl
  | none =>
    -- an append session on a path the view does not show: not-found, the view is unchanged
    cases s with
    | create a => cases hst
    | append acts =>
      cases c with
      | some old => cases hst
      | none =>
        obtain ⟨ro, w1, mu1, ms1, hopen, hown1, hls, inv1, hs, hok, herr, hnp⟩ := oappend_open h inv hv hp
        have habs1 : oview (mu1 :: ms1) (renderC (ds ++ [n])) = none :=
          (none_of_vcore (hs _ (Or.inr hp.nr))).2 hr.holds
        cases ro with
        | ok hd =>
          obtain ⟨e0, mu0, _, _, _, _, _, hcf⟩ := hok hd rfl
          rw [oview_NR hp.nr, upper_is_view inv1 hp (by rw [hcf, if_pos rfl])] at habs1
          cases habs1
        | err k pth =>
          obtain rfl := (herr k pth rfl).2 hr.parent hr.holds
          refine ⟨w1, mu1, ms1, ?_, hown1, hls, (fun ⟨a, ha⟩ => by cases ha), inv1, hv.same hs,
            ⟨(isDir_of_vcore (hs _ hp.parentVis)).2 hr.parent, habs1⟩, hs.frame _⟩
          rw [Session.run_append]
          exact bind_run_err (VPath.appendFile_of_call (p := ovP u idu is ids oid _) hopen)
        | panic => exact absurd rfl hnp

/-- **overlay_sessions_exact (state).** ANY list of sessions on the same path through the
overlay — create and append mixed, failing appends on an absent path included, each with any
script of writes, seeks and flushes: the final world is again in the setting (lower maps
unchanged up to access stamps), the invariants hold, the view holds at `p` exactly
`specSessions c ss`, and every other visible path keeps its type and bytes. -/
theorem overlay_sessions_exact (c : Option Bytes) (hr : VReady (oview (mu :: ms)) ds n c)
    (ss : List Session) :
    ∃ mu' ms',
      OWN (runSessions (ovP u idu is ids oid (renderC (ds ++ [n]))) ss w) (u :: is) (idu :: ids)
        (mu' :: ms') ∧
      LowerSame ms ms' ∧ OInv mu' ms' ∧ ViewWF (oview (mu' :: ms')) ∧
      VReady (oview (mu' :: ms')) ds n (specSessions c ss) ∧
      VFrame (oview (mu :: ms)) (oview (mu' :: ms')) (renderC (ds ++ [n])) := by
  induction ss generalizing w mu ms c with
  | nil => exact ⟨mu, ms, h, LowerSame.refl ms, inv, hv, hr, (VSame.refl _).frame _⟩
  | cons s rest ih =>
    obtain ⟨w1, mu1, ms1, hrun, hown1, hls1, _, inv1, hv1, hr1, hfr1⟩ :=
      overlay_session_exact h inv hv hp oid c hr s
    obtain ⟨mu', ms', hown', hls', inv', hv', hr', hfr'⟩ := ih hown1 inv1 hv1 _ hr1
    refine ⟨mu', ms', ?_, hls1.trans hls', inv', hv', hr', VFrame.trans hfr1 hfr'⟩
    simp only [runSessions, hrun]
    exact hown'

end sessions

section read
variable {w : World} {u idu : Nat} {mu : FMap} {is ids : List Nat} {ms : List FMap}
  (h : OWN w (u :: is) (idu :: ids) (mu :: ms)) {ds : List Str} {n : Str}
  (hp : OpPath (ds ++ [n])) (oid : Nat)
include h hp

/-- a fresh `open_file` through the overlay on a path where the view shows a file with bytes
`bs` returns a reader over exactly `bs`, positioned at 0; `metadata` reports `bs.length`;
`read_to_end` (and the checked byte path of `read_to_string`) gives `bs` -/
theorem overlay_read_holds (bs : Bytes)
    (hh : VHolds (oview (mu :: ms)) (renderC (ds ++ [n])) (some bs)) :
    let P := ovP u idu is ids oid (renderC (ds ++ [n]))
    (∃ w2, P.openFile w = (.ok { content := bs, pos := 0 }, w2)) ∧
    (∃ md, P.metadata w = (.ok md, w) ∧ md.len = bs.length ∧ md.ftype = .file) ∧
    (P.readToEndChecked w).1 = .ok bs := by
  intro P
  obtain ⟨e, he, hf, hc⟩ := hh
  rw [oview_NR hp.nr] at he
  obtain ⟨⟨w2, hopen⟩, hmeta⟩ := overlay_read_view h (ds ++ [n]) hp.ne hp.good e he hf oid
  rw [hc] at hopen
  have hmd : ∃ md, P.metadata w = (.ok md, w) ∧ md.len = bs.length ∧ md.ftype = .file :=
    ⟨e.meta, hmeta, by show e.content.length = _; rw [hc], hf⟩
  exact ⟨⟨w2, hopen⟩, hmd, (read_back ⟨w2, hopen⟩ hmd).2.2.2.2.1⟩

theorem overlay_read_absent (hh : VHolds (oview (mu :: ms)) (renderC (ds ++ [n])) none) :
    (ovP u idu is ids oid (renderC (ds ++ [n]))).openFile w
      = (.err .fileNotFound (some (renderC (ds ++ [n]))), w) := by
  have hv : viewN (mu :: ms) (renderC (ds ++ [n])) = none := by
    rw [← oview_NR hp.nr]; exact hh
  exact VPath.openFile_of_call (p := ovP u idu is ids oid _)
    (C09.openFile_absentN h (ds ++ [n]) hp.ne hp.good hv)

end read

section sessionsRead
variable {w : World} {u idu : Nat} {mu : FMap} {is ids : List Nat} {ms : List FMap}
  (h : OWN w (u :: is) (idu :: ids) (mu :: ms)) (inv : OInv mu ms)
  (hv : ViewWF (oview (mu :: ms))) {ds : List Str} {n : Str} (hp : OpPath (ds ++ [n])) (oid : Nat)
include h inv hv hp

/-- **overlay_sessions_exact (observation).** `C04.sessions_read_exact` through the overlay: after
any list of sessions on `p` a fresh `open_file` through the overlay reads exactly
`specSessions c ss` (whole, in chunks of any sizes, on the checked byte path of `read_to_string`),
`metadata` reports that length; if the list leaves the path absent, `open_file` answers not-found. -/
theorem overlay_sessions_read_exact (c : Option Bytes) (hr : VReady (oview (mu :: ms)) ds n c)
    (ss : List Session) :
    let P := ovP u idu is ids oid (renderC (ds ++ [n]))
    let w1 := runSessions P ss w
    (∀ bs, specSessions c ss = some bs →
      (∃ w2, P.openFile w1 = (.ok { content := bs, pos := 0 }, w2)) ∧
      (RHandle.readToEnd { content := bs, pos := 0 }).1 = .ok bs ∧
      (∀ ns : List Nat, bs.length < u64Max →
        (chunks { content := bs, pos := 0 } ns).1.flatten = bs.take ns.sum) ∧
      (∀ ns : List Nat, bs.length < u64Max → bs.length ≤ ns.sum →
        (chunks { content := bs, pos := 0 } ns).1.flatten = bs) ∧
      (P.readToEndChecked w1).1 = .ok bs ∧
      (∃ md, P.metadata w1 = (.ok md, w1) ∧ md.len = bs.length ∧ md.ftype = .file)) ∧
    (specSessions c ss = none →
      P.openFile w1 = (.err .fileNotFound (some (renderC (ds ++ [n]))), w1)) := by
  intro P w1
  obtain ⟨mu', ms', hown', _, _, _, hr', _⟩ := overlay_sessions_exact h inv hv hp oid c hr ss
  refine ⟨fun bs hbs => ?_,
    fun hn => overlay_read_absent hown' hp oid (by rw [← hn]; exact hr'.holds)⟩
  obtain ⟨hopen, hmd, _⟩ := overlay_read_holds hown' hp oid bs (by rw [← hbs]; exact hr'.holds)
  exact read_back hopen hmd

/-- **overlay_flush_visible.** `C04.flush_visible` through the overlay, script `pre ++ flush :: post`.
Right after the flush (the handle `h1` still open, the world `w1`): the world is in the setting,
the invariants hold, the VIEW shows at `p` exactly the vector the specification gives for `pre`,
every other visible path is as before the session, and a reader opened THROUGH THE OVERLAY at that
moment sees exactly those bytes. Running `post` and dropping `h1` ends as the whole session. -/
theorem overlay_flush_visible (c : Option Bytes) (hr : VReady (oview (mu :: ms)) ds n c)
    (s : Session) (b0 : Bytes) (n0 : Nat) (hst : startOf c s = some (b0, n0))
    (pre post : List Act) :
    let p := renderC (ds ++ [n])
    let P := ovP u idu is ids oid p
    let s' := s.withActs (pre ++ .flush :: post)
    ∃ h0 w0 h1 w1 mu1 ms1,
      s'.opener P w = (.ok h0, w0) ∧
      applyActs h0 w0 (pre ++ [.flush]) = (h1, w1) ∧
      OWN w1 (u :: is) (idu :: ids) (mu1 :: ms1) ∧ LowerSame ms ms1 ∧ OInv mu1 ms1 ∧
      VHolds (oview (mu1 :: ms1)) p (some (specRun b0 n0 pre).1) ∧
      VFrame (oview (mu :: ms)) (oview (mu1 :: ms1)) p ∧
      (∃ w2, P.openFile w1 = (.ok { content := (specRun b0 n0 pre).1, pos := 0 }, w2)) ∧
      s'.run P w = C03.runActs h1 post w1 ∧
      ∃ mu2, C03.runActs h1 post w1 = (.ok (), w1.setLeafFiles u mu2) ∧
        OWN (w1.setLeafFiles u mu2) (u :: is) (idu :: ids) (mu2 :: ms1) ∧ OInv mu2 ms1 ∧
        VHolds (oview (mu2 :: ms1)) p (specSession c s') ∧
        VFrame (oview (mu :: ms)) (oview (mu2 :: ms1)) p := by
  intro p P s'
  have hst' : startOf c s' = some (b0, n0) := by rw [startOf_withActs]; exact hst
  have hacts : s'.acts = pre ++ .flush :: post := Session.acts_withActs _ _
  obtain ⟨w0, muS, ms', hom, hown0, ho, _⟩ := overlay_opens h inv hv hp oid c hr s' b0 n0 hst'
  obtain ⟨h1, m1, m2, hstep, hh1, hfr1, hrun, hrun2, hh2, hfr2⟩ := hom.flush pre post
  obtain ⟨inv1, hv1, hframe1⟩ := ho.publish hp hh1 hfr1
  obtain ⟨inv2, hv2, hframe2⟩ := ho.publish hp hh2 hfr2
  have hown1 := hown0.setHead m1
  obtain ⟨hopen2, _, _⟩ := overlay_read_holds hown1 hp oid _ hv1
  refine ⟨_, _, _, _, m1, ms', hom.run, hstep, hown1, ho.1, inv1, hv1, hframe1, hopen2, ?_, m2,
    by rw [World.setLeafFiles_twice]; exact hrun2, hown1.setHead m2, inv2, ?_, hframe2⟩
  · rw [Session.run_eq_opener, hacts]; exact hrun
  · rw [specSession_eq_startOf, hst', hacts]; exact hv2

/-- **overlay_seek_errors_harmless.** A seek that the specification rejects (negative or
overflowing target) anywhere in a session through the overlay changes nothing: same outcome, same
final world as the session without it, and the specification agrees. -/
theorem overlay_seek_errors_harmless (c : Option Bytes) (hr : VReady (oview (mu :: ms)) ds n c)
    (s : Session) (b0 : Bytes) (n0 : Nat) (hst : startOf c s = some (b0, n0))
    (pre post : List Act) (sk : SeekFrom)
    (hfail : specSeek (specRun b0 n0 pre).1.length (specRun b0 n0 pre).2 sk = none) :
    let P := ovP u idu is ids oid (renderC (ds ++ [n]))
    (s.withActs (pre ++ .seek sk :: post)).run P w = (s.withActs (pre ++ post)).run P w ∧
    specSession c (s.withActs (pre ++ .seek sk :: post)) = specSession c (s.withActs (pre ++ post)) := by
  intro P
  obtain ⟨w0, muS, ms', hopen, _⟩ := overlay_open_exact h inv hv hp oid c hr s b0 n0 hst
  constructor
  · rw [Session.run_eq_opener, Session.run_eq_opener]
    simp only [Session.opener_withActs, Session.acts_withActs]
    rw [bind_run_ok hopen, bind_run_ok hopen, runActs_seek_fail _ _ _ _ _ hfail]
  · rw [specSession_eq_startOf, specSession_eq_startOf, startOf_withActs, startOf_withActs, hst,
      Session.acts_withActs, Session.acts_withActs]
    simp only [Option.map_some, specRun_seek_fail hfail]

end sessionsRead

theorem vholds_of_not_dir {v : View} {p : Str} (hnd : ¬ VIsDir v p) : ∃ c, VHolds v p c := by
  cases hv0 : v p with
  | none => exact ⟨none, hv0⟩
  | some e =>
    refine ⟨some e.content, e, hv0, ?_, rfl⟩
    cases hft : e.ftype with
    | file => rfl
    | dir => exact absurd ⟨e, hv0, hft⟩ hnd

section single
variable {w : World} {u idu : Nat} {mu : FMap} {is ids : List Nat} {ms : List FMap}
  (h : OWN w (u :: is) (idu :: ids) (mu :: ms)) (inv : OInv mu ms)
  (hv : ViewWF (oview (mu :: ms))) {ds : List Str} {n : Str} (hp : OpPath (ds ++ [n])) (oid : Nat)
include h inv hv hp

/-- **overlay_create_session_exact.** Through an overlay over n in-memory layers (`OWN`, `OInv`,
`ViewWF`), on a disciplined path `p` whose parent is a directory of the view and which is not a
directory of the view — WHATEVER `p` held before in any layer (nothing, a file in the upper map,
files in one or several lower layers, a whiteout marker) —, a create session with ANY script of
write / seek / flush actions: succeeds; the lower maps are literally unchanged; the invariants
hold again; and, for the view, the session IS the single write of `new = (specRun [] 0 acts).1`
(`VContract … (.write p new) (.ok ()) …`, i.e. `VEffect`: the view holds at `p` a file with
exactly `new`, every other visible path keeps its type and bytes); a fresh `open_file` through
the overlay reads exactly `new` and `metadata` reports its length. -/
theorem overlay_create_session_exact (hd : VIsDir (oview (mu :: ms)) (renderC ds))
    (hnd : ¬ VIsDir (oview (mu :: ms)) (renderC (ds ++ [n]))) (acts : List Act) :
    let p := renderC (ds ++ [n])
    let P := ovP u idu is ids oid p
    let new := (specRun [] 0 acts).1
    ∃ w' mu', (Session.create acts).run P w = (.ok (), w') ∧
      OWN w' (u :: is) (idu :: ids) (mu' :: ms) ∧ OInv mu' ms ∧ ViewWF (oview (mu' :: ms)) ∧
      VContract (oview (mu :: ms)) (.write p new) (.ok ()) (oview (mu' :: ms)) ∧
      VEffect (oview (mu :: ms)) (oview (mu' :: ms)) (.write p new) ∧
      (∃ w2, P.openFile w' = (.ok { content := new, pos := 0 }, w2)) ∧
      (∃ md, P.metadata w' = (.ok md, w') ∧ md.len = new.length ∧ md.ftype = .file) := by
  intro p P new
  obtain ⟨c, hc⟩ := vholds_of_not_dir hnd
  obtain ⟨w', mu', ms', hrun, hown, _, hms, inv', hv', hr', hfr⟩ :=
    overlay_session_exact h inv hv hp oid c ⟨hd, hc⟩ (.create acts)
  have hms' : ms' = ms := hms ⟨acts, rfl⟩
  rw [hms'] at hown inv' hv' hr' hfr
  have hfile : VHasFile (oview (mu' :: ms)) p new := by
    have := hr'.holds
    cases c <;> exact this
  have heff : VEffect (oview (mu :: ms)) (oview (mu' :: ms)) (.write p new) := ⟨hfile, hfr⟩
  obtain ⟨hopen, hmd, _⟩ := overlay_read_holds hown hp oid new hfile
  exact ⟨w', mu', hrun, hown, inv', hv',
    VContract.of_ok ⟨by rw [hp.parent]; exact hd, hnd⟩ heff, heff, hopen, hmd⟩

/-- **overlay_append_session_exact.** The same for an append session on a path where the VIEW
shows a file with bytes `old` — the bytes of the FIRST layer that has the file (see
`vholds_of_firstAt`), whatever deeper layers hold: the script runs on a cursor that starts at the
end of `old` (after the copy-up into the upper layer if only lower layers had the file); the
session succeeds; the lower maps are unchanged up to the access stamp of the entry that was
copied up; the invariants hold again; the view then holds at `p` exactly
`(specRun old old.length acts).1`, every other visible path keeps its type and bytes; a fresh
`open_file` through the overlay reads exactly those bytes and `metadata` reports their length. -/
theorem overlay_append_session_exact (old : Bytes)
    (hold : VHasFile (oview (mu :: ms)) (renderC (ds ++ [n])) old) (acts : List Act) :
    let p := renderC (ds ++ [n])
    let P := ovP u idu is ids oid p
    let new := (specRun old old.length acts).1
    ∃ w' mu' ms', (Session.append acts).run P w = (.ok (), w') ∧
      OWN w' (u :: is) (idu :: ids) (mu' :: ms') ∧ LowerSame ms ms' ∧
      OInv mu' ms' ∧ ViewWF (oview (mu' :: ms')) ∧
      VHasFile (oview (mu' :: ms')) p new ∧
      VFrame (oview (mu :: ms)) (oview (mu' :: ms')) p ∧
      (∃ w2, P.openFile w' = (.ok { content := new, pos := 0 }, w2)) ∧
      (∃ md, P.metadata w' = (.ok md, w') ∧ md.len = new.length ∧ md.ftype = .file) := by
  have hfl : VIsFile (oview (mu :: ms)) (renderC (ds ++ [n])) := by
    obtain ⟨e, he, hf, _⟩ := hold; exact ⟨e, he, hf⟩
  have hd : VIsDir (oview (mu :: ms)) (renderC ds) := by
    by_cases hds0 : ds = []
    · subst hds0; exact rootIsDir inv.root
    · exact hv.2 ds n hds0 hp.hds hp.hn.noSlash hp.dhead
        (fun h0 => not_absent_of_file hfl (by rw [renderC_snoc]; exact h0))
  intro p P new
  obtain ⟨w', mu', ms', hrun, hown, hls, _, inv', hv', hr', hfr⟩ :=
    overlay_session_exact h inv hv hp oid (some old) ⟨hd, hold⟩ (.append acts)
  have hfile : VHasFile (oview (mu' :: ms')) p new := hr'.holds
  obtain ⟨hopen, hmd, _⟩ := overlay_read_holds hown hp oid new hfile
  exact ⟨w', mu', ms', hrun, hown, hls, inv', hv', hfile, hfr, hopen, hmd⟩

/-- the append theorem with the layer spelled out: no marker of `p` in the upper map, layer `k`
(upper or lower) is the FIRST that has `p`, and holds a file `e` there — then the script
continues `e.content`, whatever layers deeper than `k` hold at `p` -/
theorem overlay_append_session_first_layer
    (hmk : mu.contains (marker (renderC (ds ++ [n]))) = false) {k : Nat} {m : FMap}
    (hfirst : FirstAt (mu :: ms) (renderC (ds ++ [n])) k m) {e : Entry}
    (he : m.find? (renderC (ds ++ [n])) = some e) (hf : e.ftype = .file) (acts : List Act) :
    let p := renderC (ds ++ [n])
    let P := ovP u idu is ids oid p
    let new := (specRun e.content e.content.length acts).1
    ∃ w' mu' ms', (Session.append acts).run P w = (.ok (), w') ∧
      OWN w' (u :: is) (idu :: ids) (mu' :: ms') ∧ LowerSame ms ms' ∧
      OInv mu' ms' ∧ ViewWF (oview (mu' :: ms')) ∧
      VHasFile (oview (mu' :: ms')) p new ∧
      VFrame (oview (mu :: ms)) (oview (mu' :: ms')) p ∧
      (∃ w2, P.openFile w' = (.ok { content := new, pos := 0 }, w2)) ∧
      (∃ md, P.metadata w' = (.ok md, w') ∧ md.len = new.length ∧ md.ftype = .file) :=
  overlay_append_session_exact h inv hv hp oid e.content (vholds_of_firstAt hp hmk hfirst he hf) acts

end single

/-! ## the scenario: the 3-layer world of Props/C09Refine.lean

upper (leaf 2): the root and "/top";  layer 1 (leaf 0): "/d", "/d/x" = "1", "/d/b" = "B";
layer 2 (leaf 1): "/d", "/d/x" = "2", "/d/c" = "C", "/e", "/e/z" = "Z". -/

section examples
open Vfs.C09 (xw xfs xU xA xB xw_setting xw_inv xw_viewWF fileOf)

/-- the path "/d/x" of the overlay (layer 1 serves "1", layer 2 holds "2") -/
def xPx : VPath := ovP 2 7 [0, 1] [8, 9] 42 "/d/x".toList
/-- the path "/d/c" (only layer 2 has it: "C") and a path nobody has -/
def xPc : VPath := ovP 2 7 [0, 1] [8, 9] 42 "/d/c".toList
def xPn : VPath := ovP 2 7 [0, 1] [8, 9] 42 "/d/nope".toList

/-- a history of three sessions: an append continuing LAYER 1's byte with a seek-back overwrite
and a flush; a create session (truncate) with a gap zero-fill, a flush in the middle, a FAILING
seek and an overwrite near the end; an append with a failing seek -/
def xSessions : List Session :=
  [.append [.write [65], .seek (.start 0), .write [66], .flush],
   .create [.write [1, 2, 3], .seek (.fromEnd 2), .write [9], .flush, .seek (.cur (-100)),
     .seek (.start 1), .write [7]],
   .append [.seek (.fromEnd (-100)), .write [8]]]

example : specSession (some [49]) (.append [.write [65], .seek (.start 0), .write [66], .flush])
    = some [66, 65] := by decide
example : specSessions (some [49]) xSessions = some [1, 7, 3, 0, 0, 9, 8] := by decide

example : (xPx.openFile (runSessions xPx xSessions xw)).1
    = .ok { content := [1, 7, 3, 0, 0, 9, 8], pos := 0 } := by decide +kernel
example : ((xPx.metadata (runSessions xPx xSessions xw)).1.map fun md => md.len) = .ok 7 := by
  decide +kernel
/-- after the first session alone: layer 1's "1" was continued, not layer 2's "2" -/
example : (xPx.openFile (runSessions xPx (xSessions.take 1) xw)).1
    = .ok { content := [66, 65], pos := 0 } := by decide +kernel
/-- an append on a file that only layer 2 has; a failing append on a path nobody has -/
example : (xPc.openFile (runSessions xPc [.append [.seek (.start 0), .write [99, 100]]] xw)).1
    = .ok { content := [99, 100], pos := 0 } := by decide +kernel
example : ((Session.append [.write [1]]).run xPn xw).1
    = .err .fileNotFound (some "/d/nope".toList) := by decide +kernel

/-- the hypotheses hold on that world: the view shows a directory at "/d" and at "/d/x" the file
"1" of layer 1 -/
theorem x_ready : VReady (oview [xU, xA, xB]) ["d".toList] "x".toList (some [49]) :=
  ⟨⟨dirEntryNow, by decide +kernel, rfl⟩, ⟨fileOf [49], by decide +kernel, rfl, rfl⟩⟩

theorem x_ready_absent : VReady (oview [xU, xA, xB]) ["d".toList] "nope".toList none :=
  ⟨⟨dirEntryNow, by decide +kernel, rfl⟩, by
    show oview [xU, xA, xB] (renderC (["d".toList] ++ ["nope".toList])) = none
    decide +kernel⟩

theorem x_path : OpPath (["d".toList] ++ ["x".toList]) := by decide +kernel

example := overlay_sessions_exact xw_setting xw_inv xw_viewWF x_path 42 (some [49]) x_ready xSessions
example := overlay_sessions_read_exact xw_setting xw_inv xw_viewWF x_path 42 (some [49]) x_ready
  xSessions
example := overlay_sessions_exact xw_setting xw_inv xw_viewWF
  (ds := ["d".toList]) (n := "nope".toList) (by decide +kernel) 42 none x_ready_absent
  [.append [.write [1]], .create [.write [2]], .append [.write [3]]]
example := overlay_create_session_exact xw_setting xw_inv xw_viewWF x_path 42
  ⟨dirEntryNow, by decide +kernel, rfl⟩ (by decide +kernel) [.write [1, 2, 3], .seek (.fromEnd 2), .write [9]]
example := overlay_append_session_exact xw_setting xw_inv xw_viewWF x_path 42 [49]
  ⟨fileOf [49], by decide +kernel, rfl, rfl⟩ [.write [65], .seek (.start 0), .write [66], .flush]
example := overlay_flush_visible xw_setting xw_inv xw_viewWF x_path 42 (some [49]) x_ready
  (.append []) [49] 1 rfl [.write [65], .seek (.start 0), .write [66]] [.write [67]]
example := overlay_seek_errors_harmless xw_setting xw_inv xw_viewWF x_path 42 (some [49]) x_ready
  (.create []) [] 0 rfl [.write [1, 2, 3]] [.write [7]] (.cur (-100)) (by decide +kernel)

/-- layer 1 (index 1 of `[xU, xA, xB]`) is the first holder of "/d/x" -/
theorem x_first : FirstAt [xU, xA, xB] (renderC (["d".toList] ++ ["x".toList])) 1 xA := by
  refine ⟨rfl, by decide +kernel, ?_⟩
  intro j mj hj hget
  have : j = 0 := by omega
  subst this
  simp only [List.getElem?_cons_zero, Option.some.injEq] at hget
  subst hget
  decide +kernel

example := overlay_append_session_first_layer xw_setting xw_inv xw_viewWF x_path 42 (by decide +kernel)
  x_first (e := fileOf [49]) (by decide +kernel) rfl [.write [65]]

end examples

#print axioms overlay_open_exact
#print axioms overlay_session_exact
#print axioms overlay_create_session_exact
#print axioms overlay_append_session_exact
#print axioms overlay_append_session_first_layer
#print axioms overlay_sessions_exact
#print axioms overlay_sessions_read_exact
#print axioms overlay_flush_visible
#print axioms overlay_seek_errors_harmless

end Vfs.C04
