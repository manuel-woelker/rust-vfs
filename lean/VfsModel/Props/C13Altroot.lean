/-
  C13 (termination) through an AltrootFS — walk_dir / remove_dir_all / copy_dir / move_dir called
  on paths of an altroot rooted at a canonical directory `P` of an in-memory filesystem never
  reach the out-of-fuel sentinel (`.panic`) for sufficient, explicit fuel. Props/C13Term.lean
  proves this for in-memory leaves; here it is carried to the altroot along the simulation of
  Props/C07Subtree.lean: `RelRes` relates `.panic` only to `.panic` (`C11.relres_panic_iff`), so
  the altroot run is the sentinel IFF the run of the bare memory filesystem holding `sub P m` is.

  Setting: as in Props/C11Altroot.lean (`AltSub w i P m`; the simulation calculus in the
  namespace `Vfs.T`). Fuel bounds are those of Props/C13Term.lean, measured on the SUB-MAP
  `sub P m` (the tree below `P`): they do not depend on what lies outside `P`.

  `q`, `s` canonical, `d = renderC bs`:
  * `altroot_panic_iff`: for all four operations and ANY fuel: sentinel through the altroot ⇔
    sentinel on the sub-leaf.
  * `altroot_walk_sentinel_iff`: the collected walk through the altroot is the sentinel IFF `q`
    is a directory below `P` and fuel ≤ number of its descendants (`descCount (sub P m) q`);
    `altroot_walk_never_panics`: for EVERY canonical `q` (directory, file, absent, root).
  * `altroot_removeDirAll_never_panics`: `q ≠ ""`, fuel ≥ 1 and above the key-length bound of
    `C13.removeDirAll_never_panics` on the sub-map; `…_keyFuel`: the computed fuel
    `keyFuel (sub P m)`. EVERY kind of `q` (absent, file, directory).
  * `altroot_copyDir_never_panics`, `altroot_moveDir_never_panics`: source and destination both
    through the altroot; every state of the destination and every kind of source; when the copy
    actually runs: `d` not at or below `s` (and for move `s ≠ ""` and the two length bounds).
  * `altroot_copyDir_to_leaf_never_panics`, `altroot_moveDir_to_leaf_never_panics`: source
    through the altroot (leaf `i`), destination a plain memory filesystem on another leaf `j`
    (well-formed, canonical keys, different `Arc` identity).
  NOT PROVED: `remove_dir_all("")` on the altroot's own root (outside the simulation);
  destinations that are themselves altroots of another filesystem, physical or overlay
  destinations; overlays (their recursive operations: only the "panic ⇒ fuel sentinel" of
  Props/C13.lean).
-/
import VfsModel.Props.C11Altroot
import VfsModel.Props.C13Term
namespace Vfs.C13
/- as in Props/C11Altroot.lean: stated and proved with the definitions of `Vfs.T` -/
export Vfs.T (RelRes SimM SimVPath sub stripP Rooted Inv0 AncOK RSub PRdrop HSub find?_sub)
open Vfs Vfs.T Vfs.T.C07 Vfs.C11 Vfs.C05 Vfs.Wk

section ops
variable {w : World} {i : Nat} {P : Str} {m : FMap} (a : AltSub w i P m) (id id' : Nat)
include a

/-- **the principle**: through the altroot the fuel sentinel is reached iff it is reached on the
bare memory filesystem holding the sub-map — for the walk, remove_dir_all, copy_dir, move_dir and
every fuel -/
theorem altroot_panic_iff (fuel : Nat) {s d : Str} (hs : Canon s) (hd : Canon d) :
    ((walkCollect fuel (apath i id P id' s) w).1 = .panic ↔
      (walkCollect fuel (spath i id' s) (subWorld w i P m)).1 = .panic) ∧
    (s ≠ [] → ((VPath.removeDirAll fuel (apath i id P id' s) w).1 = .panic ↔
      (VPath.removeDirAll fuel (spath i id' s) (subWorld w i P m)).1 = .panic)) ∧
    (d ≠ [] → ((VPath.copyDir fuel (apath i id P id' s) (apath i id P id' d) w).1 = .panic ↔
      (VPath.copyDir fuel (spath i id' s) (spath i id' d) (subWorld w i P m)).1 = .panic)) ∧
    (s ≠ [] → d ≠ [] →
      ((VPath.moveDir fuel (apath i id P id' s) (apath i id P id' d) w).1 = .panic ↔
      (VPath.moveDir fuel (spath i id' s) (spath i id' d) (subWorld w i P m)).1 = .panic)) :=
  ⟨relres_panic_iff (altroot_walk (specOne_self i P) a.canonP id id' fuel hs _ _ a.rel).1,
   fun hne => relres_panic_iff
     (altroot_remove_dir_all (specOne_self i P) a.canonP id id' fuel hs hne _ _ a.rel).1,
   fun hne => relres_panic_iff
     (altroot_copy_dir (specOne_self i P) a.canonP id id' fuel hs hd hne _ _ a.rel).1,
   fun h1 h2 => relres_panic_iff
     (altroot_move_dir (specOne_self i P) a.canonP id id' fuel hs hd h1 h2 _ _ a.rel).1⟩

theorem altroot_walk_sentinel_iff (hwf : WF (sub P m)) (hk : FMap.NodupKeys (sub P m))
    {q : Str} (hq : Canon q) (fuel : Nat) :
    (walkCollect fuel (apath i id P id' q) w).1 = .panic ↔
      (∃ e, m.find? (P ++ q) = some e ∧ e.ftype = .dir) ∧ fuel ≤ descCount (sub P m) q := by
  rw [(altroot_panic_iff a id id' fuel hq hq).1]
  have := (walk_never_panics a.subLeaf hwf hk id' q).2.2.1 fuel
  rw [show spath i id' q = mk i id' q from rfl, this]
  unfold IsDirOf
  rw [a.find q hq]

theorem altroot_walk_never_panics (hwf : WF (sub P m)) (hk : FMap.NodupKeys (sub P m))
    {q : Str} (hq : Canon q) :
    (walkCollect (sub P m).length (apath i id P id' q) w).1 ≠ .panic ∧
    ∀ fuel, descCount (sub P m) q < fuel →
      (walkCollect fuel (apath i id P id' q) w).1 ≠ .panic := by
  obtain ⟨h1, h2, _⟩ := walk_never_panics a.subLeaf hwf hk id' q
  refine ⟨fun hp => h1 ((altroot_panic_iff a id id' _ hq hq).1.1 hp), fun fuel hf hp => ?_⟩
  exact h2 fuel hf ((altroot_panic_iff a id id' fuel hq hq).1.1 hp)

theorem altroot_removeDirAll_never_panics (hwf : WF (sub P m)) (hk : FMap.NodupKeys (sub P m))
    (fuel : Nat) {q : Str} (hq : Canon q) (hne : q ≠ []) (hf0 : 0 < fuel)
    (hfuel : ∀ k e', (sub P m).find? k = some e' → k.length < q.length + fuel) :
    (VPath.removeDirAll fuel (apath i id P id' q) w).1 ≠ .panic := fun hp =>
  removeDirAll_never_panics a.subLeaf hwf hk id' fuel q hf0 hfuel
    (((altroot_panic_iff a id id' fuel hq hq).2.1 hne).1 hp)

theorem altroot_removeDirAll_never_panics_keyFuel (hwf : WF (sub P m))
    (hk : FMap.NodupKeys (sub P m)) {q : Str} (hq : Canon q) (hne : q ≠ []) :
    (VPath.removeDirAll (keyFuel (sub P m)) (apath i id P id' q) w).1 ≠ .panic := fun hp =>
  removeDirAll_never_panics_keyFuel a.subLeaf hwf hk id' q
    (((altroot_panic_iff a id id' _ hq hq).2.1 hne).1 hp)

theorem altroot_copyDir_never_panics (hwf : WF (sub P m)) (hk : FMap.NodupKeys (sub P m))
    (fuel : Nat) {s : Str} (hs : Canon s) (bs : List Str) (hbs : ∀ c ∈ bs, GoodComp c)
    (hbne : bs ≠ [])
    (hsrc : (∃ e, m.find? (P ++ s) = some e ∧ e.ftype = .dir) → under s (renderC bs) = false)
    (hfuel : descendants (sub P m) s < fuel) :
    (VPath.copyDir fuel (apath i id P id' s) (apath i id P id' (renderC bs)) w).1 ≠ .panic := by
  intro hp
  have hdne : renderC bs ≠ [] := List.ne_nil_of_mem (slash_mem_renderC hbne)
  refine copyDir_never_panics a.subLeaf a.subLeaf hwf hwf hk id' id' fuel s bs hbs ?_ hfuel
    (((altroot_panic_iff a id id' fuel hs ⟨bs, hbs, rfl⟩).2.2.1 hdne).1 hp)
  intro hdir
  refine ⟨fun k e he _ => a.keysCanon k e he, fun _ => hsrc ?_⟩
  unfold IsDirOf at hdir
  rwa [a.find s hs] at hdir

theorem altroot_moveDir_never_panics (hwf : WF (sub P m)) (hk : FMap.NodupKeys (sub P m))
    (fuel : Nat) {s : Str} (hs : Canon s) (hsne : s ≠ []) (bs : List Str)
    (hbs : ∀ c ∈ bs, GoodComp c) (hbne : bs ≠ [])
    (hsrc : (∃ e, m.find? (P ++ s) = some e ∧ e.ftype = .dir) →
      under s (renderC bs) = false ∧
      ∀ k e, (sub P m).find? k = some e → under s k = true →
        (renderC bs).length + k.length < 2 * s.length + fuel)
    (hfuel : descendants (sub P m) s < fuel)
    (hb1 : ∀ k e, (sub P m).find? k = some e → k.length < s.length + fuel) :
    (VPath.moveDir fuel (apath i id P id' s) (apath i id P id' (renderC bs)) w).1 ≠ .panic := by
  intro hp
  have hdne : renderC bs ≠ [] := List.ne_nil_of_mem (slash_mem_renderC hbne)
  refine moveDir_never_panics a.subLeaf a.subLeaf hwf hwf hk id' id' fuel s bs hbs ?_ hfuel hb1
    (((altroot_panic_iff a id id' fuel hs ⟨bs, hbs, rfl⟩).2.2.2 hsne hdne).1 hp)
  intro hdir
  have hdir' : ∃ e, m.find? (P ++ s) = some e ∧ e.ftype = .dir := by
    unfold IsDirOf at hdir
    rwa [a.find s hs] at hdir
  exact ⟨hsne, fun k e he _ => a.keysCanon k e he, fun _ => (hsrc hdir').1,
    fun _ => (hsrc hdir').2⟩

end ops

section cross
variable {w : World} {i j : Nat} {P : Str} {m md : FMap} (a : AltSub w i P m) (hji : j ≠ i)
  (hj : MemLeafAt w j md) (hwfd : WF md) (hcan : ∀ k ∈ md.keys, Canon k) (id id' did : Nat)
  (hid : id' ≠ did)
include a hji hj hwfd hcan hid

theorem altroot_copyDir_to_leaf_never_panics (hwf : WF (sub P m))
    (hk : FMap.NodupKeys (sub P m)) (fuel : Nat) {s : Str} (hs : Canon s) (bs : List Str)
    (hbs : ∀ c ∈ bs, GoodComp c) (hbne : bs ≠ []) (hfuel : descendants (sub P m) s < fuel) :
    (VPath.copyDir fuel (apath i id P id' s)
      { fs := leafFS j, fsId := did, path := renderC bs } w).1 ≠ .panic := by
  intro hp
  have hdne : renderC bs ≠ [] := List.ne_nil_of_mem (slash_mem_renderC hbne)
  have hj2 : MemLeafAt (subWorld w i P m) j md := hj.set_ne (fun e => hji e.symm) _
  have hsim := (altroot_to_leaf_sim a hji hj hwfd hcan id id' did hid fuel hs
    (d := renderC bs) ⟨bs, hbs, rfl⟩ hdne).1 _ _ (AltSub.rel2 a hji hj hwfd hcan id' did hid)
  refine copyDir_never_panics a.subLeaf hj2 hwf hwfd hk id' did fuel s bs hbs ?_ hfuel
    ((relres_panic_iff hsim.1).1 hp)
  intro _
  exact ⟨fun k e he _ => a.keysCanon k e he, fun e => absurd e.symm hji⟩

theorem altroot_moveDir_to_leaf_never_panics (hwf : WF (sub P m))
    (hk : FMap.NodupKeys (sub P m)) (fuel : Nat) {s : Str} (hs : Canon s) (hsne : s ≠ [])
    (bs : List Str) (hbs : ∀ c ∈ bs, GoodComp c) (hbne : bs ≠ [])
    (hfuel : descendants (sub P m) s < fuel)
    (hb1 : ∀ k e, (sub P m).find? k = some e → k.length < s.length + fuel) :
    (VPath.moveDir fuel (apath i id P id' s)
      { fs := leafFS j, fsId := did, path := renderC bs } w).1 ≠ .panic := by
  intro hp
  have hdne : renderC bs ≠ [] := List.ne_nil_of_mem (slash_mem_renderC hbne)
  have hj2 : MemLeafAt (subWorld w i P m) j md := hj.set_ne (fun e => hji e.symm) _
  have hsim := (altroot_to_leaf_sim a hji hj hwfd hcan id id' did hid fuel hs
    (d := renderC bs) ⟨bs, hbs, rfl⟩ hdne).2 hsne _ _ (AltSub.rel2 a hji hj hwfd hcan id' did hid)
  refine moveDir_never_panics a.subLeaf hj2 hwf hwfd hk id' did fuel s bs hbs ?_ hfuel hb1
    ((relres_panic_iff hsim.1).1 hp)
  intro _
  exact ⟨hsne, fun k e he _ => a.keysCanon k e he, fun e => absurd e.symm hji,
    fun e => absurd e.symm hji⟩

end cross

section example_wN

example := altroot_walk_never_panics wN_altSub 5 6 rSub_wf rSub_nodup (q := [])
  ⟨[], by simp, rfl⟩
example := altroot_walk_sentinel_iff wN_altSub 5 6 rSub_wf rSub_nodup (q := "/a".toList)
  ⟨["a".toList], by decide, by decide⟩ 3
example := altroot_removeDirAll_never_panics_keyFuel wN_altSub 5 6 rSub_wf rSub_nodup
  (q := "/a".toList) ⟨["a".toList], by decide, by decide⟩ (by decide)
example := altroot_copyDir_never_panics wN_altSub 5 6 rSub_wf rSub_nodup 7 (s := "/a".toList)
  ⟨["a".toList], by decide, by decide⟩ ["z".toList] (by decide) (by decide) (fun _ => by decide)
  rSub_desc_a
example := altroot_moveDir_never_panics wN_altSub 5 6 rSub_wf rSub_nodup 7 (s := "/a".toList)
  ⟨["a".toList], by decide, by decide⟩ (by decide) ["z".toList] (by decide) (by decide)
  (fun _ => ⟨by decide, fun k e he _ => by have := rSub_len k e he; simp; omega⟩) rSub_desc_a
  (fun k e he => by have := rSub_len k e he; simp; omega)

example := altroot_copyDir_to_leaf_never_panics wN_altSub (j := 1) (by decide) wN_leaf1 mK_wf
  mK_canon 5 6 9 (by decide) rSub_wf rSub_nodup 7 (s := "/a".toList)
  ⟨["a".toList], by decide, by decide⟩ ["c".toList] (by decide) (by decide) rSub_desc_a
example := altroot_moveDir_to_leaf_never_panics wN_altSub (j := 1) (by decide) wN_leaf1 mK_wf
  mK_canon 5 6 9 (by decide) rSub_wf rSub_nodup 7 (s := "/a".toList)
  ⟨["a".toList], by decide, by decide⟩ (by decide) ["c".toList] (by decide) (by decide)
  rSub_desc_a (fun k e he => by have := rSub_len k e he; simp; omega)

example : descCount (sub rP mN) [] = 8 := by decide +kernel
example : (walkCollect 8 (apath 0 5 rP 6 []) wN).1.isPanic = true := by decide +kernel
example : (walkCollect 9 (apath 0 5 rP 6 []) wN).1.isOk = true := by decide +kernel

end example_wN

end Vfs.C13

section audit
open Vfs.C13
#print axioms altroot_panic_iff
#print axioms altroot_walk_sentinel_iff
#print axioms altroot_walk_never_panics
#print axioms altroot_removeDirAll_never_panics
#print axioms altroot_removeDirAll_never_panics_keyFuel
#print axioms altroot_copyDir_never_panics
#print axioms altroot_moveDir_never_panics
#print axioms altroot_copyDir_to_leaf_never_panics
#print axioms altroot_moveDir_to_leaf_never_panics
end audit
