/-
  C11 with source AND destination in ONE overlay — `copy_dir` / `move_dir` of a tree of ANY depth
  between two disciplined paths of an overlay over n ≥ 1 in-memory layers produce an exact copy of
  what the overlay SHOWED at the source. Order-insensitive, proved directly on the view. The two
  results as closed statements are `copyDir_within_overlay_exact_stmt` /
  `moveDir_within_overlay_exact_stmt`, defined first; `…_exact` are the same with named hypotheses,
  `…_exact_holds` say so.

  Setting: `OWN`, `OInv`, `ViewWF`, `NamesOK` as in Props/C11OverlaySource.lean; source
  `S = renderC ss` (`OpPath ss`) a directory of the view; destination `renderC (dd ++ [n0])`
  (`OpPath`), ABSENT from the view, its parent `renderC dd` a directory of the view (the root
  `dd = []` included), NOT at or below the source (`¬ InSub ss …`: otherwise the walk would see
  its own output, the divergence documented in Props/C11.lean); ANY `Arc` identities (the overlay
  answers NotSupported on its fast paths); `D` = duplicate-free enumeration of the present
  disciplined paths strictly below `S`, fuel > `D.length`; for `move_dir` also the depth bound
  `FuelOK (oview (mu :: ms)) ss fuel` of `remove_dir_all`.

  * `copyDir_within_overlay_exact`: `Ok D.length`; the destination is a directory of the final
    view; for EVERY relative path `ts ≠ []` with `OpPath (dst ++ ts)`:
    `(view' (dst/ts)).map vcore = (ovisView (mu :: ms) (S/ts)).map vcore` (present iff the original
    view shows `S/ts`; same type; files with the bytes the overlay served; whited-out entries are
    not copied); every visible path outside the destination subtree — the source subtree
    included — keeps type and bytes; lower layers unchanged up to access stamps (`LowerSame`);
    `OWN`/`OInv`/`ViewWF`/`NamesOK` again.
  * `moveDir_within_overlay_exact`: Ok; destination as above; NO TRACE of the source
    (`InSub ss q → view' q = none`); every visible path outside both subtrees keeps type and bytes.
  * `copyItems_within`: the loop; invariant `DInvV` on the view + `GoodV`: the iterator state is
    good for the ORIGINAL view and lies below the source. The loop itself is
    `CopyLoop.copyItems_run` (Proofs/CopyLoop.lean) with the view at entry as the tree, looked at
    only AT OR BELOW the source: the view changes during the walk (one new entry per item), but
    only below the destination, so every later view agrees with the tree there
    (`src_same_within`); one round is `within_step`.
  NOT PROVED: failing runs; a destination inside the source; the relational form against a
  reference leaf (`copyDir_within_overlay_stmt` of Props/C11OverlayTree.lean).
-/
import VfsModel.Proofs.OverlayRemoveAll
import VfsModel.Proofs.OverlayTransfer
import VfsModel.Proofs.CopyLoop
import VfsModel.Proofs.Sim
namespace Vfs.C11
open Vfs Vfs.Overlay Vfs.C02 Vfs.C01 Vfs.C09 Vfs.C05 Vfs.Wk
open Vfs.WkG (TreeViewOn TreeView IsNames)

/-- `copy_dir` within one overlay, order-insensitive form, as a closed statement
(`copyDir_within_overlay_exact` below is the same with named hypotheses;
`copyDir_within_overlay_exact_holds`). Destination `dd ++ [n0]` absent below a directory of the view
and not inside the source. Difference to the cross-filesystem case: the view CHANGES while the
iterator runs (each item adds one entry below the destination), but only below the destination, so
the view at entry stays the tree that the walk sees at or below the source. -/
def copyDir_within_overlay_exact_stmt : Prop :=
  ∀ (w : World) (u idu : Nat) (mu : FMap) (is ids : List Nat) (ms : List FMap),
    OWN w (u :: is) (idu :: ids) (mu :: ms) → OInv mu ms → ViewWF (oview (mu :: ms)) →
    NamesOK (mu :: ms) →
  ∀ (id id' : Nat) (ss dd : List Str) (n0 : Str), OpPath ss → OpPath (dd ++ [n0]) →
    VIsDir (oview (mu :: ms)) (renderC ss) → VIsDir (oview (mu :: ms)) (renderC dd) →
    VAbsent (oview (mu :: ms)) (renderC (dd ++ [n0])) → ¬ InSub ss (renderC (dd ++ [n0])) →
  ∀ (D : List Str), DescList (ovisView (mu :: ms)) (renderC ss) D → ∀ fuel, D.length < fuel →
    ∃ w' mu' ms',
      VPath.copyDir fuel ⟨Overlay.fs (layersN (u :: is) (idu :: ids)), id, renderC ss⟩
        ⟨Overlay.fs (layersN (u :: is) (idu :: ids)), id', renderC (dd ++ [n0])⟩ w
        = (.ok D.length, w') ∧
      OSt u idu is ids ms' w' mu' ∧ LowerSame ms ms' ∧ NamesOK (mu' :: ms') ∧
      VIsDir (oview (mu' :: ms')) (renderC (dd ++ [n0])) ∧
      (∀ ts, ts ≠ [] → OpPath (dd ++ [n0] ++ ts) →
        (oview (mu' :: ms') (renderC (dd ++ [n0] ++ ts))).map vcore
          = (ovisView (mu :: ms) (renderC (ss ++ ts))).map vcore) ∧
      (∀ q, Vis q → ¬ InSub (dd ++ [n0]) q →
        (oview (mu' :: ms') q).map vcore = (oview (mu :: ms) q).map vcore)

/-- the same for `move_dir` within one overlay (copy phase as above, then `remove_dir_all` of the
source, `rda_all`): no trace of the source, the rest of the view unchanged
(`moveDir_within_overlay_exact`, `moveDir_within_overlay_exact_holds`). -/
def moveDir_within_overlay_exact_stmt : Prop :=
  ∀ (w : World) (u idu : Nat) (mu : FMap) (is ids : List Nat) (ms : List FMap),
    OWN w (u :: is) (idu :: ids) (mu :: ms) → OInv mu ms → ViewWF (oview (mu :: ms)) →
    NamesOK (mu :: ms) →
  ∀ (id id' : Nat) (ss dd : List Str) (n0 : Str), OpPath ss → OpPath (dd ++ [n0]) →
    VIsDir (oview (mu :: ms)) (renderC ss) → VIsDir (oview (mu :: ms)) (renderC dd) →
    VAbsent (oview (mu :: ms)) (renderC (dd ++ [n0])) → ¬ InSub ss (renderC (dd ++ [n0])) →
  ∀ (D : List Str), DescList (ovisView (mu :: ms)) (renderC ss) D → ∀ fuel, D.length < fuel →
    FuelOK (oview (mu :: ms)) ss fuel →
    ∃ w' mu' ms',
      VPath.moveDir fuel ⟨Overlay.fs (layersN (u :: is) (idu :: ids)), id, renderC ss⟩
        ⟨Overlay.fs (layersN (u :: is) (idu :: ids)), id', renderC (dd ++ [n0])⟩ w
        = (.ok (), w') ∧
      OSt u idu is ids ms' w' mu' ∧ LowerSame ms ms' ∧ NamesOK (mu' :: ms') ∧
      VIsDir (oview (mu' :: ms')) (renderC (dd ++ [n0])) ∧
      (∀ ts, ts ≠ [] → OpPath (dd ++ [n0] ++ ts) →
        (oview (mu' :: ms') (renderC (dd ++ [n0] ++ ts))).map vcore
          = (ovisView (mu :: ms) (renderC (ss ++ ts))).map vcore) ∧
      (∀ q, InSub ss q → oview (mu' :: ms') q = none) ∧
      (∀ q, Vis q → ¬ InSub (dd ++ [n0]) q → ¬ InSub ss q →
        (oview (mu' :: ms') q).map vcore = (oview (mu :: ms) q).map vcore)

theorem pending_below {R : Str} {inner todo : List Str} (hli : ∀ x ∈ inner, below R x = true)
    (hlt : ∀ d ∈ todo, below R d = true) {k : Str} (h : pending inner todo k = true) :
    below R k = true := by
  unfold pending at h
  rw [Bool.or_eq_true, List.any_eq_true, List.any_eq_true] at h
  rcases h with ⟨x, hx, hw⟩ | ⟨d, hd, hb⟩
  · exact below_of_below_within (hli x hx) hw
  · exact below_trans (hlt d hd) hb

theorem opPath_append {dd ts : List Str} (hd : OpPath dd) (hg : ∀ c ∈ ts, GoodComp c)
    (hw : ∀ c ∈ ts, NoWo c) : OpPath (dd ++ ts) where
  ne := by simp [hd.ne]
  good := fun c hc => by
    rcases List.mem_append.1 hc with h | h
    · exact hd.good c h
    · exact hg c h
  nowo := fun c hc => by
    rcases List.mem_append.1 hc with h | h
    · exact hd.nowo c h
    · exact hw c h
  head := by
    cases dd with
    | nil => exact absurd rfl hd.ne
    | cons a l => simpa using hd.head

theorem opPath_swap {ss dd ts : List Str} (hd : OpPath dd) (hp : OpPath (ss ++ ts)) :
    OpPath (dd ++ ts) :=
  opPath_append hd (fun c hc => hp.good c (by simp [hc])) (fun c hc => hp.nowo c (by simp [hc]))

/-- the current view `v` against the ORIGINAL layers `all0`; `proc` = the source path strings
processed so far -/
structure DInvV (all0 : List FMap) (ss dd : List Str) (v : View) (proc : Str → Prop) : Prop where
  top : VIsDir v (renderC dd)
  done : ∀ ts, ts ≠ [] → OpPath (ss ++ ts) → proc (renderC (ss ++ ts)) →
    (v (renderC (dd ++ ts))).map vcore = (oview all0 (renderC (ss ++ ts))).map vcore
  notyet : ∀ ts, ts ≠ [] → OpPath (dd ++ ts) → ¬ proc (renderC (ss ++ ts)) →
    v (renderC (dd ++ ts)) = none
  frame : ∀ q, Vis q → ¬ InSub dd q → (v q).map vcore = (oview all0 q).map vcore

theorem DInvV.congr_below {all0 : List FMap} {ss dd : List Str} {v : View} {proc proc' : Str → Prop}
    (h : DInvV all0 ss dd v proc)
    (hp : ∀ k, below (renderC ss) k = true → (proc' k ↔ proc k)) : DInvV all0 ss dd v proc' :=
  ⟨h.top, fun ts a b c => h.done ts a b ((hp _ (below_of_ne ss a)).1 c),
    fun ts a b c => h.notyet ts a b (fun h0 => c ((hp _ (below_of_ne ss a)).2 h0)), h.frame⟩

theorem DInvV.step {all0 : List FMap} {ss dd : List Str} {v v1 : View} {proc proc' : Str → Prop}
    (h : DInvV all0 ss dd v proc) (hss : OpPath ss) (hdd : OpPath dd)
    {ts : List Str} (hts : ts ≠ []) (hpt : OpPath (ss ++ ts))
    (hproc : ∀ k, proc' k ↔ (proc k ∨ k = renderC (ss ++ ts)))
    (hnew : (v1 (renderC (dd ++ ts))).map vcore = (oview all0 (renderC (ss ++ ts))).map vcore)
    (hfr : VFrame v v1 (renderC (dd ++ ts))) :
    DInvV all0 ss dd v1 proc' := by
  have hgt : ∀ c ∈ ts, GoodComp c := fun c hc => hpt.good c (by simp [hc])
  refine ⟨?_, ?_, ?_, ?_⟩
  · have hne := ne_of_ts (ts1 := []) (ts2 := ts) hdd.good (by intro c hc; cases hc) hgt (Ne.symm hts)
    rw [List.append_nil] at hne
    exact (isDir_of_vcore (hfr _ hdd.vis hne)).2 h.top
  · intro ts2 hts2 hp2 hpr
    have hg2 : ∀ c ∈ ts2, GoodComp c := fun c hc => hp2.good c (by simp [hc])
    by_cases heq : ts2 = ts
    · subst heq; exact hnew
    · rw [hfr _ (opPath_swap hdd hp2).vis (ne_of_ts hdd.good hg2 hgt heq)]
      rcases (hproc _).1 hpr with hpr | hpr
      · exact h.done ts2 hts2 hp2 hpr
      · exact absurd hpr (ne_of_ts hss.good hg2 hgt heq)
  · intro ts2 hts2 hp2 hnp
    have hg2 : ∀ c ∈ ts2, GoodComp c := fun c hc => hp2.good c (by simp [hc])
    have heq : ts2 ≠ ts := fun h0 => hnp ((hproc _).2 (Or.inr (by rw [h0])))
    exact (none_of_vcore (hfr _ hp2.vis (ne_of_ts hdd.good hg2 hgt heq))).2
      (h.notyet ts2 hts2 hp2 (fun h0 => hnp ((hproc _).2 (Or.inl h0))))
  · intro q hq hns
    have hne : q ≠ renderC (dd ++ ts) := fun h0 => hns ⟨ts, opPath_swap hdd hpt, h0⟩
    exact (hfr q hq hne).trans (h.frame q hq hns)

/-- at and below the source the current view is the original one -/
theorem src_same_within {all0 cur : List FMap} {ss dd : List Str} (hss : OpPath ss)
    (hdisj : ∀ q, InSub ss q → ¬ InSub dd q) {proc : Str → Prop}
    (h : DInvV all0 ss dd (oview cur) proc) {k : Str} (hb : within (renderC ss) k = true) :
    (ovisView cur k).map vcore = (ovisView all0 k).map vcore :=
  ovisView_map_congr fun hv =>
    h.frame k (vis_of_ovis hv) (hdisj k ((inSub_iff hss k).2 ⟨hv, hb⟩))

/-- the tree and the enumeration `D` have the same members below the source -/
theorem filter_length_desc {m : FMap} (hnk : FMap.NodupKeys m) {v : Str → Option Entry} {S : Str}
    {D : List Str} (hD : DescList v S D)
    (hpres : ∀ k, below S k = true → ((∃ e, m.find? k = some e) ↔ k ∈ D)) (q : Str → Bool)
    (hq : ∀ k, q k = true → below S k = true) :
    (m.keys.filter q).length = (D.filter q).length := by
  refine ((List.perm_ext_iff_of_nodup (hnk.sublist List.filter_sublist)
    (hD.1.sublist List.filter_sublist)).2 fun k => ?_).length_eq
  rw [List.mem_filter, List.mem_filter, FMap.mem_keys_iff]
  exact ⟨fun ⟨a, b⟩ => ⟨(hpres k (hq k b)).1 a, b⟩, fun ⟨a, b⟩ => ⟨(hpres k (hq k b)).2 a, b⟩⟩

/-- the iterator state is good for the ORIGINAL view and lies below the source -/
structure GoodV (all0 : List FMap) (R : Str) (inner todo : List Str) : Prop where
  innerKeys : ∀ x ∈ inner, ovisView all0 x ≠ none
  todoDirs : ∀ d ∈ todo, ∃ e, ovisView all0 d = some e ∧ e.ftype = .dir
  apart : (inner ++ todo).Pairwise Apart
  locI : ∀ x ∈ inner, below R x = true
  locT : ∀ d ∈ todo, below R d = true

section round
variable {u idu : Nat} {is ids : List Nat} {mu0 : FMap} {ms0 : List FMap} {id id' : Nat}
  {ss dd : List Str} (hss : OpPath ss) (hdd : OpPath dd)
  (hdisj : ∀ q, InSub ss q → ¬ InSub dd q)
include hss hdd hdisj

local notation "ofs" => Overlay.fs (layersN (u :: is) (idu :: ids))

/-- the invariant of the loop: the overlay's state, and its view against the original layers -/
def WithinInv (u idu : Nat) (is ids : List Nat) (mu0 : FMap) (ms0 : List FMap) (ss dd : List Str)
    (w : World) (P : Str → Prop) : Prop :=
  ∃ mu ms, OSt u idu is ids ms w mu ∧ NamesOK (mu :: ms) ∧ LowerSame ms0 ms ∧
    DInvV (mu0 :: ms0) ss dd (oview (mu :: ms)) P

/-- one round: `create_dir` / `copy_file` within the overlay, by the contracts of C09 / C11Overlay -/
theorem within_step {m : FMap} (hwf : WF m)
    (hm : ∀ k, within (renderC ss) k = true →
      (m.find? k).map vcore = (ovisView (mu0 :: ms0) k).map vcore)
    (w : World) (P : Str → Prop) (t' : Str) (e : Entry)
    (hJ : WithinInv u idu is ids mu0 ms0 ss dd w P)
    (hx : m.find? (renderC ss ++ '/' :: t') = some e) (hnP : ¬ P (renderC ss ++ '/' :: t'))
    (hanc : ∀ p, below (renderC ss) p = true → below p (renderC ss ++ '/' :: t') = true →
      (∃ e', m.find? p = some e') → P p) :
    ∃ w', VPath.copyItem e.ftype ((⟨ofs, id, renderC ss⟩ : VPath).withStr (renderC ss ++ '/' :: t'))
        ((⟨ofs, id', renderC dd⟩ : VPath).withStr (renderC dd ++ '/' :: t')) w = (.ok (), w') ∧
      WithinInv u idu is ids mu0 ms0 ss dd w' (fun k => P k ∨ k = renderC ss ++ '/' :: t') := by
  obtain ⟨mu, ms, st, hn, hls, hDI⟩ := hJ
  have hxw : within (renderC ss) (renderC ss ++ '/' :: t') = true := within_of_below (below_child _ _)
  -- the key in the original view, and in the current one
  obtain ⟨e0, he0, hv0⟩ := vcore_some (hm _ hxw).symm hx
  obtain ⟨ts, hts, hpt, hr, hxe⟩ := below_src hss he0
  have hsx : renderC ss ++ '/' :: t' = renderC (ss ++ ts) := by rw [renderC_append, hr]
  have hdx : renderC dd ++ '/' :: t' = renderC (dd ++ ts) := by rw [renderC_append, hr]
  rw [hsx] at hx hnP hanc hxw ⊢
  rw [hdx]
  obtain ⟨e1, he1, hcur⟩ := vcore_some (src_same_within hss hdisj hDI hxw)
    (ovisView_of_vis (Or.inr ⟨_, hpt, rfl⟩) ▸ hxe)
  rw [ovisView_of_vis (Or.inr ⟨_, hpt, rfl⟩)] at he1
  have hft : e1.ftype = e.ftype := (ftype_of_vcore hcur).trans (ftype_of_vcore hv0)
  obtain ⟨ts', n, rfl⟩ := snoc_of_ne hts
  have hpdq : OpPath (dd ++ (ts' ++ [n])) := opPath_swap hdd hpt
  have hpd : OpPath ((dd ++ ts') ++ [n]) := by rw [List.append_assoc]; exact hpdq
  -- the parent of the destination item is a directory of the view
  have hparD : VIsDir (oview (mu :: ms)) (renderC (dd ++ ts')) :=
    dst_parent_dir hwf hm hpt hx hanc hDI.top hDI.done
  have habs : oview (mu :: ms) (renderC (dd ++ (ts' ++ [n]))) = none := hDI.notyet _ hts hpdq hnP
  cases hfte : e.ftype with
  | dir =>
    obtain ⟨r, mu1, hcd, hown1, inv1, hc⟩ :=
      vpath_overlay_createDir_contractN st.own st.inv st.vwf hpd id'
    have hop : OpOK (.createDir (renderC ((dd ++ ts') ++ [n]))) := ⟨dd ++ ts', n, hpd, rfl⟩
    obtain ⟨rfl, ⟨hdir1, _⟩, hframe1⟩ := hc.of_pre
      ⟨by rw [hpd.parent]; exact hparD, by rw [List.append_assoc]; exact habs⟩
    rw [List.append_assoc] at hcd hdir1 hframe1
    refine ⟨_, hcd, mu1, ms, ⟨hown1, inv1, viewWF_of_contract st.vwf hop hc⟩,
      namesOK_step hn hop hc, hls,
      hDI.step hss hdd hts hpt (fun _ => Iff.rfl) ?_ hframe1⟩
    obtain ⟨ed, hed, hdd1⟩ := hdir1
    rw [hed, hxe]
    simp only [Option.map_some, Option.some.injEq]
    rw [vcore_dir hdd1, vcore_dir ((ftype_of_vcore hv0) ▸ hfte)]
  | file =>
    obtain ⟨w2, mu1, ms1, hcopy, hown1, hl1, inv1, hv1, hn1, hdst1, _, hframe1⟩ :=
      overlay_copyFile_exact st.own st.inv st.vwf id id' hpt hpd
        ⟨e1, he1, hft.trans hfte, rfl⟩ hparD (by rw [List.append_assoc]; exact habs)
    rw [List.append_assoc] at hcopy hdst1 hframe1
    refine ⟨w2, hcopy, mu1, ms1, ⟨hown1, inv1, hv1⟩, hn1 hn, hls.trans hl1,
      hDI.step hss hdd hts hpt (fun _ => Iff.rfl) ?_ hframe1⟩
    obtain ⟨ef, hef, hff, hcf⟩ := hdst1
    rw [hef, hxe]
    simp only [Option.map_some, Option.some.injEq]
    rw [← hcur, vcore_file hff, vcore_file (hft.trans hfte), hcf]

theorem within_setting {m : FMap} (hwf : WF m) (hnk : FMap.NodupKeys m)
    (hm : ∀ k, within (renderC ss) k = true →
      (m.find? k).map vcore = (ovisView (mu0 :: ms0) k).map vcore) :
    CopyLoop.Setting ⟨ofs, id, renderC ss⟩ ⟨ofs, id', renderC dd⟩ m
      (fun k => within (renderC ss) k = true)
      (WithinInv u idu is ids mu0 ms0 ss dd) where
  wf := hwf
  nodup := hnk
  down := WkG.down_within _
  join t' e hx := by
    obtain ⟨e0, he0, _⟩ := vcore_some (hm _ (within_of_below (below_child _ _))).symm hx
    exact join_below_src hss hdd.good he0
  sees w P := fun ⟨mu, ms, st, hn, _, hDI⟩ =>
    overlay_seesOn st hn id _ (WkG.down_within _) fun k hk =>
      ft_of_vcore ((hm k hk).trans (src_same_within hss hdisj hDI hk).symm)
  congr w P P' := fun ⟨mu, ms, st, hn, hls, hD⟩ hp => ⟨mu, ms, st, hn, hls, DInvV.congr_below hD hp⟩
  step := within_step hss hdd hdisj hwf hm

omit hdd in
/-- the tree of the loop: a well-formed map of the view at hand (`WkG.exists_map`); at and below the
source it shows what the original layers show, and strictly below it its keys are the members of
the enumeration `D` -/
theorem within_tree {w : World} {mu : FMap} {ms : List FMap} (st : OSt u idu is ids ms w mu)
    (hn : NamesOK (mu :: ms)) {P : Str → Prop} (hDI : DInvV (mu0 :: ms0) ss dd (oview (mu :: ms)) P)
    {D : List Str} (hD : DescList (ovisView (mu0 :: ms0)) (renderC ss) D) :
    ∃ m : FMap, WF m ∧ FMap.NodupKeys m ∧
      (∀ k, within (renderC ss) k = true →
        (m.find? k).map vcore = (ovisView (mu0 :: ms0) k).map vcore) ∧
      ∀ k, below (renderC ss) k = true → ((∃ e, m.find? k = some e) ↔ k ∈ D) := by
  have tv0 := overlay_treeView st.own st.inv st.vwf hn
  obtain ⟨m, hm0, hwf, hnk⟩ := WkG.exists_map tv0.finite tv0.root tv0.parent
  have hm : ∀ k, within (renderC ss) k = true →
      (m.find? k).map vcore = (ovisView (mu0 :: ms0) k).map vcore :=
    fun k hk => by rw [← hm0]; exact src_same_within hss hdisj hDI hk
  refine ⟨m, hwf, hnk, hm, fun k hb => ?_⟩
  rw [hD.2 k, ← ne_none_iff]
  have hk := not_congr (none_of_vcore (hm k (within_of_below hb)))
  exact ⟨fun h => ⟨hk.1 h, hb⟩, fun h => hk.2 h.1⟩

end round

section loop
variable {u idu : Nat} {is ids : List Nat} {mu0 : FMap} {ms0 : List FMap} {id id' : Nat}
  {ss dd : List Str} (hss : OpPath ss) (hdd : OpPath dd)
  (hdisj : ∀ q, InSub ss q → ¬ InSub dd q)
  {D : List Str} (hD : DescList (ovisView (mu0 :: ms0)) (renderC ss) D)
include hss hdd hdisj hD

local notation "ofs" => Overlay.fs (layersN (u :: is) (idu :: ids))

theorem copyItems_within :
    ∀ (fuel : Nat) (inner todo : List Str) (count : Nat) (w : World) (mu : FMap) (ms : List FMap),
      OSt u idu is ids ms w mu → NamesOK (mu :: ms) → LowerSame ms0 ms →
      GoodV (mu0 :: ms0) (renderC ss) inner todo →
      DInvV (mu0 :: ms0) ss dd (oview (mu :: ms))
        (fun k => k ∈ D ∧ pending inner todo k = false) →
      (D.filter (pending inner todo)).length < fuel →
      ∃ w' mu' ms', VPath.copyItems fuel ⟨ofs, id, renderC ss⟩ ⟨ofs, id', renderC dd⟩
          (WkG.st ⟨ofs, id, renderC ss⟩ inner todo) count w
          = (.ok (count + (D.filter (pending inner todo)).length), w') ∧
        OSt u idu is ids ms' w' mu' ∧ NamesOK (mu' :: ms') ∧ LowerSame ms0 ms' ∧
        DInvV (mu0 :: ms0) ss dd (oview (mu' :: ms')) (fun k => k ∈ D) := by
  intro fuel inner todo count w mu ms st hn hls hgv hDI hf
  -- the tree of the loop: the view at entry
  obtain ⟨m, hwf, hnk, hm, hpres⟩ := within_tree hss hdisj st hn hDI hD
  have hg : Good m inner todo := by
    refine ⟨fun x hx => ?_, fun d hd => ?_, hgv.apart⟩
    · exact (ne_none_iff _).1
        ((not_congr (none_of_vcore (hm x (within_of_below (hgv.locI x hx))))).2 (hgv.innerKeys x hx))
    · obtain ⟨e0, he0, hdir0⟩ := hgv.todoDirs d hd
      obtain ⟨e', he', hv'⟩ := vcore_some (hm d (within_of_below (hgv.locT d hd))) he0
      exact ⟨e', he', by rw [ftype_of_vcore hv']; exact hdir0⟩
  have hloc : ∀ k, pending inner todo k = true → below (renderC ss) k = true :=
    fun k hk => pending_below hgv.locI hgv.locT hk
  have hlen := filter_length_desc hnk hD hpres (pending inner todo) hloc
  obtain ⟨w', hrun, mu', ms', st', hn', hls', hD'⟩ :=
    CopyLoop.copyItems_run (within_setting (id := id) (id' := id') hss hdd hdisj hwf hnk hm) fuel inner todo
      count w hg
      ⟨fun x hx => within_of_below (hgv.locI x hx), fun d hd => within_of_below (hgv.locT d hd)⟩
      (fun k _ hp => hloc k hp)
      ⟨mu, ms, st, hn, hls, DInvV.congr_below hDI fun k hb => by rw [hpres k hb]⟩
      (by rw [hlen]; exact hf)
  rw [hlen] at hrun
  exact ⟨w', mu', ms', hrun, st', hn', hls', DInvV.congr_below hD' fun k hb => (hpres k hb).symm⟩

end loop

theorem DInvV.result {all0 : List FMap} {ss dd : List Str} {v : View} {D : List Str}
    (h : DInvV all0 ss dd v (fun k => k ∈ D)) (hss : OpPath ss)
    (hD : DescList (ovisView all0) (renderC ss) D) :
    ∀ ts, ts ≠ [] → OpPath (dd ++ ts) →
      (v (renderC (dd ++ ts))).map vcore = (ovisView all0 (renderC (ss ++ ts))).map vcore := by
  intro ts hts hpd
  have hgt : ∀ c ∈ ts, GoodComp c := fun c hc => hpd.good c (by simp [hc])
  cases hq : ovisView all0 (renderC (ss ++ ts)) with
  | none =>
    rw [h.notyet ts hts hpd (fun hk => ((hD.2 _).1 hk).1 hq)]
  | some e2 =>
    obtain ⟨hp, he2⟩ := opPath_of_shown hss.good hts hgt hq
    have := h.done ts hts hp ((hD.2 _).2 ⟨by rw [hq]; simp, below_of_ne ss hts⟩)
    rw [he2] at this
    exact this

section main
variable {w : World} {u idu : Nat} {mu : FMap} {is ids : List Nat} {ms : List FMap}
  (h : OWN w (u :: is) (idu :: ids) (mu :: ms)) (inv : OInv mu ms)
  (hv : ViewWF (oview (mu :: ms))) (hn : NamesOK (mu :: ms))
include h inv hv hn

omit h inv hn in
theorem sub_disjoint {ss dd : List Str} {n0 : Str} (hss : OpPath ss) (hd : OpPath (dd ++ [n0]))
    (hsrc : VIsDir (oview (mu :: ms)) (renderC ss))
    (habs : VAbsent (oview (mu :: ms)) (renderC (dd ++ [n0])))
    (hnin : ¬ InSub ss (renderC (dd ++ [n0]))) :
    ∀ q, InSub ss q → ¬ InSub (dd ++ [n0]) q := by
  rintro q ⟨a, hpa, hqa⟩ ⟨b, hpb, hqb⟩
  rw [hqa] at hqb
  have heq := C06.renderC_injective _ _ (good_noSlash hpa.good) (good_noSlash hpb.good) hqb
  rcases List.append_eq_append_iff.1 heq with ⟨a', h1, _⟩ | ⟨c', h1, _⟩
  · exact hnin ⟨a', by rw [← h1]; exact hd, by rw [h1]⟩
  · by_cases hc' : c' = []
    · subst hc'
      rw [List.append_nil] at h1
      rw [h1] at hsrc
      exact not_absent_of_dir hsrc habs
    · have hp : OpPath ((dd ++ [n0]) ++ c') := by rw [← h1]; exact hss
      have hpres : oview (mu :: ms) (renderC ((dd ++ [n0]) ++ c')) ≠ none := by
        rw [← h1]; exact not_absent_of_dir hsrc
      exact not_absent_of_dir (present_below_dir hv (by simp) c' hc' hp hpres) habs

/-- the copy phase of `copy_dir` and `move_dir`: the probe of the destination, and the body
(`create_dir`, `walk_dir`, the loop) with the state it leads to -/
theorem copyBody_within (id id' : Nat) {ss dd : List Str} {n0 : Str} (hss : OpPath ss)
    (hd : OpPath (dd ++ [n0])) (hsrc : VIsDir (oview (mu :: ms)) (renderC ss))
    (hpar : VIsDir (oview (mu :: ms)) (renderC dd))
    (habs : VAbsent (oview (mu :: ms)) (renderC (dd ++ [n0])))
    (hnin : ¬ InSub ss (renderC (dd ++ [n0])))
    {D : List Str} (hD : DescList (ovisView (mu :: ms)) (renderC ss) D) {fuel : Nat}
    (hfuel : D.length < fuel) :
    ∃ w' mu' ms',
      VPath.exists_ ⟨Overlay.fs (layersN (u :: is) (idu :: ids)), id', renderC (dd ++ [n0])⟩ w
        = (.ok false, w) ∧
      VPath.copyDirBody fuel ⟨Overlay.fs (layersN (u :: is) (idu :: ids)), id, renderC ss⟩
        ⟨Overlay.fs (layersN (u :: is) (idu :: ids)), id', renderC (dd ++ [n0])⟩ w
        = (.ok D.length, w') ∧
      OSt u idu is ids ms' w' mu' ∧ NamesOK (mu' :: ms') ∧ LowerSame ms ms' ∧
      DInvV (mu :: ms) ss (dd ++ [n0]) (oview (mu' :: ms')) (fun k => k ∈ D) := by
  have st : OSt u idu is ids ms w mu := ⟨h, inv, hv⟩
  have hdisj := sub_disjoint hv hss hd hsrc habs hnin
  have hex := o_exists st id' hd
  rw [show oview (mu :: ms) (renderC (dd ++ [n0])) = none from habs] at hex
  simp only [Option.isSome_none] at hex
  obtain ⟨r, mu1, hcd, hown1, inv1, hc⟩ := vpath_overlay_createDir_contractN h inv hv hd id'
  have hop : OpOK (.createDir (renderC (dd ++ [n0]))) := ⟨dd, n0, hd, rfl⟩
  obtain ⟨rfl, ⟨hdir1, _⟩, hframe1⟩ := hc.of_pre ⟨by rw [hd.parent]; exact hpar, habs⟩
  have hframe1' : VFrame (oview (mu :: ms)) (oview (mu1 :: ms)) (renderC (dd ++ [n0])) := hframe1
  have hv1 := viewWF_of_contract hv hop hc
  have hn1 : NamesOK (mu1 :: ms) := namesOK_step hn hop hc
  -- after `create_dir`: the destination directory, nothing copied
  have hD1 : DInvV (mu :: ms) ss (dd ++ [n0]) (oview (mu1 :: ms)) (fun _ => False) := by
    refine ⟨hdir1, fun _ _ _ hf => hf.elim, fun ts hts hp _ => ?_,
      fun q hq hns => hframe1' q hq (fun h0 => hns (h0 ▸ InSub.self hd))⟩
    have hne := ne_of_ts (ts1 := ts) (ts2 := []) hd.good
      (fun c hc => hp.good c (by simp [hc])) (by intro c hc; cases hc) hts
    rw [List.append_nil] at hne
    apply (none_of_vcore (hframe1' _ hp.vis hne)).2
    cases hq : oview (mu :: ms) (renderC (dd ++ [n0] ++ ts)) with
    | none => rfl
    | some e0 =>
      exact absurd habs (not_absent_of_dir
        (present_below_dir hv (by simp) ts hts hp (by rw [hq]; simp)))
  -- the tree of the loop: the view after `create_dir`
  obtain ⟨m, hwf, hnk, hm, hpres⟩ := within_tree hss hdisj ⟨hown1, inv1, hv1⟩ hn1 hD1 hD
  obtain ⟨e, hse⟩ := (ne_none_iff _).1 ((not_congr (none_of_vcore (hm _ (within_self _)))).2 (by
    rw [ovisView_of_vis (Or.inr ⟨ss, hss, rfl⟩)]; exact not_absent_of_dir hsrc))
  have hsd : e.ftype = .dir := by
    obtain ⟨e0, he0, hd0⟩ := hsrc
    have := hm _ (within_self (renderC ss))
    rw [hse, ovisView_of_vis (Or.inr ⟨ss, hss, rfl⟩), he0] at this
    rw [ftype_of_vcore (by simpa using this)]; exact hd0
  have hlen : (m.keys.filter (below (renderC ss))).length = D.length := by
    rw [filter_length_desc hnk hD hpres (below (renderC ss)) fun _ hk => hk,
      List.filter_eq_self.2 fun k hk => ((hD.2 k).1 hk).2]
  obtain ⟨w', hrun, mu', ms', st', hn', hls', hD'⟩ :=
    CopyLoop.copyDirBody_run (within_setting (id := id) (id' := id') hss hd hdisj hwf hnk hm) hcd hse
      hsd (within_self _) ⟨mu1, ms, ⟨hown1, inv1, hv1⟩, hn1, LowerSame.refl ms, hD1⟩
      (by rw [hlen]; exact hfuel)
  rw [hlen] at hrun
  exact ⟨w', mu', ms', hex, hrun, st', hn', hls',
    DInvV.congr_below hD' fun k hb => (hpres k hb).symm⟩

/-- **copy_dir of a tree of ANY depth WITHIN one overlay** (the statement
`copyDir_within_overlay_exact_stmt` above) -/
theorem copyDir_within_overlay_exact (id id' : Nat) {ss dd : List Str} {n0 : Str} (hss : OpPath ss)
    (hd : OpPath (dd ++ [n0])) (hsrc : VIsDir (oview (mu :: ms)) (renderC ss))
    (hpar : VIsDir (oview (mu :: ms)) (renderC dd))
    (habs : VAbsent (oview (mu :: ms)) (renderC (dd ++ [n0])))
    (hnin : ¬ InSub ss (renderC (dd ++ [n0])))
    {D : List Str} (hD : DescList (ovisView (mu :: ms)) (renderC ss) D) {fuel : Nat}
    (hfuel : D.length < fuel) :
    ∃ w' mu' ms',
      VPath.copyDir fuel ⟨Overlay.fs (layersN (u :: is) (idu :: ids)), id, renderC ss⟩
        ⟨Overlay.fs (layersN (u :: is) (idu :: ids)), id', renderC (dd ++ [n0])⟩ w
        = (.ok D.length, w') ∧
      OSt u idu is ids ms' w' mu' ∧ LowerSame ms ms' ∧ NamesOK (mu' :: ms') ∧
      VIsDir (oview (mu' :: ms')) (renderC (dd ++ [n0])) ∧
      (∀ ts, ts ≠ [] → OpPath (dd ++ [n0] ++ ts) →
        (oview (mu' :: ms') (renderC (dd ++ [n0] ++ ts))).map vcore
          = (ovisView (mu :: ms) (renderC (ss ++ ts))).map vcore) ∧
      (∀ q, Vis q → ¬ InSub (dd ++ [n0]) q →
        (oview (mu' :: ms') q).map vcore = (oview (mu :: ms) q).map vcore) := by
  obtain ⟨w', mu', ms', hex, hrun, st', hn', hls', hD'⟩ :=
    copyBody_within h inv hv hn id id' hss hd hsrc hpar habs hnin hD hfuel
  exact ⟨w', mu', ms', VPath.copyDir_of_body hex hrun, st', hls', hn', hD'.top, hD'.result hss hD,
    hD'.frame⟩

/-- **move_dir of a tree of ANY depth WITHIN one overlay** (the statement
`moveDir_within_overlay_exact_stmt`): the copy phase, then `remove_dir_all` of the source with
the same fuel (depth bound `FuelOK`) -/
theorem moveDir_within_overlay_exact (id id' : Nat) {ss dd : List Str} {n0 : Str} (hss : OpPath ss)
    (hd : OpPath (dd ++ [n0])) (hsrc : VIsDir (oview (mu :: ms)) (renderC ss))
    (hpar : VIsDir (oview (mu :: ms)) (renderC dd))
    (habs : VAbsent (oview (mu :: ms)) (renderC (dd ++ [n0])))
    (hnin : ¬ InSub ss (renderC (dd ++ [n0])))
    {D : List Str} (hD : DescList (ovisView (mu :: ms)) (renderC ss) D) {fuel : Nat}
    (hfuel : D.length < fuel) (hdepth : FuelOK (oview (mu :: ms)) ss fuel) :
    ∃ w' mu' ms',
      VPath.moveDir fuel ⟨Overlay.fs (layersN (u :: is) (idu :: ids)), id, renderC ss⟩
        ⟨Overlay.fs (layersN (u :: is) (idu :: ids)), id', renderC (dd ++ [n0])⟩ w
        = (.ok (), w') ∧
      OSt u idu is ids ms' w' mu' ∧ LowerSame ms ms' ∧ NamesOK (mu' :: ms') ∧
      VIsDir (oview (mu' :: ms')) (renderC (dd ++ [n0])) ∧
      (∀ ts, ts ≠ [] → OpPath (dd ++ [n0] ++ ts) →
        (oview (mu' :: ms') (renderC (dd ++ [n0] ++ ts))).map vcore
          = (ovisView (mu :: ms) (renderC (ss ++ ts))).map vcore) ∧
      (∀ q, InSub ss q → oview (mu' :: ms') q = none) ∧
      (∀ q, Vis q → ¬ InSub (dd ++ [n0]) q → ¬ InSub ss q →
        (oview (mu' :: ms') q).map vcore = (oview (mu :: ms) q).map vcore) := by
  have hdisj := sub_disjoint hv hss hd hsrc habs hnin
  obtain ⟨w2, mu2, ms2, hex, hrun, st2, hn2, hls2, hD2⟩ :=
    copyBody_within h inv hv hn id id' hss hd hsrc hpar habs hnin hD hfuel
  have hsrc2 : VIsDir (oview (mu2 :: ms2)) (renderC ss) :=
    (isDir_of_vcore (hD2.frame _ hss.vis (hdisj _ (InSub.self hss)))).2 hsrc
  have hdepth2 : FuelOK (oview (mu2 :: ms2)) ss fuel := by
    intro ts hp hpres
    exact hdepth ts hp (fun h0 => hpres
      ((none_of_vcore (hD2.frame _ hp.vis (hdisj _ ⟨ts, hp, rfl⟩))).2 h0))
  obtain ⟨mu3, hrun3, ⟨own3, inv3, vwf3⟩, hn3, hgone3, hframe3⟩ :=
    rda_all (id := id) fuel _ mu2 ss st2 hn2 hss hsrc2 hdepth2
  have hnotsrc : ∀ q, InSub (dd ++ [n0]) q → ¬ InSub ss q := fun q h1 h2 => hdisj q h2 h1
  refine ⟨_, mu3, ms2, ?_, ⟨own3, inv3, vwf3⟩, hls2, hn3, ?_, ?_, hgone3, ?_⟩
  · exact VPath.moveDir_of_body hex (fun _ => (overlay_noFast _ _ _ w).2.2) hrun hrun3
  · exact (isDir_of_vcore (hframe3 _ hd.vis (hnotsrc _ (InSub.self hd)))).2 hD2.top
  · intro ts hts hp
    rw [hframe3 _ hp.vis (hnotsrc _ ⟨ts, hp, rfl⟩)]
    exact hD2.result hss hD ts hts hp
  · intro q hq h1 h2
    exact (hframe3 q hq h2).trans (hD2.frame q hq h1)

end main

theorem copyDir_within_overlay_exact_holds : copyDir_within_overlay_exact_stmt := by
  intro w u idu mu is ids ms h inv hv hn id id' ss dd n0 hss hd hsrc hpar habs hnin D hD fuel hfuel
  exact copyDir_within_overlay_exact h inv hv hn id id' hss hd hsrc hpar habs hnin hD hfuel

theorem moveDir_within_overlay_exact_holds : moveDir_within_overlay_exact_stmt := by
  intro w u idu mu is ids ms h inv hv hn id id' ss dd n0 hss hd hsrc hpar habs hnin D hD fuel hfuel
    hdepth
  exact moveDir_within_overlay_exact h inv hv hn id id' hss hd hsrc hpar habs hnin hD hfuel hdepth

end Vfs.C11

section audit
open Vfs.C11
#print axioms copyItems_within
#print axioms copyDir_within_overlay_exact
#print axioms moveDir_within_overlay_exact
#print axioms copyDir_within_overlay_exact_holds
#print axioms moveDir_within_overlay_exact_holds
end audit
