/-
  C01 — Every backend implements one abstract file tree (operation contracts).

  The reference contract (DESIGN.md Appendix A) is stated here as theorems about the physical
  model `Phys.p*`, which stands for the specification: each primitive succeeds EXACTLY when the tree
  meets its documented precondition, a successful call changes exactly the entry it names, a
  failed call changes nothing, a target missing from an existing directory is reported as
  not-found and create_dir on an occupied path reports the occupant. `mem_*` state the same of
  the in-memory backend (`Mem.p*`, proved to be what the generic VfsPath code computes over the
  memory leaf: Proofs/MemRun.lean), read off its tables. Adapters: C07 proves that an altroot
  method IS the operation on P ++ q of the underlying filesystem, so the contract re-rooted at
  P carries over; the overlay relative to the union is C09. Every configuration is compared
  with the reference tree on every step by the tree stream.
-/
import VfsModel.Props.C02
namespace Vfs.C01
open Vfs.C02

def IsDir (m : FMap) (p : Str) : Prop := ∃ e, m.find? p = some e ∧ e.ftype = .dir
def IsFile (m : FMap) (p : Str) : Prop := ∃ e, m.find? p = some e ∧ e.ftype = .file
def Absent (m : FMap) (p : Str) : Prop := m.find? p = none
def NoChildren (m : FMap) (p : Str) : Prop := ∀ k e, m.find? k = some e → '/' ∈ k → parentInternal k ≠ p
def Frame (m m' : FMap) (p : Str) : Prop := ∀ k, k ≠ p → m'.find? k = m.find? k

/-- `ErrKind.cls` identifies `io` and `other`: both are "other failure" -/
def errClass {α} (r : Res α) : Option ErrClass := r.kind?.map ErrKind.cls

theorem not_isDir_of_isFile {m : FMap} {p : Str} (h : IsFile m p) : ¬ IsDir m p := by
  rintro ⟨e', h1', h2'⟩
  obtain ⟨e, h1, h2⟩ := h
  rw [h1] at h1'; injection h1' with h1'; subst h1'; rw [h2] at h2'; cases h2'

theorem not_isFile_of_absent {m : FMap} {p : Str} (h : Absent m p) : ¬ IsFile m p := by
  rintro ⟨e, h1, _⟩; rw [Absent] at h; rw [h] at h1; cases h1

theorem not_isDir_of_absent {m : FMap} {p : Str} (h : Absent m p) : ¬ IsDir m p := by
  rintro ⟨e, h1, _⟩; rw [Absent] at h; rw [h] at h1; cases h1

theorem present_cases (m : FMap) (p : Str) : Absent m p ∨ IsFile m p ∨ IsDir m p := by
  unfold Absent IsFile IsDir
  cases h : m.find? p with
  | none => exact Or.inl rfl
  | some e =>
    cases ht : e.ftype
    · exact Or.inr (Or.inl ⟨e, rfl, ht⟩)
    · exact Or.inr (Or.inr ⟨e, rfl, ht⟩)

/-! ### the contracts, read off the tables

Both leaves are in normal form (Proofs/LeafSpec.lean, Proofs/PhysPath.lean): the outcome and the
write are a table entry, the new map is the write applied to the slot `p`. A contract is then a
statement about a table entry in each case of what is read. -/

theorem par_iff_isDir {m : FMap} {p : Str} (hs : '/' ∈ p) :
    Mem.par m p = true ↔ IsDir m (parentInternal p) := by
  rw [Mem.par_iff]; exact ⟨fun h => h.2, fun h => ⟨hs, h⟩⟩

theorem absent_app {m : FMap} {p : Str} {wr : Write} :
    Absent (wr.app m p) p ↔ wr.slot (m.find? p) = none := by
  rw [Absent, Write.find?_app_self]

theorem isDir_app {m : FMap} {p : Str} {wr : Write} :
    IsDir (wr.app m p) p ↔ ∃ e, wr.slot (m.find? p) = some e ∧ e.ftype = .dir := by
  rw [IsDir, Write.find?_app_self]

/-- for `simp`: the frame clause of a contract holds of every write to the slot
(`Write.find?_app_ne`), so it rewrites to `True` -/
theorem frame_app_true (m : FMap) (p : Str) (wr : Write) :
    (∀ k, k ≠ p → (wr.app m p).find? k = m.find? k) ↔ True :=
  iff_true_intro fun _ hk => Write.find?_app_ne m wr hk

theorem frame_app (m : FMap) (p : Str) (wr : Write) : Frame m (wr.app m p) p :=
  fun _ hk => Write.find?_app_ne m wr hk

theorem phys_parentOk {m : FMap} (hm : WF m) (p : Str) :
    Phys.parentOk m p = true ↔ IsDir m (parentInternal p) := by
  rw [parentOk_agree hm (CoreEq.refl m) p, Mem.parentOk_iff, IsDir]

section spec
variable {m : FMap} (hm : WF m) (p : Str) (hp : Abs p)
include hm hp

set_option linter.unusedSectionVars false in
/-- create_dir succeeds exactly when the parent is an existing directory and the target is
absent; then exactly `p` becomes a directory -/
theorem createDir_contract :
    ((Phys.pCreateDir m p).1.isOk = true ↔ IsDir m (parentInternal p) ∧ Absent m p) ∧
    ((Phys.pCreateDir m p).1.isOk = true →
        IsDir (Phys.pCreateDir m p).2 p ∧ ∀ k, k ≠ p → (Phys.pCreateDir m p).2.find? k = m.find? k) ∧
    ((Phys.pCreateDir m p).1.isOk = false → (Phys.pCreateDir m p).2 = m) ∧
    (IsDir m (parentInternal p) → IsFile m p → (Phys.pCreateDir m p).1.kind? = some .fileExists) ∧
    (IsDir m (parentInternal p) → IsDir m p → (Phys.pCreateDir m p).1.kind? = some .dirExists) := by
  rw [Phys.pCreateDir, Phys.createDir_eq]
  by_cases hpar : IsDir m (parentInternal p)
  · simp only [(phys_parentOk hm p).2 hpar, if_true, onSlot, isDir_app, frame_app_true, and_true, hpar]
    rcases hm.lookup_view p with hl | ⟨_, hnp, _⟩
    · rw [hl]
      rcases hf : m.find? p with _ | ⟨⟨_ | _, c, cr, mo, ac⟩⟩ <;>
        simp [hf, IsFile, IsDir, Absent, Phys.createDirS, fail, Res.isOk, Res.withPath, Res.kind?,
          Write.slot, Write.app, dirEntryNow]
    · exact absurd hpar hnp
  · have : Phys.parentOk m p = false := Bool.eq_false_iff.2 fun h => hpar ((phys_parentOk hm p).1 h)
    simp [this, hpar, Res.isOk]

set_option linter.unusedSectionVars false in
/-- remove_file succeeds exactly on a file; then exactly `p` disappears -/
theorem removeFile_contract :
    ((Phys.pRemoveFile m p).1.isOk = true ↔ IsFile m p) ∧
    ((Phys.pRemoveFile m p).1.isOk = true →
        Absent (Phys.pRemoveFile m p).2 p ∧ ∀ k, k ≠ p → (Phys.pRemoveFile m p).2.find? k = m.find? k) ∧
    ((Phys.pRemoveFile m p).1.isOk = false → (Phys.pRemoveFile m p).2 = m) ∧
    (IsDir m (parentInternal p) → Absent m p → (Phys.pRemoveFile m p).1.kind? = some .fileNotFound) := by
  rw [Phys.pRemoveFile, Phys.removeFile_eq]
  simp only [onSlot, absent_app, frame_app_true, and_true, Res.isOk_withPath]
  rcases hm.lookup_view p with hl | ⟨hf, hnp, k, hl, _⟩
  · rw [hl]
    rcases hf : m.find? p with _ | ⟨⟨_ | _, c, cr, mo, ac⟩⟩ <;>
      simp [hf, IsFile, Absent, Phys.removeFileS, fail, Res.isOk, Res.withPath, Res.kind?, Write.slot,
        Write.app]
  · have : ¬ IsDir m (parentInternal p) := hnp
    simp [hl, hf, this, IsFile, Absent, Phys.removeFileS, Res.isOk, Res.withPath, Write.slot, Write.app]

end spec

/-! ### the in-memory primitives

MemoryFS never resolves ancestors: its tables read the entry (and the parent check), so these
statements need no well-formedness; `create_dir` only needs a '/' in the path, which `Abs p`
provides. -/

section memContract
variable (m : FMap) (p : Str)

/-- create_dir on MemoryFS: the contract of `createDir_contract` -/
theorem mem_createDir_contract (hp : Abs p) :
    ((Mem.pCreateDir m p).1.isOk = true ↔ IsDir m (parentInternal p) ∧ Absent m p) ∧
    ((Mem.pCreateDir m p).1.isOk = true →
        IsDir (Mem.pCreateDir m p).2 p ∧ Frame m (Mem.pCreateDir m p).2 p) ∧
    ((Mem.pCreateDir m p).1.isOk = false → (Mem.pCreateDir m p).2 = m) ∧
    (IsDir m (parentInternal p) → IsFile m p → (Mem.pCreateDir m p).1.kind? = some .fileExists) ∧
    (IsDir m (parentInternal p) → IsDir m p → (Mem.pCreateDir m p).1.kind? = some .dirExists) := by
  rw [Mem.pCreateDir_eq, ← par_iff_isDir hp.slash]
  simp only [frame_app, and_true, IsFile, IsDir, Absent, Res.isOk_withPath]
  cases Mem.par m p <;> rcases m.find? p with _ | ⟨⟨_ | _, c, cr, mo, ac⟩⟩ <;>
    simp [Mem.createDirS, fail, Res.isOk, Res.withPath, Res.kind?, Write.app, dirEntryNow]

/-- remove_file on MemoryFS: the contract of `removeFile_contract` -/
theorem mem_removeFile_contract :
    ((Mem.pRemoveFile m p).1.isOk = true ↔ IsFile m p) ∧
    ((Mem.pRemoveFile m p).1.isOk = true →
        Absent (Mem.pRemoveFile m p).2 p ∧ Frame m (Mem.pRemoveFile m p).2 p) ∧
    ((Mem.pRemoveFile m p).1.isOk = false → (Mem.pRemoveFile m p).2 = m) ∧
    (Absent m p → (Mem.pRemoveFile m p).1.kind? = some .fileNotFound) ∧
    (IsDir m p → errClass (Mem.pRemoveFile m p).1 = some .otherFailure) := by
  rw [Mem.pRemoveFile_eq]
  simp only [frame_app, and_true, IsFile, IsDir, Absent, Res.isOk_withPath]
  rcases m.find? p with _ | ⟨⟨_ | _, c, cr, mo, ac⟩⟩ <;>
    simp [Mem.removeFileS, fail, Res.isOk, Res.withPath, Res.kind?, errClass, ErrKind.cls, 
      Write.app]

end memContract

section mem
variable {m : FMap} (hm : WF m) (p : Str) (hp : Abs p)
include hm hp

set_option linter.unusedSectionVars false in
theorem mem_createDir_ok_iff :
    (Mem.pCreateDir m p).1.isOk = true ↔ IsDir m (parentInternal p) ∧ Absent m p :=
  (mem_createDir_contract m p hp).1

set_option linter.unusedSectionVars false in
theorem mem_removeFile_ok_iff : (Mem.pRemoveFile m p).1.isOk = true ↔ IsFile m p :=
  (mem_removeFile_contract m p).1

set_option linter.unusedSectionVars false in
/-- create_dir on an occupied path reports the occupant, on MemoryFS as on the host -/
theorem mem_createDir_occupied (hpar : IsDir m (parentInternal p)) :
    (IsFile m p → (Mem.pCreateDir m p).1.kind? = some .fileExists) ∧
    (IsDir m p → (Mem.pCreateDir m p).1.kind? = some .dirExists) :=
  ⟨(mem_createDir_contract m p hp).2.2.2.1 hpar, (mem_createDir_contract m p hp).2.2.2.2 hpar⟩

set_option linter.unusedSectionVars false in
/-- a failed primitive leaves the in-memory tree unchanged -/
theorem mem_failed_unchanged (op : Mut) (hfail : (stepMem m op).1.isOk = false) :
    (stepMem m op).2 = m := by
  cases op with
  | createDir q =>
    simp only [stepMem, Mem.pCreateDir_eq, Res.isOk_withPath] at hfail ⊢
    rw [Mem.createDirS_atomic _ _ hfail]; rfl
  | write q bs =>
    simp only [stepMem, Mem.pWrite_eq, Res.isOk_withPath] at hfail ⊢
    rw [Mem.writeS_atomic _ _ _ hfail]; rfl
  | append q bs =>
    simp only [stepMem, Mem.pAppend_eq, Res.isOk_withPath] at hfail ⊢
    rw [Mem.appendS_atomic _ _ hfail]; rfl
  | removeFile q =>
    simp only [stepMem, Mem.pRemoveFile_eq, Res.isOk_withPath] at hfail ⊢
    rw [Mem.removeFileS_atomic _ hfail]; rfl
  | removeDir q =>
    simp only [stepMem, Mem.pRemoveDir_eq, Res.isOk_withPath] at hfail ⊢
    rw [Mem.removeDirS_atomic _ _ hfail]; rfl

end mem

example : IsDir Mem.init [] := ⟨_, rfl, rfl⟩
example : (Phys.pCreateDir Phys.init "/a".toList).1.isOk = true := by decide
example : (Phys.pCreateDir Phys.init "/a/b".toList).1.isOk = false := by decide

end Vfs.C01
