/-
  C02 — MemoryFS is a faithful stand-in for PhysicalFS.

  Both backends are modelled on the same state type (a flat map from path strings to
  entries). `Mem.p*` are the path-layer primitives over MemoryFS — PROVED equal to what the
  generic `VfsPath` code computes over the in-memory leaf (Proofs/MemRun.lean). `Phys.p*` are
  the same primitives over PhysicalFS, given the host answers tabulated in Leaf.lean
  (POSIX: ENOENT → not-found, ENOTDIR/EISDIR/ENOTEMPTY → other I/O error, mkdir on an occupied
  path → file-exists / directory-exists).

  `createDir_agree`, `removeFile_agree`, `removeDir_agree`, `write_agree`, `append_agree` (one per
  mutator): for a well-formed in-memory map `a`, a physical map `b` with the same content
  (`CoreEq`: same types and bytes, timestamps aside) and EVERY path string that starts with '/'
  (wrong-type targets, missing parents, paths below files included — no type restriction):
    * the two calls agree on success/failure and neither panics (`SameOutcome`);
    * the resulting maps again have the same content.
  Which failure is reported is compared where the property names a class: `createDir_agree` has
  the further conjunct `SameNamedClass` (whenever the physical `create_dir` reports not-found /
  file-exists / directory-exists, the in-memory one reports the same), and
  `missing_target_notFound` says that `remove_file`, `remove_dir` and `append_file` of a target
  missing from an existing directory report not-found on both backends. For the other failures of
  these mutators the two error kinds are not compared.
  `observers_agree`: existence, type and length, readability and bytes, listability and names.
  `step_agree`: the five mutators as one step function, `SameOutcome`, `CoreEq` and the in-memory
  map well-formed again; `history_agree`: hence for every finite history; `from_empty`: from the
  empty filesystem. (These three carry no clause about the class of a failure.)
-/
import VfsModel.Proofs.PhysPath
namespace Vfs.C02

def SameOutcome (rm rp : Res Unit) : Prop :=
  rm.isOk = rp.isOk ∧ rm ≠ .panic ∧ rp ≠ .panic

/-- the classes the property names: not-found, file-exists, directory-exists -/
def SameNamedClass (rm rp : Res Unit) : Prop :=
  ∀ k, rp.kind? = some k → (k = .fileNotFound ∨ k = .fileExists ∨ k = .dirExists) → rm.kind? = some k

/-- paths the `VfsPath` layer can produce for a non-root target: they start with '/' -/
def Abs (p : Str) : Prop := p.head? = some '/'

theorem Abs.slash {p : Str} (h : Abs p) : '/' ∈ p := List.mem_of_head? h

theorem SameOutcome.ok : SameOutcome (.ok ()) (.ok ()) := ⟨rfl, nofun, nofun⟩

theorem SameOutcome.err (k1 k2 : ErrKind) (p1 p2 : Option Str) :
    SameOutcome (.err k1 p1) (.err k2 p2) := ⟨rfl, nofun, nofun⟩

/-- a write session that starts from an empty file leaves `bs`, on both backends -/
theorem core_write0 (v : Entry) (hv : v.ftype = .file) (hv0 : v.content = []) (bs : Bytes) :
    core ({ fileEntryNow with content := bs } : Entry) = core (Phys.wrote0 v bs) := by
  simp [core, Phys.wrote0_ftype, Phys.wrote0_content hv0, hv, fileEntryNow]

section
variable {a b : FMap} (ha : WF a) (hc : CoreEq a b) (p : Str) (hp : Abs p)
include ha hc hp

theorem createDir_agree :
    SameOutcome (Mem.pCreateDir a p).1 (Phys.pCreateDir b p).1 ∧
    SameNamedClass (Mem.pCreateDir a p).1 (Phys.pCreateDir b p).1 ∧
    CoreEq (Mem.pCreateDir a p).2 (Phys.pCreateDir b p).2 := by
  rw [Mem.pCreateDir_eq, Phys.pCreateDir, Phys.parentOk_eq_par ha hc hp.slash, Phys.createDir_eq]
  cases lookRel ha hc hp.slash with
  | present e e' hf _ hpr hl ht _ =>
    simp only [hf, hpr, hl, Mem.createDirS, Phys.createDirS, if_true, ht, onSlot, Write.app]
    cases e.ftype <;> exact ⟨.err .., fun k hk _ => by simpa [fail, Res.withPath, Res.kind?] using hk, hc⟩
  | absent hf _ hpr hl =>
    simp only [hf, hpr, hl, Mem.createDirS, Phys.createDirS, if_true, onSlot, Write.app]
    exact ⟨.ok, fun k hk => by simp [Res.withPath, Res.kind?] at hk, hc.insert p _ _ rfl⟩
  | blocked k hf _ hpr hl hk =>
    simp only [hf, hpr, Mem.createDirS, Bool.false_eq_true, if_false, Write.app]
    exact ⟨.err .., fun k hk h => by
      simp only [Res.kind?, Option.some.injEq] at hk; subst hk; simp at h, hc⟩

theorem removeFile_agree :
    SameOutcome (Mem.pRemoveFile a p).1 (Phys.pRemoveFile b p).1 ∧
    CoreEq (Mem.pRemoveFile a p).2 (Phys.pRemoveFile b p).2 := by
  rw [Mem.pRemoveFile_eq, Phys.pRemoveFile, Phys.removeFile_eq]
  cases lookRel ha hc hp.slash with
  | present e e' hf _ _ hl ht _ =>
    simp only [hf, hl, Mem.removeFileS, Phys.removeFileS, onSlot, ht]
    cases e.ftype
    · exact ⟨.ok, hc.erase p⟩
    · exact ⟨.err .., hc⟩
  | absent hf _ _ hl => rw [hf, hl]; exact ⟨.err .., hc⟩
  | blocked k hf _ _ hl _ => rw [hf, hl]; exact ⟨.err .., hc⟩

theorem removeDir_agree :
    SameOutcome (Mem.pRemoveDir a p).1 (Phys.pRemoveDir b p).1 ∧
    CoreEq (Mem.pRemoveDir a p).2 (Phys.pRemoveDir b p).2 := by
  rw [Mem.pRemoveDir_eq, Phys.pRemoveDir, Phys.removeDir_eq, hc.kids_eq]
  cases lookRel ha hc hp.slash with
  | present e e' hf _ _ hl ht _ =>
    simp only [hf, hl, Mem.removeDirS, Phys.removeDirS, onSlot, ht]
    split
    · exact ⟨.err .., hc⟩
    · exact ⟨.ok, hc.erase p⟩
  | absent hf _ _ hl => rw [hf, hl]; exact ⟨.err .., hc⟩
  | blocked k hf _ _ hl _ => rw [hf, hl]; exact ⟨.err .., hc⟩

theorem write_agree (bs : Bytes) :
    SameOutcome (Mem.pWrite a p bs).1 (Phys.pWrite b p bs).1 ∧
    CoreEq (Mem.pWrite a p bs).2 (Phys.pWrite b p bs).2 := by
  rw [Mem.pWrite_eq, Phys.pWrite_eq, Phys.parentOk_eq_par ha hc hp.slash]
  cases lookRel ha hc hp.slash with
  | present e e' hf _ hpr hl ht _ =>
    simp only [hf, hpr, hl, Mem.writeS, Mem.createFileS, Phys.writeS, Phys.createFileS, if_true, ht, Write.app]
    cases e.ftype
    · exact ⟨.ok, hc.insert p _ _ (core_write0 _ rfl rfl bs)⟩
    · exact ⟨.err .., hc⟩
  | absent hf _ hpr hl =>
    simp only [hf, hpr, hl, Mem.writeS, Mem.createFileS, Phys.writeS, Phys.createFileS, if_true, Write.app]
    exact ⟨.ok, hc.insert p _ _ (core_write0 _ rfl rfl bs)⟩
  | blocked k hf _ hpr hl hk =>
    simp only [hf, hpr, Mem.writeS, Mem.createFileS, Phys.writeS, Bool.false_eq_true, if_false, Write.app]
    exact ⟨.err .., hc⟩

theorem append_agree (bs : Bytes) :
    SameOutcome (Mem.pAppend a p bs).1 (Phys.pAppend b p bs).1 ∧
    CoreEq (Mem.pAppend a p bs).2 (Phys.pAppend b p bs).2 := by
  rw [Mem.pAppend_eq, Phys.pAppend_eq]
  cases lookRel ha hc hp.slash with
  | present e e' hf hfb _ hl ht hcn =>
    simp only [hf, hl, Mem.appendS, Phys.appendS, ht]
    cases hty : e.ftype
    · simp only [ne_eq, not_true_eq_false, if_false, reduceCtorEq, Mem.publishS, hty, if_true, Write.app]
      exact ⟨.ok, hc.insert p _ _ (by simp [core, hcn])⟩
    · exact ⟨.err .., hc⟩
  | absent hf _ _ hl => rw [hf, hl]; exact ⟨.err .., hc⟩
  | blocked k hf _ _ hl _ => rw [hf, hl]; exact ⟨.err .., hc⟩

/-- an entry missing from an existing directory: both backends report not-found -/
theorem missing_target_notFound (hpar : Mem.parentOk a p = true) (hf : a.find? p = none) :
    (Mem.pRemoveFile a p).1.kind? = some .fileNotFound ∧ (Phys.pRemoveFile b p).1.kind? = some .fileNotFound ∧
    (Mem.pRemoveDir a p).1.kind? = some .fileNotFound ∧ (Phys.pRemoveDir b p).1.kind? = some .fileNotFound ∧
    (Mem.pAppend a p []).1.kind? = some .fileNotFound ∧ (Phys.pAppend b p []).1.kind? = some .fileNotFound := by
  have hpr := Mem.par_of_dir hp.slash (Mem.parentOk_spec a p hpar)
  cases lookRel ha hc hp.slash with
  | present e e' hf' => rw [hf] at hf'; cases hf'
  | absent _ _ _ hl =>
    simp [Mem.pRemoveFile_eq, Mem.pRemoveDir_eq, Mem.pAppend_eq, Phys.pRemoveFile, Phys.pRemoveDir,
      Phys.pAppend_eq, Phys.removeFile, Phys.removeDir, Phys.appendS, Mem.removeFileS, Mem.removeDirS,
      Mem.appendS, hf, hl, fail, Res.withPath, Res.kind?]
  | blocked k _ _ hpr' => rw [hpr] at hpr'; cases hpr'

/-- observers: existence, type and length, readability and bytes, listability and names agree -/
theorem observers_agree :
    a.contains p = Phys.exists_ b p ∧
    (Mem.metadata a p).isOk = (Phys.metadata b p).isOk ∧
    (∀ ma mb, Mem.metadata a p = .ok ma → Phys.metadata b p = .ok mb →
        ma.ftype = mb.ftype ∧ (ma.ftype = .file → ma.len = mb.len)) ∧
    ((Mem.openFile a p).1.isOk = true ↔ ∃ r, Phys.openFile b p = .ok r ∧ r.bad = false) ∧
    (∀ ra m' rb, Mem.openFile a p = (.ok ra, m') → Phys.openFile b p = .ok rb → rb.bad = false →
        ra.content = rb.content) ∧
    (Mem.readDir a p).isOk = (Phys.readDir b p).isOk ∧
    (∀ la lb, Mem.readDir a p = .ok la → Phys.readDir b p = .ok lb → ∀ n, n ∈ la ↔ n ∈ lb) := by
  have names : ∀ n, n ∈ a.keys.filterMap (childName p) ↔ n ∈ Phys.children b p := hc.mem_children p
  rw [Mem.openFile_eq]
  unfold FMap.contains Mem.metadata Mem.readDir Phys.exists_ Phys.metadata Phys.openFile Phys.readDir
  cases lookRel ha hc hp.slash with
  | present e e' hf _ _ hl ht hcn =>
    simp only [hf, hl, Mem.openFileS, onSlot, ht]
    cases hty : e.ftype <;>
      simp [Res.isOk, fail, Entry.meta, ht, hty, hcn, names]
  | absent hf _ _ hl => simp [hf, hl, Mem.openFileS, onSlot, Res.isOk, fail]
  | blocked k hf _ _ hl _ => simp [hf, hl, Mem.openFileS, onSlot, Res.isOk, fail]

end

/-- mutating primitives on absolute paths (the root itself is never a target of a mutator) -/
inductive Mut where
  | createDir (p : Str)
  | write (p : Str) (bs : Bytes)
  | append (p : Str) (bs : Bytes)
  | removeFile (p : Str)
  | removeDir (p : Str)

def Mut.path : Mut → Str
  | .createDir p | .write p _ | .append p _ | .removeFile p | .removeDir p => p

def stepMem (m : FMap) : Mut → Res Unit × FMap
  | .createDir p => Mem.pCreateDir m p
  | .write p bs => Mem.pWrite m p bs
  | .append p bs => Mem.pAppend m p bs
  | .removeFile p => Mem.pRemoveFile m p
  | .removeDir p => Mem.pRemoveDir m p

def stepPhys (m : FMap) : Mut → Res Unit × FMap
  | .createDir p => Phys.pCreateDir m p
  | .write p bs => Phys.pWrite m p bs
  | .append p bs => Phys.pAppend m p bs
  | .removeFile p => Phys.pRemoveFile m p
  | .removeDir p => Phys.pRemoveDir m p

theorem step_agree {a b : FMap} (ha : WF a) (hc : CoreEq a b) (op : Mut) (hp : Abs op.path) :
    SameOutcome (stepMem a op).1 (stepPhys b op).1 ∧ CoreEq (stepMem a op).2 (stepPhys b op).2 ∧
    WF (stepMem a op).2 := by
  have hne : op.path ≠ [] := by intro h; rw [h] at hp; cases hp
  cases op with
  | createDir p => exact ⟨(createDir_agree ha hc p hp).1, (createDir_agree ha hc p hp).2.2, ha.pCreateDir p⟩
  | write p bs => exact ⟨(write_agree ha hc p hp bs).1, (write_agree ha hc p hp bs).2, ha.pWrite p bs⟩
  | append p bs => exact ⟨(append_agree ha hc p hp bs).1, (append_agree ha hc p hp bs).2, ha.pAppend p bs⟩
  | removeFile p => exact ⟨(removeFile_agree ha hc p hp).1, (removeFile_agree ha hc p hp).2, ha.pRemoveFile p⟩
  | removeDir p => exact ⟨(removeDir_agree ha hc p hp).1, (removeDir_agree ha hc p hp).2, ha.pRemoveDir p hne⟩

def runBoth : FMap → FMap → List Mut → List (Res Unit × Res Unit) × FMap × FMap
  | a, b, [] => ([], a, b)
  | a, b, op :: rest =>
    let r := runBoth (stepMem a op).2 (stepPhys b op).2 rest
    (((stepMem a op).1, (stepPhys b op).1) :: r.1, r.2.1, r.2.2)

/-- **for every finite history** of primitive calls on absolute paths — wrong-type calls,
overwrites and re-creations included — started on filesystems with the same content, the two
backends agree on every call's success or failure and on the resulting tree and bytes -/
theorem history_agree (ops : List Mut) (hops : ∀ op ∈ ops, Abs op.path) (a b : FMap)
    (ha : WF a) (hc : CoreEq a b) :
    (∀ r ∈ (runBoth a b ops).1, SameOutcome r.1 r.2) ∧
    CoreEq (runBoth a b ops).2.1 (runBoth a b ops).2.2 ∧ WF (runBoth a b ops).2.1 := by
  induction ops generalizing a b with
  | nil => exact ⟨by simp [runBoth], hc, ha⟩
  | cons op rest ih =>
    obtain ⟨h1, h2, h3⟩ := step_agree ha hc op (hops op (by simp))
    obtain ⟨i1, i2, i3⟩ := ih (fun o ho => hops o (by simp [ho])) _ _ h3 h2
    refine ⟨?_, i2, i3⟩
    intro r hr
    simp only [runBoth, List.mem_cons] at hr
    rcases hr with rfl | hr
    · exact h1
    · exact i1 r hr

theorem from_empty (ops : List Mut) (hops : ∀ op ∈ ops, Abs op.path) :
    (∀ r ∈ (runBoth Mem.init Phys.init ops).1, SameOutcome r.1 r.2) ∧
    CoreEq (runBoth Mem.init Phys.init ops).2.1 (runBoth Mem.init Phys.init ops).2.2 :=
  ⟨(history_agree ops hops _ _ WF.init_mem .init).1, (history_agree ops hops _ _ WF.init_mem .init).2.1⟩

example : (stepMem Mem.init (.createDir "/a".toList)).1 = .ok () := by decide
example : (stepPhys Phys.init (.createDir "/a".toList)).1 = .ok () := by decide
example : Abs "/a".toList := rfl

end Vfs.C02
