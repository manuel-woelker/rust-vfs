/-
  C09 / C10 for overlays whose layers are SUB-DIRECTORY PATHS of memory filesystems
  (`OverlayFS::new(&[root_a.join("up")?, root_b.join("lo")?])` — the way the harness builds
  overlays), by SIMULATION with the overlay over the roots of memory filesystems holding the
  sub-maps, to which the theorems of Props/C09N.lean and Props/C10N.lean apply.

  Setting: `RSub spec w1 w2` (Proofs/SubtreeSim.lean): for every listed leaf `i_k`,
  `spec i_k = .sub P_k`; leaf `i_k` of the left world `w1` holds a memory map `m_k` in which `P_k`
  and all its ancestors are directories; leaf `i_k` of the right world `w2` holds `sub P_k m_k`.
  Layers on the left: `subLayers is ids Ps = [⟨leafFS i_k, id_k, P_k⟩]`; on the right:
  `layersN is ids = [⟨leafFS i_k, id_k, ""⟩]`.

  `overlay_over_subdirs`: the two overlays are `SimFS`-related: every trait method at the same
  canonical path (`create_dir`/`remove_dir`: not "") has the same outcome (value / error kind /
  panic) and related effects; write handles related. `subdir_transfer`: any run equation of a
  method of the right overlay yields the outcome and the (related) final world of the left one;
  `exists_is_viewN_subdir`, `metadata_is_viewN_subdir`, `removeFile_succeedsN_subdir` are obtained
  that way.

  NOT PROVED: error-path labels are not compared (`PTrue`); physical leaves; `create_dir("")`,
  `remove_dir("")` of the overlay root.
-/
import VfsModel.Proofs.OverlayShift
import VfsModel.Props.C07Subtree
import VfsModel.Props.C10N
namespace Vfs.C09
open Vfs Vfs.Overlay Vfs.C07

def subLayers : List Nat → List Nat → List Str → List VPath
  | i :: is, id :: ids, P :: Ps => { fs := leafFS i, fsId := id, path := P } :: subLayers is ids Ps
  | _, _, _ => []

theorem subLayers_rel {spec : Nat → Role} {is idrs ids : List Nat} {Ps : List Str}
    (h : SubSpec spec is idrs ids Ps) :
    ListRel (VShift spec) (subLayers is ids Ps) (layersN is ids) := by
  induction h with
  | nil => exact .nil
  | @cons i _ id P _ _ _ _ hi hP _ ih =>
    exact .cons (List.append_nil P ▸ VShift.mk hi hP C06.root_canonical id id) ih

/-- `overlay_over_subdirs` for every relation the sub-tree simulation holds for -/
theorem overlay_over_subdirs_of {spec : Nat → Role} {R : World → World → Prop} (hR : SubRel spec R)
    {is idrs ids : List Nat} {Ps : List Str} (h : SubSpec spec is idrs ids Ps) (hne : is ≠ []) :
    SimFS R PTrue (HSub spec) (Overlay.fs (subLayers is ids Ps)) (Overlay.fs (layersN is ids)) := by
  refine overlay_subdir_sim hR (subLayers_rel h) ?_
  cases h with
  | nil => exact absurd rfl hne
  | cons _ _ _ => simp [subLayers]

theorem overlay_over_subdirs {spec : Nat → Role} {is idrs ids : List Nat} {Ps : List Str}
    (h : SubSpec spec is idrs ids Ps) (hne : is ≠ []) :
    SimFS (RSub spec) PTrue (HSub spec) (Overlay.fs (subLayers is ids Ps))
      (Overlay.fs (layersN is ids)) :=
  overlay_over_subdirs_of (subRel_rsub spec) h hne

/-- paths of the two overlay filesystems with the same canonical string are related: every
`VfsPath` operation on them is (`VPath.sim_*`, Proofs/Sim.lean) -/
theorem overlay_subdir_vpath {spec : Nat → Role} {is idrs ids : List Nat} {Ps : List Str}
    (h : SubSpec spec is idrs ids Ps) (hne : is ≠ []) (id : Nat) {q : Str} (hq : Canon q) :
    SimVPath (RSub spec) PTrue (HSub spec)
      { fs := Overlay.fs (subLayers is ids Ps), fsId := id, path := q }
      { fs := Overlay.fs (layersN is ids), fsId := id, path := q } :=
  ⟨overlay_over_subdirs h hne, rfl, rfl, hq⟩

theorem subdir_transfer {spec : Nat → Role} {α β : Type} {Q : α → β → Prop} {m1 : M α} {m2 : M β}
    (h : SimM (RSub spec) PTrue Q m1 m2) {w1 w2 w2' : World} {r2 : Res β} (hr : RSub spec w1 w2)
    (h2 : m2 w2 = (r2, w2')) : RelRes PTrue Q (m1 w1).1 r2 ∧ RSub spec (m1 w1).2 w2' :=
  h.transfer hr h2

section transferred
variable {spec : Nat → Role} {u idr idu : Nat} {Pu : Str} {is idrs ids : List Nat} {Ps : List Str}
  (h : SubSpec spec (u :: is) (idr :: idrs) (idu :: ids) (Pu :: Ps))
  {w1 w2 : World} (hr : RSub spec w1 w2) {mu : FMap} {ms : List FMap}
  (hown : OWN w1 (u :: is) (idu :: ids) (mu :: ms))
include h hr hown

/-- **C09, `exists`.** For a canonical non-root path, `exists` of the overlay over the
sub-directories answers whether the path is in the n-layer union view of the sub-maps. -/
theorem exists_is_viewN_subdir (cs : List Str) (hne : cs ≠ []) (hcs : ∀ c ∈ cs, GoodComp c) :
    ((Overlay.fs (subLayers (u :: is) (idu :: ids) (Pu :: Ps))).exists_ (renderC cs) w1).1
      = .ok (viewN (sub Pu mu :: List.zipWith sub Ps ms) (renderC cs)).isSome ∧
    RSub spec ((Overlay.fs (subLayers (u :: is) (idu :: ids) (Pu :: Ps))).exists_
      (renderC cs) w1).2 w2 := by
  have hown2 := own_sub h hr hown
  obtain ⟨a, b⟩ := subdir_transfer ((overlay_over_subdirs h (by simp)).base.exists_ (renderC cs)
    ⟨cs, hcs, rfl⟩) hr (exists_is_viewN hown2 cs hne hcs)
  exact ⟨a.ok_inv, b⟩

theorem metadata_is_viewN_subdir (cs : List Str) (hne : cs ≠ []) (hcs : ∀ c ∈ cs, GoodComp c) :
    RelRes PTrue (· = ·)
      ((Overlay.fs (subLayers (u :: is) (idu :: ids) (Pu :: Ps))).metadata (renderC cs) w1).1
      (match viewN (sub Pu mu :: List.zipWith sub Ps ms) (renderC cs) with
       | some e => .ok e.meta
       | none => .err .fileNotFound none) ∧
    RSub spec ((Overlay.fs (subLayers (u :: is) (idu :: ids) (Pu :: Ps))).metadata
      (renderC cs) w1).2 w2 :=
  subdir_transfer ((overlay_over_subdirs h (by simp)).base.metadata (renderC cs) ⟨cs, hcs, rfl⟩) hr
    (metadata_is_viewN (own_sub h hr hown) cs hne hcs)

/-- **C10, `remove_file` succeeds** on a file of the union view of the sub-maps (hypotheses as in
`C10.removeFile_succeedsN`, about the sub-maps). -/
theorem removeFile_succeedsN_subdir (ds : List Str) (n : Str) (hds : ∀ c ∈ ds, GoodComp c)
    (hn : GoodComp n) (hroot : RootOk (sub Pu mu))
    (hwoarea : ∀ k ∈ chain [] (woDir :: ds), ∀ e, (sub Pu mu).find? k = some e → e.ftype = .dir)
    (hhead : (ds ++ [n]).head? ≠ some woDir)
    (e : Entry) (hv : viewN (sub Pu mu :: List.zipWith sub Ps ms) (renderC (ds ++ [n])) = some e)
    (hfile : e.ftype = .file) :
    ((Overlay.fs (subLayers (u :: is) (idu :: ids) (Pu :: Ps))).removeFile
      (renderC (ds ++ [n])) w1).1 = .ok () := by
  have hown2 := own_sub h hr hown
  have h2 := C10.removeFile_succeedsN hown2 ds n hds hn hroot hwoarea hhead e hv hfile
  have := ((overlay_over_subdirs h (by simp)).base.removeFile (renderC (ds ++ [n]))
    ⟨ds ++ [n], good_snoc hds hn, rfl⟩ w1 w2 hr).1
  rw [h2] at this
  exact this.ok_inv

end transferred

/-- the hypotheses hold on the concrete two-leaf world of Props/C07Subtree.lean -/
example : SubSpec ySpec [0, 1] [7, 8] [1, 2] ["/up".toList, "/lo".toList] ∧ RSub ySpec yW1 yW2 ∧
    OWN yW1 [0, 1] [1, 2] [yM0, yM1] := ⟨ySub, yRel, yOwn⟩

example :
    ((Overlay.fs (subLayers [0, 1] [1, 2] ["/up".toList, "/lo".toList])).exists_
        (renderC ["g".toList]) yW1).1
      = .ok (viewN [sub "/up".toList yM0, sub "/lo".toList yM1] (renderC ["g".toList])).isSome :=
  (exists_is_viewN_subdir ySub yRel yOwn ["g".toList] (by simp) (by decide)).1

example :
    ((Overlay.fs (subLayers [0, 1] [1, 2] ["/up".toList, "/lo".toList])).exists_ "/g".toList yW1).1
      = .ok true ∧
    ((Overlay.fs (subLayers [0, 1] [1, 2] ["/up".toList, "/lo".toList])).exists_ "/junk".toList yW1).1
      = .ok false ∧
    ((Overlay.fs (layersN [0, 1] [1, 2])).exists_ "/g".toList yW2).1 = .ok true := by
  decide +kernel

def ySubOf (w1 w2 : World) : Bool :=
  decide (w2.leaves.map (·.files) =
    (w1.leaves.zip ["/up".toList, "/lo".toList]).map fun lp => sub lp.2 lp.1.files)

example : ySubOf yW1 yW2 = true := by decide +kernel

def yL1 : List VPath := subLayers [0, 1] [1, 2] ["/up".toList, "/lo".toList]
def yL2 : List VPath := layersN [0, 1] [1, 2]

example :
    ((Overlay.fs yL1).createDir "/n".toList yW1).1 = .ok () ∧
    ((Overlay.fs yL2).createDir "/n".toList yW2).1 = .ok () ∧
    ySubOf ((Overlay.fs yL1).createDir "/n".toList yW1).2 ((Overlay.fs yL2).createDir "/n".toList yW2).2
      = true := by
  decide +kernel

example :
    ((Overlay.fs yL1).removeFile "/g".toList yW1).1 = .ok () ∧
    ((Overlay.fs yL2).removeFile "/g".toList yW2).1 = .ok () ∧
    ySubOf ((Overlay.fs yL1).removeFile "/g".toList yW1).2 ((Overlay.fs yL2).removeFile "/g".toList yW2).2
      = true ∧
    (((Overlay.fs yL1).removeFile "/g".toList yW1).2.leaves.map fun l => l.files.keys)
      = [["/up/.whiteout/g_wo".toList, "/up/.whiteout".toList, "/up/f".toList, "/up".toList,
          "/junk".toList, []],
         ["/lo/g".toList, "/lo/f".toList, "/lo".toList, []]] := by
  decide +kernel

example :
    ((do let hd ← (Overlay.fs yL1).appendFile "/g".toList; hd.writeAllAndDrop [7] : M Unit) yW1).1
      = .ok () ∧
    ySubOf ((do let hd ← (Overlay.fs yL1).appendFile "/g".toList; hd.writeAllAndDrop [7] : M Unit) yW1).2
      ((do let hd ← (Overlay.fs yL2).appendFile "/g".toList; hd.writeAllAndDrop [7] : M Unit) yW2).2
      = true ∧
    (((do let hd ← (Overlay.fs yL1).appendFile "/g".toList; hd.writeAllAndDrop [7] : M Unit) yW1).2.leaves.map
      fun l => (l.files.find? "/up/g".toList).map (·.content)) = [some [2, 7], none] := by
  decide +kernel

end Vfs.C09
