/-
  C01 for the overlay at the `VfsPath` level: the operation contract of Props/C09Contract.lean
  (`VContract`, relative to the n-layer union view `oview`) for the five mutators as the user
  calls them — `VfsPath::create_dir`, a write session (`VfsPath::create_file` + `write_all` +
  drop), an append session, `VfsPath::remove_file`, `VfsPath::remove_dir` — on the path
  `⟨Overlay.fs (layersN …), id, p⟩`, any identity `id`.

  Hypotheses: those of `C09.overlay_contractN`: `OWN w (u :: is) (idu :: ids) (mu :: ms)` (n ≥ 1
  pairwise distinct memory leaves whose roots are the layers), `OInv mu ms`,
  `ViewWF (oview (mu :: ms))`, per call `OpOK op` and the O3 discipline `O3Free`.

  * `vstep_eq_ostep`: the user-level call IS the trait-level call with the error (if any)
    relabelled with the caller's path (`none` at the trait level, `some p` at the user level):
    same final world, same success / error kind / panic. The parent probe (`get_parent`:
    `exists` + `metadata` of the parent) leaves the world unchanged and refuses exactly where
    `ensure_has_parent` of the trait-level `create_dir` / `create_file` answers `Other`
    (`run_getParent_overlay`). `vstep_err_path`: a failed call carries the caller's path.
  * `vpath_overlay_contractN`: the bundle of `C09.overlay_contractN` for `vstep`, plus the
    label clause.
  * `vpath_overlay_refines_reference`: the history theorem of Props/C09Refine.lean for `runV`
    (a finite list of user-level calls); `runV_eq_runOverlay`: the two histories agree exactly
    (outcomes up to the relabelling, final worlds equal).
  * `x_vrefines` and the `example`s: the hypotheses hold on the 3-layer world and the 12-call
    history of Props/C09Refine.lean.
  Not covered: layers that are not roots of memory leaves (Props/C01OverlaySub.lean), an
  altroot on top of the overlay (Props/C01OverlayAlt.lean), paths violating the discipline,
  `remove_file` on a directory of the view (open defect O3) beyond panic-freedom.
-/
import VfsModel.Props.C09Refine
import VfsModel.Proofs.OverlayVPath
namespace Vfs.C01
open Vfs Vfs.Overlay Vfs.C02 Vfs.C09

def runV (fs : FS) (id : Nat) : List Mut → World → List (Res Unit) × World
  | [], w => ([], w)
  | op :: rest, w =>
    ((vstep fs id op w).1 :: (runV fs id rest (vstep fs id op w).2).1,
      (runV fs id rest (vstep fs id op w).2).2)

def relabel : List Mut → List (Res Unit) → List (Res Unit)
  | op :: ops, r :: rs => r.withPath op.path :: relabel ops rs
  | _, _ => []

def Labelled : List Mut → List (Res Unit) → Prop
  | op :: ops, r :: rs => (∀ k pth, r = .err k pth → pth = some op.path) ∧ Labelled ops rs
  | _, _ => True

theorem labelled_relabel (ops : List Mut) (rs : List (Res Unit)) : Labelled ops (relabel ops rs) := by
  induction ops generalizing rs with
  | nil => cases rs <;> trivial
  | cons op ops ih =>
    cases rs with
    | nil => trivial
    | cons r rs => exact ⟨fun k pth he => withPath_errPath _ _ he, ih rs⟩

theorem relabel_isOk (ops : List Mut) (rs : List (Res Unit)) (hl : rs.length = ops.length) :
    (relabel ops rs).map Res.isOk = rs.map Res.isOk := by
  induction ops generalizing rs with
  | nil => cases rs with
    | nil => rfl
    | cons r rs => simp at hl
  | cons op ops ih =>
    cases rs with
    | nil => simp at hl
    | cons r rs =>
      simp only [relabel, List.map_cons, withPath_isOk]
      rw [ih rs (by simpa using hl)]

theorem relabel_mem_panic (ops : List Mut) (rs : List (Res Unit))
    (h : ∀ r ∈ rs, r ≠ .panic) : ∀ r ∈ relabel ops rs, r ≠ .panic := by
  induction ops generalizing rs with
  | nil => intro r hr; cases rs <;> simp [relabel] at hr
  | cons op ops ih =>
    cases rs with
    | nil => intro r hr; simp [relabel] at hr
    | cons r0 rs =>
      intro r hr
      simp only [relabel, List.mem_cons] at hr
      rcases hr with rfl | hr
      · exact fun h0 => h r0 (by simp) ((Res.withPath_panic _ _).1 h0)
      · exact ih rs (fun x hx => h x (by simp [hx])) r hr

theorem runOverlay_length (fs : FS) (ops : List Mut) (w : World) :
    (runOverlay fs ops w).1.length = ops.length := by
  induction ops generalizing w with
  | nil => rfl
  | cons op ops ih => simp [runOverlay, ih]

/-- **the two histories agree exactly**: under the hypotheses of `overlay_refines_reference`,
the history of user-level calls ends in the SAME world as the history of trait-level calls, and
its outcomes are those outcomes, each relabelled with the path of its call -/
theorem runV_eq_runOverlay (id : Nat) (ops : List Mut) (hops : ∀ op ∈ ops, OpOK op)
    {w : World} {u idu : Nat} {mu : FMap} {is ids : List Nat} {ms : List FMap}
    (h : OWN w (u :: is) (idu :: ids) (mu :: ms)) (inv : OInv mu ms)
    (hv : ViewWF (oview (mu :: ms))) (m0 : FMap) (href : Refines (oview (mu :: ms)) m0)
    (hdisc : RefO3Free ops m0) :
    runV (Overlay.fs (layersN (u :: is) (idu :: ids))) id ops w =
      (relabel ops (runOverlay (Overlay.fs (layersN (u :: is) (idu :: ids))) ops w).1,
       (runOverlay (Overlay.fs (layersN (u :: is) (idu :: ids))) ops w).2) := by
  induction ops generalizing w mu ms m0 with
  | nil => rfl
  | cons op rest ih =>
    have hop := hops op (by simp)
    obtain ⟨mu1, ms1, hown1, _, inv1, hv1, _, href1⟩ :=
      refines_contract_step h inv hv href hop hdisc.1
    have hstep := vstep_eq_ostep h inv hv id op hop
    have hrest := ih (fun o ho => hops o (by simp [ho])) hown1 inv1 hv1 _ href1 hdisc.2
    simp only [runV, runOverlay, hstep, hrest, relabel]

/-- **vpath_overlay_refines_reference.** The history theorem at the level of the user's calls:
n ≥ 1 memory layers (`OWN`), `OInv`, `ViewWF`, a reference tree `m0` holding the initial view
(`Refines`). For EVERY finite list of mutators on disciplined paths (`OpOK`) issued through the
`VfsPath` layer (`runV`, any `fsId`), under the O3 type discipline (`RefO3Free`): the overlay and
the reference backend agree call by call on success / failure, neither ever panics, every failure
of the overlay is labelled with the path of its call, the final view of the overlay is (up to
timestamps) the final reference tree; the final world is again in the setting with `LowerSame`
lower maps, and all invariants hold again. -/
theorem vpath_overlay_refines_reference (id : Nat) (ops : List Mut) (hops : ∀ op ∈ ops, OpOK op)
    {w : World} {u idu : Nat} {mu : FMap} {is ids : List Nat} {ms : List FMap}
    (h : OWN w (u :: is) (idu :: ids) (mu :: ms)) (inv : OInv mu ms)
    (hv : ViewWF (oview (mu :: ms))) (m0 : FMap) (href : Refines (oview (mu :: ms)) m0)
    (hdisc : RefO3Free ops m0) :
    ∃ mu' ms',
      OWN (runV (Overlay.fs (layersN (u :: is) (idu :: ids))) id ops w).2
        (u :: is) (idu :: ids) (mu' :: ms') ∧
      LowerSame ms ms' ∧ OInv mu' ms' ∧ ViewWF (oview (mu' :: ms')) ∧
      (runV (Overlay.fs (layersN (u :: is) (idu :: ids))) id ops w).1.map Res.isOk
        = (runRef ops m0).1.map Res.isOk ∧
      (∀ r ∈ (runV (Overlay.fs (layersN (u :: is) (idu :: ids))) id ops w).1, r ≠ .panic) ∧
      (∀ r ∈ (runRef ops m0).1, r ≠ .panic) ∧
      Labelled ops (runV (Overlay.fs (layersN (u :: is) (idu :: ids))) id ops w).1 ∧
      Refines (oview (mu' :: ms')) (runRef ops m0).2 := by
  obtain ⟨mu', ms', hown, hls, inv', hv', hoks, hnp1, hnp2, href'⟩ :=
    overlay_refines_reference ops hops h inv hv m0 href hdisc
  rw [runV_eq_runOverlay id ops hops h inv hv m0 href hdisc]
  refine ⟨mu', ms', hown, hls, inv', hv', ?_, relabel_mem_panic _ _ hnp1, hnp2,
    labelled_relabel _ _, href'⟩
  rw [relabel_isOk _ _ (runOverlay_length _ _ _)]
  exact hoks

section example3

/-- all hypotheses of `vpath_overlay_refines_reference` hold on the concrete world -/
theorem x_vrefines :
    ∃ mu' ms',
      OWN (runV xfs 5 xOps xw).2 [2, 0, 1] [7, 8, 9] (mu' :: ms') ∧
      LowerSame [xA, xB] ms' ∧ OInv mu' ms' ∧ ViewWF (oview (mu' :: ms')) ∧
      (runV xfs 5 xOps xw).1.map Res.isOk = (runRef xOps xRef).1.map Res.isOk ∧
      (∀ r ∈ (runV xfs 5 xOps xw).1, r ≠ .panic) ∧
      (∀ r ∈ (runRef xOps xRef).1, r ≠ .panic) ∧
      Labelled xOps (runV xfs 5 xOps xw).1 ∧
      Refines (oview (mu' :: ms')) (runRef xOps xRef).2 :=
  vpath_overlay_refines_reference 5 xOps xOps_ok xw_setting xw_inv xw_viewWF xRef xw_refines xOps_o3

example := vpath_overlay_contractN xw_setting xw_inv xw_viewWF 5 (.createDir "/d/new".toList)
  (opOK_of_check (by decide +kernel)) (by intro p hp; cases hp)
example := vpath_overlay_contractN xw_setting xw_inv xw_viewWF 5 (.write "/d/x".toList [1, 2])
  (opOK_of_check (by decide +kernel)) (by intro p hp; cases hp)
example := vpath_overlay_contractN xw_setting xw_inv xw_viewWF 5 (.append "/d/c".toList [9])
  (opOK_of_check (by decide +kernel)) (by intro p hp; cases hp)
example := vpath_overlay_contractN xw_setting xw_inv xw_viewWF 5 (.removeFile "/d/b".toList)
  (opOK_of_check (by decide +kernel)) (by intro p hp; injection hp with hp; subst hp; decide)
example := vpath_overlay_contractN xw_setting xw_inv xw_viewWF 5 (.removeDir "/e".toList)
  (opOK_of_check (by decide +kernel)) (by intro p hp; cases hp)
-- a call below a missing parent: both levels answer `Other`; the user level labels it
example := vpath_overlay_contractN xw_setting xw_inv xw_viewWF 5 (.createDir "/nope/sub".toList)
  (opOK_of_check (by decide +kernel)) (by intro p hp; cases hp)
example : (vstep xfs 5 (.createDir "/nope/sub".toList) xw).1 = .err .other (some "/nope/sub".toList) ∧
    (ostep xfs (.createDir "/nope/sub".toList) xw).1 = .err .other none := by
  rw [xw_chars]; decide +kernel
example := vpath_overlay_createDir_contractN xw_setting xw_inv xw_viewWF
  (ds := ["d".toList]) (n := "new".toList) (by decide) 5

/-- the outcomes of the user-level history: the evaluated outcomes of the trait-level history
(`C09.x_run`), each failure labelled with the path of its call (`runV_eq_runOverlay`) -/
theorem xv_outcomes : (runV xfs 5 xOps xw).1 =
    [.ok (), .ok (), .ok (), .ok (), .ok (), .ok (), .ok (), .ok (),
     .err .dirExists (some "/d".toList), .err .other (some "/d".toList),
     .err .fileNotFound (some "/nope".toList), .err .other (some "/d/x/y".toList)] := by
  rw [show runV xfs 5 xOps xw = _ from
    runV_eq_runOverlay 5 xOps xOps_ok xw_setting xw_inv xw_viewWF xRef xw_refines xOps_o3]
  show relabel xOps (runOverlay xfs xOps xw).1 = _
  rw [x_run]
  decide

end example3

section audit
#print axioms vstep_eq_ostep
#print axioms vstep_err_path
#print axioms vpath_overlay_contractN
#print axioms vpath_overlay_createDir_contractN
#print axioms vpath_overlay_write_contractN
#print axioms vpath_overlay_append_contractN
#print axioms vpath_overlay_removeFile_contractN
#print axioms vpath_overlay_removeDir_contractN
#print axioms runV_eq_runOverlay
#print axioms vpath_overlay_refines_reference
#print axioms x_vrefines
#print axioms xv_outcomes
end audit

end Vfs.C01
