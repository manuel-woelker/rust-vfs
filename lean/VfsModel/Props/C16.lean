/-
  C16 — "MemoryFS is linearizable under concurrent use: under every interleaving each call's
  result and the final state are those of some sequential execution of the same calls that
  respects each thread's program order. In particular the tree stays well-formed, no update is
  lost, and nothing panics or deadlocks."

  Object: the concurrency model VfsModel/Conc.lean (one shared map; a thread = list of calls; a
  call = the sequence of its lock regions; `step s tid` = thread `tid` runs its next region
  atomically; `run s schedule`; `callAtomic` = a whole call run atomically).

  1. Well-formedness under every interleaving (`wf_invariant`, `run_wf`): every region keeps `WF`,
     because `MemoryFS::create_dir` / `create_file` evaluate `ensure_has_parent` (the parent is an
     existing DIRECTORY) inside the region of the update. `remove_dir("")` is the exception: it
     is refused, or the tree was the bare root and the map becomes empty; with no hypothesis on
     the programs every step keeps "WF or the empty map" (`run_wf_or_empty`).
  2. Linearizability by reduction: the regions of a call before its last one are read-only
     probes, and its last region, on an ARBITRARY map, has exactly the map, handle slot and
     result of `callAtomic` on that map (`reaches_region`; spelled out for the three regions of
     `create_dir` / `create_file` on three maps in `*_linearizes_at_last_region`). Hence the
     global theorem `linearizable`: any number of threads, any programs of `LinCall`s, any
     schedule, complete or not, is simulated (`SRel`: same map, same handle slots, same result
     lists, same pending calls) by the sequential machine `runA` executing the calls in the order
     of their last regions.
  3. The two write sessions and `create_dir_all` are not `LinCall`s, and are NOT atomic:
     kernel-evaluated witnesses. A variant of the model (`regionOld`) gives `MemoryFS::create_dir`
     the two lock regions it has in the crate up to commit 17b99c0 (finding M7, DESIGN.md §I.4):
     there `create_dir` races with `remove_dir` and leaves a tree that is not well-formed
     (`old_createDir_race`); with the one region of Conc.lean the same calls do not (`race_fixed`).
  4. No deadlock, no panic in the model: `step` is total, a scheduled thread with a call in
     progress or calls left strictly decreases `measure`; the memory operations never return the
     panic outcome.
-/
import VfsModel.Proofs.ConcLemmas
import VfsModel.Proofs.NoPanic
namespace Vfs.C16
open Vfs Vfs.Conc

def COpOk (c : COp) : Prop := c ≠ .removeDir []

def ThreadOk (t : Thread) : Prop :=
  (∀ c ∈ t.calls, COpOk c) ∧ (∀ pt, t.cur = some pt → PtOk pt)

theorem start_ok (h : Option WH) (c : COp) (hc : COpOk c) (pt : Pt) (hs : start h c = .inl pt) :
    PtOk pt := by
  cases c with
  | removeDir p =>
    simp only [start, Sum.inl.injEq] at hs; subst hs
    exact fun h => hc (by rw [h])
  | writeDrop bs =>
    cases h <;> simp only [start, Sum.inl.injEq, reduceCtorEq] at hs
    subst hs; trivial
  | createDirAll p =>
    simp only [start] at hs
    split at hs
    · cases hs
    · injection hs with hs; subst hs; trivial
  | _ => simp only [start, Sum.inl.injEq] at hs; subst hs; trivial

theorem region_next_ok (m : FMap) (pt pt' : Pt) (h : (region m pt).next = .inl pt') : PtOk pt' := by
  rcases region_next_inl m pt pt' h with
    ⟨_, _, _, _, rfl⟩ | ⟨_, f, _, _, rfl⟩ | ⟨_, _, _, _, rfl⟩ | ⟨_, _, _, _, rfl⟩ | ⟨_, _, _, rfl⟩
  · trivial
  · cases f <;> trivial
  · trivial
  · trivial
  · trivial

def Inv (s : Sys) : Prop := WF s.files ∧ ∀ t ∈ s.threads, ThreadOk t

theorem wf_invariant (s : Sys) (tid : Nat) (h : Inv s) : Inv (step s tid) :=
  step_keeps WF COpOk PtOk (fun h c pt hc hs => start_ok h c hc pt hs)
    (fun m pt pt' _ h => region_next_ok m pt pt' h) (fun _ pt h hpt => region_wf h pt hpt) s tid h

theorem run_wf (s : Sys) (schedule : List Nat) (h : Inv s) : Inv (run s schedule) :=
  run_invariant Inv (fun s tid h => wf_invariant s tid h) s h schedule

theorem run_wf_of_programs (m : FMap) (progs : List (List COp)) (schedule : List Nat) (hm : WF m)
    (hp : ∀ prog ∈ progs, ∀ c ∈ prog, c ≠ .removeDir []) :
    WF (run { files := m, threads := progs.map fun p => { calls := p } } schedule).files := by
  refine (run_wf _ schedule ⟨hm, ?_⟩).1
  intro t ht
  simp only [List.mem_map] at ht
  obtain ⟨p, hp', rfl⟩ := ht
  exact ⟨hp p hp', fun pt h => by cases h⟩

/-! `remove_dir("")` succeeds on a tree that consists of the root only, and leaves the EMPTY
map, on which every later call fails without changing anything. So without any hypothesis on
the programs the invariant is "well-formed, or empty". -/

def Empty (m : FMap) : Prop := ∀ k, m.find? k = none

/-- "well-formed or empty" is `Stk.LeafOK`, the invariant of C03 through every stacking of adapters,
which every state change of a memory leaf keeps (`Stk.leafOK_closed`), hence every schedule -/
theorem run_wf_or_empty (s : Sys) (schedule : List Nat) (h : WF s.files ∨ Empty s.files) :
    WF (run s schedule).files ∨ Empty (run s schedule).files :=
  (run_closed Stk.leafOK_closed 0 s schedule (h.imp_right (Stk.eq_nil_of_find_none _))).imp_right
    fun e k => by rw [e]; rfl

def SingleRegion (h : Option WH) (c : COp) : Prop :=
  ∃ pt, start h c = .inl pt ∧ ∀ m, ∃ r, (region m pt).next = .inr r

def PtFinal : Pt → Prop
  | .cdCreate _ | .cfCreate _ none | .apOpen _ none | .flush _ | .rmFile _ | .rmDir _
  | .obsExists _ | .obsMeta _ | .obsReadDir _ | .obsOpen _ => True
  | _ => False

theorem ptFinal_next (m : FMap) (pt : Pt) (h : PtFinal pt) : ∃ r, (region m pt).next = .inr r := by
  cases hn : (region m pt).next with
  | inr r => exact ⟨r, rfl⟩
  | inl pt' =>
    -- none of the regions that continue is final
    rcases region_next_inl m pt pt' hn with
      ⟨_, _, _, rfl, _⟩ | ⟨_, _, _, rfl, _⟩ | ⟨_, _, _, rfl, _⟩ | ⟨_, _, _, rfl, _⟩ | ⟨_, _, rfl, _⟩
    all_goals exact h.elim

theorem SingleRegion.of_final {h : Option WH} {c : COp} {pt : Pt} (hs : start h c = .inl pt)
    (hf : PtFinal pt) : SingleRegion h c :=
  ⟨pt, hs, fun m => ptFinal_next m pt hf⟩

/-- the trait-level calls are single-region: `remove_file`, `remove_dir`, `exists`, `metadata`,
`read_dir`, `open_file`+read, `append_file` (keeping the handle), and `write_all`+drop on an open
handle -/
theorem single_region_calls (h : Option WH) (p : Str) :
    SingleRegion h (.removeFile p) ∧ SingleRegion h (.removeDir p) ∧
    SingleRegion h (.exists_ p) ∧ SingleRegion h (.metadata p) ∧
    SingleRegion h (.readDir p) ∧ SingleRegion h (.read p) ∧
    SingleRegion h (.appendOpen p) ∧
    (∀ wh bs, SingleRegion (some wh) (.writeDrop bs)) :=
  ⟨.of_final rfl trivial, .of_final rfl trivial, .of_final rfl trivial, .of_final rfl trivial,
   .of_final rfl trivial, .of_final rfl trivial, .of_final rfl trivial,
   fun _ _ => .of_final rfl trivial⟩

theorem single_region_atomic (m : FMap) (t : Thread) (c : COp) (rest : List COp)
    (hcur : t.cur = none) (hcalls : t.calls = c :: rest) (hs : SingleRegion t.handle c)
    (fuel : Nat) :
    ∃ pt, start t.handle c = .inl pt ∧
      stepThread m t = ((callAtomic (fuel + 1) m t.handle c).1,
        settle (rest.length + 1)
          { calls := rest, cur := none, handle := (callAtomic (fuel + 1) m t.handle c).2.1,
            results := t.results ++ [(callAtomic (fuel + 1) m t.handle c).2.2],
            labels := t.labels ++ [pt.label] }) := by
  obtain ⟨pt, hstart, hfin⟩ := hs
  obtain ⟨r, hr⟩ := hfin m
  refine ⟨pt, hstart, ?_⟩
  have hset : settle (t.calls.length + 1) t = { t with calls := rest, cur := some pt } := by
    simp only [settle, hcur, hcalls, hstart]
  rw [stepThread_inr m t pt r (by rw [hset]) hr, hset, callAtomic_inl _ _ _ _ _ hstart,
    go_inr fuel m t.handle pt r hr]
  simp only [afterRegion, withHandle_calls, withHandle_results, withHandle_labels,
    withHandle_handle]

/-- the calls covered by the reduction: everything but the two write sessions (NOT atomic:
`writeSession_not_atomic`, `appendSession_lost_update`) and `create_dir_all` (a loop of
`create_dir` calls, see C17) -/
def LinCall : COp → Prop
  | .writeSession _ _ | .appendSession _ _ | .createDirAll _ => False
  | _ => True

/-- `Reaches h c pt`: the call `c` of a thread with handle slot `h` can be in progress at program
point `pt`; all regions before `pt` were read-only probes -/
inductive Reaches (h : Option WH) : COp → Pt → Prop
  | first (c : COp) (pt : Pt) : LinCall c → start h c = .inl pt → Reaches h c pt
  | cdMeta (p : Str) : Reaches h (.createDir p) (.gpMeta p false none)
  | cdCreate (p : Str) : Reaches h (.createDir p) (.cdCreate p)
  | cfMeta (p : Str) : Reaches h (.createFile p) (.gpMeta p true none)
  | cfCreate (p : Str) : Reaches h (.createFile p) (.cfCreate p none)

theorem start_lin (h : Option WH) (c : COp) (pt : Pt) (hl : LinCall c) (hs : start h c = .inl pt) :
    (∃ p, c = .createDir p ∧ pt = .gpExists p false none) ∨
    (∃ p, c = .createFile p ∧ pt = .gpExists p true none) ∨ PtFinal pt := by
  cases c with
  | createDir p => left; exact ⟨p, rfl, by simpa [start] using hs.symm⟩
  | createFile p => right; left; exact ⟨p, rfl, by simpa [start] using hs.symm⟩
  | writeSession p bs => exact hl.elim
  | appendSession p bs => exact hl.elim
  | createDirAll p => exact hl.elim
  | writeDrop bs =>
    right; right
    cases h <;> simp only [start, Sum.inl.injEq, reduceCtorEq] at hs
    subst hs; trivial
  | _ =>
    right; right
    simp only [start, Sum.inl.injEq] at hs
    subst hs; trivial

theorem probes_linearize (c : COp) (p : Str) (f : Bool) (h : Option WH)
    (hs : start h c = .inl (.gpExists p f none)) (m1 m2 : FMap) :
    ((region m1 (.gpExists p f none)).files = m1 ∧ (region m1 (.gpExists p f none)).handle = none ∧
      ((region m1 (.gpExists p f none)).next = .inl (.gpMeta p f none) ∨
       ((region m1 (.gpExists p f none)).next = .inr .err ∧
          callAtomic 4 m1 h c = (m1, h, .err)))) ∧
    ((region m2 (.gpMeta p f none)).files = m2 ∧ (region m2 (.gpMeta p f none)).handle = none ∧
      ((region m2 (.gpMeta p f none)).next = .inl (if f then .cfCreate p none else .cdCreate p) ∨
       ((region m2 (.gpMeta p f none)).next = .inr .err ∧
          callAtomic 4 m2 h c = (m2, h, .err)))) := by
  constructor
  · by_cases hp : ParentDir m1 p
    · rw [(gp_ok m1 p f none hp).1]; exact ⟨rfl, rfl, Or.inl rfl⟩
    · rcases (gp_fail m1 p f none hp).1 with h1 | h1
      · rw [h1]
        exact ⟨rfl, rfl, Or.inr ⟨rfl, by
          rw [callAtomic_inl _ _ _ _ _ hs, (atomic_gp_fail 2 m1 h p f none hp).1]⟩⟩
      · rw [h1]; exact ⟨rfl, rfl, Or.inl rfl⟩
  · by_cases hp : ParentDir m2 p
    · rw [(gp_ok m2 p f none hp).2]; exact ⟨rfl, rfl, Or.inl rfl⟩
    · rw [(gp_fail m2 p f none hp).2]
      exact ⟨rfl, rfl, Or.inr ⟨rfl, by
        rw [callAtomic_inl _ _ _ _ _ hs, (atomic_gp_fail 2 m2 h p f none hp).1]⟩⟩

/-- the last region of `create_dir` (`f = false`) / `create_file` (`f = true`) on the map `m` is
the whole call executed atomically on `m`: with a parent directory the probes of the atomic call
pass and change nothing; without one both fail, the region inside `ensure_has_parent` -/
theorem create_last (c : COp) (p : Str) (f : Bool) (h : Option WH)
    (hs : start h c = .inl (.gpExists p f none)) (pt : Pt)
    (hpt : pt = if f then .cfCreate p none else .cdCreate p) (m : FMap) :
    ∃ r, (region m pt).next = .inr r ∧
      callAtomic 4 m h c = ((region m pt).files, newHandle h (region m pt).handle, r) := by
  subst hpt
  by_cases hp : ParentDir m p
  · obtain ⟨r, hr⟩ := ptFinal_next m (if f then .cfCreate p none else .cdCreate p)
      (by cases f <;> trivial)
    refine ⟨r, hr, ?_⟩
    rw [callAtomic_inl 4 m h c _ hs, atomic_gp_ok 2 m h p f none hp]
    exact go_inr 1 m h _ r hr
  · rw [callAtomic_inl 4 m h c _ hs, (atomic_gp_fail 2 m h p f none hp).1,
      region_create_noparent m p f hp]
    exact ⟨.err, rfl, rfl⟩

theorem probe_outcome {h : Option WH} {c : COp} {pt' : Pt} {m : FMap} {s : Step}
    (hr : Reaches h c pt')
    (hs : s.files = m ∧ s.handle = none ∧
      (s.next = .inl pt' ∨ (s.next = .inr .err ∧ callAtomic 4 m h c = (m, h, .err)))) :
    (s.files = m ∧ s.handle = none ∧ ∃ pt', s.next = .inl pt' ∧ Reaches h c pt') ∨
    (∃ r, s.next = .inr r ∧ callAtomic 4 m h c = (s.files, newHandle h s.handle, r)) := by
  obtain ⟨e1, e2, e3 | ⟨e3, e4⟩⟩ := hs
  · exact Or.inl ⟨e1, e2, pt', e3, hr⟩
  · exact Or.inr ⟨.err, e3, by rw [e4, e1, e2]; rfl⟩

/-- **the reduction lemma**. Let the call `c` be in progress at `pt`, and let its next region run
on an ARBITRARY map `m` (the other threads may have done anything since the previous region).
Then either the region is a read-only probe that passes (the map and the handle slot are
untouched and the call is still in progress), or the region completes the call — and then the
map, the handle slot and the result are EXACTLY those of the whole call executed atomically on
`m`. So the call takes effect atomically at its last executed region. -/
theorem reaches_region (h : Option WH) (c : COp) (pt : Pt) (hr : Reaches h c pt) (m : FMap) :
    ((region m pt).files = m ∧ (region m pt).handle = none ∧
      ∃ pt', (region m pt).next = .inl pt' ∧ Reaches h c pt') ∨
    (∃ r, (region m pt).next = .inr r ∧
      callAtomic 4 m h c = ((region m pt).files, newHandle h (region m pt).handle, r)) := by
  cases hr with
  | first c pt hl hs =>
    rcases start_lin h c pt hl hs with ⟨p, rfl, rfl⟩ | ⟨p, rfl, rfl⟩ | hf
    · exact probe_outcome (.cdMeta p) (probes_linearize _ p false h hs m m).1
    · exact probe_outcome (.cfMeta p) (probes_linearize _ p true h hs m m).1
    · -- a final point: one region, which is the atomic call
      obtain ⟨r, hr⟩ := ptFinal_next m pt hf
      exact Or.inr ⟨r, hr, by rw [callAtomic_inl _ _ _ _ _ hs, go_inr 3 m h pt r hr]⟩
  | cdMeta p => exact probe_outcome (.cdCreate p) (probes_linearize _ p false h rfl m m).2
  | cfMeta p => exact probe_outcome (.cfCreate p) (probes_linearize _ p true h rfl m m).2
  | cdCreate p => exact Or.inr (create_last _ p false h rfl _ rfl m)
  | cfCreate p => exact Or.inr (create_last _ p true h rfl _ rfl m)

/-- **createDir_linearizes_at_last_region**: `VfsPath::create_dir(p)` is three lock regions
(`exists(parent)`, `metadata(parent)`, `MemoryFS::create_dir`), running on three maps `m1 m2 m3`
between which the other threads may have done anything. Regions 1 and 2 change nothing; if one of
them exits, it exits with `Err`, which is what the atomic call on that map returns (changing
nothing). If the call gets to region 3, the new map, the handle slot and the result are EXACTLY
those of the whole call executed atomically on `m3`: the call takes effect at its last region. -/
theorem createDir_linearizes_at_last_region (p : Str) (h : Option WH) (m1 m2 m3 : FMap) :
    ((region m1 (.gpExists p false none)).files = m1 ∧
      (region m1 (.gpExists p false none)).handle = none ∧
      ((region m1 (.gpExists p false none)).next = .inl (.gpMeta p false none) ∨
       ((region m1 (.gpExists p false none)).next = .inr .err ∧
          callAtomic 4 m1 h (.createDir p) = (m1, h, .err)))) ∧
    ((region m2 (.gpMeta p false none)).files = m2 ∧
      (region m2 (.gpMeta p false none)).handle = none ∧
      ((region m2 (.gpMeta p false none)).next = .inl (.cdCreate p) ∨
       ((region m2 (.gpMeta p false none)).next = .inr .err ∧
          callAtomic 4 m2 h (.createDir p) = (m2, h, .err)))) ∧
    (∃ r, (region m3 (.cdCreate p)).next = .inr r ∧ (region m3 (.cdCreate p)).handle = none ∧
      callAtomic 4 m3 h (.createDir p) = ((region m3 (.cdCreate p)).files, h, r)) := by
  obtain ⟨h1, h2⟩ := probes_linearize (.createDir p) p false h rfl m1 m2
  obtain ⟨r, hn, heq⟩ := create_last (.createDir p) p false h rfl (.cdCreate p) rfl m3
  refine ⟨h1, h2, r, hn, by rw [region_cdCreate], ?_⟩
  rw [heq, region_cdCreate]; rfl

/-- **createFile_linearizes_at_last_region**: the same for `VfsPath::create_file(p)` (regions
`exists(parent)`, `metadata(parent)`, `MemoryFS::create_file`; the write handle is kept): it takes
effect — the empty file and the new handle — atomically at its last region -/
theorem createFile_linearizes_at_last_region (p : Str) (h : Option WH) (m1 m2 m3 : FMap) :
    ((region m1 (.gpExists p true none)).files = m1 ∧
      (region m1 (.gpExists p true none)).handle = none ∧
      ((region m1 (.gpExists p true none)).next = .inl (.gpMeta p true none) ∨
       ((region m1 (.gpExists p true none)).next = .inr .err ∧
          callAtomic 4 m1 h (.createFile p) = (m1, h, .err)))) ∧
    ((region m2 (.gpMeta p true none)).files = m2 ∧
      (region m2 (.gpMeta p true none)).handle = none ∧
      ((region m2 (.gpMeta p true none)).next = .inl (.cfCreate p none) ∨
       ((region m2 (.gpMeta p true none)).next = .inr .err ∧
          callAtomic 4 m2 h (.createFile p) = (m2, h, .err)))) ∧
    (∃ r, (region m3 (.cfCreate p none)).next = .inr r ∧
      callAtomic 4 m3 h (.createFile p) =
        ((region m3 (.cfCreate p none)).files, newHandle h (region m3 (.cfCreate p none)).handle, r)) :=
  ⟨(probes_linearize (.createFile p) p true h rfl m1 m2).1,
    (probes_linearize (.createFile p) p true h rfl m1 m2).2,
    create_last (.createFile p) p true h rfl _ rfl m3⟩

structure AThread where
  calls : List COp
  handle : Option WH := none
  results : List CRes := []

def stepAT (m : FMap) (a : AThread) : FMap × AThread :=
  match a.calls with
  | [] => (m, a)
  | c :: rest =>
    ((callAtomic 4 m a.handle c).1,
      { calls := rest, handle := (callAtomic 4 m a.handle c).2.1,
        results := a.results ++ [(callAtomic 4 m a.handle c).2.2] })

def iterAT : Nat → FMap × AThread → FMap × AThread
  | 0, x => x
  | k + 1, x => iterAT k (stepAT x.1 x.2)

theorem iterAT_add (j k : Nat) (x : FMap × AThread) : iterAT (j + k) x = iterAT k (iterAT j x) := by
  induction j generalizing x with
  | zero => simp [iterAT]
  | succ j ih => rw [Nat.add_right_comm]; exact ih _

structure ASys where
  files : FMap
  threads : List AThread

def stepA (s : ASys) (tid : Nat) : ASys :=
  match s.threads[tid]? with
  | none => s
  | some a => { files := (stepAT s.files a).1, threads := s.threads.set tid (stepAT s.files a).2 }

def runA (s : ASys) (order : List Nat) : ASys := order.foldl stepA s

theorem runA_append (s : ASys) (a b : List Nat) : runA s (a ++ b) = runA (runA s a) b := by
  simp [runA, List.foldl_append]

theorem runA_replicate (k : Nat) (s : ASys) (tid : Nat) (a : AThread)
    (h : s.threads[tid]? = some a) :
    runA s (List.replicate k tid) =
      { files := (iterAT k (s.files, a)).1, threads := s.threads.set tid (iterAT k (s.files, a)).2 } := by
  induction k generalizing s a with
  | zero =>
    obtain ⟨hlt, rfl⟩ := List.getElem?_eq_some_iff.1 h
    simp [runA, iterAT, List.set_getElem_self hlt]
  | succ k ih =>
    have hlt : tid < s.threads.length := (List.getElem?_eq_some_iff.1 h).1
    have hstep : stepA s tid =
        { files := (stepAT s.files a).1, threads := s.threads.set tid (stepAT s.files a).2 } := by
      simp [stepA, h]
    rw [List.replicate_succ]
    show runA (stepA s tid) (List.replicate k tid) = _
    rw [hstep, ih _ (stepAT s.files a).2 (by simp [List.getElem?_set_self hlt])]
    simp [iterAT, List.set_set]

/-- the simulation relation between a thread of the concurrent machine and one of the sequential
machine: same handle slot, same results; the call in progress (if any) has not been executed by
the sequential thread yet — all its regions so far were read-only probes -/
def Rel (t : Thread) (a : AThread) : Prop :=
  a.handle = t.handle ∧ a.results = t.results ∧ (∀ c ∈ t.calls, LinCall c) ∧
  ((t.cur = none ∧ a.calls = t.calls) ∨
   (∃ pt c, t.cur = some pt ∧ a.calls = c :: t.calls ∧ Reaches t.handle c pt))

theorem Rel.idle {t : Thread} {a : AThread} (h : Rel t a) (hcur : t.cur = none) :
    a.calls = t.calls := by
  rcases h.2.2.2 with ⟨_, h4⟩ | ⟨pt, c, h4, _⟩
  · exact h4
  · rw [hcur] at h4; cases h4

theorem Rel.busy {t : Thread} {a : AThread} {pt : Pt} (h : Rel t a) (hcur : t.cur = some pt) :
    ∃ c, a.calls = c :: t.calls ∧ Reaches t.handle c pt := by
  rcases h.2.2.2 with ⟨h4, _⟩ | ⟨pt0, c, h4, h5, h6⟩
  · rw [hcur] at h4; cases h4
  · rw [hcur] at h4; cases h4
    exact ⟨c, h5, h6⟩

/-- One step of a thread of the concurrent machine is matched by `k` atomic steps of the
sequential thread: none when a call begins and none for a probe that passes, one for a call
without any region (it completes at once and leaves the map as it is), one for the region that
completes a call (`reaches_region`: it is the atomic call on the current map). -/
theorem stepThread_sim (m : FMap) (t : Thread) (a : AThread) (h : Rel t a) :
    ∃ k a', iterAT k (m, a) = ((stepThread m t).1, a') ∧ Rel (stepThread m t).2 a' := by
  refine stepThread_induction (P := fun m' t' => ∃ k a', iterAT k (m, a) = (m', a') ∧ Rel t' a')
    ?_ ?_ ?_ ?_ m t ⟨0, a, rfl, h⟩
  · rintro m' t c rest pt ⟨k, a', hk, hrel⟩ hcur hcalls hs
    obtain ⟨hc, hrest⟩ := List.forall_mem_cons.1 (hcalls ▸ hrel.2.2.1)
    exact ⟨k, a', hk, hrel.1, hrel.2.1, hrest,
      Or.inr ⟨pt, c, rfl, by rw [hrel.idle hcur, hcalls], .first c pt hc hs⟩⟩
  · rintro m' t c rest r ⟨k, a', hk, hrel⟩ hcur hcalls hs
    refine ⟨k + 1, { calls := rest, handle := a'.handle, results := a'.results ++ [r] }, ?_,
      hrel.1, congrArg (· ++ [r]) hrel.2.1, (List.forall_mem_cons.1 (hcalls ▸ hrel.2.2.1)).2,
      Or.inl ⟨hcur, rfl⟩⟩
    rw [iterAT_add, hk]
    simp only [iterAT, stepAT, hrel.idle hcur, hcalls, hrel.1, callAtomic_inr 4 m' t.handle c r hs]
  · rintro m' t pt pt' ⟨k, a', hk, hrel⟩ hcur hn
    obtain ⟨c, g5, g6⟩ := hrel.busy hcur
    rcases reaches_region _ c pt g6 m' with ⟨e1, e2, pt'', e3, e4⟩ | ⟨r, e3, _⟩
    · cases hn.symm.trans e3
      refine ⟨k, a', by rw [e1]; exact hk, ?_, by simpa using hrel.2.1, by simpa using hrel.2.2.1,
        Or.inr ⟨pt', c, rfl, by simpa using g5, ?_⟩⟩
      · simp [afterRegion_handle, e2, newHandle, hrel.1]
      · simpa [afterRegion_handle, e2, newHandle] using e4
    · cases hn.symm.trans e3
  · rintro m' t pt r ⟨k, a', hk, hrel⟩ hcur hn
    obtain ⟨c, g5, g6⟩ := hrel.busy hcur
    rcases reaches_region _ c pt g6 m' with ⟨_, _, pt', e3, _⟩ | ⟨r', e3, e4⟩
    · cases hn.symm.trans e3
    · cases hn.symm.trans e3
      refine ⟨k + 1, ⟨t.calls, newHandle t.handle (region m' pt).handle, a'.results ++ [r]⟩, ?_,
        by simp [afterRegion_handle], by simp [hrel.2.1], by simpa using hrel.2.2.1,
        Or.inl ⟨rfl, by simp⟩⟩
      rw [iterAT_add, hk]
      simp only [iterAT, stepAT, g5, hrel.1, e4]

structure SRel (s : Sys) (sa : ASys) : Prop where
  files : sa.files = s.files
  len : sa.threads.length = s.threads.length
  thr : ∀ (i : Nat) (t : Thread) (a : AThread),
    s.threads[i]? = some t → sa.threads[i]? = some a → Rel t a

theorem step_sim (s : Sys) (sa : ASys) (tid : Nat) (h : SRel s sa) :
    ∃ k, SRel (step s tid) (runA sa (List.replicate k tid)) := by
  cases hg : s.threads[tid]? with
  | none => rw [step_of_none s tid hg]; exact ⟨0, h⟩
  | some t =>
    have hlt : tid < s.threads.length := (List.getElem?_eq_some_iff.1 hg).1
    have hlta : tid < sa.threads.length := by rw [h.len]; exact hlt
    have hga : sa.threads[tid]? = some sa.threads[tid] := List.getElem?_eq_getElem hlta
    obtain ⟨k, a', hk, hrel⟩ := stepThread_sim s.files t sa.threads[tid] (h.thr tid t _ hg hga)
    refine ⟨k, ?_⟩
    rw [step_of_some s tid t hg, runA_replicate k sa tid _ hga, h.files, hk]
    refine ⟨rfl, by simp [h.len], fun i t' a'' ht' ha'' => ?_⟩
    refine forall_getElem?_set (F := fun i t => ∀ a, sa.threads[i]? = some a → Rel t a)
      (F' := fun i t => ∀ a, (sa.threads.set tid a')[i]? = some a → Rel t a)
      (fun i t ht a ha => h.thr i t a ht ha)
      (fun i t hi hF a ha => hF a (by rwa [List.getElem?_set_ne (fun e => hi e.symm)] at ha))
      (fun a ha => ?_) i t' ht' a'' ha''
    rw [List.getElem?_set_self hlta] at ha; cases ha; exact hrel

/-- the sequential order belonging to a schedule: entry `i` of the schedule repeated `ks[i]`
times (`ks[i]` = number of calls the `i`-th step completes: `0` for a step that is not the last
region of its call) — i.e. the calls ordered by their LAST executed region -/
def orderOf (ks schedule : List Nat) : List Nat :=
  (List.zipWith (fun k tid => List.replicate k tid) ks schedule).flatten

theorem run_sim (schedule : List Nat) (s : Sys) (sa : ASys) (h : SRel s sa) :
    ∃ ks : List Nat, ks.length = schedule.length ∧
      SRel (run s schedule) (runA sa (orderOf ks schedule)) := by
  induction schedule generalizing s sa with
  | nil => exact ⟨[], rfl, h⟩
  | cons tid rest ih =>
    obtain ⟨k, hk⟩ := step_sim s sa tid h
    obtain ⟨ks, hlen, hks⟩ := ih (step s tid) _ hk
    refine ⟨k :: ks, by simp [hlen], ?_⟩
    simp only [orderOf, List.zipWith_cons_cons, List.flatten_cons, runA_append]
    exact hks

def absSys (s : Sys) : ASys :=
  { files := s.files,
    threads := s.threads.map fun t => { calls := t.calls, handle := t.handle, results := t.results } }

/-- **linearizable** (C16, global form). Any number of threads, any programs made of the calls
`create_dir`, `create_file`, `append_file`(open), `write_all`+drop, `remove_file`, `remove_dir`,
`exists`, `metadata`, `read_dir`, `open_file`+read (`LinCall`), no call in progress initially.
For EVERY schedule — complete or not — there is a sequential execution of the same programs on
the sequential reference machine (each call atomic; each thread's calls in program order, by
construction of that machine), namely the calls ordered by their last executed region
(`orderOf ks schedule`), after which
 * the map is the same,
 * every thread has the same handle slot and the same list of results (the exact values,
   observers included),
 * the calls not yet executed by the sequential thread are exactly the calls not yet completed
   by the concurrent thread (a call in progress has only done read-only probes so far). -/
theorem linearizable (s0 : Sys) (h0 : ∀ t ∈ s0.threads, t.cur = none ∧ ∀ c ∈ t.calls, LinCall c)
    (schedule : List Nat) :
    ∃ ks : List Nat, ks.length = schedule.length ∧
      SRel (run s0 schedule) (runA (absSys s0) (orderOf ks schedule)) := by
  apply run_sim
  refine ⟨rfl, by simp [absSys], ?_⟩
  intro i t a ht ha
  simp only [absSys, List.getElem?_map, ht, Option.map_some, Option.some.injEq] at ha
  subst ha
  obtain ⟨h1, h2⟩ := h0 t (List.mem_of_getElem? ht)
  exact ⟨rfl, rfl, h2, Or.inl ⟨h1, rfl⟩⟩

/-- … in particular for a schedule that runs every thread to completion: same final map, and
for every thread the same results, with every call of every program executed by the sequential
machine -/
theorem linearizable_complete (s0 : Sys)
    (h0 : ∀ t ∈ s0.threads, t.cur = none ∧ ∀ c ∈ t.calls, LinCall c) (schedule : List Nat)
    (hfin : ∀ t ∈ (run s0 schedule).threads, t.cur = none ∧ t.calls = []) :
    ∃ order : List Nat,
      (runA (absSys s0) order).files = (run s0 schedule).files ∧
      (runA (absSys s0) order).threads.map (fun a => (a.calls, a.handle, a.results)) =
        (run s0 schedule).threads.map (fun t => ([], t.handle, t.results)) := by
  obtain ⟨ks, _, hrel⟩ := linearizable s0 h0 schedule
  refine ⟨orderOf ks schedule, hrel.files, ?_⟩
  apply List.ext_getElem?
  intro i
  simp only [List.getElem?_map]
  cases ht : (run s0 schedule).threads[i]? with
  | none =>
    have : (runA (absSys s0) (orderOf ks schedule)).threads[i]? = none := by
      rw [List.getElem?_eq_none_iff] at ht ⊢
      rw [hrel.len]; exact ht
    rw [this]; rfl
  | some t =>
    have hlt : i < (runA (absSys s0) (orderOf ks schedule)).threads.length := by
      rw [hrel.len]; exact (List.getElem?_eq_some_iff.1 ht).1
    have ha := List.getElem?_eq_getElem hlt
    have hrel' := hrel.thr i t _ ht ha
    obtain ⟨f1, f2⟩ := hfin t (List.mem_of_getElem? ht)
    rw [ha]
    simp [hrel'.1, hrel'.2.1, hrel'.idle f1, f2]

def pC : Str := ['/', 'c']
def bOld : Bytes := [111, 108, 100]
def bNew : Bytes := [110, 101, 119]
def bA : Bytes := [65]
def bB : Bytes := [66]

def fileWith (b : Bytes) : Entry :=
  { ftype := .file, content := b, created := .now, modified := .now, accessed := .now }

def mC : FMap := [(pC, fileWith bOld), ([], dirEntryNow)]

/-- T0 = `create_file("/c")?.write_all("new")`, drop; T1 = read "/c" -/
def wsSys : Sys :=
  { files := mC, threads := [{ calls := [.writeSession pC bNew] }, { calls := [.read pC] }] }

/-- **writeSession_not_atomic**: a write session is four regions (two probes, `create_file` —
which truncates —, and the publication at drop). Under the schedule t0 t0 t0 t1 t0 the reader
sees the EMPTY file; in the two sequential orders it sees "new" resp. "old". So no sequential
execution of the two calls explains the interleaving: a write session is not atomic. -/
theorem writeSession_not_atomic :
    (run wsSys [0, 0, 0, 1, 0]).threads.map (·.results) = [[.ok .unit], [.ok (.bytes [])]] ∧
    (runA (absSys wsSys) [0, 1]).threads.map (·.results) = [[.ok .unit], [.ok (.bytes bNew)]] ∧
    (runA (absSys wsSys) [1, 0]).threads.map (·.results) = [[.ok .unit], [.ok (.bytes bOld)]] := by
  decide +kernel

/-- T0 = `append_file("/c")?.write_all("A")`, drop; T1 the same with "B" -/
def apSys : Sys :=
  { files := mC,
    threads := [{ calls := [.appendSession pC bA] }, { calls := [.appendSession pC bB] }] }

def contentOf (m : FMap) (p : Str) : Option Bytes := (m.find? p).map (·.content)

/-- **appendSession_lost_update**: an append session is two regions (`append_file` copies the
current content into the handle's buffer; the drop publishes the buffer). Under the schedule
t0 t1 t0 t1 both sessions return `Ok` but the final content is "oldB": the update "A" is lost.
The two sequential orders give "oldAB" and "oldBA". -/
theorem appendSession_lost_update :
    (run apSys [0, 1, 0, 1]).threads.map (·.results) = [[.ok .unit], [.ok .unit]] ∧
    contentOf (run apSys [0, 1, 0, 1]).files pC = some (bOld ++ bB) ∧
    contentOf (runA (absSys apSys) [0, 1]).files pC = some (bOld ++ bA ++ bB) ∧
    contentOf (runA (absSys apSys) [1, 0]).files pC = some (bOld ++ bB ++ bA) := by
  decide +kernel

/-- program points of the variant model: those of Conc.lean, plus the two regions
`MemoryFS::create_dir` has in the crate up to commit 17b99c0: `ensure_has_parent` takes the lock on
its own and only looks whether the parent EXISTS; the insertion happens under a second acquisition,
with no check of the parent at all -/
inductive OPt where
  | std (pt : Pt)
  | ensureOld (p : Str)
  | insertOld (p : Str)
  deriving Repr, DecidableEq

/-- the variant region function: `VfsPath::create_dir` is `exists(parent)` → `metadata(parent)` →
`ensureOld` → `insertOld`; everything else as in `region` -/
def regionOld (m : FMap) : OPt → FMap × (OPt ⊕ CRes)
  | .std (.gpMeta p false none) =>
    match (region m (.gpMeta p false none)).next with
    | .inl _ => (m, .inl (.ensureOld p))
    | .inr r => (m, .inr r)
  | .std pt =>
    ((region m pt).files,
      match (region m pt).next with
      | .inl pt' => .inl (.std pt')
      | .inr r => .inr r)
  | .ensureOld p =>
    if '/' ∈ p ∧ m.contains (parentInternal p) then (m, .inl (.insertOld p)) else (m, .inr .err)
  | .insertOld p =>
    match m.find? p with
    | some _ => (m, .inr .err)
    | none => (m.insert p dirEntryNow, .inr (.ok .unit))

structure OThread where
  cur : Option OPt
  result : Option CRes := none
  deriving Repr, DecidableEq

def stepOld (s : FMap × List OThread) (tid : Nat) : FMap × List OThread :=
  match s.2[tid]? with
  | none => s
  | some t =>
    match t.cur with
    | none => s
    | some pt =>
      match (regionOld s.1 pt).2 with
      | .inl pt' => ((regionOld s.1 pt).1, s.2.set tid { t with cur := some pt' })
      | .inr r => ((regionOld s.1 pt).1, s.2.set tid { cur := none, result := some r })

def runOld (s : FMap × List OThread) (schedule : List Nat) : FMap × List OThread :=
  schedule.foldl stepOld s

def pA : Str := ['/', 'a']
def pAB : Str := ['/', 'a', '/', 'b']

def mA : FMap := [(pA, dirEntryNow), ([], dirEntryNow)]

/-- T0 = `create_dir("/a/b")` with the two-region `MemoryFS::create_dir`, T1 = `remove_dir("/a")`
(one region, as in Conc.lean) -/
def raceOld : FMap × List OThread :=
  (mA, [{ cur := some (.std (.gpExists pAB false none)) }, { cur := some (.std (.rmDir pA)) }])

theorem raceOld_run :
    (runOld raceOld [0, 0, 0, 1, 0]).2.map (·.result) = [some (.ok .unit), some (.ok .unit)] ∧
    (runOld raceOld [0, 0, 0, 1, 0]).1.find? pAB = some dirEntryNow ∧
    (runOld raceOld [0, 0, 0, 1, 0]).1.find? pA = none := by
  decide +kernel

/-- **old_createDir_race**: with `MemoryFS::create_dir` in two regions the schedule
t0 t0 t0 t1 t0 lets BOTH calls return `Ok`, and leaves "/a/b" in a map without "/a": the tree
is not well-formed. (`wf_invariant`: this cannot happen in the model of Conc.lean, where the parent
is checked in the region of the insertion.) -/
theorem old_createDir_race :
    (runOld raceOld [0, 0, 0, 1, 0]).2.map (·.result) = [some (.ok .unit), some (.ok .unit)] ∧
    ¬ WF (runOld raceOld [0, 0, 0, 1, 0]).1 := by
  obtain ⟨h1, h2, h3⟩ := raceOld_run
  refine ⟨h1, ?_⟩
  intro hwf
  obtain ⟨_, pe, hpe, _⟩ := hwf.2 pAB dirEntryNow h2 (by decide)
  have hpar : parentInternal pAB = pA := by decide
  rw [hpar, h3] at hpe
  cases hpe

/-- the same two calls in the model of Conc.lean, same kind of schedule: `create_dir` checks the
parent inside its last region, fails, and the tree is well-formed (root only) -/
theorem race_fixed :
    (run { files := mA, threads := [{ calls := [.createDir pAB] }, { calls := [.removeDir pA] }] }
        [0, 0, 1, 0]).threads.map (·.results) = [[.err], [.ok .unit]] ∧
    (run { files := mA, threads := [{ calls := [.createDir pAB] }, { calls := [.removeDir pA] }] }
        [0, 0, 1, 0]).files.keys = [[]] := by
  decide +kernel

/-- `create_dir_all` is NOT linearizable against a concurrent removal (it is a loop of separate
`create_dir` calls): t0 creates "/a", t1 removes it, t0 fails on "/a/b". Sequentially either
`create_dir_all` succeeds (and `remove_dir` fails: not empty), or `remove_dir` fails first (not
found). This is why C17 assumes that nothing is removed. -/
theorem createDirAll_not_atomic_under_removal :
    (run { files := Mem.init, threads := [{ calls := [.createDirAll pAB] }, { calls := [.removeDir pA] }] }
        [0, 1, 0]).threads.map (·.results) = [[.err], [.ok .unit]] ∧
    (runA { files := Mem.init, threads := [{ calls := [.createDirAll pAB] }, { calls := [.removeDir pA] }] }
        [0, 1]).threads.map (·.results) = [[.ok .unit], [.err]] ∧
    (runA { files := Mem.init, threads := [{ calls := [.createDirAll pAB] }, { calls := [.removeDir pA] }] }
        [1, 0]).threads.map (·.results) = [[.ok .unit], [.err]] := by
  decide +kernel

def sessExtra : Option Bytes → Nat
  | none => 0
  | some _ => 1

/-- an upper bound for the number of regions a call in progress at `pt` still executes -/
def ptMeasure : Pt → Nat
  | .gpExists _ _ s => 3 + sessExtra s
  | .gpMeta _ _ s => 2 + sessExtra s
  | .cfCreate _ s => 1 + sessExtra s
  | .apOpen _ s => 1 + sessExtra s
  | .cdaLoop l => l.length + 1
  | _ => 1

/-- an upper bound for the number of regions of a call, `+1` for calls that may have none -/
def callMeasure : COp → Nat
  | .createDir _ => 3
  | .createFile _ => 3
  | .writeSession _ _ => 4
  | .appendSession _ _ => 2
  | .createDirAll p => (VPath.dirPrefixes p).length + 1
  | _ => 1

def measure (t : Thread) : Nat :=
  (match t.cur with
    | some pt => ptMeasure pt
    | none => 0) + (t.calls.map callMeasure).sum

theorem ptMeasure_pos (pt : Pt) : 0 < ptMeasure pt := by
  cases pt <;> simp [ptMeasure] <;> omega

theorem callMeasure_pos (c : COp) : 0 < callMeasure c := by
  cases c <;> simp [callMeasure]

theorem start_measure (h : Option WH) (c : COp) (pt : Pt) (hs : start h c = .inl pt) :
    ptMeasure pt ≤ callMeasure c := by
  cases c with
  | writeDrop bs =>
    cases h <;> simp only [start, Sum.inl.injEq, reduceCtorEq] at hs
    subst hs; simp [ptMeasure, callMeasure]
  | createDirAll p =>
    simp only [start] at hs
    split at hs
    · cases hs
    · injection hs with hs; subst hs; simp [ptMeasure, callMeasure]
  | _ =>
    simp only [start, Sum.inl.injEq] at hs
    subst hs; simp [ptMeasure, callMeasure, sessExtra]

theorem region_measure (m : FMap) (pt pt' : Pt) (h : (region m pt).next = .inl pt') :
    ptMeasure pt' < ptMeasure pt := by
  rcases region_next_inl m pt pt' h with
    ⟨_, _, _, rfl, rfl⟩ | ⟨_, f, _, rfl, rfl⟩ | ⟨_, _, _, rfl, rfl⟩ | ⟨_, _, _, rfl, rfl⟩ |
    ⟨_, _, rfl, rfl⟩
  · simp [ptMeasure]
  · cases f <;> simp [ptMeasure] <;> omega
  · simp [ptMeasure, sessExtra]
  · simp [ptMeasure, sessExtra]
  · simp [ptMeasure]

theorem settle_measure (fuel : Nat) (t : Thread) : measure (settle fuel t) ≤ measure t := by
  refine settle_induction (P := fun t' => measure t' ≤ measure t) ?_ ?_ fuel t (Nat.le_refl _)
  · intro t' c rest pt h hcur hcalls hs
    refine Nat.le_trans ?_ h
    have := start_measure _ _ _ hs
    simp only [measure, hcur, hcalls, List.map_cons, List.sum_cons]
    omega
  · intro t' c rest r h hcur hcalls _
    refine Nat.le_trans ?_ h
    simp only [measure, hcur, hcalls, List.map_cons, List.sum_cons]
    omega

theorem settle_idle_lt (n : Nat) (t : Thread) (hcur : t.cur = none) (hcalls : t.calls ≠ [])
    (hidle : (settle (n + 1) t).cur = none) : measure (settle (n + 1) t) < measure t := by
  unfold settle at hidle ⊢
  simp only [hcur] at hidle ⊢
  cases hc : t.calls with
  | nil => exact absurd hc hcalls
  | cons c rest =>
    simp only [hc] at hidle ⊢
    cases hs : start t.handle c with
    | inl pt => simp only [hs] at hidle; cases hidle
    | inr r =>
      simp only [hs] at hidle ⊢
      refine Nat.lt_of_le_of_lt (settle_measure n _) ?_
      have := callMeasure_pos c
      simp only [measure, hcur, hc, List.map_cons, List.sum_cons]
      omega

theorem stepThread_progress (m : FMap) (t : Thread) (hw : t.cur ≠ none ∨ t.calls ≠ []) :
    measure (stepThread m t).2 < measure t := by
  have h0 := settle_measure (t.calls.length + 1) t
  cases hcur : (settle (t.calls.length + 1) t).cur with
  | none =>
    rw [stepThread_idle m t hcur]
    cases hc : t.cur with
    | some pt0 =>
      have : settle (t.calls.length + 1) t = t := by unfold settle; simp only [hc]
      rw [this, hc] at hcur; cases hcur
    | none => exact settle_idle_lt _ t hc (hw.resolve_left fun h => h hc) hcur
  | some pt =>
    have h1 : measure (settle (t.calls.length + 1) t) =
        ptMeasure pt + ((settle (t.calls.length + 1) t).calls.map callMeasure).sum := by
      simp only [measure, hcur]
    cases hn : (region m pt).next with
    | inl pt' =>
      rw [stepThread_inl m t pt pt' hcur hn]
      have := region_measure m pt pt' hn
      simp only [measure, afterRegion_calls] at h0 h1 ⊢
      omega
    | inr r =>
      rw [stepThread_inr m t pt r hcur hn]
      refine Nat.lt_of_le_of_lt (settle_measure _ _) ?_
      have := ptMeasure_pos pt
      simp only [measure, afterRegion_calls] at h0 h1 ⊢
      omega

/-- **step_progress**: `step` is a total function (no region can block: each region is one
acquisition of the one lock, released at its end; no region returns a panic), and a scheduled
thread that has a call in progress or calls left strictly decreases its remaining-work measure.
So every thread scheduled often enough finishes: no deadlock, no livelock. -/
theorem step_progress (s : Sys) (tid : Nat) (t : Thread) (hg : s.threads[tid]? = some t)
    (hw : t.cur ≠ none ∨ t.calls ≠ []) :
    ∃ t', (step s tid).threads[tid]? = some t' ∧ measure t' < measure t := by
  have hlt : tid < s.threads.length := (List.getElem?_eq_some_iff.1 hg).1
  refine ⟨(stepThread s.files t).2, ?_, stepThread_progress s.files t hw⟩
  rw [step_of_some s tid t hg]
  exact List.getElem?_set_self hlt

theorem step_other (s : Sys) (tid i : Nat) (hi : tid ≠ i) :
    (step s tid).threads[i]? = s.threads[i]? := by
  cases hg : s.threads[tid]? with
  | none => rw [step_of_none s tid hg]
  | some t => rw [step_of_some s tid t hg]; exact List.getElem?_set_ne hi

theorem stepThread_finished (m : FMap) (t : Thread) (h1 : t.cur = none) (h2 : t.calls = []) :
    stepThread m t = (m, t) := by
  have : settle (t.calls.length + 1) t = t := by unfold settle; simp only [h1, h2]
  rw [stepThread_idle m t (by rw [this]; exact h1), this]

theorem mem_ops_no_panic (m : FMap) (p : Str) :
    (Mem.createDir m p).1 ≠ .panic ∧ (Mem.createFile m p).1 ≠ .panic ∧
    (Mem.removeFile m p).1 ≠ .panic ∧ (Mem.removeDir m p).1 ≠ .panic ∧
    (Mem.openFile m p).1 ≠ .panic ∧ Mem.appendFile m p ≠ .panic ∧
    Mem.metadata m p ≠ .panic ∧ Mem.readDir m p ≠ .panic :=
  ⟨Mem.createDir_np m p, Mem.createFile_np m p, Mem.removeFile_np m p, Mem.removeDir_np m p,
    Mem.openFile_np m p, Mem.appendFile_np m p, Mem.metadata_np m p, Mem.readDir_np m p⟩

end Vfs.C16
