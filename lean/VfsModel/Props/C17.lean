/-
  C17: concurrent `create_dir_all` calls on one MemoryFS all succeed, under every schedule
  (`create_dir_all_concurrent`; `create_dir_all_concurrent_progs` for threads that make a sequence
  of such calls).

  Object: the concurrency model VfsModel/Conc.lean; `create_dir_all` is one lock region
  (`MemoryFS::create_dir`) per prefix, `DirectoryExists` tolerated (`Pt.cdaLoop`, src/path.rs
  `create_dir_all`). The programs contain nothing else, so nothing is removed and no file is created.

  The idea (`stepThread_cda`): the region for prefix k finds its parent (prefix k-1, made by the
  thread's previous region or found, or the root) a directory, so `MemoryFS::create_dir` returns Ok
  or DirectoryExists, both of which `cdaLoop` treats as success.
-/
import VfsModel.Proofs.ConcLemmas
import VfsModel.Proofs.TransferLemmas
namespace Vfs.C17
open Vfs Vfs.Conc

def IsDir (m : FMap) (q : Str) : Prop := ∃ e, m.find? q = some e ∧ e.ftype = .dir

structure Grow (m m' : FMap) : Prop where
  keeps : ∀ k e, m.find? k = some e → m'.find? k = some e
  newDirs : ∀ k e, m'.find? k = some e → m.find? k = some e ∨ e.ftype = .dir

theorem Grow.refl (m : FMap) : Grow m m := ⟨fun _ _ h => h, fun _ _ h => Or.inl h⟩

theorem Grow.trans {a b c : FMap} (h1 : Grow a b) (h2 : Grow b c) : Grow a c := by
  refine ⟨fun k e h => h2.keeps k e (h1.keeps k e h), ?_⟩
  intro k e h
  rcases h2.newDirs k e h with h | h
  · exact h1.newDirs k e h
  · exact Or.inr h

theorem Grow.isDir {m m' : FMap} (h : Grow m m') {q : Str} (hq : IsDir m q) : IsDir m' q := by
  obtain ⟨e, he, hd⟩ := hq
  exact ⟨e, h.keeps q e he, hd⟩

theorem Grow.no_new_file {m m' : FMap} (h : Grow m m') (k : Str) (e : Entry)
    (he : m'.find? k = some e) (hf : e.ftype = .file) : m.find? k = some e := by
  rcases h.newDirs k e he with h' | h'
  · exact h'
  · rw [hf] at h'; cases h'

theorem createDir_grow (m : FMap) (d : Str) : Grow m (Mem.createDir m d).2 :=
  ⟨fun k e => (Mem.createDir_find m d k e).1, fun k e h =>
    ((Mem.createDir_find m d k e).2 h).imp_right fun h => by rw [h.2]; rfl⟩

/-- the one region `create_dir_all` is made of, when the parent is a directory and no file is in
the way: `Ok` or `DirectoryExists`, and afterwards the directory is there -/
theorem createDir_ok_or_exists (m : FMap) (d : Str) (hs : '/' ∈ d)
    (hp : IsDir m (parentInternal d)) (hnf : ∀ e, m.find? d = some e → e.ftype = .dir) :
    ((Mem.createDir m d).1 = .ok () ∨ ∃ p, (Mem.createDir m d).1 = .err .dirExists p) ∧
    IsDir (Mem.createDir m d).2 d :=
  let ⟨h1, h2⟩ := Mem.createDir_dir m d hs hp hnf
  ⟨h1.imp_right fun h => ⟨none, h⟩, h2⟩

theorem region_cdaLoop_ok (m : FMap) (d : Str) (rest : List Str)
    (h : (Mem.createDir m d).1 = .ok () ∨ ∃ p, (Mem.createDir m d).1 = .err .dirExists p) :
    (region m (.cdaLoop (d :: rest))).next = (if rest = [] then okUnit else .inl (.cdaLoop rest)) := by
  cases hc : Mem.createDir m d with
  | mk r m' =>
    rw [hc] at h
    rcases h with h | ⟨p, h⟩
    · simp only at h; subst h; simp only [region, hc]
    · simp only at h; subst h; simp only [region, hc]

theorem ancChain_length (cs : List Str) : (ancChain cs).length = cs.length := by simp [ancChain]

theorem ancChain_drop (cs : List Str) (k : Nat) (hk : k < cs.length) :
    (ancChain cs).drop k = renderC (cs.take (k + 1)) :: (ancChain cs).drop (k + 1) := by
  rw [List.drop_eq_getElem_cons (by rw [ancChain_length]; exact hk)]
  simp [ancChain]

theorem prefix_facts (cs : List Str) (hsl : ∀ c ∈ cs, '/' ∉ c) (k : Nat) (hk : k < cs.length) :
    '/' ∈ renderC (cs.take (k + 1)) ∧
    parentInternal (renderC (cs.take (k + 1))) = renderC (cs.take k) := by
  rw [take_succ_snoc cs k hk, renderC_snoc]
  exact ⟨by simp, parent_of_child _ _ (hsl _ (List.getElem_mem hk))⟩

def mk (cs : List Str) : COp := .createDirAll (renderC cs)

def AllDirs (m : FMap) (cs : List Str) : Prop := ∀ q ∈ ancChain cs, IsDir m q

def NoFile (m : FMap) (prog : List (List Str)) : Prop :=
  ∀ cs ∈ prog, ∀ q ∈ ancChain cs, ∀ e, m.find? q = some e → e.ftype = .dir

/-- the state of a thread whose program is `create_dir_all` on the paths `prog`, one after the
other: the calls `done` have returned `Ok` and all their prefixes are directories; the calls
`rest` have not started; in between possibly one call in progress, about to create prefix `k`,
whose prefixes `0 … k-1` are directories -/
def TInv (m : FMap) (prog : List (List Str)) (t : Thread) : Prop :=
  ∃ done rest : List (List Str),
    t.calls = rest.map mk ∧
    t.results = done.map (fun _ => CRes.ok .unit) ∧
    (∀ cs ∈ done, AllDirs m cs) ∧
    ((t.cur = none ∧ prog = done ++ rest) ∨
     (∃ cs k, prog = done ++ cs :: rest ∧ k < cs.length ∧
        t.cur = some (.cdaLoop ((ancChain cs).drop k)) ∧
        ∀ j, j < k → IsDir m (renderC (cs.take (j + 1)))))

theorem TInv.mono {m m' : FMap} {prog : List (List Str)} {t : Thread} (h : TInv m prog t)
    (hg : Grow m m') : TInv m' prog t := by
  obtain ⟨done, rest, h1, h2, h3, h4⟩ := h
  refine ⟨done, rest, h1, h2, fun cs hcs q hq => hg.isDir (h3 cs hcs q hq), ?_⟩
  rcases h4 with h4 | ⟨cs, k, h5, h6, h7, h8⟩
  · exact Or.inl h4
  · exact Or.inr ⟨cs, k, h5, h6, h7, fun j hj => hg.isDir (h8 j hj)⟩

theorem NoFile.mono {m m' : FMap} {prog : List (List Str)} (h : NoFile m prog) (hg : Grow m m') :
    NoFile m' prog := by
  intro cs hcs q hq e he
  rcases hg.newDirs q e he with h' | h'
  · exact h cs hcs q hq e h'
  · exact h'

theorem start_mk (h : Option WH) (cs : List Str) (hsl : ∀ c ∈ cs, '/' ∉ c) :
    start h (mk cs) =
      if cs = [] then .inr (.ok .unit) else .inl (.cdaLoop (ancChain cs)) := by
  cases cs with
  | nil => rfl
  | cons c cs' =>
    have hne : renderC (c :: cs') ≠ [] := by simp
    simp only [mk, start, hne, ↓reduceIte, dirPrefixes_renderC_ancChain _ hsl, reduceCtorEq]

theorem TInv.idle {m : FMap} {prog : List (List Str)} {t : Thread} (h : TInv m prog t)
    (hcur : t.cur = none) : ∃ done rest, t.calls = rest.map mk ∧
      t.results = done.map (fun _ => CRes.ok .unit) ∧ (∀ cs ∈ done, AllDirs m cs) ∧
      prog = done ++ rest := by
  obtain ⟨done, rest, h1, h2, h3, ⟨_, h4⟩ | ⟨_, _, _, _, h7, _⟩⟩ := h
  · exact ⟨done, rest, h1, h2, h3, h4⟩
  · rw [hcur] at h7; cases h7

theorem TInv.busy {m : FMap} {prog : List (List Str)} {t : Thread} {pt : Pt} (h : TInv m prog t)
    (hcur : t.cur = some pt) : ∃ done rest cs k, t.calls = rest.map mk ∧
      t.results = done.map (fun _ => CRes.ok .unit) ∧ (∀ cs ∈ done, AllDirs m cs) ∧
      prog = done ++ cs :: rest ∧ k < cs.length ∧ pt = .cdaLoop ((ancChain cs).drop k) ∧
      ∀ j, j < k → IsDir m (renderC (cs.take (j + 1))) := by
  obtain ⟨done, rest, h1, h2, h3, ⟨h4, _⟩ | ⟨cs, k, h5, h6, h7, h8⟩⟩ := h
  · rw [hcur] at h4; cases h4
  · rw [hcur] at h7; cases h7
    exact ⟨done, rest, cs, k, h1, h2, h3, h5, h6, rfl, h8⟩

/-- the region of `create_dir_all` for prefix `k` of `cs`, the earlier prefixes being directories -/
theorem region_prefix {m : FMap} {cs : List Str} (hsl : ∀ c ∈ cs, '/' ∉ c) {k : Nat}
    (hk : k < cs.length) (hwf : WF m) (hnf : ∀ q ∈ ancChain cs, ∀ e, m.find? q = some e → e.ftype = .dir)
    (hbefore : ∀ j, j < k → IsDir m (renderC (cs.take (j + 1)))) :
    (region m (.cdaLoop ((ancChain cs).drop k))).files = (Mem.createDir m (renderC (cs.take (k + 1)))).2 ∧
    (region m (.cdaLoop ((ancChain cs).drop k))).next =
      (if k + 1 < cs.length then .inl (.cdaLoop ((ancChain cs).drop (k + 1))) else okUnit) ∧
    IsDir (Mem.createDir m (renderC (cs.take (k + 1)))).2 (renderC (cs.take (k + 1))) := by
  obtain ⟨hslash, hpar⟩ := prefix_facts cs hsl k hk
  have hparent : IsDir m (parentInternal (renderC (cs.take (k + 1)))) := by
    rw [hpar]
    cases k with
    | zero => exact hwf.1
    | succ k' => exact hbefore k' (Nat.lt_succ_self k')
  obtain ⟨hres, hnow⟩ := createDir_ok_or_exists m _ hslash hparent
    (hnf _ ((mem_ancChain cs _).2 ⟨k, hk, rfl⟩))
  rw [ancChain_drop cs k hk]
  refine ⟨by rw [region_files]; rfl, ?_, hnow⟩
  rw [region_cdaLoop_ok m _ _ hres]
  have hiff : (ancChain cs).drop (k + 1) = [] ↔ ¬ k + 1 < cs.length := by
    rw [List.drop_eq_nil_iff, ancChain_length]; omega
  by_cases h : k + 1 < cs.length
  · rw [if_pos h, if_neg (fun e => hiff.1 e h)]
  · rw [if_neg h, if_pos (hiff.2 h)]

theorem stepThread_cda (m : FMap) (prog : List (List Str)) (t : Thread)
    (hsl : ∀ cs ∈ prog, ∀ c ∈ cs, '/' ∉ c) (hwf : WF m) (hnf : NoFile m prog)
    (ht : TInv m prog t) :
    Grow m (stepThread m t).1 ∧ WF (stepThread m t).1 ∧
      TInv (stepThread m t).1 prog (stepThread m t).2 := by
  refine stepThread_induction
    (P := fun m' t' => Grow m m' ∧ WF m' ∧ TInv m' prog t') ?_ ?_ ?_ ?_ m t ⟨Grow.refl m, hwf, ht⟩
  · -- a call on a non-empty path begins: about to create prefix 0
    rintro m' t c rest' pt ⟨hg, hw, hT⟩ hcur hcalls hs
    obtain ⟨done, rest, h1, h2, h3, hprog⟩ := TInv.idle hT hcur
    cases rest with
    | nil => rw [hcalls] at h1; cases h1
    | cons cs rest =>
      rw [hcalls] at h1; injection h1 with hc hr
      rw [hc, start_mk _ cs (hsl cs (by rw [hprog]; simp))] at hs
      split at hs
      · cases hs
      · rename_i hne
        injection hs with hs
        exact ⟨hg, hw, done, rest, hr, h2, h3, Or.inr ⟨cs, 0, hprog, List.length_pos_iff.2 hne,
          by rw [← hs]; rfl, fun j hj => by cases hj⟩⟩
  · -- a call on the root path completes at once
    rintro m' t c rest' r ⟨hg, hw, hT⟩ hcur hcalls hs
    obtain ⟨done, rest, h1, h2, h3, hprog⟩ := TInv.idle hT hcur
    cases rest with
    | nil => rw [hcalls] at h1; cases h1
    | cons cs rest =>
      rw [hcalls] at h1; injection h1 with hc hr
      rw [hc, start_mk _ cs (hsl cs (by rw [hprog]; simp))] at hs
      split at hs
      · rename_i hnil
        injection hs with hs
        refine ⟨hg, hw, done ++ [cs], rest, hr, by simp [h2, ← hs], ?_, Or.inl ⟨hcur, by simp [hprog]⟩⟩
        intro cs' hcs'
        rcases List.mem_append.1 hcs' with hcs' | hcs'
        · exact h3 cs' hcs'
        · rw [List.mem_singleton.1 hcs', hnil]; intro q hq; simp at hq
      · cases hs
  all_goals
    rintro m' t pt x ⟨hg, hw, hT⟩ hcur hn
    obtain ⟨done, rest, cs, k, h1, h2, h3, hprog, hk, rfl, hbefore⟩ := TInv.busy hT hcur
    have hcs : cs ∈ prog := by rw [hprog]; simp
    obtain ⟨hfiles, hnext, hnow⟩ := region_prefix (hsl cs hcs) hk hw
      ((hnf.mono hg) cs hcs) hbefore
    have hgrow : Grow m' (region m' (.cdaLoop ((ancChain cs).drop k))).files := by
      rw [hfiles]; exact createDir_grow m' _
    have hbefore' : ∀ j, j < k + 1 →
        IsDir (region m' (.cdaLoop ((ancChain cs).drop k))).files (renderC (cs.take (j + 1))) := by
      intro j hj
      rcases Nat.lt_succ_iff_lt_or_eq.1 hj with hj | rfl
      · exact hgrow.isDir (hbefore j hj)
      · rw [hfiles]; exact hnow
    refine ⟨hg.trans hgrow, by rw [hfiles]; exact hw.createDir_any _, ?_⟩
    rw [hnext] at hn
    split at hn
  -- a continuing region is not the last prefix, a completing one is
  · -- prefix k created, prefix k+1 is next
    rename_i hlt
    injection hn with hn
    exact ⟨done, rest, by simpa using h1, by simpa using h2,
      fun cs' hcs' q hq => hgrow.isDir (h3 cs' hcs' q hq),
      Or.inr ⟨cs, k + 1, hprog, hlt, by rw [← hn], hbefore'⟩⟩
  · cases hn
  · cases hn
  · -- the last prefix: the call returns `Ok`
    injection hn with hn
    refine ⟨done ++ [cs], rest, by simpa using h1, by simp [h2, ← hn], ?_,
      Or.inl ⟨rfl, by simp [hprog]⟩⟩
    intro cs' hcs' q hq
    rcases List.mem_append.1 hcs' with hcs' | hcs'
    · exact hgrow.isDir (h3 cs' hcs' q hq)
    · rw [List.mem_singleton.1 hcs'] at hq
      obtain ⟨j, hj, rfl⟩ := (mem_ancChain _ q).1 hq
      exact hbefore' j (by omega)

structure SInv (m0 : FMap) (progs : List (List (List Str))) (s : Sys) : Prop where
  wf : WF s.files
  grow : Grow m0 s.files
  nofile : ∀ prog ∈ progs, NoFile s.files prog
  len : s.threads.length = progs.length
  thr : ∀ (i : Nat) (prog : List (List Str)) (t : Thread),
    progs[i]? = some prog → s.threads[i]? = some t → TInv s.files prog t

theorem step_inv (m0 : FMap) (progs : List (List (List Str)))
    (hsl : ∀ prog ∈ progs, ∀ cs ∈ prog, ∀ c ∈ cs, '/' ∉ c) (s : Sys) (tid : Nat)
    (h : SInv m0 progs s) : SInv m0 progs (step s tid) := by
  cases hg : s.threads[tid]? with
  | none => rw [step_of_none s tid hg]; exact h
  | some t =>
    rw [step_of_some s tid t hg]
    have htid : tid < progs.length := by
      rw [← h.len]; exact (List.getElem?_eq_some_iff.1 hg).1
    have hprog : progs[tid]? = some progs[tid] := List.getElem?_eq_getElem htid
    have hmem : progs[tid] ∈ progs := List.getElem_mem htid
    obtain ⟨hgrow, hwf, hinv⟩ := stepThread_cda s.files progs[tid] t (hsl _ hmem) h.wf
      (h.nofile _ hmem) (h.thr tid _ t hprog hg)
    refine ⟨hwf, h.grow.trans hgrow, fun prog hp => (h.nofile prog hp).mono hgrow,
      by simp [h.len], fun i prog t' hp ht' => ?_⟩
    refine forall_getElem?_set (F := fun i t => ∀ prog, progs[i]? = some prog → TInv s.files prog t)
      (fun i t ht prog hp => h.thr i prog t hp ht) (fun i t _ hF prog hp => (hF prog hp).mono hgrow)
      (fun prog hp => ?_) i t' ht' prog hp
    rw [hprog] at hp; cases hp; exact hinv

theorem init_inv (m : FMap) (progs : List (List (List Str))) (hm : WF m)
    (hnf : ∀ prog ∈ progs, NoFile m prog) :
    SInv m progs { files := m, threads := progs.map fun prog => { calls := prog.map mk } } := by
  refine ⟨hm, Grow.refl m, hnf, by simp, ?_⟩
  intro i prog t hp ht
  simp only [List.getElem?_map, hp, Option.map_some, Option.some.injEq] at ht
  subst ht
  exact ⟨[], prog, rfl, rfl, by simp, Or.inl ⟨rfl, rfl⟩⟩

theorem run_inv (m : FMap) (progs : List (List (List Str))) (hm : WF m)
    (hsl : ∀ prog ∈ progs, ∀ cs ∈ prog, ∀ c ∈ cs, '/' ∉ c)
    (hnf : ∀ prog ∈ progs, NoFile m prog) (schedule : List Nat) :
    SInv m progs
      (run { files := m, threads := progs.map fun prog => { calls := prog.map mk } } schedule) :=
  run_invariant (SInv m progs) (fun s tid h => step_inv m progs hsl s tid h) _
    (init_inv m progs hm hnf) schedule

def Finished (t : Thread) : Prop := t.cur = none ∧ t.calls = []

theorem TInv.results_ok {m : FMap} {prog : List (List Str)} {t : Thread} (h : TInv m prog t) :
    ∀ r ∈ t.results, r = .ok .unit := by
  obtain ⟨done, rest, _, h2, _, _⟩ := h
  intro r hr
  rw [h2] at hr
  simp only [List.mem_map] at hr
  obtain ⟨_, _, rfl⟩ := hr
  rfl

theorem TInv.finished {m : FMap} {prog : List (List Str)} {t : Thread} (h : TInv m prog t)
    (hf : Finished t) :
    t.results = prog.map (fun _ => CRes.ok .unit) ∧ ∀ cs ∈ prog, AllDirs m cs := by
  obtain ⟨done, rest, h1, h2, h3, h4⟩ := h
  rcases h4 with ⟨_, hprog⟩ | ⟨cs, k, _, _, h7, _⟩
  · rw [hf.2] at h1
    have : rest = [] := by simpa using h1.symm
    subst this
    simp only [List.append_nil] at hprog
    subst hprog
    exact ⟨h2, h3⟩
  · rw [hf.1] at h7; cases h7

theorem SInv.results_ok {m0 : FMap} {progs : List (List (List Str))} {s : Sys}
    (h : SInv m0 progs s) : ∀ t ∈ s.threads, ∀ r ∈ t.results, r = .ok .unit := by
  intro t ht
  obtain ⟨i, hi⟩ := List.mem_iff_getElem?.1 ht
  have hlt : i < progs.length := by rw [← h.len]; exact (List.getElem?_eq_some_iff.1 hi).1
  exact (h.thr i _ t (List.getElem?_eq_getElem hlt) hi).results_ok

/-- "no prefix is a file", said with the prefixes `create_dir_all` visits -/
theorem noFile_of {progs : List (List (List Str))}
    (hsl : ∀ prog ∈ progs, ∀ cs ∈ prog, ∀ c ∈ cs, '/' ∉ c) {m : FMap}
    (hnf : ∀ prog ∈ progs, ∀ cs ∈ prog, ∀ q ∈ VPath.dirPrefixes (renderC cs), ∀ e,
      m.find? q = some e → e.ftype = .dir) : ∀ prog ∈ progs, NoFile m prog :=
  fun prog hp cs hcs q hq e he => hnf prog hp cs hcs q
    (by rw [dirPrefixes_renderC_ancChain cs (hsl prog hp cs hcs)]; exact hq) e he

/-- Threads that each make a sequence of `create_dir_all` calls (slash-free components suffice),
no prefix of any path a file at the start (`hnf`). At every moment of every schedule: the map is
the initial one plus directories, no thread has recorded an error, and a finished thread has one
`Ok` per call with every prefix of each of its paths a directory. -/
theorem create_dir_all_concurrent_progs (m : FMap) (progs : List (List (List Str))) (hm : WF m)
    (hsl : ∀ prog ∈ progs, ∀ cs ∈ prog, ∀ c ∈ cs, '/' ∉ c)
    (hnf : ∀ prog ∈ progs, ∀ cs ∈ prog, ∀ q ∈ VPath.dirPrefixes (renderC cs), ∀ e,
      m.find? q = some e → e.ftype = .dir)
    (schedule : List Nat) :
    let s := run { files := m, threads := progs.map fun prog => { calls := prog.map mk } } schedule
    (WF s.files ∧ Grow m s.files) ∧
    (∀ t ∈ s.threads, ∀ r ∈ t.results, r = .ok .unit) ∧
    (∀ (i : Nat) (prog : List (List Str)) (t : Thread),
      progs[i]? = some prog → s.threads[i]? = some t → Finished t →
      t.results = prog.map (fun _ => CRes.ok .unit) ∧
      ∀ cs ∈ prog, ∀ q ∈ VPath.dirPrefixes (renderC cs), IsDir s.files q) := by
  intro s
  have hinv : SInv m progs s := run_inv m progs hm hsl (noFile_of hsl hnf) schedule
  refine ⟨⟨hinv.wf, hinv.grow⟩, hinv.results_ok, fun i prog t hp ht hf => ?_⟩
  obtain ⟨h1, h2⟩ := (hinv.thr i prog t hp ht).finished hf
  refine ⟨h1, fun cs hcs q hq => h2 cs hcs q ?_⟩
  rwa [dirPrefixes_renderC_ancChain cs (hsl prog (List.mem_of_getElem? hp) cs hcs)] at hq

/-- C17: any number of threads, thread `i` one call of `create_dir_all` on `renderC cs_i`, paths
overlapping in any way, no prefix of any of them a file at the start (`hnf`). For every schedule:
the map only grows by directories, no thread ever records an error, and once all have finished
every thread has returned exactly `Ok(())` and every requested path and each ancestor is a
directory. -/
theorem create_dir_all_concurrent (m : FMap) (paths : List (List Str)) (hm : WF m)
    (hgood : ∀ cs ∈ paths, ∀ c ∈ cs, GoodComp c)
    (hnf : ∀ cs ∈ paths, ∀ q ∈ VPath.dirPrefixes (renderC cs), ∀ e,
      m.find? q = some e → e.ftype = .dir)
    (schedule : List Nat) :
    let s := run { files := m,
                   threads := paths.map fun cs => { calls := [.createDirAll (renderC cs)] } } schedule
    (WF s.files ∧ Grow m s.files) ∧
    (∀ t ∈ s.threads, ∀ r ∈ t.results, r = .ok .unit) ∧
    ((∀ t ∈ s.threads, Finished t) →
      (∀ t ∈ s.threads, t.results = [.ok .unit]) ∧
      (∀ cs ∈ paths, IsDir s.files (renderC cs) ∧
        ∀ q ∈ VPath.dirPrefixes (renderC cs), IsDir s.files q)) := by
  intro s
  -- the instance of the invariant in which thread `i` has the one-call program `[paths[i]]`
  have hsl : ∀ prog ∈ paths.map (fun cs => [cs]), ∀ cs ∈ prog, ∀ c ∈ cs, '/' ∉ c := by
    simp only [List.mem_map, forall_exists_index, and_imp, forall_apply_eq_imp_iff₂,
      List.mem_singleton, forall_eq]
    exact fun cs h c hc => (hgood cs h c hc).2.1
  have hinv : SInv m (paths.map fun cs => [cs]) s := by
    have := run_inv m (paths.map fun cs => [cs]) hm hsl (noFile_of hsl (by simpa using hnf)) schedule
    rwa [List.map_map] at this
  have hlen : s.threads.length = paths.length := by rw [hinv.len, List.length_map]
  have hfin : ∀ i cs t, paths[i]? = some cs → s.threads[i]? = some t → Finished t →
      t.results = [.ok .unit] ∧ AllDirs s.files cs := fun i cs t hp ht hf =>
    let ⟨h1, h2⟩ := (hinv.thr i [cs] t (by simp [hp]) ht).finished hf
    ⟨h1, h2 cs (by simp)⟩
  refine ⟨⟨hinv.wf, hinv.grow⟩, hinv.results_ok, fun hall => ⟨fun t ht => ?_, fun cs hcs => ?_⟩⟩
  · obtain ⟨i, hi⟩ := List.mem_iff_getElem?.1 ht
    have hlt : i < paths.length := by rw [← hlen]; exact (List.getElem?_eq_some_iff.1 hi).1
    exact (hfin i _ t (List.getElem?_eq_getElem hlt) hi (hall t ht)).1
  · obtain ⟨i, hi⟩ := List.mem_iff_getElem?.1 hcs
    have hlt : i < s.threads.length := by rw [hlen]; exact (List.getElem?_eq_some_iff.1 hi).1
    have hdirs := (hfin i cs _ hi (List.getElem?_eq_getElem hlt) (hall _ (List.getElem_mem hlt))).2
    have hanc := dirPrefixes_renderC_ancChain cs (fun c hc => (hgood cs hcs c hc).2.1)
    refine ⟨?_, fun q hq => hdirs q (hanc ▸ hq)⟩
    by_cases hnil : cs = []
    · subst hnil; exact hinv.wf.1
    · exact hdirs _ (renderC_mem_ancChain cs hnil)

/-! ## The same argument for the path-level `create_dir` (parametric remark)

The proof above only uses: the regions before the last one READ facts that are monotone under
`Grow` ("the parent is a directory"), and the last region is "insert, or `DirectoryExists`".
`VfsPath::create_dir` has exactly this shape (`exists(parent)`, `metadata(parent)`,
`MemoryFS::create_dir`), so a thread that walks the prefixes with `VfsPath::create_dir` and
tolerates `DirectoryExists` (what AltrootFS does through its inner `VfsPath`) cannot fail either,
as long as the other threads only add directories. -/

theorem createDir_regions_monotone (p : Str) (hs : '/' ∈ p) (m1 m2 m3 : FMap)
    (g12 : Grow m1 m2) (g23 : Grow m2 m3) (hp : IsDir m1 (parentInternal p))
    (hnf : ∀ e, m3.find? p = some e → e.ftype = .dir) :
    (region m1 (.gpExists p false none)).next = .inl (.gpMeta p false none) ∧
    (region m2 (.gpMeta p false none)).next = .inl (.cdCreate p) ∧
    ((Mem.createDir m3 p).1 = .ok () ∨ ∃ q, (Mem.createDir m3 p).1 = .err .dirExists q) ∧
    (region m3 (.cdCreate p)).files = (Mem.createDir m3 p).2 ∧
    IsDir (Mem.createDir m3 p).2 p ∧ Grow m3 (Mem.createDir m3 p).2 := by
  have hp2 : IsDir m2 (parentInternal p) := g12.isDir hp
  have hp3 : IsDir m3 (parentInternal p) := g23.isDir hp2
  obtain ⟨h1, h2⟩ := createDir_ok_or_exists m3 p hs hp3 hnf
  refine ⟨?_, ?_, h1, ?_, h2, createDir_grow m3 p⟩
  · rw [(gp_ok m1 p false none hp).1]
  · rw [(gp_ok m2 p false none hp2).2]; rfl
  · rw [region_cdCreate]

/-- … at prefix `k` of a canonical path: if prefix `k-1` was a directory when the thread started
on prefix `k` (it made it itself, or found it), the three regions of `VfsPath::create_dir` on
prefix `k` pass, whatever directories the other threads add in between -/
theorem createDir_prefix_monotone (cs : List Str) (hsl : ∀ c ∈ cs, '/' ∉ c) (k : Nat)
    (hk : k < cs.length) (m1 m2 m3 : FMap) (g12 : Grow m1 m2) (g23 : Grow m2 m3)
    (hprev : IsDir m1 (renderC (cs.take k)))
    (hnf : ∀ e, m3.find? (renderC (cs.take (k + 1))) = some e → e.ftype = .dir) :
    let p := renderC (cs.take (k + 1))
    (region m1 (.gpExists p false none)).next = .inl (.gpMeta p false none) ∧
    (region m2 (.gpMeta p false none)).next = .inl (.cdCreate p) ∧
    ((Mem.createDir m3 p).1 = .ok () ∨ ∃ q, (Mem.createDir m3 p).1 = .err .dirExists q) ∧
    IsDir (Mem.createDir m3 p).2 p := by
  intro p
  obtain ⟨hslash, hpar⟩ := prefix_facts cs hsl k hk
  obtain ⟨h1, h2, h3, _, h5, _⟩ := createDir_regions_monotone p hslash m1 m2 m3 g12 g23
    (by rw [hpar]; exact hprev) hnf
  exact ⟨h1, h2, h3, h5⟩

def cA : Str := ['a']
def cB : Str := ['b']
def cC : Str := ['c']
def pA : Str := ['/', 'a']
def pAB : Str := ['/', 'a', '/', 'b']
def pAC : Str := ['/', 'a', '/', 'c']

/-- T0 = `create_dir_all("/a/b")`, T1 = `create_dir_all("/a/c")` on a fresh MemoryFS -/
def ex : Sys :=
  { files := Mem.init, threads := [{ calls := [.createDirAll pAB] }, { calls := [.createDirAll pAC] }] }

def allOkAllDirs (s : Sys) : Prop :=
  s.threads.map (·.results) = [[.ok .unit], [.ok .unit]] ∧
  [pA, pAB, pAC].map (fun q => (s.files.find? q).map (·.ftype)) = [some .dir, some .dir, some .dir]

instance (s : Sys) : Decidable (allOkAllDirs s) := by unfold allOkAllDirs; exact inferInstance

example : renderC [cA, cB] = pAB ∧ renderC [cA, cC] = pAC := by decide
example : allOkAllDirs (run ex [0, 0, 1, 1]) := by decide +kernel
example : allOkAllDirs (run ex [0, 1, 0, 1]) := by decide +kernel
example : allOkAllDirs (run ex [1, 0, 0, 1]) := by decide +kernel
example : allOkAllDirs (run ex [1, 1, 0, 0, 1, 0]) := by decide +kernel
/-- "/a" is created by the thread that comes first; the other one sees `DirectoryExists` -/
example : (run ex [0, 1]).files.keys = [pA, []] ∧
    (run ex [0, 1]).threads.map (·.cur) = [some (.cdaLoop [pAB]), some (.cdaLoop [pAC])] := by
  decide +kernel

theorem init_only_dirs (q : Str) (e : Entry) (h : Mem.init.find? q = some e) : e.ftype = .dir := by
  simp only [Mem.init, FMap.find?_cons, FMap.find?_nil] at h
  split at h
  · injection h with h; subst h; rfl
  · cases h

example (schedule : List Nat) :
    WF (run ex schedule).files ∧ Grow Mem.init (run ex schedule).files ∧
    (∀ t ∈ (run ex schedule).threads, ∀ r ∈ t.results, r = .ok .unit) ∧
    ((∀ t ∈ (run ex schedule).threads, Finished t) →
      IsDir (run ex schedule).files pA ∧ IsDir (run ex schedule).files pAB ∧
      IsDir (run ex schedule).files pAC) := by
  obtain ⟨⟨h1, h2⟩, h3, h4⟩ := create_dir_all_concurrent Mem.init [[cA, cB], [cA, cC]] WF.init_mem
    (by decide) (fun _ _ q _ e he => init_only_dirs q e he) schedule
  refine ⟨h1, h2, h3, ?_⟩
  intro hfin
  obtain ⟨_, h5⟩ := h4 hfin
  have hab := h5 [cA, cB] (by simp)
  have hac := h5 [cA, cC] (by simp)
  exact ⟨hab.2 pA (by decide), hab.1, hac.1⟩

end Vfs.C17
