/-
  Props/C11OverlayWithin.lean on a concrete world: the hypotheses of
  `copyDir_within_overlay_exact` and `moveDir_within_overlay_exact` are satisfiable on the world
  `yw2` of Props/C11OverlaySourceEx.lean (3-layer overlay, the nested directory "/d/n" spread over
  all three layers, "/d/b" and "/d/n/q" whited out): "/d" is copied / moved to "/copy" / "/moved"
  INSIDE the same overlay (same `Arc` identity 4 on both paths).
-/
import VfsModel.Props.C11OverlayWithin
import VfsModel.Props.C11OverlaySourceEx
namespace Vfs.C11
open Vfs Vfs.Overlay Vfs.C02 Vfs.C01 Vfs.C09 Vfs.C05 Vfs.Wk
open Vfs.C10 (mapsOfN world4)

section example5

theorem y_notin (n0 : Str) (hne : n0 ≠ "d".toList) (hg : '/' ∉ n0) :
    ¬ InSub ["d".toList] (renderC ([] ++ [n0])) := by
  rintro ⟨ts, hp, h0⟩
  have := C06.renderC_injective _ _ (by intro c hc; simp at hc; subst hc; exact hg)
    (good_noSlash hp.good) h0
  simp only [List.nil_append, List.singleton_append, List.cons.injEq] at this
  exact hne this.1

def yUc : FMap :=
  [(chars "/copy/n/p", C09.fileOf [1]), (chars "/copy/n/r", C09.fileOf [7, 8]),
   (chars "/d/n/r", C09.fileOf [7, 8]), (chars "/copy/c", C09.fileOf [67]),
   (chars "/copy/x", C09.fileOf [49]), (chars "/copy/n", dirEntryNow), (chars "/copy", dirEntryNow)]
  ++ yRest
/-- the upper layer after the move inside the overlay: new whiteouts for everything the overlay
showed below "/d", the moved tree, and what was there before without "/d" -/
def yUm : FMap :=
  [(chars "/.whiteout/d_wo", C09.fileOf []), (chars "/.whiteout/d/c_wo", C09.fileOf []),
   (chars "/.whiteout/d/x_wo", C09.fileOf []), (chars "/.whiteout/d/n_wo", C09.fileOf []),
   (chars "/.whiteout/d/n/p_wo", C09.fileOf []), (chars "/.whiteout/d/n/r_wo", C09.fileOf [])]
  ++ yTree "/moved" ++
  [(chars "/.whiteout/d/n/q_wo", C09.fileOf []), (chars "/.whiteout/d/n", dirEntryNow),
   (chars "/.whiteout/d/b_wo", C09.fileOf []), (chars "/.whiteout/d", dirEntryNow),
   (chars "/.whiteout", dirEntryNow), (chars "/top", C09.fileOf [84]), ([], dirEntryNow)]

theorem y_copy_within : VPath.copyDir 6 ⟨xfs, 4, "/d".toList⟩ ⟨xfs, 4, "/copy".toList⟩ yw2 =
    (.ok 5, world4 yA3 yB3 yUc Mem.init) := by
  rw [yw2_is]; exact run_eq_of_fields (by decide +kernel)

theorem y_move_within : VPath.moveDir 6 ⟨xfs, 4, "/d".toList⟩ ⟨xfs, 4, "/moved".toList⟩ yw2 =
    (.ok (), world4 yA3 yB3 yUm Mem.init) := by
  rw [← moveDirK_eq, yw2_is]; exact run_eq_of_fields (by decide +kernel)

example : ∃ w' mu' ms',
    VPath.copyDir 6 ⟨xfs, 4, "/d".toList⟩ ⟨xfs, 4, "/copy".toList⟩ yw2 = (.ok 5, w') ∧
    OWN w' [2, 0, 1] [7, 8, 9] (mu' :: ms') ∧
    (∀ ts, ts ≠ [] → OpPath (["copy".toList] ++ ts) →
      (oview (mu' :: ms') (renderC (["copy".toList] ++ ts))).map vcore
        = (ovisView (mapsOfN yw2 [2, 0, 1]) (renderC (["d".toList] ++ ts))).map vcore) := by
  obtain ⟨mu', ms', hmaps, hown, inv', hv', hn'⟩ := yw2_setting
  have hD : DescList (ovisView (mu' :: ms')) (renderC ["d".toList]) yD := by
    rw [hmaps]; exact yD_desc
  have hsrc : VIsDir (oview (mu' :: ms')) (renderC ["d".toList]) := by
    rw [hmaps, yw2_maps]; decide +kernel
  have hroot : VIsDir (oview (mu' :: ms')) (renderC []) := by
    rw [hmaps, yw2_maps]; decide +kernel
  have habs : VAbsent (oview (mu' :: ms')) (renderC ([] ++ ["copy".toList])) := by
    show oview (mu' :: ms') _ = none
    rw [hmaps, yw2_maps]; decide +kernel
  obtain ⟨w', mu2, ms2, hrun, st2, _, _, _, hcopy, _⟩ :=
    copyDir_within_overlay_exact hown inv' hv' hn' 4 4 (ss := ["d".toList]) (dd := [])
      (n0 := "copy".toList) (by decide) (by decide) hsrc hroot habs
      (y_notin _ (by decide) (by decide)) hD (fuel := 6) (by decide)
  refine ⟨w', mu2, ms2, hrun, st2.own, ?_⟩
  rw [← hmaps]
  exact hcopy

example : (VPath.copyDir 6 ⟨xfs, 4, "/d".toList⟩ ⟨xfs, 4, "/copy".toList⟩ yw2).1 = .ok 5 := by
  rw [y_copy_within]

example : (xfs.readDir "/copy/n".toList
    (VPath.copyDir 6 ⟨xfs, 4, "/d".toList⟩ ⟨xfs, 4, "/copy".toList⟩ yw2).2).1.map
      (fun l => (l.contains "q".toList, l.contains "p".toList, l.contains "r".toList, l.length))
    = .ok (false, true, true, 2) := by
  rw [y_copy_within]; decide +kernel

example : C09.readAllN xfs "/copy/n/p"
    (VPath.copyDir 6 ⟨xfs, 4, "/d".toList⟩ ⟨xfs, 4, "/copy".toList⟩ yw2).2 = .ok [1] := by
  rw [y_copy_within]; decide +kernel

example : ∃ w' mu' ms',
    VPath.moveDir 6 ⟨xfs, 4, "/d".toList⟩ ⟨xfs, 4, "/moved".toList⟩ yw2 = (.ok (), w') ∧
    OWN w' [2, 0, 1] [7, 8, 9] (mu' :: ms') ∧ oview (mu' :: ms') "/d".toList = none ∧
    VIsDir (oview (mu' :: ms')) "/moved".toList := by
  obtain ⟨mu', ms', hmaps, hown, inv', hv', hn'⟩ := yw2_setting
  have hD : DescList (ovisView (mu' :: ms')) (renderC ["d".toList]) yD := by
    rw [hmaps]; exact yD_desc
  have hsrc : VIsDir (oview (mu' :: ms')) (renderC ["d".toList]) := by
    rw [hmaps, yw2_maps]; decide +kernel
  have hroot : VIsDir (oview (mu' :: ms')) (renderC []) := by
    rw [hmaps, yw2_maps]; decide +kernel
  have habs : VAbsent (oview (mu' :: ms')) (renderC ([] ++ ["moved".toList])) := by
    show oview (mu' :: ms') _ = none
    rw [hmaps, yw2_maps]; decide +kernel
  have hdepth : FuelOK (oview (mu' :: ms')) ["d".toList] 6 := by
    rw [hmaps, yw2_maps]; exact fuelOK_of_keys (by decide) (by decide +kernel)
  obtain ⟨w', mu2, ms2, hrun, st2, _, _, hdir, _, hgone, _⟩ :=
    moveDir_within_overlay_exact hown inv' hv' hn' 4 4 (ss := ["d".toList]) (dd := [])
      (n0 := "moved".toList) (by decide) (by decide) hsrc hroot habs
      (y_notin _ (by decide) (by decide)) hD (fuel := 6) (by decide) hdepth
  exact ⟨w', mu2, ms2, hrun, st2.own, hgone _ (InSub.self (by decide)), hdir⟩

example : (VPath.moveDir 6 ⟨xfs, 4, "/d".toList⟩ ⟨xfs, 4, "/moved".toList⟩ yw2).1 = .ok () := by
  rw [y_move_within]

example : (xfs.readDir [] (VPath.moveDir 6 ⟨xfs, 4, "/d".toList⟩
      ⟨xfs, 4, "/moved".toList⟩ yw2).2).1.map
      (fun l => (l.contains "d".toList, l.contains "moved".toList)) = .ok (false, true) := by
  rw [y_move_within]; decide +kernel

end example5

end Vfs.C11
