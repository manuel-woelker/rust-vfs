/-
  C14 — File handles obey the standard Read, Write and Seek contracts.
  The read handle of MemoryFS (`ReadableFile`) is, for every content and every script of
  read/seek calls, the cursor specified by std; the write handle is std's `Cursor<Vec<u8>>`
  itself, whose `write` is characterised here; flush/drop publish exactly the buffer.
-/
import VfsModel.Proofs.LeafSpec
namespace Vfs.C14

/-- a read handle obtained from a successful open of a file -/
def Good (r : RHandle) : Prop := r.bad = false

theorem amt_le (r : RHandle) (n : Nat) : r.amt n ≤ r.content.length - r.pos := by
  unfold RHandle.amt RHandle.remaining; exact Nat.min_le_right _ _

/-- `hlen`: a `Vec` is shorter than 2^64. -/
theorem read_no_panic (r : RHandle) (n : Nat) (hlen : r.content.length < u64Max) :
    (r.read n).1 ≠ .panic := by
  have := amt_le r n
  unfold RHandle.read
  split
  · simp [fail]
  · split
    · simp
    · split
      · rename_i hz h; omega
      · simp

/-- the read handle is std's cursor: `read` in closed form -/
theorem _root_.Vfs.RHandle.read_eq (r : RHandle) (n : Nat) (hg : r.bad = false)
    (hlen : r.content.length < u64Max) :
    r.read n = (.ok (cursorRead r.content r.pos n),
      { r with pos := r.pos + (cursorRead r.content r.pos n).length }) := by
  have hamt : r.amt n = min n (r.content.length - r.pos) := rfl
  have hl : (cursorRead r.content r.pos n).length = r.amt n := by
    unfold cursorRead; simp [List.length_take, List.length_drop, hamt]
  have ht : (r.content.drop r.pos).take (r.amt n) = cursorRead r.content r.pos n := by
    unfold cursorRead
    rw [hamt, List.take_eq_take_iff]
    simp [List.length_drop]
  unfold RHandle.read
  simp only [hg, Bool.false_eq_true, ↓reduceIte]
  by_cases hz : r.amt n = 0
  · have hnil : cursorRead r.content r.pos n = [] := List.eq_nil_of_length_eq_zero (by omega)
    simp only [hz, ↓reduceIte, hnil, List.length_nil, Nat.add_zero]
    cases r; simp_all
  · have h1 : ¬ (r.pos + r.amt n > r.content.length ∨ r.pos + r.amt n ≥ u64Max) := by omega
    simp only [hz, ↓reduceIte, h1, ht, hl]

theorem read_is_cursor (r : RHandle) (n : Nat) (hg : Good r) (hlen : r.content.length < u64Max) :
    (r.read n).1 = .ok (cursorRead r.content r.pos n) ∧
    (r.read n).2.pos = r.pos + (cursorRead r.content r.pos n).length ∧
    (r.read n).2.content = r.content := by
  rw [RHandle.read_eq r n hg hlen]; exact ⟨rfl, rfl, rfl⟩

theorem read_past_end (r : RHandle) (n : Nat) (hg : Good r) (h : r.content.length ≤ r.pos) :
    r.read n = (.ok [], r) := by
  have := amt_le r n
  unfold RHandle.read Good at *
  have : r.amt n = 0 := by omega
  simp [hg, this]

theorem read_slice (r : RHandle) (n : Nat) (hg : Good r)
    (hlen : r.content.length < u64Max) (b : Bytes)
    (h : (r.read n).1 = .ok b) : b = (r.content.drop r.pos).take n := by
  have := (read_is_cursor r n hg hlen).1
  rw [this] at h
  injection h with h
  exact h.symm

/-- the range test of `cursorSeek` read as `checked_add_signed` documents it: the target, unless
it is negative or does not fit a `u64` -/
theorem seekTarget_eq (x : Int) :
    (if 0 ≤ x ∧ x < (u64Max : Int) then (.ok x.toNat : Res Nat) else fail .io) =
      match (if x < 0 ∨ x ≥ 18446744073709551616 then none else some x.toNat) with
      | some n => .ok n
      | none => fail .io := by
  unfold u64Max
  by_cases h : x < 0 ∨ x ≥ 18446744073709551616
  · rw [if_pos h, if_neg (by omega)]
  · rw [if_neg h, if_pos (by omega)]

/-- the position a seek goes to, `none` when it is negative or does not fit a `u64`. The two
independent specifications spell this function out for themselves and are equal to it:
`C04.specSeek` (`C04.specSeek_eq_seekPos`, Proofs/SessionLemmas.lean) and `C14.rspecSeek`
(`C14.rspecSeek_eq_seekPos`, Props/C14Scripts.lean); the model's `cursorSeek` and `RHandle.seek`
answer with it (`cursorSeek_eq_seekPos`, `RHandle.seek_eq`), and so does the async reader's `seekA`. -/
def _root_.Vfs.seekPos (len pos : Nat) : SeekFrom → Option Nat
  | .start o => some o
  | .cur o => RHandle.seekTarget pos o
  | .fromEnd o => RHandle.seekTarget len o

theorem _root_.Vfs.cursorSeek_eq_seekPos (len pos : Nat) (s : SeekFrom) :
    cursorSeek len pos s = match seekPos len pos s with
      | some n => .ok n
      | none => fail .io := by
  cases s with
  | start o => rfl
  | cur o => exact seekTarget_eq _
  | fromEnd o => exact seekTarget_eq _

theorem _root_.Vfs.RHandle.seek_eq (r : RHandle) (s : SeekFrom) (hg : r.bad = false) :
    r.seek s = match seekPos r.content.length r.pos s with
      | some t => (.ok t, { r with pos := t })
      | none => (fail .io, r) := by
  unfold RHandle.seek
  simp only [hg, Bool.false_eq_true, ↓reduceIte]
  cases s with
  | start o => rfl
  | cur o => simp only [seekPos]; cases RHandle.seekTarget r.pos o <;> rfl
  | fromEnd o => simp only [seekPos]; cases RHandle.seekTarget r.content.length o <;> rfl

theorem seek_is_cursor (r : RHandle) (s : SeekFrom) (hg : Good r) :
    (r.seek s).1 = cursorSeek r.content.length r.pos s ∧
    (∀ n, (r.seek s).1 = .ok n → (r.seek s).2.pos = n) ∧
    ((r.seek s).1.isOk = false → (r.seek s).2 = r) ∧
    (r.seek s).2.content = r.content := by
  rw [RHandle.seek_eq r s hg, cursorSeek_eq_seekPos]
  cases seekPos r.content.length r.pos s <;> simp [Res.isOk, fail]

theorem seek_before_start_errs (r : RHandle) (o : Int) (hg : Good r) (h : (r.pos : Int) + o < 0) :
    r.seek (.cur o) = (fail .io, r) := by
  unfold RHandle.seek RHandle.seekTarget Good at *
  simp [hg, h]

theorem seek_no_panic (r : RHandle) (s : SeekFrom) : (r.seek s).1 ≠ .panic := by
  unfold RHandle.seek
  split
  · simp [fail]
  · cases s with
    | start o => simp
    | cur o => simp only; split <;> simp [fail]
    | fromEnd o => simp only; split <;> simp [fail]

theorem write_length (buf : Bytes) (pos : Nat) (bs : Bytes) :
    (cursorWrite buf pos bs).length = max buf.length (pos + bs.length) := by
  unfold cursorWrite padTo
  simp [List.length_take, List.length_drop, List.length_append, List.length_replicate]
  omega

/-- the zero-filled prefix that `write` keeps is exactly `pos` bytes long: where `bs` starts -/
theorem padTo_take_length (buf : Bytes) (pos : Nat) : ((padTo buf pos).take pos).length = pos := by
  simp [padTo, List.length_take, List.length_append, List.length_replicate]; omega

theorem write_at (buf : Bytes) (pos : Nat) (bs : Bytes) :
    ((cursorWrite buf pos bs).drop pos).take bs.length = bs := by
  have hl := padTo_take_length buf pos
  unfold cursorWrite
  rw [List.append_assoc, List.drop_append_of_le_length (by omega)]
  rw [List.drop_of_length_le (by omega)]
  simp

theorem write_before (buf : Bytes) (pos : Nat) (bs : Bytes) :
    (cursorWrite buf pos bs).take pos = (buf ++ List.replicate (pos - buf.length) 0).take pos := by
  have hl := padTo_take_length buf pos
  unfold cursorWrite
  rw [List.append_assoc, List.take_append_of_le_length (by omega)]
  rw [List.take_of_length_le (by omega)]
  rfl

theorem write_after (buf : Bytes) (pos : Nat) (bs : Bytes) :
    (cursorWrite buf pos bs).drop (pos + bs.length) = buf.drop (pos + bs.length) := by
  have hl : ((padTo buf pos).take pos ++ bs).length = pos + bs.length := by
    rw [List.length_append, padTo_take_length]
  unfold cursorWrite
  rw [List.drop_append_of_le_length (by omega)]
  rw [List.drop_of_length_le (by omega)]
  simp only [List.nil_append, padTo]
  by_cases h : pos ≤ buf.length
  · have : pos - buf.length = 0 := by omega
    simp [this]
  · rw [List.drop_of_length_le (by simp [List.length_append, List.length_replicate]; omega)]
    rw [List.drop_of_length_le (by omega)]

/-- writing at the end appends (what `append_file` relies on) -/
theorem write_at_end (buf bs : Bytes) : cursorWrite buf buf.length bs = buf ++ bs :=
  cursorWrite_end buf bs

/-- flush publishes exactly the buffer (while the file exists): a reader opened afterwards
sees it -/
theorem publish_exact (files : FMap) (key : Str) (buf : Bytes) (e0 : Entry)
    (h0 : files.find? key = some e0) (hf : e0.ftype = .file) :
    ∃ e, (memPublish files key buf).find? key = some e ∧ e.content = buf ∧ e.ftype = .file := by
  unfold memPublish
  simp [h0, hf, FMap.insert, FMap.find?]

theorem publish_keeps_created (files : FMap) (key : Str) (buf : Bytes) (e : Entry)
    (h : files.find? key = some e) (hf : e.ftype = .file) :
    ∃ e', (memPublish files key buf).find? key = some e' ∧ e'.created = e.created ∧
      e'.accessed = e.accessed := by
  unfold memPublish
  simp [h, hf, FMap.insert, FMap.find?]

/-- a handle whose file was removed, or replaced by a directory, publishes nothing: flush and
drop leave the map unchanged ("handles used after their file was removed") -/
theorem publish_after_removal (files : FMap) (key : Str) (buf : Bytes)
    (h : files.find? key = none ∨ ∃ e, files.find? key = some e ∧ e.ftype = .dir) :
    memPublish files key buf = files := by
  unfold memPublish
  rcases h with h | ⟨e, h, hd⟩
  · simp [h]
  · simp [h, hd]

example : Good { content := [1, 2, 3], pos := 1 } := rfl
example : ({ content := [1, 2, 3], pos := 1 } : RHandle).read 5 = (.ok [2, 3], { content := [1, 2, 3], pos := 3 }) := by
  decide
example : (({ content := [1, 2, 3], pos := 1 } : RHandle).seek (.cur (-2))).1 = fail .io := by decide
example : cursorWrite [1, 2] 4 [9] = [1, 2, 0, 0, 9] := by decide

end Vfs.C14
