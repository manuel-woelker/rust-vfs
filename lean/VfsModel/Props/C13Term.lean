/-
  C13 (termination) — the recursive operations of `VfsPath` terminate on in-memory filesystems:
  the out-of-fuel sentinel of the model is unreachable with an explicit, computable fuel.

  Background. In the model every Rust panic site is the explicit outcome `.panic`. The recursive
  functions of PathOps.lean (`walkAll` = collecting `WalkDirIterator`, `removeDirAll`, `copyItems` /
  `copyDir`, `moveDir`) take a `fuel` argument, and running out of fuel is ALSO rendered as
  `.panic` — a sentinel of the model for "does not terminate", not a Rust panic site.
  Props/C13.lean proves, for every filesystem whose methods do not panic, that a `.panic` of these
  functions can only be that sentinel (`removeDirAll_panic_is_fuel`, `walkAll_panic_is_fuel`,
  `copyItems_panic_is_fuel`, `copyDir_panic_is_fuel`, `moveDir_panic_is_fuel`) — but not that the
  sentinel is unreachable. This file proves the missing half for in-memory filesystems, using the
  exact-result theorems of Props/C05Walk.lean, Props/C11.lean, Props/C11Nested.lean.
  Together: on in-memory filesystems (finite, well-formed trees) none of these operations panics
  and none of them runs forever. Physical leaves: Props/C13Phys.lean; altroot over a memory leaf:
  Props/C13Altroot.lean. Through an overlay the walk's sentinel is characterised in
  Props/C05WalkView.lean (`C05.overlay_walk_panic_iff`) and `remove_dir_all` / the copies return `Ok`
  with sufficient fuel by the exact-result theorems of Props/C11Overlay*.lean; the embedded
  filesystem: `C18.removeDirAll_embedded` (Props/C18PhysOps.lean).

  Setting. Leaf `i` of the world is a memory leaf holding the flat map `m` (`MemLeafAt w i m`);
  `WF m` (the root is a directory, every other key has its parent present as a directory);
  `FMap.NodupKeys m`. `IsDirOf m p` / `IsFileOf m p` / `m.find? p = none`: the three kinds of path
  (`path_cases`). `descCount m p` (Props/C05Walk.lean, in the walk statements) and `descendants m p`
  (Props/C11.lean, in the copy statements) are one number, the count of keys strictly below `p`
  (`descendants_eq_descCount`).
  `walkCollect fuel P` = `P.walk_dir()?` then collecting the iterator (Props/C05Walk.lean).

   * walk_dir — ANY path string `p` (directory, file, absent, root), any listing order:
     `walk_never_panics`, `walk_sentinel_iff` (the sentinel is the outcome IFF `p` is a directory
     and fuel ≤ `descCount m p` — it is reachable only by starving the fuel, never by the tree),
     `walk_outcome`.
   * remove_dir_all — ANY path string `p`, the root included (which `C11.removeDirAll_exact`
     excludes), fuel ≥ 1 and `∀ key k, |k| < |p| + fuel` (the bound of the exact theorem: it bounds
     the nesting depth below `p`): `removeDirAll_outcome`, `removeDirAll_never_panics`,
     `removeDirAll_never_panics_keyFuel` (the computed fuel `keyFuel m` = longest key length + 1).
   * copy_dir / move_dir between memory leaves `i` (map `ms`) and `j` (map `md`), `i = j` or not,
     any `Arc` identities: `copyDir_outcome` / `moveDir_outcome` give the result case by case,
     `copyDir_never_panics`, `moveDir_never_panics`: for the canonical destination
     `D = renderC bs`, EVERY state of the destination and EVERY kind of source, with
     `descendants ms S < fuel` (move: also the two length bounds of `moveDir_exact`), the outcome
     is not the sentinel — provided that, when the copy actually runs (`S` a directory), the keys
     at or below `S` are canonical, on one leaf `D` is not at or below `S`, and for move `S ≠ ""`.
   * `fuel_branch_unreachable`, `copyDir_fuel_branch_unreachable`: the predicates of
     Proofs/NoPanic.lean (`RemoveDirAllOut`, `CopyItemsOut`) that Props/C13.lean derives from a
     `.panic` are refuted; `recursive_ops_terminate`: all in one
     statement.
   * `copyDir_into_own_subtree_diverges`: the divergence that IS real.

  NOT PROVED
   * copy_dir / move_dir when the copy runs with a non-canonical destination string or
     non-canonical keys below the source (`VfsPath::join` would resolve them; such keys cannot be
     created through `VfsPath`), and move_dir with the ROOT of a filesystem as source.
   * That copy_dir into the own subtree diverges for EVERY fuel (only instances are evaluated).
   * For remove_dir_all the fuel bound is sufficient, not exact (it is stated in key lengths, an
     upper bound of the nesting depth); for the walk the bound is exact.
   * The async iterator (Props/C15) and concurrent mutation during the operation.
-/
import VfsModel.Props.C11Nested
import VfsModel.Props.C05Walk
import VfsModel.Props.C13
namespace Vfs.C13
open Vfs.C05 (walkCollect descCount okItems)
open Vfs.Wk (mk below)
open Vfs.C11 (descendants)

/-- `p` is a directory of `m`; the same proposition as `C01.IsDir m p` (Props/C01.lean, not imported
here), and `IsFileOf` as `C01.IsFile` -/
def IsDirOf (m : FMap) (p : Str) : Prop := ∃ e, m.find? p = some e ∧ e.ftype = .dir

def IsFileOf (m : FMap) (p : Str) : Prop := ∃ e, m.find? p = some e ∧ e.ftype = .file

theorem path_cases (m : FMap) (p : Str) : m.find? p = none ∨ IsFileOf m p ∨ IsDirOf m p := by
  cases h : m.find? p with
  | none => exact Or.inl rfl
  | some e =>
    cases hf : e.ftype with
    | file => exact Or.inr (Or.inl ⟨e, h, hf⟩)
    | dir => exact Or.inr (Or.inr ⟨e, h, hf⟩)

theorem descendants_eq_descCount (m : FMap) (p : Str) : descendants m p = descCount m p :=
  C11.descendants_eq m p

/-- the length of the longest key, plus one: a fuel that is enough for `remove_dir_all` -/
def keyFuel (m : FMap) : Nat := (m.keys.map List.length).foldr max 0 + 1

theorem keyFuel_bound (m : FMap) : ∀ k e, m.find? k = some e → k.length < keyFuel m := by
  intro k e hk
  have hmem : k ∈ m.keys := (FMap.mem_keys_iff m k).2 ⟨e, hk⟩
  have : ∀ (l : List Str), k ∈ l → k.length ≤ (l.map List.length).foldr max 0 := by
    intro l
    induction l with
    | nil => intro h; cases h
    | cons a rest ih =>
      intro h
      simp only [List.map_cons, List.foldr_cons]
      rcases List.mem_cons.1 h with h | h
      · subst h; exact Nat.le_max_left _ _
      · exact Nat.le_trans (ih h) (Nat.le_max_right _ _)
  have := this m.keys hmem
  unfold keyFuel
  omega

section walk
variable {w : World} {i : Nat} {m : FMap} (h : MemLeafAt w i m) (hwf : WF m)
  (hk : FMap.NodupKeys m) (id : Nat) (p : Str)
include h

theorem walk_outcome (fuel : Nat) :
    (m.find? p = none →
      walkCollect fuel (mk i id p) w = (.err .fileNotFound (some p), w)) ∧
    (IsFileOf m p → walkCollect fuel (mk i id p) w = (.err .other (some p), w)) ∧
    (WF m → FMap.NodupKeys m → IsDirOf m p → descCount m p < fuel →
      ∃ L : List Str, walkCollect fuel (mk i id p) w = (.ok (okItems i id L), w)) := by
  refine ⟨?_, ?_, ?_⟩
  · intro hp
    have := (C05.walk_dir_not_dir h id p (by intro e he; rw [hp] at he; cases he) fuel).2
    rw [this, contains_of_none hp]; rfl
  · rintro ⟨e, he, hf⟩
    have := (C05.walk_dir_not_dir h id p
      (by intro e' he'; rw [he] at he'; cases he'; rw [hf]; decide) fuel).2
    rw [this, contains_of_find he]; rfl
  · rintro hwf hk ⟨e, he, hd⟩ hf
    exact C05.walk_terminates h hwf hk id p e he hd fuel hf

include hwf hk

/-- the sentinel is the outcome iff `p` is a directory AND the fuel does not exceed the number
of its descendants: it is reached only by starving the fuel, never by the tree -/
theorem walk_sentinel_iff (fuel : Nat) :
    (walkCollect fuel (mk i id p) w).1 = .panic ↔ IsDirOf m p ∧ fuel ≤ descCount m p :=
  (C05.leaf_walk_sentinel h.leafAt hwf hk id p fuel).1

omit h hk in
/-- the number of descendants of any path is smaller than the number of entries (the root is an
entry and is below nothing) -/
theorem descCount_lt_length_any : descCount m p < m.length := by
  obtain ⟨e, he, _⟩ := hwf.1
  have hroot : ([] : Str) ∈ m.keys := (FMap.mem_keys_iff m []).2 ⟨e, he⟩
  have : (m.keys.filter (below p)).length < m.keys.length :=
    List.length_filter_lt_length_iff_exists.2 ⟨[], hroot, by simp [below]⟩
  simpa [descCount, FMap.keys] using this

/-- **`walk_dir` terminates**: on a memory leaf holding a well-formed map with unique keys, for
EVERY path `p` (directory, file or absent): (1) fuel = number of entries is enough; (2) so is
every fuel above the number of descendants; (3) the sentinel is the outcome iff `p` is a
directory and fuel ≤ #descendants; (4) the walk does not change the world, whatever the fuel -/
theorem walk_never_panics :
    (walkCollect m.length (mk i id p) w).1 ≠ .panic ∧
    (∀ fuel, descCount m p < fuel → (walkCollect fuel (mk i id p) w).1 ≠ .panic) ∧
    (∀ fuel, (walkCollect fuel (mk i id p) w).1 = .panic ↔ IsDirOf m p ∧ fuel ≤ descCount m p) ∧
    (∀ fuel, (walkCollect fuel (mk i id p) w).2 = w) := by
  have hs := C05.leaf_walk_sentinel h.leafAt hwf hk id p
  have h2 : ∀ fuel, descCount m p < fuel → (walkCollect fuel (mk i id p) w).1 ≠ .panic :=
    fun fuel hf hpan => absurd ((hs fuel).1.1 hpan).2 (by omega)
  exact ⟨h2 _ (descCount_lt_length_any hwf p), h2, fun fuel => (hs fuel).1, fun fuel => (hs fuel).2⟩

theorem walkAll_never_panics (e : Entry) (he : m.find? p = some e) (hd : e.ftype = .dir)
    (fuel : Nat) (hf : descCount m p < fuel) :
    ∃ s, VPath.walkDir (mk i id p) w = (.ok s, w) ∧ (VPath.walkAll fuel s w).1 ≠ .panic := by
  refine ⟨_, Wk.run_walkDir h id p e he hd, ?_⟩
  rw [← C05.walkCollect_eq h id p e he hd fuel]
  exact (walk_never_panics h hwf hk id p).2.1 fuel hf

end walk

section remove
variable {w : World} {i : Nat} {m : FMap} (h : MemLeafAt w i m)
include h

theorem removeDirAll_on_absent (id fuel : Nat) (p : Str) (hp : m.find? p = none) :
    VPath.removeDirAll (fuel + 1) { fs := leafFS i, fsId := id, path := p } w = (.ok (), w) :=
  C11.removeDirAll_absent _ fuel w (h.leafAt.vexists_absent id hp)

/-- a FILE: `remove_dir_all` finds that the path exists, lists it, and the listing of a file
fails — the error `Other` with the path filled in; nothing is removed (any fuel but 0) -/
theorem removeDirAll_on_file (id fuel : Nat) (p : Str) (hp : IsFileOf m p) :
    VPath.removeDirAll (fuel + 1) { fs := leafFS i, fsId := id, path := p } w =
      (.err .other (some p), w) := by
  obtain ⟨e, he, hf⟩ := hp
  exact removeDirAll_readDir_err w fuel ⟨leafFS i, id, p⟩ (k := .other) (q := none)
    ((run_exists h p).trans (by rw [contains_of_find he]))
    ((run_readDir h p).trans (by simp [Mem.readDir, he, hf, fail]))

/-- the ROOT (`p = ""`, which `removeDirAll_exact` excludes): the children go one after the other,
then the model's `MemoryFS::remove_dir("")` finds the root empty and erases its entry too — `Ok`,
and the whole tree is gone. Fuel: more than the longest key is long. -/
theorem removeDirAll_on_root (hwf : WF m) (hnd : FMap.NodupKeys m) (id fuel : Nat)
    (hfuel : ∀ k e', m.find? k = some e' → k.length < fuel) :
    ∃ m', VPath.removeDirAll fuel { fs := leafFS i, fsId := id, path := [] } w =
        (.ok (), w.setLeafFiles i m') ∧ SubtreeRemoved m m' [] := by
  obtain ⟨e, he, hd⟩ := hwf.1
  cases fuel with
  | zero => exact absurd (hfuel [] e he) (by simp)
  | succ fuel =>
    obtain ⟨m1, hrun, hwf1, _, hfind⟩ :=
      RemoveLoop.leaf_removeChildren id fuel (d := []) h.leafAt hwf hnd
      (fun k e' hk => by have := hfuel k e' hk; simp only [List.length_nil]; omega)
    have hP1 : m1.find? [] = some e := by rw [hfind, Wk.below_irrefl]; exact he
    have hempty : Wk.children m1 [] = [] := by
      apply List.eq_nil_iff_forall_not_mem.2
      intro c hc
      obtain ⟨ec, hec⟩ := ((Wk.mem_children m1 [] c).1 hc).1
      rw [hfind, Wk.child_below hc] at hec
      cases hec
    refine ⟨m1.erase [], ?_, fun k => ?_⟩
    · have hex := h.leafAt.vexists_present id hwf he
      have hrd : VPath.readDir { fs := leafFS i, fsId := id, path := [] } w = _ :=
        RemoveLoop.vreadDir_children id h.leafAt hwf he hd
      have hrm := (h.set m1).leafAt.vremoveDir_empty id hwf1 hP1 hd (List.map_eq_nil_iff.1 hempty)
      rw [VPath.removeDirAll.eq_2]
      simp only [bind, M.bind, hex, Bool.not_true, Bool.false_eq_true, if_false, hrd, hrun, hrm,
        World.setLeafFiles_twice]
    · rw [FMap.find?_erase, hfind]
      by_cases hk : k = []
      · rw [if_pos hk, hk, under_self]; rfl
      · rw [if_neg hk]
        simp [under, Wk.below, hk]

/-- what `remove_dir_all` returns, by the kind of `p` — ANY path string, the root included.
Fuel: at least 1, and more than the length difference between `p` and the longest key (the
bound of `C11.removeDirAll_exact`; it bounds the nesting depth below `p`). -/
theorem removeDirAll_outcome (hwf : WF m) (hnd : FMap.NodupKeys m) (id fuel : Nat) (p : Str)
    (hf0 : 0 < fuel) (hfuel : ∀ k e', m.find? k = some e' → k.length < p.length + fuel) :
    (m.find? p = none →
      VPath.removeDirAll fuel { fs := leafFS i, fsId := id, path := p } w = (.ok (), w)) ∧
    (IsFileOf m p →
      VPath.removeDirAll fuel { fs := leafFS i, fsId := id, path := p } w =
        (.err .other (some p), w)) ∧
    (IsDirOf m p →
      ∃ m', VPath.removeDirAll fuel { fs := leafFS i, fsId := id, path := p } w =
          (.ok (), w.setLeafFiles i m') ∧
        ∀ k, m'.find? k = if under p k then none else m.find? k) := by
  obtain ⟨f, rfl⟩ : ∃ f, fuel = f + 1 := ⟨fuel - 1, by omega⟩
  refine ⟨removeDirAll_on_absent h id f p, removeDirAll_on_file h id f p, ?_⟩
  rintro ⟨e, he, hd⟩
  by_cases hp : p = []
  · subst hp
    exact removeDirAll_on_root h hwf hnd id (f + 1)
      (fun k e' hk => by have := hfuel k e' hk; simpa using this)
  · obtain ⟨m', hrun, _, _, hfind⟩ :=
      C11.removeDirAll_exact h hwf hnd id (f + 1) p e hp he hd hfuel
    exact ⟨m', hrun, hfind⟩

theorem removeDirAll_never_panics (hwf : WF m) (hnd : FMap.NodupKeys m) (id fuel : Nat) (p : Str)
    (hf0 : 0 < fuel) (hfuel : ∀ k e', m.find? k = some e' → k.length < p.length + fuel) :
    (VPath.removeDirAll fuel { fs := leafFS i, fsId := id, path := p } w).1 ≠ .panic := by
  obtain ⟨h1, h2, h3⟩ := removeDirAll_outcome h hwf hnd id fuel p hf0 hfuel
  rcases path_cases m p with hp | hp | hp
  · rw [h1 hp]; intro hc; cases hc
  · rw [h2 hp]; intro hc; cases hc
  · obtain ⟨m', hrun, _⟩ := h3 hp
    rw [hrun]; intro hc; cases hc

theorem removeDirAll_never_panics_fuel (hwf : WF m) (hnd : FMap.NodupKeys m) (id fuel : Nat)
    (p : Str) (hfuel : ∀ k e', m.find? k = some e' → k.length < fuel) :
    (VPath.removeDirAll fuel { fs := leafFS i, fsId := id, path := p } w).1 ≠ .panic := by
  obtain ⟨e, he, _⟩ := hwf.1
  exact removeDirAll_never_panics h hwf hnd id fuel p
    (by have := hfuel [] e he; simp only [List.length_nil] at this; exact this)
    (fun k e' hk => by have := hfuel k e' hk; omega)

theorem removeDirAll_never_panics_keyFuel (hwf : WF m) (hnd : FMap.NodupKeys m) (id : Nat)
    (p : Str) :
    (VPath.removeDirAll (keyFuel m) { fs := leafFS i, fsId := id, path := p } w).1 ≠ .panic :=
  removeDirAll_never_panics_fuel h hwf hnd id (keyFuel m) p (keyFuel_bound m)

end remove

theorem pCreateDir_not_fresh (md : FMap) (D : Str) (habs : md.find? D = none)
    (hnf : ¬ FreshDest md D) : Mem.pCreateDir md D = (.err .other (some D), md) := by
  have hp : Mem.par md D = false := Bool.eq_false_iff.2 fun hp =>
    hnf ⟨habs, ((Mem.par_iff md D).1 hp).1, ((Mem.par_iff md D).1 hp).2⟩
  simp [Mem.pCreateDir_eq, Mem.createDirS, hp, fail, Res.withPath, Write.app]

section transfer
variable {w : World} {i j : Nat} {ms md : FMap} (hi : MemLeafAt w i ms) (hj : MemLeafAt w j md)
  (sid did fuel : Nat) (S D : Str)
include hi hj

omit hi in
theorem run_createDir_fresh (hfresh : FreshDest md D) :
    VPath.createDir { fs := leafFS j, fsId := did, path := D } w =
      (.ok (), w.setLeafFiles j (md.insert D dirEntryNow)) := by
  rw [run_pCreateDir hj, hfresh.pCreateDir]

omit hi in
theorem srcLeaf_after (hi' : MemLeafAt w i ms) :
    ∃ m1, MemLeafAt (w.setLeafFiles j (md.insert D dirEntryNow)) i m1 ∧
      ∀ k, m1.find? k = if i = j ∧ k = D then some dirEntryNow else ms.find? k := by
  by_cases hij : i = j
  · subst hij
    have := hi'.unique hj; subst this
    refine ⟨_, hj.set _, fun k => ?_⟩
    rw [FMap.find?_insert]
    by_cases hk : k = D <;> simp [hk]
  · exact ⟨ms, hi'.set_ne (fun e => hij e.symm) _, fun k => by simp [hij]⟩

omit hi in
theorem copyDirBody_bad_parent (habs : md.find? D = none) (hnf : ¬ FreshDest md D) :
    VPath.copyDirBody fuel { fs := leafFS i, fsId := sid, path := S }
      { fs := leafFS j, fsId := did, path := D } w = (.err .other (some D), w) := by
  unfold VPath.copyDirBody
  simp only [bind, M.bind, run_pCreateDir hj, pCreateDir_not_fresh md D habs hnf, hj.same]

/-- fresh destination, the source is NOT a directory (absent or a file) and is not the
destination path itself: the destination directory is created, then `walk_dir` fails — an error,
and the empty destination directory stays behind -/
theorem copyDirBody_src_not_dir (hfresh : FreshDest md D) (hsrc : ¬ IsDirOf ms S)
    (hne : ¬ (i = j ∧ S = D)) :
    VPath.copyDirBody fuel { fs := leafFS i, fsId := sid, path := S }
      { fs := leafFS j, fsId := did, path := D } w =
      (.err (if ms.contains S then .other else .fileNotFound) (some S),
        w.setLeafFiles j (md.insert D dirEntryNow)) := by
  obtain ⟨m1, hm1, hfind⟩ := srcLeaf_after hj D hi
  have hS : m1.find? S = ms.find? S := by
    rw [hfind S, if_neg hne]
  have hfail := (WkG.collect_readDir_err 0 (mk i sid S) _ _ _ none
    (Wk.run_readDir_fail hm1 S fun e he hd => hsrc ⟨e, hS ▸ he, hd⟩)).1
  have hc : m1.contains S = ms.contains S := by unfold FMap.contains; rw [hS]
  unfold VPath.copyDirBody
  simp only [bind, M.bind, run_createDir_fresh hj did D hfresh]
  have : ({ fs := leafFS i, fsId := sid, path := S } : VPath) = mk i sid S := rfl
  rw [this, hfail, hc]
  rfl

omit hi in
/-- the corner left: source and destination are the SAME absent path of one filesystem. The
destination directory is created, is then walked as the source, is empty: `Ok(0)` -/
theorem copyDirBody_same_absent (hwfd : WF md) (hfresh : FreshDest md D) (hij : i = j) :
    VPath.copyDirBody (fuel + 1) { fs := leafFS i, fsId := sid, path := D }
      { fs := leafFS j, fsId := did, path := D } w =
      (.ok 0, w.setLeafFiles j (md.insert D dirEntryNow)) := by
  subst hij
  have hm1 : MemLeafAt (w.setLeafFiles i (md.insert D dirEntryNow)) i (md.insert D dirEntryNow) :=
    hj.set _
  have hempty : (md.insert D dirEntryNow).keys.filterMap (childName D) = [] := by
    apply List.eq_nil_iff_forall_not_mem.2
    intro n hn
    obtain ⟨_, e', he'⟩ := listing_spec _ D n hn
    rw [FMap.find?_insert, if_neg (by
      intro hc
      have := congrArg List.length hc
      simp at this), hfresh.child_absent hwfd n] at he'
    cases he'
  have hwalk := Wk.run_walkDir hm1 sid D dirEntryNow (by simp) rfl
  unfold Wk.children at hwalk
  rw [hempty] at hwalk
  unfold VPath.copyDirBody
  simp only [bind, M.bind, run_createDir_fresh hj did D hfresh]
  have : ({ fs := leafFS i, fsId := sid, path := D } : VPath) = mk i sid D := rfl
  rw [this, hwalk]
  exact copyItems_done fuel _ _ 0 _

end transfer

section outcomes
variable {w : World} {i j : Nat} {ms md : FMap} (hi : MemLeafAt w i ms) (hj : MemLeafAt w j md)
  (sid did fuel : Nat) (S D : Str)
include hi hj

omit hi in
theorem dst_exists_eq :
    VPath.exists_ { fs := leafFS j, fsId := did, path := D } w = (.ok (md.contains D), w) :=
  run_exists hj D

/-- `move_dir` on memory leaves takes the generic route (MemoryFS answers NotSupported to the
fast path) -/
theorem moveDir_route_mem (habs : md.find? D = none) :
    VPath.moveDir fuel { fs := leafFS i, fsId := sid, path := S }
      { fs := leafFS j, fsId := did, path := D } w =
    M.withPath S (M.bind (VPath.copyDirBody fuel { fs := leafFS i, fsId := sid, path := S }
        { fs := leafFS j, fsId := did, path := D })
      (fun _ => VPath.removeDirAll fuel { fs := leafFS i, fsId := sid, path := S })) w := by
  rw [moveDir_route fuel _ _ w (by rw [dst_exists_eq hj, contains_of_none habs])
    (fun _ => ⟨none, run_moveDir_mem hi S D⟩), moveDirBody_eq]

/-- with an absent destination both operations run the walk-and-copy body, and an error of the
body is their outcome: (b) parent missing or a file — nothing changes; (c) source absent or a file
— the EMPTY DESTINATION DIRECTORY STAYS BEHIND (copy_dir / move_dir are not atomic) -/
theorem transfer_body_err (habs : md.find? D = none) {k : ErrKind} {p : Option Str} {w' : World}
    (hb : VPath.copyDirBody fuel { fs := leafFS i, fsId := sid, path := S }
      { fs := leafFS j, fsId := did, path := D } w = (.err k p, w')) :
    VPath.copyDir fuel { fs := leafFS i, fsId := sid, path := S }
      { fs := leafFS j, fsId := did, path := D } w = (.err k (some S), w') ∧
    VPath.moveDir fuel { fs := leafFS i, fsId := sid, path := S }
      { fs := leafFS j, fsId := did, path := D } w = (.err k (some S), w') := by
  constructor
  · rw [copyDir_route _ _ _ w (by rw [dst_exists_eq hj, contains_of_none habs])]
    simp only [M.withPath, hb, Res.withPath]
  · rw [moveDir_route_mem hi hj sid did fuel S D habs]
    simp only [M.withPath, M.bind, hb, Res.withPath]

end outcomes

section main
variable {w : World} {i j : Nat} {ms md : FMap} (hi : MemLeafAt w i ms) (hj : MemLeafAt w j md)
  (hwfs : WF ms) (hwfd : WF md) (hnd : FMap.NodupKeys ms) (sid did fuel : Nat) (S : Str)
include hi hj hwfs hwfd hnd

/-- (d') the corner for `move_dir`: source = destination = one absent path of one filesystem:
the directory is created, walked (empty), and removed again: `Ok` -/
theorem moveDir_same_absent (D : Str) (hfresh : FreshDest md D) (hij : i = j) (hf0 : 0 < fuel)
    (hb1 : ∀ k e, ms.find? k = some e → k.length < D.length + fuel) :
    ∃ w', VPath.moveDir fuel { fs := leafFS i, fsId := sid, path := D }
      { fs := leafFS j, fsId := did, path := D } w = (.ok (), w') := by
  obtain ⟨f, rfl⟩ : ∃ f, fuel = f + 1 := ⟨fuel - 1, by omega⟩
  rw [moveDir_route_mem hi hj sid did (f + 1) D D hfresh.absent]
  subst hij
  have := hi.unique hj; subst this
  have hm1 : MemLeafAt (w.setLeafFiles i (ms.insert D dirEntryNow)) i (ms.insert D dirEntryNow) :=
    hj.set _
  have hwf1 : WF (ms.insert D dirEntryNow) := by
    have := hwfs.pCreateDir D
    rwa [hfresh.pCreateDir] at this
  obtain ⟨m', hrun, _⟩ := (removeDirAll_outcome hm1 hwf1 (FMap.nodup_insert _ _ _ hnd) sid (f + 1) D
    (by omega) (fun k e' hk => by
      rw [FMap.find?_insert] at hk
      by_cases hkd : k = D
      · subst hkd; omega
      · rw [if_neg hkd] at hk; exact hb1 k e' hk)).2.2 ⟨dirEntryNow, by simp, rfl⟩
  refine ⟨(w.setLeafFiles i (ms.insert D dirEntryNow)).setLeafFiles i m', ?_⟩
  simp only [M.withPath, M.bind, copyDirBody_same_absent hj sid did f D hwfs hfresh rfl, hrun,
    Res.withPath]

/-- **`copy_dir`, every case.** Memory leaves `i` (source map `ms`) and `j` (destination map
`md`), equal or not; `S` ANY source path string, `D` the destination.
 (a) `D` exists ⇒ `Err(Other)`, nothing changes — any `D`, any fuel (0 included);
 (b) `D` absent, parent missing or a file ⇒ `Err(Other)`, nothing changes — any `D`, any fuel;
 (c) `D` fresh, `S` absent or a file, not `S = D` on one leaf ⇒ `Err`, the empty directory `D`
     stays behind — any `D`, any fuel;
 (d) `D` fresh, `S = D` on one leaf ⇒ `Ok(0)` (fuel ≥ 1);
 (e) `D = renderC bs` canonical and fresh, `S` a directory whose subtree has canonical keys, on one
     leaf `D` not at or below `S`, `descendants ms S < fuel` ⇒ `Ok(descendants ms S)`
     (`C11.copyDir_exact` says what the maps are).
 Not covered: on one leaf `D` fresh and strictly below the directory `S` (the real divergence,
 §5); non-canonical `D` or non-canonical keys below `S` when the copy actually runs. -/
theorem copyDir_outcome (D : Str) :
    (md.contains D = true →
      VPath.copyDir fuel { fs := leafFS i, fsId := sid, path := S }
        { fs := leafFS j, fsId := did, path := D } w = (.err .other (some S), w)) ∧
    (md.find? D = none → ¬ FreshDest md D →
      VPath.copyDir fuel { fs := leafFS i, fsId := sid, path := S }
        { fs := leafFS j, fsId := did, path := D } w = (.err .other (some S), w)) ∧
    (FreshDest md D → ¬ IsDirOf ms S → ¬ (i = j ∧ S = D) →
      VPath.copyDir fuel { fs := leafFS i, fsId := sid, path := S }
        { fs := leafFS j, fsId := did, path := D } w =
        (.err (if ms.contains S then .other else .fileNotFound) (some S),
          w.setLeafFiles j (md.insert D dirEntryNow))) ∧
    (FreshDest md D → i = j → S = D → 0 < fuel →
      VPath.copyDir fuel { fs := leafFS i, fsId := sid, path := S }
        { fs := leafFS j, fsId := did, path := D } w =
        (.ok 0, w.setLeafFiles j (md.insert D dirEntryNow))) ∧
    (∀ bs : List Str, D = renderC bs → (∀ c ∈ bs, GoodComp c) → FreshDest md D → IsDirOf ms S →
      (∀ k e, ms.find? k = some e → under S k = true → Canon k) →
      (i = j → under S D = false) → descendants ms S < fuel →
      ∃ w', VPath.copyDir fuel { fs := leafFS i, fsId := sid, path := S }
        { fs := leafFS j, fsId := did, path := D } w = (.ok (descendants ms S), w')) := by
  refine ⟨fun hex => (C11.existing_destination_refused _ _ fuel w
      (by rw [dst_exists_eq hj, hex])).2.2.1,
    fun habs hnf => (transfer_body_err hi hj sid did fuel S D habs
      (copyDirBody_bad_parent hj sid did fuel S D habs hnf)).1,
    fun hfresh hsrc hne => (transfer_body_err hi hj sid did fuel S D hfresh.absent
      (copyDirBody_src_not_dir hi hj sid did fuel S D hfresh hsrc hne)).1, ?_, ?_⟩
  · intro hfresh hij hSD hf0
    obtain ⟨f, rfl⟩ : ∃ f, fuel = f + 1 := ⟨fuel - 1, by omega⟩
    subst hSD
    rw [copyDir_route _ _ _ w (by rw [dst_exists_eq hj, contains_of_none hfresh.absent])]
    simp only [M.withPath, copyDirBody_same_absent hj sid did f S hwfd hfresh hij, Res.withPath]
  · rintro bs rfl hbs hfresh hdir hcanon hout hfuel
    obtain ⟨w', _, _, hrun, _⟩ := C11.copyDir_exact hi hj hwfs hwfd hnd sid did fuel S bs hbs hdir
      hcanon hfresh hout hfuel
    exact ⟨w', hrun⟩

/-- **`copy_dir` terminates.** For EVERY state of the destination `D = renderC bs` (exists /
absent with a bad parent / fresh) and EVERY kind of source `S` (absent / file / directory): with
`descendants ms S < fuel` the outcome is not the sentinel — provided that, when the copy actually
runs (`S` a directory), the keys below `S` are canonical and on one leaf `D` is not at or below
`S`. -/
theorem copyDir_never_panics (bs : List Str) (hbs : ∀ c ∈ bs, GoodComp c)
    (hsrc : IsDirOf ms S → (∀ k e, ms.find? k = some e → under S k = true → Canon k) ∧
      (i = j → under S (renderC bs) = false))
    (hfuel : descendants ms S < fuel) :
    (VPath.copyDir fuel { fs := leafFS i, fsId := sid, path := S }
      { fs := leafFS j, fsId := did, path := renderC bs } w).1 ≠ .panic := by
  obtain ⟨ha, hb, hc, hd, he⟩ := copyDir_outcome hi hj hwfs hwfd hnd sid did fuel S (renderC bs)
  cases hD : md.find? (renderC bs) with
  | some e => rw [ha (contains_of_find hD)]; intro h; cases h
  | none =>
    by_cases hfresh : FreshDest md (renderC bs)
    · by_cases hdir : IsDirOf ms S
      · obtain ⟨w', hrun⟩ := he bs rfl hbs hfresh hdir (hsrc hdir).1 (hsrc hdir).2 hfuel
        rw [hrun]; intro h; cases h
      · by_cases hne : i = j ∧ S = renderC bs
        · rw [hd hfresh hne.1 hne.2 (by omega)]; intro h; cases h
        · rw [hc hfresh hdir hne]; intro h; cases h
    · rw [hb hD hfresh]; intro h; cases h

/-- **`move_dir`, every case** — as `copyDir_outcome`; in (e) additionally `S ≠ ""` and the two
length bounds of `C11.moveDir_exact` (fuel is also the recursion depth of `remove_dir_all`).
Not covered beyond what `copyDir_outcome` leaves out: the ROOT of a filesystem as the source. -/
theorem moveDir_outcome (D : Str) :
    (md.contains D = true →
      VPath.moveDir fuel { fs := leafFS i, fsId := sid, path := S }
        { fs := leafFS j, fsId := did, path := D } w = (.err .other (some S), w)) ∧
    (md.find? D = none → ¬ FreshDest md D →
      VPath.moveDir fuel { fs := leafFS i, fsId := sid, path := S }
        { fs := leafFS j, fsId := did, path := D } w = (.err .other (some S), w)) ∧
    (FreshDest md D → ¬ IsDirOf ms S → ¬ (i = j ∧ S = D) →
      VPath.moveDir fuel { fs := leafFS i, fsId := sid, path := S }
        { fs := leafFS j, fsId := did, path := D } w =
        (.err (if ms.contains S then .other else .fileNotFound) (some S),
          w.setLeafFiles j (md.insert D dirEntryNow))) ∧
    (FreshDest md D → i = j → S = D → 0 < fuel →
      (∀ k e, ms.find? k = some e → k.length < S.length + fuel) →
      ∃ w', VPath.moveDir fuel { fs := leafFS i, fsId := sid, path := S }
        { fs := leafFS j, fsId := did, path := D } w = (.ok (), w')) ∧
    (∀ bs : List Str, D = renderC bs → (∀ c ∈ bs, GoodComp c) → FreshDest md D → IsDirOf ms S →
      S ≠ [] → (∀ k e, ms.find? k = some e → under S k = true → Canon k) →
      (i = j → under S D = false) → descendants ms S < fuel →
      (∀ k e, ms.find? k = some e → k.length < S.length + fuel) →
      (i = j → ∀ k e, ms.find? k = some e → under S k = true →
        D.length + k.length < 2 * S.length + fuel) →
      ∃ w', VPath.moveDir fuel { fs := leafFS i, fsId := sid, path := S }
        { fs := leafFS j, fsId := did, path := D } w = (.ok (), w')) := by
  refine ⟨fun hex => (C11.existing_destination_refused _ _ fuel w
      (by rw [dst_exists_eq hj, hex])).2.2.2,
    fun habs hnf => (transfer_body_err hi hj sid did fuel S D habs
      (copyDirBody_bad_parent hj sid did fuel S D habs hnf)).2,
    fun hfresh hsrc hne => (transfer_body_err hi hj sid did fuel S D hfresh.absent
      (copyDirBody_src_not_dir hi hj sid did fuel S D hfresh hsrc hne)).2, ?_, ?_⟩
  · intro hfresh hij hSD hf0 hb1
    subst hSD
    exact moveDir_same_absent hi hj hwfs hwfd hnd sid did fuel S hfresh hij hf0 hb1
  · rintro bs rfl hbs hfresh hdir hS hcanon hout hfuel hb1 hb2
    obtain ⟨w', _, _, hrun, _⟩ := C11.moveDir_exact hi hj hwfs hwfd hnd sid did fuel S bs hS hbs
      hdir hcanon hfresh hout hfuel hb1 hb2
    exact ⟨w', hrun⟩

/-- **`move_dir` terminates** — for every state of the destination and every kind of source, under
the fuel bounds of `C11.moveDir_exact`; when the move actually runs (`S` a directory): `S ≠ ""`,
canonical keys below `S`, on one leaf `D` not at or below `S`. -/
theorem moveDir_never_panics (bs : List Str) (hbs : ∀ c ∈ bs, GoodComp c)
    (hsrc : IsDirOf ms S → S ≠ [] ∧
      (∀ k e, ms.find? k = some e → under S k = true → Canon k) ∧
      (i = j → under S (renderC bs) = false) ∧
      (i = j → ∀ k e, ms.find? k = some e → under S k = true →
        (renderC bs).length + k.length < 2 * S.length + fuel))
    (hfuel : descendants ms S < fuel)
    (hb1 : ∀ k e, ms.find? k = some e → k.length < S.length + fuel) :
    (VPath.moveDir fuel { fs := leafFS i, fsId := sid, path := S }
      { fs := leafFS j, fsId := did, path := renderC bs } w).1 ≠ .panic := by
  obtain ⟨ha, hb, hc, hd, he⟩ := moveDir_outcome hi hj hwfs hwfd hnd sid did fuel S (renderC bs)
  cases hD : md.find? (renderC bs) with
  | some e => rw [ha (contains_of_find hD)]; intro h; cases h
  | none =>
    by_cases hfresh : FreshDest md (renderC bs)
    · by_cases hdir : IsDirOf ms S
      · obtain ⟨h1, h2, h3, h4⟩ := hsrc hdir
        obtain ⟨w', hrun⟩ := he bs rfl hbs hfresh hdir h1 h2 h3 hfuel hb1 h4
        rw [hrun]; intro h; cases h
      · by_cases hne : i = j ∧ S = renderC bs
        · obtain ⟨w', hrun⟩ := hd hfresh hne.1 hne.2 (by omega) hb1
          rw [hrun]; intro h; cases h
        · rw [hc hfresh hdir hne]; intro h; cases h
    · rw [hb hD hfresh]; intro h; cases h

end main

/-! Props/C13.lean proves, for every filesystem whose methods do not panic: a `.panic` of the
recursive operations implies the predicate `RemoveDirAllOut` / `WalkAllOut` / `CopyItemsOut` ("the
run follows successful steps down to the `0 =>` branch"). The converses hold on EVERY world, so
these predicates say exactly "the outcome is the sentinel"; on in-memory filesystems they are
refuted by the theorems above: the `0 =>` branch is unreachable with sufficient fuel. -/

theorem bind_fst_panic {α β} {m : M α} {f : α → M β} {w : World} (h : (m w).1 = .panic) :
    (M.bind m f w).1 = .panic := by
  rcases hr : m w with ⟨r, w'⟩
  rw [hr] at h
  cases h
  rw [M.bind_panic hr]

theorem walkAllOut_panics : ∀ (fuel : Nat) (s : VPath.Walk) (w : World),
    VPath.WalkAllOut fuel s w → (VPath.walkAll fuel s w).1 = .panic
  | 0, s, w, _ => by rw [VPath.walkAll_zero]; rfl
  | fuel + 1, s, w, hout => by
    unfold VPath.WalkAllOut at hout
    obtain ⟨it, s', w', hn, hout'⟩ := hout
    rw [VPath.walkAll]
    simp only [bind, M.bind, hn]
    exact bind_fst_panic (walkAllOut_panics fuel s' w' hout')

theorem copyItemsOut_panics (src dst : VPath) : ∀ (fuel : Nat) (s : VPath.Walk) (count : Nat)
    (w : World), VPath.CopyItemsOut src dst fuel s w →
      (VPath.copyItems fuel src dst s count w).1 = .panic
  | 0, s, count, w, _ => by unfold VPath.copyItems; rfl
  | fuel + 1, s, count, w, hout => by
    unfold VPath.CopyItemsOut at hout
    obtain ⟨x, s', w1, d, md, w2, w3, hn, hrel, hmd, hstep, hout'⟩ := hout
    have ih := copyItemsOut_panics src dst fuel s' (count + 1) w3 hout'
    rw [VPath.copyItems]
    rcases hstep with ⟨hft, hcd⟩ | ⟨hft, hcf⟩
    · simp only [bind, M.bind, hn, hrel, M.ret, hmd, hft, hcd]
      exact ih
    · simp only [bind, M.bind, hn, hrel, M.ret, hmd, hft, hcf]
      exact ih

theorem childrenOut_panics (fuel : Nat)
    (hrec : ∀ (c : VPath) (w : World), VPath.RemoveDirAllOut fuel c w →
      (VPath.removeDirAll fuel c w).1 = .panic) :
    ∀ (cs : List VPath) (w : World),
      VPath.ChildrenOut (VPath.removeDirAll fuel) (VPath.RemoveDirAllOut fuel) cs w →
      (VPath.removeChildren fuel cs w).1 = .panic
  | [], w, hout => by unfold VPath.ChildrenOut at hout; exact hout.elim
  | c :: rest, w, hout => by
    unfold VPath.ChildrenOut at hout
    obtain ⟨md, w1, hmd, hcase⟩ := hout
    rw [VPath.removeChildren]
    rcases hcase with ⟨hft, hR⟩ | ⟨hft, w2, hact, hrest⟩ | ⟨hft, w2, hrm, hrest⟩
    · simp only [bind, M.bind, hmd, hft]
      exact bind_fst_panic (hrec c w1 hR)
    · simp only [bind, M.bind, hmd, hft, hact]
      exact childrenOut_panics fuel hrec rest w2 hrest
    · simp only [bind, M.bind, hmd, hft, hrm]
      exact childrenOut_panics fuel hrec rest w2 hrest

theorem removeDirAllOut_panics : ∀ (fuel : Nat) (p : VPath) (w : World),
    VPath.RemoveDirAllOut fuel p w → (VPath.removeDirAll fuel p w).1 = .panic
  | 0, p, w, _ => by rw [VPath.removeDirAll_zero]; rfl
  | fuel + 1, p, w, hout => by
    unfold VPath.RemoveDirAllOut at hout
    obtain ⟨w1, children, w2, hex, hrd, hch⟩ := hout
    rw [VPath.removeDirAll]
    simp only [bind, M.bind, hex, Bool.not_true, Bool.false_eq_true, ↓reduceIte, hrd]
    exact bind_fst_panic (childrenOut_panics fuel (removeDirAllOut_panics fuel) children w2 hch)

theorem copyDirOut_panics (fuel : Nat) (src dst : VPath) (w : World)
    (hout : ∃ w1 w2 s w3, dst.exists_ w = (.ok false, w1) ∧ dst.createDir w1 = (.ok (), w2) ∧
      src.walkDir w2 = (.ok s, w3) ∧ VPath.CopyItemsOut src dst fuel s w3) :
    (src.copyDir fuel dst w).1 = .panic := by
  obtain ⟨w1, w2, s, w3, hex, hcd, hwd, hout'⟩ := hout
  have := copyItemsOut_panics src dst fuel s 0 w3 hout'
  unfold VPath.copyDir
  simp only [M.withPath, bind, M.bind, hex, Bool.false_eq_true, ↓reduceIte, hcd, hwd]
  rcases hr : VPath.copyItems fuel src dst s 0 w3 with ⟨r, w''⟩
  rw [hr] at this
  simp only at this
  subst this
  rfl

/-- **the `0 =>` branch is unreachable** on an in-memory filesystem with sufficient fuel: the
predicates that C13.lean derives from a `.panic` are all refuted -/
theorem fuel_branch_unreachable {w : World} {i : Nat} {m : FMap} (h : MemLeafAt w i m) (hwf : WF m)
    (hk : FMap.NodupKeys m) (id : Nat) (p : Str) :
    (∀ fuel, 0 < fuel → (∀ k e', m.find? k = some e' → k.length < p.length + fuel) →
      ¬ VPath.RemoveDirAllOut fuel { fs := leafFS i, fsId := id, path := p } w) ∧
    (∀ e, m.find? p = some e → e.ftype = .dir → ∀ fuel, descCount m p < fuel →
      ¬ VPath.WalkAllOut fuel (Wk.st i id (Wk.children m p) []) w) := by
  constructor
  · intro fuel hf0 hfuel hout
    exact removeDirAll_never_panics h hwf hk id fuel p hf0 hfuel (removeDirAllOut_panics _ _ _ hout)
  · intro e he hd fuel hf hout
    have := walkAllOut_panics _ _ _ hout
    rw [← C05.walkCollect_eq h id p e he hd fuel] at this
    exact (walk_never_panics h hwf hk id p).2.1 fuel hf this

theorem copyDir_fuel_branch_unreachable {w : World} {i j : Nat} {ms md : FMap}
    (hi : MemLeafAt w i ms) (hj : MemLeafAt w j md) (hwfs : WF ms) (hwfd : WF md)
    (hnd : FMap.NodupKeys ms) (sid did fuel : Nat) (S : Str) (bs : List Str)
    (hbs : ∀ c ∈ bs, GoodComp c)
    (hsrc : IsDirOf ms S → (∀ k e, ms.find? k = some e → under S k = true → Canon k) ∧
      (i = j → under S (renderC bs) = false))
    (hfuel : descendants ms S < fuel) :
    ¬ ∃ w1 w2 s w3,
      VPath.exists_ { fs := leafFS j, fsId := did, path := renderC bs } w = (.ok false, w1) ∧
      VPath.createDir { fs := leafFS j, fsId := did, path := renderC bs } w1 = (.ok (), w2) ∧
      VPath.walkDir { fs := leafFS i, fsId := sid, path := S } w2 = (.ok s, w3) ∧
      VPath.CopyItemsOut { fs := leafFS i, fsId := sid, path := S }
        { fs := leafFS j, fsId := did, path := renderC bs } fuel s w3 :=
  fun hout => copyDir_never_panics hi hj hwfs hwfd hnd sid did fuel S bs hbs hsrc hfuel
    (copyDirOut_panics fuel _ _ w hout)

/-- **the recursive operations terminate on in-memory filesystems.** On memory leaves holding
well-formed maps with unique keys, with the stated (explicit, computable) fuel, none of
`walk_dir`+iteration, `remove_dir_all`, `copy_dir`, `move_dir` ends in the model's out-of-fuel
sentinel — for every path (absent / file / directory; for walk and remove also the root) and every
state of the destination; for the walk the sentinel is characterised exactly. -/
theorem recursive_ops_terminate :
    -- walk_dir + collecting the iterator: fuel = number of entries; exact characterisation
    (∀ (w : World) (i : Nat) (m : FMap), MemLeafAt w i m → WF m → FMap.NodupKeys m →
      ∀ (id : Nat) (p : Str),
        (walkCollect m.length (mk i id p) w).1 ≠ .panic ∧
        (∀ fuel, (walkCollect fuel (mk i id p) w).1 = .panic ↔
          IsDirOf m p ∧ fuel ≤ descCount m p)) ∧
    -- remove_dir_all: fuel = longest key length + 1, or any fuel ≥ 1 above the length difference
    (∀ (w : World) (i : Nat) (m : FMap), MemLeafAt w i m → WF m → FMap.NodupKeys m →
      ∀ (id : Nat) (p : Str),
        (VPath.removeDirAll (keyFuel m) { fs := leafFS i, fsId := id, path := p } w).1 ≠ .panic ∧
        (∀ fuel, 0 < fuel → (∀ k e', m.find? k = some e' → k.length < p.length + fuel) →
          (VPath.removeDirAll fuel { fs := leafFS i, fsId := id, path := p } w).1 ≠ .panic)) ∧
    -- copy_dir: fuel > number of descendants of the source
    (∀ (w : World) (i j : Nat) (ms md : FMap), MemLeafAt w i ms → MemLeafAt w j md → WF ms →
      WF md → FMap.NodupKeys ms → ∀ (sid did fuel : Nat) (S : Str) (bs : List Str),
        (∀ c ∈ bs, GoodComp c) →
        (IsDirOf ms S → (∀ k e, ms.find? k = some e → under S k = true → Canon k) ∧
          (i = j → under S (renderC bs) = false)) →
        descendants ms S < fuel →
        (VPath.copyDir fuel { fs := leafFS i, fsId := sid, path := S }
          { fs := leafFS j, fsId := did, path := renderC bs } w).1 ≠ .panic) ∧
    -- move_dir: additionally the length bounds (fuel is also the depth of remove_dir_all)
    (∀ (w : World) (i j : Nat) (ms md : FMap), MemLeafAt w i ms → MemLeafAt w j md → WF ms →
      WF md → FMap.NodupKeys ms → ∀ (sid did fuel : Nat) (S : Str) (bs : List Str),
        (∀ c ∈ bs, GoodComp c) →
        (IsDirOf ms S → S ≠ [] ∧
          (∀ k e, ms.find? k = some e → under S k = true → Canon k) ∧
          (i = j → under S (renderC bs) = false) ∧
          (i = j → ∀ k e, ms.find? k = some e → under S k = true →
            (renderC bs).length + k.length < 2 * S.length + fuel)) →
        descendants ms S < fuel →
        (∀ k e, ms.find? k = some e → k.length < S.length + fuel) →
        (VPath.moveDir fuel { fs := leafFS i, fsId := sid, path := S }
          { fs := leafFS j, fsId := did, path := renderC bs } w).1 ≠ .panic) := by
  refine ⟨?_, ?_, ?_, ?_⟩
  · intro w i m h hwf hk id p
    have := walk_never_panics h hwf hk id p
    exact ⟨this.1, this.2.2.1⟩
  · intro w i m h hwf hk id p
    exact ⟨removeDirAll_never_panics_keyFuel h hwf hk id p,
      fun fuel hf0 hfuel => removeDirAll_never_panics h hwf hk id fuel p hf0 hfuel⟩
  · intro w i j ms md hi hj hwfs hwfd hnd sid did fuel S bs hbs hsrc hfuel
    exact copyDir_never_panics hi hj hwfs hwfd hnd sid did fuel S bs hbs hsrc hfuel
  · intro w i j ms md hi hj hwfs hwfd hnd sid did fuel S bs hbs hsrc hfuel hb1
    exact moveDir_never_panics hi hj hwfs hwfd hnd sid did fuel S bs hbs hsrc hfuel hb1

/-- `C11.mN` with its keys written as character lists. The kernel decodes a string literal anew
in every evaluation; the closed evaluations over `C11.mN` / `C11.wN` below (and in C13Phys,
C02Composite) rewrite to this copy first. -/
def mNc : FMap :=
  [ (['/','r','/','a','/','b','/','c','/','f'], C11.fileE [100, 101, 101, 112]),
    (['/','r','/','a','b'], C11.fileE [49]), (['/','o','t','h','e','r'], C11.fileE [111]),
    (['/','r','/','a','/','e'], dirEntryNow), (['/','r'], dirEntryNow),
    (['/','r','/','a','.','b'], C11.fileE [50, 50]), (['/','r','/','a','/','b','/','c'], dirEntryNow),
    (['/','r','/','a'], dirEntryNow), (['/','r','/','a','/','x'], C11.fileE []),
    (['/','r','/','a','/','b'], dirEntryNow), ([], dirEntryNow) ]

theorem mN_eq : C11.mN = mNc := by decide +kernel

theorem wN_eq : C11.wN =
    { leaves := [{ kind := .mem, files := mNc }, { kind := .mem, files := C11.mK }] } := by
  unfold C11.wN; rw [mN_eq]

/-! The divergence that IS real (outside the property).

`copy_dir` of a directory into its own subtree on one filesystem: the walk of the source lists
the destination directory it has just created, copies it into itself, lists that copy, … . In the
model the run is out of fuel for every fuel tried, although the source has NO descendants at
all (so `descendants < fuel` holds by a wide margin): the hypothesis "on one leaf the destination
is not at or below the source" of `copyDir_never_panics` cannot be dropped. The real code
loops until it fails for another reason (path length, memory). This input is a caller error
outside C13; nothing here claims termination for it. -/

/-- the empty directory `/r/a/e` of `wN` copied to `/r/a/e/s`: 0 descendants, fuel 15, sentinel -/
theorem copyDir_into_own_subtree_diverges :
    descendants C11.mN "/r/a/e".toList = 0 ∧
    under "/r/a/e".toList (renderC ["r".toList, "a".toList, "e".toList, "s".toList]) = true ∧
    ((C11.at_ 0 "/r/a/e").copyDir 15 (C11.at_ 0 "/r/a/e/s") C11.wN).1 = .panic := by
  refine ⟨by rw [mN_eq]; decide +kernel, by decide, by rw [wN_eq]; decide +kernel⟩

/-- the instances of C11.lean, restated -/
theorem copyDir_into_own_subtree_diverges' :
    ((C11.at_ 0 "/d").copyDir 12 (C11.at_ 0 "/d/sub") C11.w2).1 = .panic ∧
    ((C11.at_ 0 "/e").copyDir 20 (C11.at_ 0 "/e/sub") C11.w2).1 = .panic :=
  ⟨C11.copyDir_into_itself_diverges_12, C11.copyDir_into_itself_diverges_20⟩

/-! `C05.sampleW` (depth 4, siblings a / ab / a.b, unsorted storage) for the walk; `C11.wN` (leaf 0:
depth-4 tree below `/r` with an empty directory, an empty file, siblings; leaf 1: `/keep`) for
the others. -/

open C05 (sampleW worldW sampleW_leaf sampleW_wf sampleW_nodup pathsOf) in
example :
    (walkCollect sampleW.length (mk 0 0 "/a".toList) worldW).1 ≠ .panic ∧
    (walkCollect sampleW.length (mk 0 0 "/a/f".toList) worldW).1 ≠ .panic ∧
    (walkCollect sampleW.length (mk 0 0 "/a/q".toList) worldW).1 ≠ .panic ∧
    (walkCollect sampleW.length (mk 0 0 []) worldW).1 ≠ .panic :=
  ⟨(walk_never_panics sampleW_leaf sampleW_wf sampleW_nodup 0 _).1,
   (walk_never_panics sampleW_leaf sampleW_wf sampleW_nodup 0 _).1,
   (walk_never_panics sampleW_leaf sampleW_wf sampleW_nodup 0 _).1,
   (walk_never_panics sampleW_leaf sampleW_wf sampleW_nodup 0 _).1⟩

open C05 (sampleW worldW sampleW_leaf sampleW_wf sampleW_nodup) in
/-- the sentinel IS reachable, by starving the fuel only: `/a` has 6 descendants; fuel 6 ends in
the sentinel, fuel 7 does not; on the file `/a/f` even fuel 0 does not -/
example :
    (walkCollect 6 (mk 0 0 "/a".toList) worldW).1 = .panic ∧
    (walkCollect 7 (mk 0 0 "/a".toList) worldW).1 ≠ .panic ∧
    (walkCollect 0 (mk 0 0 "/a/f".toList) worldW).1 ≠ .panic :=
  ⟨(walk_sentinel_iff sampleW_leaf sampleW_wf sampleW_nodup 0 _ 6).2
      ⟨⟨dirEntryNow, by decide, rfl⟩, by decide⟩,
   (walk_never_panics sampleW_leaf sampleW_wf sampleW_nodup 0 _).2.1 7 (by decide),
   fun hpan => by
     have := ((walk_sentinel_iff sampleW_leaf sampleW_wf sampleW_nodup 0 "/a/f".toList 0).1 hpan).1
     obtain ⟨e, he, hd⟩ := this
     revert he hd
     simp only [show sampleW.find? "/a/f".toList = some fileEntryNow by decide, Option.some.injEq]
     rintro rfl hd
     cases hd⟩

open C05 (worldW pathsOf) in
example : pathsOf (walkCollect 12 (mk 0 0 "/a/f".toList) worldW) = .err .other (some "/a/f".toList) ∧
    pathsOf (walkCollect 0 (mk 0 0 "/a/q".toList) worldW) = .err .fileNotFound (some "/a/q".toList) := by
  decide +kernel

open C11 (mN wN wN_leaf0 wN_leaf1 mN_wf mN_nodup mK mK_wf at_ view) in
example : keyFuel mN = 11 ∧
    ((at_ 0 "/r/a").removeDirAll (keyFuel mN) wN).1 ≠ .panic ∧
    ((at_ 0 "/r/ab").removeDirAll (keyFuel mN) wN).1 ≠ .panic ∧
    ((at_ 0 "/zz/y").removeDirAll (keyFuel mN) wN).1 ≠ .panic ∧
    ((at_ 0 "").removeDirAll (keyFuel mN) wN).1 ≠ .panic :=
  ⟨by rw [mN_eq]; decide +kernel,
   removeDirAll_never_panics_keyFuel wN_leaf0 mN_wf mN_nodup 0 _,
   removeDirAll_never_panics_keyFuel wN_leaf0 mN_wf mN_nodup 0 _,
   removeDirAll_never_panics_keyFuel wN_leaf0 mN_wf mN_nodup 0 _,
   removeDirAll_never_panics_keyFuel wN_leaf0 mN_wf mN_nodup 0 _⟩

open C11 (mN wN at_ view) in
example :
    ((at_ 0 "/r/ab").removeDirAll 11 wN).1 = .err .other (some "/r/ab".toList) ∧
    ((at_ 0 "/zz/y").removeDirAll 11 wN).1 = .ok () ∧
    ((at_ 0 "/zz/y").removeDirAll 11 wN).2.leaves = wN.leaves ∧
    ((at_ 0 "").removeDirAll 11 wN).1 = .ok () ∧ view ((at_ 0 "").removeDirAll 11 wN).2 0 = [] ∧
    ((at_ 0 "/r").removeDirAll 3 wN).1 = .panic ∧
    ((at_ 0 "/r").removeDirAll 4 wN).1 = .ok () := by
  rw [wN_eq]; simp only [← C11.rmAllK_eq]; decide +kernel

open C11 (mN wN wN_leaf0 wN_leaf1 mN_wf mN_nodup mK mK_wf at_ mN_canon) in
example :
    (VPath.copyDir 9 (at_ 0 "/r") { fs := leafFS 1, fsId := 1, path := renderC ["c".toList] } wN).1
      ≠ .panic ∧
    (VPath.copyDir 9 (at_ 0 "/r") { fs := leafFS 1, fsId := 1, path := renderC ["keep".toList] } wN).1
      ≠ .panic ∧
    (VPath.copyDir 9 (at_ 0 "/r")
      { fs := leafFS 1, fsId := 1, path := renderC ["nope".toList, "c".toList] } wN).1 ≠ .panic ∧
    (VPath.copyDir 9 (at_ 0 "/r")
      { fs := leafFS 1, fsId := 1, path := renderC ["keep".toList, "c".toList] } wN).1 ≠ .panic ∧
    (VPath.copyDir 1 (at_ 0 "/r/ab") { fs := leafFS 1, fsId := 1, path := renderC ["c".toList] } wN).1
      ≠ .panic ∧
    (VPath.copyDir 1 (at_ 0 "/zz") { fs := leafFS 1, fsId := 1, path := renderC ["c".toList] } wN).1
      ≠ .panic := by
  have hsrc : ∀ (S : Str) (bs : List Str), IsDirOf mN S →
      (∀ k e, mN.find? k = some e → under S k = true → Canon k) ∧
      ((0 : Nat) = 1 → under S (renderC bs) = false) :=
    fun S bs _ => ⟨mN_canon S, fun h => absurd h (by decide)⟩
  have hr : descendants mN "/r".toList < 9 := by rw [mN_eq]; decide +kernel
  exact ⟨
    copyDir_never_panics wN_leaf0 wN_leaf1 mN_wf mK_wf mN_nodup 0 1 9 _ _ (by decide) (hsrc _ _) hr,
    copyDir_never_panics wN_leaf0 wN_leaf1 mN_wf mK_wf mN_nodup 0 1 9 _ _ (by decide) (hsrc _ _) hr,
    copyDir_never_panics wN_leaf0 wN_leaf1 mN_wf mK_wf mN_nodup 0 1 9 _ _ (by decide) (hsrc _ _) hr,
    copyDir_never_panics wN_leaf0 wN_leaf1 mN_wf mK_wf mN_nodup 0 1 9 _ _ (by decide) (hsrc _ _) hr,
    copyDir_never_panics wN_leaf0 wN_leaf1 mN_wf mK_wf mN_nodup 0 1 1 _ _ (by decide) (hsrc _ _)
      (by rw [mN_eq]; decide +kernel),
    copyDir_never_panics wN_leaf0 wN_leaf1 mN_wf mK_wf mN_nodup 0 1 1 _ _ (by decide) (hsrc _ _)
      (by rw [mN_eq]; decide +kernel)⟩

open C11 (wN at_ view) in
example :
    ((at_ 0 "/r").copyDir 9 (at_ 1 "/c") wN).1 = .ok 8 ∧
    ((at_ 0 "/r").copyDir 9 (at_ 1 "/keep") wN).1 = .err .other (some "/r".toList) ∧
    ((at_ 0 "/r").copyDir 9 (at_ 1 "/keep") wN).2.leaves = wN.leaves ∧
    ((at_ 0 "/r").copyDir 9 (at_ 1 "/nope/c") wN).1 = .err .other (some "/r".toList) ∧
    ((at_ 0 "/r").copyDir 9 (at_ 1 "/nope/c") wN).2.leaves = wN.leaves ∧
    ((at_ 0 "/r").copyDir 9 (at_ 1 "/keep/c") wN).1 = .err .other (some "/r".toList) ∧
    ((at_ 0 "/r").copyDir 9 (at_ 1 "/keep/c") wN).2.leaves = wN.leaves ∧
    ((at_ 0 "/r/ab").copyDir 1 (at_ 1 "/c") wN).1 = .err .other (some "/r/ab".toList) ∧
    view ((at_ 0 "/r/ab").copyDir 1 (at_ 1 "/c") wN).2 1 =
      [("/c", .dir, []), ("/keep", .file, [107]), ("", .dir, [])] ∧
    ((at_ 0 "/zz").copyDir 1 (at_ 1 "/c") wN).1 = .err .fileNotFound (some "/zz".toList) ∧
    ((at_ 0 "/zz").copyDir 1 (at_ 0 "/zz") wN).1 = .ok 0 := by rw [wN_eq]; decide +kernel

open C11 (mN wN wN_leaf0 mN_wf mN_nodup at_ mN_canon) in
example :
    (VPath.copyDir 6 (at_ 0 "/r/a")
      { fs := leafFS 0, fsId := 0, path := renderC ["r".toList, "a2".toList] } wN).1 ≠ .panic ∧
    (VPath.copyDir 6 (at_ 0 "/r/a")
      { fs := leafFS 0, fsId := 0, path := renderC ["r".toList, "ab".toList] } wN).1 ≠ .panic ∧
    (VPath.copyDir 6 (at_ 0 "/r/a")
      { fs := leafFS 0, fsId := 0, path := renderC ["r".toList, "a".toList] } wN) =
        (.err .other (some "/r/a".toList), wN) :=
  have hra : descendants mN "/r/a".toList < 6 := by rw [mN_eq]; decide +kernel
  ⟨copyDir_never_panics wN_leaf0 wN_leaf0 mN_wf mN_wf mN_nodup 0 0 6 _ _ (by decide)
      (fun _ => ⟨mN_canon _, fun _ => by decide⟩) hra,
   copyDir_never_panics wN_leaf0 wN_leaf0 mN_wf mN_wf mN_nodup 0 0 6 _ _ (by decide)
      (fun _ => ⟨mN_canon _, fun _ => by decide⟩) hra,
   (copyDir_outcome wN_leaf0 wN_leaf0 mN_wf mN_wf mN_nodup 0 0 6 _ _).1 (by decide)⟩

open C11 (mN wN wN_leaf0 wN_leaf1 mN_wf mN_nodup mK mK_wf at_ mN_canon) in
example :
    (VPath.moveDir 12 (at_ 0 "/r") { fs := leafFS 1, fsId := 1, path := renderC ["c".toList] } wN).1
      ≠ .panic ∧
    (VPath.moveDir 12 (at_ 0 "/r") { fs := leafFS 1, fsId := 1, path := renderC ["keep".toList] } wN).1
      ≠ .panic ∧
    (VPath.moveDir 12 (at_ 0 "/r")
      { fs := leafFS 1, fsId := 1, path := renderC ["nope".toList, "c".toList] } wN).1 ≠ .panic ∧
    (VPath.moveDir 12 (at_ 0 "/r/ab") { fs := leafFS 1, fsId := 1, path := renderC ["c".toList] } wN).1
      ≠ .panic ∧
    (VPath.moveDir 12 (at_ 0 "/r") { fs := leafFS 0, fsId := 0, path := renderC ["r2".toList] } wN).1
      ≠ .panic := by
  have hsrc : ∀ (S : Str) (bs : List Str), IsDirOf mN S → S ≠ [] → IsDirOf mN S → S ≠ [] ∧
      (∀ k e, mN.find? k = some e → under S k = true → Canon k) ∧
      ((0 : Nat) = 1 → under S (renderC bs) = false) ∧
      ((0 : Nat) = 1 → ∀ k e, mN.find? k = some e → under S k = true →
        (renderC bs).length + k.length < 2 * S.length + 12) :=
    fun S bs _ hS _ => ⟨hS, mN_canon S, fun h => absurd h (by decide), fun h => absurd h (by decide)⟩
  have hlen : ∀ k e, mN.find? k = some e → k.length < 12 :=
    keys_bound mN 12 (by rw [mN_eq]; decide +kernel)
  have hb : ∀ (S : Str) k e, mN.find? k = some e → k.length < S.length + 12 :=
    fun S k e hk => by have := hlen k e hk; omega
  have hr : descendants mN "/r".toList < 12 := by rw [mN_eq]; decide +kernel
  exact ⟨
    moveDir_never_panics wN_leaf0 wN_leaf1 mN_wf mK_wf mN_nodup 0 1 12 _ _ (by decide)
      (fun hd => hsrc _ _ hd (by decide) hd) hr (hb _),
    moveDir_never_panics wN_leaf0 wN_leaf1 mN_wf mK_wf mN_nodup 0 1 12 _ _ (by decide)
      (fun hd => hsrc _ _ hd (by decide) hd) hr (hb _),
    moveDir_never_panics wN_leaf0 wN_leaf1 mN_wf mK_wf mN_nodup 0 1 12 _ _ (by decide)
      (fun hd => hsrc _ _ hd (by decide) hd) hr (hb _),
    moveDir_never_panics wN_leaf0 wN_leaf1 mN_wf mK_wf mN_nodup 0 1 12 _ _ (by decide)
      (fun hd => hsrc _ _ hd (by decide) hd) (by rw [mN_eq]; decide +kernel) (hb _),
    moveDir_never_panics wN_leaf0 wN_leaf0 mN_wf mN_wf mN_nodup 0 0 12 _ _ (by decide)
      (fun _ => ⟨by decide, mN_canon _, fun _ => by decide, fun _ k e hk _ => by
        have := hlen k e hk
        show 3 + k.length < 2 * 2 + 12
        omega⟩) hr (hb _)⟩

open C11 (wN at_ view) in
example :
    ((at_ 0 "/r").moveDir 12 (at_ 1 "/c") wN).1 = .ok () ∧
    ((at_ 0 "/r").moveDir 12 (at_ 1 "/keep") wN).1 = .err .other (some "/r".toList) ∧
    ((at_ 0 "/r").moveDir 12 (at_ 1 "/keep") wN).2.leaves = wN.leaves ∧
    ((at_ 0 "/r/ab").moveDir 12 (at_ 1 "/c") wN).1 = .err .other (some "/r/ab".toList) ∧
    view ((at_ 0 "/r/ab").moveDir 12 (at_ 1 "/c") wN).2 1 =
      [("/c", .dir, []), ("/keep", .file, [107]), ("", .dir, [])] ∧
    ((at_ 0 "/zz").moveDir 12 (at_ 0 "/zz") wN).1 = .ok () := by
  rw [wN_eq]; simp only [← C11.moveDirK_eq]; decide +kernel

open C11 (mN wN wN_leaf0 mN_wf mN_nodup) in
example : ¬ VPath.RemoveDirAllOut 11 { fs := leafFS 0, fsId := 0, path := "/r".toList } wN :=
  (fuel_branch_unreachable wN_leaf0 mN_wf mN_nodup 0 "/r".toList).1 11 (by decide)
    (fun k e hk => by have := keys_bound mN 11 (by rw [mN_eq]; decide +kernel) k e hk; omega)

end Vfs.C13
