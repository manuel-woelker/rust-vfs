/-
  C01 (complete) — the operation contract of EVERY primitive, on the reference model `Phys.p*`
  and on the in-memory backend `Mem.p*`.

  Props/C01.lean states the full contract for `create_dir` and `remove_file`, on both models. This
  file adds, in the same style, `remove_dir`, the write session (`create_file` + `write_all` + drop),
  the append session, the four observers (`exists`, `metadata`, `read_dir`, `open_file`), the
  memory-side versions of these, and one summary theorem `primitive_contracts`:

      ok ↔ Pre m op        ok → Effect m op m'        ¬ok → m' = m

  with `Pre`/`Effect` given as definitions that can be read off directly, for both models.

  One clause of the prose contract is FALSE on the reference model (and on the code): opening a
  DIRECTORY through PhysicalFS succeeds (`File::open` on Linux), only the reads fail. The full
  statement is kept as `OpenFileSucceedsIffFile`, refuted on a concrete tree
  (`openFile_succeeds_iff_file_phys_false`), and the strongest true form — a handle that can be
  READ is served exactly for files — is `openFile_contract`. On the memory backend the full
  statement holds (`mem_openFile_contract`).
-/
import VfsModel.Props.C01
namespace Vfs.C01
open Vfs.C02

def HasFile (m : FMap) (p : Str) (bs : Bytes) : Prop :=
  ∃ e, m.find? p = some e ∧ e.ftype = .file ∧ e.content = bs

theorem HasFile.isFile {m : FMap} {p : Str} {bs : Bytes} (h : HasFile m p bs) : IsFile m p := by
  obtain ⟨e, h1, h2, _⟩ := h; exact ⟨e, h1, h2⟩

theorem isFile_hasFile {m : FMap} {p : Str} (h : IsFile m p) : ∃ bs, HasFile m p bs := by
  obtain ⟨e, h1, h2⟩ := h; exact ⟨e.content, e, h1, h2, rfl⟩

theorem children_nil_iff (m : FMap) (p : Str) :
    m.keys.filterMap (childName p) = [] ↔ NoChildren m p := by
  constructor
  · intro h k e hk hs heq
    have : afterLast '/' k ∈ m.keys.filterMap (childName p) :=
      (mem_filterMap_childName m p _).2 ⟨k, e, hk, hs, heq, rfl⟩
    rw [h] at this; cases this
  · intro h
    apply List.eq_nil_iff_forall_not_mem.2
    intro n hn
    obtain ⟨k, e, hk, hs, heq, _⟩ := (mem_filterMap_childName m p n).1 hn
    exact h k e hk hs heq

theorem mem_children_iff (m : FMap) (p n : Str) :
    n ∈ m.keys.filterMap (childName p) ↔ '/' ∉ n ∧ ¬ Absent m (p ++ '/' :: n) := by
  rw [mem_children, FMap.contains_iff, Absent, ← ne_eq, Option.ne_none_iff_exists']

/-- what both backends list: the bare names of the present children, each once where no key is
stored twice -/
theorem listing_contract (m : FMap) (p : Str) {l : List Str} (hl : l = m.keys.filterMap (childName p)) :
    (∀ n, n ∈ l ↔ '/' ∉ n ∧ ¬ Absent m (p ++ '/' :: n)) ∧ (FMap.NodupKeys m → l.Nodup) :=
  hl ▸ ⟨fun n => mem_children_iff m p n, fun hk => filterMap_childName_nodup m p hk⟩

/-! ### the contracts, read off the tables

As in Props/C01.lean: each leaf is in normal form, so the new map is a write applied to the slot
`p`, and what a contract says of it is a statement about the slot. -/

theorem hasFile_app {m : FMap} {p : Str} {wr : Write} {bs : Bytes} :
    HasFile (wr.app m p) p bs ↔
      ∃ e, wr.slot (m.find? p) = some e ∧ e.ftype = .file ∧ e.content = bs := by
  rw [HasFile, Write.find?_app_self]

theorem kids_false_iff (m : FMap) (p : Str) : Mem.kids m p = false ↔ NoChildren m p := by
  rw [← children_nil_iff]; simp [Mem.kids]

theorem phys_kids (m : FMap) (p : Str) : decide (Phys.children m p ≠ []) = Mem.kids m p := rfl

/-! ### the reference contracts of the remaining mutators

The reference statements hold for EVERY path string `p` of a well-formed tree (on the reference
model a key without '/' simply resolves against the root); the memory versions below need
`Abs p`, which is what the `VfsPath` layer produces. -/

section spec
variable {m : FMap} (hm : WF m) (p : Str)
include hm

theorem phys_lookup_after {m' : FMap} (hpar : IsDir m (parentInternal p)) (hfr : Frame m m' p) :
    Phys.lookup m' p = .ok (m'.find? p) := by
  have h0 : Phys.lookup m p = .ok (m.find? p) := (hm.lookup_view p).resolve_right fun h => h.2.1 hpar
  unfold Phys.lookup at h0 ⊢
  rw [resolveParent_congr (m := m) (m' := m') fun a ha => by rw [hfr a (ne_of_mem_ancestors ha)]]
  cases hr : Phys.resolveParent m p <;> rw [hr] at h0 <;> first | rfl | cases h0

/-- remove_dir succeeds exactly on an existing directory without children; then exactly `p`
disappears; a failed call changes nothing; a target missing from an existing directory is
not-found; a non-empty directory and a file are refused -/
theorem removeDir_contract :
    ((Phys.pRemoveDir m p).1.isOk = true ↔ IsDir m p ∧ NoChildren m p) ∧
    ((Phys.pRemoveDir m p).1.isOk = true →
        Absent (Phys.pRemoveDir m p).2 p ∧ Frame m (Phys.pRemoveDir m p).2 p) ∧
    ((Phys.pRemoveDir m p).1.isOk = false → (Phys.pRemoveDir m p).2 = m) ∧
    (IsDir m (parentInternal p) → Absent m p → (Phys.pRemoveDir m p).1.kind? = some .fileNotFound) ∧
    (IsDir m p → ¬ NoChildren m p → errClass (Phys.pRemoveDir m p).1 = some .otherFailure) ∧
    (IsFile m p → errClass (Phys.pRemoveDir m p).1 = some .otherFailure) := by
  rw [Phys.pRemoveDir, Phys.removeDir_eq, phys_kids]
  simp only [onSlot, frame_app, and_true, Res.isOk_withPath, ← kids_false_iff, IsFile, IsDir,
    Absent]
  rcases hm.lookup_view p with hl | ⟨hf, hnp, k, hl, _⟩
  · rw [hl]
    rcases m.find? p with _ | ⟨⟨_ | _, c, cr, mo, ac⟩⟩ <;> cases Mem.kids m p <;>
      simp [Phys.removeDirS, fail, Res.isOk, Res.withPath, Res.kind?, errClass, ErrKind.cls, 
        Write.app]
  · simp [hl, hf, show ¬ ∃ e, _ from hnp, Phys.removeDirS, Res.isOk, Res.withPath, Write.app]

/-- one write session (`create_file`, `write_all(bs)`, drop) succeeds exactly when the parent
is an existing directory and the target is absent or a file; then `p` is a file holding exactly
`bs` (its metadata reports that length) and every other key keeps its entry; a failed session
changes nothing; a directory target and a missing / non-directory parent are refused -/
theorem write_contract (bs : Bytes) :
    ((Phys.pWrite m p bs).1.isOk = true ↔ IsDir m (parentInternal p) ∧ (Absent m p ∨ IsFile m p)) ∧
    ((Phys.pWrite m p bs).1.isOk = true →
        HasFile (Phys.pWrite m p bs).2 p bs ∧ Frame m (Phys.pWrite m p bs).2 p ∧
        ∃ md, Phys.metadata (Phys.pWrite m p bs).2 p = .ok md ∧ md.ftype = .file ∧ md.len = bs.length) ∧
    ((Phys.pWrite m p bs).1.isOk = false → (Phys.pWrite m p bs).2 = m) ∧
    (IsDir m (parentInternal p) → IsDir m p → errClass (Phys.pWrite m p bs).1 = some .otherFailure) ∧
    (¬ IsDir m (parentInternal p) → errClass (Phys.pWrite m p bs).1 = some .otherFailure) := by
  rw [Phys.pWrite_eq]
  by_cases hpar : IsDir m (parentInternal p)
  · have hl : Phys.lookup m p = .ok (m.find? p) := (hm.lookup_view p).resolve_right fun h => h.2.1 hpar
    -- the metadata clause asks the host to resolve `p` in the new map: its ancestors are untouched
    have hl' := phys_lookup_after hm p hpar (frame_app m p (Phys.writeS bs true (.ok (m.find? p))).2)
    rw [(phys_parentOk hm p).2 hpar, hl]
    simp only [Phys.metadata, hl', hasFile_app, frame_app, true_and, Res.isOk_withPath, Write.find?_app_self,
      IsFile, IsDir, Absent]
    rcases m.find? p with _ | ⟨⟨_ | _, c, cr, mo, ac⟩⟩ <;>
      simp [show ∃ e, _ from hpar, Phys.writeS, Phys.createFileS, Phys.wrote0_ftype, Phys.wrote0_content, fail,
        Res.isOk, Res.withPath, Res.kind?, errClass, ErrKind.cls, Write.slot, Write.app, fileEntryNow, Entry.meta]
  · have : Phys.parentOk m p = false := Bool.eq_false_iff.2 fun h => hpar ((phys_parentOk hm p).1 h)
    simp [Phys.writeS, this, hpar, fail, Res.isOk, Res.withPath, errClass, Res.kind?, ErrKind.cls, Write.app]

/-- one append session (`append_file`, `write_all(bs)`, drop) succeeds exactly on an existing
file; then its content is the old content followed by `bs` and every other key keeps its entry;
a failed session changes nothing; a target missing from an existing directory is not-found; a
directory is refused -/
theorem append_contract (bs : Bytes) :
    ((Phys.pAppend m p bs).1.isOk = true ↔ IsFile m p) ∧
    ((Phys.pAppend m p bs).1.isOk = true →
        (∃ old, HasFile m p old ∧ HasFile (Phys.pAppend m p bs).2 p (old ++ bs)) ∧
        Frame m (Phys.pAppend m p bs).2 p) ∧
    ((Phys.pAppend m p bs).1.isOk = false → (Phys.pAppend m p bs).2 = m) ∧
    (IsDir m (parentInternal p) → Absent m p → (Phys.pAppend m p bs).1.kind? = some .fileNotFound) ∧
    (IsDir m p → errClass (Phys.pAppend m p bs).1 = some .otherFailure) := by
  rw [Phys.pAppend_eq]
  simp only [frame_app, and_true, Res.isOk_withPath, IsFile, IsDir, Absent, HasFile]
  rcases hm.lookup_view p with hl | ⟨hf, hnp, k, hl, _⟩
  · rw [hl]
    rcases m.find? p with _ | ⟨⟨_ | _, c, cr, mo, ac⟩⟩ <;>
      simp [Phys.appendS, fail, Res.isOk, Res.withPath, Res.kind?, errClass, ErrKind.cls, Write.app]
  · simp [hl, hf, show ¬ ∃ e, _ from hnp, Phys.appendS, Res.isOk, Res.withPath, Write.app]

end spec

/-! ### the observers on the reference model

`Phys.exists_`, `Phys.metadata`, `Phys.readDir`, `Phys.openFile` are pure functions of the map:
an observer of the reference model cannot change the tree. -/

section observers
variable {m : FMap} (hm : WF m) (p : Str)
include hm

/-- `exists` answers (it has no failure outcome: every host error reads as `false`), and the
answer is `true` exactly for present paths -/
theorem exists_contract :
    (Phys.exists_ m p = true ↔ ¬ Absent m p) ∧ (Phys.exists_ m p = false ↔ Absent m p) := by
  unfold Phys.exists_ Absent
  rcases hm.lookup_view p with hl | ⟨hf, _, k, hl, _⟩
  · rw [hl]; cases m.find? p <;> simp
  · simp [hl, hf]

/-- `metadata` succeeds exactly on present paths and reports the type, and for a file its
length; a target missing from an existing directory is not-found -/
theorem metadata_contract :
    ((Phys.metadata m p).isOk = true ↔ ¬ Absent m p) ∧
    (IsDir m p → ∃ md, Phys.metadata m p = .ok md ∧ md.ftype = .dir) ∧
    (∀ bs, HasFile m p bs → ∃ md, Phys.metadata m p = .ok md ∧ md.ftype = .file ∧ md.len = bs.length) ∧
    (IsDir m (parentInternal p) → Absent m p → (Phys.metadata m p).kind? = some .fileNotFound) := by
  unfold Phys.metadata
  simp only [IsDir, HasFile, Absent]
  rcases hm.lookup_view p with hl | ⟨hf, hnp, k, hl, _⟩
  · rw [hl]
    rcases m.find? p with _ | ⟨⟨_ | _, c, cr, mo, ac⟩⟩ <;> simp [fail, Res.isOk, Res.kind?, Entry.meta]
  · simp [hl, hf, show ¬ ∃ e, _ from hnp, Res.isOk]

/-- `read_dir` succeeds exactly on directories and lists exactly the bare names of the present
children — each once (on a map without duplicate keys, which is what every operation produces);
a target missing from an existing directory is not-found; a file is refused -/
theorem readDir_contract :
    ((Phys.readDir m p).isOk = true ↔ IsDir m p) ∧
    (∀ l, Phys.readDir m p = .ok l →
        (∀ n, n ∈ l ↔ '/' ∉ n ∧ ¬ Absent m (p ++ '/' :: n)) ∧ (FMap.NodupKeys m → l.Nodup)) ∧
    (IsDir m (parentInternal p) → Absent m p → (Phys.readDir m p).kind? = some .fileNotFound) ∧
    (IsFile m p → errClass (Phys.readDir m p) = some .otherFailure) := by
  unfold Phys.readDir
  rcases hm.lookup_view p with hl | ⟨hf, hnp, k, hl, _⟩
  · rw [hl]
    simp only [IsDir, IsFile]
    rcases hf : m.find? p with _ | ⟨⟨_ | _, c, cr, mo, ac⟩⟩ <;>
      simp [Absent, hf, fail, Res.isOk, Res.kind?, errClass, ErrKind.cls]
    exact listing_contract m p rfl
  · simp [hl, hf, show ¬ ∃ e, _ from hnp, IsDir, IsFile, Res.isOk]

/-- `open_file`: a handle that can be READ is served exactly for files, and it serves exactly
the file's bytes; a target missing from an existing directory is not-found. On a DIRECTORY the
host's `open` succeeds and every read through the handle fails (`File::open` on Linux) — see
`openFile_succeeds_iff_file_phys_false` -/
theorem openFile_contract :
    ((∃ r, Phys.openFile m p = .ok r ∧ r.bad = false) ↔ IsFile m p) ∧
    (∀ bs, HasFile m p bs →
        Phys.openFile m p = .ok { content := bs, pos := 0 } ∧
        (RHandle.readToEnd { content := bs, pos := 0 }).1 = .ok bs) ∧
    (IsDir m (parentInternal p) → Absent m p → (Phys.openFile m p).kind? = some .fileNotFound) ∧
    (IsDir m p → ∃ r, Phys.openFile m p = .ok r ∧ r.bad = true ∧
        r.readToEnd.1 = fail .io ∧ ∀ n, (r.read n).1 = fail .io) := by
  unfold Phys.openFile
  simp only [IsDir, IsFile, HasFile, Absent]
  rcases hm.lookup_view p with hl | ⟨hf, hnp, k, hl, _⟩
  · rw [hl]
    rcases m.find? p with _ | ⟨⟨_ | _, c, cr, mo, ac⟩⟩ <;>
      simp [fail, Res.kind?, RHandle.readToEnd, RHandle.read]
  · simp [hl, hf, show ¬ ∃ e, _ from hnp]

end observers

/-! ### the in-memory backend

`exists` (`contains_key`), `metadata` and `read_dir` take the read lock and return no new map:
they cannot change the tree. `open_file` takes the WRITE lock and stamps the access time of the
entry it finds BEFORE it checks the type (memory.rs `open_file`), so it changes the access time
of `p` — also when it then refuses a directory — and nothing else. -/

section memObservers
variable (m : FMap) (p : Str)

theorem mem_exists_contract :
    (m.contains p = true ↔ ¬ Absent m p) ∧ (m.contains p = false ↔ Absent m p) := by
  unfold FMap.contains Absent
  cases m.find? p <;> simp

theorem mem_metadata_contract :
    ((Mem.metadata m p).isOk = true ↔ ¬ Absent m p) ∧
    (IsDir m p → ∃ md, Mem.metadata m p = .ok md ∧ md.ftype = .dir) ∧
    (∀ bs, HasFile m p bs → ∃ md, Mem.metadata m p = .ok md ∧ md.ftype = .file ∧ md.len = bs.length) ∧
    (Absent m p → (Mem.metadata m p).kind? = some .fileNotFound) := by
  unfold Mem.metadata
  simp only [IsDir, HasFile, Absent]
  rcases m.find? p with _ | ⟨⟨_ | _, c, cr, mo, ac⟩⟩ <;> simp [fail, Res.isOk, Res.kind?, Entry.meta]

theorem mem_readDir_contract :
    ((Mem.readDir m p).isOk = true ↔ IsDir m p) ∧
    (∀ l, Mem.readDir m p = .ok l →
        (∀ n, n ∈ l ↔ '/' ∉ n ∧ ¬ Absent m (p ++ '/' :: n)) ∧ (FMap.NodupKeys m → l.Nodup)) ∧
    (Absent m p → (Mem.readDir m p).kind? = some .fileNotFound) ∧
    (IsFile m p → errClass (Mem.readDir m p) = some .otherFailure) := by
  rw [Mem.readDir_eq]
  simp only [IsDir, IsFile]
  rcases hf : m.find? p with _ | ⟨⟨_ | _, c, cr, mo, ac⟩⟩ <;>
    simp [Absent, hf, fail, Res.isOk, Res.kind?, errClass, ErrKind.cls]
  simpa [Absent] using listing_contract m p rfl

/-- `open_file` on MemoryFS succeeds exactly on files and serves exactly the file's bytes; a
missing target is not-found and nothing changes; a directory is refused. The map changes only
in the access-time stamp of `p` (content and types are untouched: `CoreEq`) -/
theorem mem_openFile_contract :
    ((Mem.openFile m p).1.isOk = true ↔ IsFile m p) ∧
    (∀ bs, HasFile m p bs →
        (Mem.openFile m p).1 = .ok { content := bs, pos := 0 } ∧
        (RHandle.readToEnd { content := bs, pos := 0 }).1 = .ok bs) ∧
    (Absent m p → (Mem.openFile m p).1.kind? = some .fileNotFound ∧ (Mem.openFile m p).2 = m) ∧
    (IsDir m p → errClass (Mem.openFile m p).1 = some .otherFailure) ∧
    (Frame m (Mem.openFile m p).2 p ∧
      (∀ e, m.find? p = some e → (Mem.openFile m p).2.find? p = some { e with accessed := .now }) ∧
      CoreEq (Mem.openFile m p).2 m) := by
  have hcore : CoreEq ((Mem.openFileS (m.find? p)).2.app m p) m :=
    (CoreEq.refl m).app (wb := .keep) (by cases m.find? p <;> rfl)
  rw [Mem.openFile_eq]
  simp only [onSlot, frame_app, true_and, Write.find?_app_self, hcore, and_true, IsFile, IsDir, HasFile,
    Absent]
  rcases m.find? p with _ | ⟨⟨_ | _, c, cr, mo, ac⟩⟩ <;>
    simp [Mem.openFileS, fail, Res.isOk, Res.kind?, errClass, ErrKind.cls, RHandle.readToEnd, Write.slot,
      Write.app]

end memObservers

section mem
variable (m : FMap) (p : Str)

/-- remove_dir on MemoryFS: the contract of `removeDir_contract`; a missing target is not-found
whatever its parent is -/
theorem mem_removeDir_contract :
    ((Mem.pRemoveDir m p).1.isOk = true ↔ IsDir m p ∧ NoChildren m p) ∧
    ((Mem.pRemoveDir m p).1.isOk = true →
        Absent (Mem.pRemoveDir m p).2 p ∧ Frame m (Mem.pRemoveDir m p).2 p) ∧
    ((Mem.pRemoveDir m p).1.isOk = false → (Mem.pRemoveDir m p).2 = m) ∧
    (Absent m p → (Mem.pRemoveDir m p).1.kind? = some .fileNotFound) ∧
    (IsDir m p → ¬ NoChildren m p → errClass (Mem.pRemoveDir m p).1 = some .otherFailure) ∧
    (IsFile m p → errClass (Mem.pRemoveDir m p).1 = some .otherFailure) := by
  rw [Mem.pRemoveDir_eq]
  simp only [frame_app, and_true, Res.isOk_withPath, ← kids_false_iff, IsFile, IsDir, Absent]
  rcases m.find? p with _ | ⟨⟨_ | _, c, cr, mo, ac⟩⟩ <;> cases Mem.kids m p <;>
    simp [Mem.removeDirS, fail, Res.isOk, Res.withPath, Res.kind?, errClass, ErrKind.cls, Write.app]

theorem mem_removeDir_ok_iff : (Mem.pRemoveDir m p).1.isOk = true ↔ IsDir m p ∧ NoChildren m p :=
  (mem_removeDir_contract m p).1

theorem mem_removeDir_effect (h : (Mem.pRemoveDir m p).1.isOk = true) :
    Absent (Mem.pRemoveDir m p).2 p ∧ Frame m (Mem.pRemoveDir m p).2 p :=
  (mem_removeDir_contract m p).2.1 h

theorem mem_removeDir_unchanged_on_failure (h : (Mem.pRemoveDir m p).1.isOk = false) :
    (Mem.pRemoveDir m p).2 = m :=
  (mem_removeDir_contract m p).2.2.1 h

/-- the write session on MemoryFS: the contract of `write_contract` -/
theorem mem_write_contract (hp : Abs p) (bs : Bytes) :
    ((Mem.pWrite m p bs).1.isOk = true ↔ IsDir m (parentInternal p) ∧ (Absent m p ∨ IsFile m p)) ∧
    ((Mem.pWrite m p bs).1.isOk = true →
        HasFile (Mem.pWrite m p bs).2 p bs ∧ Frame m (Mem.pWrite m p bs).2 p ∧
        ∃ md, Mem.metadata (Mem.pWrite m p bs).2 p = .ok md ∧ md.ftype = .file ∧ md.len = bs.length) ∧
    ((Mem.pWrite m p bs).1.isOk = false → (Mem.pWrite m p bs).2 = m) ∧
    (IsDir m (parentInternal p) → IsDir m p → errClass (Mem.pWrite m p bs).1 = some .otherFailure) ∧
    (¬ IsDir m (parentInternal p) → errClass (Mem.pWrite m p bs).1 = some .otherFailure) := by
  rw [Mem.pWrite_eq, ← par_iff_isDir hp.slash]
  simp only [hasFile_app, frame_app, true_and, Res.isOk_withPath, Mem.metadata, Write.find?_app_self,
    IsFile, IsDir, Absent]
  cases Mem.par m p <;> rcases m.find? p with _ | ⟨⟨_ | _, c, cr, mo, ac⟩⟩ <;>
    simp [Mem.writeS, Mem.createFileS, fail, Res.isOk, Res.withPath, Res.kind?, errClass, ErrKind.cls,
      Write.slot, Write.app, fileEntryNow, Entry.meta]

theorem mem_write_ok_iff (hp : Abs p) (bs : Bytes) :
    (Mem.pWrite m p bs).1.isOk = true ↔ IsDir m (parentInternal p) ∧ (Absent m p ∨ IsFile m p) :=
  (mem_write_contract m p hp bs).1

theorem mem_write_effect (hp : Abs p) (bs : Bytes) (h : (Mem.pWrite m p bs).1.isOk = true) :
    HasFile (Mem.pWrite m p bs).2 p bs ∧ Frame m (Mem.pWrite m p bs).2 p :=
  ⟨((mem_write_contract m p hp bs).2.1 h).1, ((mem_write_contract m p hp bs).2.1 h).2.1⟩

theorem mem_write_unchanged_on_failure (hp : Abs p) (bs : Bytes)
    (h : (Mem.pWrite m p bs).1.isOk = false) : (Mem.pWrite m p bs).2 = m :=
  (mem_write_contract m p hp bs).2.2.1 h

/-- the append session on MemoryFS: the contract of `append_contract`; a missing target is
not-found whatever its parent is -/
theorem mem_append_contract (bs : Bytes) :
    ((Mem.pAppend m p bs).1.isOk = true ↔ IsFile m p) ∧
    ((Mem.pAppend m p bs).1.isOk = true →
        (∃ old, HasFile m p old ∧ HasFile (Mem.pAppend m p bs).2 p (old ++ bs)) ∧
        Frame m (Mem.pAppend m p bs).2 p) ∧
    ((Mem.pAppend m p bs).1.isOk = false → (Mem.pAppend m p bs).2 = m) ∧
    (Absent m p → (Mem.pAppend m p bs).1.kind? = some .fileNotFound) ∧
    (IsDir m p → errClass (Mem.pAppend m p bs).1 = some .otherFailure) := by
  rw [Mem.pAppend_eq]
  simp only [frame_app, and_true, Res.isOk_withPath, IsFile, IsDir, HasFile, Absent]
  rcases m.find? p with _ | ⟨⟨_ | _, c, cr, mo, ac⟩⟩ <;>
    simp [Mem.appendS, Mem.publishS, fail, Res.isOk, Res.withPath, Res.kind?, errClass, ErrKind.cls,
      Write.app]

theorem mem_append_ok_iff (bs : Bytes) : (Mem.pAppend m p bs).1.isOk = true ↔ IsFile m p :=
  (mem_append_contract m p bs).1

theorem mem_append_effect (bs : Bytes) (h : (Mem.pAppend m p bs).1.isOk = true) :
    (∃ old, HasFile m p old ∧ HasFile (Mem.pAppend m p bs).2 p (old ++ bs)) ∧
    Frame m (Mem.pAppend m p bs).2 p :=
  (mem_append_contract m p bs).2.1 h

theorem mem_append_unchanged_on_failure (bs : Bytes) (h : (Mem.pAppend m p bs).1.isOk = false) :
    (Mem.pAppend m p bs).2 = m :=
  (mem_append_contract m p bs).2.2.1 h

theorem mem_createDir_effect (hp : Abs p) (h : (Mem.pCreateDir m p).1.isOk = true) :
    IsDir (Mem.pCreateDir m p).2 p ∧ Frame m (Mem.pCreateDir m p).2 p :=
  (mem_createDir_contract m p hp).2.1 h

theorem mem_createDir_unchanged_on_failure (hp : Abs p) (h : (Mem.pCreateDir m p).1.isOk = false) :
    (Mem.pCreateDir m p).2 = m :=
  (mem_createDir_contract m p hp).2.2.1 h

theorem mem_removeFile_effect (h : (Mem.pRemoveFile m p).1.isOk = true) :
    Absent (Mem.pRemoveFile m p).2 p ∧ Frame m (Mem.pRemoveFile m p).2 p :=
  (mem_removeFile_contract m p).2.1 h

theorem mem_removeFile_unchanged_on_failure (h : (Mem.pRemoveFile m p).1.isOk = false) :
    (Mem.pRemoveFile m p).2 = m :=
  (mem_removeFile_contract m p).2.2.1 h

/-- a target that is missing is reported as not-found by every MemoryFS primitive that needs
its target (remove_file, remove_dir, append_file, metadata, read_dir, open_file) — and nothing
changes -/
theorem mem_missing_target_notFound (bs : Bytes) (ha : Absent m p) :
    (Mem.pRemoveFile m p).1.kind? = some .fileNotFound ∧
    (Mem.pRemoveDir m p).1.kind? = some .fileNotFound ∧
    (Mem.pAppend m p bs).1.kind? = some .fileNotFound ∧
    (Mem.metadata m p).kind? = some .fileNotFound ∧
    (Mem.readDir m p).kind? = some .fileNotFound ∧
    (Mem.openFile m p).1.kind? = some .fileNotFound ∧ (Mem.openFile m p).2 = m :=
  ⟨(mem_removeFile_contract m p).2.2.2.1 ha, (mem_removeDir_contract m p).2.2.2.1 ha,
    (mem_append_contract m p bs).2.2.2.1 ha, (mem_metadata_contract m p).2.2.2 ha,
    (mem_readDir_contract m p).2.2.1 ha, (mem_openFile_contract m p).2.2.1 ha⟩

end mem

/-- the documented precondition of a primitive call -/
def Pre (m : FMap) : Mut → Prop
  | .createDir p  => IsDir m (parentInternal p) ∧ Absent m p
  | .write p _    => IsDir m (parentInternal p) ∧ (Absent m p ∨ IsFile m p)
  | .append p _   => IsFile m p
  | .removeFile p => IsFile m p
  | .removeDir p  => IsDir m p ∧ NoChildren m p

/-- what a successful call makes of the entry it names -/
def Named (m : FMap) (m' : FMap) : Mut → Prop
  | .createDir p  => IsDir m' p
  | .write p bs   => HasFile m' p bs
  | .append p bs  => ∃ old, HasFile m p old ∧ HasFile m' p (old ++ bs)
  | .removeFile p => Absent m' p
  | .removeDir p  => Absent m' p

def Effect (m : FMap) (op : Mut) (m' : FMap) : Prop := Named m m' op ∧ Frame m m' op.path

def needsTarget : Mut → Bool
  | .append _ _ | .removeFile _ | .removeDir _ => true
  | .createDir _ | .write _ _ => false

/-- the contract of one call of one backend (`step` = `stepPhys` or `stepMem`) -/
structure Contract (step : FMap → Mut → Res Unit × FMap) (m : FMap) (op : Mut) : Prop where
  /-- it succeeds exactly when the tree meets the precondition -/
  ok_iff : (step m op).1.isOk = true ↔ Pre m op
  /-- a successful call changes exactly the entry it names -/
  effect : (step m op).1.isOk = true → Effect m op (step m op).2
  /-- a failed call leaves the tree unchanged -/
  unchanged : (step m op).1.isOk = false → (step m op).2 = m
  /-- a target missing from an existing directory is reported as not-found -/
  missing : needsTarget op = true → IsDir m (parentInternal op.path) → Absent m op.path →
    (step m op).1.kind? = some .fileNotFound
  /-- create_dir on an occupied path reports the occupant -/
  occupied : ∀ q, op = .createDir q → IsDir m (parentInternal q) →
    (IsFile m q → (step m op).1.kind? = some .fileExists) ∧
    (IsDir m q → (step m op).1.kind? = some .dirExists)
  /-- and it never panics -/
  no_panic : (step m op).1 ≠ .panic

/-- **every primitive, both models**: for a well-formed tree and an absolute path -/
theorem primitive_contracts {m : FMap} (hm : WF m) (op : Mut) (hp : Abs op.path) :
    Contract stepPhys m op ∧ Contract stepMem m op := by
  have hnp := (step_agree hm (CoreEq.refl m) op hp).1
  cases op with
  | createDir p =>
    have hc := createDir_contract hm p hp
    have hc' := mem_createDir_contract m p hp
    exact ⟨{ ok_iff := hc.1, effect := hc.2.1, unchanged := hc.2.2.1, missing := nofun,
             occupied := fun q hq hpar => by cases hq; exact ⟨hc.2.2.2.1 hpar, hc.2.2.2.2 hpar⟩,
             no_panic := hnp.2.2 },
           { ok_iff := hc'.1, effect := hc'.2.1, unchanged := hc'.2.2.1, missing := nofun,
             occupied := fun q hq hpar => by cases hq; exact ⟨hc'.2.2.2.1 hpar, hc'.2.2.2.2 hpar⟩,
             no_panic := hnp.2.1 }⟩
  | write p bs =>
    have hc := write_contract hm p bs
    have hc' := mem_write_contract m p hp bs
    exact ⟨{ ok_iff := hc.1, effect := fun h => ⟨(hc.2.1 h).1, (hc.2.1 h).2.1⟩, unchanged := hc.2.2.1,
             missing := nofun, occupied := fun _ => nofun, no_panic := hnp.2.2 },
           { ok_iff := hc'.1, effect := fun h => ⟨(hc'.2.1 h).1, (hc'.2.1 h).2.1⟩,
             unchanged := hc'.2.2.1, missing := nofun, occupied := fun _ => nofun,
             no_panic := hnp.2.1 }⟩
  | append p bs =>
    have hc := append_contract hm p bs
    have hc' := mem_append_contract m p bs
    exact ⟨{ ok_iff := hc.1, effect := hc.2.1, unchanged := hc.2.2.1, missing := fun _ => hc.2.2.2.1,
             occupied := fun _ => nofun, no_panic := hnp.2.2 },
           { ok_iff := hc'.1, effect := hc'.2.1, unchanged := hc'.2.2.1, missing := fun _ _ => hc'.2.2.2.1,
             occupied := fun _ => nofun, no_panic := hnp.2.1 }⟩
  | removeFile p =>
    have hc := removeFile_contract hm p hp
    have hc' := mem_removeFile_contract m p
    exact ⟨{ ok_iff := hc.1, effect := hc.2.1, unchanged := hc.2.2.1, missing := fun _ => hc.2.2.2,
             occupied := fun _ => nofun, no_panic := hnp.2.2 },
           { ok_iff := hc'.1, effect := hc'.2.1, unchanged := hc'.2.2.1, missing := fun _ _ => hc'.2.2.2.1,
             occupied := fun _ => nofun, no_panic := hnp.2.1 }⟩
  | removeDir p =>
    have hc := removeDir_contract hm p
    have hc' := mem_removeDir_contract m p
    exact ⟨{ ok_iff := hc.1, effect := hc.2.1, unchanged := hc.2.2.1, missing := fun _ => hc.2.2.2.1,
             occupied := fun _ => nofun, no_panic := hnp.2.2 },
           { ok_iff := hc'.1, effect := hc'.2.1, unchanged := hc'.2.2.1, missing := fun _ _ => hc'.2.2.2.1,
             occupied := fun _ => nofun, no_panic := hnp.2.1 }⟩

/-- hence the two backends accept exactly the same calls, and a successful call leaves the same
named entry and the same frame on both -/
theorem primitive_contracts_same_pre {m : FMap} (hm : WF m) (op : Mut) (hp : Abs op.path) :
    ((stepPhys m op).1.isOk = true ↔ (stepMem m op).1.isOk = true) := by
  obtain ⟨h1, h2⟩ := primitive_contracts hm op hp
  rw [h1.ok_iff, h2.ok_iff]

instance (m : FMap) (p : Str) : Decidable (IsDir m p) :=
  decidable_of_iff ((m.find? p).any (fun e => decide (e.ftype = .dir)) = true)
    (by unfold IsDir; cases m.find? p <;> simp)

instance (m : FMap) (p : Str) : Decidable (IsFile m p) :=
  decidable_of_iff ((m.find? p).any (fun e => decide (e.ftype = .file)) = true)
    (by unfold IsFile; cases m.find? p <;> simp)

instance (m : FMap) (p : Str) : Decidable (Absent m p) := by unfold Absent; exact inferInstance

instance (m : FMap) (p : Str) (bs : Bytes) : Decidable (HasFile m p bs) :=
  decidable_of_iff ((m.find? p).any (fun e => decide (e.ftype = .file ∧ e.content = bs)) = true)
    (by unfold HasFile; cases m.find? p <;> simp)

theorem noChildren_iff_keys (m : FMap) (p : Str) :
    NoChildren m p ↔ ∀ k ∈ m.keys, '/' ∈ k → parentInternal k ≠ p := by
  constructor
  · intro h k hk
    obtain ⟨e, he⟩ := (FMap.mem_keys_iff m k).1 hk
    exact h k e he
  · intro h k e he
    exact h k ((FMap.mem_keys_iff m k).2 ⟨e, he⟩)

instance (m : FMap) (p : Str) : Decidable (NoChildren m p) :=
  decidable_of_iff _ (noChildren_iff_keys m p).symm

theorem wf_iff_keys (m : FMap) :
    WF m ↔ IsDir m [] ∧ ∀ k ∈ m.keys, k ≠ [] → '/' ∈ k ∧ IsDir m (parentInternal k) := by
  unfold WF IsDir
  constructor
  · rintro ⟨h1, h2⟩
    refine ⟨h1, fun k hk hne => ?_⟩
    obtain ⟨e, he⟩ := (FMap.mem_keys_iff m k).1 hk
    exact h2 k e he hne
  · rintro ⟨h1, h2⟩
    exact ⟨h1, fun k e he hne => h2 k ((FMap.mem_keys_iff m k).2 ⟨e, he⟩) hne⟩

instance (m : FMap) : Decidable (WF m) := decidable_of_iff _ (wf_iff_keys m).symm

instance (m : FMap) (op : Mut) : Decidable (Pre m op) := by
  cases op <;> (unfold Pre; exact inferInstance)

instance (m m' : FMap) (op : Mut) : Decidable (Named m m' op) := by
  cases op with
  | append p bs =>
    exact decidable_of_iff
      ((m.find? p).any (fun e => decide (e.ftype = .file ∧ HasFile m' p (e.content ++ bs))) = true)
      (by
        show _ ↔ ∃ old, HasFile m p old ∧ HasFile m' p (old ++ bs)
        rcases Option.eq_none_or_eq_some (m.find? p) with hf | ⟨e, hf⟩
        · rw [hf]
          simp only [Option.any_none]
          constructor
          · intro h; cases h
          · rintro ⟨old, ⟨e, he, _⟩, _⟩; rw [hf] at he; cases he
        · rw [hf]
          simp only [Option.any_some, decide_eq_true_eq]
          constructor
          · rintro ⟨ht, h⟩; exact ⟨e.content, ⟨e, hf, ht, rfl⟩, h⟩
          · rintro ⟨old, ⟨e', he', ht, hc⟩, h⟩
            rw [hf] at he'; injection he' with he'; subst he'; subst hc; exact ⟨ht, h⟩)
  | createDir p => unfold Named; exact inferInstance
  | write p bs => unfold Named; exact inferInstance
  | removeFile p => unfold Named; exact inferInstance
  | removeDir p => unfold Named; exact inferInstance

/-! ### the one clause that is false on the reference model -/

/-- the prose contract of `open_file`: "succeeds exactly on files" -/
def OpenFileSucceedsIffFile (openOk : FMap → Str → Bool) : Prop :=
  ∀ m p, WF m → Abs p → (openOk m p = true ↔ IsFile m p)

theorem mem_openFile_succeeds_iff_file :
    OpenFileSucceedsIffFile (fun m p => (Mem.openFile m p).1.isOk) :=
  fun m p _ _ => (mem_openFile_contract m p).1

def dirATree : FMap := [("/a".toList, dirEntryNow), ([], dirEntryNow)]

theorem dirATree_wf : WF dirATree := by decide +kernel

/-- it is FALSE for PhysicalFS (model and code: `File::open` opens a directory on Linux; only
the reads fail): `open_file` of the directory "/a" succeeds -/
theorem openFile_succeeds_iff_file_phys_false :
    ¬ OpenFileSucceedsIffFile (fun m p => (Phys.openFile m p).isOk) := by
  intro h
  have h1 := (h dirATree "/a".toList dirATree_wf rfl).1 (by decide)
  exact not_isDir_of_isFile h1 ⟨dirEntryNow, by decide, rfl⟩

/-! ### the "each name once" hypothesis of `readDir_contract` is an invariant

`FMap.NodupKeys` (no key stored twice) is a representation invariant of the association list:
the initial maps have it and every primitive of both models keeps it, whatever the path. -/

theorem nodupKeys_memPublish (m : FMap) (p : Str) (buf : Bytes) (h : FMap.NodupKeys m) :
    FMap.NodupKeys (memPublish m p buf) := by
  rw [Mem.memPublish_eq]; exact Write.nodup_app h _ _

theorem nodupKeys_init : FMap.NodupKeys Mem.init ∧ FMap.NodupKeys Phys.init := by
  constructor <;> simp [FMap.NodupKeys, FMap.keys, Mem.init, Phys.init]

theorem nodupKeys_stepMem (m : FMap) (op : Mut) (h : FMap.NodupKeys m) :
    FMap.NodupKeys (stepMem m op).2 := by
  cases op <;>
    simp only [stepMem, Mem.pCreateDir_eq, Mem.pWrite_eq, Mem.pAppend_eq, Mem.pRemoveFile_eq,
      Mem.pRemoveDir_eq] <;>
    exact Write.nodup_app h _ _

theorem nodupKeys_stepPhys (m : FMap) (op : Mut) (h : FMap.NodupKeys m) :
    FMap.NodupKeys (stepPhys m op).2 := by
  cases op with
  | createDir p =>
    simp only [stepPhys, Phys.pCreateDir, Phys.createDir_eq]
    split
    · exact Write.nodup_app h _ _
    · exact h
  | write p bs => simp only [stepPhys, Phys.pWrite_eq]; exact Write.nodup_app h _ _
  | append p bs => simp only [stepPhys, Phys.pAppend_eq]; exact Write.nodup_app h _ _
  | removeFile p =>
    simp only [stepPhys, Phys.pRemoveFile, Phys.removeFile_eq]; exact Write.nodup_app h _ _
  | removeDir p =>
    simp only [stepPhys, Phys.pRemoveDir, Phys.removeDir_eq]; exact Write.nodup_app h _ _

/-! ### Non-vacuity: every contract evaluated on a concrete tree

    /            a/ (empty)      ab/c = [1,2,3]      a.b = [9]
                 n/日本/f = [0xE6, 0x97]             n/e/ (empty)

`a`, `ab`, `a.b` are siblings whose names are prefixes of one another; `日本` is a multi-byte
name. Each example states the outcome of the call TOGETHER with the truth value of the
precondition, so both sides of the `↔` are exhibited. -/

def fileOf (bs : Bytes) : Entry := { fileEntryNow with content := bs }

def exTree : FMap :=
  [ ([], dirEntryNow),
    ("/a".toList, dirEntryNow),
    ("/ab".toList, dirEntryNow),
    ("/ab/c".toList, fileOf [1, 2, 3]),
    ("/a.b".toList, fileOf [9]),
    ("/n".toList, dirEntryNow),
    ("/n/日本".toList, dirEntryNow),
    ("/n/日本/f".toList, fileOf [0xE6, 0x97]),
    ("/n/e".toList, dirEntryNow) ]

/-- `exTree` with every key spelled as a character list. Turning a string literal into its
characters is by far the dearest step of evaluating a scenario on `exTree`; it is paid once, in
`exTree_eq`, and the evaluations below start from this form -/
def exTreeChars : FMap :=
  [ ([], dirEntryNow),
    (['/', 'a'], dirEntryNow),
    (['/', 'a', 'b'], dirEntryNow),
    (['/', 'a', 'b', '/', 'c'], fileOf [1, 2, 3]),
    (['/', 'a', '.', 'b'], fileOf [9]),
    (['/', 'n'], dirEntryNow),
    (['/', 'n', '/', '日', '本'], dirEntryNow),
    (['/', 'n', '/', '日', '本', '/', 'f'], fileOf [0xE6, 0x97]),
    (['/', 'n', '/', 'e'], dirEntryNow) ]

theorem exTree_eq : exTree = exTreeChars := by decide +kernel

theorem exTree_wf : WF exTree := by rw [exTree_eq]; decide +kernel

example : Abs "/n/日本/f".toList := rfl

-- remove_dir: the empty `/a` goes although `/ab/c` and `/a.b` start with "/a"; `/ab` is not empty
example : (Phys.pRemoveDir exTree "/a".toList).1.isOk = true ∧
    (IsDir exTree "/a".toList ∧ NoChildren exTree "/a".toList) ∧
    Absent (Phys.pRemoveDir exTree "/a".toList).2 "/a".toList ∧
    HasFile (Phys.pRemoveDir exTree "/a".toList).2 "/ab/c".toList [1, 2, 3] := by rw [exTree_eq]; decide +kernel
example : (Mem.pRemoveDir exTree "/n/e".toList).1.isOk = true ∧ Pre exTree (.removeDir "/n/e".toList) := by rw [exTree_eq]; decide +kernel
example : (Phys.pRemoveDir exTree "/ab".toList).1.isOk = false ∧ ¬ NoChildren exTree "/ab".toList ∧
    (Phys.pRemoveDir exTree "/ab".toList).2 = exTree := by rw [exTree_eq]; decide +kernel
example : (Mem.pRemoveDir exTree "/n/日本".toList).1 = .err .other (some "/n/日本".toList) ∧
    ¬ Pre exTree (.removeDir "/n/日本".toList) := by rw [exTree_eq]; decide +kernel
example : errClass (Phys.pRemoveDir exTree "/a.b".toList).1 = some .otherFailure ∧ IsFile exTree "/a.b".toList := by rw [exTree_eq]; decide +kernel
example : (Phys.pRemoveDir exTree "/a/zz".toList).1.kind? = some .fileNotFound ∧
    (Mem.pRemoveDir exTree "/a/zz".toList).1.kind? = some .fileNotFound ∧ Absent exTree "/a/zz".toList := by rw [exTree_eq]; decide +kernel

example : (Phys.pWrite exTree "/a/new".toList [5, 6]).1.isOk = true ∧ Pre exTree (.write "/a/new".toList [5, 6]) ∧
    HasFile (Phys.pWrite exTree "/a/new".toList [5, 6]).2 "/a/new".toList [5, 6] ∧
    HasFile (Phys.pWrite exTree "/a/new".toList [5, 6]).2 "/a.b".toList [9] := by rw [exTree_eq]; decide +kernel
example : (Mem.pWrite exTree "/ab/c".toList [7]).1.isOk = true ∧ IsFile exTree "/ab/c".toList ∧
    HasFile (Mem.pWrite exTree "/ab/c".toList [7]).2 "/ab/c".toList [7] := by rw [exTree_eq]; decide +kernel
example : (Mem.pWrite exTree "/n/日本/g".toList []).1.isOk = true ∧
    HasFile (Mem.pWrite exTree "/n/日本/g".toList []).2 "/n/日本/g".toList [] := by rw [exTree_eq]; decide +kernel
example : (Phys.pWrite exTree "/ab".toList [1]).1.isOk = false ∧ IsDir exTree "/ab".toList ∧
    ¬ Pre exTree (.write "/ab".toList [1]) ∧ (Phys.pWrite exTree "/ab".toList [1]).2 = exTree := by rw [exTree_eq]; decide +kernel
example : (Mem.pWrite exTree "/zz/x".toList [1]).1.isOk = false ∧ ¬ IsDir exTree (parentInternal "/zz/x".toList) ∧
    (Mem.pWrite exTree "/zz/x".toList [1]).2 = exTree := by rw [exTree_eq]; decide +kernel
example : (Phys.pWrite exTree "/a.b/x".toList [1]).1.isOk = false ∧ (Mem.pWrite exTree "/a.b/x".toList [1]).1.isOk = false ∧
    IsFile exTree (parentInternal "/a.b/x".toList) := by rw [exTree_eq]; decide +kernel

example : (Phys.pAppend exTree "/ab/c".toList [4]).1.isOk = true ∧ Pre exTree (.append "/ab/c".toList [4]) ∧
    Named exTree (Phys.pAppend exTree "/ab/c".toList [4]).2 (.append "/ab/c".toList [4]) ∧
    HasFile (Phys.pAppend exTree "/ab/c".toList [4]).2 "/ab/c".toList [1, 2, 3, 4] := by rw [exTree_eq]; decide +kernel
example : (Mem.pAppend exTree "/n/日本/f".toList [0xA5]).1.isOk = true ∧
    HasFile (Mem.pAppend exTree "/n/日本/f".toList [0xA5]).2 "/n/日本/f".toList [0xE6, 0x97, 0xA5] := by rw [exTree_eq]; decide +kernel
example : (Phys.pAppend exTree "/a".toList [4]).1.isOk = false ∧ (Mem.pAppend exTree "/a".toList [4]).1.isOk = false ∧
    IsDir exTree "/a".toList ∧ ¬ Pre exTree (.append "/a".toList [4]) := by decide
example : (Phys.pAppend exTree "/a/c".toList [4]).1.kind? = some .fileNotFound ∧
    (Mem.pAppend exTree "/a/c".toList [4]).1.kind? = some .fileNotFound ∧ Absent exTree "/a/c".toList := by rw [exTree_eq]; decide +kernel

example : (stepPhys exTree (.createDir "/a/日本".toList)).1.isOk = true ∧ Pre exTree (.createDir "/a/日本".toList) ∧
    Named exTree (stepPhys exTree (.createDir "/a/日本".toList)).2 (.createDir "/a/日本".toList) := by rw [exTree_eq]; decide +kernel
example : (stepMem exTree (.createDir "/a.b".toList)).1.kind? = some .fileExists ∧
    (stepMem exTree (.createDir "/ab".toList)).1.kind? = some .dirExists ∧
    ¬ Pre exTree (.createDir "/a.b".toList) := by rw [exTree_eq]; decide +kernel
example : (stepMem exTree (.removeFile "/a.b".toList)).1.isOk = true ∧ Pre exTree (.removeFile "/a.b".toList) ∧
    Named exTree (stepMem exTree (.removeFile "/a.b".toList)).2 (.removeFile "/a.b".toList) ∧
    IsDir (stepMem exTree (.removeFile "/a.b".toList)).2 "/a".toList := by rw [exTree_eq]; decide +kernel
example : (stepPhys exTree (.removeFile "/a".toList)).1.isOk = false ∧ ¬ Pre exTree (.removeFile "/a".toList) := by decide

example : Phys.exists_ exTree "/n/日本/f".toList = true ∧ exTree.contains "/n/日本/f".toList = true ∧
    ¬ Absent exTree "/n/日本/f".toList := by rw [exTree_eq]; decide +kernel
example : Phys.exists_ exTree "/a/c".toList = false ∧ exTree.contains "/a/c".toList = false ∧
    Phys.exists_ exTree "/a.b/x".toList = false ∧ Absent exTree "/a/c".toList := by rw [exTree_eq]; decide +kernel
example : (Phys.metadata exTree "/ab/c".toList).toOption.map (fun md => (md.ftype, md.len)) = some (.file, 3) ∧
    (Mem.metadata exTree "/ab/c".toList).toOption.map (fun md => (md.ftype, md.len)) = some (.file, 3) ∧
    HasFile exTree "/ab/c".toList [1, 2, 3] := by rw [exTree_eq]; decide +kernel
example : (Phys.metadata exTree "/ab/zz".toList).kind? = some .fileNotFound ∧
    (Mem.metadata exTree "/ab/zz".toList).kind? = some .fileNotFound := by rw [exTree_eq]; decide +kernel
example : Phys.readDir exTree "/n".toList = .ok ["日本".toList, "e".toList] ∧
    Mem.readDir exTree "/n".toList = .ok ["日本".toList, "e".toList] ∧ IsDir exTree "/n".toList := by rw [exTree_eq]; decide +kernel
example : Phys.readDir exTree "/a".toList = .ok [] ∧ Mem.readDir exTree "/ab".toList = .ok ["c".toList] ∧
    Phys.readDir exTree [] = .ok ["a".toList, "ab".toList, "a.b".toList, "n".toList] := by rw [exTree_eq]; decide +kernel
example : (Phys.readDir exTree "/a.b".toList).isOk = false ∧ errClass (Mem.readDir exTree "/a.b".toList) = some .otherFailure ∧
    (Phys.readDir exTree "/zz".toList).kind? = some .fileNotFound ∧ IsFile exTree "/a.b".toList := by rw [exTree_eq]; decide +kernel
example : Phys.openFile exTree "/n/日本/f".toList = .ok { content := [0xE6, 0x97], pos := 0 } ∧
    (Mem.openFile exTree "/n/日本/f".toList).1 = .ok { content := [0xE6, 0x97], pos := 0 } ∧
    IsFile exTree "/n/日本/f".toList := by rw [exTree_eq]; decide +kernel
example : (Mem.openFile exTree "/n".toList).1.isOk = false ∧ (Phys.openFile exTree "/n/zz".toList).kind? = some .fileNotFound ∧
    (Phys.openFile exTree "/n".toList).isOk = true ∧ ¬ IsFile exTree "/n".toList := by rw [exTree_eq]; decide +kernel

-- MemoryFS `open_file` stamps the access time before it checks the type: a refused open of a
-- directory still changes that stamp (and nothing else: `Mem.openFile_same`, Proofs/LeafFrame.lean)
example : (Mem.openFile Mem.init []).1.isOk = false ∧ (Mem.openFile Mem.init []).2 ≠ Mem.init ∧
    (Mem.openFile Mem.init []).2.find? [] = some { dirEntryNow with modified := .unset } := by decide

end Vfs.C01
