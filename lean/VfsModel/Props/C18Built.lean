/-
  C18: the physical folder that `folderMap fl` stands for can be BUILT, and the lock-step comparison
  holds on what is built.

  * `folder_built` (statement `folder_built_stmt` of Props/C18PhysOps.lean): for every `GoodFiles`
    list, putting the files one by one onto a fresh physical filesystem (`freshPhys`) with the
    model's own `VfsPath` operations (`putFile`: `create_dir_all` of the parent, `create_file`,
    `write_all`, drop) succeeds and leaves a map with exactly the lookups of `folderMap fl`.
    The idea: the folder with one more file = the old folder + the parent chain + the file
    (`folderMap_snoc_find?`); `create_dir_all` of the parent leaves `fillDirs` of the chain, as on
    MemoryFS (`createDirAllLoop_fill`), and every update of the physical leaf is an `FMap.insert`,
    which keeps the keys duplicate-free.
  * `embedded_matches_physical_lk`: the lock-step theorem of Props/C18Phys.lean for ANY physical map
    with the lookups of `folderMap fl` (the physical observers depend on the lookups only, a listing
    also on the storage order: `read_dir` is compared as a set of child paths).
    `embedded_matches_built_folder`: the same in the world the model's operations build.
  * `folder_built_nodup`: the build succeeds and leaves a well-formed map with duplicate-free keys
    and the lookups of `folderMap fl`; `folder_built` and `folder_built_lookup` are parts of it.
  NOT PROVED separately: independence of the order in which the files are put (it follows from
  `folder_built`, `GoodFiles` and the lookups of `folderMap` being order-insensitive).
-/
import VfsModel.Props.C18PhysOps
namespace Vfs.C18
open Vfs.Embedded

/-- every directory entry is the fresh one (no time setter has been used) -/
def DirsNow (m : FMap) : Prop := ∀ k e, m.find? k = some e → e.ftype = .dir → e = dirEntryNow

theorem physLeafAt_set {w : World} {i : Nat} {m : FMap} (h : PhysLeafAt w i m) (m' : FMap) :
    PhysLeafAt (w.setLeafFiles i m') i m' :=
  LeafAt.set h m'

theorem run_createDir {w : World} {i : Nat} {m : FMap} (h : PhysLeafAt w i m) (d : Str) :
    (leafFS i).createDir d w =
      ((Phys.createDir m d).1, w.setLeafFiles i (Phys.createDir m d).2) :=
  LeafAt.createDir_eq h d

/-- the loop of `create_dir_all` on a physical leaf, along a chain of ancestors none of which is a
file, below an existing directory: every step is MemoryFS's (`Phys.createDir_eq_mem`), so the loop
leaves the map MemoryFS's loop leaves (`mkdirs_chain`): the missing directories filled in -/
theorem createDirAllLoop_fill (i id : Nat) (q : Str) : ∀ (rest pre : List Str) (w : World)
    (m : FMap), PhysLeafAt w i m → WF m →
    (∃ e, m.find? (renderC pre) = some e ∧ e.ftype = .dir) → NoSlash (pre ++ rest) →
    (∀ k ∈ chain pre rest, ∀ e, m.find? k = some e → e.ftype = .dir) →
    ∃ w', VPath.createDirAllLoop (physVP i id q) (chain pre rest) w = (.ok (), w') ∧
      PhysLeafAt w' i (fillDirs m (chain pre rest)) := by
  intro rest
  induction rest with
  | nil => intro pre w m h _ _ _ _; exact ⟨w, rfl, h⟩
  | cons c rest ih =>
    intro pre w m h hwf hpre hns hchain
    have hns1 : NoSlash (pre ++ [c]) := fun x hx => hns x (by
      rcases List.mem_append.1 hx with hx | hx
      · exact List.mem_append_left _ hx
      · simp at hx; subst hx; simp)
    have hsl : '/' ∈ renderC (pre ++ [c]) := slash_mem_renderC (by simp)
    have hpar : ∃ pe, m.find? (parentInternal (renderC (pre ++ [c]))) = some pe ∧
        pe.ftype = .dir := by
      rw [parentInternal_renderC _ hns1, List.dropLast_concat]; exact hpre
    have hrun : (physVP i id q).fs.createDir (renderC (pre ++ [c])) w = _ := run_createDir h _
    rw [Phys.createDir_eq_mem hwf hsl hpar] at hrun
    have hns' : NoSlash ((pre ++ [c]) ++ rest) := by rw [List.append_assoc]; exact hns
    show ∃ w', VPath.createDirAllLoop _ (renderC (pre ++ [c]) :: chain (pre ++ [c]) rest) w = _ ∧
      PhysLeafAt w' i (fillDirs m (renderC (pre ++ [c]) :: chain (pre ++ [c]) rest))
    rw [VPath.createDirAllLoop_cons, hrun, fillDirs]
    rcases Option.eq_none_or_eq_some (m.find? (renderC (pre ++ [c]))) with hf | ⟨e, hf⟩
    · rw [Mem.createDir_fresh m _ hsl hpar hf, contains_of_none hf]
      simp only [Bool.false_eq_true, ↓reduceIte]
      obtain ⟨pe, hpe, hpd⟩ := hpar
      exact ih (pre ++ [c]) _ _ (physLeafAt_set h _) (hwf.insert_dir _ _ rfl hsl pe hpe hpd)
        ⟨dirEntryNow, FMap.find?_insert_self _ _ _, rfl⟩ hns'
        (fun k hk e he => by
          rw [FMap.find?_insert] at he
          split at he
          · injection he with he; rw [← he]; rfl
          · exact hchain k (by simp [chain, hk]) e he)
    · have hd : e.ftype = .dir := hchain _ (by simp [chain]) e hf
      rw [Mem.createDir_present m _ e hsl hpar hf, contains_of_find hf]
      simp only [hd, reduceCtorEq, ↓reduceIte, fail]
      exact ih (pre ++ [c]) _ m (physLeafAt_set h m) hwf ⟨e, hf, hd⟩ hns'
        (fun k hk e' he' => hchain k (by simp [chain, hk]) e' he')

/-- where every directory is the fresh one, the filled-in map by lookups -/
theorem find?_fillDirs_now {m : FMap} (hdn : DirsNow m) {ks : List Str}
    (hd : ∀ k ∈ ks, ∀ e, m.find? k = some e → e.ftype = .dir) (k : Str) :
    (fillDirs m ks).find? k = if k ∈ ks then some dirEntryNow else m.find? k := by
  rw [find?_fillDirs]
  split
  · rename_i hk
    cases hf : m.find? k with
    | none => rfl
    | some e => rw [hdn k e hf (hd k hk e hf)]; rfl
  · simp

theorem wf_fillDirs_chain {m : FMap} (hwf : WF m) {pre rest : List Str}
    (hpre : ∃ e, m.find? (renderC pre) = some e ∧ e.ftype = .dir) (hns : NoSlash (pre ++ rest))
    (hchain : ∀ k ∈ chain pre rest, ∀ e, m.find? k = some e → e.ftype = .dir) :
    WF (fillDirs m (chain pre rest)) := by
  have := wf_mkdirs hwf (chain pre rest)
  rwa [mkdirs_chain m pre rest (fun c hc => hns c (List.mem_append_left _ hc))
    (fun c hc => hns c (List.mem_append_right _ hc)) hpre hchain] at this

theorem createDirAllLoop_chain (i id : Nat) (q : Str) : ∀ (rest pre : List Str) (w : World)
    (m : FMap), PhysLeafAt w i m → WF m → DirsNow m →
    (∃ e, m.find? (renderC pre) = some e ∧ e.ftype = .dir) →
    NoSlash (pre ++ rest) →
    (∀ k ∈ chain pre rest, ∀ e, m.find? k = some e → e.ftype = .dir) →
    ∃ w' m', VPath.createDirAllLoop (physVP i id q) (chain pre rest) w = (.ok (), w') ∧
      PhysLeafAt w' i m' ∧ WF m' ∧ DirsNow m' ∧
      ∀ k, m'.find? k = if k ∈ chain pre rest then some dirEntryNow else m.find? k := by
  intro rest pre w m h hwf hdn hpre hns hchain
  obtain ⟨w', h1, h2⟩ := createDirAllLoop_fill i id q rest pre w m h hwf hpre hns hchain
  have hfind := find?_fillDirs_now hdn hchain
  refine ⟨w', _, h1, h2, wf_fillDirs_chain hwf hpre hns hchain, fun k e hk hd => ?_, hfind⟩
  rw [hfind] at hk
  split at hk
  · injection hk with hk; exact hk.symm
  · exact hdn k e hk hd

theorem goodFiles_left {a b : List (Str × Bytes)} (h : GoodFiles (a ++ b)) : GoodFiles a := by
  obtain ⟨h1, h2, h3⟩ := h
  refine ⟨fun f hf => h1 f (List.mem_append_left _ hf), ?_,
    fun f hf g hg => h3 f (List.mem_append_left _ hf) g (List.mem_append_left _ hg)⟩
  rw [List.map_append] at h2
  exact (List.nodup_append.1 h2).1

theorem folderMap_dirsNow (fl : List (Str × Bytes)) : DirsNow (folderMap fl) := by
  intro k e hk hd
  rw [folderMap_find?] at hk
  split at hk
  · injection hk with hk; exact hk.symm
  · obtain ⟨_, b, _, _, _, he⟩ := find?_fileKVs_some fl k e hk
    rw [he] at hd; cases hd

theorem mem_chain (k : Str) : ∀ (rest pre : List Str),
    k ∈ chain pre rest ↔ ∃ a b, rest = a ++ b ∧ a ≠ [] ∧ k = renderC (pre ++ a) := by
  intro rest
  induction rest with
  | nil =>
    intro pre
    simp only [chain, List.not_mem_nil, false_iff]
    rintro ⟨a, b, hab, ha, _⟩
    cases a with
    | nil => exact ha rfl
    | cons x a' => simp at hab
  | cons c rest ih =>
    intro pre
    simp only [chain, List.mem_cons, ih]
    constructor
    · rintro (rfl | ⟨a, b, rfl, _, rfl⟩)
      · exact ⟨[c], rest, rfl, by simp, rfl⟩
      · exact ⟨c :: a, b, rfl, by simp, by simp⟩
    · rintro ⟨a, b, hab, ha, rfl⟩
      cases a with
      | nil => exact absurd rfl ha
      | cons x a' =>
        simp only [List.cons_append, List.cons.injEq] at hab
        obtain ⟨rfl, rfl⟩ := hab
        by_cases ha' : a' = []
        · subst ha'; exact Or.inl rfl
        · exact Or.inr ⟨a', b, rfl, ha', by simp⟩

section onemore
variable {fl₁ : List (Str × Bytes)} {f : Str × Bytes} (hG : GoodFiles (fl₁ ++ [f]))
  {l : List Str} {c : Str} (hsp : splitSlash f.1 = l ++ [c])
include hG hsp

omit hG in
theorem om_noSlash : NoSlash (l ++ [c]) := by
  rw [← hsp]; exact noSlash_split _

omit hG in
theorem om_path : '/' :: f.1 = renderC (l ++ [c]) := by
  have hsp' : splitOnC '/' f.1 = l ++ [c] := hsp
  rw [← renderC_splitSlash f.1, hsp']

theorem om_chain_not_file (k : Str) (hk : k ∈ chain [] l) (e : Entry)
    (he : (folderMap fl₁).find? k = some e) : e.ftype = .dir := by
  rw [folderMap_find?] at he
  split at he
  · injection he with he; rw [← he]; rfl
  · exfalso
    obtain ⟨g, b, hkg, hmem, _, _⟩ := find?_fileKVs_some fl₁ k e he
    obtain ⟨a, b', hab, ha, hka⟩ := (mem_chain k l []).1 hk
    rw [List.nil_append, renderC_eq a ha] at hka
    have hg : g = key a := by rw [hkg] at hka; simpa using hka
    have := hG.2.2 (g, b) (List.mem_append_left _ hmem) f (by simp) a.length (by
      rw [hsp, hab]; simp)
    rw [hsp, hab] at this
    simp at this
    exact this hg

theorem om_path_fresh :
    (folderMap fl₁).find? ('/' :: f.1) = none ∧ '/' :: f.1 ∉ chain [] l := by
  have hns := om_noSlash hsp
  have hP := om_path hsp
  constructor
  · rw [hP, folderMap_find?_nodir fl₁ (l ++ [c]) hns (by simp)]
    · have hk : key (l ++ [c]) = f.1 := by rw [← hsp, key_splitSlash]
      rw [hk]
      have hnd := hG.2.1
      rw [List.map_append, List.nodup_append] at hnd
      rw [fileGet?_eq_none fl₁ f.1]
      · rfl
      · intro g hg heq
        exact hnd.2.2 g.1 (List.mem_map.2 ⟨g, hg, rfl⟩) f.1 (by simp) heq
    · rintro ⟨g, hg, x, post, hspg⟩
      have := hG.2.2 f (by simp) g (List.mem_append_left _ hg) (l ++ [c]).length (by
        rw [hspg]; simp)
      rw [hspg, List.take_left' rfl, ← hsp, key_splitSlash] at this
      exact this rfl
  · intro hmem
    obtain ⟨a, b, hab, _, hka⟩ := (mem_chain _ l []).1 hmem
    rw [hP, List.nil_append] at hka
    have hnsa : NoSlash a := fun x hx => hns x (by rw [hab]; simp [hx])
    have := C06.renderC_injective _ _ hns hnsa hka
    have hlen := congrArg List.length this
    rw [hab] at hlen
    simp at hlen

theorem om_dirKeys (k : Str) :
    k ∈ dirKeys (fl₁ ++ [f]) ↔ k ∈ dirKeys fl₁ ∨ k ∈ chain [] l := by
  rw [mem_dirKeys, mem_dirKeys, mem_chain]
  constructor
  · rintro (h | ⟨g, hg, pre, x, post, hspg, hk⟩)
    · exact Or.inl (Or.inl h)
    · rcases List.mem_append.1 hg with hg | hg
      · exact Or.inl (Or.inr ⟨g, hg, pre, x, post, hspg, hk⟩)
      · simp at hg; subst hg
        by_cases hpre : pre = []
        · subst hpre; exact Or.inl (Or.inl hk)
        · right
          rw [hsp] at hspg
          -- pre is a proper prefix of l ++ [c], hence a prefix of l
          rcases List.eq_nil_or_concat post with rfl | ⟨post', y, rfl⟩
          · have := List.append_inj' hspg rfl
            exact ⟨pre, [], by simpa using this.1, hpre, by simpa using hk⟩
          · simp only [List.concat_eq_append] at hspg
            have h' : l ++ [c] = (pre ++ x :: post') ++ [y] := by simpa using hspg
            have := (List.append_inj' h' rfl).1
            exact ⟨pre, x :: post', this, hpre, by simpa using hk⟩
  · rintro ((h | ⟨g, hg, pre, x, post, hspg, hk⟩) | ⟨a, b, hab, _, hk⟩)
    · exact Or.inl h
    · exact Or.inr ⟨g, List.mem_append_left _ hg, pre, x, post, hspg, hk⟩
    · right
      refine ⟨f, by simp, a, ?_⟩
      cases b with
      | nil => exact ⟨c, [], by rw [hsp, hab]; simp, by simpa using hk⟩
      | cons y b' => exact ⟨y, b' ++ [c], by rw [hsp, hab]; simp, by simpa using hk⟩

theorem folderMap_snoc_find? (k : Str) :
    (folderMap (fl₁ ++ [f])).find? k =
      if k = '/' :: f.1 then some (fileEntry f.2)
      else if k ∈ chain [] l then some dirEntryNow
      else (folderMap fl₁).find? k := by
  obtain ⟨hfresh, hnotchain⟩ := om_path_fresh hG hsp
  have hkvs : ∀ k, (fileKVs (fl₁ ++ [f])).find? k =
      match (fileKVs fl₁).find? k with
      | some e => some e
      | none => if k = '/' :: f.1 then some (fileEntry f.2) else none := by
    intro k
    unfold fileKVs
    rw [List.map_append]
    generalize List.map (fun f => ('/' :: f.1, fileEntry f.2)) fl₁ = A
    induction A with
    | nil =>
      simp only [List.nil_append, List.map_cons, List.map_nil, FMap.find?_cons, FMap.find?_nil]
      by_cases h : '/' :: f.1 = k
      · simp [h]
      · have : ¬ k = '/' :: f.1 := fun e => h e.symm
        simp [h, this]
    | cons kv A ih =>
      obtain ⟨k', v⟩ := kv
      simp only [List.cons_append, FMap.find?_cons]
      by_cases h : k' = k
      · simp [h]
      · simp only [if_neg h]; exact ih
  have hdk := om_dirKeys hG hsp k
  rw [folderMap_find?, hkvs k]
  rw [folderMap_find?] at hfresh
  by_cases hkP : k = '/' :: f.1
  · subst hkP
    rw [if_pos rfl]
    have h1 : '/' :: f.1 ∉ dirKeys fl₁ := by
      intro h; rw [if_pos h] at hfresh; cases hfresh
    rw [if_neg h1] at hfresh
    rw [if_neg (fun h => (hdk.1 h).elim h1 hnotchain), hfresh]
    simp
  · simp only [if_neg hkP]
    by_cases hkc : k ∈ chain [] l
    · rw [if_pos hkc, if_pos (hdk.2 (Or.inr hkc))]
    · rw [if_neg hkc, folderMap_find?]
      by_cases hkd : k ∈ dirKeys fl₁
      · rw [if_pos (hdk.2 (Or.inl hkd)), if_pos hkd]
      · rw [if_neg (fun h => (hdk.1 h).elim hkd hkc), if_neg hkd]
        cases (fileKVs fl₁).find? k with
        | some e => rfl
        | none => rfl

end onemore

theorem getParent_of_runs (V : VPath) (w : World) (o : Obs) (r : RunsObs V.parent w o)
    (hex : o.ex = true) (md : Meta) (hmd : o.md = .ok md) (hd : md.ftype = .dir) :
    V.getParent w = (.ok (), w) := by
  rw [r.getParent_eq, hex, hmd]
  simp [hd]

theorem run_createFile {w : World} {i : Nat} {m : FMap} (h : PhysLeafAt w i m) (p : Str) :
    (leafFS i).createFile p w =
      ((Phys.createFile m p).1.map (fun _ =>
          ({ leaf := i, key := p, kind := .physCreate, buf := [], pos := 0 } : WHandle)),
        w.setLeafFiles i (Phys.createFile m p).2) :=
  LeafAt.createFile_eq h p

theorem run_write_session {w : World} {i : Nat} {m : FMap} (h : PhysLeafAt w i m) (P : Str)
    (bs : Bytes) (hf : m.find? P = some fileEntryNow) :
    WHandle.writeAllAndDrop { leaf := i, key := P, kind := .physCreate, buf := [], pos := 0 } bs w =
      (.ok (), w.setLeafFiles i (m.insert P (fileEntry bs))) := by
  unfold WHandle.writeAllAndDrop WHandle.write WHandle.drop WHandle.flush
  simp only [bind, M.bind, h, hf]
  by_cases hb : bs = []
  · subst hb; rfl
  · simp only [hb, if_false]
    rw [show cursorWrite fileEntryNow.content 0 bs = bs from cursorWrite_nil bs]
    rfl

theorem putFile_spec (i id : Nat) (fl₁ : List (Str × Bytes)) (f : Str × Bytes)
    (hG : GoodFiles (fl₁ ++ [f])) (w : World) (m : FMap) (h : PhysLeafAt w i m)
    (hlk : ∀ k, m.find? k = (folderMap fl₁).find? k) (hndm : FMap.NodupKeys m) :
    ∃ w' m', putFile i id f w = (.ok (), w') ∧ PhysLeafAt w' i m' ∧ FMap.NodupKeys m' ∧
      ∀ k, m'.find? k = (folderMap (fl₁ ++ [f])).find? k := by
  obtain ⟨l, c, hsp⟩ : ∃ l c, splitSlash f.1 = l ++ [c] := by
    rcases List.eq_nil_or_concat (splitSlash f.1) with h0 | ⟨l, c, h0⟩
    · exact absurd h0 (splitOnC_ne_nil _ _)
    · exact ⟨l, c, by simpa using h0⟩
  have hns := om_noSlash hsp
  have hnsl : NoSlash l := fun x hx => hns x (List.mem_append_left _ hx)
  have hP := om_path hsp
  obtain ⟨hfresh, hnotchain⟩ := om_path_fresh hG hsp
  have hwf : WF m := WF_congr hlk (folderMap_wf fl₁)
  have hdn : DirsNow m := fun k e hk hd =>
    folderMap_dirsNow fl₁ k e (by rw [← hlk]; exact hk) hd
  have hparent : parentInternal ('/' :: f.1) = renderC l := by
    rw [hP, parentInternal_renderC _ hns, List.dropLast_concat]
  have hpp : (physVP i id ('/' :: f.1)).parent = physVP i id (renderC l) := by
    unfold VPath.parent VPath.withStr physVP
    simp only [hparent]
  have hchain : ∀ k ∈ chain [] l, ∀ e, m.find? k = some e → e.ftype = .dir :=
    fun k hk e he => om_chain_not_file hG hsp k hk e (by rw [← hlk]; exact he)
  obtain ⟨w₁, hrun1, hleaf1⟩ : ∃ w₁, (physVP i id (renderC l)).createDirAll w = (.ok (), w₁) ∧
      PhysLeafAt w₁ i (fillDirs m (chain [] l)) := by
    by_cases hl : l = []
    · subst hl
      exact ⟨w, rfl, h⟩
    · rw [VPath.createDirAll_of_ne (show (physVP i id (renderC l)).path ≠ [] from renderC_ne_nil hl)]
      show ∃ w₁, VPath.createDirAllLoop _ (VPath.dirPrefixes (renderC l)) w = _ ∧ _
      rw [dirPrefixes_renderC l hnsl]
      exact createDirAllLoop_fill i id (renderC l) l [] w m h hwf hwf.1 (by simpa using hnsl) hchain
  have hwf1 : WF (fillDirs m (chain [] l)) :=
    wf_fillDirs_chain hwf hwf.1 (by simpa using hnsl) hchain
  have hndm1 := nodup_fillDirs hndm (chain [] l)
  have hfind1 := find?_fillDirs_now hdn hchain
  generalize fillDirs m (chain [] l) = m₁ at hleaf1 hwf1 hndm1 hfind1
  have hpar1 : m₁.find? (renderC l) = some dirEntryNow := by
    rw [hfind1]
    by_cases hl : l = []
    · subst hl
      rw [if_neg (by simp [chain]), hlk]
      exact folderMap_find?_dir fl₁ [] (fun _ h => by cases h) (Or.inl rfl)
    · have hin : renderC l ∈ chain [] l := (mem_chain _ l []).2 ⟨l, [], by simp, hl, rfl⟩
      rw [if_pos hin]
  have hPnone : m₁.find? ('/' :: f.1) = none := by
    rw [hfind1, if_neg hnotchain, hlk, hfresh]
  have hgp : (physVP i id ('/' :: f.1)).getParent w₁ = (.ok (), w₁) := by
    have r := phys_runs hleaf1 id (renderC l)
    rw [phys_present hwf1 _ _ hpar1] at r
    exact getParent_of_runs _ w₁ _ (by rw [hpp]; exact r) rfl _ rfl rfl
  have hsl : '/' ∈ ('/' :: f.1 : Str) := by simp
  have hcf : Phys.createFile m₁ ('/' :: f.1) =
      (.ok (), m₁.insert ('/' :: f.1) fileEntryNow) := by
    unfold Phys.createFile
    rw [hwf1.lookup_child _ hsl dirEntryNow (by rw [hparent]; exact hpar1) rfl, hPnone]
  have hrun2 : (physVP i id ('/' :: f.1)).createFile w₁ =
      (.ok { leaf := i, key := '/' :: f.1, kind := .physCreate, buf := [], pos := 0 },
        w₁.setLeafFiles i (m₁.insert ('/' :: f.1) fileEntryNow)) := by
    exact VPath.createFile_of_calls hgp
      ((run_createFile hleaf1 ('/' :: f.1)).trans (by rw [hcf]))
  have hleaf2 := physLeafAt_set hleaf1 (m₁.insert ('/' :: f.1) fileEntryNow)
  have hrun3 := run_write_session hleaf2 ('/' :: f.1) f.2 (FMap.find?_insert_self _ _ _)
  refine ⟨(w₁.setLeafFiles i (m₁.insert ('/' :: f.1) fileEntryNow)).setLeafFiles i
      ((m₁.insert ('/' :: f.1) fileEntryNow).insert ('/' :: f.1) (fileEntry f.2)),
    (m₁.insert ('/' :: f.1) fileEntryNow).insert ('/' :: f.1) (fileEntry f.2),
    ?_, physLeafAt_set hleaf2 _,
    FMap.nodup_insert _ _ _ (FMap.nodup_insert _ _ _ hndm1), ?_⟩
  · unfold putFile
    simp only [bind, M.bind, hpp, hrun1, hrun2, hrun3]
  · intro k
    rw [FMap.find?_insert, FMap.find?_insert, hfind1, hlk, folderMap_snoc_find? hG hsp k]
    by_cases hk : k = '/' :: f.1
    · simp [hk]
    · simp [hk]

theorem buildFolder_spec (i id : Nat) : ∀ (fl₂ fl₁ : List (Str × Bytes)),
    GoodFiles (fl₁ ++ fl₂) → ∀ (w : World) (m : FMap), PhysLeafAt w i m →
    (∀ k, m.find? k = (folderMap fl₁).find? k) → FMap.NodupKeys m →
    ∃ w' m', buildFolder i id fl₂ w = (.ok (), w') ∧ PhysLeafAt w' i m' ∧ FMap.NodupKeys m' ∧
      ∀ k, m'.find? k = (folderMap (fl₁ ++ fl₂)).find? k := by
  intro fl₂
  induction fl₂ with
  | nil =>
    intro fl₁ _ w m h hlk hnd
    exact ⟨w, m, rfl, h, hnd, by simpa using hlk⟩
  | cons f rest ih =>
    intro fl₁ hG w m h hlk hnd
    have hG' : GoodFiles ((fl₁ ++ [f]) ++ rest) := by simpa using hG
    obtain ⟨w₁, m₁, h1, h2, hn1, h3⟩ :=
      putFile_spec i id fl₁ f (goodFiles_left hG') w m h hlk hnd
    obtain ⟨w₂, m₂, h4, h5, hn2, h6⟩ := ih (fl₁ ++ [f]) hG' w₁ m₁ h2 h3 hn1
    refine ⟨w₂, m₂, ?_, h5, hn2, by simpa using h6⟩
    unfold buildFolder
    simp only [bind, M.bind, h1, h4]

theorem nodupKeys_physInit : FMap.NodupKeys Phys.init := by decide

theorem folder_built_nodup (fl : List (Str × Bytes)) (hG : GoodFiles fl) :
    ∃ w' m', buildFolder 0 0 fl freshPhys = (.ok (), w') ∧ PhysLeafAt w' 0 m' ∧
      FMap.NodupKeys m' ∧ WF m' ∧ ∀ k, m'.find? k = (folderMap fl).find? k := by
  have h0 : PhysLeafAt freshPhys 0 Phys.init := rfl
  have hlk0 : ∀ k, Phys.init.find? k = (folderMap []).find? k := fun k => rfl
  obtain ⟨w', m', h1, h2, h3, h4⟩ := buildFolder_spec 0 0 fl [] (by simpa using hG) freshPhys
    Phys.init h0 hlk0 nodupKeys_physInit
  have h4' : ∀ k, m'.find? k = (folderMap fl).find? k := by simpa using h4
  exact ⟨w', m', h1, h2, h3, WF_congr h4' (folderMap_wf fl), h4'⟩

theorem folder_built : folder_built_stmt := by
  intro fl hG
  obtain ⟨w', m', h1, h2, _, _, h3⟩ := folder_built_nodup fl hG
  unfold Built
  rw [h1]
  refine ⟨rfl, ?_⟩
  rw [h2]
  exact ⟨rfl, fun k _ => h3 k, fun k _ => h3 k⟩

theorem harnessFixture_built : Built harnessFixture := folder_built _ harnessFixture_good

theorem folder_built_lookup (fl : List (Str × Bytes)) (hG : GoodFiles fl) :
    ∃ w' m', buildFolder 0 0 fl freshPhys = (.ok (), w') ∧ PhysLeafAt w' 0 m' ∧
      ∀ k, m'.find? k = (folderMap fl).find? k := by
  obtain ⟨w', m', h1, h2, _, _, h3⟩ := folder_built_nodup fl hG
  exact ⟨w', m', h1, h2, h3⟩

theorem phys_lookup_congr {a b : FMap} (h : ∀ k, a.find? k = b.find? k) (p : Str) :
    Phys.lookup a p = Phys.lookup b p := by
  unfold Phys.lookup Phys.resolveParent
  simp only [h]

theorem phys_children_mem {a b : FMap} (h : ∀ k, a.find? k = b.find? k) (p n : Str) :
    n ∈ Phys.children a p ↔ n ∈ Phys.children b p := by
  unfold Phys.children
  rw [mem_filterMap_childName, mem_filterMap_childName]
  simp only [h]

/-- the observers of a physical map depend on its lookups only — except for the ORDER of a
listing, which follows the storage order -/
theorem physObs_congr {a b : FMap} (h : ∀ k, a.find? k = b.find? k) (p : Str) :
    physObs a p = ⟨(physObs b p).ex, (physObs b p).md,
      (match (physObs b p).rd with
        | .ok _ => .ok (Phys.children a p)
        | r => r), (physObs b p).op⟩ := by
  simp only [physObs, Phys.exists_, Phys.metadata, Phys.readDir, Phys.openFile,
    phys_lookup_congr h p]
  cases Phys.lookup b p with
  | ok o =>
    cases o with
    | none => rfl
    | some e => by_cases hf : e.ftype = .file <;> simp [hf, fail]
  | err k q => rfl
  | panic => rfl

theorem embedded_matches_physical_lk (fl : List (Str × Bytes)) (hG : GoodFiles fl)
    (cs : List Str) (hcs : GoodCs cs) (hnb : ¬ BelowFile fl (renderC cs))
    (hroot : fl ≠ [] ∨ cs ≠ [])
    (w : World) (i : Nat) (m : FMap) (h : PhysLeafAt w i m)
    (hm : ∀ k, m.find? k = (folderMap fl).find? k) (idE idP : Nat) :
    (((embVP fl idE (renderC cs)).exists_ w).1 = ((physVP i idP (renderC cs)).exists_ w).1 ∧
      ((embVP fl idE (renderC cs)).exists_ w).2 = w ∧
      ((physVP i idP (renderC cs)).exists_ w).2 = w) ∧
    (SameRes (fun a b => a.ftype = b.ftype ∧ a.len = b.len)
        ((embVP fl idE (renderC cs)).metadata w).1 ((physVP i idP (renderC cs)).metadata w).1 ∧
      ((embVP fl idE (renderC cs)).metadata w).2 = w ∧
      ((physVP i idP (renderC cs)).metadata w).2 = w) ∧
    (SameRes (fun a b => ∀ x, x ∈ a.map (·.path) ↔ x ∈ b.map (·.path))
        ((embVP fl idE (renderC cs)).readDir w).1 ((physVP i idP (renderC cs)).readDir w).1 ∧
      ((embVP fl idE (renderC cs)).readDir w).2 = w ∧
      ((physVP i idP (renderC cs)).readDir w).2 = w) ∧
    ((¬ IsDirC fl cs → SameRes (· = ·)
        (readAll (embVP fl idE (renderC cs)) w).1 (readAll (physVP i idP (renderC cs)) w).1) ∧
      (readAll (embVP fl idE (renderC cs)) w).2 = w ∧
      (readAll (physVP i idP (renderC cs)) w).2 = w) ∧
    (SameRes (· = ·)
        ((embVP fl idE (renderC cs)).readToEndChecked w).1
        ((physVP i idP (renderC cs)).readToEndChecked w).1 ∧
      ((embVP fl idE (renderC cs)).readToEndChecked w).2 = w ∧
      ((physVP i idP (renderC cs)).readToEndChecked w).2 = w) := by
  have rE := emb_runs fl idE (renderC cs) w
  have rP := phys_runs h idP (renderC cs)
  rw [physObs_congr hm] at rP
  rw [rE.exists_eq, rP.exists_eq, rE.metadata_eq, rP.metadata_eq, rE.readDir_eq, rP.readDir_eq,
    rE.readAll_eq, rP.readAll_eq, rE.checked_eq, rP.checked_eq]
  cases classify fl hG cs hcs hnb hroot with
  | file b he hp =>
    rw [he, hp]
    simp [SameRes, Res.withPath, fail, ErrKind.cls, RHandle.readToEnd]
  | dir ch he hp hperm hnames hfind =>
    rw [he, hp]
    have hd : IsDirC fl cs := isDirC_of_find?_dir hcs.noSlash hroot hfind
    have hset : ∀ n, n ∈ ch ↔ n ∈ Phys.children m (renderC cs) := fun n => by
      rw [hperm.mem_iff, phys_children_mem hm]
    simp [SameRes, Res.withPath, fail, ErrKind.cls, RHandle.readToEnd, hd, embVP, physVP,
      VPath.withStr, hset]
  | absent he hp hfind =>
    rw [he, hp]
    simp [SameRes, Res.withPath, fail, ErrKind.cls]

theorem embedded_matches_built_folder (fl : List (Str × Bytes)) (hG : GoodFiles fl) :
    ∃ w m, buildFolder 0 0 fl freshPhys = (.ok (), w) ∧ PhysLeafAt w 0 m ∧
      (∀ k, m.find? k = (folderMap fl).find? k) ∧
      ∀ (cs : List Str), GoodCs cs → ¬ BelowFile fl (renderC cs) → (fl ≠ [] ∨ cs ≠ []) →
        ∀ idE idP,
        ((embVP fl idE (renderC cs)).exists_ w).1 = ((physVP 0 idP (renderC cs)).exists_ w).1 ∧
        SameRes (fun a b => a.ftype = b.ftype ∧ a.len = b.len)
          ((embVP fl idE (renderC cs)).metadata w).1 ((physVP 0 idP (renderC cs)).metadata w).1 ∧
        SameRes (fun a b => ∀ x, x ∈ a.map (·.path) ↔ x ∈ b.map (·.path))
          ((embVP fl idE (renderC cs)).readDir w).1 ((physVP 0 idP (renderC cs)).readDir w).1 ∧
        SameRes (· = ·) ((embVP fl idE (renderC cs)).readToEndChecked w).1
          ((physVP 0 idP (renderC cs)).readToEndChecked w).1 := by
  obtain ⟨w, m, h1, h2, h3⟩ := folder_built_lookup fl hG
  refine ⟨w, m, h1, h2, h3, ?_⟩
  intro cs hcs hnb hroot idE idP
  obtain ⟨a, b, c, _, e⟩ := embedded_matches_physical_lk fl hG cs hcs hnb hroot w 0 m h2 h3 idE idP
  exact ⟨a.1, b.1, c.1, e.1⟩

end Vfs.C18

#print axioms Vfs.C18.folder_built
#print axioms Vfs.C18.harnessFixture_built
#print axioms Vfs.C18.embedded_matches_physical_lk
#print axioms Vfs.C18.embedded_matches_built_folder
