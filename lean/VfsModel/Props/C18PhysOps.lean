/-
  C18, continued from Props/C18Phys.lean: mutators, canonical paths, the folder built by the
  model's operations, the harness fixture.

  * MUTATORS on the embedded filesystem, at the `VfsPath` level, for ANY file list, path string and
    world (`embedded_mutators_refused`): append_file, remove_file, remove_dir and the time setters
    return `NotSupported` with the path filled in; create_dir / create_file run the path layer's
    parent check first (`get_parent`, path.rs: `Other` when the parent is absent or a file, before
    the filesystem is reached), then `NotSupported` (`create_in_dir_notSupported`: exactly
    `NotSupported` in every directory of the folder); create_dir_all is a no-op on the root and
    `NotSupported` at the first prefix otherwise; remove_dir_all succeeds only where the path does
    not exist; no call changes the world. Root = any other path: the statements quantify over all
    strings.
  * `transfers_into_embedded_refused`: copy_file / move_file / copy_dir / move_dir with an embedded
    DESTINATION never succeed and leave the world unchanged (source on a different filesystem; for
    the two file transfers its observers must leave the world alone, as the source is opened first).
  * `goodCs_of_join`: every path produced by `join` from a canonical base is of the form required by
    `embedded_matches_physical`.
  * `putFile` / `buildFolder` / `Built fl` (decidable): the folder built by the model's operations
    on a fresh physical leaf has the lookups of `folderMap fl`; here by evaluation on `fixture`,
    for every `GoodFiles` list, the harness fixture among them, in Props/C18Built.lean
    (`folder_built`, `harnessFixture_built`). `folderMap_unique`: any
    well-formed map with exactly these files and only the implied directories equals `folderMap fl`
    in type and bytes at every key.
  NOT PROVED anywhere: the exact `NotSupported` kind of `remove_dir_all` on an existing directory
  and of the transfers (stated as "never succeeds, changes nothing"); transfers whose SOURCE is
  embedded (read-only).
-/
import VfsModel.Props.C18Phys
import VfsModel.Proofs.PreservesOps
import VfsModel.Proofs.PhysPath
import VfsModel.Proofs.Routes
namespace Vfs.C18
open Vfs.Embedded

theorem embedded_allPreserve (s : State) (I : World → Prop) : (Embedded.fs s).AllPreserve I :=
  .of_sat (sat_all s)

abbrev NeverOk {α} (m : M α) : Prop := Returns m (fun _ => False)

theorem NeverOk.not_ok {α} {m : M α} (h : NeverOk m) (w : World) (a : α) : (m w).1 ≠ .ok a :=
  fun he => h.post w a he

theorem world_eq_of_pres {α} {m : M α} {w : World} (h : Preserves (fun w' => w' = w) m) :
    (m w).2 = w := h.pres w rfl

theorem embedded_direct_mutators_refused (fl : List (Str × Bytes)) (id : Nat) (p : Str) (t : Int)
    (w : World) :
    (embVP fl id p).appendFile w = (.err .notSupported (some p), w) ∧
    (embVP fl id p).removeFile w = (.err .notSupported (some p), w) ∧
    (embVP fl id p).removeDir w = (.err .notSupported (some p), w) ∧
    (embVP fl id p).setCreationTime t w = (.err .notSupported (some p), w) ∧
    (embVP fl id p).setModificationTime t w = (.err .notSupported (some p), w) ∧
    (embVP fl id p).setAccessTime t w = (.err .notSupported (some p), w) :=
  ⟨rfl, rfl, rfl, rfl, rfl, rfl⟩

/-- the answer of `get_parent` (path.rs) on the embedded filesystem, as a function of the data -/
def parentCheck (fl : List (Str × Bytes)) (p : Str) : Res Unit :=
  if Embedded.exists_ (new fl) (parentInternal p) = false then .err .other (some p)
  else match Embedded.metadata (new fl) (parentInternal p) with
    | .ok md => if md.ftype ≠ .dir then .err .other (some p) else .ok ()
    | .err k _ => .err k (some (parentInternal p))
    | .panic => .panic

theorem getParent_eq (fl : List (Str × Bytes)) (id : Nat) (p : Str) (w : World) :
    (embVP fl id p).getParent w = (parentCheck fl p, w) :=
  RunsObs.getParent_eq (V := embVP fl id p) (emb_runs fl id (parentInternal p) w)

theorem createDir_eq (fl : List (Str × Bytes)) (id : Nat) (p : Str) (w : World) :
    (embVP fl id p).createDir w =
      (match parentCheck fl p with
        | .ok _ => .err .notSupported (some p)
        | .err k q => .err k q
        | .panic => .panic, w) := by
  unfold VPath.createDir
  simp only [bind, M.bind, getParent_eq]
  cases parentCheck fl p <;> rfl

theorem createFile_eq (fl : List (Str × Bytes)) (id : Nat) (p : Str) (w : World) :
    (embVP fl id p).createFile w =
      (match parentCheck fl p with
        | .ok _ => .err .notSupported (some p)
        | .err k q => .err k q
        | .panic => .panic, w) := by
  unfold VPath.createFile
  simp only [bind, M.bind, getParent_eq]
  cases parentCheck fl p <;> rfl

/-- `Other`: parent absent or a file (path = the path itself); not-found: only with the root of the
EMPTY folder as parent -/
theorem parentCheck_kinds (fl : List (Str × Bytes)) (p : Str) :
    parentCheck fl p = .ok () ∨ parentCheck fl p = .err .other (some p) ∨
    parentCheck fl p = .err .fileNotFound (some (parentInternal p)) := by
  unfold parentCheck
  split
  · exact Or.inr (Or.inl rfl)
  · have := (observers_no_panic (new fl) (parentInternal p)).2.2
    cases hm : Embedded.metadata (new fl) (parentInternal p) with
    | ok md =>
      simp only
      split
      · exact Or.inr (Or.inl rfl)
      · exact Or.inl rfl
    | err k q =>
      right; right
      unfold Embedded.metadata at hm
      split at hm
      · cases hm
      · split at hm
        · cases hm
        · simp only [fail, Res.err.injEq] at hm
          rw [← hm.1]
    | panic => exact absurd hm this

theorem createDir_refused (fl : List (Str × Bytes)) (id : Nat) (p : Str) (w : World) :
    ((embVP fl id p).createDir w).2 = w ∧ ((embVP fl id p).createFile w).2 = w ∧
    (∃ k q, ((embVP fl id p).createDir w).1 = .err k q ∧
      ((embVP fl id p).createFile w).1 = .err k q ∧
      (k = .notSupported ∨ k = .other ∨ k = .fileNotFound)) := by
  rw [createDir_eq, createFile_eq]
  refine ⟨rfl, rfl, ?_⟩
  rcases parentCheck_kinds fl p with h | h | h <;> rw [h]
  · exact ⟨_, _, rfl, rfl, Or.inl rfl⟩
  · exact ⟨_, _, rfl, rfl, Or.inr (Or.inl rfl)⟩
  · exact ⟨_, _, rfl, rfl, Or.inr (Or.inr rfl)⟩

theorem create_in_dir_notSupported (fl : List (Str × Bytes)) (hG : GoodFiles fl) (cs : List Str)
    (hcs : GoodCs cs) (hd : IsDirC fl cs) (n : Str) (hn : '/' ∉ n) (id : Nat) (w : World) :
    (embVP fl id (renderC (cs ++ [n]))).createDir w =
      (.err .notSupported (some (renderC (cs ++ [n]))), w) ∧
    (embVP fl id (renderC (cs ++ [n]))).createFile w =
      (.err .notSupported (some (renderC (cs ++ [n]))), w) := by
  have hpar : parentInternal (renderC (cs ++ [n])) = renderC cs := by
    rw [parentInternal_renderC, List.dropLast_concat]
    intro c hc
    rcases List.mem_append.1 hc with hc | hc
    · exact (hcs c hc).2
    · simp at hc; rw [hc]; exact hn
  obtain ⟨ch, _, he⟩ := emb_dir_of_isDirC fl hG cs hd
  simp only [embObs, Obs.mk.injEq] at he
  have hpc : parentCheck fl (renderC (cs ++ [n])) = .ok () := by
    unfold parentCheck
    rw [hpar, he.1, he.2.1]
    simp
  rw [createDir_eq, createFile_eq, hpc]
  exact ⟨rfl, rfl⟩

theorem dirPrefixes_ne_nil (p : Str) (h : p ≠ []) : VPath.dirPrefixes p ≠ [] := by
  intro e
  have : p.take p.length ∈ VPath.dirPrefixes p := by
    unfold VPath.dirPrefixes
    rw [List.mem_map]
    refine ⟨p.length, ?_, rfl⟩
    rw [List.mem_filter]
    have : 1 ≤ p.length := by
      cases p with
      | nil => exact absurd rfl h
      | cons c t => simp
    refine ⟨by simp, by simp [this]⟩
  rw [e] at this
  cases this

theorem createDirAll_eq (fl : List (Str × Bytes)) (id : Nat) (p : Str) (w : World) :
    (embVP fl id p).createDirAll w =
      if p = [] then (.ok (), w)
      else (.err .notSupported (some ((VPath.dirPrefixes p).headD [])), w) := by
  unfold VPath.createDirAll
  by_cases hp : p = []
  · rw [if_pos hp, if_pos (show (embVP fl id p).path = [] from hp)]; rfl
  · rw [if_neg hp, if_neg (show ¬ (embVP fl id p).path = [] from hp)]
    show VPath.createDirAllLoop _ (VPath.dirPrefixes p) w = _
    cases hdp : VPath.dirPrefixes p with
    | nil => exact absurd hdp (dirPrefixes_ne_nil p hp)
    | cons d rest => rfl

theorem removeDirAll_embedded (fl : List (Str × Bytes)) (id : Nat) (p : Str) (w : World)
    (fuel : Nat) :
    (VPath.removeDirAll fuel (embVP fl id p) w).2 = w ∧
    (Embedded.exists_ (new fl) p = false →
      VPath.removeDirAll (fuel + 1) (embVP fl id p) w = (.ok (), w)) ∧
    (Embedded.exists_ (new fl) p = true →
      ∀ a, (VPath.removeDirAll fuel (embVP fl id p) w).1 ≠ .ok a) := by
  refine ⟨world_eq_of_pres (VPath.pres_removeDirAll fuel _ (embedded_allPreserve _ _)), ?_, ?_⟩
  · intro hex
    rw [VPath.removeDirAll_succ]
    simp only [bind, M.bind]
    have h1 : (embVP fl id p).exists_ w = (.ok (Embedded.exists_ (new fl) p), w) := rfl
    rw [h1, hex]
    rfl
  · intro hex a
    cases fuel with
    | zero => rw [VPath.removeDirAll_zero]; intro h; cases h
    | succ fuel =>
      rw [VPath.removeDirAll_succ]
      simp only [bind, M.bind]
      have h1 : (embVP fl id p).exists_ w = (.ok (Embedded.exists_ (new fl) p), w) := rfl
      rw [h1, hex]
      simp only [Bool.not_true, Bool.false_eq_true, if_false]
      have hn : NeverOk ((embVP fl id p).readDir >>= fun children =>
          VPath.removeChildren fuel children >>= fun _ => (embVP fl id p).removeDir) :=
        Returns.bind (fun children => Returns.bind (fun _ =>
          Returns.withPath _ (Returns.failK _)))
      exact hn.not_ok w a

theorem createFile_neverOk (fl : List (Str × Bytes)) (id : Nat) (q : Str) :
    NeverOk (embVP fl id q).createFile := by
  refine ⟨fun w a h => ?_⟩
  rw [createFile_eq] at h
  cases hpc : parentCheck fl q <;> rw [hpc] at h <;> simp at h

theorem createDir_neverOk (fl : List (Str × Bytes)) (id : Nat) (q : Str) :
    NeverOk (embVP fl id q).createDir := by
  refine ⟨fun w a h => ?_⟩
  rw [createDir_eq] at h
  cases hpc : parentCheck fl q <;> rw [hpc] at h <;> simp at h

theorem neverOk_guarded {α} (src dst : VPath) (lbl : Str) {body : M α} (h : NeverOk body) :
    NeverOk (VPath.guarded src dst lbl body) := by
  unfold VPath.guarded
  apply Returns.withPath
  apply Returns.bind
  intro b
  split
  · exact Returns.failAt _ _
  · exact h

theorem copyFile_into_neverOk (src : VPath) (fl : List (Str × Bytes)) (idE : Nat) (q : Str)
    (hid : src.fsId ≠ idE) : NeverOk (src.copyFile (embVP fl idE q)) := by
  rw [VPath.copyFile_eq, VPath.fastOr_neg (show ¬ src.fsId = (embVP fl idE q).fsId from hid)]
  exact neverOk_guarded _ _ _
    (Returns.bind fun r => Returns.bindQ (createFile_neverOk fl idE q) (fun a h => h.elim))

theorem moveFile_into_neverOk (src : VPath) (fl : List (Str × Bytes)) (idE : Nat) (q : Str)
    (hid : src.fsId ≠ idE) : NeverOk (src.moveFile (embVP fl idE q)) := by
  rw [VPath.moveFile_eq, VPath.fastOr_neg (show ¬ src.fsId = (embVP fl idE q).fsId from hid)]
  exact neverOk_guarded _ _ _
    (Returns.bind fun r => Returns.bindQ (createFile_neverOk fl idE q) (fun a h => h.elim))

theorem copyDir_into_neverOk (fuel : Nat) (src : VPath) (fl : List (Str × Bytes)) (idE : Nat)
    (q : Str) : NeverOk (VPath.copyDir fuel src (embVP fl idE q)) := by
  rw [VPath.copyDir_eq]
  exact neverOk_guarded _ _ _ (Returns.bindQ (createDir_neverOk fl idE q) (fun _ h => h.elim))

theorem moveDir_into_neverOk (fuel : Nat) (src : VPath) (fl : List (Str × Bytes)) (idE : Nat)
    (q : Str) (hid : src.fsId ≠ idE) : NeverOk (VPath.moveDir fuel src (embVP fl idE q)) := by
  rw [VPath.moveDir_eq, VPath.fastOr_neg (show ¬ src.fsId = (embVP fl idE q).fsId from hid)]
  exact neverOk_guarded _ _ _ (Returns.bindQ (createDir_neverOk fl idE q) (fun _ h => h.elim))

theorem bind_neverOk_world {α β} {m : M α} {f : α → M β} (h : NeverOk m) (w : World) :
    ((m >>= f) w).2 = (m w).2 := by
  have := h.not_ok w
  rcases hm : m w with ⟨_ | _ | _, w'⟩
  · exact absurd (by rw [hm]) (this _)
  · rw [bind_run_err hm]
  · rw [bind_run_panic hm]

/-- `copy_file` / `move_file`: the source is opened before the destination is created, hence the
hypothesis that the source's observers leave `w` alone (e.g. a physical or memory leaf);
`copy_dir` / `move_dir`: the destination directory is created first, and that is refused -/
theorem transfers_into_embedded_refused (fuel : Nat) (src : VPath) (fl : List (Str × Bytes))
    (idE : Nat) (q : Str) (hid : src.fsId ≠ idE) (w : World)
    (hsrc : src.fs.ObsPreserve (fun w' => w' = w)) :
    ((src.copyFile (embVP fl idE q) w).2 = w ∧
      ∀ a, (src.copyFile (embVP fl idE q) w).1 ≠ .ok a) ∧
    ((src.moveFile (embVP fl idE q) w).2 = w ∧
      ∀ a, (src.moveFile (embVP fl idE q) w).1 ≠ .ok a) ∧
    ((VPath.copyDir fuel src (embVP fl idE q) w).2 = w ∧
      ∀ a, (VPath.copyDir fuel src (embVP fl idE q) w).1 ≠ .ok a) ∧
    ((VPath.moveDir fuel src (embVP fl idE q) w).2 = w ∧
      ∀ a, (VPath.moveDir fuel src (embVP fl idE q) w).1 ≠ .ok a) := by
  have hall := embedded_allPreserve (new fl) (fun w' => w' = w)
  refine ⟨⟨?_, (copyFile_into_neverOk src fl idE q hid).not_ok w⟩,
    ⟨?_, (moveFile_into_neverOk src fl idE q hid).not_ok w⟩,
    ⟨?_, (copyDir_into_neverOk fuel src fl idE q).not_ok w⟩,
    ⟨?_, (moveDir_into_neverOk fuel src fl idE q hid).not_ok w⟩⟩
  · exact world_eq_of_pres (VPath.pres_copyFile src _ hsrc hall (fun h => absurd h hid))
  -- the destination is refused by `create_file` / `create_dir`, after which nothing runs
  · refine world_eq_of_pres (.of_sat ?_)
    rw [VPath.moveFile_eq]
    refine VPath.sat_guarded _ _ _ (hall.obs.exists_ _).sat (VPath.sat_fastOr (fun h => absurd h hid) ?_)
    exact .bind (VPath.sat_openFile src hsrc.sat) fun r =>
      .bindQ (fun _ => False) (VPath.sat_createFile _ hall.sat) (createFile_neverOk fl idE q)
        fun _ h => h.elim
  · refine world_eq_of_pres (.of_sat ?_)
    rw [VPath.copyDir_eq]
    exact VPath.sat_guarded _ _ _ (hall.obs.exists_ _).sat
      (.bindQ (fun _ => False) (VPath.sat_createDir _ hall.sat) (createDir_neverOk fl idE q)
        fun _ h => h.elim)
  · refine world_eq_of_pres (.of_sat ?_)
    rw [VPath.moveDir_eq]
    refine VPath.sat_guarded _ _ _ (hall.obs.exists_ _).sat (VPath.sat_fastOr (fun h => absurd h hid) ?_)
    exact .bindQ (fun _ => False) (VPath.sat_createDir _ hall.sat) (createDir_neverOk fl idE q)
      fun _ h => h.elim

theorem embedded_mutators_refused (fl : List (Str × Bytes)) (id : Nat) (p : Str) (t : Int)
    (w : World) (fuel : Nat) :
    (embVP fl id p).appendFile w = (.err .notSupported (some p), w) ∧
    (embVP fl id p).removeFile w = (.err .notSupported (some p), w) ∧
    (embVP fl id p).removeDir w = (.err .notSupported (some p), w) ∧
    (embVP fl id p).setCreationTime t w = (.err .notSupported (some p), w) ∧
    (embVP fl id p).setModificationTime t w = (.err .notSupported (some p), w) ∧
    (embVP fl id p).setAccessTime t w = (.err .notSupported (some p), w) ∧
    (((embVP fl id p).createDir w).2 = w ∧ ((embVP fl id p).createFile w).2 = w ∧
      ∃ k q, ((embVP fl id p).createDir w).1 = .err k q ∧
        ((embVP fl id p).createFile w).1 = .err k q ∧
        (k = .notSupported ∨ k = .other ∨ k = .fileNotFound)) ∧
    ((embVP fl id p).createDirAll w =
      if p = [] then (.ok (), w)
      else (.err .notSupported (some ((VPath.dirPrefixes p).headD [])), w)) ∧
    ((VPath.removeDirAll fuel (embVP fl id p) w).2 = w ∧
      (Embedded.exists_ (new fl) p = true →
        ∀ a, (VPath.removeDirAll fuel (embVP fl id p) w).1 ≠ .ok a)) := by
  obtain ⟨h1, h2, h3, h4, h5, h6⟩ := embedded_direct_mutators_refused fl id p t w
  obtain ⟨r1, _, r3⟩ := removeDirAll_embedded fl id p w fuel
  exact ⟨h1, h2, h3, h4, h5, h6, createDir_refused fl id p w, createDirAll_eq fl id p w, r1, r3⟩

theorem goodCs_of_canon {p : Str} (h : Canon p) : ∃ cs, GoodCs cs ∧ p = renderC cs := by
  obtain ⟨cs, hg, rfl⟩ := h
  exact ⟨cs, fun c hc => ⟨(hg c hc).1, (hg c hc).2.1⟩, rfl⟩

theorem goodCs_of_join (base arg r : Str) (hb : Canon base) (h : joinInternal base arg = .ok r) :
    ∃ cs, GoodCs cs ∧ r = renderC cs :=
  goodCs_of_canon (C06.join_canonical base arg r hb h)

/-- `create_dir_all` of the parent, then a create session writing the bytes -/
def putFile (i id : Nat) (f : Str × Bytes) : M Unit := do
  let p := physVP i id ('/' :: f.1)
  p.parent.createDirAll
  let h ← p.createFile
  h.writeAllAndDrop f.2

def buildFolder (i id : Nat) : List (Str × Bytes) → M Unit
  | [] => pure ()
  | f :: rest => do putFile i id f; buildFolder i id rest

def freshPhys : World := { leaves := [{ kind := .phys, files := Phys.init }] }

/-- decidable "same finite map" -/
def SameMap (a b : FMap) : Prop :=
  (∀ k ∈ a.keys, a.find? k = b.find? k) ∧ (∀ k ∈ b.keys, a.find? k = b.find? k)

instance (a b : FMap) : Decidable (SameMap a b) := by unfold SameMap; exact inferInstance

theorem SameMap.find? {a b : FMap} (h : SameMap a b) (k : Str) : a.find? k = b.find? k := by
  by_cases ha : k ∈ a.keys
  · exact h.1 k ha
  · by_cases hb : k ∈ b.keys
    · exact h.2 k hb
    · have h1 : a.find? k = none := by
        cases hf : a.find? k with
        | none => rfl
        | some e => exact absurd ((FMap.mem_keys_iff a k).2 ⟨e, hf⟩) ha
      have h2 : b.find? k = none := by
        cases hf : b.find? k with
        | none => rfl
        | some e => exact absurd ((FMap.mem_keys_iff b k).2 ⟨e, hf⟩) hb
      rw [h1, h2]

def Built (fl : List (Str × Bytes)) : Prop :=
  (buildFolder 0 0 fl freshPhys).1 = .ok () ∧
  match (buildFolder 0 0 fl freshPhys).2.leaf? 0 with
  | some l => l.kind = .phys ∧ SameMap l.files (folderMap fl)
  | none => False

instance (fl : List (Str × Bytes)) : Decidable (Built fl) := by
  unfold Built; split <;> exact inferInstance

/-- proved as `folder_built` in Props/C18Built.lean -/
def folder_built_stmt : Prop := ∀ fl, GoodFiles fl → Built fl

theorem folder_built_nil : Built [] := by decide

/-- `folderMap fl` is THE folder with exactly these files, independent of how it is built (`hmin`:
empty directories do not exist in an embedded folder) -/
theorem folderMap_unique (fl : List (Str × Bytes)) (hG : GoodFiles fl) (m : FMap) (hwf : WF m)
    (hfiles : ∀ f ∈ fl, ∃ e, m.find? ('/' :: f.1) = some e ∧ e.ftype = .file ∧ e.content = f.2)
    (hmin : ∀ k e, m.find? k = some e →
      (k ∈ dirKeys fl ∧ e.ftype = .dir ∧ e.content = []) ∨
      (∃ f ∈ fl, k = '/' :: f.1 ∧ e.ftype = .file)) :
    ∀ k, (m.find? k).map core = ((folderMap fl).find? k).map core := by
  intro k
  rw [folderMap_find?]
  by_cases hk : k ∈ dirKeys fl
  · rw [if_pos hk]
    -- the key is the root or a proper prefix of a file path present in `m`: a directory of `m`
    have hpres : ∃ e, m.find? k = some e ∧ e.ftype = .dir := by
      rcases (mem_dirKeys fl k).1 hk with rfl | ⟨f, hf, pre, x, post, hsp, rfl⟩
      · exact hwf.1
      · obtain ⟨e, he, _, _⟩ := hfiles f hf
        have hP : '/' :: f.1 = renderC pre ++ '/' :: (x ++ renderC post) := by
          have hsp' : splitOnC '/' f.1 = pre ++ x :: post := hsp
          rw [← renderC_splitSlash f.1, hsp']; simp
        have hanc : renderC pre ∈ Phys.ancestors ('/' :: f.1) := by
          rw [hP]; exact slashfile_mem_ancestors _ _
        exact hwf.ancestors_good _ _ (Nat.le_refl _) ⟨e, he⟩ _ hanc
    obtain ⟨e, he, hd⟩ := hpres
    rcases hmin k e he with ⟨_, _, hc⟩ | ⟨f, _, _, hfile⟩
    · rw [he]; simp [core, hd, hc, dirEntryNow]
    · rw [hfile] at hd; cases hd
  · rw [if_neg hk]
    cases hm : m.find? k with
    | none =>
      cases hf : (fileKVs fl).find? k with
      | none => rfl
      | some e' =>
        exfalso
        obtain ⟨f, b, rfl, hmem, _, _⟩ := find?_fileKVs_some fl k e' hf
        obtain ⟨e, he, _⟩ := hfiles (f, b) hmem
        rw [he] at hm; cases hm
    | some e =>
      rcases hmin k e hm with ⟨h1, _⟩ | ⟨f, hf, rfl, _⟩
      · exact absurd h1 hk
      · obtain ⟨e2, he2, h2, h3⟩ := hfiles f hf
        rw [hm] at he2; injection he2 with he2; subst he2
        rw [find?_fileKVs_slash, fileGet?_of_mem fl f.1 f.2 hG.2.1 hf]
        simp [core, fileEntry, h2, h3]

theorem folderMap_is_folder (fl : List (Str × Bytes)) (hG : GoodFiles fl) :
    WF (folderMap fl) ∧
    (∀ f ∈ fl, ∃ e, (folderMap fl).find? ('/' :: f.1) = some e ∧ e.ftype = .file ∧
      e.content = f.2) ∧
    (∀ k e, (folderMap fl).find? k = some e →
      (k ∈ dirKeys fl ∧ e.ftype = .dir ∧ e.content = []) ∨
      (∃ f ∈ fl, k = '/' :: f.1 ∧ e.ftype = .file)) := by
  refine ⟨folderMap_wf fl, ?_, ?_⟩
  · exact fun f hf => ⟨fileEntry f.2, folderMap_find?_file hG f hf, rfl, rfl⟩
  · intro k e h
    rw [folderMap_find?] at h
    split at h
    · rename_i hk
      injection h with h; subst h
      exact Or.inl ⟨hk, rfl, rfl⟩
    · obtain ⟨f, b, rfl, hmem, _, he⟩ := find?_fileKVs_some fl k e h
      exact Or.inr ⟨(f, b), hmem, rfl, by rw [he]; rfl⟩

/-- nested, dotted, multi-byte, prefix-sharing names (a sample of harness/fixtures/embedded) -/
def harnessFixture : List (Str × Bytes) :=
  [ ("a.txt".toList, [1, 2, 3, 4, 5]), ("a/d.txt".toList, [7]), ("a/x/y.bin".toList, [8, 9]),
    ("ab".toList, [1]), ("a.b/c".toList, [2]), ("a.txt.dir/x".toList, [3]),
    ("c/e.txt".toList, [4]), ("c/e.txt.bak".toList, [5, 6]),
    ("v1..v2/..hidden".toList, [0]), ("empty.bin".toList, []),
    ("日本語/資料/メモ帳.txt".toList, [227, 129, 130]), ("é/ü.txt".toList, [195, 169]),
    ("deep/er/est/file".toList, [9]), ("notes..txt".toList, [1]) ]

/-- `harnessFixture` with the path strings written out: decoding a string literal is by far the
dearest step of evaluating anything about the fixture in the kernel, so the evaluations run on
this copy -/
def harnessChars : List (Str × Bytes) :=
  [ (['a', '.', 't', 'x', 't'], [1, 2, 3, 4, 5]), (['a', '/', 'd', '.', 't', 'x', 't'], [7]),
    (['a', '/', 'x', '/', 'y', '.', 'b', 'i', 'n'], [8, 9]), (['a', 'b'], [1]),
    (['a', '.', 'b', '/', 'c'], [2]),
    (['a', '.', 't', 'x', 't', '.', 'd', 'i', 'r', '/', 'x'], [3]),
    (['c', '/', 'e', '.', 't', 'x', 't'], [4]),
    (['c', '/', 'e', '.', 't', 'x', 't', '.', 'b', 'a', 'k'], [5, 6]),
    (['v', '1', '.', '.', 'v', '2', '/', '.', '.', 'h', 'i', 'd', 'd', 'e', 'n'], [0]),
    (['e', 'm', 'p', 't', 'y', '.', 'b', 'i', 'n'], []),
    (['日', '本', '語', '/', '資', '料', '/', 'メ', 'モ', '帳', '.', 't', 'x', 't'], [227, 129, 130]),
    (['é', '/', 'ü', '.', 't', 'x', 't'], [195, 169]),
    (['d', 'e', 'e', 'p', '/', 'e', 'r', '/', 'e', 's', 't', '/', 'f', 'i', 'l', 'e'], [9]),
    (['n', 'o', 't', 'e', 's', '.', '.', 't', 'x', 't'], [1]) ]

/-- a literal is `String.ofList` of its characters for the kernel, so each entry is an instance of
`String.toList_ofList`: nothing is decoded -/
theorem harnessFixture_chars : harnessFixture = harnessChars := by
  unfold harnessFixture harnessChars
  simp only [List.cons.injEq, Prod.mk.injEq, and_true]
  exact ⟨String.toList_ofList, String.toList_ofList, String.toList_ofList, String.toList_ofList,
    String.toList_ofList, String.toList_ofList, String.toList_ofList, String.toList_ofList,
    String.toList_ofList, String.toList_ofList, String.toList_ofList, String.toList_ofList,
    String.toList_ofList, String.toList_ofList⟩

theorem harnessFixture_good : GoodFiles harnessFixture := by
  rw [harnessFixture_chars]
  decide +kernel

theorem fixture_built : Built fixture := by decide +kernel

def fixtureWorld : World := { leaves := [{ kind := .phys, files := folderMap harnessFixture }] }

theorem fixtureWorld_leaf : PhysLeafAt fixtureWorld 0 (folderMap harnessFixture) := rfl

theorem fixtureWorld_chars :
    fixtureWorld = { leaves := [{ kind := .phys, files := folderMap harnessChars }] } := by
  rw [fixtureWorld, harnessFixture_chars]

example : GoodCs [] ∧ ¬ BelowFile harnessFixture (renderC []) := by decide +kernel
example : GoodCs ["a".toList, "x".toList] ∧
    ¬ BelowFile harnessFixture (renderC ["a".toList, "x".toList]) ∧
    IsDirC harnessFixture ["a".toList, "x".toList] :=
  ⟨by decide, by rw [harnessFixture_chars]; decide +kernel,
    ⟨("a/x/y.bin".toList, [8, 9]), by decide, "y.bin".toList, [], by decide +kernel⟩⟩
example : GoodCs ["日本語".toList, "資料".toList, "メモ帳.txt".toList] ∧
    ¬ BelowFile harnessFixture (renderC ["日本語".toList, "資料".toList, "メモ帳.txt".toList]) := by
  rw [harnessFixture_chars]
  decide +kernel
example : GoodCs ["a".toList, "nope".toList] ∧
    ¬ BelowFile harnessFixture (renderC ["a".toList, "nope".toList]) := by
  rw [harnessFixture_chars]
  decide +kernel
example : GoodCs ["a.tx".toList] ∧ ¬ BelowFile harnessFixture (renderC ["a.tx".toList]) ∧
    GoodCs ["a.txt.d".toList] ∧ ¬ BelowFile harnessFixture (renderC ["a.txt.d".toList]) := by
  rw [harnessFixture_chars]
  decide +kernel

example : embObs harnessFixture "/c/e.txt.bak".toList =
      ⟨true, .ok { ftype := .file, len := 2, created := .now, modified := .now,
                   accessed := .unset }, fail .other, .ok { content := [5, 6], pos := 0 }⟩ ∧
    physObs (folderMap harnessFixture) "/c/e.txt.bak".toList =
      ⟨true, .ok { ftype := .file, len := 2, created := .now, modified := .now,
                   accessed := .now }, fail .io, .ok { content := [5, 6], pos := 0 }⟩ := by
  rw [harnessFixture_chars]
  decide +kernel
example : (embObs harnessFixture "/c".toList).rd = .ok ["e.txt".toList, "e.txt.bak".toList] ∧
    (physObs (folderMap harnessFixture) "/c".toList).rd =
      .ok ["e.txt".toList, "e.txt.bak".toList] := by
  rw [harnessFixture_chars]
  decide +kernel
example : (embObs harnessFixture []).rd = (embObs harnessFixture "/".toList).rd ∧
    ((embObs harnessFixture []).rd.toOption.map List.length) = some 12 ∧
    ((physObs (folderMap harnessFixture) []).rd.toOption.map List.length) = some 12 := by
  rw [harnessFixture_chars]
  decide +kernel

/-- WITNESS of exception 2 (below a file): not-found against `ENOTDIR` -/
example : BelowFile harnessFixture "/a.txt/x".toList ∧
    embObs harnessFixture "/a.txt/x".toList =
      ⟨false, fail .fileNotFound, fail .fileNotFound, fail .fileNotFound⟩ ∧
    physObs (folderMap harnessFixture) "/a.txt/x".toList =
      ⟨false, fail .io, fail .io, fail .io⟩ := by
  rw [harnessFixture_chars]
  decide +kernel

/-- WITNESS of exception 1 (`open_file` on a directory) -/
example : (embObs harnessFixture "/a".toList).op = fail .fileNotFound ∧
    (physObs (folderMap harnessFixture) "/a".toList).op =
      .ok { content := [], pos := 0, bad := true } ∧
    (readAll (embVP harnessFixture 1 "/a".toList) fixtureWorld).1 =
      .err .fileNotFound (some "/a".toList) ∧
    (readAll (physVP 0 2 "/a".toList) fixtureWorld).1 = .err .io (some "/a".toList) := by
  rw [fixtureWorld_chars, harnessFixture_chars]
  decide +kernel

/-- a path that is NOT canonical is outside the theorem for a reason: the embedded filesystem
drops the first character whatever it is, so "xa.txt" opens a.txt; the physical one finds
nothing -/
example : (embObs harnessFixture "xa.txt".toList).ex = true ∧
    (physObs (folderMap harnessFixture) "xa.txt".toList).ex = false := by
  rw [harnessFixture_chars]
  decide +kernel

example : IsDirC harnessFixture [] ∧
    ((folderMap harnessFixture).keys.filter (Wk.below (renderC []))).length < 40 :=
  ⟨isDirC_nil (by decide), by rw [harnessFixture_chars]; decide +kernel⟩

example : ((WkG.collect 40 (embVP harnessFixture 1 []) fixtureWorld).1.toOption.map List.length)
      = some 26 ∧
    ((WkG.collect 40 (physVP 0 2 []) fixtureWorld).1.toOption.map List.length) = some 26 := by
  rw [fixtureWorld_chars, harnessFixture_chars]
  decide +kernel

example : ((embVP harnessFixture 1 "/a/new".toList).createDir fixtureWorld).1 =
      .err .notSupported (some "/a/new".toList) ∧
    ((embVP harnessFixture 1 "/a.txt/new".toList).createFile fixtureWorld).1 =
      .err .other (some "/a.txt/new".toList) ∧
    ((embVP harnessFixture 1 "/zz/new".toList).createFile fixtureWorld).1 =
      .err .other (some "/zz/new".toList) ∧
    ((embVP harnessFixture 1 "/new".toList).createFile fixtureWorld).1 =
      .err .notSupported (some "/new".toList) := by
  rw [fixtureWorld_chars, harnessFixture_chars]
  decide +kernel

end Vfs.C18

#print axioms Vfs.C18.embedded_mutators_refused
#print axioms Vfs.C18.transfers_into_embedded_refused
#print axioms Vfs.C18.create_in_dir_notSupported
#print axioms Vfs.C18.folderMap_unique
