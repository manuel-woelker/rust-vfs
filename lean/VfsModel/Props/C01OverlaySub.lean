/-
  C01 for overlays whose layers are sub-directories `P_k` of pairwise distinct memory leaves
  (`OverlayFS::new(&[root_a.join("up")?, root_b.join("lo")?])`: `subLayers`) or altroots rooted
  there (`altLayers`): the operation contract `VContract` of Props/C09Contract.lean for the
  mutators, relative to the union view of the sub-maps `oview (sub Pu mu :: zipWith sub Ps ms)`.

  Setting (as in Props/C09Subdir.lean): `SubSpec spec (u :: is) (idr :: idrs) (idu :: ids)
  (Pu :: Ps)` (leaf `i_k` is re-rooted at the canonical directory `P_k`), `RSub spec w1 w2` (the
  companion world `w2` holds the sub-maps), `OWN w1 (u :: is) (idu :: ids) (mu :: ms)` (the leaves
  are pairwise distinct memory leaves holding `mu :: ms`); `OInv` and `ViewWF` of the sub-maps;
  per call `OpOK op`, `O3Free`. Altroot layers additionally need `(idu :: ids).Nodup` (pairwise
  distinct layer identities, as `C07.overlay_over_subtrees`).

  `overlay_contractN_subdir`, `overlay_contractN_altroot` (trait level, `ostep`) and
  `vpath_overlay_contractN_subdir`, `vpath_overlay_contractN_altroot` (user level, `vstep`, any
  identity) state `SubContractF`: every mutator on a disciplined path obeys `VContract` relative
  to the view of the sub-maps, ends in a world that is again in the setting (lower sub-maps
  unchanged; append: `LowerSame`), and keeps the frame `OutSame`: in every layer leaf every key
  that is not at or below `P_k` keeps its entry. The contract is carried along the simulation by
  `contract_transfer`; the frame comes from the same simulations taken for the relation that also
  carries the invariant `OutsideAll` (Proofs/OverlayFrameSub.lean), instantiated with the files of
  the initial world (`outsideAll_init`).

  Not covered: error labels are not compared (the two sides label with different strings:
  `P ++ q` vs `q`); leaves other than the layer leaves are not mentioned by `OutSame` (`RSub`
  relates them as `free` leaves: equal to the companion world's); physical leaves;
  `create_dir("")` / `remove_dir("")` of the overlay root (excluded by `OpOK`). That a companion
  world exists is a hypothesis (`C07.rsub_of_leaf` builds it for one leaf, the concrete world
  here exhibits it for two).
-/
import VfsModel.Props.C01Overlay
import VfsModel.Props.C09Subdir
import VfsModel.Proofs.OverlayFrameSub
set_option linter.unusedVariables false
namespace Vfs.C01
open Vfs Vfs.Overlay Vfs.C02 Vfs.C09 Vfs.C07 Vfs.Frm

section sim
variable {R : World → World → Prop} {PR : Option Str → Option Str → Prop}
  {H : WHandle → WHandle → Prop} [ReflPR PR] {fs1 fs2 : FS}

theorem sim_ostep (hfs : SimFS R PR H fs1 fs2) (hh : SimHandles R PR H) (op : Mut)
    (hc : Canon op.path) (hne : op.path ≠ []) :
    SimM R PR (· = ·) (ostep fs1 op) (ostep fs2 op) := by
  cases op with
  | createDir p => exact hfs.base.createDir p hc hne
  | write p bs =>
    exact SimM.bind (hfs.base.createFile p hc) fun _ _ hw => VPath.sim_writeAllAndDrop hh hw bs
  | append p bs =>
    exact SimM.bind (hfs.base.appendFile p hc) fun _ _ hw => VPath.sim_writeAllAndDrop hh hw bs
  | removeFile p => exact hfs.base.removeFile p hc
  | removeDir p => exact hfs.base.removeDir p hc hne

theorem sim_vstep (hfs : SimFS R PR H fs1 fs2) (hh : SimHandles R PR H) (id : Nat) (op : Mut)
    (hc : Canon op.path) (hne : op.path ≠ []) :
    SimM R PR (· = ·) (vstep fs1 id op) (vstep fs2 id op) := by
  have hv : SimVPath R PR H ⟨fs1, id, op.path⟩ ⟨fs2, id, op.path⟩ := ⟨hfs, rfl, rfl, hc⟩
  cases op with
  | createDir p => exact VPath.sim_createDir hv hne
  | write p bs => exact VPath.sim_writeSession hh hv bs
  | append p bs => exact VPath.sim_appendSession hh hv bs
  | removeFile p => exact VPath.sim_removeFile hv
  | removeDir p => exact VPath.sim_removeDir hv hne

end sim

theorem opOK_canon {op : Mut} (hop : OpOK op) : Canon op.path ∧ op.path ≠ [] := by
  obtain ⟨ds, n, hp, hpath⟩ := hop
  rw [hpath]
  exact ⟨⟨ds ++ [n], hp.good, rfl⟩, renderC_ne_nil hp.ne⟩

theorem _root_.Vfs.C09.VContract.of_relRes {v v' : View} {op : Mut} {r1 r2 : Res Unit}
    {PR : Option Str → Option Str → Prop} (h : VContract v op r2 v')
    (hrel : RelRes PR (· = ·) r1 r2) : VContract v op r1 v' :=
  h.congr hrel.isOk_eq hrel.kind_eq (fun h0 => by subst h0; cases hrel; rfl)

/-- the converse of `C07.own_sub` -/
theorem own_of_sub {spec : Nat → Role} {is idrs ids : List Nat} {Ps : List Str} {w1 w2 : World}
    (h : SubSpec spec is idrs ids Ps) (hr : RSub spec w1 w2) {ms2 : List FMap}
    (hown : OWN w2 is ids ms2) : ∃ ms1, OWN w1 is ids ms1 ∧ ms2 = List.zipWith sub Ps ms1 := by
  induction h generalizing ms2 with
  | nil => cases hown; exact ⟨[], .nil, rfl⟩
  | @cons i _ id P is _ ids Ps hi _ _ ih =>
    cases hown with
    | @cons _ _ m0 _ _ _ hm hni hrest =>
      obtain ⟨m1, a1, a2, _⟩ := hr.leafAt hi
      have : sub P m1 = m0 := a2.unique hm
      subst this
      obtain ⟨ms1, hown1, rfl⟩ := ih hrest
      exact ⟨m1 :: ms1, .cons a1 hni hown1, rfl⟩

def OutSame : List Str → List FMap → List FMap → Prop
  | P :: Ps, m :: ms, m' :: ms' =>
    (∀ k, stripP P k = none → m'.find? k = m.find? k) ∧ OutSame Ps ms ms'
  | _, _, _ => True

theorem OutSame.refl (Ps : List Str) (ms : List FMap) : OutSame Ps ms ms := by
  induction Ps generalizing ms with
  | nil => cases ms <;> trivial
  | cons P Ps ih =>
    cases ms with
    | nil => trivial
    | cons m ms => exact ⟨fun _ _ => rfl, ih ms⟩

theorem OutSame.trans {Ps : List Str} {a b c : List FMap} (hl : a.length = b.length)
    (h1 : OutSame Ps a b) (h2 : OutSame Ps b c) : OutSame Ps a c := by
  induction Ps generalizing a b c with
  | nil => cases a <;> cases c <;> trivial
  | cons P Ps ih =>
    cases a with
    | nil => trivial
    | cons x a =>
      cases c with
      | nil => trivial
      | cons z c =>
        cases b with
        | nil => simp at hl
        | cons y b =>
          exact ⟨fun k hk => by rw [h2.1 k hk, h1.1 k hk], ih (by simpa using hl) h1.2 h2.2⟩

/-- `R'` is any relation that implies `RSub spec`: `RSub spec` itself, or `RSub spec` strengthened
by a unary invariant of the left world (the frame theorems use `OutsideAll`) -/
theorem contract_transfer {spec : Nat → Role} {R' : World → World → Prop}
    (hR' : ∀ a b, R' a b → RSub spec a b) {PR : Option Str → Option Str → Prop}
    {is idrs ids : List Nat} {Ps : List Str} (h : SubSpec spec is idrs ids Ps)
    {m1 m2 : M Unit} (hsim : SimM R' PR (· = ·) m1 m2) {w1 w2 w2' : World} (hr : R' w1 w2)
    {r2 : Res Unit} (hrun : m2 w2 = (r2, w2')) {ms2 : List FMap} (hown2 : OWN w2' is ids ms2)
    {v v' : View} {op : Mut} (hc : VContract v op r2 v') :
    ∃ r1 w1' ms1, m1 w1 = (r1, w1') ∧ R' w1' w2' ∧ OWN w1' is ids ms1 ∧
      ms2 = List.zipWith sub Ps ms1 ∧ RelRes PR (· = ·) r1 r2 ∧ VContract v op r1 v' := by
  obtain ⟨hrel, hr'⟩ := hsim w1 w2 hr
  rw [hrun] at hrel hr'
  obtain ⟨ms1, hown1, hms⟩ := own_of_sub h (hR' _ _ hr') hown2
  exact ⟨(m1 w1).1, (m1 w1).2, ms1, rfl, hr', hown1, hms, hrel, hc.of_relRes hrel⟩

theorem zipWith_sub_cons_inv {Pu : Str} {Ps : List Str} {mu2 : FMap} {ms2 ms1 : List FMap}
    (h : mu2 :: ms2 = List.zipWith sub (Pu :: Ps) ms1) :
    ∃ mu' ms', ms1 = mu' :: ms' ∧ mu2 = sub Pu mu' ∧ ms2 = List.zipWith sub Ps ms' := by
  cases ms1 with
  | nil => simp at h
  | cons mu' ms' =>
    simp only [List.zipWith_cons_cons, List.cons.injEq] at h
    exact ⟨mu', ms', rfl, h.1, h.2⟩

def SubContract (spec : Nat → Role) (R' : World → World → Prop) (is ids : List Nat) (Pu : Str)
    (Ps : List Str) (mu : FMap) (ms : List FMap) (op : Mut) (m1 : M Unit) (w1 : World) : Prop :=
  ∃ r w1' w2' mu' ms',
    m1 w1 = (r, w1') ∧ OWN w1' is ids (mu' :: ms') ∧ R' w1' w2' ∧
    LowerSame (List.zipWith sub Ps ms) (List.zipWith sub Ps ms') ∧
    ((∀ p bs, op ≠ .append p bs) → List.zipWith sub Ps ms' = List.zipWith sub Ps ms) ∧
    OInv (sub Pu mu') (List.zipWith sub Ps ms') ∧
    ViewWF (oview (sub Pu mu' :: List.zipWith sub Ps ms')) ∧
    VContract (oview (sub Pu mu :: List.zipWith sub Ps ms)) op r
      (oview (sub Pu mu' :: List.zipWith sub Ps ms'))

/-- `vpath_overlay_contractN` without its two clauses on the error label -/
theorem vpath_contract_core {w : World} {u idu : Nat} {mu : FMap} {is ids : List Nat} {ms : List FMap}
    (h : OWN w (u :: is) (idu :: ids) (mu :: ms)) (inv : OInv mu ms) (hv : ViewWF (oview (mu :: ms)))
    (id : Nat) (op : Mut) (hop : OpOK op) (hdisc : O3Free (oview (mu :: ms)) op) :
    ∃ r w' mu' ms', vstep (Overlay.fs (layersN (u :: is) (idu :: ids))) id op w = (r, w') ∧
      OWN w' (u :: is) (idu :: ids) (mu' :: ms') ∧ LowerSame ms ms' ∧
      ((∀ p bs, op ≠ .append p bs) → ms' = ms) ∧ OInv mu' ms' ∧ ViewWF (oview (mu' :: ms')) ∧
      VContract (oview (mu :: ms)) op r (oview (mu' :: ms')) := by
  obtain ⟨r, w', mu', ms', a, b, c, d, e, f, g, _⟩ := vpath_overlay_contractN h inv hv id op hop hdisc
  exact ⟨r, w', mu', ms', a, b, c, d, e, f, g⟩

section transferred
variable {spec : Nat → Role} {R' : World → World → Prop} (hR' : ∀ a b, R' a b → RSub spec a b)
  {u idr idu : Nat} {Pu : Str} {is idrs ids : List Nat} {Ps : List Str}
  (h : SubSpec spec (u :: is) (idr :: idrs) (idu :: ids) (Pu :: Ps))
  {w1 w2 : World} (hr : R' w1 w2) {mu : FMap} {ms : List FMap}
  (hown : OWN w1 (u :: is) (idu :: ids) (mu :: ms))
  (inv : OInv (sub Pu mu) (List.zipWith sub Ps ms))
  (hv : ViewWF (oview (sub Pu mu :: List.zipWith sub Ps ms)))
include hR' h hr hown inv hv

omit inv hv in
/-- any call `m1` simulating a call `m2` that obeys the contract on the overlay over the roots of the
sub-maps obeys it relative to the view of the sub-maps -/
theorem subContract_of {PR : Option Str → Option Str → Prop} {m1 m2 : M Unit} (op : Mut)
    (habs : ∀ {w : World}, OWN w (u :: is) (idu :: ids) (sub Pu mu :: List.zipWith sub Ps ms) →
      ∃ r w' mu' ms', m2 w = (r, w') ∧ OWN w' (u :: is) (idu :: ids) (mu' :: ms') ∧
        LowerSame (List.zipWith sub Ps ms) ms' ∧
        ((∀ p bs, op ≠ .append p bs) → ms' = List.zipWith sub Ps ms) ∧
        OInv mu' ms' ∧ ViewWF (oview (mu' :: ms')) ∧
        VContract (oview (sub Pu mu :: List.zipWith sub Ps ms)) op r (oview (mu' :: ms')))
    (hsim : SimM R' PR (· = ·) m1 m2) :
    SubContract spec R' (u :: is) (idu :: ids) Pu Ps mu ms op m1 w1 := by
  obtain ⟨r2, w2', mu2, ms2, hrun, hown2', hls, hms, inv', hv', hc⟩ :=
    habs (own_sub h (hR' _ _ hr) hown)
  obtain ⟨r1, w1', ms1, hrun1, hr', hown1, hms1, _, hc1⟩ :=
    contract_transfer hR' h hsim hr hrun hown2' hc
  obtain ⟨mu', ms', rfl, rfl, rfl⟩ := zipWith_sub_cons_inv hms1
  exact ⟨r1, w1', w2', mu', ms', hrun1, hown1, hr', hls, hms, inv', hv', hc1⟩

end transferred

theorem outSame_of_outsideAll {spec : Nat → Role} {is idrs ids : List Nat} {Ps : List Str}
    (h : SubSpec spec is idrs ids Ps) {w1 w1' : World} {ms ms' : List FMap}
    (hown : OWN w1 is ids ms) (hown' : OWN w1' is ids ms')
    (hI : OutsideAll spec (filesOf w1) w1') : OutSame Ps ms ms' := by
  induction h generalizing ms ms' with
  | nil => cases hown; cases hown'; trivial
  | @cons i _ id P is _ ids Ps hi _ _ ih =>
    cases hown with
    | @cons _ _ m _ _ ms0 hm _ hrest =>
      cases hown' with
      | @cons _ _ m' _ _ ms0' hm' _ hrest' =>
        refine ⟨?_, ih hrest hrest'⟩
        obtain ⟨l, hl, _, hk⟩ := hI i P hi
        have e1 : l.files = m' := by
          rw [hm'.leaf?] at hl; injection hl with hl; rw [← hl]
        have e2 : filesOf w1 i = m := by
          unfold filesOf; rw [hm.leaf?]; rfl
        intro k hk0
        rw [← e1, ← e2]
        exact hk k hk0

def SubContractF (spec : Nat → Role) (is ids : List Nat) (Pu : Str)
    (Ps : List Str) (mu : FMap) (ms : List FMap) (op : Mut) (m1 : M Unit) (w1 : World) : Prop :=
  ∃ r w1' w2' mu' ms',
    m1 w1 = (r, w1') ∧ OWN w1' is ids (mu' :: ms') ∧ RSub spec w1' w2' ∧
    OutSame (Pu :: Ps) (mu :: ms) (mu' :: ms') ∧
    LowerSame (List.zipWith sub Ps ms) (List.zipWith sub Ps ms') ∧
    ((∀ p bs, op ≠ .append p bs) → List.zipWith sub Ps ms' = List.zipWith sub Ps ms) ∧
    OInv (sub Pu mu') (List.zipWith sub Ps ms') ∧
    ViewWF (oview (sub Pu mu' :: List.zipWith sub Ps ms')) ∧
    VContract (oview (sub Pu mu :: List.zipWith sub Ps ms)) op r
      (oview (sub Pu mu' :: List.zipWith sub Ps ms'))

theorem SubContract.frame {spec : Nat → Role} {u idr idu : Nat} {Pu : Str}
    {is idrs ids : List Nat} {Ps : List Str}
    (h : SubSpec spec (u :: is) (idr :: idrs) (idu :: ids) (Pu :: Ps))
    {w1 : World} {mu : FMap} {ms : List FMap} (hown : OWN w1 (u :: is) (idu :: ids) (mu :: ms))
    {op : Mut} {m1 : M Unit}
    (hc : SubContract spec (RFA spec (filesOf w1)) (u :: is) (idu :: ids) Pu Ps mu ms op m1 w1) :
    SubContractF spec (u :: is) (idu :: ids) Pu Ps mu ms op m1 w1 := by
  obtain ⟨r, w1', w2', mu', ms', hrun, hown', hr', hls, hms, inv', hv', hc'⟩ := hc
  exact ⟨r, w1', w2', mu', ms', hrun, hown', hr'.1, outSame_of_outsideAll h hown hown' hr'.2,
    hls, hms, inv', hv', hc'⟩

section instancesF
variable {spec : Nat → Role} {u idr idu : Nat} {Pu : Str} {is idrs ids : List Nat} {Ps : List Str}
  (h : SubSpec spec (u :: is) (idr :: idrs) (idu :: ids) (Pu :: Ps))
  {w1 w2 : World} (hr : RSub spec w1 w2) {mu : FMap} {ms : List FMap}
  (hown : OWN w1 (u :: is) (idu :: ids) (mu :: ms))
  (inv : OInv (sub Pu mu) (List.zipWith sub Ps ms))
  (hv : ViewWF (oview (sub Pu mu :: List.zipWith sub Ps ms)))
include h hr hown inv hv

/-- **overlay_contractN_subdir.** Layers = the sub-directory paths `⟨leafFS i_k, id_k, P_k⟩`
(`P_k` canonical) of pairwise distinct memory leaves. Every mutator on a disciplined path through
the overlay (trait level)
* obeys `VContract` relative to the union view of the SUB-MAPS `sub Pu mu :: zipWith sub Ps ms`,
* leaves a world in the setting again (`OWN`, a companion world, `OInv`, `ViewWF` of the
  sub-maps; lower sub-maps unchanged, append: `LowerSame`),
* and changes NOTHING outside the `P_k`: in every layer leaf every key that is not at or below
  `P_k` keeps its entry (`OutSame`). -/
theorem overlay_contractN_subdir (op : Mut) (hop : OpOK op)
    (hdisc : O3Free (oview (sub Pu mu :: List.zipWith sub Ps ms)) op) :
    SubContractF spec (u :: is) (idu :: ids) Pu Ps mu ms op
      (ostep (Overlay.fs (subLayers (u :: is) (idu :: ids) (Pu :: Ps))) op) w1 :=
  SubContract.frame h hown
    (subContract_of (fun _ _ x => x.1) h ⟨hr, outsideAll_init hr⟩ hown op
      (fun h2 => overlay_contractN h2 inv hv op hop hdisc)
      (sim_ostep (overlay_over_subdirs_frame h (by simp)) (simHandles_frameAll spec _) op
        (opOK_canon hop).1 (opOK_canon hop).2))

/-- the same through the `VfsPath` layer -/
theorem vpath_overlay_contractN_subdir (id : Nat) (op : Mut)
    (hop : OpOK op) (hdisc : O3Free (oview (sub Pu mu :: List.zipWith sub Ps ms)) op) :
    SubContractF spec (u :: is) (idu :: ids) Pu Ps mu ms op
      (vstep (Overlay.fs (subLayers (u :: is) (idu :: ids) (Pu :: Ps))) id op) w1 :=
  SubContract.frame h hown
    (subContract_of (fun _ _ x => x.1) h ⟨hr, outsideAll_init hr⟩ hown op
      (fun h2 => vpath_contract_core h2 inv hv id op hop hdisc)
      (sim_vstep (overlay_over_subdirs_frame h (by simp)) (simHandles_frameAll spec _) id op
        (opOK_canon hop).1 (opOK_canon hop).2))

/-- **overlay_contractN_altroot.** The same for layers that are (roots of) altroots rooted at the
canonical directories `P_k` of pairwise distinct memory leaves, layer identities pairwise
distinct. -/
theorem overlay_contractN_altroot (hn : (idu :: ids).Nodup) (op : Mut) (hop : OpOK op)
    (hdisc : O3Free (oview (sub Pu mu :: List.zipWith sub Ps ms)) op) :
    SubContractF spec (u :: is) (idu :: ids) Pu Ps mu ms op
      (ostep (Overlay.fs (altLayers (u :: is) (idr :: idrs) (idu :: ids) (Pu :: Ps))) op) w1 :=
  SubContract.frame h hown
    (subContract_of (fun _ _ x => x.1) h ⟨hr, outsideAll_init hr⟩ hown op
      (fun h2 => overlay_contractN h2 inv hv op hop hdisc)
      (sim_ostep (overlay_over_subtrees_frame h (by simp) hn) (simHandles_frameAll spec _) op
        (opOK_canon hop).1 (opOK_canon hop).2))

/-- the same through the `VfsPath` layer -/
theorem vpath_overlay_contractN_altroot (hn : (idu :: ids).Nodup) (id : Nat) (op : Mut)
    (hop : OpOK op) (hdisc : O3Free (oview (sub Pu mu :: List.zipWith sub Ps ms)) op) :
    SubContractF spec (u :: is) (idu :: ids) Pu Ps mu ms op
      (vstep (Overlay.fs (altLayers (u :: is) (idr :: idrs) (idu :: ids) (Pu :: Ps))) id op) w1 :=
  SubContract.frame h hown
    (subContract_of (fun _ _ x => x.1) h ⟨hr, outsideAll_init hr⟩ hown op
      (fun h2 => vpath_contract_core h2 inv hv id op hop hdisc)
      (sim_vstep (overlay_over_subtrees_frame h (by simp) hn) (simHandles_frameAll spec _) id op
        (opOK_canon hop).1 (opOK_canon hop).2))

end instancesF

theorem SubContractF.view {spec : Nat → Role} {is ids : List Nat} {Pu : Str} {Ps : List Str}
    {mu : FMap} {ms : List FMap} {op : Mut} {m1 : M Unit} {w1 : World}
    (hc : SubContractF spec is ids Pu Ps mu ms op m1 w1) :
    SubContract spec (RSub spec) is ids Pu Ps mu ms op m1 w1 := by
  obtain ⟨r, w1', w2', mu', ms', hrun, hown', hr', _, rest⟩ := hc
  exact ⟨r, w1', w2', mu', ms', hrun, hown', hr', rest⟩

section instances
variable {spec : Nat → Role} {u idr idu : Nat} {Pu : Str} {is idrs ids : List Nat} {Ps : List Str}
  (h : SubSpec spec (u :: is) (idr :: idrs) (idu :: ids) (Pu :: Ps))
  {w1 w2 : World} (hr : RSub spec w1 w2) {mu : FMap} {ms : List FMap}
  (hown : OWN w1 (u :: is) (idu :: ids) (mu :: ms))
  (inv : OInv (sub Pu mu) (List.zipWith sub Ps ms))
  (hv : ViewWF (oview (sub Pu mu :: List.zipWith sub Ps ms)))
include h hr hown inv hv

/-- `overlay_contractN_subdir` without the frame, over the plain relation `RSub spec` -/
theorem overlay_contractN_subdir_view (op : Mut) (hop : OpOK op)
    (hdisc : O3Free (oview (sub Pu mu :: List.zipWith sub Ps ms)) op) :
    SubContract spec (RSub spec) (u :: is) (idu :: ids) Pu Ps mu ms op
      (ostep (Overlay.fs (subLayers (u :: is) (idu :: ids) (Pu :: Ps))) op) w1 :=
  (overlay_contractN_subdir h hr hown inv hv op hop hdisc).view

theorem vpath_overlay_contractN_subdir_view (id : Nat) (op : Mut) (hop : OpOK op)
    (hdisc : O3Free (oview (sub Pu mu :: List.zipWith sub Ps ms)) op) :
    SubContract spec (RSub spec) (u :: is) (idu :: ids) Pu Ps mu ms op
      (vstep (Overlay.fs (subLayers (u :: is) (idu :: ids) (Pu :: Ps))) id op) w1 :=
  (vpath_overlay_contractN_subdir h hr hown inv hv id op hop hdisc).view

theorem overlay_contractN_altroot_view (hn : (idu :: ids).Nodup) (op : Mut) (hop : OpOK op)
    (hdisc : O3Free (oview (sub Pu mu :: List.zipWith sub Ps ms)) op) :
    SubContract spec (RSub spec) (u :: is) (idu :: ids) Pu Ps mu ms op
      (ostep (Overlay.fs (altLayers (u :: is) (idr :: idrs) (idu :: ids) (Pu :: Ps))) op) w1 :=
  (overlay_contractN_altroot h hr hown inv hv hn op hop hdisc).view

theorem vpath_overlay_contractN_altroot_view (hn : (idu :: ids).Nodup) (id : Nat) (op : Mut)
    (hop : OpOK op) (hdisc : O3Free (oview (sub Pu mu :: List.zipWith sub Ps ms)) op) :
    SubContract spec (RSub spec) (u :: is) (idu :: ids) Pu Ps mu ms op
      (vstep (Overlay.fs (altLayers (u :: is) (idr :: idrs) (idu :: ids) (Pu :: Ps))) id op) w1 :=
  (vpath_overlay_contractN_altroot h hr hown inv hv hn id op hop hdisc).view

end instances

/-! ### non-vacuity: the two-leaf world of Props/C07Subtree.lean
leaf 0: "/up/f" = [1], "/up", "/junk" (outside), ""; leaf 1: "/lo/g" = [2], "/lo/f" = [3], "/lo", "";
layers "/up" of leaf 0 over "/lo" of leaf 1 -/

section exampleY

theorem y_wf : ∀ m ∈ [sub "/up".toList yM0, sub "/lo".toList yM1], WF m := by decide +kernel

theorem y_inv : OInv (sub "/up".toList yM0) (List.zipWith sub ["/lo".toList] [yM1]) :=
  OInv.initial y_wf (noWhiteout_of_keys (by decide))

theorem y_viewWF :
    ViewWF (oview (sub "/up".toList yM0 :: List.zipWith sub ["/lo".toList] [yM1])) :=
  ViewWF.initial y_wf (noWhiteout_of_keys (by decide)) (typeConsistent_of_keys (by decide +kernel))

example := overlay_contractN_subdir_view ySub yRel yOwn y_inv y_viewWF (.createDir "/n".toList)
  (opOK_of_check (by decide +kernel)) (by intro p hp; cases hp)
example := overlay_contractN_subdir_view ySub yRel yOwn y_inv y_viewWF (.append "/g".toList [7])
  (opOK_of_check (by decide +kernel)) (by intro p hp; cases hp)
example := overlay_contractN_subdir_view ySub yRel yOwn y_inv y_viewWF (.removeFile "/g".toList)
  (opOK_of_check (by decide +kernel)) (by intro p hp; injection hp with hp; subst hp; decide)
example := vpath_overlay_contractN_subdir_view ySub yRel yOwn y_inv y_viewWF 5
  (.write "/f".toList [4]) (opOK_of_check (by decide +kernel)) (by intro p hp; cases hp)
example := overlay_contractN_altroot_view ySub yRel yOwn y_inv y_viewWF (by decide)
  (.removeDir "/n".toList) (opOK_of_check (by decide +kernel)) (by intro p hp; cases hp)
example := vpath_overlay_contractN_altroot_view ySub yRel yOwn y_inv y_viewWF (by decide) 5
  (.createDir "/n".toList) (opOK_of_check (by decide +kernel)) (by intro p hp; cases hp)

example := overlay_contractN_subdir ySub yRel yOwn y_inv y_viewWF (.append "/g".toList [7])
  (opOK_of_check (by decide +kernel)) (by intro p hp; cases hp)
example := vpath_overlay_contractN_subdir ySub yRel yOwn y_inv y_viewWF 5 (.createDir "/n".toList)
  (opOK_of_check (by decide +kernel)) (by intro p hp; cases hp)
example := overlay_contractN_altroot ySub yRel yOwn y_inv y_viewWF (by decide)
  (.removeFile "/g".toList) (opOK_of_check (by decide +kernel))
  (by intro p hp; injection hp with hp; subst hp; decide)
example := vpath_overlay_contractN_altroot ySub yRel yOwn y_inv y_viewWF (by decide) 5
  (.write "/f".toList [4]) (opOK_of_check (by decide +kernel)) (by intro p hp; cases hp)

/-- by evaluation: the append session with copy-up through the overlay over the sub-directories
succeeds, the view of the sub-maps shows the continued bytes, and "/junk" (outside "/up") is
untouched -/
example :
    (ostep (Overlay.fs yL1) (.append "/g".toList [7]) yW1).1 = .ok () ∧
    ((ostep (Overlay.fs yL1) (.append "/g".toList [7]) yW1).2.leaves.map fun l =>
      (l.files.find? "/up/g".toList).map (·.content)) = [some [2, 7], none] ∧
    ((ostep (Overlay.fs yL1) (.append "/g".toList [7]) yW1).2.leaves.map fun l =>
      l.files.find? "/junk".toList) = [yM0.find? "/junk".toList, none] := by
  decide +kernel

end exampleY

section audit
#print axioms contract_transfer
#print axioms overlay_contractN_subdir_view
#print axioms vpath_overlay_contractN_subdir_view
#print axioms overlay_contractN_altroot_view
#print axioms vpath_overlay_contractN_altroot_view
#print axioms overlay_contractN_subdir
#print axioms vpath_overlay_contractN_subdir
#print axioms overlay_contractN_altroot
#print axioms vpath_overlay_contractN_altroot
end audit

end Vfs.C01
