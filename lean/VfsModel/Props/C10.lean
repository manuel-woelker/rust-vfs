/-
  C10 — what is removed through the overlay stays absent until it is re-created; the markers
  never appear as entries (src/impls/overlay.rs). This file: exactly two layers.

  Setting and notation as in Props/C09.lean: `OW w u l mu ml` (two memory leaves `u ≠ l`, upper map
  `mu`, lower map `ml`), the overlay `Overlay.fs (layers2 u l idu idl)`, canonical paths
  `p = renderC (ds ++ [n])`, `marker p = "/.whiteout" ++ p ++ "_wo"`, the union view `view`. Every
  theorem is the instance `ms = [ml]` of its n-layer form in Props/C10N.lean.

  Claims: `removed_file_absent`, `removed_dir_absent` (after a successful removal only the upper
  leaf changed, the upper map holds `marker p`, every observer reports absence);
  `removed_stays_absent_frame` (while `marker p` is in the upper map, `p` is absent from the
  view, whatever else changed in either map) and `marker_survives_createDir` / `createFile` /
  `removeFile` / `removeDir` / `write_session` / `openFile` (every such overlay call at a path
  `q ≠ p` — for the removals `q ≠ marker p`, i.e. not reaching into the reserved ".whiteout"
  namespace — keeps `marker p`); `recreated_file_fresh`, `remove_then_recreate_fresh`,
  `recreated_dir_empty`; `markers_invisible`. On the concrete world of Props/C09.lean (section
  `concrete`) also the OPEN known finding `remove_file_on_lower_dir_orphans`.

  Hypotheses excluding reserved names (each one corresponds to a real quirk of the code):
  `(ds ++ [n]).head? ≠ some woDir` (paths inside "/.whiteout"), `ds.head? ≠ some woSuffix` (a
  top-level directory called "_wo": removing below it creates "/.whiteout/_wo", the root marker),
  `hwoarea` (no FILE where the bookkeeping needs a directory).
-/
import VfsModel.Props.C10N
set_option linter.unusedVariables false
namespace Vfs.C10
open Vfs Vfs.Overlay

theorem marker_inj (p q : Str) (h : marker p = marker q) : p = q := marker_injective p q h

/-- `clearWhiteout q` (the only code that removes a marker) erases nothing but `marker q` -/
theorem clearWhiteout_only_erases_marker {w : World} {u l idu idl : Nat} {mu ml : FMap}
    (h : OW w u l mu ml) (cs : List Str) (hne : cs ≠ []) (hcs : ∀ c ∈ cs, GoodComp c) :
    ∃ r mu', clearWhiteout (layers2 u l idu idl) (renderC cs) w = (r, w.setLeafFiles u mu') ∧
      ∀ k, k ≠ marker (renderC cs) → mu'.find? k = mu.find? k := by
  obtain ⟨r, mu', hrun, _, hframe⟩ := clearWhiteout_only_erases_markerN (h.toN idu idl) cs hne hcs
  exact ⟨r, mu', hrun, hframe⟩

section setting
variable {w : World} {u l idu idl : Nat} {mu ml : FMap} (h : OW w u l mu ml)
include h

theorem removeFile_succeeds (ds : List Str) (n : Str) (hds : ∀ c ∈ ds, GoodComp c)
    (hn : GoodComp n) (hroot : RootOk mu)
    (hwoarea : ∀ k ∈ chain [] (woDir :: ds), ∀ e, mu.find? k = some e → e.ftype = .dir)
    (e : Entry) (hv : view mu ml (renderC (ds ++ [n])) = some e) (hfile : e.ftype = .file) :
    ((Overlay.fs (layers2 u l idu idl)).removeFile (renderC (ds ++ [n])) w).1 = .ok () :=
  removeFile_okN (h.toN idu idl) ds n hds hn hroot hwoarea e (by rwa [viewN_two]) hfile

/-- **a removed file is absent from every observation.** After a successful `remove_file(p)`:
only the upper leaf changed (the lower leaf still holds `ml`), the upper map holds the marker of
`p` as an empty file, the union view has nothing at `p`, and `exists` / `metadata` / `open_file`
through the overlay report absence. -/
theorem removed_file_absent (cs : List Str) (hne : cs ≠ []) (hcs : ∀ c ∈ cs, GoodComp c)
    (hres : ((Overlay.fs (layers2 u l idu idl)).removeFile (renderC cs) w).1 = .ok ()) :
    ∃ mu', (Overlay.fs (layers2 u l idu idl)).removeFile (renderC cs) w
        = (.ok (), w.setLeafFiles u mu') ∧
      OW (w.setLeafFiles u mu') u l mu' ml ∧
      (∃ em, mu'.find? (marker (renderC cs)) = some em ∧ em.ftype = .file ∧ em.content = []) ∧
      view mu' ml (renderC cs) = none ∧
      (Overlay.fs (layers2 u l idu idl)).exists_ (renderC cs) (w.setLeafFiles u mu')
        = (.ok false, w.setLeafFiles u mu') ∧
      (Overlay.fs (layers2 u l idu idl)).metadata (renderC cs) (w.setLeafFiles u mu')
        = (.err .fileNotFound none, w.setLeafFiles u mu') ∧
      (Overlay.fs (layers2 u l idu idl)).openFile (renderC cs) (w.setLeafFiles u mu')
        = (.err .fileNotFound none, w.setLeafFiles u mu') :=
  removed_file_absent_ofN h cs hne hcs hres

theorem removed_dir_absent (cs : List Str) (hne : cs ≠ []) (hcs : ∀ c ∈ cs, GoodComp c)
    (hwo : ∀ e, mu.find? (woDirOf (renderC cs)) = some e → e.ftype = .dir)
    (hres : ((Overlay.fs (layers2 u l idu idl)).removeDir (renderC cs) w).1 = .ok ()) :
    ∃ mu', (Overlay.fs (layers2 u l idu idl)).removeDir (renderC cs) w
        = (.ok (), w.setLeafFiles u mu') ∧
      OW (w.setLeafFiles u mu') u l mu' ml ∧
      view mu' ml (renderC cs) = none ∧
      (Overlay.fs (layers2 u l idu idl)).exists_ (renderC cs) (w.setLeafFiles u mu')
        = (.ok false, w.setLeafFiles u mu') :=
  removed_dir_absent_ofN h cs hne hcs hwo hres

omit h in
theorem removed_stays_absent_frame (mu' ml' : FMap) (p : Str)
    (hkeep : mu'.contains (marker p) = true) : view mu' ml' p = none :=
  removed_stays_absent_frame_ofN mu' ml' p hkeep

theorem marker_survives_createDir (p : Str) (hm : mu.contains (marker p) = true)
    (cs : List Str) (hne : cs ≠ []) (hcs : ∀ c ∈ cs, GoodComp c) (hq : renderC cs ≠ p) :
    ∃ r mu', (Overlay.fs (layers2 u l idu idl)).createDir (renderC cs) w
        = (r, w.setLeafFiles u mu') ∧ OW (w.setLeafFiles u mu') u l mu' ml ∧
      mu'.contains (marker p) = true := by
  obtain ⟨r, mu', hrun, h', hk⟩ := marker_survives_createDirN (h.toN idu idl) p hm cs hne hcs hq
  exact ⟨r, mu', hrun, h'.toOW, hk⟩

theorem marker_survives_createFile (p : Str) (hm : mu.contains (marker p) = true)
    (cs : List Str) (hne : cs ≠ []) (hcs : ∀ c ∈ cs, GoodComp c) (hq : renderC cs ≠ p) :
    ∃ r mu', (Overlay.fs (layers2 u l idu idl)).createFile (renderC cs) w
        = (r, w.setLeafFiles u mu') ∧ OW (w.setLeafFiles u mu') u l mu' ml ∧
      mu'.contains (marker p) = true := by
  obtain ⟨r, mu', hrun, h', hk⟩ := marker_survives_createFileN (h.toN idu idl) p hm cs hne hcs hq
  exact ⟨r, mu', hrun, h'.toOW, hk⟩

theorem marker_survives_removeFile (p : Str) (hm : mu.contains (marker p) = true)
    (cs : List Str) (hne : cs ≠ []) (hcs : ∀ c ∈ cs, GoodComp c)
    (hq : renderC cs ≠ marker p) :
    ∃ r mu', (Overlay.fs (layers2 u l idu idl)).removeFile (renderC cs) w
        = (r, w.setLeafFiles u mu') ∧ OW (w.setLeafFiles u mu') u l mu' ml ∧
      mu'.contains (marker p) = true := by
  obtain ⟨r, mu', hrun, h', hk⟩ := marker_survives_removeFileN (h.toN idu idl) p hm cs hne hcs hq
  exact ⟨r, mu', hrun, h'.toOW, hk⟩

theorem marker_survives_removeDir (p : Str) (hm : mu.contains (marker p) = true)
    (cs : List Str) (hne : cs ≠ []) (hcs : ∀ c ∈ cs, GoodComp c)
    (hwo : ∀ e, mu.find? (woDirOf (renderC cs)) = some e → e.ftype = .dir)
    (hq : renderC cs ≠ marker p) :
    ∃ r mu', (Overlay.fs (layers2 u l idu idl)).removeDir (renderC cs) w
        = (r, w.setLeafFiles u mu') ∧ OW (w.setLeafFiles u mu') u l mu' ml ∧
      mu'.contains (marker p) = true := by
  obtain ⟨r, mu', hrun, h', hk⟩ := marker_survives_removeDirN (h.toN idu idl) p hm cs hne hcs hq
  exact ⟨r, mu', hrun, h'.toOW, hk⟩

theorem marker_survives_write_session (p : Str) (hm : mu.contains (marker p) = true)
    (key : Str) (buf : Bytes) (pos : Nat) (bs : Bytes) :
    ∃ mu', WHandle.writeAllAndDrop
        { leaf := u, key := key, kind := .memFile, buf := buf, pos := pos } bs w
        = (.ok (), w.setLeafFiles u mu') ∧ OW (w.setLeafFiles u mu') u l mu' ml ∧
      mu'.contains (marker p) = true :=
  ⟨_, run_writeAllAndDrop h.hu key buf pos bs, h.setU _, memPublish_keeps _ _ hm⟩

theorem marker_survives_openFile (p : Str) (hm : mu.contains (marker p) = true)
    (cs : List Str) (hne : cs ≠ []) (hcs : ∀ c ∈ cs, GoodComp c) :
    ∃ r w' mu' ml', (Overlay.fs (layers2 u l idu idl)).openFile (renderC cs) w = (r, w') ∧
      OW w' u l mu' ml' ∧ mu'.contains (marker p) = true := by
  obtain ⟨r, w', mu', ms', hrun, h', hk⟩ :=
    marker_survives_openFileN (h.toN idu idl) p hm cs hne hcs
  obtain ⟨ml', rfl⟩ := h'.lower_single
  exact ⟨r, w', mu', ml', hrun, h'.toOW, hk⟩

/-- **removed stays absent**: e.g. after any `create_dir(q)`, `q ≠ p`, the removed path `p` is
still absent from the view and `exists(p)` is still false -/
theorem removed_stays_absent (ps : List Str) (hpne : ps ≠ []) (hps : ∀ c ∈ ps, GoodComp c)
    (hm : mu.contains (marker (renderC ps)) = true)
    (cs : List Str) (hne : cs ≠ []) (hcs : ∀ c ∈ cs, GoodComp c) (hq : renderC cs ≠ renderC ps) :
    ∃ r mu', (Overlay.fs (layers2 u l idu idl)).createDir (renderC cs) w
        = (r, w.setLeafFiles u mu') ∧
      view mu' ml (renderC ps) = none ∧
      (Overlay.fs (layers2 u l idu idl)).exists_ (renderC ps) (w.setLeafFiles u mu')
        = (.ok false, w.setLeafFiles u mu') :=
  removed_stays_absent_ofN h ps hpne hps hm cs hne hcs hq

/-- **a re-created file holds only the newly written bytes.** `p` is marked as deleted (its
marker is a file of the upper layer, the upper layer has nothing at `p`; the lower layer may
still hold the old file): one write session `create_file(p)?.write_all(bs)` succeeds, removes
the marker, and afterwards the view serves `p` as a file with content exactly `bs`. -/
theorem recreated_file_fresh (ds : List Str) (n : Str) (hds : ∀ c ∈ ds, GoodComp c)
    (hn : GoodComp n) (hroot : RootOk mu) (hanc : AncDirs mu ml ds)
    (hhead : ds.head? ≠ some woDir) (em : Entry) (bs : Bytes)
    (hmk : mu.find? (marker (renderC (ds ++ [n]))) = some em) (hmf : em.ftype = .file)
    (hup : mu.find? (renderC (ds ++ [n])) = none) :
    ∃ w' mu' e',
      (do let hd ← (Overlay.fs (layers2 u l idu idl)).createFile (renderC (ds ++ [n]))
          hd.writeAllAndDrop bs : M Unit) w = (.ok (), w') ∧
      OW w' u l mu' ml ∧ mu'.contains (marker (renderC (ds ++ [n]))) = false ∧
      view mu' ml (renderC (ds ++ [n])) = some e' ∧ e'.ftype = .file ∧ e'.content = bs :=
  recreated_file_fresh_ofN h ds n hds hn hroot hanc em bs hmk hmf hup

/-- **remove, then re-create: only the new bytes.** `p` is a file of the view (in either layer).
`remove_file(p)` succeeds; a following write session `create_file(p)?.write_all(bs)` succeeds;
afterwards the marker is gone and the view serves `p` as a file holding exactly `bs` — nothing of
the old content, although the lower layer still has the old file. -/
theorem remove_then_recreate_fresh (ds : List Str) (n : Str) (hds : ∀ c ∈ ds, GoodComp c)
    (hn : GoodComp n) (hroot : RootOk mu) (hanc : AncDirs mu ml ds)
    (hhead : (ds ++ [n]).head? ≠ some woDir) (hsuf : ds.head? ≠ some woSuffix)
    (hwoarea : ∀ k ∈ chain [] (woDir :: ds), ∀ e, mu.find? k = some e → e.ftype = .dir)
    (e : Entry) (hv : view mu ml (renderC (ds ++ [n])) = some e) (hfile : e.ftype = .file)
    (bs : Bytes) :
    ∃ w1 w2 mu2 e',
      (Overlay.fs (layers2 u l idu idl)).removeFile (renderC (ds ++ [n])) w = (.ok (), w1) ∧
      (do let hd ← (Overlay.fs (layers2 u l idu idl)).createFile (renderC (ds ++ [n]))
          hd.writeAllAndDrop bs : M Unit) w1 = (.ok (), w2) ∧
      OW w2 u l mu2 ml ∧ mu2.contains (marker (renderC (ds ++ [n]))) = false ∧
      view mu2 ml (renderC (ds ++ [n])) = some e' ∧ e'.ftype = .file ∧ e'.content = bs :=
  remove_then_recreate_fresh_ofN h ds n hds hn hroot hanc hhead hsuf hwoarea e hv hfile bs

/-- **a re-created directory is empty.** `p` is marked as deleted, the upper layer has nothing at
or below `p`, and every child of `p` that the lower layer still holds is marked as deleted too
(it was removed through the overlay before `p` was): `create_dir(p)` succeeds, `p` is again a
directory of the view, and `read_dir(p)` is empty. -/
theorem recreated_dir_empty (ds : List Str) (n : Str) (hds : ∀ c ∈ ds, GoodComp c)
    (hn : GoodComp n) (hroot : RootOk mu) (hanc : AncDirs mu ml ds)
    (hhead : (ds ++ [n]).head? ≠ some woDir) (em : Entry)
    (hmk : mu.find? (marker (renderC (ds ++ [n]))) = some em) (hmf : em.ftype = .file)
    (hup : mu.find? (renderC (ds ++ [n])) = none)
    (hupc : ∀ x, '/' ∉ x → mu.find? (renderC (ds ++ [n]) ++ '/' :: x) = none)
    (hlowc : ∀ x, '/' ∉ x → ml.contains (renderC (ds ++ [n]) ++ '/' :: x) = true →
      mu.contains (marker (renderC (ds ++ [n]) ++ '/' :: x)) = true)
    (hwfl : WF ml) (hwf : WF mu)
    (hwo : ∀ e, mu.find? (woDirOf (renderC (ds ++ [n]))) = some e → e.ftype = .dir) :
    ∃ mu', (Overlay.fs (layers2 u l idu idl)).createDir (renderC (ds ++ [n])) w
        = (.ok (), w.setLeafFiles u mu') ∧
      OW (w.setLeafFiles u mu') u l mu' ml ∧
      view mu' ml (renderC (ds ++ [n])) = some dirEntryNow ∧
      (Overlay.fs (layers2 u l idu idl)).readDir (renderC (ds ++ [n])) (w.setLeafFiles u mu')
        = (.ok [], w.setLeafFiles u mu') :=
  recreated_dir_empty_ofN h ds n hds hn hroot hanc hhead em hmk hmf hup hupc hlowc hwfl hwf hwo

/-- **markers are invisible in listings.** Whatever `read_dir` returns: at the root it never
contains ".whiteout"; and in any directory a listed name is never a name whose marker exists
(so nothing that was removed through the overlay is listed). -/
theorem markers_invisible (cs : List Str) (hcs : ∀ c ∈ cs, GoodComp c)
    (hwf : WF mu) (hwfl : WF ml)
    (hwo : ∀ e, mu.find? (woDirOf (renderC cs)) = some e → e.ftype = .dir)
    (lst : List Str) (w' : World)
    (hres : (Overlay.fs (layers2 u l idu idl)).readDir (renderC cs) w = (.ok lst, w')) :
    (renderC cs = [] → woDir ∉ lst) ∧
    (∀ x ∈ lst, mu.contains (marker (renderC cs ++ '/' :: x)) = false) :=
  markers_invisible_ofN h cs hcs hwf hwfl hwo lst w' hres

end setting

/-! The concrete world of Props/C09.lean: lower layer { "/d" directory, "/d/x" file with the byte
'L' }, upper layer empty. -/

section concrete
open Vfs.C09

def upRemoved : FMap :=
  [("/.whiteout/d/x_wo".toList, fileEntryNow), ("/.whiteout/d".toList, dirEntryNow),
   ("/.whiteout".toList, dirEntryNow)] ++ Mem.init

/-- the world after `remove_file("/d/x")` (intermediate worlds are written out; each step is
evaluated once, as an equation `…_run` of Proofs/RunEq.lean's kind, and read off it) -/
def wRemoved : World :=
  { leaves := [{ kind := .mem, files := upRemoved }, { kind := .mem, files := exLower }] }

/-! As in Props/C09N.lean the evaluations run on twins of the worlds whose keys are character
lists: the kernel then decodes no string literal of a world. A world and its twin differ in their
leaves only, and those are compared by evaluation, once. -/

def world2 (a b : FMap) : World :=
  { leaves := [{ kind := .mem, files := a }, { kind := .mem, files := b }] }
def kLower : FMap := [(pD ++ ['/', 'x'], fileL), (pD, dirEntryNow), ([], dirEntryNow)]
def kRemoved : FMap :=
  [(marker (pD ++ ['/', 'x']), fileEntryNow), (woDirOf pD, dirEntryNow), (woDirOf [], dirEntryNow)]
    ++ Mem.init
theorem w0_eq : w0 = world2 exUpper kLower :=
  congrArg (fun l => ({ leaves := l } : World)) (by decide +kernel : w0.leaves = _)
theorem wRemoved_eq : wRemoved = world2 kRemoved kLower :=
  congrArg (fun l => ({ leaves := l } : World)) (by decide +kernel : wRemoved.leaves = _)

theorem wRemoved_run : ofs.removeFile "/d/x".toList w0 = (.ok (), wRemoved) := by
  rw [w0_eq, wRemoved_eq]; exact run_eq_of_fields (by decide +kernel)
example : (ofs.removeFile "/d/x".toList w0).1 = .ok () := by rw [wRemoved_run]
theorem wRemoved_is : (ofs.removeFile "/d/x".toList w0).2.leaves = wRemoved.leaves := by
  rw [wRemoved_run]

example : OW wRemoved 0 1 upRemoved exLower := ⟨rfl, rfl, by decide⟩
example : (ofs.exists_ "/d/x".toList wRemoved).1 = .ok false := by
  rw [wRemoved_eq]; decide +kernel
example : viewOf wRemoved "/d/x" = none := by
  rw [wRemoved_eq]; decide +kernel
example : (ofs.metadata "/d/x".toList wRemoved).1 = .err .fileNotFound none := by
  rw [wRemoved_eq]; decide +kernel
example : readAll ofs "/d/x" wRemoved = .err .fileNotFound none := by
  rw [wRemoved_eq]; decide +kernel
example : (ofs.readDir "/d".toList wRemoved).1 = .ok [] := by
  rw [wRemoved_eq]; decide +kernel
example : upRemoved.contains "/.whiteout".toList = true := by decide +kernel
example : (ofs.readDir [] wRemoved).1 = .ok ["d".toList] := by
  rw [wRemoved_eq]; decide +kernel
example : (ofs.createDir "/e".toList wRemoved).1 = .ok () := by
  rw [wRemoved_eq]; decide +kernel
example : viewOf (ofs.createDir "/e".toList wRemoved).2 "/d/x" = none := by
  rw [wRemoved_eq]; decide +kernel

def wRecreated : World :=
  { leaves := [{ kind := .mem, files :=
      [("/d/x".toList, { fileEntryNow with content := [85] }), ("/d".toList, dirEntryNow),
       ("/.whiteout/d".toList, dirEntryNow), ("/.whiteout".toList, dirEntryNow)] ++ Mem.init },
    { kind := .mem, files := exLower }] }
theorem wRecreated_eq : wRecreated = world2
    ([(pD ++ ['/', 'x'], { fileEntryNow with content := [85] }), (pD, dirEntryNow),
      (woDirOf pD, dirEntryNow), (woDirOf [], dirEntryNow)] ++ Mem.init) kLower :=
  congrArg (fun l => ({ leaves := l } : World)) (by decide +kernel : wRecreated.leaves = _)

theorem wRecreated_run :
    (do let hd ← ofs.createFile "/d/x".toList; hd.writeAllAndDrop [85] : M Unit) wRemoved
      = (.ok (), wRecreated) := by
  rw [wRemoved_eq, wRecreated_eq]; exact run_eq_of_fields (by decide +kernel)
example : ((do let hd ← ofs.createFile "/d/x".toList; hd.writeAllAndDrop [85] : M Unit)
    wRemoved).1 = .ok () := by
  rw [wRecreated_run]
theorem wRecreated_is :
    ((do let hd ← ofs.createFile "/d/x".toList; hd.writeAllAndDrop [85] : M Unit) wRemoved).2.leaves
      = wRecreated.leaves := by
  rw [wRecreated_run]
example : readAll ofs "/d/x" wRecreated = .ok [85] := by
  rw [wRecreated_eq]; decide +kernel
example : (ofs.readDir "/d".toList wRecreated).1 = .ok ["x".toList] := by
  rw [wRecreated_eq]; decide +kernel
example : (mapsOf wRecreated).1.contains (marker "/d/x".toList) = false := by
  rw [wRecreated_eq]; decide +kernel

def wDirRemoved : World :=
  { leaves := [{ kind := .mem, files := ("/.whiteout/d_wo".toList, fileEntryNow) :: upRemoved },
    { kind := .mem, files := exLower }] }
theorem wDirRemoved_eq : wDirRemoved = world2 ((marker pD, fileEntryNow) :: kRemoved) kLower :=
  congrArg (fun l => ({ leaves := l } : World)) (by decide +kernel : wDirRemoved.leaves = _)

theorem wDirRemoved_run : ofs.removeDir "/d".toList wRemoved = (.ok (), wDirRemoved) := by
  rw [wRemoved_eq, wDirRemoved_eq]; exact run_eq_of_fields (by decide +kernel)
example : (ofs.removeDir "/d".toList wRemoved).1 = .ok () := by rw [wDirRemoved_run]
theorem wDirRemoved_is : (ofs.removeDir "/d".toList wRemoved).2.leaves = wDirRemoved.leaves := by
  rw [wDirRemoved_run]
example : (ofs.exists_ "/d".toList wDirRemoved).1 = .ok false := by
  rw [wDirRemoved_eq]; decide +kernel
example : (ofs.exists_ "/d/x".toList wDirRemoved).1 = .ok false := by
  rw [wDirRemoved_eq]; decide +kernel
example : (ofs.readDir [] wDirRemoved).1 = .ok [] := by
  rw [wDirRemoved_eq]; decide +kernel

def wDirRecreated : World :=
  { leaves := [{ kind := .mem, files := ("/d".toList, dirEntryNow) :: upRemoved },
    { kind := .mem, files := exLower }] }
theorem wDirRecreated_eq : wDirRecreated = world2 ((pD, dirEntryNow) :: kRemoved) kLower :=
  congrArg (fun l => ({ leaves := l } : World)) (by decide +kernel : wDirRecreated.leaves = _)

theorem wDirRecreated_run : ofs.createDir "/d".toList wDirRemoved = (.ok (), wDirRecreated) := by
  rw [wDirRemoved_eq, wDirRecreated_eq]; exact run_eq_of_fields (by decide +kernel)
example : (ofs.createDir "/d".toList wDirRemoved).1 = .ok () := by rw [wDirRecreated_run]
theorem wDirRecreated_is :
    (ofs.createDir "/d".toList wDirRemoved).2.leaves = wDirRecreated.leaves := by
  rw [wDirRecreated_run]
example : (ofs.exists_ "/d".toList wDirRecreated).1 = .ok true := by
  rw [wDirRecreated_eq]; decide +kernel
example : (ofs.readDir "/d".toList wDirRecreated).1 = .ok [] := by
  rw [wDirRecreated_eq]; decide +kernel
example : (ofs.exists_ "/d/x".toList wDirRecreated).1 = .ok false := by
  rw [wDirRecreated_eq]; decide +kernel

/-- the world after `remove_file("/d")` — a DIRECTORY of the lower layer -/
def wOrphan : World :=
  { leaves := [{ kind := .mem, files :=
      [("/.whiteout/d_wo".toList, fileEntryNow), ("/.whiteout".toList, dirEntryNow)] ++ Mem.init },
    { kind := .mem, files := exLower }] }
theorem wOrphan_eq : wOrphan = world2
    ([(marker pD, fileEntryNow), (woDirOf [], dirEntryNow)] ++ Mem.init) kLower :=
  congrArg (fun l => ({ leaves := l } : World)) (by decide +kernel : wOrphan.leaves = _)

/-- **OPEN known finding, as a proved fact.** `remove_file` applied to a DIRECTORY that exists in
the lower layer succeeds (the overlay never checks the type): afterwards the directory is absent
from the view but its child is still visible — a child without its parent. The Rust code does
exactly this. -/
theorem remove_file_on_lower_dir_orphans :
    (ofs.removeFile "/d".toList w0).1 = .ok () ∧
    (ofs.removeFile "/d".toList w0).2.leaves = wOrphan.leaves ∧
    viewOf wOrphan "/d" = none ∧ viewOf wOrphan "/d/x" ≠ none ∧
    (ofs.exists_ "/d".toList wOrphan).1 = .ok false ∧
    (ofs.exists_ "/d/x".toList wOrphan).1 = .ok true ∧
    readAll ofs "/d/x" wOrphan = .ok [76] := by
  rw [w0_eq, wOrphan_eq]; decide +kernel

/-- names of the form `x_wo` are reserved, not hidden: a layer that really holds "/d/y_wo" gets it
listed (this is why `markers_invisible` speaks of markers, not of names) -/
def wWoName : World :=
  { leaves := [{ kind := .mem, files := exUpper },
               { kind := .mem, files := ("/d/y_wo".toList, fileL) :: exLower }] }

theorem wo_names_can_appear :
    (ofs.readDir "/d".toList wWoName).1 = .ok ["y_wo".toList, "x".toList] := by decide +kernel

end concrete

end Vfs.C10
