/-
  C11 THROUGH AN OVERLAY — `copy_dir` / `move_dir` of a FLAT directory within one overlay over
  n ≥ 1 in-memory layers (setting and vocabulary: Props/C11Overlay.lean).

  `overlay_copyDir_flat_exact`: source `ss` a directory of the view all of whose present children
  are FILES of the view (this includes the empty directory); destination `dd ++ [n0]` absent below
  a directory of the view, and not a child of the source (`dd ≠ ss`: otherwise the new directory
  would be walked too — the divergence documented in Props/C11.lean); name discipline `NamesOK`;
  more fuel than the source has children ⇒ Ok with the NUMBER OF CHILDREN as count; lower maps
  unchanged up to the access stamps of the copied files (`LowerSame`).
  `overlay_moveDir_flat_exact`: same hypotheses ⇒ `move_dir` (generic route: the overlay's
  `move_dir` answers NotSupported; copy phase, then `remove_dir_all` of the source with the same
  fuel) returns Ok and leaves NO TRACE of the source: `src` and every disciplined path at or below
  it (`InSub ss`) is absent from the view. (The fuel hypothesis "more fuel than children" also
  covers the removal phase: a flat directory has depth ≤ 1.)
  `overlay_copyDir_refused`: an existing destination is refused by `copy_dir` and `move_dir`,
  nothing changes.
  Both are read off the theorems for trees of any depth (Props/C11OverlayWithin.lean): the
  descendants of a flat directory are its listed children (`flat_desc`), and a destination that is
  not the source's child is not inside it (`flat_not_inside`).
  NOT PROVED here: a destination inside the source (excluded by `dd ≠ ss` + flatness: the known
  divergence).
-/
import VfsModel.Props.C11OverlayWithin
import VfsModel.Proofs.RunEq
import VfsModel.Props.C05WalkView
namespace Vfs.C11
open Vfs Vfs.Overlay Vfs.C02 Vfs.C01 Vfs.C09 Vfs.C05 Vfs.Wk

theorem walkNext_nil (w : World) : VPath.walkNext ⟨[], []⟩ w = (.ok (none, ⟨[], []⟩), w) := rfl

section flat
variable {w : World} {u idu : Nat} {mu : FMap} {is ids : List Nat} {ms : List FMap}
  (h : OWN w (u :: is) (idu :: ids) (mu :: ms)) (inv : OInv mu ms)
  (hv : ViewWF (oview (mu :: ms))) (id id' : Nat)

/-- below a flat directory only its children are present -/
theorem flat_child {v : View} (hv : ViewWF v) {ss ts : List Str}
    (hflat : ∀ x, '/' ∉ x → v (renderC ss ++ '/' :: x) ≠ none → VIsFile v (renderC ss ++ '/' :: x))
    (hts : ts ≠ []) (hp : OpPath (ss ++ ts)) (hpres : v (renderC (ss ++ ts)) ≠ none) :
    ∃ x, ts = [x] := by
  match ts, hts with
  | [x], _ => exact ⟨x, rfl⟩
  | x :: y :: r, _ =>
    exfalso
    have hp' : OpPath ((ss ++ [x]) ++ (y :: r)) := by rw [List.append_assoc]; exact hp
    have hdir : VIsDir v (renderC (ss ++ [x])) :=
      present_below_dir hv (by simp) (y :: r) (by simp) hp' (by rw [List.append_assoc]; exact hpres)
    have hpx : OpPath (ss ++ [x]) := hp'.prefix (by simp)
    have hfile := hflat x hpx.hn.noSlash (by rw [← renderC_snoc]; exact not_absent_of_dir hdir)
    rw [← renderC_snoc] at hfile
    exact not_file_and_dir hfile hdir

include h inv hv in
/-- the descendants of a flat directory of the view are its listed children -/
theorem flat_desc (hn : NamesOK (mu :: ms)) {ss : List Str} (hs : OpPath ss)
    (hflat : ∀ x, '/' ∉ x → oview (mu :: ms) (renderC ss ++ '/' :: x) ≠ none →
      VIsFile (oview (mu :: ms)) (renderC ss ++ '/' :: x)) :
    (∀ x ∈ pListingN (mu :: ms) (renderC ss), OpPath (ss ++ [x])) ∧
    DescList (ovisView (mu :: ms)) (renderC ss)
      ((pListingN (mu :: ms) (renderC ss)).map fun x => renderC ss ++ '/' :: x) := by
  have st : OSt u idu is ids ms w mu := ⟨h, inv, hv⟩
  have hmem := o_listing_mem st hs
  have hop : ∀ x ∈ pListingN (mu :: ms) (renderC ss), OpPath (ss ++ [x]) := by
    intro x hx
    obtain ⟨hxs, hpres⟩ := (hmem x).1 hx
    rw [oview_ne (by simp)] at hpres
    obtain ⟨hg, hw⟩ := hn ss x (Or.inr hs) hxs hpres (fun h0 => absurd h0 hs.ne)
    exact hs.child hg hw
  refine ⟨hop, ?_, fun k => ?_⟩
  · have := nodup_pListingN (mu :: ms) (renderC ss)
    unfold List.Nodup at *
    rw [List.pairwise_map]
    exact this.imp fun hab heq => hab (by simpa using List.append_cancel_left heq)
  · rw [List.mem_map]
    constructor
    · rintro ⟨x, hx, rfl⟩
      refine ⟨ovisView_ne_none_iff.2 ⟨Or.inr ⟨_, hop x hx, (renderC_snoc ss x).symm⟩,
        ((hmem x).1 hx).2⟩, below_child _ _⟩
    · rintro ⟨hpres, hb⟩
      obtain ⟨hov, hpres'⟩ := ovisView_ne_none_iff.1 hpres
      obtain ⟨ts, hpt, rfl⟩ := (inSub_iff hs k).2 ⟨hov, within_of_below hb⟩
      have hts : ts ≠ [] := by
        rintro rfl
        rw [List.append_nil, below_irrefl] at hb; cases hb
      obtain ⟨x, rfl⟩ := flat_child hv hflat hts hpt hpres'
      refine ⟨x, (hmem x).2 ⟨hpt.hn.noSlash, by rw [← renderC_snoc]; exact hpres'⟩,
        (renderC_snoc ss x).symm⟩

include hv in
/-- a destination below a directory of the view other than the flat source is not inside it -/
theorem flat_not_inside {ss dd : List Str} {n0 : Str} (hd : OpPath (dd ++ [n0]))
    (hsd : dd ≠ ss) (hsrc : VIsDir (oview (mu :: ms)) (renderC ss))
    (hflat : ∀ x, '/' ∉ x → oview (mu :: ms) (renderC ss ++ '/' :: x) ≠ none →
      VIsFile (oview (mu :: ms)) (renderC ss ++ '/' :: x))
    (hpar : VIsDir (oview (mu :: ms)) (renderC dd))
    (habs : VAbsent (oview (mu :: ms)) (renderC (dd ++ [n0]))) :
    ¬ InSub ss (renderC (dd ++ [n0])) := by
  rintro ⟨ts, hpt, h0⟩
  have heq := C06.renderC_injective _ _ (good_noSlash hd.good) (good_noSlash hpt.good) h0
  rcases List.eq_nil_or_concat ts with rfl | ⟨ts0, t, rfl⟩
  · rw [List.append_nil] at heq
    rw [← heq] at hsrc
    exact not_absent_of_dir hsrc habs
  · rw [List.concat_eq_append, ← List.append_assoc] at heq
    have hdd : dd = ss ++ ts0 := (List.append_inj' heq rfl).1
    by_cases hts0 : ts0 = []
    · exact hsd (by rw [hdd, hts0, List.append_nil])
    · have hp0 : OpPath (ss ++ ts0) := by
        rw [List.concat_eq_append, ← List.append_assoc] at hpt
        exact hpt.prefix (by simp [hts0])
      obtain ⟨x, rfl⟩ := flat_child hv hflat hts0 hp0 (by rw [← hdd]; exact not_absent_of_dir hpar)
      have hfile := hflat x hp0.hn.noSlash
        (by rw [← renderC_snoc, ← hdd]; exact not_absent_of_dir hpar)
      rw [← renderC_snoc, ← hdd] at hfile
      exact not_file_and_dir hfile hpar

include hv in
/-- more fuel than children is enough for the removal: a flat directory has depth ≤ 1 -/
theorem flat_fuelOK {ss : List Str}
    (hflat : ∀ x, '/' ∉ x → oview (mu :: ms) (renderC ss ++ '/' :: x) ≠ none →
      VIsFile (oview (mu :: ms)) (renderC ss ++ '/' :: x)) {fuel : Nat}
    (hlist : ∀ x, '/' ∉ x → oview (mu :: ms) (renderC ss ++ '/' :: x) ≠ none → 1 < fuel)
    (h0 : 0 < fuel) : FuelOK (oview (mu :: ms)) ss fuel := by
  intro ts hpt hpres
  by_cases hts : ts = []
  · subst hts; exact h0
  · obtain ⟨x, rfl⟩ := flat_child hv hflat hts hpt hpres
    exact hlist x hpt.hn.noSlash (by rw [← renderC_snoc]; exact hpres)

include h inv hv in
/-- what the copy of the tree says about a flat source, child by child and for the frame:
`hcopy` is the clause "below the destination: what the view showed below the source" -/
theorem flat_read {ss dd : List Str} {n0 : Str} (hs : OpPath ss) (hd : OpPath (dd ++ [n0]))
    (hflat : ∀ x, '/' ∉ x → oview (mu :: ms) (renderC ss ++ '/' :: x) ≠ none →
      VIsFile (oview (mu :: ms)) (renderC ss ++ '/' :: x))
    (habs : VAbsent (oview (mu :: ms)) (renderC (dd ++ [n0])))
    (hop : ∀ x ∈ pListingN (mu :: ms) (renderC ss), OpPath (ss ++ [x])) {v' : View}
    (hcopy : ∀ ts, ts ≠ [] → OpPath (dd ++ [n0] ++ ts) →
      (v' (renderC (dd ++ [n0] ++ ts))).map vcore
        = (ovisView (mu :: ms) (renderC (ss ++ ts))).map vcore) :
    (∀ x ∈ pListingN (mu :: ms) (renderC ss), ∃ bs,
      VHasFile (oview (mu :: ms)) (renderC (ss ++ [x])) bs ∧
      VHasFile v' (renderC (dd ++ [n0] ++ [x])) bs) ∧
    ∀ q, InSub (dd ++ [n0]) q → q ≠ renderC (dd ++ [n0]) →
      (∀ x ∈ pListingN (mu :: ms) (renderC ss), q ≠ renderC (dd ++ [n0] ++ [x])) →
      (v' q).map vcore = (oview (mu :: ms) q).map vcore := by
  have hmem := o_listing_mem ⟨h, inv, hv⟩ hs
  refine ⟨fun x hx => ?_, ?_⟩
  · have hpx := hop x hx
    obtain ⟨e, he, hf⟩ := hflat x hpx.hn.noSlash ((hmem x).1 hx).2
    rw [← renderC_snoc] at he
    have hc := hcopy [x] (by simp) (hd.child hpx.hn (hpx.nowo x (by simp)))
    rw [ovisView_of_vis (Or.inr ⟨_, hpx, rfl⟩)] at hc
    obtain ⟨e', he', hv'⟩ := vcore_some hc he
    exact ⟨e.content, ⟨e, he, hf, rfl⟩, e', he', (ftype_of_vcore hv').trans hf,
      content_of_vcore hv' hf⟩
  · rintro q ⟨ts, hpt, rfl⟩ hq1 hq2
    have hts : ts ≠ [] := by rintro rfl; exact hq1 (by rw [List.append_nil])
    rw [hcopy ts hts hpt, absent_below_nondir hv (cs := dd ++ [n0]) (by simp)
      (fun hdd => not_absent_of_dir hdd habs) hts hpt]
    cases hq : ovisView (mu :: ms) (renderC (ss ++ ts)) with
    | none => rfl
    | some e =>
      exfalso
      obtain ⟨_, he⟩ := ovisView_some hq
      have hps : OpPath (ss ++ ts) := opPath_swap hs hpt
      obtain ⟨x, rfl⟩ := flat_child hv hflat hts hps (by rw [he]; simp)
      exact hq2 x ((hmem x).2 ⟨hps.hn.noSlash, by rw [← renderC_snoc, he]; simp⟩) rfl

end flat

section copyDir
variable {w : World} {u idu : Nat} {mu : FMap} {is ids : List Nat} {ms : List FMap}
  (h : OWN w (u :: is) (idu :: ids) (mu :: ms)) (inv : OInv mu ms)
  (hv : ViewWF (oview (mu :: ms))) (id id' : Nat)
include h

theorem overlay_copyDir_refused (s : Str) (fuel : Nat) {cs : List Str} (hp : OpPath cs)
    (hpres : oview (mu :: ms) (renderC cs) ≠ none) :
    VPath.copyDir fuel ⟨Overlay.fs (layersN (u :: is) (idu :: ids)), id, s⟩
        ⟨Overlay.fs (layersN (u :: is) (idu :: ids)), id', renderC cs⟩ w
      = (.err .other (some s), w) ∧
    VPath.moveDir fuel ⟨Overlay.fs (layersN (u :: is) (idu :: ids)), id, s⟩
        ⟨Overlay.fs (layersN (u :: is) (idu :: ids)), id', renderC cs⟩ w
      = (.err .other (some s), w) := by
  obtain ⟨e, he⟩ := (C05.ne_none_iff _).1 hpres
  have hex := h.vexists id' hp
  rw [he] at hex
  exact ⟨VPath.guarded_refused _ _ _ _ w hex, VPath.guarded_refused _ _ _ _ w hex⟩

include inv hv

/-- **copy_dir of a flat directory within one overlay.** Source `ss` a directory of the view
whose present children are all files; destination `dd ++ [n0]` absent, below a directory of the
view, not a child of the source; name discipline; more fuel than children. Then: Ok with the
number of children as count (the length of the merged listing of the source); the destination is
a directory of the view; each `dst/x` holds exactly the bytes of `src/x`, which is untouched;
every visible path other than `dst` and the `dst/x` keeps its type and bytes; lower maps
unchanged up to access stamps; invariants again. -/
theorem overlay_copyDir_flat_exact (hn : NamesOK (mu :: ms)) {ss dd : List Str} {n0 : Str}
    (hs : OpPath ss) (hd : OpPath (dd ++ [n0])) (hsd : dd ≠ ss)
    (hsrc : VIsDir (oview (mu :: ms)) (renderC ss))
    (hflat : ∀ x, '/' ∉ x → oview (mu :: ms) (renderC ss ++ '/' :: x) ≠ none →
      VIsFile (oview (mu :: ms)) (renderC ss ++ '/' :: x))
    (hpar : VIsDir (oview (mu :: ms)) (renderC dd))
    (habs : VAbsent (oview (mu :: ms)) (renderC (dd ++ [n0]))) (fuel : Nat)
    (hfuel : (pListingN (mu :: ms) (renderC ss)).length < fuel) :
    ∃ w' mu' ms', VPath.copyDir fuel
        ⟨Overlay.fs (layersN (u :: is) (idu :: ids)), id, renderC ss⟩
        ⟨Overlay.fs (layersN (u :: is) (idu :: ids)), id', renderC (dd ++ [n0])⟩ w
        = (.ok (pListingN (mu :: ms) (renderC ss)).length, w') ∧
      OWN w' (u :: is) (idu :: ids) (mu' :: ms') ∧ LowerSame ms ms' ∧ OInv mu' ms' ∧
      ViewWF (oview (mu' :: ms')) ∧ NamesOK (mu' :: ms') ∧
      VIsDir (oview (mu' :: ms')) (renderC (dd ++ [n0])) ∧
      (∀ x ∈ pListingN (mu :: ms) (renderC ss), ∃ bs,
        VHasFile (oview (mu :: ms)) (renderC (ss ++ [x])) bs ∧
        VHasFile (oview (mu' :: ms')) (renderC (dd ++ [n0] ++ [x])) bs ∧
        VHasFile (oview (mu' :: ms')) (renderC (ss ++ [x])) bs) ∧
      (∀ q, Vis q → q ≠ renderC (dd ++ [n0]) →
        (∀ x ∈ pListingN (mu :: ms) (renderC ss), q ≠ renderC (dd ++ [n0] ++ [x])) →
        (oview (mu' :: ms') q).map vcore = (oview (mu :: ms) q).map vcore) := by
  obtain ⟨hop, hD⟩ := flat_desc h inv hv hn hs hflat
  have hnin := flat_not_inside hv hd hsd hsrc hflat hpar habs
  have hdisj := sub_disjoint hv hs hd hsrc habs hnin
  obtain ⟨w', mu', ms', hrun, st', hls', hn', hdir', hcopy, hframe⟩ :=
    copyDir_within_overlay_exact h inv hv hn id id' hs hd hsrc hpar habs hnin hD
      (by rw [List.length_map]; exact hfuel)
  rw [List.length_map] at hrun
  obtain ⟨hfiles, hinside⟩ := flat_read h inv hv hs hd hflat habs hop hcopy
  refine ⟨w', mu', ms', hrun, st'.own, hls', st'.inv, st'.vwf, hn', hdir', fun x hx => ?_,
    fun q hq hq1 hq2 => ?_⟩
  · obtain ⟨bs, h1, h2⟩ := hfiles x hx
    have hpx := hop x hx
    exact ⟨bs, h1, h2, (hasFile_of_vcore (hframe _ hpx.vis (hdisj _ ⟨[x], hpx, rfl⟩))).2 h1⟩
  · open Classical in
    by_cases hin : InSub (dd ++ [n0]) q
    · exact hinside q hin hq1 hq2
    · exact hframe q hq hin

/-- **move_dir of a flat directory within one overlay**: the copy phase of `copy_dir`, then
`remove_dir_all` of the source (same fuel). Same hypotheses as `overlay_copyDir_flat_exact`.
Then: Ok; the destination is a directory of the view; each `dst/x` holds exactly the bytes the
view showed at `src/x`; NO TRACE of the source: `src` and every disciplined path at or below it
is absent; every other visible path (not `dst`, not a `dst/x`) keeps its type and bytes; lower
maps unchanged up to access stamps; invariants again. -/
theorem overlay_moveDir_flat_exact (hn : NamesOK (mu :: ms)) {ss dd : List Str} {n0 : Str}
    (hs : OpPath ss) (hd : OpPath (dd ++ [n0])) (hsd : dd ≠ ss)
    (hsrc : VIsDir (oview (mu :: ms)) (renderC ss))
    (hflat : ∀ x, '/' ∉ x → oview (mu :: ms) (renderC ss ++ '/' :: x) ≠ none →
      VIsFile (oview (mu :: ms)) (renderC ss ++ '/' :: x))
    (hpar : VIsDir (oview (mu :: ms)) (renderC dd))
    (habs : VAbsent (oview (mu :: ms)) (renderC (dd ++ [n0]))) (fuel : Nat)
    (hfuel : (pListingN (mu :: ms) (renderC ss)).length < fuel) :
    ∃ w' mu' ms', VPath.moveDir fuel
        ⟨Overlay.fs (layersN (u :: is) (idu :: ids)), id, renderC ss⟩
        ⟨Overlay.fs (layersN (u :: is) (idu :: ids)), id', renderC (dd ++ [n0])⟩ w = (.ok (), w') ∧
      OWN w' (u :: is) (idu :: ids) (mu' :: ms') ∧ LowerSame ms ms' ∧ OInv mu' ms' ∧
      ViewWF (oview (mu' :: ms')) ∧ NamesOK (mu' :: ms') ∧
      VIsDir (oview (mu' :: ms')) (renderC (dd ++ [n0])) ∧
      (∀ x ∈ pListingN (mu :: ms) (renderC ss), ∃ bs,
        VHasFile (oview (mu :: ms)) (renderC (ss ++ [x])) bs ∧
        VHasFile (oview (mu' :: ms')) (renderC (dd ++ [n0] ++ [x])) bs) ∧
      (∀ q, InSub ss q → oview (mu' :: ms') q = none) ∧
      (∀ q, Vis q → q ≠ renderC (dd ++ [n0]) →
        (∀ x ∈ pListingN (mu :: ms) (renderC ss), q ≠ renderC (dd ++ [n0] ++ [x])) →
        ¬ InSub ss q → (oview (mu' :: ms') q).map vcore = (oview (mu :: ms) q).map vcore) := by
  obtain ⟨hop, hD⟩ := flat_desc h inv hv hn hs hflat
  have hnin := flat_not_inside hv hd hsd hsrc hflat hpar habs
  have hmem := o_listing_mem ⟨h, inv, hv⟩ hs
  obtain ⟨w', mu', ms', hrun, st', hls', hn', hdir', hcopy, hgone, hframe⟩ :=
    moveDir_within_overlay_exact h inv hv hn id id' hs hd hsrc hpar habs hnin hD
      (by rw [List.length_map]; exact hfuel)
      (flat_fuelOK hv hflat (fun x hxs hpres =>
          Nat.lt_of_le_of_lt (List.length_pos_of_mem ((hmem x).2 ⟨hxs, hpres⟩)) hfuel)
        (Nat.lt_of_le_of_lt (Nat.zero_le _) hfuel))
  obtain ⟨hfiles, hinside⟩ := flat_read h inv hv hs hd hflat habs hop hcopy
  refine ⟨w', mu', ms', hrun, st'.own, hls', st'.inv, st'.vwf, hn', hdir', hfiles, hgone,
    fun q hq hq1 hq2 hq3 => ?_⟩
  open Classical in
  by_cases hin : InSub (dd ++ [n0]) q
  · exact hinside q hin hq1 hq2
  · exact hframe q hq hin hq3

end copyDir

theorem flat_of_keys {all : List FMap} {p : Str}
    (hk : ∀ m ∈ all, ∀ k ∈ m.keys, parentInternal k = p →
      oview all k = none ∨ VIsFile (oview all) k) :
    ∀ x, '/' ∉ x → oview all (p ++ '/' :: x) ≠ none → VIsFile (oview all) (p ++ '/' :: x) := by
  intro x hx hpres
  have hpres' := hpres
  rw [oview_ne (by simp)] at hpres'
  obtain ⟨m, hm, hkm⟩ := C05.viewN_some_key hpres'
  rcases hk m hm _ hkm (beforeLast_append_delim '/' p x hx) with h0 | h0
  · exact absurd h0 hpres
  · exact h0

/-- `move_dir` with the structurally recursive `remove_dir_all` (kernel-evaluable) -/
theorem moveDir_eq_K (fuel : Nat) (src dst : VPath) :
    VPath.moveDir fuel src dst = M.withPath src.path (do
      if (← dst.exists_) then M.failAt .other dst.path
      else
        let fast ← (if src.fsId = dst.fsId then M.attempt (src.fs.moveDir src.path dst.path)
                    else pure (fail .notSupported))
        match fast with
        | .ok _ => pure ()
        | .panic => M.ret .panic
        | .err k p =>
          if k ≠ .notSupported then M.ret (.err k p)
          else
            dst.createDir
            let s ← src.walkDir
            let _ ← VPath.copyItems fuel src dst s 0
            rmAllK fuel src) :=
  (moveDirK_eq fuel src dst).symm

section example3

/-! The copy and the move of "/d", each evaluated once into a written-out world: the walk reorders
the lower layers (the access time is stamped by re-inserting the entry), the result lands in the
upper layer. -/
def xA' : FMap :=
  [(chars "/d/b", C09.fileOf [66]), (chars "/d/x", C09.fileOf [49]), (chars "/d", dirEntryNow), ([], dirEntryNow)]
def xB' : FMap :=
  [(chars "/d/c", C09.fileOf [67]), (chars "/d/x", C09.fileOf [50]), (chars "/d", dirEntryNow),
   (chars "/e/z", C09.fileOf [90]), (chars "/e", dirEntryNow), ([], dirEntryNow)]
def xArrived (top : String) : FMap :=
  [(chars (top ++ "/c"), C09.fileOf [67]), (chars (top ++ "/b"), C09.fileOf [66]), (chars (top ++ "/x"), C09.fileOf [49]),
   (chars top, dirEntryNow), (chars "/e", dirEntryNow), (chars "/top", C09.fileOf [84]), ([], dirEntryNow)]

theorem x_copy : VPath.copyDir 4 ⟨xfs, 5, "/d".toList⟩ ⟨xfs, 5, "/e/copy".toList⟩ xw =
    (.ok 3, C10.world3 xA' xB' (xArrived "/e/copy")) := run_eq_of_fields (by decide +kernel)

theorem x_move : VPath.moveDir 4 ⟨xfs, 5, "/d".toList⟩ ⟨xfs, 5, "/e/moved".toList⟩ xw =
    (.ok (), C10.world3 xA' xB'
      ([(chars "/.whiteout/d_wo", C09.fileOf []), (chars "/.whiteout/d/c_wo", C09.fileOf []),
        (chars "/.whiteout/d/x_wo", C09.fileOf []), (chars "/.whiteout/d/b_wo", C09.fileOf []),
        (chars "/.whiteout/d", dirEntryNow), (chars "/.whiteout", dirEntryNow)] ++ xArrived "/e/moved")) := by
  rw [moveDir_eq_K]; exact run_eq_of_fields (by decide +kernel)

/-- "/d" holds the files x (layers 1 and 2), b (layer 1), c (layer 2); "/e" lives in layer 2 -/
example := overlay_copyDir_flat_exact xw_setting xw_inv xw_viewWF 5 6 xw_names
  (ss := ["d".toList]) (dd := ["e".toList]) (n0 := "copy".toList) (by decide +kernel) (by decide +kernel)
  (by decide +kernel) (by decide +kernel) (flat_of_keys (by decide +kernel)) (by decide +kernel)
  (show oview [xU, xA, xB] "/e/copy".toList = none by decide +kernel) 4 (by decide +kernel)

example : (VPath.copyDir 4 ⟨xfs, 5, "/d".toList⟩ ⟨xfs, 5, "/e/copy".toList⟩ xw).1 = .ok 3 := by
  rw [x_copy]

example : (xfs.readDir "/e/copy".toList
      (VPath.copyDir 4 ⟨xfs, 5, "/d".toList⟩ ⟨xfs, 5, "/e/copy".toList⟩ xw).2).1
    = .ok ["c".toList, "b".toList, "x".toList] := by
  rw [x_copy]; decide +kernel

example : C09.readAllN xfs "/e/copy/x"
      (VPath.copyDir 4 ⟨xfs, 5, "/d".toList⟩ ⟨xfs, 5, "/e/copy".toList⟩ xw).2 = .ok [49] := by
  rw [x_copy]; decide +kernel

example := overlay_moveDir_flat_exact xw_setting xw_inv xw_viewWF 5 5 xw_names
  (ss := ["d".toList]) (dd := ["e".toList]) (n0 := "moved".toList) (by decide +kernel) (by decide +kernel)
  (by decide +kernel) (by decide +kernel) (flat_of_keys (by decide +kernel)) (by decide +kernel)
  (show oview [xU, xA, xB] "/e/moved".toList = none by decide +kernel) 4 (by decide +kernel)

example : (VPath.moveDir 4 ⟨xfs, 5, "/d".toList⟩ ⟨xfs, 5, "/e/moved".toList⟩ xw).1 = .ok () := by
  rw [x_move]

example : (xfs.readDir [] (VPath.moveDir 4 ⟨xfs, 5, "/d".toList⟩
      ⟨xfs, 5, "/e/moved".toList⟩ xw).2).1 = .ok ["e".toList, "top".toList] := by
  rw [x_move]; decide +kernel

example : (xfs.readDir "/e/moved".toList (VPath.moveDir 4 ⟨xfs, 5, "/d".toList⟩
      ⟨xfs, 5, "/e/moved".toList⟩ xw).2).1 = .ok ["c".toList, "b".toList, "x".toList] := by
  rw [x_move]; decide +kernel

example : C09.readAllN xfs "/e/moved/x" (VPath.moveDir 4 ⟨xfs, 5, "/d".toList⟩
      ⟨xfs, 5, "/e/moved".toList⟩ xw).2 = .ok [49] := by
  rw [x_move]; decide +kernel

example := overlay_copyDir_refused xw_setting 5 5 "/d".toList 4 (cs := ["e".toList]) (by decide)
  (by decide)

end example3

section audit
#print axioms overlay_copyDir_flat_exact
#print axioms overlay_moveDir_flat_exact
#print axioms overlay_copyDir_refused
#print axioms flat_of_keys
end audit

end Vfs.C11
