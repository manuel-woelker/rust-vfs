/-
  C19 over whole histories THROUGH a two-layer OverlayFS, removals included: the instances of
  Props/C19HistoryOverlayN.lean for `layers2 u l` (Proofs/OverlayLemmas.lean), and `remove_dir` of
  a directory for a path without children.

  SETTING: an overlay over two memory layers, a path `k = /d1/…/dm/n` (components `GoodComp`), the
  invariant `OvInv mu ds n` on the TOP layer's map and the served record `ovAbs mu k` of
  Props/C19HistoryOverlayN.lean.

  WHAT IS PROVED
  * `overlay_history_exact`: for EVERY history of all ten operations in which `remove_dir` is never
    applied while the path is a directory (`NoDirRemoval`), the outcomes are, step by step, those of
    the specification started from `ovAbs`; the final served record is the specification's; the
    world is the old one with the top leaf replaced (the lower layer is untouched); `OvInv` holds
    again. `overlay_history_exact_noRemoveDir`: the special case of histories without `remove_dir`.
  * `overlay_step_all` / `overlay_history_exact_childless`: ALL ten operations, NO condition on the
    history, when `k` has no children in either layer and "/.whiteout" ++ k is not a file
    (`Childless`, preserved): `busy = false`, `remove_dir` of the (empty) directory succeeds and puts
    it behind a whiteout (`overlay_run_removeDir_dir`), so every operation is the top slot's row
    (`overlay_run_step_childless`).

  HYPOTHESES: the setting and the invariant; first component of `k` ≠ ".whiteout"; `ds.head? ≠ "_wo"`.
  NOT PROVED: `remove_dir` of a directory that has children in some layer (the specification's `busy`
  would have to be the overlay's merged listing, tracked along the history) — the general statement
  is `C19.overlay_history_exact_stmt` in Props/C19History.lean; layers that are not roots of memory
  leaves.
-/
import VfsModel.Props.C19HistoryOverlayN
namespace Vfs.C19
open Vfs.FMap

/-- **C19 through OverlayFS, whole histories, all ten operations.** See the header. The one
restriction: `remove_dir` is not applied while the path is a directory (`NoDirRemoval`; it may be
applied to a file or to an absent / hidden path, and is refused). `busy` is arbitrary: under that
restriction the specification does not look at it. -/
theorem overlay_history_exact {w : World} {u l idu idl : Nat} {mu ml : FMap}
    (h : OW w u l mu ml) (ido : Nat) (ds : List Str) (n : Str) (hds : ∀ c ∈ ds, GoodComp c)
    (hn : GoodComp n) (hh : (ds ++ [n]).head? ≠ some Overlay.woDir)
    (hwo : ds.head? ≠ some Overlay.woSuffix) (hi : OvInv mu ds n) (busy : Bool)
    (ops : List TOp)
    (hops : NoDirRemoval busy .now (ovAbs mu (renderC (ds ++ [n]))) ops) :
    ∃ mu', (runHist { fs := Overlay.fs (layers2 u l idu idl), fsId := ido,
                      path := renderC (ds ++ [n]) } ops w).2 = w.setLeafFiles u mu' ∧
      OW (w.setLeafFiles u mu') u l mu' ml ∧
      (runHist { fs := Overlay.fs (layers2 u l idu idl), fsId := ido,
                 path := renderC (ds ++ [n]) } ops w).1 =
        (specHist busy .now (ovAbs mu (renderC (ds ++ [n]))) ops).1 ∧
      ovAbs mu' (renderC (ds ++ [n])) =
        (specHist busy .now (ovAbs mu (renderC (ds ++ [n]))) ops).2 ∧
      OvInv mu' ds n := by
  obtain ⟨mu', e1, e2, e3, e4, e5⟩ :=
    overlay_history_exactN (h.toN idu idl) ido ds n hds hn hh hwo hi busy ops hops
  exact ⟨mu', e1, e2.toOW, e3, e4, e5⟩

/-- the special case of histories without `remove_dir` -/
theorem overlay_history_exact_noRemoveDir {w : World} {u l idu idl : Nat} {mu ml : FMap}
    (h : OW w u l mu ml) (ido : Nat) (ds : List Str) (n : Str) (hds : ∀ c ∈ ds, GoodComp c)
    (hn : GoodComp n) (hh : (ds ++ [n]).head? ≠ some Overlay.woDir)
    (hwo : ds.head? ≠ some Overlay.woSuffix) (hi : OvInv mu ds n) (busy : Bool)
    (ops : List TOp) (hops : ∀ op ∈ ops, op ≠ .removeDir) :
    ∃ mu', (runHist { fs := Overlay.fs (layers2 u l idu idl), fsId := ido,
                      path := renderC (ds ++ [n]) } ops w).2 = w.setLeafFiles u mu' ∧
      OW (w.setLeafFiles u mu') u l mu' ml ∧
      (runHist { fs := Overlay.fs (layers2 u l idu idl), fsId := ido,
                 path := renderC (ds ++ [n]) } ops w).1 =
        (specHist busy .now (ovAbs mu (renderC (ds ++ [n]))) ops).1 ∧
      ovAbs mu' (renderC (ds ++ [n])) =
        (specHist busy .now (ovAbs mu (renderC (ds ++ [n]))) ops).2 ∧
      OvInv mu' ds n :=
  overlay_history_exact h ido ds n hds hn hh hwo hi busy ops
    (noDirRemoval_of_no_removeDir _ _ _ _ hops)

/-! ### `remove_dir` of a directory, for a path without children in either layer -/

/-- `k` has no children in the map -/
def NoKids (m : FMap) (k : Str) : Prop := ∀ x e, m.find? x = some e → childName k x = none

theorem NoKids.kids_nil {m : FMap} {k : Str} (h : NoKids m k) :
    m.keys.filterMap (childName k) = [] := by
  rw [List.filterMap_eq_nil_iff]
  intro x hx
  obtain ⟨e, he⟩ := (mem_keys_iff m x).1 hx
  exact h x e he

theorem NoKids.kids {m : FMap} {k : Str} (h : NoKids m k) : Mem.kids m k = false := by
  simp [Mem.kids, h.kids_nil]

theorem NoKids.layerNames {m : FMap} {k : Str} (h : NoKids m k) : layerNames m k = [] := by
  unfold Vfs.layerNames
  split
  · split
    · exact h.kids_nil
    · rfl
  · rfl

theorem pListing_nil {mu ml : FMap} {k : Str} (hu : NoKids mu k) (hl : NoKids ml k) :
    pListing mu ml k = [] := by
  unfold pListing
  rw [hu.layerNames, hl.layerNames]
  split <;> rfl

/-- a key inside the ".whiteout" namespace is not a child of a path outside it -/
theorem childName_none_of_wo (cs : List Str) (hcs : ∀ c ∈ cs, GoodComp c) (hne : cs ≠ [])
    (hh : cs.head? ≠ some Overlay.woDir) (s : Str) (hs : s = [] ∨ s.head? = some '/') :
    childName (renderC cs) ('/' :: (Overlay.woDir ++ s)) = none := by
  cases hc : childName (renderC cs) ('/' :: (Overlay.woDir ++ s)) with
  | none => rfl
  | some nm =>
    exfalso
    obtain ⟨h1, _⟩ := childName_some _ _ _ hc
    cases cs with
    | nil => exact hne rfl
    | cons c cs' =>
      apply hh
      simp only [renderC_cons, List.cons_append, List.cons.injEq, true_and,
        List.append_assoc] at h1
      have hT : ∃ t, renderC cs' ++ '/' :: nm = '/' :: t := by
        cases cs' with
        | nil => exact ⟨nm, rfl⟩
        | cons c2 cs2 =>
          exact ⟨c2 ++ renderC cs2 ++ '/' :: nm, by simp only [renderC_cons, List.cons_append]⟩
      obtain ⟨t, ht⟩ := hT
      rw [ht] at h1
      have := first_slash_split Overlay.woDir c s t (by decide) (hcs c (by simp)).noSlash hs h1
      simp [this]

theorem woChain_form (ds : List Str) (q : Str) (hq : q ∈ woChain ds) :
    ∃ s, q = '/' :: (Overlay.woDir ++ s) ∧ (s = [] ∨ s.head? = some '/') := by
  obtain ⟨j, h1, h2, rfl⟩ := (mem_chain [] (Overlay.woDir :: ds) q).1 hq
  obtain ⟨i, rfl⟩ : ∃ i, j = i + 1 := ⟨j - 1, by omega⟩
  refine ⟨renderC (ds.take i), by simp, ?_⟩
  cases h : ds.take i <;> simp

theorem marker_form (k : Str) (hk : k.head? = some '/') :
    ∃ s, marker k = '/' :: (Overlay.woDir ++ s) ∧ (s = [] ∨ s.head? = some '/') := by
  refine ⟨k ++ Overlay.woSuffix, by simp [marker], Or.inr ?_⟩
  cases k with
  | nil => simp at hk
  | cons a k' => simpa using hk

/-- the extra invariant for `remove_dir`: no children of `k` in either layer, and the bookkeeping
position "/.whiteout" ++ k is not a file -/
structure Childless (mu ml : FMap) (k : Str) : Prop where
  up : NoKids mu k
  low : NoKids ml k
  wod : ∀ e, mu.find? (woDirOf k) = some e → e.ftype = .dir

theorem Childless.chg {mu ml mu' : FMap} {ds : List Str} {n : Str}
    (hc : Childless mu ml (renderC (ds ++ [n]))) (hds : ∀ c ∈ ds, GoodComp c) (hn : GoodComp n)
    (hh : (ds ++ [n]).head? ≠ some Overlay.woDir) (hg : Chg mu ds n mu') :
    Childless mu' ml (renderC (ds ++ [n])) := by
  have hcs := good_snoc hds hn
  have hne : ds ++ [n] ≠ [] := by simp
  have hkhead : (renderC (ds ++ [n])).head? = some '/' := by cases ds <;> simp
  refine ⟨?_, hc.low, ?_⟩
  · intro x e he
    rcases hg x e he with h0 | rfl | rfl | hx
    · exact hc.up x e h0
    · exact childName_self _
    · obtain ⟨s, hs1, hs2⟩ := marker_form _ hkhead
      rw [hs1]; exact childName_none_of_wo _ hcs hne hh s hs2
    · obtain ⟨s, hs1, hs2⟩ := woChain_form ds x hx
      rw [hs1]; exact childName_none_of_wo _ hcs hne hh s hs2
  · intro e he
    rcases hg _ e he with h0 | h1 | h2 | hx
    · exact hc.wod e h0
    · exfalso
      have := congrArg List.length h1
      simp [woDirOf] at this <;> omega
    · exfalso
      have := congrArg List.length h2
      simp [woDirOf, marker, Overlay.woSuffix] at this <;> omega
    · exfalso
      rw [woDirOf_renderC] at hx
      have hgood : ∀ c ∈ Overlay.woDir :: (ds ++ [n]), '/' ∉ c := by
        intro c hc'
        rcases List.mem_cons.1 hc' with rfl | hc'
        · exact goodComp_woDir.noSlash
        · exact (hcs c hc').noSlash
      have hgood2 : ∀ c ∈ Overlay.woDir :: ds, '/' ∉ c := by
        intro c hc'
        rcases List.mem_cons.1 hc' with rfl | hc'
        · exact goodComp_woDir.noSlash
        · exact (hds c hc').noSlash
      exact C10.renderC_not_in_chain _ _ hgood hgood2 (by simp) hx

section ov3
variable {w : World} {u l idu idl : Nat} {mu ml : FMap} (h : OW w u l mu ml) (ido : Nat)
  (ds : List Str) (n : Str) (hds : ∀ c ∈ ds, GoodComp c) (hn : GoodComp n)
include h hds hn

/-- `remove_dir` on a childless DIRECTORY the top layer serves: it goes behind a whiteout -/
theorem overlay_run_removeDir_dir (ha : AncTop mu ds) (hw : WoOK mu ds)
    (hc : Childless mu ml (renderC (ds ++ [n])))
    (hm : mu.contains (marker (renderC (ds ++ [n]))) = false) (e : Entry)
    (he : mu.find? (renderC (ds ++ [n])) = some e) (hd : e.ftype = .dir) :
    runOp { fs := Overlay.fs (layers2 u l idu idl), fsId := ido, path := renderC (ds ++ [n]) }
        .removeDir w =
      ((slotStep mu (renderC (ds ++ [n])) .removeDir).1,
        w.setLeafFiles u (ovApp mu ds n (slotStep mu (renderC (ds ++ [n])) .removeDir).2)) := by
  have hne : ds ++ [n] ≠ [] := by simp
  have hv : viewN [mu, ml] (renderC (ds ++ [n])) = some e := viewN_upper hm he
  have hrd : Mem.pRemoveDir mu (renderC (ds ++ [n])) = (.ok (), mu.erase (renderC (ds ++ [n]))) := by
    rw [Mem.pRemoveDir_eq, he, hc.up.kids]; simp [Mem.removeDirS, hd, Write.app, Res.withPath]
  simp only [runOp, VPath.removeDir, M.withPath, Overlay.fs, ← layersN_two,
    run_oremoveDirN (h.toN idu idl) _ hne (good_snoc hds hn) hc.wod, pRemoveDirN_eq, hv,
    C10.pReadDirN_dir (renderC_ne_nil hne) hv hd, pListingN_two, pListing_nil hc.up hc.low, ne_eq,
    not_true_eq_false, if_false, slotStep, stepS, he, hc.up.kids]
  rw [pRemoveTail_upper Mem.erasing_removeDir ds n hds hn ha.root hw
    (find?_none_of_not_contains (by rw [hm]; simp)) (contains_of_find he) (by rw [hrd])]
  simp [-renderC_append, Mem.removeDirS, hd, ovApp, afterRemove, Res.withPath, ofRes, outOf]

/-- **the overlay over two layers on a childless path its top layer decides**: ALL operations answer
as the top slot's row (`remove_dir` finds no children) -/
theorem overlay_run_step_childless (hi : OvInv mu ds n) (hc : Childless mu ml (renderC (ds ++ [n])))
    (op : TOp) :
    runOp { fs := Overlay.fs (layers2 u l idu idl), fsId := ido, path := renderC (ds ++ [n]) } op w =
      ((slotStep mu (renderC (ds ++ [n])) op).1,
        w.setLeafFiles u (ovApp mu ds n (slotStep mu (renderC (ds ++ [n])) op).2)) := by
  by_cases hnd : NotDirRemoval (absAt mu (renderC (ds ++ [n]))) op
  · exact overlay_run_stepN (h.toN idu idl) ido ds n hds hn hi op hnd
  · obtain ⟨rfl, hdir⟩ : op = .removeDir ∧
        (absAt mu (renderC (ds ++ [n]))).map TRec.ftype = some .dir := by
      unfold NotDirRemoval at hnd
      exact ⟨Classical.byContradiction fun ho => hnd fun h' => absurd h' ho,
        Classical.byContradiction fun hx => hnd fun _ => hx⟩
    rcases hi.st with ⟨hm, e, he⟩ | hB
    · refine overlay_run_removeDir_dir h ido ds n hds hn hi.anc hi.wo hc hm e he ?_
      rw [absAt, he] at hdir; simpa [recOf] using hdir
    · rw [absAt, hB.1] at hdir; cases hdir

end ov3

/-- **one step, all ten operations**, for a path without children in either layer -/
theorem overlay_step_all {w : World} {u l idu idl : Nat} {mu ml : FMap} (h : OW w u l mu ml)
    (ido : Nat) (ds : List Str) (n : Str) (hds : ∀ c ∈ ds, GoodComp c) (hn : GoodComp n)
    (hh : (ds ++ [n]).head? ≠ some Overlay.woDir)
    (hsep : Sep ds n) (hi : OvInv mu ds n) (hc : Childless mu ml (renderC (ds ++ [n])))
    (op : TOp) :
    ∃ mu', runOp { fs := Overlay.fs (layers2 u l idu idl), fsId := ido,
                   path := renderC (ds ++ [n]) } op w =
        ((specStep false .now (ovAbs mu (renderC (ds ++ [n]))) op).2, w.setLeafFiles u mu') ∧
      OvInv mu' ds n ∧
      ovAbs mu' (renderC (ds ++ [n])) =
        (specStep false .now (ovAbs mu (renderC (ds ++ [n]))) op).1 ∧
      Childless mu' ml (renderC (ds ++ [n])) := by
  rw [hi.ovAbs]
  have hsp := slotStep_spec mu (renderC (ds ++ [n])) false op
    fun _ => ⟨hi.anc.parentDir n hds hn, hc.up.kids.symm⟩
  have hrun := overlay_run_step_childless (idu := idu) (idl := idl) h ido ds n hds hn hi hc op
  exact ⟨_, by rw [hrun, hsp.1], hi.ovApp hsep _, by rw [ovAbs_ovApp hi hsep, hsp.2],
    hc.chg hds hn hh (chg_ovApp mu ds n _)⟩

/-- **C19 through OverlayFS, whole histories, ALL ten operations, no side condition on the
history**, for a path that has no children in either layer (a file, or a directory that stays
empty — `busy = false`). -/
theorem overlay_history_exact_childless {w : World} {u l idu idl : Nat} {mu ml : FMap}
    (h : OW w u l mu ml) (ido : Nat) (ds : List Str) (n : Str) (hds : ∀ c ∈ ds, GoodComp c)
    (hn : GoodComp n) (hh : (ds ++ [n]).head? ≠ some Overlay.woDir)
    (hwo : ds.head? ≠ some Overlay.woSuffix) (hi : OvInv mu ds n)
    (hc : Childless mu ml (renderC (ds ++ [n]))) (ops : List TOp) :
    ∃ mu', (runHist { fs := Overlay.fs (layers2 u l idu idl), fsId := ido,
                      path := renderC (ds ++ [n]) } ops w).2 = w.setLeafFiles u mu' ∧
      OW (w.setLeafFiles u mu') u l mu' ml ∧
      (runHist { fs := Overlay.fs (layers2 u l idu idl), fsId := ido,
                 path := renderC (ds ++ [n]) } ops w).1 =
        (specHist false .now (ovAbs mu (renderC (ds ++ [n]))) ops).1 ∧
      ovAbs mu' (renderC (ds ++ [n])) =
        (specHist false .now (ovAbs mu (renderC (ds ++ [n]))) ops).2 ∧
      OvInv mu' ds n ∧ Childless mu' ml (renderC (ds ++ [n])) := by
  have hsep := sep_of ds n hds hn hh hwo
  induction ops generalizing w mu with
  | nil =>
    refine ⟨mu, by simp only [runHist, h.hu.same], ?_, rfl, rfl, hi, hc⟩
    rw [h.hu.same]; exact h
  | cons op ops ih =>
    obtain ⟨mu1, hrun, hi1, habs1, hc1⟩ :=
      overlay_step_all (idu := idu) (idl := idl) h ido ds n hds hn hh hsep hi hc op
    obtain ⟨mu', e1, e2, e3, e4, e5, e6⟩ := ih (h.setU mu1) hi1 hc1
    simp only [runHist, specHist, hrun]
    rw [habs1] at e3 e4
    rw [Vfs.World.setLeafFiles_twice] at e1 e2
    exact ⟨mu', e1, e2, by rw [e3], e4, e5, e6⟩

/-! ### Non-vacuity -/

/-- removal, refusals behind the whiteout (the lower layer still holds "/d/f" with its own
timestamps), re-creation as a file and as a directory -/
def hRemoveOps : List TOp :=
  [ .metadata, .setCreated 5, .removeDir, .removeFile, .metadata, .setModified 3, .append [1],
    .read, .removeFile, .removeDir, .write [8], .metadata, .setAccessed 4, .removeFile, .createDir,
    .metadata, .write [1], .removeFile, .read ]

example : NoDirRemoval false .now (ovAbs hMap (renderC (["d".toList] ++ ["f".toList])))
    hRemoveOps := by decide

example : OvInv hMap ["d".toList] "f".toList := by
  refine ⟨?_, ?_, Or.inl ⟨by decide, hFile, by decide⟩⟩
  · refine ⟨⟨⟨hDir, by decide, rfl⟩, by decide⟩, ?_⟩
    intro j h1 h2
    have : j = 1 := by simp at h2; omega
    subst this
    exact ⟨by decide, hDir, by decide, rfl⟩
  · exact WoOK.of_absent (by decide +kernel)

example : (["d".toList] : List Str).head? ≠ some Overlay.woSuffix := by decide

set_option maxRecDepth 100000 in
example : (runHist { fs := Overlay.fs (layers2 0 1 0 1), fsId := 2,
                     path := renderC (["d".toList] ++ ["f".toList]) } hRemoveOps hWorld2).1 =
    [ .info ⟨.file, 2, .at 7, .now, .unset⟩, .done, .refused .other, .done, .refused .fileNotFound,
      .refused .fileNotFound, .refused .fileNotFound, .refused .fileNotFound,
      .refused .fileNotFound, .refused .fileNotFound, .done, .info ⟨.file, 1, .now, .now, .now⟩,
      .done, .done, .done, .info ⟨.dir, 0, .now, .now, .now⟩, .refused .other, .refused .other,
      .refused .other ] := by
  decide +kernel

/-- the concrete path is childless in both layers -/
example : Childless hMap hLower (renderC (["d".toList] ++ ["f".toList])) := by
  refine ⟨?_, ?_, ?_⟩
  · intro x e he
    exact (by decide : ∀ x ∈ hMap.keys,
      childName (renderC (["d".toList] ++ ["f".toList])) x = none) x ((mem_keys_iff _ _).2 ⟨e, he⟩)
  · intro x e he
    exact (by decide : ∀ x ∈ hLower.keys,
      childName (renderC (["d".toList] ++ ["f".toList])) x = none) x ((mem_keys_iff _ _).2 ⟨e, he⟩)
  · intro e he
    have : hMap.find? (woDirOf (renderC (["d".toList] ++ ["f".toList]))) = none := by decide
    rw [this] at he; cases he

/-- all ten kinds through the overlay, `remove_dir` of a directory included -/
def hAllOps : List TOp :=
  [ .metadata, .setCreated 5, .setModified 6, .setAccessed 8, .append [3], .read, .removeDir,
    .removeFile, .metadata, .createDir, .metadata, .write [1], .removeDir, .removeDir, .read,
    .write [9, 9], .metadata ]

set_option maxRecDepth 100000 in
example : (runHist { fs := Overlay.fs (layers2 0 1 0 1), fsId := 2,
                     path := renderC (["d".toList] ++ ["f".toList]) } hAllOps hWorld2).1 =
    (specHist false .now (ovAbs hMap (renderC (["d".toList] ++ ["f".toList]))) hAllOps).1 := by
  decide +kernel

set_option maxRecDepth 100000 in
example : (specHist false .now (ovAbs hMap (renderC (["d".toList] ++ ["f".toList]))) hAllOps).1 =
    [ .info ⟨.file, 2, .at 7, .now, .unset⟩, .done, .done, .done, .done, .data [1, 2, 3],
      .refused .other, .done, .refused .fileNotFound, .done, .info ⟨.dir, 0, .now, .now, .now⟩,
      .refused .other, .done, .refused .fileNotFound, .refused .fileNotFound, .done,
      .info ⟨.file, 2, .now, .now, .now⟩ ] := by
  decide +kernel

#print axioms Vfs.C19.overlay_history_exact
#print axioms Vfs.C19.overlay_history_exact_childless
#print axioms Vfs.C19.overlay_history_exact_noRemoveDir

end Vfs.C19
