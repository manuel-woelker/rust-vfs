/-
  C11 — create_dir_all / remove_dir_all / copy_file / move_file / copy_dir / move_dir
  (src/path.rs) are exact, within and across filesystems.

  Worlds: memory leaves (`MemLeafAt w i m`, where the generic read/write route runs because
  MemoryFS answers NotSupported to the fast path) and, for the fast path, a physical leaf
  (`PhysLeafAt w i b`). Helpers live in Proofs/TransferLemmas.lean.

   1. `existing_destination_refused` — ARBITRARY filesystems: an existing destination makes
      copy_file, move_file, copy_dir, move_dir fail with the world unchanged.
   2. create_dir_all on a memory leaf, path `/c1/…/cn` with slash-free components:
      `dirPrefixes_chain`: the prefixes visited are exactly `/c1`, `/c1/c2`, …, the path itself;
      `createDirAll_exact`: if no prefix is a file, the call succeeds and the new map is the old
      one plus exactly that chain (`ChainMade`: every prefix a directory, the missing ones fresh
      directories, every old entry unchanged, no key outside the chain touched, WF kept);
      `createDirAll_file_prefix`: if a prefix is a file the result is
      `FileExists(some that prefix)` and the WORLD IS UNCHANGED. On a well-formed map the shorter
      prefixes necessarily exist (they are ancestors of a present path), so nothing is created;
      `createDirAll_file_prefix_general` is the statement without well-formedness (the shorter
      prefixes HAVE been created: the loop is not atomic), and `not_atomic_without_wf` is a
      concrete ill-formed map on which a directory is left behind.
      `createDirAll_existing`: if the whole chain exists, success and the world is unchanged.
   3. `removeDirAll_absent` — ARBITRARY filesystem: an absent path ⇒ Ok, world unchanged.
      `removeDirAll_exact` — memory leaf, WF map with unique keys, `p ≠ ""` a directory, fuel
      larger than the length difference to the longest key: Ok, and the new map is the old one
      minus exactly the keys at or below `p` (`find?` characterisation for EVERY key), WF and
      key-uniqueness kept. `removeDirAll_exact_fuel`: the same with the plain bound
      "fuel > every key length".
   4. `copyFile_exact` — memory leaves i (source) and j (destination), ANY i, j (equal or not) and
      ANY `Arc` identities: Ok, the destination leaf has at `d` a file with the source bytes, the
      source entry only has its access time stamped, every other key of both leaves and every other
      leaf unchanged (`Copied`, one statement for both cases), WF/unique keys kept.
      `copyFile_instance_irrelevant`: same-instance run and cross-instance run on the same
      destination map end with destination maps equal up to the access time of `s`.
      `moveFile_exact` (`Moved`): as copy, and `s` is absent afterwards; `moveFile_no_trace`;
      `moveFile_instance_irrelevant`.
      `copyFile_phys_fast`, `moveFile_phys_fast`: one physical filesystem, fast path, exact
      resulting map. `fastpath_irrelevant_copy`, `fastpath_irrelevant_move`: generic route on a
      memory leaf and fast path on a physical leaf holding a `CoreEq` map end in `CoreEq` maps.
   5. copy_dir / move_dir of a FLAT directory (only files below it, canonical names; this includes
      the empty directory), any i, j: `copyDir_flat_exact` (count = number of entries, destination
      directory + every file with its bytes, source untouched up to access times, frame),
      `copyDir_empty`, `moveDir_flat_exact` (additionally NO key at or below the source is left).
      Trees of any depth: Props/C11Nested.lean, which also settles the statements `CopyDirExact` /
      `MoveDirExact` written down here.

  copy_dir of a directory INTO ITS OWN SUBTREE on one filesystem does not terminate
  (`copyDir_into_itself_diverges_3` / `_12` / `_20`: out of fuel for every fuel tried; the walk
  keeps finding the directories it has just created). `CopyDirExact` therefore carries the
  hypothesis "destination not below the source".
  NOT PROVED: remove_dir_all with the fuel bound "number of keys" instead of "key length" (the
  length bound is what the induction uses; both are bounds on the nesting depth).
-/
import VfsModel.Proofs.TransferLemmas
import VfsModel.Proofs.RunEq
namespace Vfs.C11

theorem existing_destination_refused (src dst : VPath) (fuel : Nat) (w : World)
    (h : dst.exists_ w = (.ok true, w)) :
    src.copyFile dst w = (.err .other (some src.path), w) ∧
    src.moveFile dst w = (.err .other (some src.path), w) ∧
    src.copyDir fuel dst w = (.err .other (some src.path), w) ∧
    src.moveDir fuel dst w = (.err .other (some src.path), w) :=
  ⟨VPath.guarded_refused _ _ _ _ w h, VPath.guarded_refused _ _ _ _ w h,
    VPath.guarded_refused _ _ _ _ w h, VPath.guarded_refused _ _ _ _ w h⟩

theorem dirPrefixes_chain (cs : List Str) (h : ∀ c ∈ cs, GoodComp c) :
    VPath.dirPrefixes (renderC cs) =
      (List.range cs.length).map (fun k => renderC (cs.take (k + 1))) :=
  dirPrefixes_renderC_ancChain cs (fun c hc => (h c hc).2.1)

theorem dirPrefixes_step (cs : List Str) (c : Str) (hc : '/' ∉ c) :
    VPath.dirPrefixes (renderC (cs ++ [c])) =
      VPath.dirPrefixes (renderC cs) ++ [renderC (cs ++ [c])] := by
  rw [renderC_snoc, dirPrefixes_snoc _ _ hc]

theorem dirPrefixes_root : VPath.dirPrefixes (renderC []) = [] := by decide

/-- no prefix is a file: success, and the map afterwards is the old map plus exactly the chain of
directories -/
theorem createDirAll_exact {w : World} {i : Nat} {m : FMap} (h : MemLeafAt w i m) (hwf : WF m)
    (id : Nat) (cs : List Str) (hg : ∀ c ∈ cs, GoodComp c)
    (hnf : ∀ k, k < cs.length → ∀ e, m.find? (renderC (cs.take (k + 1))) = some e → e.ftype = .dir) :
    ∃ m', VPath.createDirAll { fs := leafFS i, fsId := id, path := renderC cs } w =
        (.ok (), w.setLeafFiles i m') ∧ ChainMade m m' cs := by
  obtain ⟨hok, hmade⟩ := createDirAllLoop_chain m hwf cs (good_noSlash hg) (fun q hq e he => by
    obtain ⟨k, hk, rfl⟩ := (mem_ancChain cs q).1 hq
    exact hnf k hk e he)
  exact ⟨_, by rw [run_createDirAll_canon h id hg, hok], hmade⟩

theorem createDirAll_exact_prefix_is_dir {m m' : FMap} {cs : List Str} (h : ChainMade m m' cs)
    (k : Nat) (hk : k < cs.length) :
    ∃ e, m'.find? (renderC (cs.take (k + 1))) = some e ∧ e.ftype = .dir :=
  h.dirs _ ((mem_ancChain cs _).2 ⟨k, hk, rfl⟩)

/-- a prefix is a file, well-formed map: `FileExists(that prefix)`, the world is unchanged -/
theorem createDirAll_file_prefix {w : World} {i : Nat} {m : FMap} (h : MemLeafAt w i m) (hwf : WF m)
    (id : Nat) (a b : List Str) (c : Str) (hg : ∀ x ∈ a ++ c :: b, GoodComp x) (e : Entry)
    (hfile : m.find? (renderC (a ++ [c])) = some e) (hft : e.ftype = .file) :
    VPath.createDirAll { fs := leafFS i, fsId := id, path := renderC (a ++ c :: b) } w =
      (.err .fileExists (some (renderC (a ++ [c]))), w) := by
  rw [run_createDirAll_canon h id hg, createDirAllLoop_file_wf m hwf a b c e
    (fun x hx => good_noSlash hg x (mem_append_cons_of_snoc hx)) hfile hft, h.same]

/-- in a well-formed map the prefixes shorter than a present path are existing directories, so
the file found by (c) is the FIRST prefix that is not a directory -/
theorem shorter_prefixes_are_dirs {m : FMap} (hwf : WF m) (a : List Str) (c : Str) (e : Entry)
    (hq : m.find? (renderC (a ++ [c])) = some e) (k : Nat) (hk : k < a.length) :
    ∃ e', m.find? (renderC (a.take (k + 1))) = some e' ∧ e'.ftype = .dir :=
  (hwf.chain_dirs a c e hq _ ((mem_ancChain a _).2 ⟨k, hk, rfl⟩)).2

/-- without well-formedness: the error names the first file prefix, and the directories before it
HAVE been created (`ChainMade … a`): create_dir_all is not atomic -/
theorem createDirAll_file_prefix_general {w : World} {i : Nat} {m : FMap} (h : MemLeafAt w i m)
    (hwf : WF m) (id : Nat) (a b : List Str) (c : Str) (hg : ∀ x ∈ a ++ c :: b, GoodComp x)
    (hbefore : ∀ k, k < a.length → ∀ e, m.find? (renderC (a.take (k + 1))) = some e → e.ftype = .dir)
    (e : Entry) (hfile : m.find? (renderC (a ++ [c])) = some e) (hft : e.ftype = .file) :
    ∃ m', VPath.createDirAll { fs := leafFS i, fsId := id, path := renderC (a ++ c :: b) } w =
        (.err .fileExists (some (renderC (a ++ [c]))), w.setLeafFiles i m') ∧ ChainMade m m' a := by
  obtain ⟨hrun, hmade⟩ := createDirAllLoop_file m hwf a b c e
    (fun x hx => good_noSlash hg x (mem_append_cons_of_snoc hx))
    (fun q hq e' he' => by
      obtain ⟨k, hk, rfl⟩ := (mem_ancChain a q).1 hq
      exact hbefore k hk e' he') hfile hft
  exact ⟨_, by rw [run_createDirAll_canon h id hg, hrun], hmade⟩

theorem createDirAll_existing {w : World} {i : Nat} {m : FMap} (h : MemLeafAt w i m) (hwf : WF m)
    (id : Nat) (cs : List Str) (hg : ∀ c ∈ cs, GoodComp c)
    (hall : ∀ k, k < cs.length → ∃ e, m.find? (renderC (cs.take (k + 1))) = some e ∧ e.ftype = .dir) :
    VPath.createDirAll { fs := leafFS i, fsId := id, path := renderC cs } w = (.ok (), w) := by
  rw [run_createDirAll_canon h id hg, createDirAllLoop_existing m hwf (ancChain cs) (fun d hd => by
    obtain ⟨k, hk, rfl⟩ := (mem_ancChain cs d).1 hd
    refine ⟨?_, hall k hk⟩
    cases hc : cs.take (k + 1) with
    | nil =>
      cases cs with
      | nil => simp at hk
      | cons x xs => simp at hc
    | cons x xs => simp), h.same]

theorem removeDirAll_absent (p : VPath) (fuel : Nat) (w : World)
    (h : p.exists_ w = (.ok false, w)) : VPath.removeDirAll (fuel + 1) p w = (.ok (), w) :=
  removeDirAll_absent' w fuel p h

/-- exactly the subtree goes: every key at or below `p` is absent afterwards, every other key is
unchanged -/
theorem removeDirAll_exact {w : World} {i : Nat} {m : FMap} (h : MemLeafAt w i m) (hwf : WF m)
    (hnd : FMap.NodupKeys m) (id fuel : Nat) (p : Str) (e : Entry) (hp : p ≠ [])
    (he : m.find? p = some e) (hd : e.ftype = .dir)
    (hfuel : ∀ k e', m.find? k = some e' → k.length < p.length + fuel) :
    ∃ m', VPath.removeDirAll fuel { fs := leafFS i, fsId := id, path := p } w =
        (.ok (), w.setLeafFiles i m') ∧ WF m' ∧ FMap.NodupKeys m' ∧
      ∀ k, m'.find? k = if under p k then none else m.find? k :=
  rd_all i id fuel w m p e h hwf hnd hp he hd hfuel

theorem removeDirAll_exact_fuel {w : World} {i : Nat} {m : FMap} (h : MemLeafAt w i m) (hwf : WF m)
    (hnd : FMap.NodupKeys m) (id fuel : Nat) (p : Str) (e : Entry) (hp : p ≠ [])
    (he : m.find? p = some e) (hd : e.ftype = .dir)
    (hfuel : ∀ k e', m.find? k = some e' → k.length < fuel) :
    ∃ m', VPath.removeDirAll fuel { fs := leafFS i, fsId := id, path := p } w =
        (.ok (), w.setLeafFiles i m') ∧ WF m' ∧ FMap.NodupKeys m' ∧
      ∀ k, m'.find? k = if under p k then none else m.find? k :=
  removeDirAll_exact h hwf hnd id fuel p e hp he hd
    (fun k e' hk => by have := hfuel k e' hk; omega)

theorem under_spec (p k : Str) : under p k = true ↔ k = p ∨ ∃ t, k = p ++ '/' :: t := under_iff p k

/-- copy_file between memory leaves `i` and `j` — equal or different, whatever the `Arc`
identities `sid`, `did` (if they are equal the fast path is attempted and falls through). -/
theorem copyFile_exact {w : World} {i j : Nat} {ms md : FMap}
    (hi : MemLeafAt w i ms) (hj : MemLeafAt w j md) (sid did : Nat) (s d : Str) (e : Entry)
    (hs : ms.find? s = some e) (hf : e.ftype = .file) (hd : FreshDest md d) :
    ∃ w', VPath.copyFile { fs := leafFS i, fsId := sid, path := s }
            { fs := leafFS j, fsId := did, path := d } w = (.ok (), w') ∧
      Copied i j ms md s d e w w' :=
  copyFile_mem hi hj sid did s d e hs hf hd

theorem copyFile_same_instance {w : World} {i : Nat} {m : FMap} (hi : MemLeafAt w i m)
    (id : Nat) (s d : Str) (e : Entry) (hs : m.find? s = some e) (hf : e.ftype = .file)
    (hd : FreshDest m d) :
    ∃ w', VPath.copyFile { fs := leafFS i, fsId := id, path := s }
            { fs := leafFS i, fsId := id, path := d } w = (.ok (), w') ∧
      Copied i i m m s d e w w' :=
  copyFile_mem hi hi id id s d e hs hf hd

theorem copyFile_cross_instance {w : World} {i j : Nat} {ms md : FMap} (hij : i ≠ j)
    (hi : MemLeafAt w i ms) (hj : MemLeafAt w j md) (sid did : Nat) (_hid : sid ≠ did)
    (s d : Str) (e : Entry) (hs : ms.find? s = some e) (hf : e.ftype = .file) (hd : FreshDest md d) :
    ∃ w', VPath.copyFile { fs := leafFS i, fsId := sid, path := s }
            { fs := leafFS j, fsId := did, path := d } w = (.ok (), w') ∧
      Copied i j ms md s d e w w' ∧
      -- here the two leaves are separate: the source leaf only has the access time of `s` stamped
      ∃ ms', MemLeafAt w' i ms' ∧ ∀ k, (ms'.find? k).map stripAcc = (ms.find? k).map stripAcc := by
  obtain ⟨w', hrun, hc⟩ := copyFile_mem hi hj sid did s d e hs hf hd
  refine ⟨w', hrun, hc, ?_⟩
  obtain ⟨ms', md', hi', _, _, hms'⟩ := hc.leaves
  refine ⟨ms', hi', fun k => ?_⟩
  rw [hms' k]
  by_cases hk : k = s
  · subst hk; simp [hij, hs, stripAcc, touched]
  · simp [hij, hk]

theorem copyFile_exact_content {i j : Nat} {ms md : FMap} {s d : Str} {e : Entry} {w w' : World}
    (h : Copied i j ms md s d e w w') :
    ∃ md', MemLeafAt w' j md' ∧ ∃ e', md'.find? d = some e' ∧ e'.ftype = .file ∧ e'.content = e.content := by
  obtain ⟨_, md', _, hj', hmd', _⟩ := h.leaves
  exact ⟨md', hj', copiedEntry e.content, by rw [hmd' d]; simp, rfl, rfl⟩

/-- "identical whether same instance or different instances": copy `s → d` inside one leaf holding
`m`, and copy `s → d` from another leaf into a leaf holding the same `m`: the destination maps are
equal up to the access time of `s`, and equal at `d`. -/
theorem copyFile_instance_irrelevant {w1 w2 : World} {i i' j' : Nat} {m ms : FMap}
    (h1 : MemLeafAt w1 i m) (h2s : MemLeafAt w2 i' ms) (h2d : MemLeafAt w2 j' m) (hne : i' ≠ j')
    (id sid did : Nat) (s d : Str) (e e2 : Entry)
    (hs1 : m.find? s = some e) (hf1 : e.ftype = .file)
    (hs2 : ms.find? s = some e2) (hf2 : e2.ftype = .file) (hcont : e2.content = e.content)
    (hd : FreshDest m d) :
    ∃ w1' w2' m1' m2',
      VPath.copyFile { fs := leafFS i, fsId := id, path := s }
        { fs := leafFS i, fsId := id, path := d } w1 = (.ok (), w1') ∧
      VPath.copyFile { fs := leafFS i', fsId := sid, path := s }
        { fs := leafFS j', fsId := did, path := d } w2 = (.ok (), w2') ∧
      MemLeafAt w1' i m1' ∧ MemLeafAt w2' j' m2' ∧
      m1'.find? d = m2'.find? d ∧
      ∀ k, (m1'.find? k).map stripAcc = (m2'.find? k).map stripAcc := by
  obtain ⟨w1', hrun1, hc1⟩ := copyFile_mem h1 h1 id id s d e hs1 hf1 hd
  obtain ⟨w2', hrun2, hc2⟩ := copyFile_mem h2s h2d sid did s d e2 hs2 hf2 hd
  obtain ⟨_, m1', _, hm1, hf1', _⟩ := hc1.leaves
  obtain ⟨_, m2', _, hm2, hf2', _⟩ := hc2.leaves
  refine ⟨w1', w2', m1', m2', hrun1, hrun2, hm1, hm2, ?_, ?_⟩
  · rw [hf1' d, hf2' d, hcont]; simp
  · intro k
    rw [hf1' k, hf2' k, hcont]
    by_cases hkd : k = d
    · simp [hkd]
    · by_cases hks : k = s
      · subst hks; simp [hkd, hne, hs1, stripAcc, touched]
      · simp [hkd, hks, hne]

theorem moveFile_exact {w : World} {i j : Nat} {ms md : FMap}
    (hi : MemLeafAt w i ms) (hj : MemLeafAt w j md) (sid did : Nat) (s d : Str) (e : Entry)
    (hs : ms.find? s = some e) (hf : e.ftype = .file) (hd : FreshDest md d) :
    ∃ w', VPath.moveFile { fs := leafFS i, fsId := sid, path := s }
            { fs := leafFS j, fsId := did, path := d } w = (.ok (), w') ∧
      Moved i j ms md s d e w w' :=
  moveFile_mem hi hj sid did s d e hs hf hd

theorem moveFile_no_trace {i j : Nat} {ms md : FMap} {s d : Str} {e : Entry} {w w' : World}
    (h : Moved i j ms md s d e w w') :
    ∃ ms' md', MemLeafAt w' i ms' ∧ MemLeafAt w' j md' ∧ ms'.find? s = none ∧
      md'.find? d = some (copiedEntry e.content) := by
  obtain ⟨ms', md', hi', hj', hmd', hms'⟩ := h.leaves
  exact ⟨ms', md', hi', hj', by rw [hms' s]; simp, by rw [hmd' d]; simp⟩

/-- same instance vs. two instances, for move: the destination maps agree on every key other than
`s` (in the two-instance run the destination leaf's own `s`, if any, is of course not the source) -/
theorem moveFile_instance_irrelevant {w1 w2 : World} {i i' j' : Nat} {m ms : FMap}
    (h1 : MemLeafAt w1 i m) (h2s : MemLeafAt w2 i' ms) (h2d : MemLeafAt w2 j' m) (hne : i' ≠ j')
    (id sid did : Nat) (s d : Str) (e e2 : Entry)
    (hs1 : m.find? s = some e) (hf1 : e.ftype = .file)
    (hs2 : ms.find? s = some e2) (hf2 : e2.ftype = .file) (hcont : e2.content = e.content)
    (hd : FreshDest m d) :
    ∃ w1' w2' m1' m2' ms2',
      VPath.moveFile { fs := leafFS i, fsId := id, path := s }
        { fs := leafFS i, fsId := id, path := d } w1 = (.ok (), w1') ∧
      VPath.moveFile { fs := leafFS i', fsId := sid, path := s }
        { fs := leafFS j', fsId := did, path := d } w2 = (.ok (), w2') ∧
      MemLeafAt w1' i m1' ∧ MemLeafAt w2' j' m2' ∧ MemLeafAt w2' i' ms2' ∧
      m1'.find? s = none ∧ ms2'.find? s = none ∧
      ∀ k, k ≠ s → m1'.find? k = m2'.find? k := by
  obtain ⟨w1', hrun1, hc1⟩ := moveFile_mem h1 h1 id id s d e hs1 hf1 hd
  obtain ⟨w2', hrun2, hc2⟩ := moveFile_mem h2s h2d sid did s d e2 hs2 hf2 hd
  obtain ⟨_, m1', _, hm1, hf1', _⟩ := hc1.leaves
  obtain ⟨ms2', m2', hms2, hm2, hf2', hfs2'⟩ := hc2.leaves
  refine ⟨w1', w2', m1', m2', ms2', hrun1, hrun2, hm1, hm2, hms2, ?_, ?_, ?_⟩
  · have hsd : s ≠ d := by intro h; rw [h, hd.absent] at hs1; cases hs1
    rw [hf1' s]; simp [hsd]
  · rw [hfs2' s]; simp
  · intro k hks
    rw [hf1' k, hf2' k, hcont]
    by_cases hkd : k = d <;> simp [hkd, hks, hne]

/-- one physical filesystem: `copy_file` is the fast path `std::fs::copy` -/
theorem copyFile_phys_fast {w : World} {i : Nat} {b : FMap} (h : PhysLeafAt w i b) (hwf : WF b)
    (id : Nat) (s d : Str) (e : Entry) (hs : b.find? s = some e) (hf : e.ftype = .file)
    (hd : FreshDest b d) :
    VPath.copyFile { fs := leafFS i, fsId := id, path := s } { fs := leafFS i, fsId := id, path := d } w =
      (.ok (), w.setLeafFiles i (b.insert d { fileEntryNow with content := e.content })) :=
  copyFile_phys h hwf id s d e hs hf hd

/-- one physical filesystem: `move_file` is the fast path `std::fs::rename` -/
theorem moveFile_phys_fast {w : World} {i : Nat} {b : FMap} (h : PhysLeafAt w i b) (hwf : WF b)
    (id : Nat) (s d : Str) (e : Entry) (hs : b.find? s = some e) (hf : e.ftype = .file)
    (hd : FreshDest b d) :
    ∃ b', VPath.moveFile { fs := leafFS i, fsId := id, path := s }
            { fs := leafFS i, fsId := id, path := d } w = (.ok (), w.setLeafFiles i b') ∧
      ∀ k, b'.find? k = if k = d then some e else if k = s then none else b.find? k :=
  ⟨_, moveFile_phys h hwf id s d e hs hf hd, Phys.find?_rename_file b hwf s d e hs hf hd.absent⟩

/-- the fast path is irrelevant to the result: copy_file by the generic route (memory leaf, where
the fast path answers NotSupported) and by the fast path (physical leaf) on maps that are equal
up to timestamps end in maps that are equal up to timestamps -/
theorem fastpath_irrelevant_copy {w1 w2 : World} {i j : Nat} {a b : FMap}
    (h1 : MemLeafAt w1 i a) (h2 : PhysLeafAt w2 j b) (hwfb : WF b) (hab : CoreEq a b)
    (id1 id2 : Nat) (s d : Str) (e : Entry) (hs : a.find? s = some e) (hf : e.ftype = .file)
    (hd : FreshDest a d) :
    ∃ w1' w2' a' b',
      VPath.copyFile { fs := leafFS i, fsId := id1, path := s }
        { fs := leafFS i, fsId := id1, path := d } w1 = (.ok (), w1') ∧
      VPath.copyFile { fs := leafFS j, fsId := id2, path := s }
        { fs := leafFS j, fsId := id2, path := d } w2 = (.ok (), w2') ∧
      MemLeafAt w1' i a' ∧ PhysLeafAt w2' j b' ∧ CoreEq a' b' := by
  obtain ⟨e', he', hft', hct'⟩ := hab.some s e hs
  have hfb : e'.ftype = .file := by rw [hft']; exact hf
  have hdb : FreshDest b d := hd.of_coreEq hab
  obtain ⟨w1', hrun1, hc1⟩ := copyFile_mem h1 h1 id1 id1 s d e hs hf hd
  obtain ⟨_, a', _, ha', hfa', _⟩ := hc1.leaves
  refine ⟨w1', _, a', _, hrun1, copyFile_phys h2 hwfb id2 s d e' he' hfb hdb, ha', h2.set _, ?_⟩
  intro k
  rw [hfa' k, FMap.find?_insert]
  by_cases hkd : k = d
  · simp [hkd, core, copiedEntry, fileEntryNow, hct']
  · by_cases hks : k = s
    · subst hks
      simp only [hkd, ↓reduceIte, true_and, Option.map_some]
      rw [he']
      simp [core, touched, hft', hct']
    · simp only [hkd, hks, ↓reduceIte, and_false]
      exact hab k

/-- the same for move_file: generic route (read, write, remove) vs. `std::fs::rename` -/
theorem fastpath_irrelevant_move {w1 w2 : World} {i j : Nat} {a b : FMap}
    (h1 : MemLeafAt w1 i a) (h2 : PhysLeafAt w2 j b) (hwfb : WF b) (hab : CoreEq a b)
    (id1 id2 : Nat) (s d : Str) (e : Entry) (hs : a.find? s = some e) (hf : e.ftype = .file)
    (hd : FreshDest a d) :
    ∃ w1' w2' a' b',
      VPath.moveFile { fs := leafFS i, fsId := id1, path := s }
        { fs := leafFS i, fsId := id1, path := d } w1 = (.ok (), w1') ∧
      VPath.moveFile { fs := leafFS j, fsId := id2, path := s }
        { fs := leafFS j, fsId := id2, path := d } w2 = (.ok (), w2') ∧
      MemLeafAt w1' i a' ∧ PhysLeafAt w2' j b' ∧ CoreEq a' b' ∧
      a'.find? s = none ∧ b'.find? s = none := by
  obtain ⟨e', he', hft', hct'⟩ := hab.some s e hs
  have hfb : e'.ftype = .file := by rw [hft']; exact hf
  have hdb : FreshDest b d := hd.of_coreEq hab
  have hsd : s ≠ d := by intro h; rw [h, hd.absent] at hs; cases hs
  obtain ⟨w1', hrun1, hc1⟩ := moveFile_mem h1 h1 id1 id1 s d e hs hf hd
  obtain ⟨_, a', _, ha', hfa', _⟩ := hc1.leaves
  have hfb' := Phys.find?_rename_file b hwfb s d e' he' hfb hdb.absent
  refine ⟨w1', _, a', _, hrun1, moveFile_phys h2 hwfb id2 s d e' he' hfb hdb, ha', h2.set _, ?_, ?_, ?_⟩
  · intro k
    rw [hfa' k, hfb' k]
    by_cases hkd : k = d
    · simp [hkd, core, copiedEntry, hft', hct', hf]
    · by_cases hks : k = s
      · simp [hks, hsd]
      · simp only [hkd, hks, ↓reduceIte, and_false]
        exact hab k
  · rw [hfa' s]; simp [hsd]
  · rw [hfb' s]; simp [hsd]

def descendants (m : FMap) (S : Str) : Nat :=
  (m.keys.filter (fun k => under S k && decide (k ≠ S))).length

/-- The general statement for copy_dir on memory leaves. Props/C11Nested.lean: false as it stands
(`copyDirExact_false`: a directory entry may carry bytes), true with `DirsBare` (`copyDirExact'`).
The destination must not lie inside the source (see `copyDir_into_itself_diverges_3`), the keys
below the source must be canonical (a key such as `/a/..` cannot be created through `VfsPath`,
and `join` would resolve it), fuel must exceed the number of entries. -/
def CopyDirExact : Prop :=
  ∀ (w : World) (i j : Nat) (ms md : FMap) (sid did fuel : Nat) (S : Str) (bs : List Str),
    MemLeafAt w i ms → MemLeafAt w j md → WF ms → WF md → FMap.NodupKeys ms →
    (∀ c ∈ bs, GoodComp c) → (∃ se, ms.find? S = some se ∧ se.ftype = .dir) →
    (∀ k e, ms.find? k = some e → under S k = true → Canon k) →
    FreshDest md (renderC bs) → (i = j → under S (renderC bs) = false) →
    descendants ms S < fuel →
    ∃ w' ms' md',
      VPath.copyDir fuel { fs := leafFS i, fsId := sid, path := S }
        { fs := leafFS j, fsId := did, path := renderC bs } w = (.ok (descendants ms S), w') ∧
      MemLeafAt w' i ms' ∧ MemLeafAt w' j md' ∧
      -- the subtree is grafted at the destination: same types, same bytes
      (md'.find? (renderC bs)).map core = some (.dir, []) ∧
      (∀ t, (md'.find? (renderC bs ++ '/' :: t)).map core = (ms.find? (S ++ '/' :: t)).map core) ∧
      -- nothing else changes on the destination leaf, the source leaf is untouched (access times aside)
      (∀ k, under (renderC bs) k = false →
        (md'.find? k).map stripAcc = (md.find? k).map stripAcc) ∧
      (∀ k, (i = j → under (renderC bs) k = false) →
        (ms'.find? k).map stripAcc = (ms.find? k).map stripAcc)

/-- The general statement for move_dir (Props/C11Nested.lean: `moveDirExact_false`,
`moveDirExact'`). -/
def MoveDirExact : Prop :=
  ∀ (w : World) (i j : Nat) (ms md : FMap) (sid did fuel : Nat) (S : Str) (bs : List Str),
    MemLeafAt w i ms → MemLeafAt w j md → WF ms → WF md → FMap.NodupKeys ms → FMap.NodupKeys md →
    S ≠ [] → (∀ c ∈ bs, GoodComp c) → (∃ se, ms.find? S = some se ∧ se.ftype = .dir) →
    (∀ k e, ms.find? k = some e → under S k = true → Canon k) →
    FreshDest md (renderC bs) → (i = j → under S (renderC bs) = false) →
    descendants ms S < fuel →
    (∀ k e, ms.find? k = some e → k.length < S.length + fuel) →
    (i = j → ∀ k e, ms.find? k = some e → under S k = true →
      (renderC bs).length + k.length < 2 * S.length + fuel) →
    ∃ w' ms' md',
      VPath.moveDir fuel { fs := leafFS i, fsId := sid, path := S }
        { fs := leafFS j, fsId := did, path := renderC bs } w = (.ok (), w') ∧
      MemLeafAt w' i ms' ∧ MemLeafAt w' j md' ∧
      (∀ k, under S k = true → ms'.find? k = none) ∧
      (md'.find? (renderC bs)).map core = some (.dir, []) ∧
      (∀ t, (md'.find? (renderC bs ++ '/' :: t)).map core = (ms.find? (S ++ '/' :: t)).map core) ∧
      (∀ k, under (renderC bs) k = false → (i = j → under S k = false) →
        (md'.find? k).map stripAcc = (md.find? k).map stripAcc) ∧
      (∀ k, under S k = false → (i = j → under (renderC bs) k = false) →
        (ms'.find? k).map stripAcc = (ms.find? k).map stripAcc)

/-- copy_dir of a flat directory (only files below it; the empty directory included), from
memory leaf `i` to memory leaf `j`, equal or different, any `Arc` identities: the count is the
number of entries, and `FlatDirCopied` describes both leaves exactly. -/
theorem copyDir_flat_exact {w : World} {i j : Nat} {ms md : FMap}
    (hi : MemLeafAt w i ms) (hj : MemLeafAt w j md) (sid did fuel : Nat) (S : Str) (bs : List Str)
    (hbs : ∀ c ∈ bs, GoodComp c) (hnd : FMap.NodupKeys ms) (hwfd : WF md) (hflat : FlatDir ms S)
    (hfresh : FreshDest md (renderC bs)) (hout : i = j → parentInternal (renderC bs) ≠ S)
    (hfuel : (ms.keys.filterMap (childName S)).length < fuel) :
    ∃ w', VPath.copyDir fuel { fs := leafFS i, fsId := sid, path := S }
            { fs := leafFS j, fsId := did, path := renderC bs } w =
          (.ok (ms.keys.filterMap (childName S)).length, w') ∧
      FlatDirCopied i j ms md S (renderC bs) w w' :=
  copyDir_flat hi hj sid did fuel S bs (fun c hc => (hbs c hc).2.1) hnd hwfd hflat hfresh hout hfuel

theorem copyDir_empty {w : World} {i j : Nat} {ms md : FMap}
    (hi : MemLeafAt w i ms) (hj : MemLeafAt w j md) (sid did fuel : Nat) (S : Str) (bs : List Str)
    (hbs : ∀ c ∈ bs, GoodComp c) (hnd : FMap.NodupKeys ms) (hwfd : WF md)
    (hdir : ∃ se, ms.find? S = some se ∧ se.ftype = .dir)
    (hempty : ms.keys.filterMap (childName S) = [])
    (hfresh : FreshDest md (renderC bs)) (hout : i = j → parentInternal (renderC bs) ≠ S) :
    ∃ w' ms' md', VPath.copyDir (fuel + 1) { fs := leafFS i, fsId := sid, path := S }
            { fs := leafFS j, fsId := did, path := renderC bs } w = (.ok 0, w') ∧
      MemLeafAt w' i ms' ∧ MemLeafAt w' j md' ∧
      (∀ k, md'.find? k = if k = renderC bs then some dirEntryNow else md.find? k) ∧
      (∀ k, ms'.find? k = if i = j ∧ k = renderC bs then some dirEntryNow else ms.find? k) := by
  obtain ⟨w', hrun, _, ms', md', hi', hj', hD, _, _, hmdf, hmsf, _⟩ :=
    copyDir_flat_exact hi hj sid did (fuel + 1) S bs hbs hnd hwfd
      ⟨hdir, fun n hn => by rw [hempty] at hn; cases hn⟩ hfresh hout (by rw [hempty]; simp)
  rw [hempty] at hrun
  refine ⟨w', ms', md', hrun, hi', hj', ?_, ?_⟩
  · intro k
    by_cases hk : k = renderC bs
    · rw [if_pos hk, hk]; exact hD
    · rw [if_neg hk]
      exact hmdf k hk (fun n hn => by rw [hempty] at hn; cases hn)
        (fun _ n hn => by rw [hempty] at hn; cases hn)
  · intro k
    by_cases hij : i = j
    · subst hij
      have e1 := hi'.unique hj'
      have e2 := hi.unique hj
      subst e1; subst e2
      by_cases hk : k = renderC bs
      · rw [if_pos ⟨rfl, hk⟩, hk]; exact hD
      · rw [if_neg (fun h => hk h.2)]
        exact hmsf k (fun n hn => by rw [hempty] at hn; cases hn)
          (fun _ => ⟨hk, fun n hn => by rw [hempty] at hn; cases hn⟩)
    · rw [if_neg (fun h => hij h.1)]
      exact hmsf k (fun n hn => by rw [hempty] at hn; cases hn) (fun h => absurd h hij)

/-- move_dir of a flat directory between memory leaves `i`, `j` (equal or different): as copy_dir,
and afterwards NO key at or below the source exists; everything else is unchanged. -/
theorem moveDir_flat_exact {w : World} {i j : Nat} {ms md : FMap}
    (hi : MemLeafAt w i ms) (hj : MemLeafAt w j md) (sid did fuel : Nat) (S : Str) (bs : List Str)
    (hbs : ∀ c ∈ bs, GoodComp c) (hnds : FMap.NodupKeys ms) (hndd : FMap.NodupKeys md)
    (hwfs : WF ms) (hwfd : WF md) (hflat : FlatDir ms S) (hS : S ≠ [])
    (hfresh : FreshDest md (renderC bs)) (hout : i = j → under S (renderC bs) = false)
    (hfuel : (ms.keys.filterMap (childName S)).length < fuel)
    (hb1 : ∀ k e', ms.find? k = some e' → k.length < S.length + fuel)
    (hb2 : i = j → (renderC bs).length < S.length + fuel ∧
      ∀ n ∈ ms.keys.filterMap (childName S), (renderC bs ++ '/' :: n).length < S.length + fuel) :
    ∃ w', VPath.moveDir fuel { fs := leafFS i, fsId := sid, path := S }
            { fs := leafFS j, fsId := did, path := renderC bs } w = (.ok (), w') ∧
      FlatDirMoved i j ms md S (renderC bs) w w' :=
  moveDir_flat hi hj sid did fuel S bs (fun c hc => (hbs c hc).2.1) hnds hndd hwfs hwfd hflat hS
    hfresh hout hfuel hb1 hb2

def fileE (bs : Bytes) : Entry := { fileEntryNow with content := bs }

/-- leaf 0: `/f` ("hi"), the flat directory `/d` (`/d/x` "x", `/d/y` "yy"), the nested tree `/t`
(`/t/u/`, `/t/u/v` "v"), the empty directory `/e`; leaf 1: an empty MemoryFS -/
def m0 : FMap :=
  [ ("/f".toList, fileE [104, 105]), ("/d/x".toList, fileE [120]), ("/d/y".toList, fileE [121, 121]),
    ("/d".toList, dirEntryNow), ("/t/u/v".toList, fileE [118]), ("/t/u".toList, dirEntryNow),
    ("/t".toList, dirEntryNow), ("/e".toList, dirEntryNow), ([], dirEntryNow) ]

def w2 : World := { leaves := [{ kind := .mem, files := m0 }, { kind := .mem, files := Mem.init }] }

def mem2 (a b : FMap) : World := { leaves := [{ kind := .mem, files := a }, { kind := .mem, files := b }] }

/-- `m0` with its paths as `chars`: what the evaluations below run on -/
def m0c : FMap :=
  [ (chars "/f", fileE [104, 105]), (chars "/d/x", fileE [120]), (chars "/d/y", fileE [121, 121]),
    (chars "/d", dirEntryNow), (chars "/t/u/v", fileE [118]), (chars "/t/u", dirEntryNow),
    (chars "/t", dirEntryNow), (chars "/e", dirEntryNow), ([], dirEntryNow) ]

theorem m0_eq : m0 = m0c := by decide +kernel
theorem w2_eq : w2 = mem2 m0c Mem.init := by rw [w2, m0_eq]; rfl

/-- a path on leaf `i`; each leaf is its own `Arc` -/
def at_ (i : Nat) (s : String) : VPath := { fs := leafFS i, fsId := i, path := s.toList }

def view (w : World) (i : Nat) : List (String × FType × Bytes) :=
  match w.leaf? i with
  | some l => l.files.map fun kv => (String.ofList kv.1, kv.2.ftype, kv.2.content)
  | none => []

theorem m0_wf : WF m0 := WF.of_check m0 (by rw [m0_eq]; decide +kernel)
theorem m0_nodup : FMap.NodupKeys m0 := by rw [m0_eq]; decide +kernel
theorem w2_leaf0 : MemLeafAt w2 0 m0 := rfl
theorem w2_leaf1 : MemLeafAt w2 1 Mem.init := rfl

example : ((at_ 0 "/f").copyFile (at_ 1 "/g") w2).1 = .ok () := by rw [w2_eq]; decide +kernel
example : view ((at_ 0 "/f").copyFile (at_ 1 "/g") w2).2 1 =
    [("/g", .file, [104, 105]), ("", .dir, [])] := by rw [w2_eq]; decide +kernel
example : ((at_ 0 "/f").copyFile (at_ 0 "/g") w2).1 = .ok () := by rw [w2_eq]; decide +kernel
example : (view ((at_ 0 "/f").copyFile (at_ 0 "/g") w2).2 0).head? = some ("/g", .file, [104, 105]) := by
  rw [w2_eq]; decide +kernel
example : ((at_ 0 "/f").copyFile (at_ 0 "/d/x") w2).1 = .err .other (some "/f".toList) ∧
    ((at_ 0 "/f").copyFile (at_ 0 "/d/x") w2).2.leaves = w2.leaves := by rw [w2_eq]; decide +kernel

example : ((at_ 0 "/f").moveFile (at_ 1 "/g") w2).1 = .ok () := by rw [w2_eq]; decide +kernel
example : view ((at_ 0 "/f").moveFile (at_ 1 "/g") w2).2 1 =
    [("/g", .file, [104, 105]), ("", .dir, [])] := by rw [w2_eq]; decide +kernel
example : (view ((at_ 0 "/f").moveFile (at_ 1 "/g") w2).2 0).map (·.1) =
    ["/d/x", "/d/y", "/d", "/t/u/v", "/t/u", "/t", "/e", ""] := by rw [w2_eq]; decide +kernel

example : ((at_ 1 "/a/b/c").createDirAll w2).1 = .ok () := by rw [w2_eq]; decide +kernel
example : view ((at_ 1 "/a/b/c").createDirAll w2).2 1 =
    [("/a/b/c", .dir, []), ("/a/b", .dir, []), ("/a", .dir, []), ("", .dir, [])] := by rw [w2_eq]; decide +kernel
example : VPath.dirPrefixes "/a/b/c".toList = ["/a".toList, "/a/b".toList, "/a/b/c".toList] := by
  decide +kernel
example : ((at_ 0 "/f/x/y").createDirAll w2).1 = .err .fileExists (some "/f".toList) ∧
    ((at_ 0 "/f/x/y").createDirAll w2).2.leaves = w2.leaves := by rw [w2_eq]; decide +kernel

/-- without well-formedness create_dir_all is not atomic: `/a/b` is a file whose parent `/a` is
missing; `/a` is created before the loop stops at `/a/b` -/
def illFormed : World :=
  { leaves := [{ kind := .mem, files := [("/a/b".toList, fileE []), ([], dirEntryNow)] }] }

theorem not_atomic_without_wf :
    ((at_ 0 "/a/b/c").createDirAll illFormed).1 = .err .fileExists (some "/a/b".toList) ∧
    view ((at_ 0 "/a/b/c").createDirAll illFormed).2 0 =
      [("/a", .dir, []), ("/a/b", .file, []), ("", .dir, [])] := by decide +kernel

/-! remove_dir_all (the model's `removeDirAll` is compiled by well-founded recursion; `rmAllK` is
its structural twin, `rmAllK_eq`) -/
example : ((at_ 0 "/t").removeDirAll 5 w2).1 = .ok () := by rw [← rmAllK_eq, w2_eq]; decide +kernel
example : view ((at_ 0 "/t").removeDirAll 5 w2).2 0 =
    [("/f", .file, [104, 105]), ("/d/x", .file, [120]), ("/d/y", .file, [121, 121]), ("/d", .dir, []),
     ("/e", .dir, []), ("", .dir, [])] := by rw [← rmAllK_eq, w2_eq]; decide +kernel
example : ((at_ 0 "/nope").removeDirAll 5 w2).1 = .ok () ∧
    ((at_ 0 "/nope").removeDirAll 5 w2).2.leaves = w2.leaves := by rw [← rmAllK_eq, w2_eq]; decide +kernel

example : ∃ m', VPath.removeDirAll 7 (at_ 0 "/t") w2 = (.ok (), w2.setLeafFiles 0 m') ∧ WF m' ∧
    FMap.NodupKeys m' ∧ ∀ k, m'.find? k = if under "/t".toList k then none else m0.find? k :=
  removeDirAll_exact w2_leaf0 m0_wf m0_nodup 0 7 "/t".toList dirEntryNow (by decide) (by rw [m0_eq]; decide +kernel) rfl
    (keys_bound m0 _ (by rw [m0_eq]; decide +kernel))

example : ((at_ 0 "/d").copyDir 5 (at_ 1 "/c") w2).1 = .ok 2 := by rw [w2_eq]; decide +kernel
example : view ((at_ 0 "/d").copyDir 5 (at_ 1 "/c") w2).2 1 =
    [("/c/y", .file, [121, 121]), ("/c/x", .file, [120]), ("/c", .dir, []), ("", .dir, [])] := by
  rw [w2_eq]; decide +kernel
example : ((at_ 0 "/t").copyDir 5 (at_ 1 "/t2") w2).1 = .ok 2 := by rw [w2_eq]; decide +kernel
example : view ((at_ 0 "/t").copyDir 5 (at_ 1 "/t2") w2).2 1 =
    [("/t2/u/v", .file, [118]), ("/t2/u", .dir, []), ("/t2", .dir, []), ("", .dir, [])] := by
  rw [w2_eq]; decide +kernel
example : ((at_ 0 "/t").copyDir 5 (at_ 0 "/t2") w2).1 = .ok 2 := by rw [w2_eq]; decide +kernel
example : ((at_ 0 "/e").copyDir 5 (at_ 1 "/e2") w2).1 = .ok 0 := by rw [w2_eq]; decide +kernel
example : view ((at_ 0 "/e").copyDir 5 (at_ 1 "/e2") w2).2 1 = [("/e2", .dir, []), ("", .dir, [])] := by
  rw [w2_eq]; decide +kernel
example : (view ((at_ 0 "/t").copyDir 5 (at_ 1 "/t2") w2).2 0).isPerm (view w2 0) = true := by
  rw [w2_eq]; decide +kernel

example : ∃ w', VPath.copyDir 5 (at_ 0 "/d") { fs := leafFS 1, fsId := 1, path := renderC ["c".toList] } w2 =
      (.ok 2, w') ∧ FlatDirCopied 0 1 m0 Mem.init "/d".toList (renderC ["c".toList]) w2 w' :=
  copyDir_flat_exact w2_leaf0 w2_leaf1 0 1 5 "/d".toList ["c".toList] (by decide) m0_nodup
    WF.init_mem
    ⟨⟨dirEntryNow, by decide, rfl⟩, by decide⟩
    ⟨by decide, by decide,
      ⟨{ ftype := .dir, content := [], created := .now, modified := .unset, accessed := .unset },
        by decide, rfl⟩⟩ (by decide) (by decide)

example : ((at_ 0 "/t").moveDir 5 (at_ 1 "/t2") w2).1 = .ok () := by
  simp only [← moveDirK_eq]; rw [w2_eq]; decide +kernel
example : view ((at_ 0 "/t").moveDir 5 (at_ 1 "/t2") w2).2 1 =
    [("/t2/u/v", .file, [118]), ("/t2/u", .dir, []), ("/t2", .dir, []), ("", .dir, [])] := by
  simp only [← moveDirK_eq]; rw [w2_eq]; decide +kernel
example : view ((at_ 0 "/t").moveDir 5 (at_ 1 "/t2") w2).2 0 =
    [("/f", .file, [104, 105]), ("/d/x", .file, [120]), ("/d/y", .file, [121, 121]), ("/d", .dir, []),
     ("/e", .dir, []), ("", .dir, [])] := by
  simp only [← moveDirK_eq]; rw [w2_eq]; decide +kernel
example : ((at_ 0 "/t").moveDir 5 (at_ 0 "/t2") w2).1 = .ok () := by
  simp only [← moveDirK_eq]; rw [w2_eq]; decide +kernel

/-! copy_dir into the own subtree does not terminate: the walk lists the directory it has just
created, copies it into itself, lists that, … — out of fuel whatever the fuel -/
theorem copyDir_into_itself_diverges_3 :
    ((at_ 0 "/d").copyDir 3 (at_ 0 "/d/sub") w2).1 = .panic := by rw [w2_eq]; decide +kernel
theorem copyDir_into_itself_diverges_12 :
    ((at_ 0 "/d").copyDir 12 (at_ 0 "/d/sub") w2).1 = .panic := by rw [w2_eq]; decide +kernel
theorem copyDir_into_itself_diverges_20 :
    ((at_ 0 "/e").copyDir 20 (at_ 0 "/e/sub") w2).1 = .panic := by rw [w2_eq]; decide +kernel

end Vfs.C11
