/-
  C10 over HISTORIES — what is removed through the overlay stays absent through every later
  disciplined history that does not create it again; what is re-created starts fresh (a file
  holds exactly the new bytes, a directory is empty) although lower layers still hold the old
  entry and the old children. Derived from the refinement theorem
  `C09.overlay_refines_reference` plus three facts about the REFERENCE backend, proved here.

  Props/C10N.lean proves these for single steps / for sequences of operations `Unrelated` to the
  path, by tracking the marker in the upper map. Here nothing is said about markers: the overlay
  is compared with the reference tree call by call, and the reference tree has no hidden state.

  SETTING: `OWN w (u :: is) (idu :: ids) (mu :: ms)`, `OInv mu ms`, `ViewWF (oview (mu :: ms))`
  (invariants: Props/C09Refine.lean `OInv.initial`, `ViewWF.initial`, Props/C03Overlay.lean), a
  reference tree `m0` with `Refines (oview (mu :: ms)) m0`; every operation of a history obeys the
  path discipline `OpOK`, and `remove_file` is never applied to a directory (`RefO3Free`, read
  off the reference run: open defect O3).

  REFERENCE BACKEND (section `reference`; `WF m`, absolute paths):
  * `ref_step_absent` / `ref_history_absent`: an absent path stays absent through every history
    in which no operation `Creates` it — `Creates p op` :⇔ `op = create_dir p ∨ op = write p _`.
    This is the EXACT side condition: `append p`, `remove_file p`, `remove_dir p` are allowed
    (they fail on an absent path), and so is every operation on any other path, in particular
    below `p` (it fails: the parent is missing).
  * `ref_step_keeps` / `ref_history_keeps`: a history with no operation AT a path keeps its entry.
  * `wf_children_absent`, `ref_createDir_fresh`: a directory created by a successful `create_dir`
    has no children.
  OVERLAY (n ≥ 1 memory layers):
  * `removed_stays_absent_history`: `rm` = `remove_file p` or `remove_dir p` SUCCEEDS through the
    overlay; then for EVERY finite history `ops` of disciplined mutators none of which `Creates p`:
    after `rm :: ops` the path is absent from the view; `exists` answers false, `metadata`,
    `read_dir`, `open_file` fail with not-found on the final world; the lower maps are what they
    were up to access stamps (`LowerSame`: whatever a lower layer held at `p` it still holds).
  * `recreated_file_fresh_history`: history `pre ++ [write p bs] ++ post`, `pre` ARBITRARY
    (in particular `remove_file p :: ops`), the write session succeeds, no operation of `post` is
    at `p`: the final view has at `p` a file with exactly `bs`, and `open_file` through the
    overlay hands out exactly `bs`; lower maps as before up to access stamps.
  * `recreated_dir_empty_history`: history `pre ++ [create_dir p] ++ post`, `create_dir` succeeds
    (so `p` was absent: removed before, or never there), no operation of `post` at `p` or at a
    child of `p`: in the final view `p` is a directory without children, and `read_dir(p)`
    through the overlay answers `[]`; lower maps as before — they may still hold `p` and
    children of `p`.
  * `recreated_starts_fresh_history`: the two previous theorems in one statement.
  * `lowerSame_get`: what `LowerSame` says for one layer.
  * non-vacuity (`decide`): on the 3-layer world of Props/C09Refine.lean — "/d/x" (in layers 1
    and 2) removed, three later calls, still absent; re-created with one byte; "/e" (layer 2
    only, with "/e/z") emptied, removed, re-created: empty, layer 2 still holds "/e/z".
  NOT PROVED: histories outside the disciplines; the `VfsPath`-level operations; existence of
  the reference tree `m0` (a hypothesis; exhibited for the concrete world).
-/
import VfsModel.Props.C03Overlay
namespace Vfs.C10
open Vfs Vfs.Overlay Vfs.C02 Vfs.C01 Vfs.C09

/-! ### the reference backend -/

section reference

theorem wf_runRef {m : FMap} (hm : WF m) (ops : List Mut) (hops : ∀ op ∈ ops, Abs op.path) :
    WF (runRef ops m).2 := by
  induction ops generalizing m with
  | nil => exact hm
  | cons op rest ih =>
    exact ih (wf_stepPhys hm op (hops op (by simp))) (fun o ho => hops o (by simp [ho]))

/-- the operations that can bring a path into existence -/
def Creates (p : Str) (op : Mut) : Prop := op = .createDir p ∨ ∃ bs, op = .write p bs

instance (p : Str) (op : Mut) : Decidable (Creates p op) := by
  cases op with
  | createDir q =>
    exact decidable_of_iff (q = p)
      ⟨fun h => Or.inl (by rw [h]), fun h => by
        rcases h with h | ⟨bs, h⟩
        · injection h
        · cases h⟩
  | write q bs =>
    exact decidable_of_iff (q = p)
      ⟨fun h => Or.inr ⟨bs, by rw [h]⟩, fun h => by
        rcases h with h | ⟨bs', h⟩
        · cases h
        · injection h⟩
  | append q bs => exact isFalse (fun h => by rcases h with h | ⟨bs', h⟩ <;> cases h)
  | removeFile q => exact isFalse (fun h => by rcases h with h | ⟨bs', h⟩ <;> cases h)
  | removeDir q => exact isFalse (fun h => by rcases h with h | ⟨bs', h⟩ <;> cases h)

theorem ref_step_keeps {m : FMap} (hm : WF m) (op : Mut) (hp : Abs op.path) {p : Str}
    (hne : op.path ≠ p) : (stepPhys m op).2.find? p = m.find? p := by
  have C := (primitive_contracts hm op hp).1
  cases hok : (stepPhys m op).1.isOk with
  | false => rw [C.unchanged hok]
  | true => exact (C.effect hok).2 p (fun h => hne h.symm)

/-- one call that does not create `p` leaves an absent `p` absent: away from `p` by
`ref_step_keeps`; at `p` the appending call fails and a removal leaves nothing -/
theorem ref_step_absent {m : FMap} (hm : WF m) (op : Mut) (hp : Abs op.path) {p : Str}
    (ha : Absent m p) (hnc : ¬ Creates p op) : Absent (stepPhys m op).2 p := by
  by_cases hq : op.path = p
  · have C := (primitive_contracts hm op hp).1
    cases hok : (stepPhys m op).1.isOk with
    | false => rw [C.unchanged hok]; exact ha
    | true =>
      have hnamed := (C.effect hok).1
      cases op with
      | createDir q => exact absurd (Or.inl (by rw [← hq]; rfl)) hnc
      | write q bs => exact absurd (Or.inr ⟨bs, by rw [← hq]; rfl⟩) hnc
      | append q bs =>
        simp only [Mut.path] at hq; subst hq
        exact absurd (C.ok_iff.1 hok) (not_isFile_of_absent ha)
      | removeFile q => simp only [Mut.path] at hq; subst hq; exact hnamed
      | removeDir q => simp only [Mut.path] at hq; subst hq; exact hnamed
  · show (stepPhys m op).2.find? p = none
    rw [ref_step_keeps hm op hp hq]; exact ha

/-- **an absent path stays absent through every history that does not create it** -/
theorem ref_history_absent {m : FMap} (hm : WF m) (ops : List Mut)
    (hops : ∀ op ∈ ops, Abs op.path) {p : Str} (ha : Absent m p)
    (hnc : ∀ op ∈ ops, ¬ Creates p op) : Absent (runRef ops m).2 p := by
  induction ops generalizing m with
  | nil => exact ha
  | cons op rest ih =>
    have hp := hops op (by simp)
    exact ih (wf_stepPhys hm op hp) (fun o ho => hops o (by simp [ho]))
      (ref_step_absent hm op hp ha (hnc op (by simp))) (fun o ho => hnc o (by simp [ho]))

/-- **a history with no operation at `p` keeps the entry of `p`** -/
theorem ref_history_keeps {m : FMap} (hm : WF m) (ops : List Mut)
    (hops : ∀ op ∈ ops, Abs op.path) {p : Str} (hne : ∀ op ∈ ops, op.path ≠ p) :
    (runRef ops m).2.find? p = m.find? p := by
  induction ops generalizing m with
  | nil => rfl
  | cons op rest ih =>
    have hp := hops op (by simp)
    show (runRef rest (stepPhys m op).2).2.find? p = _
    rw [ih (wf_stepPhys hm op hp) (fun o ho => hops o (by simp [ho]))
      (fun o ho => hne o (by simp [ho])), ref_step_keeps hm op hp (hne op (by simp))]

/-- in a well-formed tree nothing is below an absent path -/
theorem wf_children_absent {m : FMap} (hm : WF m) {p : Str} (ha : Absent m p) (n : Str)
    (hn : '/' ∉ n) : m.find? (p ++ '/' :: n) = none := by
  cases hf : m.find? (p ++ '/' :: n) with
  | none => rfl
  | some e =>
    obtain ⟨_, pe, hpe, _⟩ := hm.2 _ e hf (by simp)
    rw [parent_of_child p n hn, ha] at hpe; cases hpe

/-- a directory created by a successful `create_dir` is empty -/
theorem ref_createDir_fresh {m : FMap} (hm : WF m) {p : Str} (hp : Abs p)
    (hok : (stepPhys m (.createDir p)).1.isOk = true) :
    IsDir (stepPhys m (.createDir p)).2 p ∧
    ∀ n, '/' ∉ n → (stepPhys m (.createDir p)).2.find? (p ++ '/' :: n) = none := by
  have C := (primitive_contracts hm (.createDir p) hp).1
  obtain ⟨hnamed, hframe⟩ := C.effect hok
  have hpre := C.ok_iff.1 hok
  refine ⟨hnamed, fun n hn => ?_⟩
  have hne : p ++ '/' :: n ≠ p := by
    intro h0; have := congrArg List.length h0; simp at this
  rw [hframe _ hne]
  exact wf_children_absent hm hpre.2 n hn

theorem runRef_append (a b : List Mut) (m : FMap) :
    runRef (a ++ b) m = ((runRef a m).1 ++ (runRef b (runRef a m).2).1, (runRef b (runRef a m).2).2) := by
  induction a generalizing m with
  | nil => rfl
  | cons op rest ih => simp only [List.cons_append, runRef, ih]

theorem refO3Free_append (a b : List Mut) (m : FMap) :
    RefO3Free (a ++ b) m ↔ RefO3Free a m ∧ RefO3Free b (runRef a m).2 := by
  induction a generalizing m with
  | nil => simp [RefO3Free, runRef]
  | cons op rest ih => simp only [List.cons_append, RefO3Free, runRef, ih, and_assoc]

end reference

theorem runOverlay_append (fs : FS) (a b : List Mut) (w : World) :
    runOverlay fs (a ++ b) w =
      ((runOverlay fs a w).1 ++ (runOverlay fs b (runOverlay fs a w).2).1,
        (runOverlay fs b (runOverlay fs a w).2).2) := by
  induction a generalizing w with
  | nil => rfl
  | cons op rest ih => simp only [List.cons_append, runOverlay, ih]

/-- what `LowerSame` says for one layer: the layer is still there and every path has the same
entry up to its access time -/
theorem lowerSame_get {ms ms' : List FMap} (h : LowerSame ms ms') {k : Nat} {m : FMap}
    (hm : ms[k]? = some m) :
    ∃ m', ms'[k]? = some m' ∧ ∀ q, (m'.find? q).map stripAcc = (m.find? q).map stripAcc := by
  induction h generalizing k with
  | nil => simp at hm
  | @cons a a' ms ms' ha _ ih =>
    cases k with
    | zero => simp at hm; subst hm; exact ⟨a', rfl, ha⟩
    | succ k => simp at hm; simpa using ih hm

/-! ### histories through the overlay -/

section settingN
variable {w : World} {u idu : Nat} {mu : FMap} {is ids : List Nat} {ms : List FMap}
  (h : OWN w (u :: is) (idu :: ids) (mu :: ms)) (inv : OInv mu ms)
  (hv : ViewWF (oview (mu :: ms))) (m0 : FMap) (href : Refines (oview (mu :: ms)) m0)
include h inv hv href

/-- a history `pre ++ [c] ++ post` whose middle call `c` succeeds through the overlay, in three
stages of `overlay_refines_reference`: `c` succeeds on the reference tree as well, and the final
view refines the reference tree reached through the same three stages -/
theorem history_around (c : Mut) (pre post : List Mut)
    (hops : ∀ op ∈ pre ++ [c] ++ post, OpOK op) (hdisc : RefO3Free (pre ++ [c] ++ post) m0)
    (hok : (ostep (Overlay.fs (layersN (u :: is) (idu :: ids))) c
      (runOverlay (Overlay.fs (layersN (u :: is) (idu :: ids))) pre w).2).1.isOk = true) :
    ∃ mu' ms',
      OWN (runOverlay (Overlay.fs (layersN (u :: is) (idu :: ids))) (pre ++ [c] ++ post) w).2
        (u :: is) (idu :: ids) (mu' :: ms') ∧
      LowerSame ms ms' ∧ OInv mu' ms' ∧ ViewWF (oview (mu' :: ms')) ∧
      WF (runRef pre m0).2 ∧ (stepPhys (runRef pre m0).2 c).1.isOk = true ∧
      WF (stepPhys (runRef pre m0).2 c).2 ∧
      Refines (oview (mu' :: ms')) (runRef post (stepPhys (runRef pre m0).2 c).2).2 := by
  rw [refO3Free_append, refO3Free_append] at hdisc
  obtain ⟨⟨hd1, hd2⟩, hd3⟩ := hdisc
  rw [runRef_append] at hd3
  obtain ⟨mu1, ms1, hown1, hls1, inv1, hv1, _, _, _, href1⟩ :=
    overlay_refines_reference pre (fun o ho => hops o (by simp [ho])) h inv hv m0 href hd1
  obtain ⟨mu2, ms2, hown2, hls2, inv2, hv2, hoks2, _, _, href2⟩ :=
    overlay_refines_reference [c] (by simpa using hops c (by simp)) hown1 inv1 hv1 _ href1 hd2
  have hrefok : (stepPhys (runRef pre m0).2 c).1.isOk = true := by
    simp only [runOverlay, runRef, List.map_cons, List.cons.injEq] at hoks2
    rw [← hoks2.1]; exact hok
  obtain ⟨mu3, ms3, hown3, hls3, inv3, hv3, _, _, _, href3⟩ :=
    overlay_refines_reference post (fun o ho => hops o (by simp [ho])) hown2 inv2 hv2 _ href2 hd3
  rw [runOverlay_append, runOverlay_append]
  exact ⟨mu3, ms3, hown3, (hls1.trans hls2).trans hls3, inv3, hv3, href1.wf, hrefok, href2.wf,
    href3⟩

/-- **removed_stays_absent_history.** `rm` is `remove_file p` or `remove_dir p` and SUCCEEDS
through the overlay. Then after every later finite history `ops` of disciplined mutators none of
which creates `p` (`Creates p op`: `create_dir p` or a write session on `p`; everything else is
allowed, with whatever outcome), `p` is absent from the view of the final world, every observer
of the overlay says so, and the lower layers hold what they held (up to access stamps). -/
theorem removed_stays_absent_history (p : Str) (rm : Mut)
    (hrm : rm = .removeFile p ∨ rm = .removeDir p) (ops : List Mut)
    (hops : ∀ op ∈ rm :: ops, OpOK op) (hnc : ∀ op ∈ ops, ¬ Creates p op)
    (hdisc : RefO3Free (rm :: ops) m0)
    (hok : (ostep (Overlay.fs (layersN (u :: is) (idu :: ids))) rm w).1.isOk = true) :
    let fs := Overlay.fs (layersN (u :: is) (idu :: ids))
    let w' := (runOverlay fs (rm :: ops) w).2
    ∃ mu' ms',
      OWN w' (u :: is) (idu :: ids) (mu' :: ms') ∧ LowerSame ms ms' ∧ OInv mu' ms' ∧
      ViewWF (oview (mu' :: ms')) ∧
      oview (mu' :: ms') p = none ∧
      fs.exists_ p w' = (.ok false, w') ∧
      fs.metadata p w' = (.err .fileNotFound none, w') ∧
      fs.readDir p w' = (.err .fileNotFound none, w') ∧
      fs.openFile p w' = (.err .fileNotFound none, w') := by
  intro fs w'
  have hpath : rm.path = p := by rcases hrm with rfl | rfl <;> rfl
  obtain ⟨ds, n, hpth, hp⟩ := hops rm (by simp)
  rw [hpath] at hp
  -- the history is `[] ++ [rm] ++ ops`
  obtain ⟨mu', ms', hown, hls, inv', hv', hwf0, hrefok, hwf1, href'⟩ :=
    history_around h inv hv m0 href rm [] ops hops hdisc hok
  have hgone : Absent (stepPhys m0 rm).2 p := by
    have := ((primitive_contracts hwf0 rm (opOK_abs (hops rm (by simp)))).1.effect hrefok).1
    rcases hrm with rfl | rfl <;> exact this
  have hfin : Absent (runRef ops (stepPhys m0 rm).2).2 p :=
    ref_history_absent hwf1 ops (fun o ho => opOK_abs (hops o (by simp [ho]))) hgone hnc
  have hview : oview (mu' :: ms') p = none :=
    (none_of_vcore (href'.same p (by rw [hp]; exact Or.inr hpth.nr))).2 hfin
  refine ⟨mu', ms', hown, hls, inv', hv', hview, ?_⟩
  subst hp
  exact C05.overlay_absent_all_fail hown inv' hpth hview

/-- **recreated_file_fresh_history.** In a history `pre ++ [write p bs] ++ post` — `pre`
arbitrary, e.g. the removal of `p` followed by anything — where the write session succeeds and no
operation of `post` is at `p`: the final view shows at `p` a file with exactly `bs`, `open_file`
through the overlay serves exactly `bs`, and the lower layers hold what they held (old entry at
`p` included), up to access stamps. -/
theorem recreated_file_fresh_history (p : Str) (bs : Bytes) (pre post : List Mut)
    (hops : ∀ op ∈ pre ++ [.write p bs] ++ post, OpOK op) (hpost : ∀ op ∈ post, op.path ≠ p)
    (hdisc : RefO3Free (pre ++ [.write p bs] ++ post) m0)
    (hok : (ostep (Overlay.fs (layersN (u :: is) (idu :: ids))) (.write p bs)
      (runOverlay (Overlay.fs (layersN (u :: is) (idu :: ids))) pre w).2).1.isOk = true) :
    let fs := Overlay.fs (layersN (u :: is) (idu :: ids))
    let w' := (runOverlay fs (pre ++ [.write p bs] ++ post) w).2
    ∃ mu' ms',
      OWN w' (u :: is) (idu :: ids) (mu' :: ms') ∧ LowerSame ms ms' ∧ OInv mu' ms' ∧
      ViewWF (oview (mu' :: ms')) ∧
      VHasFile (oview (mu' :: ms')) p bs ∧
      (∃ w'', fs.openFile p w' = (.ok { content := bs, pos := 0 }, w'')) := by
  intro fs w'
  obtain ⟨ds, n, hpth, hp⟩ : OpOK (.write p bs) := hops _ (by simp)
  simp only [Mut.path] at hp
  obtain ⟨mu3, ms3, hown3, hls, inv3, hv3, hwf1, hrefok, hwf2, href3⟩ :=
    history_around h inv hv m0 href _ pre post hops hdisc hok
  have hpabs : Abs p := by rw [hp]; exact hpth.abs
  have hfile : HasFile (stepPhys (runRef pre m0).2 (.write p bs)).2 p bs :=
    ((primitive_contracts hwf1 (.write p bs) hpabs).1.effect hrefok).1
  have hkeep := ref_history_keeps hwf2 post
    (fun o ho => opOK_abs (hops o (by simp [ho]))) hpost
  have hvf : VHasFile (oview (mu3 :: ms3)) p bs := by
    apply (hasFile_of_vcore (href3.same p (by rw [hp]; exact Or.inr hpth.nr))).2
    show HasFile _ p bs
    unfold HasFile at hfile ⊢; rw [hkeep]; exact hfile
  refine ⟨mu3, ms3, hown3, hls, inv3, hv3, hvf, ?_⟩
  subst hp
  obtain ⟨w'', _, hopen, _⟩ := C05.overlay_read_returns_content hown3 hpth.ne hpth.good hvf
  exact ⟨w'', hopen⟩

/-- **recreated_dir_empty_history.** In a history `pre ++ [create_dir p] ++ post` where
`create_dir p` succeeds (so `p` was absent at that moment: removed before, or never present) and
no operation of `post` is at `p` or at a child of `p`: in the final view `p` is a directory
without children, `read_dir(p)` through the overlay answers the empty listing, and the lower
layers hold what they held — `p` and its old children included — up to access stamps. -/
theorem recreated_dir_empty_history (p : Str) (pre post : List Mut)
    (hops : ∀ op ∈ pre ++ [.createDir p] ++ post, OpOK op)
    (hpost : ∀ op ∈ post, op.path ≠ p ∧ parentInternal op.path ≠ p)
    (hdisc : RefO3Free (pre ++ [.createDir p] ++ post) m0)
    (hok : (ostep (Overlay.fs (layersN (u :: is) (idu :: ids))) (.createDir p)
      (runOverlay (Overlay.fs (layersN (u :: is) (idu :: ids))) pre w).2).1.isOk = true) :
    let fs := Overlay.fs (layersN (u :: is) (idu :: ids))
    let w' := (runOverlay fs (pre ++ [.createDir p] ++ post) w).2
    ∃ mu' ms',
      OWN w' (u :: is) (idu :: ids) (mu' :: ms') ∧ LowerSame ms ms' ∧ OInv mu' ms' ∧
      ViewWF (oview (mu' :: ms')) ∧
      VIsDir (oview (mu' :: ms')) p ∧ VNoChildren (oview (mu' :: ms')) p ∧
      fs.readDir p w' = (.ok [], w') := by
  intro fs w'
  obtain ⟨ds, n, hpth, hp⟩ : OpOK (.createDir p) := hops _ (by simp)
  simp only [Mut.path] at hp
  obtain ⟨mu3, ms3, hown3, hls, inv3, hv3, hwf1, hrefok, hwf2, href3⟩ :=
    history_around h inv hv m0 href _ pre post hops hdisc hok
  have hpabs : Abs p := by rw [hp]; exact hpth.abs
  obtain ⟨hdir2, hnoc2⟩ := ref_createDir_fresh hwf1 hpabs hrefok
  have habs3 : ∀ op ∈ post, Abs op.path := fun o ho => opOK_abs (hops o (by simp [ho]))
  have hvd : VIsDir (oview (mu3 :: ms3)) p := by
    apply (isDir_of_vcore (href3.same p (by rw [hp]; exact Or.inr hpth.nr))).2
    show IsDir _ p
    unfold IsDir
    rw [ref_history_keeps hwf2 post habs3 (fun o ho => (hpost o ho).1)]
    exact hdir2
  have hvn : VNoChildren (oview (mu3 :: ms3)) p := by
    intro x hx
    refine (none_of_vcore (href3.same _ ?_)).2 ?_
    · rw [hp]; exact Or.inr (NR_child hpth.ne (good_noSlash hpth.good) hpth.head x)
    · show (runRef post _).2.find? _ = none
      rw [ref_history_keeps hwf2 post habs3]
      · exact hnoc2 x hx
      · intro o ho h0
        apply (hpost o ho).2
        rw [h0]; exact parent_of_child p x hx
  refine ⟨mu3, ms3, hown3, hls, inv3, hv3, hvd, hvn, ?_⟩
  subst hp
  rw [C05.overlay_readDir_spec hown3 inv3 _ hpth.good hpth.nowo]
  obtain ⟨e, he, hde⟩ := hvd
  rw [he]
  simp only [hde, if_true]
  rw [(inv3.listing_nil_iff (renderC_ne_nil hpth.ne)).2 hvn]

/-- **recreated_starts_fresh_history** (the two theorems above in one statement). The history
re-creates `p` by `c` = a write session with `bs`, or `create_dir p`; `c` succeeds; afterwards no
operation is at `p` (for a directory: nor at a child of `p`). Then the final view shows exactly
`bs` (resp. an empty directory), and so do `open_file` (resp. `read_dir`) through the overlay;
the lower layers still hold what they held. -/
theorem recreated_starts_fresh_history (p : Str) (c : Mut)
    (hc : (∃ bs, c = .write p bs) ∨ c = .createDir p) (pre post : List Mut)
    (hops : ∀ op ∈ pre ++ [c] ++ post, OpOK op)
    (hpost : ∀ op ∈ post, op.path ≠ p ∧ (c = .createDir p → parentInternal op.path ≠ p))
    (hdisc : RefO3Free (pre ++ [c] ++ post) m0)
    (hok : (ostep (Overlay.fs (layersN (u :: is) (idu :: ids))) c
      (runOverlay (Overlay.fs (layersN (u :: is) (idu :: ids))) pre w).2).1.isOk = true) :
    let fs := Overlay.fs (layersN (u :: is) (idu :: ids))
    let w' := (runOverlay fs (pre ++ [c] ++ post) w).2
    ∃ mu' ms',
      OWN w' (u :: is) (idu :: ids) (mu' :: ms') ∧ LowerSame ms ms' ∧ OInv mu' ms' ∧
      ViewWF (oview (mu' :: ms')) ∧
      (∀ bs, c = .write p bs → VHasFile (oview (mu' :: ms')) p bs ∧
        ∃ w'', fs.openFile p w' = (.ok { content := bs, pos := 0 }, w'')) ∧
      (c = .createDir p → VIsDir (oview (mu' :: ms')) p ∧ VNoChildren (oview (mu' :: ms')) p ∧
        fs.readDir p w' = (.ok [], w')) := by
  intro fs w'
  rcases hc with ⟨bs, rfl⟩ | rfl
  · obtain ⟨mu', ms', a, b, c1, d, e, f⟩ := recreated_file_fresh_history h inv hv m0 href p bs pre
      post hops (fun o ho => (hpost o ho).1) hdisc hok
    refine ⟨mu', ms', a, b, c1, d, ?_, fun h0 => by cases h0⟩
    intro bs' hbs
    injection hbs with _ hbs
    subst hbs
    exact ⟨e, f⟩
  · obtain ⟨mu', ms', a, b, c1, d, e, f, g⟩ := recreated_dir_empty_history h inv hv m0 href p pre
      post hops (fun o ho => ⟨(hpost o ho).1, (hpost o ho).2 rfl⟩) hdisc hok
    exact ⟨mu', ms', a, b, c1, d, fun bs h0 => (by cases h0), fun _ => ⟨e, f, g⟩⟩

end settingN

/-! ### non-vacuity: the 3-layer world of Props/C09Refine.lean

upper (leaf 2): "/top"; layer 1 (leaf 0): "/d", "/d/x" = "1", "/d/b"; layer 2 (leaf 1): "/d",
"/d/x" = "2", "/d/c", "/e", "/e/z". -/

section example3

/-- "/d/x" lives in BOTH lower layers. It is removed; a directory is created, "/d/c" is appended
to (copy-up), "/d/x" itself is tried with `append` and `remove_file` (allowed: they do not create
it; both fail): still absent -/
def hOps1 : List Mut :=
  [.createDir "/q".toList, .append "/d/c".toList [9], .append "/d/x".toList [7],
   .removeFile "/d/x".toList, .write "/d/y".toList [1]]

theorem x_removed_stays_absent :
    ∃ mu' ms',
      OWN (runOverlay xfs (.removeFile "/d/x".toList :: hOps1) xw).2 [2, 0, 1] [7, 8, 9]
        (mu' :: ms') ∧
      LowerSame [xA, xB] ms' ∧ oview (mu' :: ms') "/d/x".toList = none := by
  obtain ⟨mu', ms', a, b, _, _, c, _⟩ := removed_stays_absent_history xw_setting xw_inv xw_viewWF xRef xw_refines "/d/x".toList
    (.removeFile "/d/x".toList) (Or.inl rfl) hOps1
    (by intro op hop; apply opOK_of_check; revert op; decide +kernel)
    (by decide) (by rw [xRef_chars]; decide +kernel) (by rw [xw_chars]; decide +kernel)
  exact ⟨mu', ms', a, b, c⟩

/-- evaluated independently: absent at the end, while layers 1 and 2 still hold their bytes -/
example : (xfs.exists_ "/d/x".toList
    (runOverlay xfs (.removeFile "/d/x".toList :: hOps1) xw).2).1 = .ok false := by
  rw [xw_chars]; decide +kernel
example : (mapsOfN (runOverlay xfs (.removeFile "/d/x".toList :: hOps1) xw).2 [0, 1]).map
    (fun m => (m.find? "/d/x".toList).map (·.content)) = [some [49], some [50]] := by
  rw [xw_chars]; decide +kernel

/-- re-created as a file with one byte, after the removal and an unrelated call; later calls
elsewhere -/
theorem x_recreated_file :
    ∃ mu' ms',
      OWN (runOverlay xfs ([.removeFile "/d/x".toList, .createDir "/q".toList] ++
        [.write "/d/x".toList [85]] ++ [.append "/d/c".toList [9]]) xw).2 [2, 0, 1] [7, 8, 9]
        (mu' :: ms') ∧
      LowerSame [xA, xB] ms' ∧ VHasFile (oview (mu' :: ms')) "/d/x".toList [85] := by
  obtain ⟨mu', ms', a, b, _, _, c, _⟩ := recreated_file_fresh_history xw_setting xw_inv xw_viewWF xRef xw_refines "/d/x".toList [85]
    [.removeFile "/d/x".toList, .createDir "/q".toList] [.append "/d/c".toList [9]]
    (by intro op hop; apply opOK_of_check; revert op; decide +kernel)
    (by decide) (by rw [xRef_chars]; decide +kernel) (by rw [xw_chars]; decide +kernel)
  exact ⟨mu', ms', a, b, c⟩

example : readAllN xfs "/d/x"
    (runOverlay xfs ([.removeFile "/d/x".toList, .createDir "/q".toList] ++
      [.write "/d/x".toList [85]] ++ [.append "/d/c".toList [9]]) xw).2 = .ok [85] := by
  rw [xw_chars]; decide +kernel

/-- "/e" exists only in layer 2, with the child "/e/z": emptied, removed, re-created — empty,
although layer 2 still holds "/e" and "/e/z" -/
theorem x_recreated_dir :
    ∃ mu' ms',
      OWN (runOverlay xfs ([.removeFile "/e/z".toList, .removeDir "/e".toList] ++
        [.createDir "/e".toList] ++ [.write "/d/y".toList [1]]) xw).2 [2, 0, 1] [7, 8, 9]
        (mu' :: ms') ∧
      LowerSame [xA, xB] ms' ∧ VIsDir (oview (mu' :: ms')) "/e".toList ∧
      VNoChildren (oview (mu' :: ms')) "/e".toList := by
  obtain ⟨mu', ms', a, b, _, _, c, d, _⟩ := recreated_dir_empty_history xw_setting xw_inv xw_viewWF xRef xw_refines "/e".toList
    [.removeFile "/e/z".toList, .removeDir "/e".toList] [.write "/d/y".toList [1]]
    (by intro op hop; apply opOK_of_check; revert op; decide +kernel)
    (by decide) (by rw [xRef_chars]; decide +kernel) (by rw [xw_chars]; decide +kernel)
  exact ⟨mu', ms', a, b, c, d⟩

example : (mapsOfN (runOverlay xfs ([.removeFile "/e/z".toList, .removeDir "/e".toList] ++
      [.createDir "/e".toList] ++ [.write "/d/y".toList [1]]) xw).2 [1]).map
    (fun m => ((m.find? "/e".toList).isSome, (m.find? "/e/z".toList).map (·.content)))
      = [(true, some [90])] := by
  rw [xw_chars]; decide +kernel

end example3

end Vfs.C10

section audit
open Vfs.C10
#print axioms ref_history_absent
#print axioms ref_history_keeps
#print axioms ref_createDir_fresh
#print axioms removed_stays_absent_history
#print axioms recreated_file_fresh_history
#print axioms recreated_dir_empty_history
#print axioms recreated_starts_fresh_history
#print axioms x_removed_stays_absent
#print axioms x_recreated_file
#print axioms x_recreated_dir
end audit
