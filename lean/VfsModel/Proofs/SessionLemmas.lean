/-
  Write sessions for C04 ("files return exactly the bytes that were written"): a handle opened with
  `create_file` or `append_file`, any writes, seeks and flushes, drop. Used by Props/C04Sessions.lean
  (memory leaf, altroot, copy/move), Props/C04Overlay.lean and Props/C04OverlaySessions.lean.

  The specification (`specWrite`, `specSeek`, `specStep`, `specRun`, `C14.specFlushed`, `specSession`,
  `specSessions`) is `std::io::Cursor<Vec<u8>>` as std documents it, the buffer of `WritableFile` in
  /repo/src/impls/memory.rs; none of the model's handle code (`cursorWrite`, `cursorSeek`, `WHandle.*`)
  occurs in it. `specWrite_eq_cursorWrite` and `specSeek_eq_cursorSeek` connect the two and are used
  only in proofs; `specSeek` is the function `seekPos` of Props/C14.lean (`specSeek_eq_seekPos`).
  `C14.specFlushed`, the name under which C14's write-script theorems speak of the file while the
  handle is open, is defined here because `applyActs_mem` below, on which both they and C04's
  sessions rest, is stated with it (`C14.specFlushed_flush_last`: right after a flush it is the
  vector, which is how `OpensMem.flush` reads the state in the middle of a session off
  `applyActs_mem`). The alphabet `Act` is `C03.HAct`; `Session.run` is
  `Op.writeSession` / `Op.appendSession` of Props/C03Stack.lean.

  The model side. `applyActs` runs a script through a handle without the drop; `Holds m p c` says what
  the map holds at `p` (nothing, or a file with bytes `c`). `section mem`: on the in-memory handle
  `memH i p buf pos` every action is the specification's step (`apply_*_mem`, `applyActs_mem_fst`), a
  rejected seek is a no-op (`runActs_seek_fail`), and over a memory leaf flush and drop publish the
  vector (`applyActs_mem`, `runActs_mem`). `section opensOnLeaf`: the three opens of a memory leaf in
  closed form (`openFile_mem_iff`, `createFile_mem_iff`, `appendFile_mem_iff`). `OpensMem` is what a
  session needs of the open of whatever filesystem it runs on; `OpensMem.session` and `OpensMem.flush`
  are the session theorems over it, and `read_back` is what a client then reads from the path.
-/
import VfsModel.Props.C04
import VfsModel.Props.C03Stack
import VfsModel.Proofs.RunEq
import VfsModel.Proofs.HandleLemmas
namespace Vfs.C04
open Vfs.C14

abbrev Act := Vfs.C03.HAct

/-- `Cursor<Vec<u8>>::write` at position `pos`: bytes before `pos` stay (a gap between the end of
the vector and `pos` is filled with zeros), the bytes are written over what is there, and the
vector is extended if they reach past its end. -/
def specWrite : Bytes → Nat → Bytes → Bytes
  | buf, 0, bs => bs ++ buf.drop bs.length
  | [], n + 1, bs => 0 :: specWrite [] n bs
  | b :: buf, n + 1, bs => b :: specWrite buf n bs

/-- `Cursor::seek`: the new position, `none` for "invalid seek to a negative or overflowing
position" (`u64`). `Start` never fails. -/
def specSeek (len pos : Nat) : SeekFrom → Option Nat
  | .start o => some o
  | .cur o => if (pos : Int) + o < 0 ∨ (pos : Int) + o ≥ 18446744073709551616 then none
              else some ((pos : Int) + o).toNat
  | .fromEnd o => if (len : Int) + o < 0 ∨ (len : Int) + o ≥ 18446744073709551616 then none
                  else some ((len : Int) + o).toNat

def specStep (st : Bytes × Nat) : Act → Bytes × Nat
  | .write bs => (specWrite st.1 st.2 bs, st.2 + bs.length)
  | .flush => st
  | .seek s =>
    match specSeek st.1.length st.2 s with
    | some n => (st.1, n)
    | none => st

def specRun (buf : Bytes) (pos : Nat) (acts : List Act) : Bytes × Nat :=
  acts.foldl specStep (buf, pos)

/-- what the FILE holds while the handle is still open: the vector as of the last `flush` of the
script (`init`, what it held before, if the script has no flush) -/
def _root_.Vfs.C14.specFlushed (init buf : Bytes) (pos : Nat) : List Act → Bytes
  | [] => init
  | .flush :: rest => specFlushed buf buf pos rest
  | .write bs :: rest =>
    specFlushed init (specStep (buf, pos) (.write bs)).1 (specStep (buf, pos) (.write bs)).2 rest
  | .seek s :: rest =>
    specFlushed init (specStep (buf, pos) (.seek s)).1 (specStep (buf, pos) (.seek s)).2 rest

/-- one completed write session on a path: opened with `create_file` (truncate) or with
`append_file`, any actions, drop -/
inductive Session where
  | create (acts : List Act)
  | append (acts : List Act)

def Session.acts : Session → List Act
  | .create a => a
  | .append a => a

/-- the content of the path after one session, `none` = the path does not exist; `append_file` on an
absent path fails (`FileNotFound`) and the path stays absent -/
def specSession : Option Bytes → Session → Option Bytes
  | _, .create acts => some (specRun [] 0 acts).1
  | some old, .append acts => some (specRun old old.length acts).1
  | none, .append _ => none

def specSessions (c : Option Bytes) (ss : List Session) : Option Bytes := ss.foldl specSession c

theorem specRun_nil (buf : Bytes) (pos : Nat) : specRun buf pos [] = (buf, pos) := rfl

theorem specRun_cons (buf : Bytes) (pos : Nat) (a : Act) (rest : List Act) :
    specRun buf pos (a :: rest) = specRun (specStep (buf, pos) a).1 (specStep (buf, pos) a).2 rest := rfl

theorem specRun_append (buf : Bytes) (pos : Nat) (a b : List Act) :
    specRun buf pos (a ++ b) = specRun (specRun buf pos a).1 (specRun buf pos a).2 b := by
  unfold specRun; rw [List.foldl_append]

theorem specRun_snoc (buf : Bytes) (pos : Nat) (pre : List Act) (a : Act) :
    specRun buf pos (pre ++ [a]) = specStep (specRun buf pos pre) a := by
  rw [specRun_append]; rfl

theorem specRun_seek_fail {buf : Bytes} {pos : Nat} {pre : List Act} {sk : SeekFrom}
    (hfail : specSeek (specRun buf pos pre).1.length (specRun buf pos pre).2 sk = none)
    (post : List Act) :
    specRun buf pos (pre ++ .seek sk :: post) = specRun buf pos (pre ++ post) := by
  rw [specRun_append, specRun_append, specRun_cons]
  simp only [specStep, hfail]

theorem _root_.Vfs.C14.specFlushed_flush_last (init buf : Bytes) (pos : Nat) (acts : List Act) :
    specFlushed init buf pos (acts ++ [.flush]) = (specRun buf pos acts).1 := by
  induction acts generalizing init buf pos with
  | nil => rfl
  | cons a rest ih =>
    cases a with
    | write bs => simp only [List.cons_append, specFlushed, specRun_cons, ih]
    | flush => simp only [List.cons_append, specFlushed, specRun_cons, ih]; rfl
    | seek s => simp only [List.cons_append, specFlushed, specRun_cons, ih]

theorem specSessions_nil (c : Option Bytes) : specSessions c [] = c := rfl

theorem specSessions_cons (c : Option Bytes) (s : Session) (ss : List Session) :
    specSessions c (s :: ss) = specSessions (specSession c s) ss := rfl

theorem specSessions_append (c : Option Bytes) (a b : List Session) :
    specSessions c (a ++ b) = specSessions (specSessions c a) b := by
  unfold specSessions; rw [List.foldl_append]

theorem cursorWrite_zero (buf bs : Bytes) : cursorWrite buf 0 bs = bs ++ buf.drop bs.length := by
  unfold cursorWrite padTo; simp

theorem cursorWrite_nil_succ (n : Nat) (bs : Bytes) :
    cursorWrite [] (n + 1) bs = 0 :: cursorWrite [] n bs := by
  unfold cursorWrite padTo
  simp [List.replicate_succ, List.drop_replicate]

theorem cursorWrite_cons_succ (b : UInt8) (buf : Bytes) (n : Nat) (bs : Bytes) :
    cursorWrite (b :: buf) (n + 1) bs = b :: cursorWrite buf n bs := by
  unfold cursorWrite padTo
  simp [Nat.add_right_comm n 1 bs.length]

theorem specWrite_eq_cursorWrite (buf : Bytes) (pos : Nat) (bs : Bytes) :
    specWrite buf pos bs = cursorWrite buf pos bs := by
  induction pos generalizing buf with
  | zero => rw [cursorWrite_zero]; cases buf <;> rfl
  | succ n ih =>
    cases buf with
    | nil => rw [cursorWrite_nil_succ, ← ih]; rfl
    | cons b buf => rw [cursorWrite_cons_succ, ← ih]; rfl

theorem specSeek_eq_seekPos : @specSeek = @seekPos := by
  funext len pos s; cases s <;> rfl

theorem specSeek_eq_cursorSeek (len pos : Nat) (s : SeekFrom) :
    cursorSeek len pos s = (match specSeek len pos s with
      | some n => .ok n
      | none => fail .io) := by
  rw [specSeek_eq_seekPos]; exact cursorSeek_eq_seekPos len pos s

theorem specWrite_length (buf : Bytes) (pos : Nat) (bs : Bytes) :
    (specWrite buf pos bs).length = max buf.length (pos + bs.length) := by
  rw [specWrite_eq_cursorWrite]; exact write_length buf pos bs

theorem specWrite_at (buf : Bytes) (pos : Nat) (bs : Bytes) :
    ((specWrite buf pos bs).drop pos).take bs.length = bs := by
  rw [specWrite_eq_cursorWrite]; exact write_at buf pos bs

theorem specWrite_end (buf bs : Bytes) : specWrite buf buf.length bs = buf ++ bs := by
  rw [specWrite_eq_cursorWrite]; exact write_at_end buf bs

theorem specWrite_fresh (bs : Bytes) : specWrite [] 0 bs = bs := by
  simp [specWrite]

theorem specRun_writes (buf : Bytes) (chunks : List Bytes) :
    specRun buf buf.length (chunks.map fun b => (.write b : Act)) =
      (buf ++ chunks.flatten, (buf ++ chunks.flatten).length) := by
  induction chunks generalizing buf with
  | nil => simp [specRun]
  | cons c cs ih =>
    rw [List.map_cons, specRun_cons]
    simp only [specStep, specWrite_end]
    have := ih (buf ++ c)
    rw [List.length_append] at this
    rw [this]
    simp

def applyActs (h : WHandle) (w : World) : List Act → WHandle × World
  | [] => (h, w)
  | a :: rest => applyActs (a.apply h w).1 (a.apply h w).2 rest

theorem applyActs_append (h : WHandle) (w : World) (a b : List Act) :
    applyActs h w (a ++ b) = applyActs (applyActs h w a).1 (applyActs h w a).2 b := by
  induction a generalizing h w with
  | nil => rfl
  | cons x xs ih => simp only [List.cons_append, applyActs, ih]

theorem runActs_eq_applyActs (h : WHandle) (w : World) (acts : List Act) :
    C03.runActs h acts w = (applyActs h w acts).1.drop (applyActs h w acts).2 := by
  induction acts generalizing h w with
  | nil => rfl
  | cons a rest ih => simp only [C03.runActs, applyActs, ih]

theorem runActs_append (h : WHandle) (w : World) (a b : List Act) :
    C03.runActs h (a ++ b) w = C03.runActs (applyActs h w a).1 b (applyActs h w a).2 := by
  rw [runActs_eq_applyActs, applyActs_append, ← runActs_eq_applyActs]

theorem seek_fail_noop (h : WHandle) (s : SeekFrom) (w : World)
    (hf : (h.seek s w).1.isOk = false) : (C03.HAct.seek s).apply h w = (h, w) := by
  show (match h.seek s w with
    | (.ok (_, h'), w') => (h', w')
    | (_, w') => (h, w')) = (h, w)
  revert hf
  rw [WHandle.seek_eq]
  cases cursorSeek (h.fileLen w) h.pos s with
  | ok n => exact nofun
  | err k p => exact fun _ => rfl
  | panic => exact fun _ => rfl

theorem seek_world (h : WHandle) (s : SeekFrom) (w : World) :
    ((C03.HAct.seek s).apply h w).2 = w := by
  show (match h.seek s w with
    | (.ok (_, h'), w') => (h', w')
    | (_, w') => (h, w')).2 = w
  rw [WHandle.seek_eq]
  cases cursorSeek (h.fileLen w) h.pos s <;> rfl

def Holds (m : FMap) (p : Str) : Option Bytes → Prop
  | none => m.find? p = none
  | some bs => ∃ e, m.find? p = some e ∧ e.ftype = .file ∧ e.content = bs

theorem Holds.unique {m : FMap} {p : Str} {a b : Option Bytes} (ha : Holds m p a)
    (hb : Holds m p b) : a = b := by
  cases a with
  | none =>
    cases b with
    | none => rfl
    | some y => obtain ⟨e, he, _⟩ := hb; simp only [Holds] at ha; rw [ha] at he; cases he
  | some x =>
    obtain ⟨e, he, _, hc⟩ := ha
    cases b with
    | none => simp only [Holds] at hb; rw [hb] at he; cases he
    | some y =>
      obtain ⟨e', he', _, hc'⟩ := hb
      rw [he] at he'; injection he' with he'; subst he'
      rw [← hc, ← hc']

theorem Holds.ne_of_dir {m : FMap} {p k : Str} {c : Option Bytes} {pe : Entry} (h : Holds m p c)
    (hk : m.find? k = some pe) (hd : pe.ftype = .dir) : k ≠ p := by
  intro heq
  subst heq
  cases c with
  | none => simp only [Holds] at h; rw [h] at hk; cases hk
  | some bs =>
    obtain ⟨e, he, hf, _⟩ := h
    rw [he] at hk; injection hk with hk; subst hk; rw [hf] at hd; cases hd

theorem Holds.congr {m m' : FMap} {p : Str} {c : Option Bytes} (h : Holds m p c)
    (heq : m'.find? p = m.find? p) : Holds m' p c := by
  cases c with
  | none => simp only [Holds] at h ⊢; rw [heq]; exact h
  | some bs => obtain ⟨e, he, hf, hc⟩ := h; exact ⟨e, by rw [heq]; exact he, hf, hc⟩

theorem holds_memPublish {m : FMap} {p : Str} {e : Entry} (he : m.find? p = some e)
    (hf : e.ftype = .file) (buf : Bytes) : Holds (memPublish m p buf) p (some buf) :=
  find?_memPublish_self m p buf e he hf

section mem
variable {i : Nat} {p : Str}

abbrev memH (i : Nat) (p : Str) (buf : Bytes) (pos : Nat) : WHandle :=
  { leaf := i, key := p, kind := .memFile, buf := buf, pos := pos }

theorem apply_write_mem (buf : Bytes) (pos : Nat) (bs : Bytes) (w : World) :
    (C03.HAct.write bs).apply (memH i p buf pos) w =
      (memH i p (specWrite buf pos bs) (pos + bs.length), w) := by
  rw [specWrite_eq_cursorWrite]; rfl

theorem apply_seek_mem (buf : Bytes) (pos : Nat) (s : SeekFrom) (w : World) :
    (C03.HAct.seek s).apply (memH i p buf pos) w =
      (memH i p buf (specStep (buf, pos) (.seek s)).2, w) := by
  show (match (memH i p buf pos).seek s w with
    | (.ok (_, h'), w') => (h', w')
    | (_, w') => (memH i p buf pos, w')) = _
  rw [WHandle.seek_mem _ rfl]
  simp only [specStep, specSeek_eq_cursorSeek]
  cases specSeek buf.length pos s <;> rfl

theorem specStep_seek_fst (buf : Bytes) (pos : Nat) (s : SeekFrom) :
    (specStep (buf, pos) (.seek s)).1 = buf := by
  unfold specStep; simp only; split <;> rfl

theorem apply_mem_handle (a : Act) (buf : Bytes) (pos : Nat) (w : World) :
    (a.apply (memH i p buf pos) w).1 =
      memH i p (specStep (buf, pos) a).1 (specStep (buf, pos) a).2 := by
  cases a with
  | write bs => rw [apply_write_mem]; rfl
  | flush => rfl
  | seek s => rw [apply_seek_mem, specStep_seek_fst]

theorem applyActs_mem_fst (buf : Bytes) (pos : Nat) (acts : List Act) (w : World) :
    (applyActs (memH i p buf pos) w acts).1 =
      memH i p (specRun buf pos acts).1 (specRun buf pos acts).2 := by
  induction acts generalizing buf pos w with
  | nil => rfl
  | cons a rest ih => rw [applyActs, apply_mem_handle, ih, specRun_cons]

theorem runActs_seek_fail (buf : Bytes) (pos : Nat) (pre post : List Act) (sk : SeekFrom)
    (hfail : specSeek (specRun buf pos pre).1.length (specRun buf pos pre).2 sk = none)
    (w : World) :
    C03.runActs (memH i p buf pos) (pre ++ .seek sk :: post) w =
      C03.runActs (memH i p buf pos) (pre ++ post) w := by
  rw [runActs_append, runActs_append, applyActs_mem_fst]
  simp only [C03.runActs]
  rw [apply_seek_mem]
  simp only [specStep, hfail]

theorem apply_flush_mem {m : FMap} {w : World} (h : MemLeafAt w i m) (buf : Bytes) (pos : Nat) :
    C03.HAct.flush.apply (memH i p buf pos) w =
      (memH i p buf pos, w.setLeafFiles i (memPublish m p buf)) := by
  show (memH i p buf pos, ((memH i p buf pos).drop w).2) = _
  rw [run_dropMem h]

theorem applyActs_mem {m : FMap} {w : World} (h : MemLeafAt w i m) (e : Entry)
    (he : m.find? p = some e) (hf : e.ftype = .file) (buf : Bytes) (pos : Nat) (acts : List Act) :
    ∃ m', applyActs (memH i p buf pos) w acts =
        (memH i p (specRun buf pos acts).1 (specRun buf pos acts).2, w.setLeafFiles i m') ∧
      Holds m' p (some (specFlushed e.content buf pos acts)) ∧
      (∀ k, k ≠ p → m'.find? k = m.find? k) := by
  induction acts generalizing buf pos m w e with
  | nil => exact ⟨m, by rw [h.same]; rfl, ⟨e, he, hf, rfl⟩, fun _ _ => rfl⟩
  | cons a rest ih =>
    cases a with
    | write bs =>
      rw [applyActs, apply_write_mem]
      exact ih h e he hf _ _
    | seek s =>
      rw [applyActs, apply_seek_mem, specRun_cons, specFlushed, specStep_seek_fst]
      exact ih h e he hf _ _
    | flush =>
      obtain ⟨e1, he1, hf1, hc1⟩ := holds_memPublish he hf buf
      obtain ⟨m', h1, h2, h3⟩ := ih (h.set (memPublish m p buf)) e1 he1 hf1 buf pos
      rw [hc1] at h2
      refine ⟨m', ?_, h2, fun k hk => by rw [h3 k hk, find?_memPublish_ne _ _ _ _ hk]⟩
      rw [applyActs, apply_flush_mem h]
      simp only
      rw [h1, World.setLeafFiles_twice]
      rfl

theorem runActs_mem {m : FMap} {w : World} (h : MemLeafAt w i m) (e : Entry)
    (he : m.find? p = some e) (hf : e.ftype = .file) (buf : Bytes) (pos : Nat) (acts : List Act) :
    ∃ m', C03.runActs (memH i p buf pos) acts w = (.ok (), w.setLeafFiles i m') ∧
      Holds m' p (some (specRun buf pos acts).1) ∧
      (∀ k, k ≠ p → m'.find? k = m.find? k) := by
  obtain ⟨m1, h1, ⟨e1, he1, hf1, _⟩, h3⟩ := applyActs_mem h e he hf buf pos acts
  refine ⟨memPublish m1 p (specRun buf pos acts).1, ?_, holds_memPublish he1 hf1 _,
    fun k hk => by rw [find?_memPublish_ne _ _ _ _ hk, h3 k hk]⟩
  rw [runActs_eq_applyActs, h1]
  simp only
  rw [run_dropMem (h.set m1), World.setLeafFiles_twice]

end mem

theorem Holds.file_of_find {m : FMap} {p : Str} {c : Option Bytes} {e : Entry} (h : Holds m p c)
    (he : m.find? p = some e) : e.ftype = .file := by
  cases c with
  | none => simp only [Holds] at h; rw [h] at he; cases he
  | some bs =>
    obtain ⟨e', he', hf, _⟩ := h
    rw [he] at he'; injection he' with he'; subst he'; exact hf

theorem _root_.Vfs.Res.map_eq_ok {α β} {f : α → β} {r : Res α} {b : β} (h : r.map f = .ok b) :
    ∃ a, r = .ok a ∧ f a = b := by
  cases r with
  | ok a => exact ⟨a, rfl, Res.ok.inj h⟩
  | err k q => cases h
  | panic => cases h

section opensOnLeaf
variable {w : World} {i : Nat} {m : FMap} (h : MemLeafAt w i m)
include h

/-- `open_file` of a memory leaf succeeds exactly on a file, with the fresh reader over its bytes;
the one change of the world is the access stamp of that entry -/
theorem openFile_mem_iff (p : Str) (r : RHandle) (w' : World) :
    (leafFS i).openFile p w = (.ok r, w') ↔
      ∃ e, m.find? p = some e ∧ e.ftype = .file ∧ r = { content := e.content, pos := 0 } ∧
        w' = w.setLeafFiles i (m.insert p { e with accessed := .now }) := by
  rw [run_openFile h, Mem.openFile_eq]
  constructor
  · intro ho
    obtain ⟨e, he, hf, hr, hw⟩ := Mem.openFileS_ok _ (congrArg Prod.fst ho)
    have h2 : w.setLeafFiles i _ = w' := congrArg Prod.snd ho
    exact ⟨e, he, hf, hr, by rw [← h2]; simp only [onSlot, hw]; rfl⟩
  · rintro ⟨e, he, hf, rfl, rfl⟩
    simp [he, Mem.openFileS, onSlot, hf, Write.app]

/-- `create_file` of a memory leaf succeeds exactly when the parent is a directory and the path is
not one; it hands out the empty in-memory handle and leaves an empty file at the path -/
theorem createFile_mem_iff (p : Str) (hd : WHandle) (w' : World) :
    (leafFS i).createFile p w = (.ok hd, w') ↔
      Mem.par m p = true ∧ (∀ e, m.find? p = some e → e.ftype = .file) ∧ hd = memH i p [] 0 ∧
        w' = w.setLeafFiles i (m.insert p fileEntryNow) := by
  rw [run_createFile h, Mem.createFile_eq]
  constructor
  · intro ho
    obtain ⟨u, hr, hh⟩ := Res.map_eq_ok (congrArg Prod.fst ho)
    have h2 := congrArg Prod.snd ho
    simp only [onSlot] at hr h2
    obtain ⟨hp, hft, hw⟩ := Mem.createFileS_ok (par := Mem.par m p) (tgt := m.find? p) hr
    exact ⟨hp, hft, hh.symm, by rw [← h2, hw]; rfl⟩
  · rintro ⟨hp, hft, rfl, rfl⟩
    rcases hf : m.find? p with _ | e
    · simp [hp, Mem.createFileS, onSlot, Write.app, Res.map]
    · have := hft e hf
      simp [hp, Mem.createFileS, onSlot, Write.app, Res.map, this]

/-- `append_file` of a memory leaf succeeds exactly on a file, with the in-memory handle over its
bytes positioned at their end; the world is unchanged -/
theorem appendFile_mem_iff (p : Str) (hd : WHandle) (w' : World) :
    (leafFS i).appendFile p w = (.ok hd, w') ↔
      w' = w ∧ ∃ e, m.find? p = some e ∧ e.ftype = .file ∧
        hd = memH i p e.content e.content.length := by
  rw [run_appendFile h]
  constructor
  · intro ho
    obtain ⟨b, ha, hh⟩ := Res.map_eq_ok (congrArg Prod.fst ho)
    obtain ⟨e, he, hf, rfl⟩ := Mem.appendFile_ok ha
    exact ⟨(congrArg Prod.snd ho).symm, e, he, hf, hh.symm⟩
  · rintro ⟨rfl, e, he, hf, rfl⟩
    rw [mem_append_handle m p e he hf]; rfl

end opensOnLeaf

def Session.op (P : VPath) : Session → C03.Op
  | .create acts => .writeSession P acts
  | .append acts => .appendSession P acts

def Session.run (P : VPath) (s : Session) : M Unit := (s.op P).run

def runSessions (P : VPath) : List Session → World → World
  | [], w => w
  | s :: rest, w => runSessions P rest (s.run P w).2

theorem runSessions_append (P : VPath) (a b : List Session) (w : World) :
    runSessions P (a ++ b) w = runSessions P b (runSessions P a w) := by
  induction a generalizing w with
  | nil => rfl
  | cons s rest ih => simp only [List.cons_append, runSessions, ih]

theorem Session.run_create (P : VPath) (acts : List Act) :
    (Session.create acts).run P = (do let h ← P.createFile; C03.runActs h acts) := rfl

theorem Session.run_append (P : VPath) (acts : List Act) :
    (Session.append acts).run P = (do let h ← P.appendFile; C03.runActs h acts) := rfl

/-- errors of single actions are per-action outcomes and the drop cannot fail -/
theorem runActs_ok (h : WHandle) (acts : List Act) (w : World) : (C03.runActs h acts w).1 = .ok () := by
  rw [runActs_eq_applyActs]; exact WHandle.drop_ok _ _

/-- what a write session needs of the filesystem behind its path: run on `w`, the open `op`
(`create_file` / `append_file` of whatever filesystem) returns the in-memory handle on key `p` of
leaf `i`, and in the world `w0` it leaves, leaf `i` is a memory leaf (map `m0`) with a file at `p`.
From there on flush and drop publish the handle's vector into that entry and nothing else changes;
what the filesystem shows at its path for a given entry at `p` is the business of each instance
(memory leaf, altroot, overlay). -/
structure OpensMem (op : M WHandle) (w : World) (i : Nat) (p : Str) (b0 : Bytes) (n0 : Nat)
    (w0 : World) (m0 : FMap) : Prop where
  run : op w = (.ok (memH i p b0 n0), w0)
  leaf : MemLeafAt w0 i m0
  file : ∃ e0, m0.find? p = some e0 ∧ e0.ftype = .file

section opens
variable {op : M WHandle} {w w0 : World} {i : Nat} {p : Str} {b0 : Bytes} {n0 : Nat} {m0 : FMap}

theorem OpensMem.session (ho : OpensMem op w i p b0 n0 w0 m0) (acts : List Act) :
    ∃ m', (do let h ← op; C03.runActs h acts : M Unit) w = (.ok (), w0.setLeafFiles i m') ∧
      Holds m' p (some (specRun b0 n0 acts).1) ∧ (∀ k, k ≠ p → m'.find? k = m0.find? k) := by
  obtain ⟨e0, he0, hf0⟩ := ho.file
  rw [bind_run_ok ho.run]
  exact runActs_mem ho.leaf e0 he0 hf0 b0 n0 acts

/-- `h1`, `m1`: handle (still open) and map right after the flush of `pre ++ flush :: post`;
`m2`: the map after `post` and the drop -/
theorem OpensMem.flush (ho : OpensMem op w i p b0 n0 w0 m0) (pre post : List Act) :
    ∃ h1 m1 m2,
      applyActs (memH i p b0 n0) w0 (pre ++ [.flush]) = (h1, w0.setLeafFiles i m1) ∧
      Holds m1 p (some (specRun b0 n0 pre).1) ∧ (∀ k, k ≠ p → m1.find? k = m0.find? k) ∧
      (do let h ← op; C03.runActs h (pre ++ .flush :: post) : M Unit) w =
        C03.runActs h1 post (w0.setLeafFiles i m1) ∧
      C03.runActs h1 post (w0.setLeafFiles i m1) = (.ok (), w0.setLeafFiles i m2) ∧
      Holds m2 p (some (specRun b0 n0 (pre ++ .flush :: post)).1) ∧
      (∀ k, k ≠ p → m2.find? k = m0.find? k) := by
  obtain ⟨e0, he0, hf0⟩ := ho.file
  -- the state right after the flush is `applyActs_mem` on `pre ++ [flush]`
  obtain ⟨m1, hstep, hh1, hfr1⟩ := applyActs_mem ho.leaf e0 he0 hf0 b0 n0 (pre ++ [.flush])
  rw [specFlushed_flush_last] at hh1
  rw [show specRun b0 n0 (pre ++ [.flush]) = specRun b0 n0 pre from specRun_snoc ..] at hstep
  obtain ⟨e1, he1, hf1, hc1⟩ := hh1
  obtain ⟨m2, hrun2, hh2, hfr2⟩ := runActs_mem (ho.leaf.set m1) e1 he1 hf1
    (specRun b0 n0 pre).1 (specRun b0 n0 pre).2 post
  rw [World.setLeafFiles_twice] at hrun2
  refine ⟨_, m1, m2, hstep, ⟨e1, he1, hf1, hc1⟩, hfr1, ?_, hrun2, ?_,
    fun k hk => by rw [hfr2 k hk, hfr1 k hk]⟩
  · rw [bind_run_ok ho.run, show pre ++ C03.HAct.flush :: post = (pre ++ [.flush]) ++ post by simp,
      runActs_append, hstep]
  · rw [specRun_append, specRun_cons]
    exact hh2

end opens

/-- what a client reads from a path on which `open_file` returns the fresh reader over `bs`:
`ns` are the buffer sizes of successive `read` calls; `bs.length < 2^64` is the no-overflow side
condition of `ReadableFile::read`; `readToEndChecked` is the byte path of `read_to_string` -/
theorem read_back {P : VPath} {w1 : World} {bs : Bytes}
    (hopen : ∃ w2, P.openFile w1 = (.ok { content := bs, pos := 0 }, w2))
    (hmd : ∃ md, P.metadata w1 = (.ok md, w1) ∧ md.len = bs.length ∧ md.ftype = .file) :
    (∃ w2, P.openFile w1 = (.ok { content := bs, pos := 0 }, w2)) ∧
    (RHandle.readToEnd { content := bs, pos := 0 }).1 = .ok bs ∧
    (∀ ns : List Nat, bs.length < u64Max →
      (chunks { content := bs, pos := 0 } ns).1.flatten = bs.take ns.sum) ∧
    (∀ ns : List Nat, bs.length < u64Max → bs.length ≤ ns.sum →
      (chunks { content := bs, pos := 0 } ns).1.flatten = bs) ∧
    (P.readToEndChecked w1).1 = .ok bs ∧
    (∃ md, P.metadata w1 = (.ok md, w1) ∧ md.len = bs.length ∧ md.ftype = .file) := by
  refine ⟨hopen, readToEnd_fresh bs, fun ns hlt => ?_, fun ns hlt hsum =>
    reader_whole_file bs ns hlt hsum, ?_, hmd⟩
  · exact (reader_chunks { content := bs, pos := 0 } ns rfl hlt).1
  · obtain ⟨w2, hopen⟩ := hopen
    obtain ⟨md, hmd, _, hft⟩ := hmd
    unfold VPath.readToEndChecked
    simp only [bind, M.bind, hmd, hft, ne_eq, not_true_eq_false, if_false, hopen, M.withPath,
      M.ret, readToEnd_fresh, Res.withPath]

end Vfs.C04
