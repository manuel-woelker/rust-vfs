/-
  Leaves of the world. The algebra of `World.setLeafFiles` and `onLeaf_run` (what `onLeaf` does on a
  world that has the leaf). Frame: a leaf filesystem touches only its own leaf, so it preserves
  every invariant that ignores that leaf (`IgnoresLeaf`, `leafFS_all_preserve`). Statements about
  what ONE leaf holds (`AtLeaf j P`): they ignore the other leaves, and a method of the leaf keeps
  one when the files it leaves keep `P`. Among them what the observers do to their own leaf:
  `SameLeaf j kind m0`, the leaf holds the entries of `m0` up to access times (`open_file` stamps
  one), is kept by the four observers (`leafFS_obs_same`).
-/
import VfsModel.Proofs.Hoare
import VfsModel.Proofs.LeafSpec
namespace Vfs

/-! ### the algebra of `World.setLeafFiles`

`setLeafFiles` rewrites one member of the list of leaves and leaves the rest of the world alone:
what sits at an index afterwards is `World.leaf?_setLeafFiles`, and two worlds that hold the same
leaf at every index and agree on the ghost fields are equal (`World.ext_leaf?`). The equations
below are read off these two; `leaf?_setLeafFiles_ne` and `setLeafFiles_same` are the first at
another index and at the index written, for a leaf that is known. -/

theorem World.leaf?_setLeafFiles (w : World) (i j : Nat) (f : FMap) :
    (w.setLeafFiles i f).leaf? j =
      if i = j then (w.leaf? j).map (fun l => { l with files := f }) else w.leaf? j := by
  unfold World.setLeafFiles World.leaf?
  rw [List.getElem?_modify]
  split
  · rfl
  · exact id_map _

/-- `leaf?` reads the list of leaves only -/
theorem World.leaf?_of_leaves {w w' : World} (h : w'.leaves = w.leaves) (i : Nat) :
    w'.leaf? i = w.leaf? i := by
  unfold World.leaf?; rw [h]

theorem World.ext_leaf? {a b : World} (h : ∀ j, a.leaf? j = b.leaf? j) (hl : a.log = b.log)
    (hf : a.fault = b.fault) (hd : a.fired = b.fired) : a = b := by
  obtain ⟨la, _, _, _⟩ := a
  obtain ⟨lb, _, _, _⟩ := b
  obtain rfl : la = lb := List.ext_getElem? h
  simp only at hl hf hd
  rw [hl, hf, hd]

theorem World.leaf?_setLeafFiles_ne (w : World) (i j : Nat) (f : FMap) (h : i ≠ j) :
    (w.setLeafFiles i f).leaf? j = w.leaf? j := by
  rw [World.leaf?_setLeafFiles, if_neg h]

theorem World.setLeafFiles_same (w : World) (j : Nat) (l : Leaf) (f : FMap) (h : w.leaf? j = some l) :
    (w.setLeafFiles j f).leaf? j = some { l with files := f } := by
  rw [World.leaf?_setLeafFiles, if_pos rfl, h]; rfl

/-- writing back the files a leaf holds changes nothing -/
theorem World.setLeafFiles_self (w : World) (i : Nat) (l : Leaf) (h : w.leaf? i = some l) :
    w.setLeafFiles i l.files = w := by
  refine World.ext_leaf? (fun j => ?_) rfl rfl rfl
  rw [World.leaf?_setLeafFiles]
  split
  · rename_i hij; subst hij; rw [h]; rfl
  · rfl

/-- a write to a leaf the world does not have changes nothing -/
theorem World.setLeafFiles_none (w : World) (i : Nat) (f : FMap) (h : w.leaf? i = none) :
    w.setLeafFiles i f = w := by
  refine World.ext_leaf? (fun j => ?_) rfl rfl rfl
  rw [World.leaf?_setLeafFiles]
  split
  · rename_i hij; subst hij; rw [h]; rfl
  · rfl

theorem World.setLeafFiles_twice (w : World) (i : Nat) (a b : FMap) :
    (w.setLeafFiles i a).setLeafFiles i b = w.setLeafFiles i b := by
  refine World.ext_leaf? (fun j => ?_) rfl rfl rfl
  simp only [World.leaf?_setLeafFiles]
  split
  · cases w.leaf? j <;> rfl
  · rfl

theorem World.setLeafFiles_comm (w : World) (a b : Nat) (f g : FMap) (h : a ≠ b) :
    (w.setLeafFiles a f).setLeafFiles b g = (w.setLeafFiles b g).setLeafFiles a f := by
  refine World.ext_leaf? (fun j => ?_) rfl rfl rfl
  simp only [World.leaf?_setLeafFiles]
  by_cases ha : a = j
  · subst ha; simp only [if_neg (Ne.symm h), ↓reduceIte]
  · rw [if_neg ha, if_neg ha]

/-- `onLeaf` on a world that has leaf `i` -/
theorem onLeaf_run {α} {w : World} {i : Nat} {l : Leaf} (h : w.leaf? i = some l)
    (f : Leaf → Res α × FMap) : onLeaf i f w = ((f l).1, w.setLeafFiles i (f l).2) := by
  unfold onLeaf; rw [h]

/-- … and on a world that does not have it -/
theorem onLeaf_none {α} {w : World} {i : Nat} (h : w.leaf? i = none)
    (f : Leaf → Res α × FMap) : onLeaf i f w = (.panic, w) := by
  unfold onLeaf; rw [h]

/-! ### frame: a leaf filesystem touches only its own leaf -/

/-- `I` depends only on leaves other than `i` (and on nothing the leaf operations touch) -/
def IgnoresLeaf (I : World → Prop) (i : Nat) : Prop :=
  ∀ w f, I w → I (w.setLeafFiles i f)

theorem onLeaf_pres {α} {I : World → Prop} (i : Nat) (hI : IgnoresLeaf I i)
    (f : Leaf → Res α × FMap) : Preserves I (onLeaf i f) := by
  refine ⟨fun w hw => ?_⟩
  unfold onLeaf
  split
  · exact hw
  · exact hI w _ hw

theorem handle_ok_of_leaf {I : World → Prop} (i : Nat) (hI : IgnoresLeaf I i) (h : WHandle)
    (hl : h.leaf = i) : HandleOK I h := by
  intro buf pos
  constructor
  · intro bs
    refine ⟨fun w hw => ?_⟩
    rcases WHandle.write_world { h with buf := buf, pos := pos } bs w with e | ⟨l, _, _, _, _, _, e⟩
    · rw [e]; exact hw
    · rw [e]; exact hl ▸ hI w _ hw
  · refine ⟨fun w hw => ?_⟩
    rcases WHandle.flush_world { h with buf := buf, pos := pos } w with e | ⟨l, _, e⟩
    · rw [e]; exact hw
    · rw [e]; exact hl ▸ hI w _ hw

theorem onLeaf_ret {α} (i : Nat) (f : Leaf → Res α × FMap) (Q : α → Prop)
    (h : ∀ l a, (f l).1 = .ok a → Q a) : Returns (onLeaf i f) Q := by
  refine ⟨fun w a he => ?_⟩
  unfold onLeaf at he
  split at he
  · cases he
  · rename_i l _; exact h l a he

/-- a leaf filesystem preserves every invariant that ignores its leaf -/
theorem leafFS_all_preserve {I : World → Prop} (i : Nat) (hI : IgnoresLeaf I i) :
    (leafFS i).AllPreserve I where
  readDir _ := onLeaf_pres i hI _
  createDir _ := onLeaf_pres i hI _
  openFile _ := onLeaf_pres i hI _
  createFile _ := onLeaf_pres i hI _
  appendFile _ := onLeaf_pres i hI _
  metadata _ := onLeaf_pres i hI _
  setCreationTime _ _ := onLeaf_pres i hI _
  setModificationTime _ _ := onLeaf_pres i hI _
  setAccessTime _ _ := onLeaf_pres i hI _
  exists_ _ := onLeaf_pres i hI _
  removeFile _ := onLeaf_pres i hI _
  removeDir _ := onLeaf_pres i hI _
  copyFile _ _ := onLeaf_pres i hI _
  moveFile _ _ := onLeaf_pres i hI _
  moveDir _ _ := onLeaf_pres i hI _
  createHandle p := by
    apply onLeaf_ret
    intro l a he
    apply handle_ok_of_leaf i hI
    cases hk : l.kind <;> simp only [hk] at he
    · cases hc : (Mem.createFile l.files p).1 <;> simp [hc, Res.map] at he
      rw [← he]
    · cases hc : (Phys.createFile l.files p).1 <;> simp [hc, Res.map] at he
      rw [← he]
  appendHandle p := by
    apply onLeaf_ret
    intro l a he
    apply handle_ok_of_leaf i hI
    cases hk : l.kind <;> simp only [hk] at he
    · cases hc : Mem.appendFile l.files p <;> simp [hc, Res.map] at he
      rw [← he]
    · cases hc : Phys.appendFile l.files p <;> simp [hc, Res.map] at he
      rw [← he]

/-! ### statements about what ONE leaf holds -/

/-- leaf `j` of the world satisfies `P`; nothing else of the world is looked at -/
def AtLeaf (j : Nat) (P : Leaf → Prop) (w : World) : Prop := ∃ l, w.leaf? j = some l ∧ P l

theorem AtLeaf.ignores {j i : Nat} (P : Leaf → Prop) (h : i ≠ j) : IgnoresLeaf (AtLeaf j P) i :=
  fun w f ⟨l, h1, h2⟩ => ⟨l, by rw [World.leaf?_setLeafFiles_ne w i j f h]; exact h1, h2⟩

theorem AtLeaf.of_leaves {j : Nat} {P : Leaf → Prop} {w w' : World} (hl : w'.leaves = w.leaves) :
    AtLeaf j P w → AtLeaf j P w' :=
  fun ⟨l, h1, h2⟩ => ⟨l, by rw [World.leaf?_of_leaves hl]; exact h1, h2⟩

theorem onLeaf_atLeaf {α} {j : Nat} {P : Leaf → Prop} (f : Leaf → Res α × FMap)
    (hf : ∀ l, P l → P { l with files := (f l).2 }) : Preserves (AtLeaf j P) (onLeaf j f) := by
  refine ⟨fun w ⟨l, h1, h2⟩ => ?_⟩
  rw [onLeaf_run h1]
  exact ⟨_, World.setLeafFiles_same w j l _ h1, hf l h2⟩

/-! ### the observers keep their leaf, up to access times -/

/-- an entry without its access time -/
def stripAcc (e : Entry) : Entry := { e with accessed := .unset }

/-- leaf `j` holds the same entries as `m0`, up to access times (reading a file stamps its
access time inside the backend, as the OS does for a physical file) -/
def SameLeaf (j : Nat) (kind : LeafKind) (m0 : FMap) (w : World) : Prop :=
  ∃ l, w.leaf? j = some l ∧ l.kind = kind ∧
    ∀ k, (l.files.find? k).map stripAcc = (m0.find? k).map stripAcc

theorem SameLeaf.ignores (j i : Nat) (kind : LeafKind) (m0 : FMap) (h : i ≠ j) :
    IgnoresLeaf (SameLeaf j kind m0) i :=
  AtLeaf.ignores _ h

/-- an `onLeaf` action that returns files equal to the old ones up to access times -/
theorem onLeaf_same {α} (j : Nat) (kind : LeafKind) (m0 : FMap) (f : Leaf → Res α × FMap)
    (hf : ∀ l k, ((f l).2.find? k).map stripAcc = (l.files.find? k).map stripAcc) :
    Preserves (SameLeaf j kind m0) (onLeaf j f) :=
  onLeaf_atLeaf f fun l ⟨h2, h3⟩ => ⟨h2, fun k => (hf l k).trans (h3 k)⟩

/-- the stamp of `open_file` is the only thing it writes -/
theorem Mem.openFile_same (m : FMap) (p : Str) (k : Str) :
    ((Mem.openFile m p).2.find? k).map stripAcc = (m.find? k).map stripAcc := by
  rw [Mem.openFile_eq, onSlot, Write.find?_app]
  split
  · rename_i h; subst h; cases m.find? k <;> rfl
  · rfl

/-- the observers of a leaf keep that leaf's entries, up to access times -/
theorem leafFS_obs_same (j : Nat) (kind : LeafKind) (m0 : FMap) :
    (leafFS j).ObsPreserve (SameLeaf j kind m0) where
  readDir p := by
    apply onLeaf_same
    intro l k
    cases l.kind <;> rfl
  openFile p := by
    apply onLeaf_same
    intro l k
    cases l.kind
    · exact Mem.openFile_same l.files p k
    · rfl
  metadata p := by
    apply onLeaf_same
    intro l k
    cases l.kind <;> rfl
  exists_ p := by
    apply onLeaf_same
    intro l k
    cases l.kind <;> rfl

end Vfs
