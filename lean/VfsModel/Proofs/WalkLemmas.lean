/-
  `VfsPath::walk_dir` and `WalkDirIterator::next` (/repo/src/path.rs): what does not depend on the
  filesystem walked, and the memory leaf. The induction over the iterator is in
  Proofs/WalkGeneric.lean.

  First the order on path strings that the walk and the copy loops speak in: `below p k` (`k` is
  `p ++ "/" ++ t`), `within p k` (`k = p` or below it), their transitivity and comparability
  (`within_comparable`), and over a well-formed map `ancestor_dir`, `nothing_below_file` and
  `children m p` (the keys whose parent is `p`; distinct children and their subtrees lie apart:
  `siblings_apart`, `child_apart`). `mk i id k` is the `VfsPath` with string `k` on leaf `i`.

  The iterator state is (rest of the current listing, stack of directories still to list). Its
  invariant `Good`: those paths are present keys, the stacked ones directories, and no one of them
  lies at or below another. `pending` is the set of keys still to come; `emit_good` (yielding the
  head) and `WkG.expand_good'` (listing a popped directory, in any order) say what a move does to
  both. `WkG.walkNext_cons_of`, `WkG.walkNext_expand_of`, `WkG.walkDir_of` are the moves of the
  iterator over any filesystem, given the answer of the one observer call each makes.
  On a memory leaf `read_dir`, `metadata` and `next` leave the world alone, for every iterator
  state, well-formed or not (`walkFind_frame`, `walkNext_frame`, `walkAll_frame`), and `walk_dir`
  there is `run_walkDir`; `read_dir` of what is not a directory is `run_readDir_fail`.
  At the end, fuel: the two counting lemmas on filtered lists the walk theorems count pending keys
  with, and `walkAll_fuel_succ`, `walkAll_fuel_le` (an `.ok` collected walk stays the same with
  more fuel).
-/
import VfsModel.Proofs.MemRun
import VfsModel.Proofs.Routes
import VfsModel.Proofs.PhysLemmas
namespace Vfs.Wk

/-- `k` is a proper descendant of `p` by name: `k = p ++ "/" ++ t` -/
def below (p k : Str) : Bool := (p ++ ['/']).isPrefixOf k

def within (p k : Str) : Bool := decide (k = p) || below p k

theorem below_iff (p k : Str) : below p k = true ↔ ∃ t, k = p ++ '/' :: t := by
  unfold below
  rw [List.isPrefixOf_iff_prefix]
  constructor
  · rintro ⟨t, ht⟩; exact ⟨t, by rw [← ht]; simp⟩
  · rintro ⟨t, ht⟩; exact ⟨t, by rw [ht]; simp⟩

theorem within_iff (p k : Str) : within p k = true ↔ k = p ∨ below p k = true := by
  unfold within
  rw [Bool.or_eq_true, decide_eq_true_eq]

theorem within_self (p : Str) : within p p = true := by simp [within]

theorem within_of_below {p k : Str} (h : below p k = true) : within p k = true :=
  (within_iff p k).2 (Or.inr h)

theorem below_length {p k : Str} (h : below p k = true) : p.length < k.length := by
  obtain ⟨t, rfl⟩ := (below_iff p k).1 h
  simp [List.length_append]

theorem within_length {p k : Str} (h : within p k = true) : p.length ≤ k.length := by
  rcases (within_iff p k).1 h with h | h
  · subst h; exact Nat.le_refl _
  · exact Nat.le_of_lt (below_length h)

theorem below_irrefl (p : Str) : below p p = false := by
  cases h : below p p with
  | false => rfl
  | true => exact absurd (below_length h) (Nat.lt_irrefl _)

theorem below_trans {a b c : Str} (h1 : below a b = true) (h2 : below b c = true) :
    below a c = true := by
  obtain ⟨t, rfl⟩ := (below_iff a b).1 h1
  obtain ⟨u, rfl⟩ := (below_iff _ c).1 h2
  exact (below_iff _ _).2 ⟨t ++ '/' :: u, by simp⟩

theorem below_of_within_below {a b c : Str} (h1 : within a b = true) (h2 : below b c = true) :
    below a c = true := by
  rcases (within_iff a b).1 h1 with h | h
  · subst h; exact h2
  · exact below_trans h h2

theorem below_of_below_within {a b c : Str} (h1 : below a b = true) (h2 : within b c = true) :
    below a c = true := by
  rcases (within_iff b c).1 h2 with h | h
  · subst h; exact h1
  · exact below_trans h1 h

theorem within_trans {a b c : Str} (h1 : within a b = true) (h2 : within b c = true) :
    within a c = true := by
  rcases (within_iff b c).1 h2 with h | h
  · subst h; exact h1
  · exact within_of_below (below_of_within_below h1 h)

/-- two ancestors-or-self of one path: one of them is an ancestor-or-self of the other -/
theorem within_comparable {a b x : Str} (ha : within a x = true) (hb : within b x = true) :
    within a b = true ∨ within b a = true := by
  rcases (within_iff a x).1 ha with rfl | ha
  · exact Or.inr hb
  · rcases (within_iff b x).1 hb with rfl | hb
    · exact Or.inl (within_of_below ha)
    · -- both `a/` and `b/` are prefixes of `x`
      have key : ∀ (a b : Str), below a x = true → below b x = true → a.length ≤ b.length →
          within a b = true := by
        intro a b ha hb hle
        unfold below at ha hb
        rw [List.isPrefixOf_iff_prefix] at ha hb
        have hp : a ++ ['/'] <+: b ++ ['/'] :=
          List.prefix_of_prefix_length_le ha hb (by simp [List.length_append]; exact hle)
        obtain ⟨u, hu⟩ := hp
        rcases List.eq_nil_or_concat u with rfl | ⟨u', c, rfl⟩
        · simp only [List.append_nil] at hu
          have : a = b := List.append_cancel_right hu
          rw [this]; exact within_self b
        · rw [List.concat_eq_append, ← List.append_assoc] at hu
          have h1 := List.append_inj_left' hu rfl
          refine within_of_below ?_
          unfold below
          rw [List.isPrefixOf_iff_prefix]
          exact ⟨u', h1⟩
      rcases Nat.le_total a.length b.length with h | h
      · exact Or.inl (key a b ha hb h)
      · exact Or.inr (key b a hb ha h)

theorem slash_mem_of_below {p k : Str} (h : below p k = true) : '/' ∈ k := by
  obtain ⟨t, rfl⟩ := (below_iff p k).1 h
  simp

theorem below_parent_self (k : Str) (h : '/' ∈ k) : below (parentInternal k) k = true := by
  have := (split_last '/' k h).1
  exact (below_iff _ _).2 ⟨afterLast '/' k, this⟩


theorem within_parent_of_below {y c : Str} (h : below y c = true) :
    within y (parentInternal c) = true := by
  obtain ⟨t, rfl⟩ := (below_iff y c).1 h
  by_cases hs : '/' ∈ t
  · obtain ⟨h1, h2⟩ := split_last '/' t hs
    have : parentInternal (y ++ '/' :: t) = y ++ '/' :: beforeLast '/' t := by
      have e : y ++ '/' :: t = (y ++ '/' :: beforeLast '/' t) ++ '/' :: afterLast '/' t := by
        conv => lhs; rw [h1]
        simp
      rw [e]
      exact beforeLast_append_delim '/' _ _ h2
    rw [this]
    exact within_of_below ((below_iff _ _).2 ⟨_, rfl⟩)
  · rw [parent_of_child y t hs]
    exact within_self y

theorem below_child (d n : Str) : below d (d ++ '/' :: n) = true := (below_iff _ _).2 ⟨n, rfl⟩

theorem below_iff_under (p k : Str) :
    below p k = true ↔ k ≠ p ∧ (k = p ∨ ∃ t, k = p ++ '/' :: t) := by
  constructor
  · intro h
    refine ⟨?_, Or.inr ((below_iff p k).1 h)⟩
    intro hk; subst hk
    rw [below_irrefl] at h; cases h
  · rintro ⟨hne, h | h⟩
    · exact absurd h hne
    · exact (below_iff p k).2 h

theorem ancestor_dir {m : FMap} (hwf : WF m) {k y : Str} (hk : ∃ e, m.find? k = some e)
    (hy : below y k = true) : ∃ e, m.find? y = some e ∧ e.ftype = .dir :=
  hwf.ancestors_good k.length k (Nat.le_refl _) hk y (prefix_mem_ancestors y k hy)

theorem nothing_below_file {m : FMap} (hwf : WF m) {x k : Str} {e : Entry}
    (hx : m.find? x = some e) (hf : e.ftype ≠ .dir) (hk : ∃ e', m.find? k = some e') :
    below x k = false := by
  cases h : below x k with
  | false => rfl
  | true =>
    obtain ⟨e', he', hd⟩ := ancestor_dir hwf hk h
    rw [hx] at he'
    injection he' with he'
    subst he'
    exact absurd hd hf

/-- `read_dir` of `p` on the map `m`, as full paths, in the order of the model -/
def children (m : FMap) (p : Str) : List Str :=
  (m.keys.filterMap (childName p)).map (fun n => p ++ '/' :: n)

theorem mem_children (m : FMap) (p k : Str) :
    k ∈ children m p ↔ (∃ e, m.find? k = some e) ∧ '/' ∈ k ∧ parentInternal k = p := by
  unfold children
  simp only [List.mem_map, _root_.Vfs.mem_children, FMap.contains_iff]
  constructor
  · rintro ⟨n, ⟨hn, he⟩, rfl⟩
    exact ⟨he, by simp, parent_of_child p n hn⟩
  · rintro ⟨he, hs, rfl⟩
    obtain ⟨h1, h2⟩ := split_last '/' k hs
    refine ⟨afterLast '/' k, ⟨h2, ?_⟩, h1.symm⟩
    show ∃ e, m.find? (beforeLast '/' k ++ '/' :: afterLast '/' k) = some e
    rw [← h1]; exact he

theorem children_nodup (m : FMap) (hk : FMap.NodupKeys m) (p : Str) : (children m p).Nodup := by
  unfold children
  have h := filterMap_childName_nodup m p hk
  unfold List.Nodup at *
  rw [List.pairwise_map]
  refine h.imp ?_
  intro a b hab heq
  exact hab (by simpa using List.append_cancel_left heq)

theorem child_below {m : FMap} {p c : Str} (h : c ∈ children m p) : below p c = true := by
  obtain ⟨_, hs, hp⟩ := (mem_children m p c).1 h
  rw [← hp]; exact below_parent_self c hs

theorem below_via_child {m : FMap} (hwf : WF m) (p : Str) : ∀ (n : Nat) (k : Str), k.length ≤ n →
    (∃ e, m.find? k = some e) → below p k = true → ∃ c ∈ children m p, within c k = true := by
  intro n
  induction n with
  | zero =>
    intro k hk _ hy
    have := below_length hy
    omega
  | succ n ih =>
    intro k hk ⟨e, he⟩ hy
    have hs : '/' ∈ k := slash_mem_of_below hy
    have hne : k ≠ [] := by intro h; subst h; simp at hs
    obtain ⟨_, pe, hpe, hpd⟩ := hwf.2 k e he hne
    rcases (within_iff _ _).1 (within_parent_of_below hy) with h | h
    · exact ⟨k, (mem_children m p k).2 ⟨⟨e, he⟩, hs, h⟩, within_self k⟩
    · obtain ⟨c, hc, hw⟩ := ih (parentInternal k) (by have := parent_shorter k hs; omega) ⟨pe, hpe⟩ h
      exact ⟨c, hc, within_of_below (below_of_within_below hw (below_parent_self k hs))⟩

theorem siblings_apart {m : FMap} {p c1 c2 : Str} (h1 : c1 ∈ children m p) (h2 : c2 ∈ children m p)
    (hne : c1 ≠ c2) : within c1 c2 = false := by
  cases h : within c1 c2 with
  | false => rfl
  | true =>
    rcases (within_iff _ _).1 h with h | h
    · exact absurd h.symm hne
    · have hw := within_parent_of_below h
      rw [((mem_children m p c2).1 h2).2.2] at hw
      have l1 := within_length hw
      have l2 := below_length (child_below h1)
      omega

theorem child_apart {m : FMap} {d c y : Str} (hc : c ∈ children m d)
    (h1 : within d y = false) (h2 : within y d = false) :
    within c y = false ∧ within y c = false := by
  constructor
  · cases h : within c y with
    | false => rfl
    | true =>
      have := within_of_below (below_of_below_within (child_below hc) h)
      rw [h1] at this; cases this
  · cases h : within y c with
    | false => rfl
    | true =>
      rcases (within_iff _ _).1 h with h | h
      · subst h
        have := within_of_below (child_below hc)
        rw [h1] at this; cases this
      · have hw := within_parent_of_below h
        rw [((mem_children m d c).1 hc).2.2, h2] at hw
        cases hw

def mk (i id : Nat) (k : Str) : VPath := { fs := leafFS i, fsId := id, path := k }

section run
variable {w : World} {i : Nat} {m : FMap} (h : MemLeafAt w i m)
include h

def AllOn (i : Nat) (l : List VPath) : Prop := ∀ x ∈ l, x.fs = leafFS i

omit h in
theorem AllOn.tail {i : Nat} {x : VPath} {l : List VPath} (hl : AllOn i (x :: l)) : AllOn i l :=
  fun y hy => hl y (List.mem_cons_of_mem _ hy)

theorem walkFind_frame : ∀ (todo inner : List VPath), AllOn i inner → AllOn i todo →
    ∃ r, VPath.walkFind inner todo w = (.ok r, w) ∧ AllOn i r.2.inner ∧ AllOn i r.2.todo ∧
      ∀ x, r.1 = some (.ok x) → x.fs = leafFS i := by
  intro todo
  induction todo with
  | nil =>
    intro inner hi ht
    cases inner with
    | nil => exact ⟨_, rfl, hi, ht, by intro x hx; cases hx⟩
    | cons x rest =>
      refine ⟨_, rfl, hi.tail, ht, ?_⟩
      intro y hy
      simp only [Option.some.injEq, Res.ok.injEq] at hy
      subst hy; exact hi _ (by simp)
  | cons d todo ih =>
    intro inner hi ht
    cases inner with
    | cons x rest =>
      refine ⟨_, rfl, hi.tail, ht, ?_⟩
      intro y hy
      simp only [Option.some.injEq, Res.ok.injEq] at hy
      subst hy; exact hi _ (by simp)
    | nil =>
      have hd : d.fs = leafFS i := ht d (by simp)
      unfold VPath.walkFind
      rw [run_vreadDir h d hd]
      cases hr : Mem.readDir m d.path with
      | panic => exact absurd hr (Mem.readDir_np m _)
      | err k p =>
        refine ⟨_, rfl, hi, ht.tail, ?_⟩
        intro y hy; simp at hy
      | ok names =>
        simp only [Res.withPath, Res.map]
        cases names with
        | nil => exact ih [] hi ht.tail
        | cons n ns =>
          simp only [List.map_cons]
          refine ⟨_, rfl, ?_, ht.tail, ?_⟩
          · intro y hy
            simp only [List.mem_map] at hy
            obtain ⟨n', _, rfl⟩ := hy
            exact hd
          · intro y hy
            simp only [Option.some.injEq, Res.ok.injEq] at hy
            subst hy; exact hd

theorem walkNext_frame (s : VPath.Walk) (hi : AllOn i s.inner) (ht : AllOn i s.todo) :
    ∃ r, VPath.walkNext s w = (.ok r, w) ∧ AllOn i r.2.inner ∧ AllOn i r.2.todo := by
  obtain ⟨⟨item, s'⟩, hr, h1, h2, h3⟩ := walkFind_frame h s.todo s.inner hi ht
  unfold VPath.walkNext
  simp only [bind, M.bind, hr]
  match item, h3 with
  | none, _ => exact ⟨_, rfl, h1, h2⟩
  | some (.err k p), _ => exact ⟨_, rfl, h1, h2⟩
  | some .panic, _ => exact ⟨_, rfl, h1, h2⟩
  | some (.ok x), h3 =>
    have hx : x.fs = leafFS i := h3 x rfl
    simp only [run_vmetadata h x hx]
    cases hm : Mem.metadata m x.path with
    | panic => exact absurd hm (Mem.metadata_np m _)
    | err k p => exact ⟨_, rfl, h1, h2⟩
    | ok md =>
      simp only [Res.withPath]
      split
      · refine ⟨_, rfl, h1, ?_⟩
        intro y hy
        simp only [List.mem_cons] at hy
        rcases hy with rfl | hy
        · exact hx
        · exact h2 y hy
      · exact ⟨_, rfl, h1, h2⟩

theorem walkAll_frame : ∀ (fuel : Nat) (s : VPath.Walk), AllOn i s.inner → AllOn i s.todo →
    (VPath.walkAll fuel s w).2 = w ∧
      ((VPath.walkAll fuel s w).1 = .panic ∨ ∃ l, (VPath.walkAll fuel s w).1 = .ok l) := by
  intro fuel
  induction fuel with
  | zero => intro s _ _; exact ⟨rfl, Or.inl rfl⟩
  | succ fuel ih =>
    intro s hi ht
    obtain ⟨⟨item, s'⟩, hr, h1, h2⟩ := walkNext_frame h s hi ht
    rw [VPath.walkAll_succ]
    simp only [bind, M.bind, hr]
    cases item with
    | none => exact ⟨rfl, Or.inr ⟨[], rfl⟩⟩
    | some it =>
      obtain ⟨e1, e2⟩ := ih s' h1 h2
      simp only [M.bind]
      rcases hres : VPath.walkAll fuel s' w with ⟨r, w'⟩
      rw [hres] at e1 e2
      simp only at e1 e2
      subst e1
      rcases e2 with e2 | ⟨l, e2⟩
      · subst e2; exact ⟨rfl, Or.inl rfl⟩
      · subst e2; exact ⟨rfl, Or.inr ⟨_, rfl⟩⟩

end run

/-- the keys still to be yielded from the state `(inner, todo)`: the rest of the current listing
with everything below it, and everything strictly below a stacked directory -/
def pending (inner todo : List Str) (k : Str) : Bool :=
  inner.any (fun x => within x k) || todo.any (fun d => below d k)

def Apart (a b : Str) : Prop := within a b = false ∧ within b a = false

theorem Apart.symm {a b : Str} (h : Apart a b) : Apart b a := ⟨h.2, h.1⟩

/-- the invariant of the iterator state over the tree `m`: `inner` is the rest of the current
listing, `todo` the stack of directories still to list -/
structure Good (m : FMap) (inner todo : List Str) : Prop where
  innerKeys : ∀ x ∈ inner, ∃ e, m.find? x = some e
  todoDirs : ∀ d ∈ todo, ∃ e, m.find? d = some e ∧ e.ftype = .dir
  apart : (inner ++ todo).Pairwise Apart

theorem emit_good {m : FMap} (hwf : WF m) {x : Str} {rest todo : List Str}
    (hg : Good m (x :: rest) todo) (e : Entry) (hx : m.find? x = some e) (todo' : List Str)
    (htodo : todo' = if e.ftype = .dir then x :: todo else todo) :
    Good m rest todo' ∧ pending rest todo' x = false ∧
    (∀ k, (∃ e', m.find? k = some e') →
      pending (x :: rest) todo k = (decide (k = x) || pending rest todo' k)) ∧
    (∀ b, pending rest todo' b = true → below b x = false) := by
  have hap := hg.apart
  rw [List.cons_append, List.pairwise_cons] at hap
  obtain ⟨hx_ap, hrest_ap⟩ := hap
  have hrestx : ∀ y ∈ rest, Apart x y := fun y hy => hx_ap y (List.mem_append_left _ hy)
  have htodox : ∀ d ∈ todo, Apart x d := fun d hd => hx_ap d (List.mem_append_right _ hd)
  have hmem : ∀ d ∈ todo', (d = x ∧ e.ftype = .dir) ∨ d ∈ todo := by
    intro d hd
    rw [htodo] at hd
    split at hd
    · rename_i hdir
      simp only [List.mem_cons] at hd
      rcases hd with hd | hd
      · exact Or.inl ⟨hd, hdir⟩
      · exact Or.inr hd
    · exact Or.inr hd
  refine ⟨⟨?_, ?_, ?_⟩, ?_, ?_, ?_⟩
  · exact fun y hy => hg.innerKeys y (List.mem_cons_of_mem _ hy)
  · intro d hd
    rcases hmem d hd with ⟨rfl, hdir⟩ | hd
    · exact ⟨e, hx, hdir⟩
    · exact hg.todoDirs d hd
  · rw [htodo]
    split
    · rw [List.pairwise_middle (fun h => Apart.symm h), List.pairwise_cons]
      exact ⟨hx_ap, hrest_ap⟩
    · exact hrest_ap
  · -- x itself is not pending any more
    unfold pending
    rw [Bool.or_eq_false_iff]
    constructor
    · rw [List.any_eq_false]
      intro y hy
      rw [(hrestx y hy).2]; simp
    · rw [List.any_eq_false]
      intro d hd
      rcases hmem d hd with ⟨rfl, _⟩ | hd
      · rw [below_irrefl]; simp
      · have := (htodox d hd).2
        cases hb : below d x with
        | false => simp
        | true => rw [within_of_below hb] at this; cases this
  · intro k hk
    unfold pending
    rw [htodo]
    simp only [List.any_cons]
    have hw : within x k = (decide (k = x) || below x k) := rfl
    rw [hw]
    split
    · simp only [List.any_cons]
      generalize rest.any (fun x => within x k) = R
      generalize todo.any (fun d => below d k) = T
      cases decide (k = x) <;> cases below x k <;> cases R <;> cases T <;> rfl
    · rename_i hnd
      rw [nothing_below_file hwf hx hnd hk]
      generalize rest.any (fun x => within x k) = R
      generalize todo.any (fun d => below d k) = T
      cases decide (k = x) <;> cases R <;> cases T <;> rfl
  · -- nothing still pending is an ancestor of x
    intro b hb
    cases hbx : below b x with
    | false => rfl
    | true =>
      exfalso
      unfold pending at hb
      rw [Bool.or_eq_true, List.any_eq_true, List.any_eq_true] at hb
      rcases hb with ⟨y, hy, hyb⟩ | ⟨d, hd, hdb⟩
      · have := within_of_below (below_of_within_below hyb hbx)
        rw [(hrestx y hy).2] at this; cases this
      · have hdx := below_trans hdb hbx
        rcases hmem d hd with ⟨rfl, _⟩ | hd
        · rw [below_irrefl] at hdx; cases hdx
        · have := within_of_below hdx
          rw [(htodox d hd).2] at this; cases this

/-- for EVERY string, present or not: what is pending after a head has been yielded was pending
before -/
theorem pending_emit_mono (x : Str) (rest todo : List Str) (c : Prop) [Decidable c] (k : Str)
    (h : pending rest (if c then x :: todo else todo) k = true) :
    pending (x :: rest) todo k = true := by
  unfold pending at *
  simp only [List.any_cons]
  have hw : within x k = (decide (k = x) || below x k) := rfl
  rw [hw]
  split at h
  · simp only [List.any_cons] at h
    revert h
    generalize rest.any (fun x => within x k) = R
    generalize todo.any (fun d => below d k) = T
    cases decide (k = x) <;> cases below x k <;> cases R <;> cases T <;> simp
  · revert h
    generalize rest.any (fun x => within x k) = R
    generalize todo.any (fun d => below d k) = T
    cases decide (k = x) <;> cases below x k <;> cases R <;> cases T <;> simp

end Vfs.Wk

namespace Vfs.WkG
open Vfs.Wk

def IsListing (m : FMap) (p : Str) (l : List Str) : Prop :=
  l.Nodup ∧ ∀ k, k ∈ l ↔ k ∈ children m p

theorem pending_congr_inner {l l' : List Str} (h : ∀ k, k ∈ l ↔ k ∈ l') (todo : List Str) (k : Str) :
    pending l todo k = pending l' todo k := by
  unfold pending
  congr 1
  rw [Bool.eq_iff_iff, List.any_eq_true, List.any_eq_true]
  constructor
  · rintro ⟨x, hx, hw⟩; exact ⟨x, (h x).1 hx, hw⟩
  · rintro ⟨x, hx, hw⟩; exact ⟨x, (h x).2 hx, hw⟩

/-- popping the directory `d` and listing it as `l`, in any order (the prime: `l` is a hypothesis,
not `children m d`), keeps the invariant and the pending set -/
theorem expand_good' {m : FMap} (hwf : WF m) {d : Str} {todo l : List Str}
    (hl : IsListing m d l) (hg : Good m [] (d :: todo)) :
    Good m l todo ∧
    ∀ k, (∃ e', m.find? k = some e') → pending [] (d :: todo) k = pending l todo k := by
  have hap := hg.apart
  rw [List.nil_append, List.pairwise_cons] at hap
  obtain ⟨hd_ap, htodo_ap⟩ := hap
  have hch : ∀ c, c ∈ l → c ∈ children m d := fun c hc => (hl.2 c).1 hc
  refine ⟨⟨?_, ?_, ?_⟩, ?_⟩
  · exact fun c hc => ((Wk.mem_children m d c).1 (hch c hc)).1
  · exact fun y hy => hg.todoDirs y (List.mem_cons_of_mem _ hy)
  · rw [List.pairwise_append]
    refine ⟨?_, htodo_ap, ?_⟩
    · have hn := hl.1
      unfold List.Nodup at hn
      refine hn.imp_of_mem ?_
      intro a b ha hb hab
      exact ⟨siblings_apart (hch a ha) (hch b hb) hab,
        siblings_apart (hch b hb) (hch a ha) (Ne.symm hab)⟩
    · intro c hc y hy
      exact child_apart (hch c hc) (hd_ap y hy).1 (hd_ap y hy).2
  · intro k hk'
    rw [pending_congr_inner hl.2 todo k]
    unfold pending
    simp only [List.any_nil, List.any_cons, Bool.false_or]
    congr 1
    rw [Bool.eq_iff_iff, List.any_eq_true]
    constructor
    · intro hb
      exact below_via_child hwf d k.length k (Nat.le_refl _) hk' hb
    · rintro ⟨c, hc, hw⟩
      exact below_of_below_within (child_below hc) hw

theorem pending_expand_mono {m : FMap} {d : Str} {l : List Str} (hl : IsListing m d l)
    (todo : List Str) (k : Str) (h : pending l todo k = true) :
    pending [] (d :: todo) k = true := by
  unfold pending at *
  simp only [List.any_nil, List.any_cons, Bool.false_or]
  rw [Bool.or_eq_true] at h ⊢
  rcases h with h | h
  · left
    rw [List.any_eq_true] at h
    obtain ⟨c, hc, hw⟩ := h
    exact below_of_below_within (child_below ((hl.2 c).1 hc)) hw
  · exact Or.inr h

/-- the state after `walk_dir p`, whatever the order `l` of the first listing: the invariant holds
and the present keys pending are those strictly below `p` -/
theorem start_good' {m : FMap} (hwf : WF m) (p : Str) (e : Entry)
    (hp : m.find? p = some e) (hdir : e.ftype = .dir) {l : List Str} (hl : IsListing m p l) :
    Good m l [] ∧ ∀ k, (∃ e', m.find? k = some e') → pending l [] k = below p k := by
  have hg : Good m [] [p] := by
    refine ⟨(by intro x hx; cases hx), ?_, (by simp)⟩
    intro d hd
    simp only [List.mem_singleton] at hd
    subst hd; exact ⟨e, hp, hdir⟩
  obtain ⟨g1, g2⟩ := expand_good' hwf hl hg
  refine ⟨g1, ?_⟩
  intro k hk'
  rw [← g2 k hk']
  simp [pending]

/-- the iterator state holding these path strings, on the filesystem (and with the identity) of
`P`; `Wk.st i id` is the same on memory leaf `i` -/
def st (P : VPath) (inner todo : List Str) : VPath.Walk :=
  { inner := inner.map P.withStr, todo := todo.map P.withStr }

variable {P : VPath} {w w' : World}

theorem walkNext_cons_of {x : Str} {md : Meta}
    (hmd : (P.withStr x).metadata w = (.ok md, w')) (rest todo : List Str) :
    VPath.walkNext (st P (x :: rest) todo) w =
      (.ok (some (.ok (P.withStr x)),
        st P rest (if md.ftype = .dir then x :: todo else todo)), w') := by
  unfold VPath.walkNext st
  simp only [List.map_cons, VPath.walkFind, bind, M.bind, pure, M.pure]
  rw [hmd]
  dsimp only
  split <;> rfl

theorem walkNext_expand_of {d : Str} {l : List Str}
    (hrd : (P.withStr d).readDir w = (.ok (l.map P.withStr), w')) (todo : List Str) :
    VPath.walkNext (st P [] (d :: todo)) w = VPath.walkNext (st P l todo) w' := by
  have hf : VPath.walkFind [] ((d :: todo).map P.withStr) w =
      VPath.walkFind (l.map P.withStr) (todo.map P.withStr) w' := by
    simp only [List.map_cons]
    conv => lhs; unfold VPath.walkFind
    rw [hrd]
    cases l with
    | nil => rfl
    | cons n ns =>
      simp only [List.map_cons, VPath.walkFind]
      rfl
  unfold VPath.walkNext st
  simp only [bind, M.bind]
  simp only [List.map_nil] at hf ⊢
  rw [hf]

theorem walkDir_of {p : Str} {l : List Str}
    (hrd : (P.withStr p).readDir w = (.ok (l.map P.withStr), w')) :
    VPath.walkDir (P.withStr p) w = (.ok (st P l []), w') := by
  unfold VPath.walkDir st
  simp only [bind, M.bind, hrd, pure, M.pure, List.map_nil]

end Vfs.WkG

namespace Vfs.Wk

section step
variable {w : World} {i : Nat} {m : FMap} (h : MemLeafAt w i m) (id : Nat)
include h

/-- `WkG.st (mk i id [])`: the iterator state on memory leaf `i` -/
def st (i id : Nat) (inner todo : List Str) : VPath.Walk :=
  { inner := inner.map (mk i id), todo := todo.map (mk i id) }

theorem run_vReadDir_dir (d : Str) (e : Entry) (hd : m.find? d = some e) (hdir : e.ftype = .dir) :
    (mk i id d).readDir w = (.ok ((children m d).map (mk i id)), w) := by
  have hr : Mem.readDir m d = .ok (m.keys.filterMap (childName d)) := by
    simp [Mem.readDir, hd, hdir]
  rw [run_vreadDir h (mk i id d) rfl]
  show (((Mem.readDir m d).withPath d).map _, w) = _
  rw [hr]
  unfold children
  rw [List.map_map]
  rfl

end step

section start
variable {w : World} {i : Nat} {m : FMap} (h : MemLeafAt w i m) (id : Nat)
include h

theorem run_walkDir (p : Str) (e : Entry) (hp : m.find? p = some e) (hdir : e.ftype = .dir) :
    VPath.walkDir (mk i id p) w = (.ok (st i id (children m p) []), w) :=
  WkG.walkDir_of (P := mk i id []) (run_vReadDir_dir h id p e hp hdir)

/-- `read_dir` of anything but a directory; `walk_dir` there is `WkG.collect_readDir_err` of it -/
theorem run_readDir_fail (p : Str) (hp : ∀ e, m.find? p = some e → e.ftype ≠ .dir) :
    (leafFS i).readDir p w =
      (.err (if m.contains p then .other else .fileNotFound) none, w) := by
  rw [run_readDir h p, Mem.readDir_eq, FMap.contains]
  cases hf : m.find? p with
  | none => rfl
  | some e =>
    cases he : e.ftype with
    | file => simp [he, fail]
    | dir => exact absurd he (hp e hf)

end start

theorem filter_length_le {α} (l : List α) (q q' : α → Bool)
    (himp : ∀ k ∈ l, q' k = true → q k = true) : (l.filter q').length ≤ (l.filter q).length := by
  induction l with
  | nil => simp
  | cons a l ih =>
    have ih' := ih (fun k hk => himp k (List.mem_cons_of_mem _ hk))
    have ha := himp a (by simp)
    simp only [List.filter_cons]
    cases hq' : q' a with
    | true => rw [ha hq']; simpa using ih'
    | false =>
      cases q a
      · simpa using ih'
      · simp only [Bool.false_eq_true, ↓reduceIte, List.length_cons]; omega

theorem filter_length_lt {α} (l : List α) (q q' : α → Bool) (x : α) (hx : x ∈ l)
    (hqx : q x = true) (hq'x : q' x = false) (himp : ∀ k ∈ l, q' k = true → q k = true) :
    (l.filter q').length < (l.filter q).length := by
  induction l with
  | nil => cases hx
  | cons a l ih =>
    have himp' : ∀ k ∈ l, q' k = true → q k = true := fun k hk => himp k (List.mem_cons_of_mem _ hk)
    have ha := himp a (by simp)
    simp only [List.filter_cons]
    simp only [List.mem_cons] at hx
    by_cases hxa : x = a
    · subst hxa
      rw [hqx, hq'x]
      have := filter_length_le l q q' himp'
      simp only [Bool.false_eq_true, ↓reduceIte, List.length_cons]; omega
    · have hxl : x ∈ l := by
        rcases hx with hx | hx
        · exact absurd hx hxa
        · exact hx
      have ih' := ih hxl himp'
      cases hq' : q' a with
      | true => rw [ha hq']; simpa using ih'
      | false =>
        cases q a
        · simpa using ih'
        · simp only [Bool.false_eq_true, ↓reduceIte, List.length_cons]; omega

theorem walkAll_fuel_succ : ∀ (fuel : Nat) (s : VPath.Walk) (w w' : World) (l : List (Res VPath)),
    VPath.walkAll fuel s w = (.ok l, w') → VPath.walkAll (fuel + 1) s w = (.ok l, w') := by
  intro fuel
  induction fuel with
  | zero => intro s w w' l h; simp [VPath.walkAll, M.ret] at h
  | succ fuel ih =>
    intro s w w' l h
    rw [VPath.walkAll_succ] at h ⊢
    simp only [bind, M.bind] at h ⊢
    rcases hn : VPath.walkNext s w with ⟨r, w1⟩
    rw [hn] at h
    cases r with
    | panic => simp at h
    | err k p => simp at h
    | ok r =>
      obtain ⟨item, s'⟩ := r
      simp only at h ⊢
      cases item with
      | none => exact h
      | some it =>
        simp only [M.bind] at h ⊢
        rcases hr : VPath.walkAll fuel s' w1 with ⟨r2, w2⟩
        rw [hr] at h
        cases r2 with
        | panic => simp at h
        | err k p => simp at h
        | ok rest =>
          rw [ih s' w1 w2 rest hr]
          exact h

theorem walkAll_fuel_le {fuel fuel' : Nat} (hle : fuel ≤ fuel') (s : VPath.Walk) (w w' : World)
    (l : List (Res VPath)) (h : VPath.walkAll fuel s w = (.ok l, w')) :
    VPath.walkAll fuel' s w = (.ok l, w') := by
  induction hle with
  | refl => exact h
  | step _ ih => exact walkAll_fuel_succ _ s w w' l ih

theorem below_root {m : FMap} (hwf : WF m) : ∀ (n : Nat) (k : Str), k.length ≤ n →
    (∃ e, m.find? k = some e) → k ≠ [] → below [] k = true := by
  intro n
  induction n with
  | zero =>
    intro k hk _ hne
    cases k with
    | nil => exact absurd rfl hne
    | cons c cs => simp at hk
  | succ n ih =>
    intro k hk ⟨e, he⟩ hne
    obtain ⟨hs, pe, hpe, _⟩ := hwf.2 k e he hne
    have hb := below_parent_self k hs
    by_cases hpar : parentInternal k = []
    · rw [hpar] at hb; exact hb
    · have := ih (parentInternal k) (by have := parent_shorter k hs; omega) ⟨pe, hpe⟩ hpar
      exact below_trans this hb

/-- in a well-formed tree the present keys below the root are all but the root -/
theorem below_root_iff {m : FMap} (hwf : WF m) {k : Str} (hk : ∃ e, m.find? k = some e) :
    below [] k = true ↔ k ≠ [] :=
  ⟨fun h h0 => Bool.false_ne_true ((below_irrefl []).symm.trans (h0 ▸ h)),
    below_root hwf k.length k (Nat.le_refl _) hk⟩

end Vfs.Wk
