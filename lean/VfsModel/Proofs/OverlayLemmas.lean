/-
  Helper lemmas for C09 / C10 (the overlay presents the union of its layers; whiteouts).

  * names and paths: `stripWo`, `marker p = "/.whiteout" ++ p ++ "_wo"`, the three path
    computations of the overlay (`whiteout_path`, `write_path`, `layer.join(&path[1..])`) on
    canonical paths;
  * `OW w u l mu ml`: the setting — a world whose leaves `u ≠ l` are memory leaves holding the
    maps `mu` (upper layer) and `ml` (lower layer); `layers2 u l idu idl` the two layer roots;
  * the union view `view mu ml p` and the pure functions of the two maps that the building blocks
    of the overlay compute (`pEnsure`, `pClear`, `pAddWhiteout`, `pListing`, `pRemoveFile`,
    `pRemoveDir`); that the overlay computes them is proved for any number of layers
    in Proofs/OverlayNLemmas.lean and OverlayNRemoveLemmas.lean (`run_*N`); what they do to the
    upper map is in Proofs/OverlayEffect.lean.
  * `pCreateTail` is the pure function of the part of `create_dir` after the overlay's `exists`
    said no (`pCreateDirN` uses it): `OverlayFS::create_dir` clears the whiteout also when the write
    layer answers `DirectoryExists` (finding O11, DESIGN.md §I.4); `pCreateTail_snd` describes its
    map in every case.
  * on ONE memory leaf: how the path-layer observers, `create_dir_all`, the marker write
    (`Mem.pTouch`), listings, handles and `copy_file` run (`run_vexists`, `run_visDir`,
    `run_createDirAll`, `run_pTouch` …); `andThen`, the sequencing of the pure functions, with its
    two rules;
  * about the union view: the merged listing is the set of its children (`mem_markedNames`,
    `mem_layerNames`), and `ensure_has_parent` does not change it up to the timestamps of
    directories (`AncDirs`, `RootOk`, `dirBlind`, `parentOk_fillDirs_gen`);
  * about the path layer of the upper map alone: the marker write, `create_dir`, `create_file`,
    `remove_file`, `remove_dir` by outcome (`Mem.pTouch_graph`, `Mem.pCreateDir_fresh`,
    `Mem.pOpenW_fresh`, `Mem.pRemoveFile_file`, `Mem.pRemoveDir_childless`), and which keys each
    primitive keeps whatever its outcome (`Mem.Erasing.keeps`, `pClear_keeps`, `pAddWhiteout_keeps` …);
    Proofs/OverlayEffect.lean builds on these.
-/
import VfsModel.Proofs.AltrootLemmas
import VfsModel.Proofs.MemRun
import VfsModel.Props.C05
namespace Vfs
open Overlay

/-! ### names -/

theorem goodComp_woDir : GoodComp woDir := by decide

theorem woSuffix_length : woSuffix.length = 3 := rfl

theorem goodComp_wo {c : Str} (h : GoodComp c) : GoodComp (c ++ woSuffix) := by
  obtain ⟨_, h2, _, _⟩ := h
  refine ⟨by simp [woSuffix], ?_, ?_, ?_⟩
  · simp only [List.mem_append, not_or]
    exact ⟨h2, by decide⟩
  · intro e
    have := congrArg List.length e
    simp [woSuffix] at this
  · intro e
    have := congrArg List.length e
    simp [woSuffix] at this

theorem stripWo_append (n : Str) : stripWo (n ++ woSuffix) = some n := by
  unfold stripWo
  have hs : woSuffix.isSuffixOf (n ++ woSuffix) = true := by
    rw [List.isSuffixOf_iff_suffix]; exact List.suffix_append _ _
  rw [if_pos hs]
  congr 1
  apply List.take_left'
  simp [woSuffix]

theorem stripWo_some_iff (m n : Str) : stripWo m = some n ↔ m = n ++ woSuffix := by
  constructor
  · intro h
    unfold stripWo at h
    split at h
    · rename_i hs
      rw [List.isSuffixOf_iff_suffix] at hs
      obtain ⟨t, rfl⟩ := hs
      injection h with h
      have : List.take ((t ++ woSuffix).length - 3) (t ++ woSuffix) = t := by
        apply List.take_left'; simp [woSuffix]
      rw [this] at h
      rw [h]
    · cases h
  · rintro rfl; exact stripWo_append n

theorem stripWo_none (m : Str) (h : ¬ woSuffix <:+ m) : stripWo m = none := by
  unfold stripWo
  rw [if_neg]
  rw [List.isSuffixOf_iff_suffix]; exact h

/-! ### markers -/

/-- the whiteout marker of `p`: `"/.whiteout" ++ p ++ "_wo"` -/
def marker (p : Str) : Str := '/' :: (woDir ++ p ++ woSuffix)

/-- the bookkeeping directory that holds the markers of the children of `p`: "/.whiteout" ++ p -/
def woDirOf (p : Str) : Str := '/' :: (woDir ++ p)

/-- the marker tested by `exists("")`: "/.whiteout/_wo" -/
def rootMarker : Str := '/' :: (woDir ++ '/' :: woSuffix)

theorem marker_injective (p q : Str) (h : marker p = marker q) : p = q := by
  unfold marker at h
  simp only [List.cons.injEq, true_and, List.append_assoc] at h
  exact List.append_cancel_right (List.append_cancel_left h)

theorem marker_renderC (ds : List Str) (n : Str) :
    marker (renderC (ds ++ [n])) = renderC (woDir :: (ds ++ [n ++ woSuffix])) := by
  simp [marker, List.append_assoc]

theorem woDirOf_renderC (cs : List Str) : woDirOf (renderC cs) = renderC (woDir :: cs) := by
  simp [woDirOf]

theorem marker_child (p n : Str) :
    marker (p ++ '/' :: n) = woDirOf p ++ '/' :: (n ++ woSuffix) := by
  simp [marker, woDirOf, List.append_assoc]

theorem good_snoc {ds : List Str} {n : Str} (hds : ∀ c ∈ ds, GoodComp c) (hn : GoodComp n) :
    ∀ c ∈ ds ++ [n], GoodComp c := by
  intro c hc
  rcases List.mem_append.1 hc with h | h
  · exact hds c h
  · simp at h; subst h; exact hn

theorem good_of_snoc {ds : List Str} {n : Str} (h : ∀ c ∈ ds ++ [n], GoodComp c) :
    (∀ c ∈ ds, GoodComp c) ∧ GoodComp n :=
  ⟨fun c hc => h c (by simp [hc]), h n (by simp)⟩

theorem good_markerComps {ds : List Str} {n : Str} (hds : ∀ c ∈ ds, GoodComp c)
    (hn : GoodComp n) : ∀ c ∈ woDir :: (ds ++ [n ++ woSuffix]), GoodComp c := by
  intro c hc
  rcases List.mem_cons.1 hc with rfl | hc
  · exact goodComp_woDir
  · exact good_snoc hds (goodComp_wo hn) c hc

/-- the marker of a canonical path is a canonical path -/
theorem marker_canon (ds : List Str) (n : Str) (hds : ∀ c ∈ ds, GoodComp c) (hn : GoodComp n) :
    Canon (marker (renderC (ds ++ [n]))) :=
  ⟨_, good_markerComps hds hn, marker_renderC ds n⟩

/-- … whose parent is "/.whiteout" ++ parent -/
theorem marker_parent (ds : List Str) (n : Str) (hds : ∀ c ∈ ds, GoodComp c) (hn : GoodComp n) :
    parentInternal (marker (renderC (ds ++ [n]))) = woDirOf (renderC ds) := by
  rw [marker_renderC, woDirOf_renderC,
    parentInternal_renderC _ (good_noSlash (good_markerComps hds hn))]
  rw [show woDir :: (ds ++ [n ++ woSuffix]) = (woDir :: ds) ++ [n ++ woSuffix] from rfl,
    List.dropLast_concat]

theorem parent_snoc (ds : List Str) (n : Str) (hds : ∀ c ∈ ds, GoodComp c) (hn : GoodComp n) :
    parentInternal (renderC (ds ++ [n])) = renderC ds := by
  rw [parentInternal_renderC _ (good_noSlash (good_snoc hds hn)), List.dropLast_concat]

/-- two strings that agree up to their first '/' -/
theorem first_slash_split (x y s t : Str) (hx : '/' ∉ x) (hy : '/' ∉ y)
    (hs : s = [] ∨ s.head? = some '/') (he : x ++ s = y ++ '/' :: t) : x = y :=
  (slashfree_split x y s ('/' :: t) hx hy hs (Or.inr rfl) he).1

/-- a canonical path and a marker coincide only inside the ".whiteout" namespace -/
theorem renderC_eq_marker_head (cs : List Str) (q : Str) (hcs : ∀ c ∈ cs, '/' ∉ c)
    (h : renderC cs = marker q) (hq : q.head? = some '/') : cs.head? = some woDir := by
  cases cs with
  | nil => simp [marker] at h
  | cons c cs =>
    cases q with
    | nil => simp at hq
    | cons a q' =>
      simp at hq; subst hq
      simp only [renderC_cons, marker, List.cons_append, List.cons.injEq, true_and,
        List.append_assoc] at h
      have hc : '/' ∉ c := hcs c (by simp)
      have hs : renderC cs = [] ∨ (renderC cs).head? = some '/' := by cases cs <;> simp
      have := first_slash_split c woDir _ _ hc (by decide) hs h
      simp [this]

/-! ### the path computations of the overlay on canonical paths -/

theorem tail1_renderC_cons (c : Str) (cs : List Str) : tail1 (renderC (c :: cs)) = c ++ renderC cs := by
  simp [tail1]

/-- `layer.join(&path[1..])` -/
theorem join_tail1_base (l : VPath) (b : List Str) (hl : l.path = renderC b) (hb : ∀ c ∈ b, '/' ∉ c)
    (cs : List Str) (hne : cs ≠ []) (hcs : ∀ c ∈ cs, GoodComp c) :
    l.join (tail1 (renderC cs)) = .ok (l.withStr (renderC b ++ renderC cs)) := by
  cases cs with
  | nil => exact absurd rfl hne
  | cons c cs =>
    rw [tail1_renderC_cons]
    exact VPath.join_good l b hl hb c cs (hcs c (by simp)) (fun x hx => hcs x (by simp [hx]))

theorem join_root_tail1 (l : VPath) (hl : l.path = []) (cs : List Str) (hne : cs ≠ [])
    (hcs : ∀ c ∈ cs, GoodComp c) : l.join (tail1 (renderC cs)) = .ok (l.withStr (renderC cs)) :=
  join_tail1_base l [] hl (by simp) cs hne hcs

/-- `layer.join(actual_path)` of `read_dir` (the root included) -/
theorem join_root_actual (l : VPath) (hl : l.path = []) (cs : List Str)
    (hcs : ∀ c ∈ cs, GoodComp c) :
    l.join (if renderC cs ≠ [] then tail1 (renderC cs) else renderC cs)
      = .ok (l.withStr (renderC cs)) := by
  cases cs with
  | nil =>
    simp only [renderC_nil, ne_eq, not_true_eq_false, if_false]
    unfold VPath.join joinInternal
    rw [hl]; rfl
  | cons c cs =>
    rw [if_pos (by simp)]
    exact join_root_tail1 l hl _ (by simp) hcs

/-- `write_path`, the write layer at `renderC b` -/
theorem writePath_base (layers : List VPath) (b : List Str)
    (hw : (writeLayer layers).path = renderC b) (hb : ∀ c ∈ b, '/' ∉ c)
    (cs : List Str) (hne : cs ≠ []) (hcs : ∀ c ∈ cs, GoodComp c) :
    writePath layers (renderC cs)
      = .ok ((writeLayer layers).withStr (renderC b ++ renderC cs)) := by
  rw [writePath_of_ne layers (by cases cs with | nil => exact absurd rfl hne | cons c cs => simp)]
  exact join_tail1_base _ b hw hb cs hne hcs

theorem writePath_canon (layers : List VPath) (hw : (writeLayer layers).path = [])
    (cs : List Str) (hne : cs ≠ []) (hcs : ∀ c ∈ cs, GoodComp c) :
    writePath layers (renderC cs) = .ok ((writeLayer layers).withStr (renderC cs)) :=
  writePath_base layers [] hw (by simp) cs hne hcs

/-- `whiteout_path`, the write layer at `renderC b` -/
theorem whiteoutPath_base (layers : List VPath) (b : List Str)
    (hw : (writeLayer layers).path = renderC b) (hb : ∀ c ∈ b, '/' ∉ c)
    (ds : List Str) (n : Str) (hds : ∀ c ∈ ds, GoodComp c) (hn : GoodComp n) :
    whiteoutPath layers (renderC (ds ++ [n]))
      = .ok ((writeLayer layers).withStr (renderC b ++ marker (renderC (ds ++ [n])))) := by
  rw [whiteoutPath_of_ne layers (by cases ds <;> simp)]
  have harg : woDir ++ '/' :: (tail1 (renderC (ds ++ [n])) ++ woSuffix)
      = woDir ++ renderC (ds ++ [n ++ woSuffix]) := by
    cases ds with
    | nil => simp [tail1]
    | cons d ds => simp [tail1, List.append_assoc]
  rw [harg, VPath.join_good _ b hw hb woDir _ goodComp_woDir (good_snoc hds (goodComp_wo hn)),
    marker_renderC]

theorem whiteoutPath_canon (layers : List VPath) (hw : (writeLayer layers).path = [])
    (ds : List Str) (n : Str) (hds : ∀ c ∈ ds, GoodComp c) (hn : GoodComp n) :
    whiteoutPath layers (renderC (ds ++ [n]))
      = .ok ((writeLayer layers).withStr (marker (renderC (ds ++ [n])))) :=
  whiteoutPath_base layers [] hw (by simp) ds n hds hn

/-- the marker of the root, the write layer at `renderC b` -/
theorem whiteoutPath_root_base (layers : List VPath) (b : List Str)
    (hw : (writeLayer layers).path = renderC b) (hb : ∀ c ∈ b, '/' ∉ c) :
    whiteoutPath layers [] = .ok ((writeLayer layers).withStr (renderC b ++ rootMarker)) := by
  rw [whiteoutPath_nil]
  exact VPath.join_good _ b hw hb woDir [woSuffix] goodComp_woDir (by decide)

theorem whiteoutPath_root (layers : List VPath) (hw : (writeLayer layers).path = []) :
    whiteoutPath layers [] = .ok ((writeLayer layers).withStr rootMarker) :=
  whiteoutPath_root_base layers [] hw (by simp)

/-- the directory of markers consulted by `read_dir(p)`: ".whiteout" ++ p -/
theorem woDir_join_canon (layers : List VPath) (hw : (writeLayer layers).path = [])
    (cs : List Str) (hcs : ∀ c ∈ cs, GoodComp c) :
    (writeLayer layers).join (woDir ++ renderC cs)
      = .ok ((writeLayer layers).withStr (woDirOf (renderC cs))) := by
  rw [VPath.join_good _ [] hw (by simp) woDir cs goodComp_woDir hcs, ← woDirOf_renderC]; rfl

/-! ### the setting: two memory leaves, the two layer roots -/

/-- leaves `u ≠ l` of the world are memory leaves holding `mu` (upper) and `ml` (lower) -/
structure OW (w : World) (u l : Nat) (mu ml : FMap) : Prop where
  hu : MemLeafAt w u mu
  hl : MemLeafAt w l ml
  ne : u ≠ l

theorem OW.setU {w : World} {u l : Nat} {mu ml : FMap} (h : OW w u l mu ml) (m' : FMap) :
    OW (w.setLeafFiles u m') u l m' ml :=
  ⟨h.hu.set m', h.hl.set_ne h.ne m', h.ne⟩

/-- the two layers of the overlay: the roots of the leaf filesystems `u` (upper) and `l` -/
def layers2 (u l idu idl : Nat) : List VPath :=
  [{ fs := leafFS u, fsId := idu, path := [] }, { fs := leafFS l, fsId := idl, path := [] }]

/-- the union view: nothing where a marker sits, otherwise the first layer that has the path -/
def view (mu ml : FMap) (p : Str) : Option Entry :=
  if mu.contains (marker p) then none else (mu.find? p).or (ml.find? p)

/-! ### how the path-layer observers run on a memory leaf -/

section runv
variable {w : World} {i : Nat} {m : FMap} (h : MemLeafAt w i m)
include h

theorem run_vexists (id : Nat) (p : Str) :
    VPath.exists_ { fs := leafFS i, fsId := id, path := p } w = (.ok (m.contains p), w) :=
  run_exists h p

theorem run_visDir (id : Nat) (p : Str) :
    VPath.isDir { fs := leafFS i, fsId := id, path := p } w =
      (.ok (match m.find? p with
            | some e => decide (e.ftype = .dir)
            | none => false), w) := by
  unfold VPath.isDir
  rcases Option.eq_none_or_eq_some (m.find? p) with hf | ⟨e, hf⟩
  · simp [hf, bind, M.bind, run_vexists h, contains_of_none hf, Pure.pure, M.pure]
  · simp [hf, bind, M.bind, run_vexists h, run_vmetadata h ⟨leafFS i, id, p⟩ rfl, contains_of_find hf,
      Mem.metadata, Pure.pure, M.pure, Res.withPath, Entry.meta]

theorem run_visFile (id : Nat) (p : Str) :
    VPath.isFile { fs := leafFS i, fsId := id, path := p } w =
      (.ok (match m.find? p with
            | some e => decide (e.ftype = .file)
            | none => false), w) := by
  unfold VPath.isFile
  rcases Option.eq_none_or_eq_some (m.find? p) with hf | ⟨e, hf⟩
  · simp [hf, bind, M.bind, run_vexists h, contains_of_none hf, Pure.pure, M.pure]
  · simp [hf, bind, M.bind, run_vexists h, run_vmetadata h ⟨leafFS i, id, p⟩ rfl, contains_of_find hf,
      Mem.metadata, Pure.pure, M.pure, Res.withPath, Entry.meta]

end runv

/-- sequencing of pure state functions on a map: `M.bind` with the one map in place of the world.
The overlay's mutators are written as functions of the layer MAPS (`pClear`, `pAddWhiteout`,
`pCreateDirN` …) and not as `M` programs, so that what they do is an equation between terms of
maps, with no world and no leaf index in it; the `run_*N` lemmas say that the `M` program of the
model computes that function on the upper leaf. `andThen_ok` and `andThen_keeps` are its two rules;
`C09.wf_andThen` (Proofs/OverlayEffect.lean) is the third. -/
def andThen {α β} (x : Res α × FMap) (f : α → FMap → Res β × FMap) : Res β × FMap :=
  match x with
  | (.ok a, m) => f a m
  | (.err k p, m) => (.err k p, m)
  | (.panic, m) => (.panic, m)

theorem andThen_ok {α β} {x : Res α × FMap} {f : α → FMap → Res β × FMap} {b : β} {m' : FMap}
    (h : andThen x f = (.ok b, m')) : ∃ a m, x = (.ok a, m) ∧ f a m = (.ok b, m') := by
  obtain ⟨r, m⟩ := x
  cases r with
  | ok a => exact ⟨a, m, rfl, h⟩
  | err e pth => simp [andThen] at h
  | panic => simp [andThen] at h

theorem andThen_keeps {α β} {k : Str} (x : Res α × FMap) (f : α → FMap → Res β × FMap)
    (hx : x.2.contains k = true) (hf : ∀ a m, m.contains k = true → (f a m).2.contains k = true) :
    (andThen x f).2.contains k = true := by
  obtain ⟨r, m⟩ := x
  cases r with
  | ok a => exact hf a m hx
  | err e pth => exact hx
  | panic => exact hx

/-- `create_file()?` immediately dropped: an empty file is published -/
def Mem.pTouch (m : FMap) (k : Str) : Res Unit × FMap :=
  if Mem.parentOk m k then
    match Mem.createFile m k with
    | (.ok _, m') => (.ok (), memPublish m' k [])
    | (.err e pth, m') => ((Res.err e pth : Res Unit).withPath k, m')
    | (.panic, m') => (.panic, m')
  else (.err .other (some k), m)

section run1
variable {w : World} {i : Nat} {m : FMap} (h : MemLeafAt w i m)
include h

theorem run_createDirAll (id : Nat) (ds : List Str) (hds : ∀ c ∈ ds, GoodComp c) :
    VPath.createDirAll { fs := leafFS i, fsId := id, path := renderC ds } w =
      ((Mem.mkdirs m (chain [] ds)).1, w.setLeafFiles i (Mem.mkdirs m (chain [] ds)).2) := by
  rw [VPath.createDirAll_canon _ hds rfl, run_createDirAllLoop h]

theorem run_pTouch (id : Nat) (k : Str) :
    (do let hd ← VPath.createFile { fs := leafFS i, fsId := id, path := k }
        hd.drop : M Unit) w =
      ((Mem.pTouch m k).1, w.setLeafFiles i (Mem.pTouch m k).2) := by
  unfold VPath.createFile Mem.pTouch
  simp only [bind, M.bind, run_getParent h]
  by_cases hp : Mem.parentOk m k = true
  · simp only [hp, ↓reduceIte, M.withPath, run_createFile h]
    cases hc : Mem.createFile m k with
    | mk r m' =>
      cases r with
      | ok u =>
        simp only [Res.map, Res.withPath, run_dropMem (h.set m'), World.setLeafFiles_twice]
      | err k pth => simp [Res.map, Res.withPath]
      | panic => simp [Res.map, Res.withPath]
  · simp only [hp, Bool.false_eq_true, ↓reduceIte, h.same]

end run1

/-! ### listings -/

/-- the names a layer contributes to the merged listing of `p`: its children if `p` is a
directory there, nothing otherwise -/
def layerNames (m : FMap) (p : Str) : List Str :=
  match m.find? p with
  | some e => if e.ftype = .dir then m.keys.filterMap (childName p) else []
  | none => []

/-- the `HashSet` insertions of `read_dir` -/
def mergeStep (acc names : List Str) : List Str :=
  names.foldl (fun a n => if n ∈ a then a else a ++ [n]) acc

theorem mergeStep_nil (acc : List Str) : mergeStep acc [] = acc := rfl

/-- the names of the children paths handed back by `VfsPath::read_dir` -/
theorem filenames_of_children (fs : FS) (id : Nat) (p : Str) (names : List Str)
    (hn : ∀ n ∈ names, '/' ∉ n) :
    (names.map (fun n => (VPath.withStr { fs := fs, fsId := id, path := p } (p ++ '/' :: n)))).map
      (fun c => filenameInternal c.path) = names := by
  rw [List.map_map]
  conv => rhs; rw [← List.map_id names]
  apply List.map_congr_left
  intro n hm
  simp only [Function.comp, VPath.withStr, _root_.id]
  exact afterLast_append_delim '/' p n (hn n hm)

theorem children_noSlash (m : FMap) (p : Str) : ∀ n ∈ m.keys.filterMap (childName p), '/' ∉ n :=
  fun n hn => ((mem_children m p n).1 hn).1

theorem run_vreadDir_dir {w : World} {i : Nat} {m : FMap} (h : MemLeafAt w i m) (id : Nat) (p : Str)
    (e : Entry) (hf : m.find? p = some e) (hd : e.ftype = .dir) :
    VPath.readDir { fs := leafFS i, fsId := id, path := p } w =
      (.ok ((m.keys.filterMap (childName p)).map
        (fun n => VPath.withStr { fs := leafFS i, fsId := id, path := p } (p ++ '/' :: n))), w) := by
  rw [run_vreadDir h _ rfl]
  simp [Mem.readDir, hf, hd, Res.withPath, Res.map]

theorem run_vreadDir_file {w : World} {i : Nat} {m : FMap} (h : MemLeafAt w i m) (id : Nat)
    (p : Str) (e : Entry) (hf : m.find? p = some e) (hd : e.ftype = .file) :
    VPath.readDir { fs := leafFS i, fsId := id, path := p } w = (.err .other (some p), w) := by
  rw [run_vreadDir h _ rfl]
  simp [Mem.readDir, hf, hd, Res.withPath, Res.map, fail]

/-- one layer's contribution to `mergeListings` -/
theorem run_mergeLayer {w : World} {i : Nat} {m : FMap} (h : MemLeafAt w i m) (id : Nat) (p : Str)
    (acc : List Str) {β} (k : List Str → M β) :
    (do let isd ← VPath.isDir { fs := leafFS i, fsId := id, path := p }
        if isd then do
          let cs ← VPath.readDir { fs := leafFS i, fsId := id, path := p }
          k ((cs.map fun c => filenameInternal c.path).foldl
              (fun a n => if n ∈ a then a else a ++ [n]) acc)
        else k acc : M β) w = k (mergeStep acc (layerNames m p)) w := by
  simp only [bind, M.bind, run_visDir h]
  unfold layerNames
  rcases Option.eq_none_or_eq_some (m.find? p) with hf | ⟨e, hf⟩
  · simp [hf, mergeStep]
  · by_cases hd : e.ftype = .dir
    · simp only [hf, hd, decide_true, if_true, M.bind, run_vreadDir_dir h id p e hf hd,
        filenames_of_children _ _ _ _ (children_noSlash m p)]
      rfl
    · simp [hf, hd, mergeStep]

/-! ### handles and transfers on a memory leaf -/

theorem Mem.openFile_some (m : FMap) (p : Str) (e : Entry) (hf : m.find? p = some e) :
    Mem.openFile m p =
      (if e.ftype ≠ .file then fail .other else .ok { content := e.content, pos := 0 },
        m.insert p { e with accessed := .now }) := by
  unfold Mem.openFile Mem.setAccessed
  simp only [hf, FMap.find?_insert_self]
  split <;> rfl

theorem Mem.openFile_none (m : FMap) (p : Str) (hf : m.find? p = none) :
    Mem.openFile m p = (fail .fileNotFound, m) := by
  unfold Mem.openFile Mem.setAccessed
  simp only [hf, fail]

theorem run_vopenFile {w : World} {i : Nat} {m : FMap} (h : MemLeafAt w i m) (id : Nat) (p : Str) :
    VPath.openFile { fs := leafFS i, fsId := id, path := p } w =
      ((Mem.openFile m p).1.withPath p, w.setLeafFiles i (Mem.openFile m p).2) :=
  VPath.openFile_of_call (run_openFile h p)

theorem run_vappendFile {w : World} {i : Nat} {m : FMap} (h : MemLeafAt w i m) (id : Nat) (p : Str) :
    VPath.appendFile { fs := leafFS i, fsId := id, path := p } w =
      (((Mem.appendFile m p).map (fun b =>
        ({ leaf := i, key := p, kind := .memFile, buf := b, pos := b.length } : WHandle))).withPath p,
        w) :=
  VPath.appendFile_of_call (run_appendFile h p)

theorem parentOk_contains {m : FMap} {p : Str} (h : Mem.parentOk m p = true) :
    m.contains (parentInternal p) = true := by
  obtain ⟨pe, hpe, _⟩ := Mem.parentOk_spec m p h
  exact contains_of_find hpe

/-! ### the overlay's building blocks on the two-leaf world -/

section run2
variable {u idu : Nat}

theorem writeLayer_layers2_path (u l idu idl : Nat) :
    (writeLayer (layers2 u l idu idl)).path = [] := rfl

theorem join_leafRoot (i id : Nat) (cs : List Str) (hne : cs ≠ []) (hcs : ∀ c ∈ cs, GoodComp c) :
    ({ fs := leafFS i, fsId := id, path := [] } : VPath).join (tail1 (renderC cs))
      = .ok { fs := leafFS i, fsId := id, path := renderC cs } :=
  join_root_tail1 _ rfl cs hne hcs

theorem renderC_ne_nil {cs : List Str} (hne : cs ≠ []) : renderC cs ≠ [] :=
  List.ne_nil_of_mem (slash_mem_renderC hne)

/-- the pure value of `exists` on a canonical path, the root included -/
def pexists (mu ml : FMap) (p : Str) : Bool :=
  if p = [] then (!mu.contains rootMarker && mu.contains []) else (view mu ml p).isSome

/-- the type test of `ensure_has_parent` (`read_path(parent)?.is_dir()?`) on a canonical path:
the entry of the union view (the root: of the upper layer) is a directory -/
def pIsDir (mu ml : FMap) (p : Str) : Bool :=
  match (if p = [] then mu.find? [] else view mu ml p) with
  | some e => decide (e.ftype = .dir)
  | none => false

/-- `ensure_has_parent` as a function of the maps; `ds` are the components of the parent.
The parent has to exist in the union view AND be a directory there; otherwise the call fails
and the upper map is unchanged: the check comes before any directory is created in the upper
layer, so a parent that is a FILE is never shadowed (finding O10, DESIGN.md §I.4). -/
def pEnsure (mu ml : FMap) (ds : List Str) : Res Unit × FMap :=
  if pexists mu ml (renderC ds) then
    if pIsDir mu ml (renderC ds) then Mem.mkdirs mu (chain [] ds) else (.err .other none, mu)
  else (.err .other none, mu)

/-- the removal of the marker by `create_dir` / `create_file` -/
def pClear (mu : FMap) (p : Str) : Res Unit × FMap :=
  if mu.contains (marker p) then Mem.pRemoveFile mu (marker p) else (.ok (), mu)

theorem pClear_unmarked {m : FMap} {p : Str} (h : m.contains (marker p) = false) :
    pClear m p = (.ok (), m) := by
  unfold pClear; rw [h]; rfl

theorem pClear_of_marked {m : FMap} {p : Str} (h : m.contains (marker p) = true) :
    pClear m p = Mem.pRemoveFile m (marker p) := by
  unfold pClear; rw [if_pos h]

/-- on a memory map the removal of a key that is present never answers `FileNotFound` -/
theorem Mem.pRemoveFile_not_nf {m : FMap} {k : Str} (hc : m.contains k = true) (pth : Option Str) :
    (Mem.pRemoveFile m k).1 ≠ .err .fileNotFound pth := by
  unfold Mem.pRemoveFile Mem.removeFile
  obtain ⟨e, hf⟩ := (FMap.contains_iff m k).1 hc
  simp only [hf]
  split <;> simp [fail, Res.withPath]

/-- the creation of the marker by `remove_file` / `remove_dir` -/
def pAddWhiteout (mu : FMap) (cs : List Str) : Res Unit × FMap :=
  andThen (Mem.mkdirs mu (chain [] (woDir :: cs.dropLast)))
    (fun _ m1 => Mem.pTouch m1 (marker (renderC cs)))

/-- the part of `read_dir` after the checks on the read path -/
def readDirTail (layers : List VPath) (p : Str) : M (List Str) := do
  let entries ← mergeListings (if p ≠ [] then tail1 p else p) layers []
  let wp ← M.ret ((writeLayer layers).join (woDir ++ p))
  let wex ← wp.exists_
  if wex then do
    let marks ← wp.readDir
    pure ((if p = [] then entries.filter (fun n => n ≠ woDir) else entries).filter
      fun n => n ∉ marks.filterMap fun m => stripWo (filenameInternal m.path))
  else pure (if p = [] then entries.filter (fun n => n ≠ woDir) else entries)

theorem readDir_eq_tail (layers : List VPath) (p : Str) :
    Overlay.readDir layers p = (do
      let rp ← readPath layers p
      let ex ← rp.exists_
      if !ex then M.failK .fileNotFound
      else do
        let isd ← rp.isDir
        if !isd then M.failK .other
        else readDirTail layers p) := rfl

/-- the names with a marker among the children of "/.whiteout" ++ p -/
def markedNames (mu : FMap) (p : Str) : List Str :=
  if mu.contains (woDirOf p) then (mu.keys.filterMap (childName (woDirOf p))).filterMap stripWo
  else []

/-- the listing `read_dir` computes: merged children, minus the bookkeeping directory at the
root, minus the marked names -/
def pListing (mu ml : FMap) (p : Str) : List Str :=
  ((if p = [] then
      (mergeStep (mergeStep [] (layerNames mu p)) (layerNames ml p)).filter (fun n => n ≠ woDir)
    else mergeStep (mergeStep [] (layerNames mu p)) (layerNames ml p)).filter
    fun n => n ∉ markedNames mu p)

theorem filter_not_mem_nil (l : List Str) : l.filter (fun n => n ∉ ([] : List Str)) = l := by
  simp

theorem woDir_join_layers2 (cs : List Str) (hcs : ∀ c ∈ cs, GoodComp c) :
    ({ fs := leafFS u, fsId := idu, path := [] } : VPath).join (woDir ++ renderC cs)
      = .ok { fs := leafFS u, fsId := idu, path := woDirOf (renderC cs) } :=
  woDir_join_canon (layers2 u 0 idu 0) rfl cs hcs

/-- the entry `read_dir(p)` inspects: the root of the upper layer, or the view of `p` -/
def dirEntry? (mu ml : FMap) (p : Str) : Option Entry :=
  if p = [] then mu.find? [] else view mu ml p

theorem view_upper {mu ml : FMap} {p : Str} {e : Entry} (hm : mu.contains (marker p) = false)
    (hf : mu.find? p = some e) : view mu ml p = some e := by
  unfold view; rw [hm, hf]; rfl

theorem view_lower {mu ml : FMap} {p : Str} (hm : mu.contains (marker p) = false)
    (hf : mu.find? p = none) : view mu ml p = ml.find? p := by
  unfold view; rw [hm, hf]; simp

theorem view_isSome (mu ml : FMap) (p : Str) :
    (view mu ml p).isSome = (!mu.contains (marker p) && (mu.contains p || ml.contains p)) := by
  unfold view FMap.contains
  cases (mu.find? (marker p)).isSome <;> cases mu.find? p <;> cases ml.find? p <;> simp

theorem view_marked {mu ml : FMap} {p : Str} (hm : mu.contains (marker p) = true) :
    view mu ml p = none := by unfold view; rw [if_pos hm]

theorem view_some_cases {mu ml : FMap} {p : Str} {e : Entry} (h : view mu ml p = some e) :
    mu.contains (marker p) = false ∧
      (mu.find? p = some e ∨ (mu.find? p = none ∧ ml.find? p = some e)) := by
  unfold view at h
  split at h
  · cases h
  · rename_i hm
    refine ⟨by simpa using hm, ?_⟩
    rcases Option.eq_none_or_eq_some (mu.find? p) with hf | ⟨e', hf⟩
    · right; rw [hf] at h; simp at h; exact ⟨hf, h⟩
    · left; rw [hf] at h; simp at h; rw [hf, h]

/-- the outcome of `read_dir(p)` -/
def pReadDir (mu ml : FMap) (p : Str) : Res (List Str) :=
  match dirEntry? mu ml p with
  | none => .err .fileNotFound none
  | some e => if e.ftype = .dir then .ok (pListing mu ml p) else .err .other none

/-! #### the mutating methods as functions of the maps -/

/-- what `create_dir` does once the overlay's `exists` has said no: the directory is created in the
write layer and the marker cleared; when the write layer answers `DirectoryExists` (it holds the
directory although the path is hidden by a marker: the state a concurrent `create_dir` leaves between
its two steps) the marker is cleared as well before the error is returned (finding O11,
DESIGN.md §I.4) -/
def pCreateTail (mu1 : FMap) (p : Str) : Res Unit × FMap :=
  match Mem.pCreateDir mu1 p with
  | (.ok _, mu2) => pClear mu2 p
  | (.err .dirExists pth, mu2) =>
    match pClear mu2 p with
    | (.ok _, mu3) => (.err .dirExists pth, mu3)
    | (.err k pth', mu3) => (.err k pth', mu3)
    | (.panic, mu3) => (.panic, mu3)
  | (.err k pth, mu2) => (.err k pth, mu2)
  | (.panic, mu2) => (.panic, mu2)

/-- the map after the tail of `create_dir`: that of the write layer's `create_dir`, possibly with
the marker cleared -/
theorem pCreateTail_snd (mu1 : FMap) (p : Str) :
    (pCreateTail mu1 p).2 = (Mem.pCreateDir mu1 p).2 ∨
    (pCreateTail mu1 p).2 = (pClear (Mem.pCreateDir mu1 p).2 p).2 := by
  unfold pCreateTail
  cases hC : Mem.pCreateDir mu1 p with
  | mk r m2 =>
    cases r with
    | ok a => exact Or.inr rfl
    | err k pth =>
      cases k <;> try exact Or.inl rfl
      refine Or.inr ?_
      dsimp only
      cases hP : pClear m2 p with
      | mk r3 m3 => cases r3 <;> rfl
    | panic => exact Or.inl rfl

/-- `VfsPath::create_file` on the upper layer, without the write session -/
def Mem.pOpenW (m : FMap) (p : Str) : Res Unit × FMap :=
  if Mem.parentOk m p then ((Mem.createFile m p).1.withPath p, (Mem.createFile m p).2)
  else (.err .other (some p), m)

theorem run_pOpenW {w : World} {i : Nat} {m : FMap} (h : MemLeafAt w i m) (id : Nat) (p : Str) :
    VPath.createFile { fs := leafFS i, fsId := id, path := p } w =
      ((Mem.pOpenW m p).1.map
        (fun _ => ({ leaf := i, key := p, kind := .memFile, buf := [], pos := 0 } : WHandle)),
        w.setLeafFiles i (Mem.pOpenW m p).2) := by
  unfold VPath.createFile Mem.pOpenW
  simp only [bind, M.bind, run_getParent h]
  by_cases hp : Mem.parentOk m p = true
  · simp only [hp, ↓reduceIte, M.withPath, run_createFile h]
    cases (Mem.createFile m p).1 <;> rfl
  · simp only [hp, Bool.false_eq_true, ↓reduceIte, h.same]; rfl

/-- `remove_file` -/
def pRemoveFile (mu ml : FMap) (cs : List Str) : Res Unit × FMap :=
  match view mu ml (renderC cs) with
  | none => (.err .fileNotFound none, mu)
  | some _ =>
    andThen (if mu.contains (renderC cs) then Mem.pRemoveFile mu (renderC cs) else (.ok (), mu))
      fun _ m1 => pAddWhiteout m1 cs

/-- `remove_dir` -/
def pRemoveDir (mu ml : FMap) (cs : List Str) : Res Unit × FMap :=
  match view mu ml (renderC cs) with
  | none => (.err .fileNotFound none, mu)
  | some _ =>
    match pReadDir mu ml (renderC cs) with
    | .ok l =>
      if l ≠ [] then (.err .other none, mu)
      else
        andThen (if mu.contains (renderC cs) then Mem.pRemoveDir mu (renderC cs) else (.ok (), mu))
          fun _ m1 => pAddWhiteout m1 cs
    | .err k pth => (.err k pth, mu)
    | .panic => (.panic, mu)

end run2

/-! ### the listing is the set of children of the union view -/

/-- children of `p` in `m` only exist when `p` is a directory of `m` (a consequence of `WF m`) -/
def ChildrenHaveDir (m : FMap) (p : Str) : Prop :=
  ∀ n, '/' ∉ n → m.contains (p ++ '/' :: n) = true → ∃ e, m.find? p = some e ∧ e.ftype = .dir

theorem WF.childrenHaveDir {m : FMap} (h : WF m) (p : Str) : ChildrenHaveDir m p := by
  intro n hn hc
  obtain ⟨e, he⟩ := (FMap.contains_iff _ _).1 hc
  obtain ⟨_, pe, h1, h2⟩ := h.2 _ e he (by simp)
  rw [parent_of_child p n hn] at h1
  exact ⟨pe, h1, h2⟩

theorem mem_layerNames (m : FMap) (p n : Str) (hm : ChildrenHaveDir m p) :
    n ∈ layerNames m p ↔ ('/' ∉ n ∧ m.contains (p ++ '/' :: n) = true) := by
  unfold layerNames
  rcases Option.eq_none_or_eq_some (m.find? p) with hf | ⟨e, hf⟩
  · simp only [hf, List.not_mem_nil, false_iff, not_and]
    intro hn hc
    obtain ⟨e, he, _⟩ := hm n hn hc
    rw [hf] at he; cases he
  · by_cases hd : e.ftype = .dir
    · simp only [hf, hd, if_true]; exact mem_children m p n
    · simp only [hf, hd, if_false, List.not_mem_nil, false_iff, not_and]
      intro hn hc
      obtain ⟨e', he', hd'⟩ := hm n hn hc
      rw [hf] at he'; injection he' with he'; subst he'; exact absurd hd' hd

theorem mem_mergeStep (acc names : List Str) (x : Str) :
    x ∈ mergeStep acc names ↔ x ∈ acc ∨ x ∈ names := C05.merge_mem names acc x

theorem nodup_mergeStep (acc names : List Str) (h : acc.Nodup) : (mergeStep acc names).Nodup :=
  C05.merge_nodup names acc h

theorem mem_markedNames (mu : FMap) (p n : Str) (hn : '/' ∉ n)
    (hwo : mu.contains (marker (p ++ '/' :: n)) = true → mu.contains (woDirOf p) = true) :
    n ∈ markedNames mu p ↔ mu.contains (marker (p ++ '/' :: n)) = true := by
  have hnw : '/' ∉ n ++ woSuffix := by
    simp only [List.mem_append, not_or]; exact ⟨hn, by decide⟩
  unfold markedNames
  constructor
  · intro h
    split at h
    · rw [List.mem_filterMap] at h
      obtain ⟨k, hk, hs⟩ := h
      rw [stripWo_some_iff] at hs
      subst hs
      rw [marker_child]
      exact ((mem_children mu _ _).1 hk).2
    · cases h
  · intro h
    rw [if_pos (hwo h)]
    rw [List.mem_filterMap]
    refine ⟨n ++ woSuffix, ?_, stripWo_append n⟩
    rw [mem_children]
    rw [marker_child] at h
    exact ⟨hnw, h⟩

/-! ### `ensure_has_parent` does not change the union view -/

/-- every proper ancestor directory `/d1`, `/d1/d2`, … is a directory of the union view -/
def AncDirs (mu ml : FMap) (ds : List Str) : Prop :=
  ∀ j, 1 ≤ j → j ≤ ds.length → ∃ e, view mu ml (renderC (ds.take j)) = some e ∧ e.ftype = .dir

/-- the root of the upper layer is a directory and the root marker "/.whiteout/_wo" is absent -/
structure RootOk (mu : FMap) : Prop where
  root : ∃ e, mu.find? [] = some e ∧ e.ftype = .dir
  noMark : mu.contains rootMarker = false

/-- an entry up to the timestamps (and the meaningless content) of directories -/
def dirBlind (e : Entry) : Entry := if e.ftype = .dir then dirEntryNow else e

theorem dirBlind_ftype (e : Entry) : (dirBlind e).ftype = e.ftype := by
  unfold dirBlind; split
  · rename_i h; rw [h]; rfl
  · rfl

theorem dirBlind_file (e : Entry) (h : e.ftype = .file) : dirBlind e = e := by
  unfold dirBlind; rw [if_neg (by rw [h]; simp)]

theorem marker_not_in_chain {ds : List Str} (hds : ∀ c ∈ ds, GoodComp c)
    (hhead : ds.head? ≠ some woDir) (q : Str) (hq : q.head? = some '/') :
    marker q ∉ chain [] ds := by
  intro hk
  obtain ⟨j, h1, h2, he⟩ := (mem_chain [] ds _).1 hk
  simp only [List.nil_append] at he
  have := renderC_eq_marker_head (ds.take j) q
    (fun c hc => (hds c (List.mem_of_mem_take hc)).noSlash) he.symm hq
  apply hhead
  cases ds with
  | nil => simp at h2; omega
  | cons d ds =>
    obtain ⟨i, rfl⟩ : ∃ i, j = i + 1 := ⟨j - 1, by omega⟩
    simpa using this

set_option linter.unusedVariables false in
theorem snoc_not_in_chain {ds : List Str} {n : Str} (hds : ∀ c ∈ ds, GoodComp c)
    (hn : GoodComp n) (rest : Str) (hr : rest = [] ∨ rest.head? = some '/') :
    renderC (ds ++ [n]) ++ rest ∉ chain [] ds := by
  intro hk
  obtain ⟨j, _, _, he⟩ := (mem_chain [] ds _).1 hk
  simp only [List.nil_append] at he
  -- compare lengths: the left side is strictly longer than every prefix of `renderC ds`
  have := congrArg List.length he
  have h3 := renderC_take_length_le ds j
  simp only [renderC_append, renderC_cons, renderC_nil, List.length_append, List.length_cons,
    List.append_nil] at this
  omega

theorem contains_marker_fillDirs {mu : FMap} {ds : List Str} (hds : ∀ c ∈ ds, GoodComp c)
    (hhead : ds.head? ≠ some woDir) (q : Str) (hq : q.head? = some '/') :
    (fillDirs mu (chain [] ds)).contains (marker q) = mu.contains (marker q) :=
  contains_eq_of_find (find?_fillDirs_not_mem _ _ _ (marker_not_in_chain hds hhead q hq))

theorem find?_snoc_fillDirs {mu : FMap} {ds : List Str} {n : Str} (hds : ∀ c ∈ ds, GoodComp c)
    (hn : GoodComp n) (rest : Str) (hr : rest = [] ∨ rest.head? = some '/') :
    (fillDirs mu (chain [] ds)).find? (renderC (ds ++ [n]) ++ rest)
      = mu.find? (renderC (ds ++ [n]) ++ rest) :=
  find?_fillDirs_not_mem _ _ _ (snoc_not_in_chain hds hn rest hr)

/-- after the chain of directories has been filled in, the parent of `ds/n` is a directory -/
theorem parentOk_fillDirs_gen {m : FMap} {ds : List Str} {n : Str}
    (hrootdir : ∃ e, m.find? [] = some e ∧ e.ftype = .dir)
    (hds : ∀ c ∈ ds, GoodComp c) (hn : GoodComp n)
    (hdirs : ∀ k ∈ chain [] ds, ∀ e, m.find? k = some e → e.ftype = .dir) :
    Mem.parentOk (fillDirs m (chain [] ds)) (renderC (ds ++ [n])) = true := by
  unfold Mem.parentOk
  rw [parent_snoc ds n hds hn, find?_fillDirs]
  by_cases hne : ds = []
  · subst hne
    obtain ⟨e, he, hd⟩ := hrootdir
    simp [he, hd]
  · have hl : 1 ≤ ds.length := by
      cases ds with
      | nil => exact absurd rfl hne
      | cons d ds => simp
    have hk : renderC ds ∈ chain [] ds :=
      (mem_chain [] ds _).2 ⟨ds.length, hl, Nat.le_refl _, by simp⟩
    rcases Option.eq_none_or_eq_some (m.find? (renderC ds)) with hf | ⟨e, hf⟩
    · simp [hf, hk, dirEntryNow]
    · have := hdirs _ hk e hf
      simp [hf, this]

/-! ### the marker write and `create_file` on the upper layer, by outcome -/

/-- the marker write is the write of no bytes -/
theorem Mem.pTouch_eq (m : FMap) (k : Str) : Mem.pTouch m k = Mem.pWrite m k [] := by
  unfold Mem.pTouch Mem.pWrite; rw [cursorWrite_nil]
  rcases Mem.createFile m k with ⟨_ | _ | _, _⟩ <;> rfl

/-- the marker write: afterwards an empty file sits at the key and nothing else changed, or nothing
changed at all -/
theorem Mem.pTouch_graph (m : FMap) (k : Str) :
    (∃ em, em.ftype = .file ∧ em.content = [] ∧ (Mem.pTouch m k).1 = .ok () ∧
      ∀ x, (Mem.pTouch m k).2.find? x = if x = k then some em else m.find? x) ∨
    ((Mem.pTouch m k).2 = m ∧ (Mem.pTouch m k).1 ≠ .ok ()) := by
  rw [Mem.pTouch_eq, Mem.pWrite_eq]
  cases Mem.par m k <;> rcases m.find? k with _ | ⟨⟨_ | _, _, _, _, _⟩⟩ <;>
    first
    | exact Or.inr ⟨rfl, by simp [Mem.writeS, Mem.createFileS, fail, Res.withPath]⟩
    | exact Or.inl ⟨_, rfl, rfl, rfl, fun x => FMap.find?_insert _ _ _ _⟩

theorem Mem.pCreateDir_ok_eq {m m' : FMap} {p : Str} {a : Unit}
    (h : Mem.pCreateDir m p = (.ok a, m')) : m' = m.insert p dirEntryNow := by
  rw [Mem.pCreateDir_eq, Prod.mk.injEq] at h
  rw [← h.2, (Mem.createDirS_ok (h := Res.withPath_ok _ _ _ h.1)).2.2]; rfl

/-- `remove_file` of the path layer on a file: the key is erased -/
theorem Mem.pRemoveFile_file (m : FMap) (k : Str) (e : Entry) (hf : m.find? k = some e)
    (hfile : e.ftype = .file) : Mem.pRemoveFile m k = (.ok (), m.erase k) := by
  unfold Mem.pRemoveFile; rw [Mem.removeFile_file m k e hf hfile]; rfl

/-- `create_dir` of the path layer at an absent key below a directory -/
theorem Mem.pCreateDir_fresh (m : FMap) (k : Str) (hpar : Mem.parentOk m k = true) (hs : '/' ∈ k)
    (hf : m.find? k = none) : Mem.pCreateDir m k = (.ok (), m.insert k dirEntryNow) := by
  unfold Mem.pCreateDir
  rw [if_pos hpar, Mem.createDir_fresh m k hs (Mem.parentOk_spec m k hpar) hf]; rfl

theorem Mem.pOpenW_fresh (m : FMap) (k : Str) (hpar : Mem.parentOk m k = true) (hs : '/' ∈ k)
    (hf : m.find? k = none) : Mem.pOpenW m k = (.ok (), m.insert k fileEntryNow) := by
  unfold Mem.pOpenW
  rw [if_pos hpar, Mem.createFile_fresh _ _ hs hpar hf]
  rfl

/-- `remove_dir` of the path layer on a directory no key lies below -/
theorem Mem.pRemoveDir_childless (m : FMap) (p : Str) (e : Entry) (hf : m.find? p = some e)
    (hd : e.ftype = .dir) (hno : ∀ y, '/' ∉ y → m.find? (p ++ '/' :: y) = none) :
    Mem.pRemoveDir m p = (.ok (), m.erase p) := by
  have hl : m.keys.filterMap (childName p) = [] := by
    apply List.eq_nil_iff_forall_not_mem.2
    intro y hy
    obtain ⟨hys, hc⟩ := (mem_children m p y).1 hy
    rw [contains_of_none (hno y hys)] at hc; cases hc
  unfold Mem.pRemoveDir Mem.removeDir Mem.readDir
  simp [hf, hd, hl, contains_of_find hf, Res.withPath]

theorem Mem.pOpenW_ok_eq {m m' : FMap} {p : Str} {a : Unit}
    (h : Mem.pOpenW m p = (.ok a, m')) : m' = m.insert p fileEntryNow := by
  unfold Mem.pOpenW at h
  split at h
  · simp only [Prod.mk.injEq] at h
    rcases Mem.createFile_graph m p with hg | ⟨_, hne⟩
    · rw [hg] at h; exact h.2.symm
    · exact absurd (Res.withPath_ok _ _ _ h.1) hne
  · cases h

/-! ### what the upper-layer primitives keep, whatever their outcome -/

theorem contains_insert_of_contains {m : FMap} {k k' : Str} {v : Entry}
    (h : m.contains k = true) : (m.insert k' v).contains k = true := by
  unfold FMap.contains at *
  rw [FMap.find?_insert]
  split
  · rfl
  · exact h

theorem or_eq_of_contains {m : FMap} {k : Str} (h : m.contains k = true) (o : Option Entry) :
    (m.find? k).or o = m.find? k := by
  obtain ⟨e, he⟩ := (FMap.contains_iff _ _).1 h
  rw [he]; rfl

theorem find?_none_of_not_contains {m : FMap} {k : Str} (h : ¬ m.contains k = true) :
    m.find? k = none := by
  exact find?_none_of_contains (Bool.eq_false_iff.2 h)

theorem contains_erase_ne {m : FMap} {k k' : Str} (hne : k ≠ k') :
    (m.erase k').contains k = m.contains k :=
  contains_eq_of_find (FMap.find?_erase_ne _ _ _ hne)

theorem mkdirs_keeps {m : FMap} {k : Str} (ds : List Str) (h : m.contains k = true) :
    (Mem.mkdirs m ds).2.contains k = true := by
  obtain ⟨j, _, hj, _⟩ := mkdirs_fill m ds
  rw [hj]; exact contains_fillDirs_of_contains _ _ _ h

theorem Mem.createFile_keeps {m : FMap} {k : Str} (p : Str) (h : m.contains k = true) :
    (Mem.createFile m p).2.contains k = true := by
  rcases Mem.createFile_graph m p with hg | ⟨hg, _⟩ <;> rw [hg]
  · exact contains_insert_of_contains h
  · exact h

theorem memPublish_keeps {m : FMap} {k : Str} (p : Str) (buf : Bytes) (h : m.contains k = true) :
    (memPublish m p buf).contains k = true := by
  unfold memPublish
  split
  · split
    · exact contains_insert_of_contains h
    · exact h
  · exact h

theorem Mem.pTouch_keeps {m : FMap} {k : Str} (p : Str) (h : m.contains k = true) :
    (Mem.pTouch m p).2.contains k = true := by
  rcases Mem.pTouch_graph m p with ⟨em, _, _, _, hfind⟩ | ⟨hg, _⟩
  · unfold FMap.contains; rw [hfind]
    split
    · rfl
    · exact h
  · rw [hg]; exact h

theorem Mem.pOpenW_keeps {m : FMap} {k : Str} (p : Str) (h : m.contains k = true) :
    (Mem.pOpenW m p).2.contains k = true := by
  unfold Mem.pOpenW
  split
  · exact Mem.createFile_keeps p h
  · exact h

theorem Mem.pCreateDir_keeps {m : FMap} {k : Str} (p : Str) (h : m.contains k = true) :
    (Mem.pCreateDir m p).2.contains k = true := by
  unfold Mem.pCreateDir
  split
  · rcases Mem.createDir_map m p with hg | ⟨_, hg⟩ <;> rw [hg]
    · exact h
    · exact contains_insert_of_contains h
  · exact h

/-- a removal keeps every key but its own -/
theorem Mem.Erasing.keeps {f : FMap → Str → Res Unit × FMap} (hf : Mem.Erasing f) {m : FMap}
    {k : Str} (p : Str) (hne : k ≠ p) (h : m.contains k = true) : (f m p).2.contains k = true := by
  rcases hf m p with ⟨_, h0⟩ | ⟨_, h0⟩ <;> rw [h0]
  · rw [contains_erase_ne hne]; exact h
  · exact h

theorem pClear_keeps {mu : FMap} {k : Str} (q : Str) (hne : k ≠ marker q)
    (h : mu.contains k = true) : (pClear mu q).2.contains k = true := by
  cases hm : mu.contains (marker q)
  · rw [pClear_unmarked hm]; exact h
  · rw [pClear_of_marked hm]; exact Mem.erasing_removeFile.keeps _ hne h

/-- `clearWhiteout q` touches nothing but `marker q` -/
theorem pClear_frame (mu : FMap) (q k : Str) (hne : k ≠ marker q) :
    (pClear mu q).2.find? k = mu.find? k := by
  cases hm : mu.contains (marker q)
  · rw [pClear_unmarked hm]
  · rw [pClear_of_marked hm]
    rcases Mem.erasing_removeFile mu (marker q) with ⟨_, h0⟩ | ⟨_, h0⟩ <;> rw [h0]
    exact FMap.find?_erase_ne _ _ _ hne

theorem pAddWhiteout_keeps {mu : FMap} {k : Str} (cs : List Str) (h : mu.contains k = true) :
    (pAddWhiteout mu cs).2.contains k = true := by
  unfold pAddWhiteout
  exact andThen_keeps _ _ (mkdirs_keeps _ h) (fun _ m hm => Mem.pTouch_keeps _ hm)

theorem pCreateTail_keeps {mu : FMap} {k : Str} (q : Str) (hne : k ≠ marker q)
    (h : mu.contains k = true) : (pCreateTail mu q).2.contains k = true := by
  rcases pCreateTail_snd mu q with he | he <;> rw [he]
  · exact Mem.pCreateDir_keeps _ h
  · exact pClear_keeps _ hne (Mem.pCreateDir_keeps _ h)

theorem marker_ne (p : Str) : marker p ≠ p := by
  intro heq
  have := congrArg List.length heq
  simp [marker, woDir, woSuffix] at this
  omega

end Vfs
