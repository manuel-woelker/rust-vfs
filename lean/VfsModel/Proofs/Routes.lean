/-
  The skeleton shared by `copy_file`, `move_file`, `copy_dir`, `move_dir` (src/path.rs:795-1012,
  VfsModel/PathOps.lean).

  All four are `guarded src dst lbl body`: probe the destination, refuse an existing one, run
  `body`, label failures with the source path. Three of the bodies are `fastOr c fast slow`: when
  both paths are on the same filesystem value its own method is tried; `Ok` and every error but
  `NotSupported` are final, `NotSupported` leads to the generic route `slow`. The model spells both
  out inline; the equations `copyFile_eq` … `moveDir_eq` hold by `rfl`.

  Also here: `copy_file` / `move_file` from the runs of the calls they make (`copyFile_of_calls`,
  `moveFile_of_calls`), one turn of the loop of `copy_dir` unfolded (`copyItem`, `copyItems_none`,
  `copyItems_some`, `relJoin_below`), and `move_dir` on the generic route from the run of the copy
  phase (`moveDir_after_copyDir`) or of `copy_dir` (`moveDir_of_copyDir`), the successful runs
  (`copyDir_of_body`, `moveDir_of_body`); and the recursions of `create_dir_all`, `remove_dir_all`
  and the collected walk, one turn unfolded
  (`createDirAllLoop_cons`, `removeDirAll_succ`, `removeChildren_cons`, `walkAll_succ` …), and of
  the overlay's search through its layers (`Overlay.firstExisting_cons`, VfsModel/Adapters.lean);
  `write_path` and `whiteout_path` of the overlay by cases on the root (`Overlay.writePath_nil` …
  `whiteoutPath_join`); `copy_dir` / `move_dir` past an absent destination as their bodies
  (`copyDir_route`, `moveDir_route`), the body of `move_dir` as that of `copy_dir` then
  `remove_dir_all` (`moveDirBody_eq`).
-/
import VfsModel.PathOps
import VfsModel.Adapters
namespace Vfs
namespace VPath

/-- probe the destination, refuse an existing one, else run `body`; failures carry the source path -/
def guarded {α : Type} (src dst : VPath) (lbl : Str) (body : M α) : M α :=
  M.withPath src.path (do
    if (← dst.exists_) then M.failAt .other lbl else body)

/-- the same-filesystem shortcut -/
def fastOr (c : Prop) [Decidable c] (fast slow : M Unit) : M Unit := do
  let r ← (if c then M.attempt fast else pure (fail .notSupported))
  match r with
  | .ok _ => pure ()
  | .panic => M.ret .panic
  | .err k p => if k ≠ .notSupported then M.ret (.err k p) else slow

/-- the read/write route of `copy_file` -/
def copyGeneric (src dst : VPath) : M Unit := do
  let r ← src.openFile
  let h ← dst.createFile
  VPath.ioCopyAndDrop r h src.path

/-- the tail of the read/write route of `move_file`: the destination handle is still open while
the source is removed -/
def moveTail (src : VPath) (r : RHandle) (h : WHandle) : M Unit := do
  let bytes ← M.withPath src.path (M.ret r.readToEnd.1)
  let (_, h') ← h.write bytes
  let res ← M.attempt src.removeFile
  h'.drop
  M.ret res

/-- the read/write route of `move_file` -/
def moveGeneric (src dst : VPath) : M Unit := do
  let r ← src.openFile
  let h ← dst.createFile
  src.moveTail r h

/-- the walk-and-copy route of `copy_dir` -/
def copyDirBody (fuel : Nat) (src dst : VPath) : M Nat := do
  dst.createDir
  let s ← src.walkDir
  VPath.copyItems fuel src dst s 0

/-- the walk-copy-remove route of `move_dir` -/
def moveDirBody (fuel : Nat) (src dst : VPath) : M Unit := do
  dst.createDir
  let s ← src.walkDir
  let _ ← VPath.copyItems fuel src dst s 0
  VPath.removeDirAll fuel src

theorem copyFile_eq (src dst : VPath) :
    src.copyFile dst = guarded src dst src.path
      (fastOr (src.fsId = dst.fsId) (src.fs.copyFile src.path dst.path) (src.copyGeneric dst)) := rfl

theorem moveFile_eq (src dst : VPath) :
    src.moveFile dst = guarded src dst dst.path
      (fastOr (src.fsId = dst.fsId) (src.fs.moveFile src.path dst.path) (src.moveGeneric dst)) := rfl

theorem copyDir_eq (fuel : Nat) (src dst : VPath) :
    src.copyDir fuel dst = guarded src dst dst.path (src.copyDirBody fuel dst) := rfl

theorem moveDir_eq (fuel : Nat) (src dst : VPath) :
    src.moveDir fuel dst = guarded src dst dst.path
      (fastOr (src.fsId = dst.fsId) (src.fs.moveDir src.path dst.path)
        (src.moveDirBody fuel dst)) := rfl

section
variable {α : Type} (src dst : VPath) (lbl : Str) (body : M α) (w : World)

/-- an existing destination: refused, world unchanged -/
theorem guarded_refused (h : dst.exists_ w = (.ok true, w)) :
    guarded src dst lbl body w = (.err .other (some src.path), w) := by
  simp [guarded, M.withPath, bind, M.bind, h, M.failAt, Res.withPath]

/-- an absent destination: the body runs -/
theorem guarded_run {w' : World} (h : dst.exists_ w = (.ok false, w')) :
    guarded src dst lbl body w = M.withPath src.path body w' := by
  simp [guarded, M.withPath, bind, M.bind, h]

/-- a successful run: the destination was absent and the body succeeded -/
theorem guarded_ok {a : α} {w1 : World} (h : guarded src dst lbl body w = (.ok a, w1)) :
    ∃ w', dst.exists_ w = (.ok false, w') ∧ body w' = (.ok a, w1) := by
  rcases he : dst.exists_ w with ⟨r, w'⟩
  simp only [guarded, M.withPath, bind, M.bind, he] at h
  cases r with
  | ok b =>
    cases b with
    | true => simp [M.failAt, Res.withPath] at h
    | false =>
      refine ⟨w', rfl, ?_⟩
      rcases hb : body w' with ⟨rb, wb⟩
      simp only [hb, Bool.false_eq_true, if_false, Prod.mk.injEq] at h
      cases rb <;> simp_all [Res.withPath]
  | err k p => simp [Res.withPath] at h
  | panic => simp [Res.withPath] at h

end

section
variable {c : Prop} [Decidable c] {fast slow : M Unit} {w : World}

/-- the shortcut is not available: different filesystem values, or a filesystem without the method -/
theorem fastOr_slow (h : c → ∃ p, fast w = (.err .notSupported p, w)) :
    fastOr c fast slow w = slow w := by
  by_cases hc : c
  · obtain ⟨p, hp⟩ := h hc
    simp [fastOr, bind, M.bind, hc, M.attempt, hp]
  · simp [fastOr, bind, M.bind, hc, pure, M.pure, fail]

/-- the same, from the run of the attempt -/
theorem fastOr_of_attempt
    (h : (if c then M.attempt fast else pure (fail .notSupported)) w
      = (.ok (fail .notSupported), w)) : fastOr c fast slow w = slow w := by
  simp only [fastOr, bind, M.bind, h]
  simp [fail]

/-- the shortcut does it all -/
theorem fastOr_fast {w' : World} (hc : c) (h : fast w = (.ok (), w')) :
    fastOr c fast slow w = (.ok (), w') := by
  simp [fastOr, bind, M.bind, hc, M.attempt, h, pure, M.pure]

/-- the shortcut answered, and not `NotSupported`: its answer is final -/
theorem fastOr_final (hc : c) (h : ∀ p, (fast w).1 ≠ .err .notSupported p) :
    fastOr c fast slow w = fast w := by
  simp only [fastOr, bind, M.bind, hc, if_true, M.attempt]
  rcases e : fast w with ⟨r, w'⟩
  rw [e] at h
  cases r with
  | ok u => rfl
  | panic => rfl
  | err k p =>
    have hk : k ≠ .notSupported := fun hk => h p (by rw [hk])
    simp only [hk, ne_eq, not_false_eq_true, if_true, M.ret]

theorem fastOr_neg (h : ¬c) : fastOr c fast slow = slow :=
  funext fun _ => fastOr_slow fun hc => absurd hc h

theorem fastOr_unsupported (slow : M Unit) : fastOr c (M.failK .notSupported) slow = slow :=
  funext fun _ => fastOr_slow fun _ => ⟨none, rfl⟩

end


/-- `io::copy` from a handle that reads `bytes`, then both handles dropped: one write session -/
theorem ioCopyAndDrop_eq (rh : RHandle) (hd : WHandle) (p : Str) (bytes : Bytes)
    (h : rh.readToEnd.1 = .ok bytes) :
    ioCopyAndDrop rh hd p = hd.writeAllAndDrop bytes := by
  unfold ioCopyAndDrop WHandle.writeAllAndDrop
  rw [h]
  rfl

/-- the generic route of `copy_file`, call by call: the source is opened, the destination gets one
write session -/
theorem copyFile_of_calls (src dst : VPath) (w w1 w3 : World) (bs : Bytes)
    (hex : dst.exists_ w = (.ok false, w))
    (hfast : src.fsId = dst.fsId →
      ∃ p, src.fs.copyFile src.path dst.path w = (.err .notSupported p, w))
    (hopen : src.openFile w = (.ok { content := bs, pos := 0 }, w1))
    (hwrite : (do let hd ← dst.createFile
                  hd.writeAllAndDrop bs : M Unit) w1 = (.ok (), w3)) :
    src.copyFile dst w = (.ok (), w3) := by
  rw [copyFile_eq, guarded_run _ _ _ _ w hex, M.withPath, fastOr_slow hfast]
  simp only [copyGeneric, bind, M.bind, hopen] at hwrite ⊢
  rcases hc : dst.createFile w1 with ⟨r, w2⟩
  rw [hc] at hwrite
  cases r with
  | ok wh =>
    simp only at hwrite ⊢
    rw [ioCopyAndDrop_eq { content := bs, pos := 0 } wh src.path bs rfl, hwrite]; rfl
  | err k p => cases hwrite
  | panic => cases hwrite

/-- the generic route of `move_file`, call by call: the bytes are buffered in the destination
handle, the source is removed, and only then is the handle dropped (`dest` lives to the end of the
closure in `VfsPath::move_file`) -/
theorem moveFile_of_calls (src dst : VPath) (w w1 w2 w3 w4 : World) (bs : Bytes)
    (wh wh' : WHandle) (k : Nat)
    (hex : dst.exists_ w = (.ok false, w))
    (hfast : src.fsId = dst.fsId →
      ∃ p, src.fs.moveFile src.path dst.path w = (.err .notSupported p, w))
    (hopen : src.openFile w = (.ok { content := bs, pos := 0 }, w1))
    (hcreate : dst.createFile w1 = (.ok wh, w2))
    (hwrite : wh.write bs w2 = (.ok (k, wh'), w2))
    (hrm : src.removeFile w2 = (.ok (), w3)) (hdrop : wh'.drop w3 = (.ok (), w4)) :
    src.moveFile dst w = (.ok (), w4) := by
  rw [moveFile_eq, guarded_run _ _ _ _ w hex, M.withPath, fastOr_slow hfast]
  simp only [moveGeneric, moveTail, bind, M.bind, hopen, hcreate, M.withPath, M.ret,
    RHandle.readToEnd, Res.withPath, List.drop_zero, Bool.false_eq_true, if_false, hwrite,
    M.attempt, hrm, hdrop]

/-! the loop of `copy_dir` / `move_dir`, one turn unfolded -/

/-- the body of the loop for one item of type `ft`: `x` the source path, `d` the destination -/
def copyItem (ft : FType) (x d : VPath) : M Unit :=
  match ft with
  | .dir => d.createDir
  | .file => x.copyFile d

theorem copyItems_none (fuel : Nat) (src dst : VPath) (s s' : Walk) (count : Nat)
    (w : World) (hwalk : walkNext s w = (.ok (none, s'), w)) :
    copyItems (fuel + 1) src dst s count w = (.ok count, w) := by
  rw [copyItems]
  simp only [bind, M.bind, hwalk]
  rfl

theorem copyItems_some (fuel : Nat) (src dst x d : VPath) (s s' : Walk) (count : Nat)
    (w : World) (md : Meta) (hwalk : walkNext s w = (.ok (some (.ok x), s'), w))
    (hrel : relJoin dst src.path.length x = .ok d) (hmeta : x.metadata w = (.ok md, w)) :
    copyItems (fuel + 1) src dst s count w =
      M.bind (copyItem md.ftype x d) (fun _ => copyItems fuel src dst s' (count + 1)) w := by
  rw [copyItems]
  simp only [bind, M.bind, hwalk, M.ret, hrel, hmeta]
  cases md.ftype <;> rfl

theorem relJoin_below (dst : VPath) (S t : Str) (x : VPath) (hx : x.path = S ++ '/' :: t)
    (h : joinInternal dst.path t = .ok (dst.path ++ '/' :: t)) :
    relJoin dst S.length x = .ok (dst.withStr (dst.path ++ '/' :: t)) := by
  unfold relJoin
  have hlen : ¬ (S ++ '/' :: t).length < S.length + 1 := by simp [List.length_append]
  have hdrop : (S ++ '/' :: t).drop (S.length + 1) = t := by
    have : S ++ '/' :: t = (S ++ ['/']) ++ t := by simp
    rw [this]; exact List.drop_left' (by simp)
  rw [hx, if_neg hlen, hdrop, join, h]
  rfl

/-! the recursions of `create_dir_all`, `remove_dir_all` and of the collected walk, one turn
unfolded: the equations a proof by induction on the list or on the fuel rewrites with -/

theorem createDirAll_root {p : VPath} (h : p.path = []) : createDirAll p = pure () := by
  unfold createDirAll; rw [if_pos h]

theorem createDirAll_of_ne {p : VPath} (h : p.path ≠ []) :
    createDirAll p = createDirAllLoop p (dirPrefixes p.path) := by
  unfold createDirAll; rw [if_neg h]

theorem createDirAllLoop_nil (p : VPath) : createDirAllLoop p [] = pure () := rfl

theorem createDirAllLoop_cons (p : VPath) (d : Str) (rest : List Str) (w : World) :
    createDirAllLoop p (d :: rest) w =
      match p.fs.createDir d w with
      | (.ok _, w') => createDirAllLoop p rest w'
      | (.err .dirExists _, w') => createDirAllLoop p rest w'
      | (.err k _, w') => (.err k (some d), w')
      | (.panic, w') => (.panic, w') := by
  rw [createDirAllLoop]; rfl

theorem removeDirAll_zero (p : VPath) : removeDirAll 0 p = M.ret .panic := by
  rw [removeDirAll]

theorem removeDirAll_succ (fuel : Nat) (p : VPath) :
    removeDirAll (fuel + 1) p = (do
      if !(← p.exists_) then pure ()
      else
        let children ← p.readDir
        removeChildren fuel children
        p.removeDir) := by
  rw [removeDirAll]

theorem removeChildren_nil (fuel : Nat) : removeChildren fuel [] = pure () := by
  rw [removeChildren]

theorem removeChildren_cons (fuel : Nat) (c : VPath) (rest : List VPath) :
    removeChildren fuel (c :: rest) = (do
      let md ← c.metadata
      match md.ftype with
      | .file => c.removeFile
      | .dir => removeDirAll fuel c
      removeChildren fuel rest) := by
  rw [removeChildren]; rfl

theorem walkAll_zero (s : Walk) : walkAll 0 s = M.ret .panic := by
  rw [walkAll]

theorem walkAll_succ (fuel : Nat) (s : Walk) :
    walkAll (fuel + 1) s = (do
      let (item, s') ← walkNext s
      match item with
      | none => pure []
      | some it =>
        let rest ← walkAll fuel s'
        pure (it :: rest)) := by
  rw [walkAll]; rfl

end VPath

/-! the search of the overlay's `read_path` through the layers, one turn unfolded -/

theorem Overlay.firstExisting_nil (p : Str) : Overlay.firstExisting p [] = pure none := rfl

theorem Overlay.firstExisting_cons (p : Str) (l : VPath) (rest : List VPath) :
    Overlay.firstExisting p (l :: rest) = (do
      let lp ← M.ret (l.join (tail1 p))
      if (← lp.exists_) then pure (some lp) else Overlay.firstExisting p rest) := rfl

/-! `write_path` and `whiteout_path` of the overlay: the write layer itself at the root, and
otherwise a `join` on the write layer -/

theorem Overlay.writePath_nil (layers : List VPath) :
    Overlay.writePath layers [] = .ok (Overlay.writeLayer layers) := rfl

theorem Overlay.writePath_of_ne (layers : List VPath) {p : Str} (h : p ≠ []) :
    Overlay.writePath layers p = (Overlay.writeLayer layers).join (tail1 p) := by
  unfold Overlay.writePath; rw [if_neg h]

theorem Overlay.writePath_cases (layers : List VPath) (p : Str) :
    Overlay.writePath layers p = .ok (Overlay.writeLayer layers) ∨
      Overlay.writePath layers p = (Overlay.writeLayer layers).join (tail1 p) := by
  by_cases h : p = []
  · subst h; exact Or.inl rfl
  · exact Or.inr (Overlay.writePath_of_ne layers h)

theorem Overlay.whiteoutPath_nil (layers : List VPath) :
    Overlay.whiteoutPath layers [] =
      (Overlay.writeLayer layers).join (Overlay.woDir ++ '/' :: Overlay.woSuffix) := rfl

theorem Overlay.whiteoutPath_of_ne (layers : List VPath) {p : Str} (h : p ≠ []) :
    Overlay.whiteoutPath layers p =
      (Overlay.writeLayer layers).join
        (Overlay.woDir ++ '/' :: (tail1 p ++ Overlay.woSuffix)) := by
  unfold Overlay.whiteoutPath; rw [if_neg h]

/-- whatever the path, `whiteout_path` is a `join` on the write layer -/
theorem Overlay.whiteoutPath_join (layers : List VPath) (p : Str) :
    ∃ arg, Overlay.whiteoutPath layers p = (Overlay.writeLayer layers).join arg := by
  by_cases h : p = []
  · subst h; exact ⟨_, Overlay.whiteoutPath_nil layers⟩
  · exact ⟨_, Overlay.whiteoutPath_of_ne layers h⟩

theorem moveDirBody_eq (fuel : Nat) (src dst : VPath) :
    src.moveDirBody fuel dst =
      M.bind (src.copyDirBody fuel dst) (fun _ => VPath.removeDirAll fuel src) := by
  funext w
  simp only [VPath.moveDirBody, VPath.copyDirBody, bind, M.bind]
  rcases dst.createDir w with ⟨r, w1⟩
  cases r with
  | ok _ =>
    simp only
    rcases src.walkDir w1 with ⟨s, w2⟩
    cases s <;> rfl
  | err k p => rfl
  | panic => rfl

theorem copyDir_route (fuel : Nat) (src dst : VPath) (w : World)
    (hex : dst.exists_ w = (.ok false, w)) :
    src.copyDir fuel dst w = M.withPath src.path (src.copyDirBody fuel dst) w := by
  rw [VPath.copyDir_eq, VPath.guarded_run _ _ _ _ w hex]

theorem moveDir_route (fuel : Nat) (src dst : VPath) (w : World)
    (hex : dst.exists_ w = (.ok false, w))
    (hfast : src.fsId = dst.fsId →
      ∃ pth, src.fs.moveDir src.path dst.path w = (.err .notSupported pth, w)) :
    src.moveDir fuel dst w = M.withPath src.path (src.moveDirBody fuel dst) w := by
  rw [VPath.moveDir_eq, VPath.guarded_run _ _ _ _ w hex]
  simp only [M.withPath, VPath.fastOr_slow hfast]

/-- on the generic route `move_dir` is the copy phase of `copy_dir`, then `remove_dir_all` of the
source -/
theorem VPath.moveDir_after_copyDir {fuel : Nat} {src dst : VPath} {w w1 : World} {n : Nat}
    (hex : dst.exists_ w = (.ok false, w))
    (hfast : src.fsId = dst.fsId →
      ∃ pth, src.fs.moveDir src.path dst.path w = (.err .notSupported pth, w))
    (hc : src.copyDirBody fuel dst w = (.ok n, w1)) :
    src.moveDir fuel dst w = M.withPath src.path (VPath.removeDirAll fuel src) w1 := by
  rw [moveDir_route fuel src dst w hex hfast, moveDirBody_eq]
  simp only [M.bind, hc, M.withPath]

/-- `move_dir` along the generic route is `copy_dir` followed by `remove_dir_all` of the source: a
concrete move is evaluated from the written-out result of the copy. `hfast`: the fast path is not
taken (different `Arc`s, or a filesystem without `move_dir`). -/
theorem VPath.moveDir_of_copyDir {fuel : Nat} {src dst : VPath} {w w1 : World} {n : Nat}
    (hfast : ∀ w', (if src.fsId = dst.fsId then M.attempt (src.fs.moveDir src.path dst.path)
        else pure (fail .notSupported)) w' = (.ok (fail .notSupported), w'))
    (hc : VPath.copyDir fuel src dst w = (.ok n, w1)) :
    VPath.moveDir fuel src dst w = M.withPath src.path (VPath.removeDirAll fuel src) w1 := by
  rw [VPath.copyDir_eq] at hc
  obtain ⟨w', hex, hb⟩ := VPath.guarded_ok _ _ _ _ w hc
  rw [VPath.moveDir_eq, VPath.guarded_run _ _ _ _ w hex]
  simp only [M.withPath, VPath.fastOr_of_attempt (hfast w'), moveDirBody_eq, M.bind, hb]

/-- a successful `copy_dir`, from the probe of the destination and the run of the body -/
theorem VPath.copyDir_of_body {fuel : Nat} {src dst : VPath} {w w' : World} {n : Nat}
    (hex : dst.exists_ w = (.ok false, w)) (hb : src.copyDirBody fuel dst w = (.ok n, w')) :
    src.copyDir fuel dst w = (.ok n, w') := by
  rw [copyDir_route fuel src dst w hex]
  simp only [M.withPath, hb, Res.withPath]

/-- a successful `move_dir` on the generic route, from the probe, the run of the copy phase and the
run of `remove_dir_all` of the source -/
theorem VPath.moveDir_of_body {fuel : Nat} {src dst : VPath} {w w1 w2 : World} {n : Nat}
    (hex : dst.exists_ w = (.ok false, w))
    (hfast : src.fsId = dst.fsId →
      ∃ pth, src.fs.moveDir src.path dst.path w = (.err .notSupported pth, w))
    (hc : src.copyDirBody fuel dst w = (.ok n, w1))
    (hr : VPath.removeDirAll fuel src w1 = (.ok (), w2)) :
    src.moveDir fuel dst w = (.ok (), w2) := by
  rw [VPath.moveDir_after_copyDir hex hfast hc]
  simp only [M.withPath, hr, Res.withPath]

end Vfs
