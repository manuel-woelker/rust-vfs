/-
  How the write layer's map evolves while any number of threads run `create_dir_all` on the
  overlay, and which facts are stable under that evolution.

  `Evolve paths mu mu'` (rely = guarantee of every thread): entries persist unchanged, except that
  the MARKER of a requested prefix `q` (`Req`) may vanish once `q` is a directory of the write
  layer; new entries are directories at requested prefixes.  It is established by the two mutating
  layer calls (`evolve_createDir`, `evolve_removeMarker`).  `NotMk paths k`: `k` is no such marker
  (the root, a requested prefix), so what is at `k` persists (`Evolve.keeps'`, `IsDirU.evolve`).
  `GI ms paths mu`: the stable global invariant — the root is a directory, no root marker, nothing
  but directories at requested prefixes in the write layer, markers of requested prefixes are
  files, and a lower FILE at a requested prefix is hidden by a marker or by a directory of the
  write layer.  `VisDir ms mu q`: `q` is a directory of the n-layer view (stable).
-/
import VfsModel.Proofs.OverlayConcCalc
import VfsModel.Props.C09N
namespace Vfs.OConc
open Vfs Vfs.Overlay Prog

/-- the requested paths are canonical and not below "/.whiteout" -/
def PathsOK (paths : List (List Str)) : Prop :=
  ∀ cs ∈ paths, (∀ c ∈ cs, GoodComp c) ∧ cs.head? ≠ some woDir

def Req (paths : List (List Str)) (q : Str) : Prop :=
  ∃ cs ∈ paths, ∃ j, 1 ≤ j ∧ j ≤ cs.length ∧ q = renderC (cs.take j)

def IsDirU (mu : FMap) (q : Str) : Prop := ∃ e, mu.find? q = some e ∧ e.ftype = .dir

section inv
variable {paths : List (List Str)} (hp : PathsOK paths)

theorem take_ne_nil {cs : List Str} {j : Nat} (h1 : 1 ≤ j) (h2 : j ≤ cs.length) : cs.take j ≠ [] := by
  intro h0
  have := congrArg List.length h0
  rw [List.length_take, List.length_nil] at this
  omega

include hp in
theorem Req.ne_marker {q : Str} (h : Req paths q) (q' : Str) (hq' : q'.head? = some '/') :
    q ≠ marker q' := by
  obtain ⟨cs, hcs, j, h1, _, rfl⟩ := h
  intro he
  have := renderC_eq_marker_head (cs.take j) q'
    (fun c hc => ((hp cs hcs).1 c (List.mem_of_mem_take hc)).noSlash) he hq'
  exact C10.take_head_ne h1 (hp cs hcs).2 this

theorem Req.head {q : Str} (h : Req paths q) : q.head? = some '/' := by
  obtain ⟨cs, _, j, h1, h2, rfl⟩ := h
  exact C09.renderC_head _ (take_ne_nil h1 h2)

include hp in
theorem Req.ne_marker_req {q q' : Str} (h : Req paths q) (h' : Req paths q') : q ≠ marker q' :=
  h.ne_marker hp q' h'.head

theorem rootMarker_eq : rootMarker = marker ['/'] := by decide

include hp in
theorem Req.ne_rootMarker {q : Str} (h : Req paths q) : q ≠ rootMarker := by
  rw [rootMarker_eq]; exact h.ne_marker hp _ rfl

theorem nil_ne_marker (q : Str) : ([] : Str) ≠ marker q := by simp [marker]

structure Evolve (paths : List (List Str)) (mu mu' : FMap) : Prop where
  keeps : ∀ k e, mu.find? k = some e →
    mu'.find? k = some e ∨ ∃ q, Req paths q ∧ k = marker q ∧ IsDirU mu' q
  news : ∀ k e, mu'.find? k = some e → mu.find? k = some e ∨ (e.ftype = .dir ∧ Req paths k)

theorem Evolve.refl (mu : FMap) : Evolve paths mu mu :=
  ⟨fun _ _ h => Or.inl h, fun _ _ h => Or.inl h⟩

/-- `k` is not the marker of a requested prefix: what `Evolve` never removes -/
def NotMk (paths : List (List Str)) (k : Str) : Prop := ∀ q, Req paths q → k ≠ marker q

theorem NotMk.root : NotMk paths [] := fun q _ => nil_ne_marker q

include hp in
theorem NotMk.req {q : Str} (hq : Req paths q) : NotMk paths q :=
  fun _ hq' => hq.ne_marker_req hp hq'

theorem Evolve.keeps' {mu mu' : FMap} (h : Evolve paths mu mu') {k : Str} {e : Entry}
    (hk : NotMk paths k) (he : mu.find? k = some e) : mu'.find? k = some e := by
  rcases h.keeps k e he with h1 | ⟨q, hq, hkq, _⟩
  · exact h1
  · exact absurd hkq (hk q hq)

theorem IsDirU.evolve {k : Str} {mu mu' : FMap} (hd : IsDirU mu k) (hk : NotMk paths k)
    (h : Evolve paths mu mu') : IsDirU mu' k := by
  obtain ⟨e, he, hd⟩ := hd
  exact ⟨e, h.keeps' hk he, hd⟩

include hp in
theorem Evolve.trans {a b c : FMap} (h1 : Evolve paths a b) (h2 : Evolve paths b c) :
    Evolve paths a c := by
  refine ⟨?_, ?_⟩
  · intro k e he
    rcases h1.keeps k e he with hb | ⟨q, hq, hkq, hd⟩
    · exact h2.keeps k e hb
    · exact Or.inr ⟨q, hq, hkq, hd.evolve (NotMk.req hp hq) h2⟩
  · intro k e he
    rcases h2.news k e he with hb | hb
    · exact h1.news k e hb
    · exact Or.inr hb

include hp in
theorem Evolve.unmarked {mu mu' : FMap} (h : Evolve paths mu mu') {k : Str}
    (hk : k.head? = some '/') (hm : mu.contains (marker k) = false) :
    mu'.contains (marker k) = false := by
  rcases Option.eq_none_or_eq_some (mu'.find? (marker k)) with hf | ⟨e, hf⟩
  · exact contains_of_none hf
  · exfalso
    rcases h.news _ e hf with h0 | ⟨_, hr⟩
    · rw [contains_of_find h0] at hm; cases hm
    · exact hr.ne_marker hp k hk rfl

include hp in
theorem Evolve.contains_req {mu mu' : FMap} (h : Evolve paths mu mu') {q : Str} (hq : Req paths q)
    (hc : mu.contains q = true) : mu'.contains q = true := by
  obtain ⟨e, he⟩ := (FMap.contains_iff _ _).1 hc
  exact contains_of_find (h.keeps' (NotMk.req hp hq) he)

theorem evolve_createDir (mu : FMap) {q : Str} (hq : Req paths q) :
    Evolve paths mu (Mem.createDir mu q).2 :=
  ⟨fun k e h => Or.inl ((Mem.createDir_find mu q k e).1 h), fun k e h =>
    ((Mem.createDir_find mu q k e).2 h).imp_right fun h => by rw [h.1, h.2]; exact ⟨rfl, hq⟩⟩

theorem createDir_spec (m : FMap) (d : Str) (hs : '/' ∈ d) (hpar : IsDirU m (parentInternal d))
    (hnf : ∀ e, m.find? d = some e → e.ftype = .dir) :
    ((Mem.createDir m d).1 = .ok () ∨ (Mem.createDir m d).1 = .err .dirExists none) ∧
    IsDirU (Mem.createDir m d).2 d :=
  Mem.createDir_dir m d hs hpar hnf

include hp in
theorem evolve_removeMarker (mu : FMap) {q : Str} (hq : Req paths q) (hd : IsDirU mu q) :
    Evolve paths mu (Mem.removeFile mu (marker q)).2 := by
  rcases Mem.removeFile_map mu (marker q) with h | h <;> rw [h]
  · exact Evolve.refl mu
  · have hne : q ≠ marker q := hq.ne_marker_req hp hq
    refine ⟨?_, ?_⟩
    · intro k e hk
      by_cases hkm : k = marker q
      · right
        obtain ⟨e', he', hd'⟩ := hd
        exact ⟨q, hq, hkm, e', by rw [FMap.find?_erase_ne _ _ _ hne]; exact he', hd'⟩
      · left; rw [FMap.find?_erase_ne _ _ _ hkm]; exact hk
    · intro k e hk
      left
      rw [FMap.find?_erase] at hk
      split at hk
      · cases hk
      · exact hk

structure GI (ms : List FMap) (paths : List (List Str)) (mu : FMap) : Prop where
  root : IsDirU mu []
  noRootMark : mu.contains rootMarker = false
  dirs : ∀ q, Req paths q → ∀ e, mu.find? q = some e → e.ftype = .dir
  low : ∀ q, Req paths q → mu.contains (marker q) = true ∨ mu.contains q = true ∨
    ∀ e, firstN ms q = some e → e.ftype = .dir
  markFile : ∀ q, Req paths q → ∀ e, mu.find? (marker q) = some e → e.ftype = .file

include hp in
theorem GI.evolve {ms : List FMap} {mu mu' : FMap} (g : GI ms paths mu) (h : Evolve paths mu mu') :
    GI ms paths mu' := by
  refine ⟨g.root.evolve NotMk.root h, ?_, ?_, ?_, ?_⟩
  · rw [rootMarker_eq]
    exact h.unmarked hp rfl (by rw [← rootMarker_eq]; exact g.noRootMark)
  · intro q hq e he
    rcases h.news q e he with h0 | ⟨hd, _⟩
    · exact g.dirs q hq e h0
    · exact hd
  · intro q hq
    rcases g.low q hq with hm | hc | hl
    · obtain ⟨e, he⟩ := (FMap.contains_iff _ _).1 hm
      rcases h.keeps _ e he with h1 | ⟨q', hq', hk, hd⟩
      · exact Or.inl (contains_of_find h1)
      · have := marker_injective _ _ hk
        subst this
        obtain ⟨e', he', _⟩ := hd
        exact Or.inr (Or.inl (contains_of_find he'))
    · exact Or.inr (Or.inl (h.contains_req hp hq hc))
    · exact Or.inr (Or.inr hl)
  · intro q hq e he
    rcases h.news _ e he with h0 | ⟨_, hr⟩
    · exact g.markFile q hq e h0
    · exact absurd rfl (hr.ne_marker_req hp hq)

def VisDir (ms : List FMap) (mu : FMap) (q : Str) : Prop :=
  mu.contains (marker q) = false ∧ ∃ e, firstN (mu :: ms) q = some e ∧ e.ftype = .dir

theorem VisDir.view {ms : List FMap} {mu : FMap} {q : Str} (h : VisDir ms mu q) :
    ∃ e, viewN (mu :: ms) q = some e ∧ e.ftype = .dir := by
  obtain ⟨hm, e, he, hd⟩ := h
  exact ⟨e, by rw [viewN_unmarked hm]; exact he, hd⟩

include hp in
theorem VisDir.evolve {ms : List FMap} {mu mu' : FMap} {q : Str} (hv : VisDir ms mu q)
    (hq : Req paths q) (h : Evolve paths mu mu') : VisDir ms mu' q := by
  obtain ⟨hm, e, he, hd⟩ := hv
  refine ⟨h.unmarked hp hq.head hm, ?_⟩
  simp only [firstN] at he ⊢
  rcases Option.eq_none_or_eq_some (mu.find? q) with hf | ⟨e0, hf⟩
  · rw [hf] at he
    simp only [Option.none_or] at he
    rcases Option.eq_none_or_eq_some (mu'.find? q) with hf' | ⟨e1, hf'⟩
    · exact ⟨e, by rw [hf']; exact he, hd⟩
    · rcases h.news q e1 hf' with h0 | ⟨hd1, _⟩
      · rw [hf] at h0; cases h0
      · exact ⟨e1, by rw [hf']; rfl, hd1⟩
  · rw [hf] at he
    simp only [Option.some_or, Option.some.injEq] at he
    subst he
    have := h.keeps' (NotMk.req hp hq) hf
    exact ⟨e0, by rw [this]; rfl, hd⟩

theorem VisDir.of_upper {ms : List FMap} {mu : FMap} {q : Str}
    (hm : mu.contains (marker q) = false) (hd : IsDirU mu q) : VisDir ms mu q := by
  obtain ⟨e, he, hd⟩ := hd
  exact ⟨hm, e, by simp [firstN, he], hd⟩

theorem Req.take {cs : List Str} (hcs : cs ∈ paths) {j : Nat} (h1 : 1 ≤ j) (h2 : j ≤ cs.length) :
    Req paths (renderC (cs.take j)) := ⟨cs, hcs, j, h1, h2, rfl⟩

theorem Req.chain {cs : List Str} (hcs : cs ∈ paths) {j : Nat} (h2 : j ≤ cs.length) :
    ∀ k ∈ Vfs.chain [] (cs.take j), Req paths k := by
  intro k hk
  obtain ⟨i, h1, hi, rfl⟩ := (mem_chain [] _ k).1 hk
  rw [List.length_take] at hi
  simp only [List.nil_append, List.take_take]
  have : min i j = i := by omega
  rw [this]
  exact Req.take hcs h1 (by omega)

end inv
end Vfs.OConc
