/-
  The well-formedness invariant of the flat in-memory map, how insertions and erasures keep it,
  and string facts about `childName` and `parentInternal`.
-/
import VfsModel.Proofs.FMapLemmas
import VfsModel.Proofs.PathLemmas
import VfsModel.Leaf
namespace Vfs

theorem childName_of_parent (p k : Str) (hs : '/' ∈ k) (hp : parentInternal k = p) :
    childName p k = some (afterLast '/' k) := by
  obtain ⟨h1, h2⟩ := split_last '/' k hs
  unfold parentInternal at hp
  unfold childName
  have hpre : (p ++ ['/']).isPrefixOf k = true := by
    rw [List.isPrefixOf_iff_prefix]
    refine ⟨afterLast '/' k, ?_⟩
    rw [← hp]; simp; exact h1.symm
  have hdrop : k.drop (p ++ ['/']).length = afterLast '/' k := by
    have : k = (p ++ ['/']) ++ afterLast '/' k := by rw [← hp]; simp; exact h1
    conv => lhs; rw [this]
    exact List.drop_left
  simp only [hpre, ↓reduceIte, hdrop, h2]

theorem childName_some (p k n : Str) (h : childName p k = some n) :
    k = p ++ '/' :: n ∧ '/' ∉ n := by
  unfold childName at h
  dsimp only at h
  split at h
  · rename_i hpre
    split at h
    · cases h
    · rename_i hn
      injection h with h
      rw [List.isPrefixOf_iff_prefix] at hpre
      obtain ⟨t, ht⟩ := hpre
      have : k.drop (p ++ ['/']).length = t := by rw [← ht]; exact List.drop_left
      rw [this] at h hn
      subst h
      exact ⟨by rw [← ht]; simp, hn⟩
  · cases h

theorem parent_of_child (p n : Str) (hn : '/' ∉ n) : parentInternal (p ++ '/' :: n) = p :=
  beforeLast_append_delim '/' p n hn

theorem childName_iff (p k n : Str) :
    childName p k = some n ↔ ('/' ∈ k ∧ parentInternal k = p ∧ afterLast '/' k = n) := by
  constructor
  · intro h
    obtain ⟨h1, h2⟩ := childName_some p k n h
    subst h1
    exact ⟨by simp, parent_of_child p n h2, afterLast_append_delim '/' p n h2⟩
  · rintro ⟨h1, h2, h3⟩
    rw [childName_of_parent p k h1 h2, h3]

/-- the root is a directory; every other key contains a '/', and its parent is a directory -/
def WF (m : FMap) : Prop :=
  (∃ e, m.find? [] = some e ∧ e.ftype = .dir) ∧
  ∀ k e, m.find? k = some e → k ≠ [] →
    '/' ∈ k ∧ ∃ pe, m.find? (parentInternal k) = some pe ∧ pe.ftype = .dir

/-- `e` is a directory entry, as a Boolean -/
def isDirOpt : Option Entry → Bool
  | some e => decide (e.ftype = .dir)
  | none => false

/-- executable well-formedness check of a concrete map -/
def wfCheck (m : FMap) : Bool :=
  isDirOpt (m.find? []) &&
    m.keys.all (fun k => decide (k = []) || (decide ('/' ∈ k) && isDirOpt (m.find? (parentInternal k))))

theorem isDirOpt_spec (o : Option Entry) (h : isDirOpt o = true) : ∃ e, o = some e ∧ e.ftype = .dir := by
  cases o with
  | none => cases h
  | some e => exact ⟨e, rfl, by simpa [isDirOpt] using h⟩

theorem WF.of_check (m : FMap) (h : wfCheck m = true) : WF m := by
  unfold wfCheck at h
  rw [Bool.and_eq_true] at h
  refine ⟨isDirOpt_spec _ h.1, ?_⟩
  intro k e hk hne
  have hmem : k ∈ m.keys := (FMap.mem_keys_iff m k).2 ⟨e, hk⟩
  have := List.all_eq_true.1 h.2 k hmem
  simp only [Bool.or_eq_true, decide_eq_true_eq, Bool.and_eq_true] at this
  rcases this with h0 | ⟨h1, h2⟩
  · exact absurd h0 hne
  · exact ⟨h1, isDirOpt_spec _ h2⟩

/-- a map holding nothing but a directory at the root -/
theorem WF.root_only (e : Entry) (hd : e.ftype = .dir) : WF [([], e)] := by
  refine ⟨⟨e, rfl, hd⟩, ?_⟩
  intro k e' h hk
  simp only [FMap.find?_cons] at h
  split at h
  · rename_i h'; exact absurd h'.symm hk
  · cases h

theorem WF.init_mem : WF Mem.init := WF.root_only _ rfl

theorem WF.init_phys : WF Phys.init := WF.root_only _ rfl

/-- the root is present, so an absent path is not the root -/
theorem WF.ne_nil_of_absent {m : FMap} (h : WF m) {p : Str} (hp : m.find? p = none) : p ≠ [] := by
  rintro rfl
  obtain ⟨e, he, _⟩ := h.1
  rw [he] at hp; cases hp

/-- in a well-formed map nothing lives below a file or below an absent path -/
theorem WF.no_child_of_nondir {m : FMap} (h : WF m) (p : Str)
    (hp : ∀ e, m.find? p = some e → e.ftype = .file) (k : Str) (e : Entry)
    (hk : m.find? k = some e) (hne : k ≠ []) : parentInternal k ≠ p := by
  intro heq
  obtain ⟨_, pe, h1, h2⟩ := h.2 k e hk hne
  rw [heq] at h1
  have := hp pe h1
  rw [this] at h2
  cases h2

/-- inserting `v` at `p` keeps the map well-formed if a directory is only replaced by a
directory and a new key comes with a '/' and a parent that is a directory -/
theorem WF.insert {m : FMap} (h : WF m) (p : Str) (v : Entry)
    (hold : ∀ e, m.find? p = some e → e.ftype = .dir → v.ftype = .dir)
    (hnew : m.find? p = none →
      '/' ∈ p ∧ ∃ pe, m.find? (parentInternal p) = some pe ∧ pe.ftype = .dir) :
    WF (m.insert p v) := by
  -- a directory of the old map is a directory of the new one
  have dir_ok : ∀ q pe, m.find? q = some pe → pe.ftype = .dir →
      ∃ pe', (m.insert p v).find? q = some pe' ∧ pe'.ftype = .dir := by
    intro q pe hq hd
    rw [FMap.find?_insert]
    split
    · rename_i hqp
      exact ⟨v, rfl, hold pe (by rw [← hqp]; exact hq) hd⟩
    · exact ⟨pe, hq, hd⟩
  refine ⟨?_, ?_⟩
  · obtain ⟨e, he, hd⟩ := h.1
    exact dir_ok [] e he hd
  · intro k e hk hne
    rw [FMap.find?_insert] at hk
    split at hk
    · rename_i hkp; subst hkp
      cases hf : m.find? k with
      | some old =>
        obtain ⟨h1, pe, h2, h3⟩ := h.2 k old hf hne
        exact ⟨h1, dir_ok _ pe h2 h3⟩
      | none =>
        obtain ⟨h1, pe, h2, h3⟩ := hnew hf
        exact ⟨h1, dir_ok _ pe h2 h3⟩
    · obtain ⟨h1, pe, h2, h3⟩ := h.2 k e hk hne
      exact ⟨h1, dir_ok _ pe h2 h3⟩

/-- inserting a directory whose parent is a directory keeps the map well-formed -/
theorem WF.insert_dir {m : FMap} (h : WF m) (p : Str) (v : Entry) (hv : v.ftype = .dir)
    (hs : '/' ∈ p) (pe : Entry) (hpar : m.find? (parentInternal p) = some pe) (hpd : pe.ftype = .dir) :
    WF (m.insert p v) :=
  h.insert p v (fun _ _ _ => hv) (fun _ => ⟨hs, pe, hpar, hpd⟩)

/-- replacing or adding an entry of the same "shape" (a file where nothing or a file was, any
entry of the same type as the old one) keeps the map well-formed -/
theorem WF.insert_leaf {m : FMap} (h : WF m) (p : Str) (v : Entry)
    (hold : ∀ e, m.find? p = some e → e.ftype = v.ftype)
    (hnew : m.find? p = none → v.ftype = .file ∧ '/' ∈ p ∧
      ∃ pe, m.find? (parentInternal p) = some pe ∧ pe.ftype = .dir) :
    WF (m.insert p v) :=
  h.insert p v (fun e he hd => by rw [← hold e he]; exact hd) (fun hn => (hnew hn).2)

/-- erasing a key that has no children keeps the map well-formed (the root aside) -/
theorem WF.erase_childless {m : FMap} (h : WF m) (p : Str) (hp : p ≠ [])
    (hc : ∀ k e, m.find? k = some e → k ≠ [] → parentInternal k ≠ p) : WF (m.erase p) := by
  refine ⟨?_, ?_⟩
  · obtain ⟨e, he, hd⟩ := h.1
    rw [FMap.find?_erase]
    split
    · rename_i h'; exact absurd h'.symm hp
    · exact ⟨e, he, hd⟩
  · intro k e hk hne
    rw [FMap.find?_erase] at hk
    split at hk
    · cases hk
    · obtain ⟨h1, pe, h2, h3⟩ := h.2 k e hk hne
      refine ⟨h1, pe, ?_, h3⟩
      rw [FMap.find?_erase, if_neg (hc k e hk hne)]
      exact h2

theorem mem_filterMap_childName (m : FMap) (p n : Str) :
    n ∈ m.keys.filterMap (childName p) ↔
      ∃ k e, m.find? k = some e ∧ '/' ∈ k ∧ parentInternal k = p ∧ afterLast '/' k = n := by
  simp only [List.mem_filterMap, FMap.mem_keys_iff, childName_iff]
  constructor
  · rintro ⟨k, ⟨e, he⟩, h⟩; exact ⟨k, e, he, h⟩
  · rintro ⟨k, e, he, h⟩; exact ⟨k, ⟨e, he⟩, h⟩

/-- the prefix scan lists exactly the bare names `n` such that `p/n` is a key -/
theorem mem_children (m : FMap) (p n : Str) :
    n ∈ m.keys.filterMap (childName p) ↔ ('/' ∉ n ∧ m.contains (p ++ '/' :: n) = true) := by
  rw [mem_filterMap_childName, FMap.contains_iff]
  constructor
  · rintro ⟨k, e, hk, hs, hp, ha⟩
    have := (split_last '/' k hs)
    unfold parentInternal at hp
    rw [hp, ha] at this
    exact ⟨this.2, e, by rw [← this.1]; exact hk⟩
  · rintro ⟨hn, e, he⟩
    exact ⟨p ++ '/' :: n, e, he, by simp, parent_of_child p n hn,
      afterLast_append_delim '/' p n hn⟩

theorem parent_shorter (k : Str) (hs : '/' ∈ k) : (parentInternal k).length < k.length := by
  have := congrArg List.length (parentInternal_split k hs)
  simp only [List.length_append, List.length_cons] at this
  omega

/-- in a well-formed tree whose root has no children there is nothing but the root -/
theorem WF.only_root {m : FMap} (hwf : WF m) (hl : m.keys.filterMap (childName []) = []) :
    ∀ k, k ≠ [] → m.find? k = none := by
  have key : ∀ n (k : Str), k.length = n → k ≠ [] → m.find? k = none := by
    intro n
    induction n using Nat.strongRecOn with
    | ind n ih =>
      intro k hlen hne
      cases hk : m.find? k with
      | none => rfl
      | some e =>
        obtain ⟨hs, pe, hpe, _⟩ := hwf.2 k e hk hne
        by_cases hp : parentInternal k = []
        · have : afterLast '/' k ∈ m.keys.filterMap (childName []) :=
            (mem_filterMap_childName m [] _).2 ⟨k, e, hk, hs, hp, rfl⟩
          rw [hl] at this
          cases this
        · have := ih _ (by rw [← hlen]; exact parent_shorter k hs) (parentInternal k) rfl hp
          rw [this] at hpe
          cases hpe
  intro k hne
  exact key k.length k rfl hne

theorem filterMap_childName_nodup (m : FMap) (p : Str) (h : FMap.NodupKeys m) :
    (m.keys.filterMap (childName p)).Nodup := by
  unfold FMap.NodupKeys at h
  generalize m.keys = ks at h
  induction ks with
  | nil => simp
  | cons k ks ih =>
    simp only [List.nodup_cons] at h
    simp only [List.filterMap_cons]
    cases hc : childName p k with
    | none => exact ih h.2
    | some n =>
      simp only [List.nodup_cons]
      refine ⟨?_, ih h.2⟩
      intro hm
      simp only [List.mem_filterMap] at hm
      obtain ⟨k', hk', hc'⟩ := hm
      have e1 := (childName_some p k n hc).1
      have e2 := (childName_some p k' n hc').1
      exact h.1 (by rw [e1, ← e2]; exact hk')

end Vfs
