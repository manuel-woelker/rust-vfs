/-
  Helper lemmas for C07 (AltrootFS is an exact and confined re-rooting).

  * path algebra: splitting a rendered component list gives the components back, resolving
    good components pushes them all, `AltrootFS::path` on a canonical string appends it;
  * a model of `PhysicalFS::get_path` (`PathBuf::join`);
  * `FS.PresAt I fs B A`: "every method of `fs` preserves `I` when it is called with a path
    satisfying `B` (observers `exists` / `metadata`: `B` or `A`)", the rules for the `VfsPath`
    layer, and the altroot rule `Altroot.presAt`: the altroot calls the filesystem of its root
    only at canonical paths below its root directory (and probes ancestors with observers).

  Imports Props/C06.lean: the path algebra here continues C06's account of `join` (`C06.startStack`,
  `C06.join_resolve`).
-/
import VfsModel.Props.C06
import VfsModel.Proofs.PreservesOps
namespace Vfs

/-! ### path algebra -/

theorem GoodComp.head?_append {c : Str} (hc : GoodComp c) (s : Str) :
    (c ++ s).head? ≠ some '/' := by
  cases c with
  | nil => exact absurd rfl hc.1
  | cons y ys => exact fun h => hc.noSlash (List.mem_of_head? h)

theorem good_append {a b : List Str} (ha : ∀ c ∈ a, GoodComp c) (hb : ∀ c ∈ b, GoodComp c) :
    ∀ c ∈ a ++ b, GoodComp c := by
  intro c hc
  rcases List.mem_append.1 hc with h | h
  · exact ha c h
  · exact hb c h

/-- good components are all pushed -/
theorem resolve_good_append (s qs : List Str) (hqs : ∀ c ∈ qs, GoodComp c) :
    resolve s qs = s ++ qs := by
  induction qs generalizing s with
  | nil => simp [resolve]
  | cons c cs ih =>
    obtain ⟨h1, _, h3, h4⟩ := hqs c (by simp)
    simp only [resolve, h1, h3, h4, or_self, if_false]
    rw [ih _ (fun x hx => hqs x (by simp [hx]))]
    simp

/-- a rendered relative path of canonical components does not end in '/' -/
theorem comp_renderC_getLast (c : Str) (cs : List Str) (hc : GoodComp c)
    (h : ∀ x ∈ cs, GoodComp x) : (c ++ renderC cs).getLast? ≠ some '/' := by
  rcases List.eq_nil_or_concat cs with rfl | ⟨l, d, rfl⟩
  · rw [renderC_nil, List.append_nil]
    exact fun hl => hc.noSlash (List.mem_of_getLast? hl)
  · have hd := h d (by simp)
    rw [List.concat_eq_append, renderC_snoc, ← List.append_assoc, List.append_cons,
      getLast?_append_ne_nil _ hd.1]
    exact fun hl => hd.noSlash (List.mem_of_getLast? hl)

/-- joining the canonical relative string `c1/c2/…` onto a canonical base appends it -/
theorem joinInternal_good (ps : List Str) (c : Str) (cs : List Str)
    (hps : ∀ x ∈ ps, '/' ∉ x) (hc : GoodComp c) (hcs : ∀ x ∈ cs, GoodComp x) :
    joinInternal (renderC ps) (c ++ renderC cs) = .ok (renderC (ps ++ c :: cs)) := by
  have hne : c ++ renderC cs ≠ [] := by
    intro h; exact hc.1 (List.append_eq_nil_iff.1 h).1
  have hts : ¬ trailingSlash (c ++ renderC cs) := fun h => comp_renderC_getLast c cs hc hcs h.2
  rw [C06.join_resolve ps _ hps hne hts,
    splitSlash_comp_renderC c cs hc.noSlash (good_noSlash hcs)]
  unfold C06.startStack
  rw [if_neg (hc.head?_append _), resolve_good_append ps (c :: cs)]
  intro x hx
  rcases List.mem_cons.1 hx with rfl | hx
  · exact hc
  · exact hcs x hx

/-- the same with the relative string given as what follows the first `/` of a rendered list -/
theorem joinInternal_tail (ps ts : List Str) (hps : ∀ x ∈ ps, '/' ∉ x)
    (hts : ∀ x ∈ ts, GoodComp x) {t : Str} (h : renderC ts = '/' :: t) :
    joinInternal (renderC ps) t = .ok (renderC ps ++ '/' :: t) := by
  cases ts with
  | nil => cases h
  | cons c cs =>
    rw [renderC_cons, List.cons_append, List.cons.injEq] at h
    rw [← h.2, joinInternal_good ps c cs hps (hts c (by simp)) (fun x hx => hts x (by simp [hx])),
      renderC_append, renderC_cons]
    simp

theorem canon_append {a b : Str} (ha : Canon a) (hb : Canon b) : Canon (a ++ b) := by
  obtain ⟨as, has, rfl⟩ := ha
  obtain ⟨bs, hbs, rfl⟩ := hb
  exact ⟨as ++ bs, good_append has hbs, by simp⟩

/-- the parent of `P ++ q`, `q` canonical and not the root, is `P` followed by the parent of `q`,
whatever `P` is -/
theorem parentInternal_append (P : Str) {q : Str} (hq : Canon q) (hne : q ≠ []) :
    parentInternal (P ++ q) = P ++ parentInternal q := by
  obtain ⟨cs, hcs, rfl⟩ := hq
  rcases List.eq_nil_or_concat cs with rfl | ⟨l, c, rfl⟩
  · exact absurd rfl hne
  · have hc : '/' ∉ c := (hcs c (by simp)).noSlash
    rw [show renderC (l.concat c) = renderC l ++ '/' :: c by simp]
    unfold parentInternal
    rw [← List.append_assoc, beforeLast_append_delim _ _ _ hc, beforeLast_append_delim _ _ _ hc]

/-- `layer.join("c/c1/…")` for a layer whose path is `renderC b` (the layer root: `b = []`) -/
theorem VPath.join_good (l : VPath) (b : List Str) (hl : l.path = renderC b)
    (hb : ∀ c ∈ b, '/' ∉ c) (c : Str) (cs : List Str) (hc : GoodComp c)
    (hcs : ∀ x ∈ cs, GoodComp x) :
    l.join (c ++ renderC cs) = .ok (l.withStr (renderC b ++ renderC (c :: cs))) := by
  rw [VPath.join, hl, joinInternal_good b c cs hb hc hcs, renderC_append]; rfl

namespace Altroot

/-- `AltrootFS::path` on a canonical string: the path of the root with the string appended -/
theorem path_renderC (root : VPath) (ps qs : List Str) (hroot : root.path = renderC ps)
    (hps : ∀ c ∈ ps, GoodComp c) (hqs : ∀ c ∈ qs, GoodComp c) :
    path root (renderC qs) = .ok (root.withStr (renderC (ps ++ qs))) := by
  cases qs with
  | nil =>
    unfold path
    rw [if_pos renderC_nil]
    cases root
    simp only at hroot
    subst hroot
    simp [VPath.withStr]
  | cons c cs =>
    unfold path
    have hne : renderC (c :: cs) ≠ [] := by simp
    have hh : (renderC (c :: cs)).head? = some '/' := by simp
    rw [if_neg hne, if_pos hh]
    have hd : (renderC (c :: cs)).drop 1 = c ++ renderC cs := by simp
    rw [hd, VPath.join_good root ps hroot (good_noSlash hps) c cs (hqs c (by simp))
      (fun x hx => hqs x (by simp [hx])), renderC_append]

/-- the same with `Canon root.path` and `Canon q` in place of the component lists -/
theorem path_canon (root : VPath) (q : Str) (hroot : Canon root.path) (hq : Canon q) :
    path root q = .ok (root.withStr (root.path ++ q)) := by
  obtain ⟨ps, hps, hp⟩ := hroot
  obtain ⟨qs, hqs, rfl⟩ := hq
  rw [path_renderC root ps qs hp hps hqs, hp, renderC_append]

end Altroot

/-! ### `PhysicalFS::get_path` (src/impls/physical.rs:26-31) -/

/-- the separator `PathBuf::push` inserts before a relative argument: none when the buffer is
empty or already ends in a separator (std: `need_sep = last byte is not a separator`, `false`
for an empty buffer), otherwise "/" -/
def pathSep (root : Str) : Str := if root = [] ∨ root.getLast? = some '/' then [] else ['/']

/-- `PathBuf::join` on Unix, as strings: an absolute argument REPLACES the base, a relative one
(the empty string included: `"/srv".join("")` is `"/srv/"`) is appended after a separator -/
def pathBufJoin (root arg : Str) : Str :=
  if arg.head? = some '/' then arg else root ++ pathSep root ++ arg

/-- `PhysicalFS::get_path`: strip ONE leading '/', then `self.root.join(path)` -/
def physGetPath (root p : Str) : Str :=
  pathBufJoin root (if p.head? = some '/' then p.drop 1 else p)

theorem physGetPath_renderC (root : Str) (cs : List Str) (hcs : ∀ c ∈ cs, GoodComp c) :
    physGetPath root (renderC cs) = root ++ pathSep root ++ (renderC cs).drop 1 := by
  cases cs with
  | nil => simp [physGetPath, pathBufJoin]
  | cons c cs =>
    simp only [physGetPath, renderC_cons, List.cons_append, List.head?_cons, if_true,
      List.drop_succ_cons, List.drop_zero, pathBufJoin, if_neg ((hcs c (by simp)).head?_append _)]

/-! ### preservation at selected paths -/

/-- every method of `fs` preserves `I` when called with a path satisfying `B`; the observers
`exists` and `metadata` also with a path satisfying `A`; handles handed out for a path
satisfying `B` preserve `I` -/
structure FS.PresAt (I : World → Prop) (fs : FS) (B A : Str → Prop) : Prop where
  readDir : ∀ p, B p → Preserves I (fs.readDir p)
  createDir : ∀ p, B p → Preserves I (fs.createDir p)
  openFile : ∀ p, B p → Preserves I (fs.openFile p)
  createFile : ∀ p, B p → Preserves I (fs.createFile p)
  appendFile : ∀ p, B p → Preserves I (fs.appendFile p)
  metadata : ∀ p, B p ∨ A p → Preserves I (fs.metadata p)
  setCreationTime : ∀ p t, B p → Preserves I (fs.setCreationTime p t)
  setModificationTime : ∀ p t, B p → Preserves I (fs.setModificationTime p t)
  setAccessTime : ∀ p t, B p → Preserves I (fs.setAccessTime p t)
  exists_ : ∀ p, B p ∨ A p → Preserves I (fs.exists_ p)
  removeFile : ∀ p, B p → Preserves I (fs.removeFile p)
  removeDir : ∀ p, B p → Preserves I (fs.removeDir p)
  copyFile : ∀ s d, B s → B d → Preserves I (fs.copyFile s d)
  moveFile : ∀ s d, B s → B d → Preserves I (fs.moveFile s d)
  moveDir : ∀ s d, B s → B d → Preserves I (fs.moveDir s d)
  createHandle : ∀ p, B p → Returns (fs.createFile p) (HandleOK I)
  appendHandle : ∀ p, B p → Returns (fs.appendFile p) (HandleOK I)

theorem FS.AllPreserve.presAt {I : World → Prop} {fs : FS} (h : fs.AllPreserve I)
    (B A : Str → Prop) : fs.PresAt I B A where
  readDir p _ := h.readDir p
  createDir p _ := h.createDir p
  openFile p _ := h.openFile p
  createFile p _ := h.createFile p
  appendFile p _ := h.appendFile p
  metadata p _ := h.metadata p
  setCreationTime p t _ := h.setCreationTime p t
  setModificationTime p t _ := h.setModificationTime p t
  setAccessTime p t _ := h.setAccessTime p t
  exists_ p _ := h.exists_ p
  removeFile p _ := h.removeFile p
  removeDir p _ := h.removeDir p
  copyFile s d _ _ := h.copyFile s d
  moveFile s d _ _ := h.moveFile s d
  moveDir s d _ _ := h.moveDir s d
  createHandle p _ := h.createHandle p
  appendHandle p _ := h.appendHandle p

/-- fewer paths: weaker hypothesis -/
theorem FS.PresAt.mono {I : World → Prop} {fs : FS} {B A B' A' : Str → Prop}
    (h : fs.PresAt I B A) (hB : ∀ p, B' p → B p) (hA : ∀ p, A' p → B p ∨ A p) :
    fs.PresAt I B' A' where
  readDir p hp := h.readDir p (hB p hp)
  createDir p hp := h.createDir p (hB p hp)
  openFile p hp := h.openFile p (hB p hp)
  createFile p hp := h.createFile p (hB p hp)
  appendFile p hp := h.appendFile p (hB p hp)
  metadata p hp := h.metadata p (hp.elim (fun x => Or.inl (hB p x)) (hA p))
  setCreationTime p t hp := h.setCreationTime p t (hB p hp)
  setModificationTime p t hp := h.setModificationTime p t (hB p hp)
  setAccessTime p t hp := h.setAccessTime p t (hB p hp)
  exists_ p hp := h.exists_ p (hp.elim (fun x => Or.inl (hB p x)) (hA p))
  removeFile p hp := h.removeFile p (hB p hp)
  removeDir p hp := h.removeDir p (hB p hp)
  copyFile s d hs hd := h.copyFile s d (hB s hs) (hB d hd)
  moveFile s d hs hd := h.moveFile s d (hB s hs) (hB d hd)
  moveDir s d hs hd := h.moveDir s d (hB s hs) (hB d hd)
  createHandle p hp := h.createHandle p (hB p hp)
  appendHandle p hp := h.appendHandle p (hB p hp)

namespace VPath
variable {I : World → Prop} {B A : Str → Prop}

theorem presAt_exists (x : VPath) (h : x.fs.PresAt I B A) (hx : B x.path ∨ A x.path) :
    Preserves I x.exists_ := h.exists_ _ hx

theorem presAt_metadata (x : VPath) (h : x.fs.PresAt I B A) (hx : B x.path ∨ A x.path) :
    Preserves I x.metadata := Preserves.withPath _ (h.metadata _ hx)

/-- `get_parent` probes the parent with `exists` and `metadata` only -/
theorem presAt_getParent (x : VPath) (h : x.fs.PresAt I B A)
    (hp : B (parentInternal x.path) ∨ A (parentInternal x.path)) : Preserves I x.getParent :=
  .of_sat (sat_getParent_of x (presAt_exists x.parent h hp).sat (presAt_metadata x.parent h hp).sat)

theorem presAt_createDir (x : VPath) (h : x.fs.PresAt I B A) (hx : B x.path)
    (hp : B (parentInternal x.path) ∨ A (parentInternal x.path)) : Preserves I x.createDir :=
  .of_sat (sat_createDir_of x (presAt_getParent x h hp).sat (h.createDir _ hx).sat)

theorem presAt_createFile (x : VPath) (h : x.fs.PresAt I B A) (hx : B x.path)
    (hp : B (parentInternal x.path) ∨ A (parentInternal x.path)) : Preserves I x.createFile :=
  .of_sat (sat_createFile_of x (presAt_getParent x h hp).sat (h.createFile _ hx).sat)

theorem presAt_createFile_handle (x : VPath) (h : x.fs.PresAt I B A) (hx : B x.path) :
    Returns x.createFile (HandleOK I) := by
  unfold createFile
  apply Returns.bind
  intro _
  exact Returns.withPath _ (h.createHandle _ hx)

theorem presAt_readDir (x : VPath) (h : x.fs.PresAt I B A) (hx : B x.path) :
    Preserves I x.readDir :=
  .of_sat (sat_readDir_of x (h.readDir _ hx).sat)

theorem presAt_openFile (x : VPath) (h : x.fs.PresAt I B A) (hx : B x.path) :
    Preserves I x.openFile := Preserves.withPath _ (h.openFile _ hx)
theorem presAt_appendFile (x : VPath) (h : x.fs.PresAt I B A) (hx : B x.path) :
    Preserves I x.appendFile := Preserves.withPath _ (h.appendFile _ hx)
theorem presAt_appendFile_handle (x : VPath) (h : x.fs.PresAt I B A) (hx : B x.path) :
    Returns x.appendFile (HandleOK I) := Returns.withPath _ (h.appendHandle _ hx)
theorem presAt_removeFile (x : VPath) (h : x.fs.PresAt I B A) (hx : B x.path) :
    Preserves I x.removeFile := Preserves.withPath _ (h.removeFile _ hx)
theorem presAt_removeDir (x : VPath) (h : x.fs.PresAt I B A) (hx : B x.path) :
    Preserves I x.removeDir := Preserves.withPath _ (h.removeDir _ hx)
theorem presAt_setCreationTime (x : VPath) (t : Int) (h : x.fs.PresAt I B A) (hx : B x.path) :
    Preserves I (x.setCreationTime t) := Preserves.withPath _ (h.setCreationTime _ _ hx)
theorem presAt_setModificationTime (x : VPath) (t : Int) (h : x.fs.PresAt I B A)
    (hx : B x.path) : Preserves I (x.setModificationTime t) :=
  Preserves.withPath _ (h.setModificationTime _ _ hx)
theorem presAt_setAccessTime (x : VPath) (t : Int) (h : x.fs.PresAt I B A) (hx : B x.path) :
    Preserves I (x.setAccessTime t) := Preserves.withPath _ (h.setAccessTime _ _ hx)

/-- `copy_file` between two paths of one filesystem value -/
theorem presAt_copyFile (src dst : VPath) (hfs : dst.fs = src.fs) (h : src.fs.PresAt I B A)
    (hs : B src.path) (hd : B dst.path)
    (hp : B (parentInternal dst.path) ∨ A (parentInternal dst.path)) :
    Preserves I (src.copyFile dst) := by
  have h' : dst.fs.PresAt I B A := by rw [hfs]; exact h
  exact .of_sat (sat_copyFile_of src dst (presAt_exists dst h' (Or.inl hd)).sat
    (fun _ => (h.copyFile _ _ hs hd).sat) (presAt_openFile src h hs).sat
    (presAt_createFile dst h' hd hp).sat
    ((presAt_createFile_handle dst h' hd).mono (fun _ => HandleOK.sat)))

end VPath

/-! ### the altroot rule -/

/-- canonical strings at or below the directory `/p1/…/pn`, component-wise -/
def BelowC (ps : List Str) (s : Str) : Prop :=
  ∃ qs : List Str, (∀ c ∈ qs, GoodComp c) ∧ s = renderC (ps ++ qs)

/-- the directory `/p1/…/pn` and the directories above it -/
def Ancestor (ps : List Str) (s : Str) : Prop := ∃ k, s = renderC (ps.take k)

theorem BelowC.canon {ps : List Str} {s : Str} (hps : ∀ c ∈ ps, GoodComp c) (h : BelowC ps s) :
    Canon s := by
  obtain ⟨qs, hqs, rfl⟩ := h
  exact ⟨ps ++ qs, good_append hps hqs, rfl⟩

theorem Ancestor.canon {ps : List Str} {s : Str} (hps : ∀ c ∈ ps, GoodComp c)
    (h : Ancestor ps s) : Canon s := by
  obtain ⟨k, rfl⟩ := h
  exact ⟨ps.take k, fun c hc => hps c (List.mem_of_mem_take hc), rfl⟩

/-- the parent of a path at or below `ps` is at or below `ps`, or (for `ps` itself) is the
directory just above it -/
theorem parent_belowC (ps qs : List Str) (hps : ∀ c ∈ ps, GoodComp c)
    (hqs : ∀ c ∈ qs, GoodComp c) :
    BelowC ps (parentInternal (renderC (ps ++ qs))) ∨
      Ancestor ps (parentInternal (renderC (ps ++ qs))) := by
  rw [parentInternal_renderC _ (good_noSlash (good_append hps hqs))]
  by_cases hne : qs = []
  · subst hne
    right
    exact ⟨ps.length - 1, by rw [List.append_nil, List.dropLast_eq_take]⟩
  · left
    rw [List.dropLast_append_of_ne_nil hne]
    exact ⟨qs.dropLast, fun c hc => hqs c (List.dropLast_subset _ hc), rfl⟩

namespace Altroot
variable {I : World → Prop}

theorem bind_path {α} (root : VPath) (q : Str) (x : VPath) (hp : path root q = .ok x)
    (f : VPath → M α) : (M.ret (path root q) >>= f) = f x := by
  rw [hp]; rfl

/-- every forwarding method is `self.path(q)?` followed by a `VfsPath` operation: on canonical `q` it
is that operation on `P ++ q` -/
theorem run_method {α : Type} (root : VPath) (q : Str) (hroot : Canon root.path) (hq : Canon q)
    (f : VPath → M α) : (M.ret (path root q) >>= f) = f (root.withStr (root.path ++ q)) :=
  bind_path root q _ (path_canon root q hroot hq) f

/-- a method of the shape `self.path(p)?.m()`, called at a canonical `p`, is `m` at the path of the
root with `p` appended; `T` is `Preserves I` or `Returns · Q` -/
theorem via_path {α} {T : M α → Prop} {root : VPath} {ps : List Str}
    (hroot : root.path = renderC ps) (hps : ∀ c ∈ ps, GoodComp c) (f : VPath → M α)
    (h : ∀ qs, (∀ c ∈ qs, GoodComp c) → T (f (root.withStr (renderC (ps ++ qs))))) :
    ∀ p, Canon p → T (M.ret (path root p) >>= f) := by
  rintro _ ⟨qs, hqs, rfl⟩
  rw [bind_path root _ _ (path_renderC root ps qs hroot hps hqs)]
  exact h qs hqs

/-- **The altroot rule.** An altroot whose root is the directory `/p1/…/pn` calls the
filesystem of its root only with canonical paths at or below that directory — and, for the
parent probe of `create_dir("")` / `create_file("")`, `exists` / `metadata` on the directory
just above it. Hence: whatever that filesystem preserves when called at such paths, every
method of the altroot preserves when called with a canonical path, and so do the handles it
returns. -/
theorem presAt (root : VPath) (ps : List Str) (hroot : root.path = renderC ps)
    (hps : ∀ c ∈ ps, GoodComp c) (h : root.fs.PresAt I (BelowC ps) (Ancestor ps)) :
    (fs root).PresAt I Canon (fun _ => False) :=
  have hb : ∀ qs : List Str, (∀ c ∈ qs, GoodComp c) → BelowC ps (renderC (ps ++ qs)) :=
    fun qs hqs => ⟨qs, hqs, rfl⟩
  have hfs : ∀ s, (root.withStr s).fs.PresAt I (BelowC ps) (Ancestor ps) := fun _ => h
  { readDir := via_path hroot hps _ fun qs hqs =>
      Preserves.bind (VPath.presAt_readDir _ (hfs _) (hb qs hqs)) (fun _ => Preserves.pure _)
    createDir := via_path hroot hps _ fun qs hqs =>
      VPath.presAt_createDir _ (hfs _) (hb qs hqs) (parent_belowC ps qs hps hqs)
    openFile := via_path hroot hps _ fun qs hqs => VPath.presAt_openFile _ (hfs _) (hb qs hqs)
    createFile := via_path hroot hps _ fun qs hqs =>
      VPath.presAt_createFile _ (hfs _) (hb qs hqs) (parent_belowC ps qs hps hqs)
    appendFile := via_path hroot hps _ fun qs hqs => VPath.presAt_appendFile _ (hfs _) (hb qs hqs)
    metadata := fun p hp => via_path hroot hps _
      (fun qs hqs => VPath.presAt_metadata _ (hfs _) (Or.inl (hb qs hqs))) p (hp.resolve_right id)
    setCreationTime := fun p t => via_path hroot hps _
      (fun qs hqs => VPath.presAt_setCreationTime _ t (hfs _) (hb qs hqs)) p
    setModificationTime := fun p t => via_path hroot hps _
      (fun qs hqs => VPath.presAt_setModificationTime _ t (hfs _) (hb qs hqs)) p
    setAccessTime := fun p t => via_path hroot hps _
      (fun qs hqs => VPath.presAt_setAccessTime _ t (hfs _) (hb qs hqs)) p
    exists_ := by
      rintro _ (⟨qs, hqs, rfl⟩ | hf)
      · simp only [fs, path_renderC root ps qs hroot hps hqs]
        exact VPath.presAt_exists _ (hfs _) (Or.inl (hb qs hqs))
      · exact absurd hf id
    removeFile := via_path hroot hps _ fun qs hqs => VPath.presAt_removeFile _ (hfs _) (hb qs hqs)
    removeDir := via_path hroot hps _ fun qs hqs => VPath.presAt_removeDir _ (hfs _) (hb qs hqs)
    copyFile := by
      intro s d hs hd
      simp only [fs]
      split
      · exact Preserves.failK _
      · exact via_path hroot hps _ (fun ss hss => via_path hroot hps _ (fun ds hds =>
          VPath.presAt_copyFile (root.withStr _) _ rfl (hfs _) (hb ss hss) (hb ds hds)
            (parent_belowC ps ds hps hds)) d hd) s hs
    moveFile := fun _ _ _ _ => Preserves.failK _
    moveDir := fun _ _ _ _ => Preserves.failK _
    createHandle := via_path (T := (Returns · (HandleOK I))) hroot hps _ fun qs hqs =>
      VPath.presAt_createFile_handle _ (hfs _) (hb qs hqs)
    appendHandle := via_path (T := (Returns · (HandleOK I))) hroot hps _ fun qs hqs =>
      VPath.presAt_appendFile_handle _ (hfs _) (hb qs hqs) }

end Altroot

end Vfs
