/-
  How the generic `VPath` operations run over `leafFS i` on a world whose leaf `i` is a memory
  leaf holding the map `m`: they compute exactly the pure functions of MemPath.lean.
  First the trait methods of `leafFS i` on a leaf of either kind (`LeafAt.*_eq`), each from
  `onLeaf_run` (Proofs/LeafFrame.lean); then `run_*`, the `VPath` operations on a memory leaf.
  After them: `C11.rmAllK`, `remove_dir_all` by structural recursion, and `C11.moveDirK`, `move_dir`
  with it, for evaluating scenarios; at the end `run_exists_altroot`, `run_metadata_altroot`,
  `run_getParent_altroot`: the observers and the parent probe through an altroot over a memory leaf.
-/
import VfsModel.Proofs.MemPath
import VfsModel.Proofs.LeafFrame
namespace Vfs

/-- leaf `i` of the world is a memory leaf holding `m` -/
def MemLeafAt (w : World) (i : Nat) (m : FMap) : Prop :=
  w.leaf? i = some { kind := .mem, files := m }

/-- what `MemLeafAt` says, as the equation to rewrite `w.leaf? i` with -/
theorem MemLeafAt.leaf? {w : World} {i : Nat} {m : FMap} (h : MemLeafAt w i m) :
    w.leaf? i = some { kind := .mem, files := m } := h

/-! `leafFS i` (VfsModel/Leaf.lean) is one record that asks the leaf for its kind at every call:
`LeafAt w i k m` is "leaf `i` is of kind `k` and holds `m`", and each trait method is the pure
function of that kind. `MemLeafAt w i m` is `LeafAt w i .mem m` (`MemLeafAt.leafAt`), the physical
`PhysLeafAt w i m` of Proofs/TransferLemmas.lean is `LeafAt w i .phys m` (`PhysLeafAt.leafAt`), and
so is `C18.PhysLeafAt` of Props/C18Phys.lean; a hypothesis of any of them is accepted where `LeafAt`
is expected, by unfolding. -/

/-- leaf `i` of the world is a leaf of kind `k` holding `m` -/
def LeafAt (w : World) (i : Nat) (k : LeafKind) (m : FMap) : Prop :=
  w.leaf? i = some { kind := k, files := m }

theorem MemLeafAt.leafAt {w : World} {i : Nat} {m : FMap} (h : MemLeafAt w i m) :
    LeafAt w i .mem m := h

namespace LeafAt
variable {w : World} {i : Nat} {k : LeafKind} {m : FMap} (h : LeafAt w i k m)
include h

theorem set (m' : FMap) : LeafAt (w.setLeafFiles i m') i k m' := by
  unfold LeafAt at *
  rw [World.setLeafFiles_same w i _ m' h]

theorem same : w.setLeafFiles i m = w := World.setLeafFiles_self w i _ h

/-! the trait methods as the pure functions of Leaf.lean, by kind -/

theorem exists_eq (p : Str) :
    (leafFS i).exists_ p w = (.ok (match (generalizing := false) k with
      | .mem => m.contains p
      | .phys => Phys.exists_ m p), w) := by
  show onLeaf i _ w = _
  rw [onLeaf_run h]
  cases k <;> simp [h.same]

theorem metadata_eq (p : Str) :
    (leafFS i).metadata p w = (match (generalizing := false) k with
      | .mem => Mem.metadata m p
      | .phys => Phys.metadata m p, w) := by
  show onLeaf i _ w = _
  rw [onLeaf_run h]
  cases k <;> simp [h.same]

theorem readDir_eq (p : Str) :
    (leafFS i).readDir p w = (match (generalizing := false) k with
      | .mem => Mem.readDir m p
      | .phys => Phys.readDir m p, w) := by
  show onLeaf i _ w = _
  rw [onLeaf_run h]
  cases k <;> simp [h.same]

theorem openFile_eq (p : Str) :
    (leafFS i).openFile p w = (match (generalizing := false) k with
      | .mem => ((Mem.openFile m p).1, w.setLeafFiles i (Mem.openFile m p).2)
      | .phys => (Phys.openFile m p, w)) := by
  show onLeaf i _ w = _
  rw [onLeaf_run h]
  cases k
  · rfl
  · simp [h.same]

theorem removeFile_eq (p : Str) :
    (leafFS i).removeFile p w = (match (generalizing := false) k with
      | .mem => ((Mem.removeFile m p).1, w.setLeafFiles i (Mem.removeFile m p).2)
      | .phys => ((Phys.removeFile m p).1, w.setLeafFiles i (Phys.removeFile m p).2)) := by
  show onLeaf i _ w = _
  rw [onLeaf_run h]
  cases k <;> rfl

theorem removeDir_eq (p : Str) :
    (leafFS i).removeDir p w = (match (generalizing := false) k with
      | .mem => ((Mem.removeDir m p).1, w.setLeafFiles i (Mem.removeDir m p).2)
      | .phys => ((Phys.removeDir m p).1, w.setLeafFiles i (Phys.removeDir m p).2)) := by
  show onLeaf i _ w = _
  rw [onLeaf_run h]
  cases k <;> rfl

theorem createDir_eq (p : Str) :
    (leafFS i).createDir p w = (match (generalizing := false) k with
      | .mem => ((Mem.createDir m p).1, w.setLeafFiles i (Mem.createDir m p).2)
      | .phys => ((Phys.createDir m p).1, w.setLeafFiles i (Phys.createDir m p).2)) := by
  show onLeaf i _ w = _
  rw [onLeaf_run h]
  cases k <;> rfl

/-- the handle `create_file` answers with is of the kind of the leaf -/
theorem createFile_eq (p : Str) :
    (leafFS i).createFile p w = (match (generalizing := false) k with
      | .mem => ((Mem.createFile m p).1.map fun _ => ⟨i, p, .memFile, [], 0⟩,
          w.setLeafFiles i (Mem.createFile m p).2)
      | .phys => ((Phys.createFile m p).1.map fun _ => ⟨i, p, .physCreate, [], 0⟩,
          w.setLeafFiles i (Phys.createFile m p).2)) := by
  show onLeaf i _ w = _
  rw [onLeaf_run h]
  cases k <;> rfl

/-- a memory handle of `append_file` starts with the bytes of the file, a physical one writes through -/
theorem appendFile_eq (p : Str) :
    (leafFS i).appendFile p w = (match (generalizing := false) k with
      | .mem => (Mem.appendFile m p).map fun b => ⟨i, p, .memFile, b, b.length⟩
      | .phys => (Phys.appendFile m p).map fun _ => ⟨i, p, .physAppend, [], 0⟩, w) := by
  show onLeaf i _ w = _
  rw [onLeaf_run h]
  cases k <;> simp [h.same]

end LeafAt

theorem MemLeafAt.set {w : World} {i : Nat} {m : FMap} (h : MemLeafAt w i m) (m' : FMap) :
    MemLeafAt (w.setLeafFiles i m') i m' :=
  LeafAt.set h m'

theorem MemLeafAt.same {w : World} {i : Nat} {m : FMap} (h : MemLeafAt w i m) :
    w.setLeafFiles i m = w :=
  LeafAt.same h

/-- `get_parent` from what `exists` and `metadata` answer at the parent, when they answer as the
map `m` says at the parent of the key `kk` -/
theorem VPath.getParent_of_map {x : VPath} {w : World} {m : FMap} {kk : Str}
    (he : x.parent.exists_ w = (.ok (m.contains (parentInternal kk)), w))
    (hm : ∀ e, m.find? (parentInternal kk) = some e → x.parent.metadata w = (.ok e.meta, w)) :
    x.getParent w = (if Mem.parentOk m kk then .ok () else .err .other (some x.path), w) :=
  getParent_of_entry he hm

section run
variable {w : World} {i : Nat} {m : FMap} (h : MemLeafAt w i m)
include h

theorem run_exists (p : Str) : (leafFS i).exists_ p w = (.ok (m.contains p), w) :=
  LeafAt.exists_eq h p

theorem run_metadata (p : Str) : (leafFS i).metadata p w = (Mem.metadata m p, w) :=
  LeafAt.metadata_eq h p

theorem run_readDir (p : Str) : (leafFS i).readDir p w = (Mem.readDir m p, w) :=
  LeafAt.readDir_eq h p

theorem run_createDir (p : Str) :
    (leafFS i).createDir p w = ((Mem.createDir m p).1, w.setLeafFiles i (Mem.createDir m p).2) :=
  LeafAt.createDir_eq h p

theorem run_removeFile (p : Str) :
    (leafFS i).removeFile p w = ((Mem.removeFile m p).1, w.setLeafFiles i (Mem.removeFile m p).2) :=
  LeafAt.removeFile_eq h p

theorem run_removeDir (p : Str) :
    (leafFS i).removeDir p w = ((Mem.removeDir m p).1, w.setLeafFiles i (Mem.removeDir m p).2) :=
  LeafAt.removeDir_eq h p

theorem run_openFile (p : Str) :
    (leafFS i).openFile p w = ((Mem.openFile m p).1, w.setLeafFiles i (Mem.openFile m p).2) :=
  LeafAt.openFile_eq h p

theorem run_setCreationTime (p : Str) (t : Int) :
    (leafFS i).setCreationTime p t w =
      ((Mem.setCreated m p (.at t)).1, w.setLeafFiles i (Mem.setCreated m p (.at t)).2) := by
  show onLeaf i _ w = _
  rw [onLeaf_run h]

theorem run_setModificationTime (p : Str) (t : Int) :
    (leafFS i).setModificationTime p t w =
      ((Mem.setModified m p (.at t)).1, w.setLeafFiles i (Mem.setModified m p (.at t)).2) := by
  show onLeaf i _ w = _
  rw [onLeaf_run h]

theorem run_setAccessTime (p : Str) (t : Int) :
    (leafFS i).setAccessTime p t w =
      ((Mem.setAccessed m p (.at t)).1, w.setLeafFiles i (Mem.setAccessed m p (.at t)).2) := by
  show onLeaf i _ w = _
  rw [onLeaf_run h]

theorem run_createFile (p : Str) :
    (leafFS i).createFile p w =
      ((Mem.createFile m p).1.map (fun _ => ({ leaf := i, key := p, kind := .memFile, buf := [], pos := 0 } : WHandle)),
        w.setLeafFiles i (Mem.createFile m p).2) :=
  LeafAt.createFile_eq h p

theorem run_appendFile (p : Str) :
    (leafFS i).appendFile p w =
      ((Mem.appendFile m p).map (fun b => ({ leaf := i, key := p, kind := .memFile, buf := b, pos := b.length } : WHandle)), w) :=
  LeafAt.appendFile_eq h p

theorem run_vmetadata (x : VPath) (hx : x.fs = leafFS i) :
    x.metadata w = ((Mem.metadata m x.path).withPath x.path, w) :=
  VPath.metadata_of_call (by rw [hx]; exact run_metadata h _)

theorem run_vreadDir (x : VPath) (hx : x.fs = leafFS i) :
    x.readDir w = (((Mem.readDir m x.path).withPath x.path).map
      (fun names => names.map (fun n => x.withStr (x.path ++ '/' :: n))), w) :=
  VPath.readDir_of_call (by rw [hx]; exact run_readDir h _)

theorem run_vmetadata_of_find (id : Nat) (p : Str) (e : Entry) (he : m.find? p = some e) :
    VPath.metadata { fs := leafFS i, fsId := id, path := p } w = (.ok e.meta, w) := by
  rw [run_vmetadata h _ rfl]
  simp only [Mem.metadata, he, Res.withPath]

/-- `get_parent` on a memory leaf -/
theorem run_getParent (id : Nat) (p : Str) :
    (VPath.getParent { fs := leafFS i, fsId := id, path := p }) w =
      (if Mem.parentOk m p then .ok () else .err .other (some p), w) :=
  VPath.getParent_of_map (x := ⟨leafFS i, id, p⟩) (run_exists h _)
    fun e he => run_vmetadata_of_find h id _ e he

theorem run_pCreateDir (id : Nat) (p : Str) :
    (VPath.createDir { fs := leafFS i, fsId := id, path := p }) w =
      ((Mem.pCreateDir m p).1, w.setLeafFiles i (Mem.pCreateDir m p).2) := by
  unfold VPath.createDir Mem.pCreateDir
  simp only [bind, M.bind, run_getParent h]
  by_cases hp : Mem.parentOk m p = true
  · simp only [hp, ↓reduceIte, M.withPath, run_createDir h]
  · simp only [hp, Bool.false_eq_true, ↓reduceIte, h.same]

/-- `get_parent` adds nothing over a memory leaf (`ensure_has_parent`, under the lock, asks for
more): `create_dir` and `create_file` of the path layer are the leaf's methods, relabelled -/
theorem run_vcreateDir (id : Nat) (p : Str) :
    VPath.createDir { fs := leafFS i, fsId := id, path := p } w =
      (((leafFS i).createDir p w).1.withPath p, ((leafFS i).createDir p w).2) := by
  rw [run_pCreateDir h, run_createDir h, Mem.pCreateDir_eq, Mem.createDir_eq]
  rfl

theorem run_vcreateFile (id : Nat) (p : Str) :
    VPath.createFile { fs := leafFS i, fsId := id, path := p } w =
      (((leafFS i).createFile p w).1.withPath p, ((leafFS i).createFile p w).2) := by
  by_cases hp : Mem.parentOk m p = true
  · exact VPath.createFile_of_calls (p := ⟨leafFS i, id, p⟩) (by rw [run_getParent h, if_pos hp]) rfl
  · have hpar : Mem.par m p = false := Bool.eq_false_iff.2 fun h0 => hp (Mem.parentOk_of_par h0)
    rw [VPath.createFile, bind_run_err (show VPath.getParent _ w = (.err .other (some p), w) by
      rw [run_getParent h, if_neg hp]), run_createFile h, Mem.createFile_eq, hpar]
    simp [Mem.createFileS, onSlot, Write.app, fail, Res.map, Res.withPath, h.same]

theorem run_pRemoveFile (id : Nat) (p : Str) :
    (VPath.removeFile { fs := leafFS i, fsId := id, path := p }) w =
      ((Mem.pRemoveFile m p).1, w.setLeafFiles i (Mem.pRemoveFile m p).2) :=
  VPath.removeFile_of_call (p := ⟨leafFS i, id, p⟩) (run_removeFile h p)

theorem run_pRemoveDir (id : Nat) (p : Str) :
    (VPath.removeDir { fs := leafFS i, fsId := id, path := p }) w =
      ((Mem.pRemoveDir m p).1, w.setLeafFiles i (Mem.pRemoveDir m p).2) :=
  VPath.removeDir_of_call (p := ⟨leafFS i, id, p⟩) (run_removeDir h p)

/-- dropping (or flushing) an in-memory write handle publishes its buffer -/
theorem run_dropMem (key : Str) (buf : Bytes) (pos : Nat) :
    WHandle.drop { leaf := i, key := key, kind := .memFile, buf := buf, pos := pos } w
      = (.ok (), w.setLeafFiles i (memPublish m key buf)) := by
  simp only [WHandle.drop, WHandle.flush, h.leaf?]

/-- `write_all(bs)`, drop on an in-memory write handle -/
theorem run_writeAllAndDrop (key : Str) (buf : Bytes) (pos : Nat) (bs : Bytes) :
    WHandle.writeAllAndDrop { leaf := i, key := key, kind := .memFile, buf := buf, pos := pos } bs w
      = (.ok (), w.setLeafFiles i (memPublish m key (cursorWrite buf pos bs))) := by
  simp only [WHandle.writeAllAndDrop, bind, M.bind, WHandle.write, run_dropMem h]

/-- `create_file()?.write_all(bs)`, drop — one write session -/
theorem run_pWrite (id : Nat) (p : Str) (bs : Bytes) :
    (do let hd ← VPath.createFile { fs := leafFS i, fsId := id, path := p }
        hd.writeAllAndDrop bs : M Unit) w =
      ((Mem.pWrite m p bs).1, w.setLeafFiles i (Mem.pWrite m p bs).2) := by
  unfold VPath.createFile Mem.pWrite
  simp only [bind, M.bind, run_getParent h]
  by_cases hp : Mem.parentOk m p = true
  · simp only [hp, ↓reduceIte, M.withPath, run_createFile h]
    cases hc : Mem.createFile m p with
    | mk r m' =>
      cases r with
      | ok u =>
        simp only [Res.map, Res.withPath, run_writeAllAndDrop (h.set m'), World.setLeafFiles_twice]
      | err k pth => simp [Res.map, Res.withPath]
      | panic => simp [Res.map, Res.withPath]
  · simp only [hp, Bool.false_eq_true, ↓reduceIte, h.same]

/-- `append_file()?.write_all(bs)`, drop -/
theorem run_pAppend (id : Nat) (p : Str) (bs : Bytes) :
    (do let hd ← VPath.appendFile { fs := leafFS i, fsId := id, path := p }
        hd.writeAllAndDrop bs : M Unit) w =
      ((Mem.pAppend m p bs).1, w.setLeafFiles i (Mem.pAppend m p bs).2) := by
  unfold VPath.appendFile Mem.pAppend
  simp only [bind, M.bind, M.withPath, run_appendFile h]
  cases hc : Mem.appendFile m p with
  | ok old =>
    simp only [Res.map, Res.withPath, run_writeAllAndDrop h]
  | err k pth => simp [Res.map, Res.withPath, h.same]
  | panic => simp [Res.map, Res.withPath, h.same]

end run

theorem run_copyFile_mem {w : World} {i : Nat} {m : FMap} (h : MemLeafAt w i m) (s d : Str) :
    (leafFS i).copyFile s d w = (fail .notSupported, w) := by
  show onLeaf i _ w = _
  rw [onLeaf_run h]; simp [h.same]

theorem run_createDirAllLoop {w : World} {i : Nat} {m : FMap} (h : MemLeafAt w i m) (id : Nat)
    (q : Str) (ds : List Str) :
    VPath.createDirAllLoop { fs := leafFS i, fsId := id, path := q } ds w =
      ((Mem.mkdirs m ds).1, w.setLeafFiles i (Mem.mkdirs m ds).2) := by
  induction ds generalizing w m with
  | nil => simp [VPath.createDirAllLoop, Mem.mkdirs, h.same, Pure.pure, M.pure]
  | cons d rest ih =>
    unfold VPath.createDirAllLoop Mem.mkdirs
    simp only [run_createDir h]
    cases hc : Mem.createDir m d with
    | mk r m' =>
      have h' := h.set m'
      cases r with
      | ok a => simp only [ih h', World.setLeafFiles_twice]
      | err k pth =>
        cases k <;> simp only [ih h', World.setLeafFiles_twice]
      | panic => rfl

theorem MemLeafAt.set_ne {w : World} {i j : Nat} {m : FMap} (h : MemLeafAt w j m) (hij : i ≠ j)
    (f : FMap) : MemLeafAt (w.setLeafFiles i f) j m := by
  unfold MemLeafAt at *
  rw [World.leaf?_setLeafFiles_ne w i j f hij]; exact h

theorem MemLeafAt.unique {w : World} {i : Nat} {a b : FMap} (ha : MemLeafAt w i a)
    (hb : MemLeafAt w i b) : a = b := by
  unfold MemLeafAt at ha hb
  rw [ha] at hb; injection hb with hb; injection hb

namespace C11

/-- `remove_dir_all` by structural recursion (the kernel can evaluate this one; the model's
`removeDirAll` is a mutual definition) -/
def rmChildrenK (rec : VPath → M Unit) : List VPath → M Unit
  | [] => pure ()
  | c :: rest => do
    let md ← c.metadata
    match md.ftype with
    | .file => c.removeFile
    | .dir => rec c
    rmChildrenK rec rest

def rmAllK : Nat → VPath → M Unit
  | 0, _ => M.ret .panic
  | fuel + 1, p => do
    if !(← p.exists_) then pure ()
    else
      let children ← p.readDir
      rmChildrenK (rmAllK fuel) children
      p.removeDir

theorem rmChildrenK_eq (fuel : Nat) (h : ∀ p, rmAllK fuel p = VPath.removeDirAll fuel p) :
    ∀ l, rmChildrenK (rmAllK fuel) l = VPath.removeChildren fuel l := by
  intro l
  induction l with
  | nil => rw [VPath.removeChildren.eq_1]; rfl
  | cons c rest ih =>
    rw [VPath.removeChildren.eq_2, rmChildrenK, ih, h c]
    rfl

theorem rmAllK_eq : ∀ fuel p, rmAllK fuel p = VPath.removeDirAll fuel p := by
  intro fuel
  induction fuel with
  | zero => intro p; rw [VPath.removeDirAll.eq_1]; rfl
  | succ fuel ih =>
    intro p
    rw [VPath.removeDirAll.eq_2, rmAllK]
    have := rmChildrenK_eq fuel ih
    simp only [this]

/-- `move_dir` with `rmAllK` for its `remove_dir_all` -/
def moveDirK (fuel : Nat) (src dst : VPath) : M Unit :=
  M.withPath src.path (do
    if (← dst.exists_) then M.failAt .other dst.path
    else
      let fast ← (if src.fsId = dst.fsId then M.attempt (src.fs.moveDir src.path dst.path)
                  else pure (fail .notSupported))
      match fast with
      | .ok _ => pure ()
      | .panic => M.ret .panic
      | .err k p =>
        if k ≠ .notSupported then M.ret (.err k p)
        else
          dst.createDir
          let s ← src.walkDir
          let _ ← VPath.copyItems fuel src dst s 0
          rmAllK fuel src)

theorem moveDirK_eq (fuel : Nat) (src dst : VPath) :
    moveDirK fuel src dst = VPath.moveDir fuel src dst := by
  unfold moveDirK VPath.moveDir
  simp only [rmAllK_eq]
  rfl

end C11

section altroot
variable {w : World} {i : Nat} {m : FMap} (h : MemLeafAt w i m) {idr : Nat} {r k' kk : Str}
  (hq : Altroot.path { fs := leafFS i, fsId := idr, path := r } k' =
    .ok { fs := leafFS i, fsId := idr, path := kk })
include h hq

/-- the observers of an altroot over a memory leaf, at a path `k'` that it translates to `kk`: they
look at `kk` of the leaf and change nothing -/
theorem run_exists_altroot :
    (Altroot.fs { fs := leafFS i, fsId := idr, path := r }).exists_ k' w = (.ok (m.contains kk), w) := by
  simp only [Altroot.fs, hq]
  exact run_exists h kk

theorem run_metadata_altroot :
    (Altroot.fs { fs := leafFS i, fsId := idr, path := r }).metadata k' w =
      ((Mem.metadata m kk).withPath kk, w) := by
  show (M.ret (Altroot.path _ k') >>= fun q => q.metadata) w = _
  rw [hq]
  exact run_vmetadata h ⟨leafFS i, idr, kk⟩ rfl

end altroot

/-- the parent probe (`get_parent`) through an altroot over a memory leaf, for a path `k'` whose
parent the altroot translates to the parent of `kk`: it looks at the leaf and changes nothing -/
theorem run_getParent_altroot {w : World} {i : Nat} {m : FMap} (h : MemLeafAt w i m) (idr ida : Nat)
    (r k' kk : Str)
    (hqp : Altroot.path { fs := leafFS i, fsId := idr, path := r } (parentInternal k') =
      .ok { fs := leafFS i, fsId := idr, path := parentInternal kk }) :
    VPath.getParent { fs := Altroot.fs { fs := leafFS i, fsId := idr, path := r }, fsId := ida,
                      path := k' } w =
      (if Mem.parentOk m kk then .ok () else .err .other (some k'), w) :=
  VPath.getParent_of_map
    (x := ⟨Altroot.fs { fs := leafFS i, fsId := idr, path := r }, ida, k'⟩)
    (run_exists_altroot h hqp) fun e he => by
      rw [VPath.metadata_of_call (run_metadata_altroot h hqp)]
      simp only [Mem.metadata, he, Res.withPath]

end Vfs
