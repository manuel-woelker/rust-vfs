/-
  The five mutators through an overlay over n in-memory layers as the user calls them (`vstep`:
  `VfsPath::create_dir`, a write session, an append session, `VfsPath::remove_file`,
  `VfsPath::remove_dir` on `⟨Overlay.fs (layersN …), id, p⟩`) against the trait-level calls and
  the operation contract of Props/C09Contract.lean: `vstep_eq_ostep`, `vstep_err_path`,
  `vpath_overlay_contractN` and the per-operation forms. The statements of Props/C01Overlay.lean
  for one call; the histories, the examples and the audit are there.
-/
import VfsModel.Props.C09Contract
namespace Vfs.C01
open Vfs Vfs.Overlay Vfs.C02 Vfs.C09

/-- one call of a mutator as the user issues it, through the `VfsPath` layer, on the path
`⟨fs, id, p⟩`; a write session is `create_file`, `write_all`, drop; an append session is
`append_file`, `write_all`, drop -/
def vstep (fs : FS) (id : Nat) : Mut → M Unit
  | .createDir p => VPath.createDir ⟨fs, id, p⟩
  | .write p bs => do let hd ← VPath.createFile ⟨fs, id, p⟩; hd.writeAllAndDrop bs
  | .append p bs => do let hd ← VPath.appendFile ⟨fs, id, p⟩; hd.writeAllAndDrop bs
  | .removeFile p => VPath.removeFile ⟨fs, id, p⟩
  | .removeDir p => VPath.removeDir ⟨fs, id, p⟩

theorem withPath_isOk {α} (p : Str) (r : Res α) : (r.withPath p).isOk = r.isOk := by
  cases r <;> rfl
theorem withPath_kind {α} (p : Str) (r : Res α) : (r.withPath p).kind? = r.kind? := by
  cases r <;> rfl
theorem withPath_errPath {α} (p : Str) (r : Res α) {k : ErrKind} {pth : Option Str}
    (h : r.withPath p = .err k pth) : pth = some p := by
  cases r <;> simp [Res.withPath] at h
  exact h.2.symm

theorem _root_.Vfs.C09.VContract.withPath {v v' : View} {op : Mut} {r : Res Unit} (p : Str)
    (h : VContract v op r v') : VContract v op (r.withPath p) v' where
  ok_iff := by rw [withPath_isOk]; exact h.ok_iff
  effect := by rw [withPath_isOk]; exact h.effect
  unchanged := by rw [withPath_isOk]; exact h.unchanged
  missing := by rw [withPath_kind]; exact h.missing
  occupied := by rw [withPath_kind]; exact h.occupied
  no_panic := fun hp => h.no_panic ((Res.withPath_panic p r).1 hp)

theorem _root_.Vfs.C09.VContract.congr {v v' : View} {op : Mut} {r r' : Res Unit} (h : VContract v op r v')
    (hok : r'.isOk = r.isOk) (hk : r'.kind? = r.kind?) (hp : r' = .panic → r = .panic) :
    VContract v op r' v' where
  ok_iff := by rw [hok]; exact h.ok_iff
  effect := by rw [hok]; exact h.effect
  unchanged := by rw [hok]; exact h.unchanged
  missing := by rw [hk]; exact h.missing
  occupied := by rw [hk]; exact h.occupied
  no_panic := fun h0 => h.no_panic (hp h0)

theorem run_withPath {α} (p : Str) (m : M α) (w : World) :
    M.withPath p m w = ((m w).1.withPath p, (m w).2) := M.withPath_run p m w

section settingN
variable {w : World} {u idu : Nat} {mu : FMap} {is ids : List Nat} {ms : List FMap}
  (h : OWN w (u :: is) (idu :: ids) (mu :: ms)) (inv : OInv mu ms)
  {ds : List Str} {n : Str} (hp : OpPath (ds ++ [n])) (id : Nat)
include h inv hp

/-- **the parent probe** (`get_parent`) of a user-level `create_dir` / `create_file` through the
overlay: the world is unchanged; it passes exactly when the parent is a directory of the view,
and otherwise fails with `Other` labelled with the caller's path -/
theorem run_getParent_overlay :
    VPath.getParent ⟨Overlay.fs (layersN (u :: is) (idu :: ids)), id, renderC (ds ++ [n])⟩ w
      = (if pIsDirN (mu :: ms) (renderC ds) then .ok ()
         else .err .other (some (renderC (ds ++ [n]))), w) :=
  run_getParent_overlayN h id ds n hp.hds hp.hn inv.root

end settingN

section settingN2
variable {w : World} {u idu : Nat} {mu : FMap} {is ids : List Nat} {ms : List FMap}
  (h : OWN w (u :: is) (idu :: ids) (mu :: ms)) (inv : OInv mu ms)
  (hv : ViewWF (oview (mu :: ms))) {ds : List Str} {n : Str} (hp : OpPath (ds ++ [n])) (id : Nat)
include h inv hv hp

omit inv hv in
theorem owrite_session_ok (bs : Bytes) (a : WHandle) (w1 : World)
    (hopen : Overlay.createFile (layersN (u :: is) (idu :: ids)) (renderC (ds ++ [n])) w
      = (.ok a, w1)) : (a.writeAllAndDrop bs w1).1 = .ok () := by
  rw [run_ocreateFileN h _ hp.ne hp.good] at hopen
  have h2 := h.setHead (pCreateFileN mu ms (ds ++ [n])).2
  cases hr : (pCreateFileN mu ms (ds ++ [n])).1 with
  | ok x =>
    rw [hr] at hopen
    simp only [Res.map, Prod.mk.injEq, Res.ok.injEq] at hopen
    obtain ⟨rfl, rfl⟩ := hopen
    rw [run_writeAllAndDrop h2.hu]
  | err k pth => rw [hr] at hopen; simp [Res.map] at hopen
  | panic => rw [hr] at hopen; simp [Res.map] at hopen

theorem oappend_session_ok (bs : Bytes) (a : WHandle) (w1 : World)
    (hopen : Overlay.appendFile (layersN (u :: is) (idu :: ids)) (renderC (ds ++ [n])) w
      = (.ok a, w1)) : (a.writeAllAndDrop bs w1).1 = .ok () := by
  obtain ⟨ro, w1', mu1, ms1, hrun, hown1, _, _, _, hok, _, _⟩ := oappend_open h inv hv hp
  rw [hrun] at hopen
  injection hopen with hro hw
  subst hro hw
  obtain ⟨e0, _, rfl, _⟩ := hok a rfl
  rw [run_writeAllAndDrop hown1.hu]

omit inv hv in
theorem ocreateDir_noparent (hd : ¬ VIsDir (oview (mu :: ms)) (renderC ds)) :
    Overlay.createDir (layersN (u :: is) (idu :: ids)) (renderC (ds ++ [n])) w
      = (.err .other none, w) := by
  rw [run_ocreateDirN h _ hp.ne hp.good,
    pCreateDirN_no_parent (by rw [List.dropLast_concat]; exact ensure_fail hd), h.hu.same]

theorem ocreateFile_noparent (hd : ¬ VIsDir (oview (mu :: ms)) (renderC ds)) :
    Overlay.createFile (layersN (u :: is) (idu :: ids)) (renderC (ds ++ [n])) w
      = (.err .other none, w) := by
  rw [run_ocreateFileN h _ hp.ne hp.good, (pCreateFileN_cases inv hv hp).1 hd, h.hu.same]
  rfl

/-- **the two levels agree, exactly.** In the setting of `overlay_contractN`, the user-level
call through `VfsPath` is the trait-level call with the error (if any) relabelled with the
caller's path: same final world, same success / error kind / panic. The parent probe of
`create_dir` / `create_file` changes nothing and never decides differently from
`ensure_has_parent`. -/
theorem vstep_eq_ostep_path (op : Mut) (hop : op.path = renderC (ds ++ [n])) :
    vstep (Overlay.fs (layersN (u :: is) (idu :: ids))) id op w =
      ((ostep (Overlay.fs (layersN (u :: is) (idu :: ids))) op w).1.withPath op.path,
       (ostep (Overlay.fs (layersN (u :: is) (idu :: ids))) op w).2) := by
  have hg := run_getParent_overlay h inv hp id
  cases op with
  | createDir p =>
    simp only [Mut.path] at hop; subst hop
    by_cases hd : VIsDir (oview (mu :: ms)) (renderC ds)
    · rw [if_pos ((pIsDirN_iff _ _).2 hd)] at hg
      simp only [vstep, ostep, VPath.createDir, bind, M.bind, hg, Mut.path]
      rfl
    · rw [if_neg (fun h0 => hd ((pIsDirN_iff _ _).1 h0))] at hg
      have ho : (Overlay.fs (layersN (u :: is) (idu :: ids))).createDir (renderC (ds ++ [n])) w
          = (.err .other none, w) := ocreateDir_noparent h hp hd
      simp only [vstep, ostep, VPath.createDir, bind, M.bind, hg, Mut.path, ho]
      rfl
  | write p bs =>
    simp only [Mut.path] at hop; subst hop
    by_cases hd : VIsDir (oview (mu :: ms)) (renderC ds)
    · rw [if_pos ((pIsDirN_iff _ _).2 hd)] at hg
      have key := run_session_withPath (renderC (ds ++ [n]))
        ((Overlay.fs (layersN (u :: is) (idu :: ids))).createFile (renderC (ds ++ [n])))
        (fun hd => hd.writeAllAndDrop bs) w
        (fun a w1 ha => by rw [owrite_session_ok h hp bs a w1 ha]; rfl)
      simp only [vstep, ostep, VPath.createFile, bind, M.bind, hg, Mut.path] at key ⊢
      exact key
    · rw [if_neg (fun h0 => hd ((pIsDirN_iff _ _).1 h0))] at hg
      have ho : (Overlay.fs (layersN (u :: is) (idu :: ids))).createFile (renderC (ds ++ [n])) w
          = (.err .other none, w) := ocreateFile_noparent h inv hv hp hd
      simp only [vstep, ostep, VPath.createFile, bind, M.bind, hg, Mut.path, ho]
      rfl
  | append p bs =>
    simp only [Mut.path] at hop; subst hop
    have key := run_session_withPath (renderC (ds ++ [n]))
      ((Overlay.fs (layersN (u :: is) (idu :: ids))).appendFile (renderC (ds ++ [n])))
      (fun hd => hd.writeAllAndDrop bs) w
      (fun a w1 ha => by rw [oappend_session_ok h inv hv hp bs a w1 ha]; rfl)
    simp only [vstep, ostep, VPath.appendFile, bind, M.bind, Mut.path] at key ⊢
    exact key
  | removeFile p => rfl
  | removeDir p => rfl

end settingN2

section bundle
variable {w : World} {u idu : Nat} {mu : FMap} {is ids : List Nat} {ms : List FMap}
  (h : OWN w (u :: is) (idu :: ids) (mu :: ms)) (inv : OInv mu ms)
  (hv : ViewWF (oview (mu :: ms)))
include h inv hv

/-- `vstep_eq_ostep_path` for any disciplined operation -/
theorem vstep_eq_ostep (id : Nat) (op : Mut) (hop : OpOK op) :
    vstep (Overlay.fs (layersN (u :: is) (idu :: ids))) id op w =
      ((ostep (Overlay.fs (layersN (u :: is) (idu :: ids))) op w).1.withPath op.path,
       (ostep (Overlay.fs (layersN (u :: is) (idu :: ids))) op w).2) := by
  obtain ⟨ds, n, hp, hpath⟩ := hop
  exact vstep_eq_ostep_path h inv hv hp id op hpath

/-- a failed user-level call carries exactly the caller's path -/
theorem vstep_err_path (id : Nat) (op : Mut) (hop : OpOK op) {k : ErrKind} {pth : Option Str}
    (he : (vstep (Overlay.fs (layersN (u :: is) (idu :: ids))) id op w).1 = .err k pth) :
    pth = some op.path := by
  rw [vstep_eq_ostep h inv hv id op hop] at he
  exact withPath_errPath _ _ he

/-- **vpath_overlay_contractN.** In the n-layer setting, with the hidden state in order
(`OInv`) and a well-formed view (`ViewWF`), EVERY mutator on a disciplined path (`OpOK`;
`remove_file` not on a directory of the view: `O3Free`) CALLED THROUGH THE `VfsPath` LAYER on the
overlay (`vstep`: `create_dir`, write session, append session, `remove_file`, `remove_dir` on
`⟨Overlay.fs (layersN …), id, p⟩`, any `id`)
* leaves a world that is again in the setting, with the lower maps unchanged (append: up to the
  access stamp of the copied entry), hidden state in order and view well-formed again,
* obeys the operation contract `VContract` relative to the n-layer view — exactly as
  `C09.overlay_contractN` states it for the trait level: the parent probe of the `VfsPath` layer
  changes neither the outcome class nor the effect,
* its outcome is the trait-level outcome relabelled, with the SAME final world, and
* a failure carries the caller's path. -/
theorem vpath_overlay_contractN (id : Nat) (op : Mut) (hop : OpOK op)
    (hdisc : O3Free (oview (mu :: ms)) op) :
    ∃ r w' mu' ms',
      vstep (Overlay.fs (layersN (u :: is) (idu :: ids))) id op w = (r, w') ∧
      OWN w' (u :: is) (idu :: ids) (mu' :: ms') ∧ LowerSame ms ms' ∧
      ((∀ p bs, op ≠ .append p bs) → ms' = ms) ∧
      OInv mu' ms' ∧ ViewWF (oview (mu' :: ms')) ∧
      VContract (oview (mu :: ms)) op r (oview (mu' :: ms')) ∧
      (∀ k pth, r = .err k pth → pth = some op.path) ∧
      (∃ r0, ostep (Overlay.fs (layersN (u :: is) (idu :: ids))) op w = (r0, w') ∧
        r = r0.withPath op.path) := by
  obtain ⟨r0, w', mu', ms', hrun, hown, hls, hms, inv', hv', hc⟩ :=
    overlay_contractN h inv hv op hop hdisc
  refine ⟨r0.withPath op.path, w', mu', ms', ?_, hown, hls, hms, inv', hv', hc.withPath _,
    fun k pth he => withPath_errPath _ _ he, r0, hrun, rfl⟩
  rw [vstep_eq_ostep h inv hv id op hop, hrun]

end bundle

section perOp
variable {w : World} {u idu : Nat} {mu : FMap} {is ids : List Nat} {ms : List FMap}
  (h : OWN w (u :: is) (idu :: ids) (mu :: ms)) (inv : OInv mu ms)
  (hv : ViewWF (oview (mu :: ms))) {ds : List Str} {n : Str} (hp : OpPath (ds ++ [n])) (id : Nat)
include h inv hv hp

theorem vstep_of_ostep {op : Mut} (hop : op.path = renderC (ds ++ [n])) {r : Res Unit} {w' : World}
    (hrun : ostep (Overlay.fs (layersN (u :: is) (idu :: ids))) op w = (r, w')) :
    vstep (Overlay.fs (layersN (u :: is) (idu :: ids))) id op w
      = (r.withPath (renderC (ds ++ [n])), w') := by
  rw [vstep_eq_ostep_path h inv hv hp id op hop, hrun, hop]

theorem vpath_overlay_createDir_contractN :
    ∃ r mu', VPath.createDir ⟨Overlay.fs (layersN (u :: is) (idu :: ids)), id, renderC (ds ++ [n])⟩ w
        = (r, w.setLeafFiles u mu') ∧
      OWN (w.setLeafFiles u mu') (u :: is) (idu :: ids) (mu' :: ms) ∧ OInv mu' ms ∧
      VContract (oview (mu :: ms)) (.createDir (renderC (ds ++ [n]))) r (oview (mu' :: ms)) := by
  obtain ⟨r, mu', hrun, hown, inv', hc⟩ := overlay_createDir_contractN h inv hv hp
  exact ⟨_, mu', vstep_of_ostep h inv hv hp id (op := .createDir (renderC (ds ++ [n]))) rfl hrun,
    hown, inv', hc.withPath _⟩

theorem vpath_overlay_write_contractN (bs : Bytes) :
    ∃ r mu', (VPath.createFile ⟨Overlay.fs (layersN (u :: is) (idu :: ids)), id, renderC (ds ++ [n])⟩
        >>= fun hd => hd.writeAllAndDrop bs : M Unit) w = (r, w.setLeafFiles u mu') ∧
      OWN (w.setLeafFiles u mu') (u :: is) (idu :: ids) (mu' :: ms) ∧ OInv mu' ms ∧
      VContract (oview (mu :: ms)) (.write (renderC (ds ++ [n])) bs) r (oview (mu' :: ms)) := by
  obtain ⟨r, mu', hrun, hown, inv', hc⟩ := overlay_write_contractN h inv hv hp bs
  exact ⟨_, mu', vstep_of_ostep h inv hv hp id (op := .write (renderC (ds ++ [n])) bs) rfl hrun,
    hown, inv', hc.withPath _⟩

theorem vpath_overlay_append_contractN (bs : Bytes) :
    ∃ r w' mu' ms',
      (VPath.appendFile ⟨Overlay.fs (layersN (u :: is) (idu :: ids)), id, renderC (ds ++ [n])⟩
        >>= fun hd => hd.writeAllAndDrop bs : M Unit) w = (r, w') ∧
      OWN w' (u :: is) (idu :: ids) (mu' :: ms') ∧ LowerSame ms ms' ∧ OInv mu' ms' ∧
      VContract (oview (mu :: ms)) (.append (renderC (ds ++ [n])) bs) r (oview (mu' :: ms')) := by
  obtain ⟨r, w', mu', ms', hrun, hown, hls, inv', hc⟩ := overlay_append_contractN h inv hv hp bs
  exact ⟨_, w', mu', ms',
    vstep_of_ostep h inv hv hp id (op := .append (renderC (ds ++ [n])) bs) rfl hrun, hown, hls,
    inv', hc.withPath _⟩

omit hv in
theorem vpath_overlay_removeFile_contractN
    (hnd : ¬ VIsDir (oview (mu :: ms)) (renderC (ds ++ [n]))) :
    ∃ r mu', VPath.removeFile ⟨Overlay.fs (layersN (u :: is) (idu :: ids)), id, renderC (ds ++ [n])⟩ w
        = (r, w.setLeafFiles u mu') ∧
      OWN (w.setLeafFiles u mu') (u :: is) (idu :: ids) (mu' :: ms) ∧ OInv mu' ms ∧
      VContract (oview (mu :: ms)) (.removeFile (renderC (ds ++ [n]))) r (oview (mu' :: ms)) := by
  obtain ⟨r, mu', hrun, hown, inv', hc⟩ := overlay_removeFile_contractN h inv hp hnd
  exact ⟨_, mu', VPath.removeFile_of_call (p := ⟨_, id, _⟩) hrun, hown, inv', hc.withPath _⟩

omit hv in
theorem vpath_overlay_removeDir_contractN :
    ∃ r mu', VPath.removeDir ⟨Overlay.fs (layersN (u :: is) (idu :: ids)), id, renderC (ds ++ [n])⟩ w
        = (r, w.setLeafFiles u mu') ∧
      OWN (w.setLeafFiles u mu') (u :: is) (idu :: ids) (mu' :: ms) ∧ OInv mu' ms ∧
      VContract (oview (mu :: ms)) (.removeDir (renderC (ds ++ [n]))) r (oview (mu' :: ms)) := by
  obtain ⟨r, mu', hrun, hown, inv', hc⟩ := overlay_removeDir_contractN h inv hp
  exact ⟨_, mu', VPath.removeDir_of_call (p := ⟨_, id, _⟩) hrun, hown, inv', hc.withPath _⟩

end perOp

end Vfs.C01
