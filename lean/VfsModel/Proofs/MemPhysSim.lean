/-
The instance of the class calculus (Proofs/ClassSim.lean, Proofs/ClassSimOverlay.lean): memory leaf
left, physical leaf right. `leaf_simW`: from `RCore`-related worlds every observer, every handle-free
mutator and every closed session of the trait over leaf `i` agree in the `CSim`/`KRel` sense, for
EVERY canonical path string (wrong-type targets, missing parents, paths below files).

Write scripts covered: any finite list of `write` calls (empty chunks included; no seeks, no
intermediate `flush`), then drop. In `createClear` the marker path is arbitrary (it may be the file
itself).
-/
import VfsModel.Proofs.ClassSimOverlay
namespace Vfs.C02

structure LeafOK (a b : FMap) : Prop where
  wf : WF a
  core : CoreEq a b
  keys : KeysCanon a

def LeafRel : Option Leaf → Option Leaf → Prop
  | none, none => True
  | some x, some y => x.kind = .mem ∧ y.kind = .phys ∧ LeafOK x.files y.files
  | _, _ => False

/-- the world relation of C02: memory leaves left (well-formed, canonical keys), physical leaves with
the same content right (`CoreEq`: types and bytes; timestamps and storage order aside) -/
structure RCore (w1 w2 : World) : Prop where
  leaf : ∀ i, LeafRel (w1.leaf? i) (w2.leaf? i)
  log : w1.log = w2.log
  fault : w1.fault = w2.fault
  fired : w1.fired = w2.fired

theorem leafwise_rcore :
    Leafwise RCore fun x y => x.kind = .mem ∧ y.kind = .phys ∧ LeafOK x.files y.files where
  look := by
    intro w1 w2 hr i
    have := hr.leaf i
    cases e1 : w1.leaf? i <;> cases e2 : w2.leaf? i <;> rw [e1, e2] at this
    · exact Or.inl ⟨rfl, rfl⟩
    · exact absurd this id
    · exact absurd this id
    · exact Or.inr ⟨_, _, rfl, rfl, this⟩
  set := by
    intro w1 w2 i l1 l2 f1 f2 hr e1 e2 hf
    refine ⟨fun j => ?_, hr.log, hr.fault, hr.fired⟩
    by_cases hj : j = i
    · subst hj
      rw [World.setLeafFiles_same w1 j l1 f1 e1, World.setLeafFiles_same w2 j l2 f2 e2]
      exact hf
    · rw [World.leaf?_setLeafFiles_ne w1 i j f1 (fun h => hj h.symm),
        World.leaf?_setLeafFiles_ne w2 i j f2 (fun h => hj h.symm)]
      exact hr.leaf j

theorem RCore.set {w1 w2 : World} (hr : RCore w1 w2) {i : Nat} {l1 l2 : Leaf}
    (e1 : w1.leaf? i = some l1) (e2 : w2.leaf? i = some l2) {f1 f2 : FMap} (hf : LeafOK f1 f2) :
    RCore (w1.setLeafFiles i f1) (w2.setLeafFiles i f2) := by
  have := hr.leaf i
  rw [e1, e2] at this
  exact leafwise_rcore.set hr e1 e2 ⟨this.1, this.2.1, hf⟩

theorem RCore.at {w1 w2 : World} (hr : RCore w1 w2) (i : Nat) :
    (w1.leaf? i = none ∧ w2.leaf? i = none) ∨
    ∃ a b, w1.leaf? i = some { kind := .mem, files := a } ∧
      w2.leaf? i = some { kind := .phys, files := b } ∧ LeafOK a b := by
  rcases leafwise_rcore.look hr i with h | ⟨⟨k1, a⟩, ⟨k2, b⟩, e1, e2, h1, h2, h3⟩
  · exact Or.inl h
  · simp only at h1 h2 h3
    subst h1 h2
    exact Or.inr ⟨a, b, e1, e2, h3⟩

theorem leaf_sim {α β : Type} {KR : ErrKind → ErrKind → Prop} {Q : α → β → Prop} (i : Nat)
    (f1 : Leaf → Res α × FMap) (f2 : Leaf → Res β × FMap)
    (h : ∀ a b, LeafOK a b →
      CRes KR Q (f1 { kind := .mem, files := a }).1 (f2 { kind := .phys, files := b }).1 ∧
      LeafOK (f1 { kind := .mem, files := a }).2 (f2 { kind := .phys, files := b }).2) :
    CSim RCore KR Q (onLeaf i f1) (onLeaf i f2) :=
  cSim_iff.2 (leafwise_rcore.onLeaf i f1 f2 fun ⟨k1, a⟩ ⟨k2, b⟩ ⟨h1, h2, h3⟩ => by
    simp only at h1 h2 h3
    subst h1 h2
    exact ⟨cRes_iff.1 (h a b h3).1, rfl, rfl, (h a b h3).2⟩)


def readRes (r : Res RHandle) : Res Bytes :=
  match r with
  | .ok h => h.readToEnd.1
  | .err k p => .err k p
  | .panic => .panic

section leaves
variable {a b : FMap} (hab : LeafOK a b) {p : Str} (hp : Canon p)
include hab

omit hp in
theorem wfb : WF b := hab.wf.of_coreEq hab.core

include hp

/-- `lookRel` at a canonical path, the root included: there the entry is the root directory and the
parent check is not asked -/
theorem look :
    ∃ pr, (p ≠ [] → Mem.par a p = pr) ∧ LookRel pr (a.find? p) (b.find? p) (Phys.lookup b p) := by
  by_cases hne : p = []
  · subst hne
    obtain ⟨e, he, _⟩ := hab.wf.1
    obtain ⟨e', he', ht, hcn⟩ := hab.core.some [] e he
    exact ⟨true, fun h => absurd rfl h,
      .present e e' he he' rfl ((wfb hab).lookup_present [] e' he') ht hcn⟩
  · exact ⟨_, fun _ => rfl, lookRel hab.wf hab.core (slash_mem_canon hp hne)⟩

/-- both leaves answer from their tables and rewrite the slot of `p`, the memory one by a write that
fits: related answers and entries with the same content are all there is to show -/
theorem LeafOK.onSlot {α β : Type} {KR : ErrKind → ErrKind → Prop} {Q : α → β → Prop}
    {x : Res α × Write} {y : Res β × Write}
    (hf : x.2.Fits (Mem.par a p) (Mem.kids a p || decide (p = [])) (a.find? p))
    (h : CRes KR Q x.1 y.1 ∧
      (x.2.slot (a.find? p)).map Vfs.core = (y.2.slot (b.find? p)).map Vfs.core) :
    CRes KR Q (Vfs.onSlot a p x).1 (Vfs.onSlot b p y).1 ∧
      LeafOK (Vfs.onSlot a p x).2 (Vfs.onSlot b p y).2 :=
  ⟨h.1, hab.wf.fits hf, hab.core.app h.2, x.2.keysCanon hab.keys hp⟩

theorem exists_rel : a.contains p = Phys.exists_ b p := by
  obtain ⟨_, _, h⟩ := look hab hp
  unfold FMap.contains Phys.exists_
  cases h with
  | present e e' hf _ _ hl => rw [hf, hl]; rfl
  | absent hf _ _ hl => rw [hf, hl]; rfl
  | blocked k hf _ _ hl => rw [hf, hl]; rfl

theorem metadata_rel : CRes KRel MetaRel (Mem.metadata a p) (Phys.metadata b p) := by
  obtain ⟨_, _, h⟩ := look hab hp
  unfold Mem.metadata Phys.metadata
  cases h with
  | present e e' hf _ _ hl ht hcn =>
    rw [hf, hl]
    refine .ok ⟨by simp [Entry.meta, ht], fun hfile => ?_⟩
    simp only [Entry.meta] at hfile
    simp [Entry.meta, ht, hfile, hcn]
  | absent hf _ _ hl => rw [hf, hl]; exact .err (Or.inl rfl)
  | blocked k hf _ _ hl hk => rw [hf, hl]; exact .err (KRel.notFound_host hk)

theorem readDir_rel : CRes KRel NamesSet (Mem.readDir a p) (Phys.readDir b p) := by
  obtain ⟨_, _, h⟩ := look hab hp
  rw [Mem.readDir_eq]
  unfold Phys.readDir
  cases h with
  | present e e' hf _ _ hl ht =>
    rw [hf, hl]
    simp only [ht]
    cases hty : e.ftype
    · exact .err (KRel.soft (Or.inr rfl) (Or.inl rfl))
    · exact .ok ⟨hab.core.mem_children p, readDir_names_good a p hab.keys _ (by simp [Mem.readDir, hf, hty])⟩
  | absent hf _ _ hl => rw [hf, hl]; exact .err (Or.inl rfl)
  | blocked k hf _ _ hl hk => rw [hf, hl]; exact .err (KRel.notFound_host hk)

omit hab hp in
theorem core_same {e e' : Entry} (ht : e'.ftype = e.ftype) (hcn : e'.content = e.content) :
    (some e).map Vfs.core = (some e').map Vfs.core := by
  simp [Vfs.core, ht, hcn]

theorem openFile_ok : LeafOK (Mem.openFile a p).2 b := by
  rw [Mem.openFile_eq]
  refine ⟨hab.wf.fits (Mem.openFileS_fits ..), hab.core.app (wb := .keep) ?_, Write.keysCanon _ hab.keys hp⟩
  cases hf : a.find? p with
  | none => have := hab.core p; rw [hf] at this; exact this
  | some e =>
    obtain ⟨e', he', ht, hcn⟩ := hab.core.some p e hf
    rw [he']
    exact core_same (e := { e with accessed := .now }) ht hcn

theorem readAll_rel :
    CRes KRel (· = ·) (readRes (Mem.openFile a p).1) (readRes (Phys.openFile b p)) := by
  obtain ⟨_, _, h⟩ := look hab hp
  rw [Mem.openFile_eq]
  unfold Phys.openFile Vfs.onSlot
  cases h with
  | present e e' hf _ _ hl ht hcn =>
    simp only [hf, hl, Mem.openFileS, ht]
    cases hty : e.ftype
    · simp [readRes, RHandle.readToEnd, hcn]
      exact .ok rfl
    · simp [readRes, RHandle.readToEnd, fail]
      exact .err (KRel.soft (Or.inr rfl) (Or.inl rfl))
  | absent hf _ _ hl => simp only [hf, hl, Mem.openFileS]; exact .err (Or.inl rfl)
  | blocked k hf _ _ hl hk => simp only [hf, hl, Mem.openFileS]; exact .err (KRel.notFound_host hk)

theorem createDir_rel (hne : p ≠ []) :
    CRes KRel (· = ·) (Mem.createDir a p).1 (Phys.createDir b p).1 ∧
    LeafOK (Mem.createDir a p).2 (Phys.createDir b p).2 := by
  obtain ⟨pr, hpr, h⟩ := look hab hp
  rw [Mem.createDir_eq, Phys.createDir_eq]
  refine hab.onSlot hp (Mem.createDirS_fits ..) ?_
  rw [hpr hne]
  cases h with
  | present e e' hf hfb hr hl ht hcn =>
    simp only [hf, hfb, hr, hl, Mem.createDirS, Phys.createDirS, if_true, ht, Write.slot]
    cases e.ftype
    · exact ⟨.err (Or.inl rfl), core_same ht hcn⟩
    · exact ⟨.err (Or.inl rfl), core_same ht hcn⟩
  | absent hf hfb hr hl =>
    simp only [hf, hr, hl, Mem.createDirS, Phys.createDirS, if_true, Write.slot]
    exact ⟨.ok trivial, trivial⟩
  | blocked k hf hfb hr hl hk =>
    simp only [hf, hfb, hr, hl, Mem.createDirS, Phys.createDirS, Bool.false_eq_true, if_false, Write.slot]
    exact ⟨.err (KRel.other_host hk), trivial⟩

theorem removeFile_rel :
    CRes KRel (· = ·) (Mem.removeFile a p).1 (Phys.removeFile b p).1 ∧
    LeafOK (Mem.removeFile a p).2 (Phys.removeFile b p).2 := by
  obtain ⟨_, _, h⟩ := look hab hp
  rw [Mem.removeFile_eq, Phys.removeFile_eq]
  refine hab.onSlot hp (Mem.removeFileS_fits ..) ?_
  cases h with
  | present e e' hf hfb _ hl ht hcn =>
    simp only [hf, hfb, hl, Mem.removeFileS, Phys.removeFileS, ht]
    cases e.ftype
    · exact ⟨.ok trivial, rfl⟩
    · exact ⟨.err (KRel.soft (Or.inr rfl) (Or.inl rfl)), core_same ht hcn⟩
  | absent hf hfb _ hl => rw [hf, hfb, hl]; exact ⟨.err (Or.inl rfl), rfl⟩
  | blocked k hf hfb _ hl hk => rw [hf, hfb, hl]; exact ⟨.err (KRel.notFound_host hk), rfl⟩

theorem removeDir_rel (hne : p ≠ []) :
    CRes KRel (· = ·) (Mem.removeDir a p).1 (Phys.removeDir b p).1 ∧
    LeafOK (Mem.removeDir a p).2 (Phys.removeDir b p).2 := by
  obtain ⟨_, _, h⟩ := look hab hp
  have hk0 : (Mem.kids a p || decide (p = [])) = Mem.kids a p := by simp [hne]
  rw [Mem.removeDir_eq, Phys.removeDir_eq, hab.core.kids_eq]
  refine hab.onSlot hp (by rw [hk0]; exact Mem.removeDirS_fits ..) ?_
  cases h with
  | present e e' hf hfb _ hl ht hcn =>
    simp only [hf, hfb, hl, Mem.removeDirS, Phys.removeDirS, ht]
    split
    · exact ⟨.err (KRel.soft (Or.inr rfl) (Or.inl rfl)), core_same ht hcn⟩
    · exact ⟨.ok trivial, rfl⟩
  | absent hf hfb _ hl => rw [hf, hfb, hl]; exact ⟨.err (Or.inl rfl), rfl⟩
  | blocked k hf hfb _ hl hk => rw [hf, hfb, hl]; exact ⟨.err (KRel.notFound_host hk), rfl⟩

/-- `create_file`; at the root (a directory) memory answers `Other` through its parent check, the
host `EISDIR` -/
theorem createFile_rel :
    CRes KRel (fun _ _ => True) (Mem.createFile a p).1 (Phys.createFile b p).1 ∧
    LeafOK (Mem.createFile a p).2 (Phys.createFile b p).2 ∧
    ((Mem.createFile a p).1 = .ok () →
      ∃ e, (Mem.createFile a p).2.find? p = some e ∧ e.ftype = .file ∧ e.content = []) := by
  obtain ⟨pr, hpr, h⟩ := look hab hp
  rw [← and_assoc, Mem.createFile_eq, Phys.createFile_eq]
  refine ⟨hab.onSlot hp (Mem.createFileS_fits ..) ?_, fun hok => ?_⟩
  · cases h with
    | present e e' hf hfb hr hl ht hcn =>
      simp only [hf, hfb, hl, Mem.createFileS, Phys.createFileS, ht]
      by_cases hne : p = []
      · subst hne
        obtain ⟨e0, he0, hd⟩ := hab.wf.1
        rw [hf] at he0
        cases he0
        simp only [show Mem.par a [] = false from rfl, hd, Bool.false_eq_true, if_false, if_true]
        exact ⟨.err (KRel.soft (Or.inr rfl) (Or.inl rfl)), core_same ht hcn⟩
      · rw [hpr hne, hr]
        cases hty : e.ftype
        · exact ⟨.ok trivial, by simp [Write.slot, Vfs.core, fileEntryNow]⟩
        · exact ⟨.err (KRel.soft (Or.inr rfl) (Or.inl rfl)), core_same ht hcn⟩
    | absent hf hfb hr hl =>
      simp only [hf, hfb, hpr (hab.wf.ne_nil_of_absent hf), hr, hl, Mem.createFileS, Phys.createFileS, if_true]
      exact ⟨.ok trivial, trivial⟩
    | blocked k hf hfb hr hl hk =>
      simp only [hf, hfb, hpr (hab.wf.ne_nil_of_absent hf), hr, hl, Mem.createFileS, Phys.createFileS,
        Bool.false_eq_true, if_false]
      exact ⟨.err (KRel.other_host hk), trivial⟩
  · rw [Vfs.onSlot, (Mem.createFileS_ok _ _ hok).2.2]
    exact ⟨fileEntryNow, FMap.find?_insert_self a p _, rfl, rfl⟩

end leaves

theorem run_memScript (i : Nat) (p : Str) (buf : Bytes) (s : List Bytes) (w : World) :
    runScript { leaf := i, key := p, kind := .memFile, buf := buf, pos := buf.length } s w =
      (.ok { leaf := i, key := p, kind := .memFile, buf := buf ++ s.flatten,
             pos := (buf ++ s.flatten).length }, w) := by
  induction s generalizing buf with
  | nil => simp [runScript, Pure.pure, M.pure]
  | cons bs rest ih =>
    unfold runScript
    rw [bind_eval, WHandle.write_mem _ rfl]
    simp only [cursorWrite_end]
    have := ih (buf ++ bs)
    simp only [List.length_append, List.append_assoc] at this
    simp only [List.flatten_cons, List.length_append]
    rw [← this]

/-- one `write` on a physical handle, on the entry (`strict`: a zero-length `write(2)` on a
`File::create` handle changes nothing) -/
def stepE (strict : Bool) (e : Entry) (bs : Bytes) : Entry :=
  if strict = true ∧ bs = [] then e else { e with content := e.content ++ bs, modified := .now }

theorem stepE_ftype (strict : Bool) (e : Entry) (bs : Bytes) : (stepE strict e bs).ftype = e.ftype := by
  unfold stepE; split <;> rfl

theorem stepE_content (strict : Bool) (e : Entry) (bs : Bytes) :
    (stepE strict e bs).content = e.content ++ bs := by
  unfold stepE
  split
  · rename_i h; rw [h.2]; simp
  · rfl

def physW (b : FMap) (p : Str) (strict : Bool) : List Bytes → FMap
  | [] => b
  | bs :: rest =>
    physW (match b.find? p with
      | some e => b.insert p (stepE strict e bs)
      | none => b) p strict rest

theorem physW_cons_some {b : FMap} {p : Str} {e : Entry} (hf : b.find? p = some e) (strict : Bool)
    (bs : Bytes) (rest : List Bytes) :
    physW b p strict (bs :: rest) = physW (b.insert p (stepE strict e bs)) p strict rest := by
  simp only [physW, hf]

theorem physW_cons_none {b : FMap} {p : Str} (hf : b.find? p = none) (strict : Bool)
    (bs : Bytes) (rest : List Bytes) :
    physW b p strict (bs :: rest) = physW b p strict rest := by
  simp only [physW, hf]

theorem core_physW (b : FMap) (p : Str) (strict : Bool) (s : List Bytes) (k : Str) :
    ((physW b p strict s).find? k).map core =
      if k = p then (b.find? p).map (fun e => (e.ftype, e.content ++ s.flatten))
      else (b.find? k).map core := by
  induction s generalizing b with
  | nil =>
    simp only [physW, List.flatten_nil, List.append_nil]
    split
    · rename_i h; subst h; rfl
    · rfl
  | cons bs rest ih =>
    cases hf : b.find? p with
    | none =>
      rw [physW_cons_none hf, ih, hf]
      simp only [Option.map_none]
    | some e =>
      rw [physW_cons_some hf, ih]
      by_cases hk : k = p
      · simp only [hk, if_true, FMap.find?_insert_self, Option.map_some, stepE_ftype, stepE_content,
          List.flatten_cons, List.append_assoc]
      · simp only [hk, if_false]
        rw [FMap.find?_insert_ne _ _ _ _ hk]

/-- the handle of `create_file` (`strict`) or of `append_file` on a physical leaf -/
def physK (strict : Bool) : WKind := if strict then .physCreate else .physAppend

/-- a script on a physical handle: `create_file`'s writes at its position, which stays the end of the
file (`hn`); `append_file`'s at the end wherever it stands -/
theorem run_phys (strict : Bool) (i : Nat) (p : Str) (s : List Bytes) (w : World) (b : FMap) (n : Nat)
    (buf0 : Bytes) (hl : w.leaf? i = some { kind := .phys, files := b })
    (hn : strict = true → ∀ e, b.find? p = some e → e.content.length = n) :
    ∃ h', runScript { leaf := i, key := p, kind := physK strict, buf := buf0, pos := n } s w =
      (.ok h', w.setLeafFiles i (physW b p strict s)) ∧ h'.kind = physK strict := by
  induction s generalizing w b n with
  | nil =>
    refine ⟨{ leaf := i, key := p, kind := physK strict, buf := buf0, pos := n }, ?_, rfl⟩
    simp only [runScript, physW, Pure.pure, M.pure]
    rw [World.setLeafFiles_self w i _ hl]
  | cons bs rest ih =>
    unfold runScript
    rw [bind_eval]
    cases hf : b.find? p with
    | none =>
      obtain ⟨n', hw⟩ : ∃ n', WHandle.write
          { leaf := i, key := p, kind := physK strict, buf := buf0, pos := n } bs w =
          (.ok (bs.length, { leaf := i, key := p, kind := physK strict, buf := buf0, pos := n' }), w) := by
        cases strict
        · exact ⟨n, by simp [WHandle.write, physK, hl, hf]⟩
        · exact ⟨n + bs.length, by simp [WHandle.write, physK, hl, hf]⟩
      rw [hw, physW_cons_none hf]
      exact ih w b n' hl (fun _ e he => by rw [hf] at he; cases he)
    | some e =>
      obtain ⟨n', hw, hn'⟩ : ∃ n', WHandle.write
          { leaf := i, key := p, kind := physK strict, buf := buf0, pos := n } bs w =
          (.ok (bs.length, { leaf := i, key := p, kind := physK strict, buf := buf0, pos := n' }),
            w.setLeafFiles i (b.insert p (stepE strict e bs))) ∧
          (strict = true → (stepE strict e bs).content.length = n') := by
        cases strict
        · exact ⟨(e.content ++ bs).length, by simp [WHandle.write, physK, hl, hf, stepE], nofun⟩
        · have hlen := hn rfl e hf
          refine ⟨n + bs.length, ?_, fun _ => by rw [stepE_content, List.length_append, hlen]⟩
          simp only [WHandle.write, physK, hl, hf, ← hlen, cursorWrite_end, stepE]
          by_cases hbs : bs = [] <;> simp [hbs]
      rw [hw, physW_cons_some hf]
      have hl' := World.setLeafFiles_same w i _ (b.insert p (stepE strict e bs)) hl
      obtain ⟨h', h1, h2⟩ := ih _ _ n' hl' (fun hs e0 he0 => by
        rw [FMap.find?_insert_self] at he0
        cases he0
        exact hn' hs)
      refine ⟨h', ?_, h2⟩
      show runScript _ rest _ = _
      rw [h1, World.setLeafFiles_twice]

theorem drop_phys (h : WHandle) (hk : h.kind ≠ .memFile) (w : World) : h.drop w = (.ok (), w) := by
  rw [WHandle.drop, WHandle.flush_eq, if_neg hk]

theorem keysCanon_memPublish {a : FMap} (hk : KeysCanon a) {p : Str} (hp : Canon p) (buf : Bytes) :
    KeysCanon (memPublish a p buf) := by
  rw [Mem.memPublish_eq]; exact Write.keysCanon _ hk hp

theorem core_memPublish (a : FMap) (p : Str) (buf : Bytes) (k : Str) :
    ((memPublish a p buf).find? k).map core =
      if k = p then (a.find? p).map (fun e => if e.ftype = .file then (FType.file, buf) else core e)
      else (a.find? k).map core := by
  rw [Mem.memPublish_eq, Write.find?_app]
  split
  · rcases a.find? p with _ | ⟨⟨_ | _, c, cr, mo, ac⟩⟩ <;> simp [Mem.publishS, Write.slot, core]
  · rfl

/-- the end of a session: from related worlds in which the memory file is absent or holds exactly the
handle's buffer, the writes and the drop give `ok` twice and related worlds -/
theorem finish_rel {w1 w2 : World} (hr : RCore w1 w2) {i : Nat} {a b : FMap} {p : Str}
    (hp : Canon p) (e1 : w1.leaf? i = some { kind := .mem, files := a })
    (e2 : w2.leaf? i = some { kind := .phys, files := b }) (hab : LeafOK a b) (buf : Bytes)
    (pre : a.find? p = none ∨ ∃ e, a.find? p = some e ∧ e.ftype = .file ∧ e.content = buf)
    (s : List Bytes) (h2 : WHandle)
    (hh2 : (∃ buf0, h2 = { leaf := i, key := p, kind := .physCreate, buf := buf0, pos := buf.length }) ∨
           (∃ buf0 n, h2 = { leaf := i, key := p, kind := .physAppend, buf := buf0, pos := n })) :
    CRes KRel (· = ·) (finish { leaf := i, key := p, kind := .memFile, buf := buf, pos := buf.length } s w1).1
        (finish h2 s w2).1 ∧
      RCore (finish { leaf := i, key := p, kind := .memFile, buf := buf, pos := buf.length } s w1).2
        (finish h2 s w2).2 := by
  have hm : finish { leaf := i, key := p, kind := .memFile, buf := buf, pos := buf.length } s w1 =
      (.ok (), w1.setLeafFiles i (memPublish a p (buf ++ s.flatten))) := by
    unfold finish
    rw [bind_eval, run_memScript]
    exact run_dropMem e1 _ _ _
  have hphys : ∃ strict, finish h2 s w2 = (.ok (), w2.setLeafFiles i (physW b p strict s)) := by
    have hn : ∀ e, b.find? p = some e → e.content.length = buf.length := by
      intro e' he'
      rcases pre with hnone | ⟨e, he, _, hc⟩
      · rw [(hab.core.none_iff p).1 hnone] at he'; cases he'
      · obtain ⟨e'', h1, _, h3⟩ := hab.core.some p e he
        rw [h1] at he'; cases he'; rw [h3, hc]
    obtain ⟨strict, h', h1, hk⟩ : ∃ strict h', runScript h2 s w2 =
        (.ok h', w2.setLeafFiles i (physW b p strict s)) ∧ h'.kind = physK strict := by
      rcases hh2 with ⟨buf0, rfl⟩ | ⟨buf0, n, rfl⟩
      · exact ⟨true, run_phys true i p s w2 b buf.length buf0 e2 fun _ => hn⟩
      · exact ⟨false, run_phys false i p s w2 b n buf0 e2 nofun⟩
    refine ⟨strict, ?_⟩
    unfold finish
    rw [bind_eval, h1]
    exact drop_phys h' (by rw [hk]; cases strict <;> simp [physK]) _
  obtain ⟨strict, hph⟩ := hphys
  rw [hm, hph]
  refine ⟨.ok rfl, hr.set e1 e2 ⟨hab.wf.memPublish_any p _, ?_, keysCanon_memPublish hab.keys hp _⟩⟩
  intro k
  rw [core_memPublish, core_physW]
  split
  · rcases pre with hnone | ⟨e, he, hty, hc⟩
    · rw [hnone, (hab.core.none_iff p).1 hnone]; rfl
    · obtain ⟨e', h1, h2', h3⟩ := hab.core.some p e he
      rw [he, h1]
      simp [hty, h3, hc]
      rw [h2', hty]
  · exact hab.core k

theorem leaf_exists (i : Nat) (p : Str) (hp : Canon p) :
    CSim RCore (· = ·) (· = ·) ((leafFS i).exists_ p) ((leafFS i).exists_ p) :=
  leaf_sim i _ _ fun a b hab => ⟨by
    show CRes _ _ (Res.ok (a.contains p)) (Res.ok (Phys.exists_ b p))
    rw [exists_rel hab hp]; exact .ok rfl, hab⟩

theorem leaf_metadata (i : Nat) (p : Str) (hp : Canon p) :
    CSim RCore KRel MetaRel ((leafFS i).metadata p) ((leafFS i).metadata p) :=
  leaf_sim i _ _ fun _ _ hab => ⟨metadata_rel hab hp, hab⟩

theorem leaf_readDir (i : Nat) (p : Str) (hp : Canon p) :
    CSim RCore KRel NamesSet ((leafFS i).readDir p) ((leafFS i).readDir p) :=
  leaf_sim i _ _ fun _ _ hab => ⟨readDir_rel hab hp, hab⟩

theorem leaf_createDir (i : Nat) (p : Str) (hp : Canon p) (hne : p ≠ []) :
    CSim RCore KRel (· = ·) ((leafFS i).createDir p) ((leafFS i).createDir p) :=
  leaf_sim i _ _ fun _ _ hab => createDir_rel hab hp hne

theorem leaf_removeFile (i : Nat) (p : Str) (hp : Canon p) :
    CSim RCore KRel (· = ·) ((leafFS i).removeFile p) ((leafFS i).removeFile p) :=
  leaf_sim i _ _ fun _ _ hab => removeFile_rel hab hp

theorem leaf_removeDir (i : Nat) (p : Str) (hp : Canon p) (hne : p ≠ []) :
    CSim RCore KRel (· = ·) ((leafFS i).removeDir p) ((leafFS i).removeDir p) :=
  leaf_sim i _ _ fun _ _ hab => removeDir_rel hab hp hne

theorem leaf_createOnly (i : Nat) (p : Str) (hp : Canon p) :
    CSim RCore KRel (fun _ _ => True) ((leafFS i).createFile p) ((leafFS i).createFile p) :=
  leaf_sim i _ _ fun a b hab => by
    obtain ⟨h1, h2, _⟩ := createFile_rel hab hp
    exact ⟨h1.map (fun _ _ _ => trivial), h2⟩

theorem leaf_readAll (i : Nat) (p : Str) (hp : Canon p) :
    CSim RCore KRel (· = ·) (readAll (leafFS i) p) (readAll (leafFS i) p) := by
  intro w1 w2 hr
  rcases hr.at i with ⟨e1, e2⟩ | ⟨a, b, e1, e2, hab⟩
  · unfold readAll
    rw [bind_eval, bind_eval]
    rw [show (leafFS i).openFile p = onLeaf i _ from rfl, onLeaf_none e1, onLeaf_none e2]
    exact ⟨.panic, hr⟩
  · have r1 : readAll (leafFS i) p w1 =
        (readRes (Mem.openFile a p).1, w1.setLeafFiles i (Mem.openFile a p).2) := by
      unfold readAll
      rw [bind_eval, run_openFile e1 p]
      cases (Mem.openFile a p).1 <;> rfl
    have r2 : readAll (leafFS i) p w2 = (readRes (Phys.openFile b p), w2.setLeafFiles i b) := by
      unfold readAll
      rw [bind_eval, LeafAt.openFile_eq (k := .phys) e2 p, LeafAt.same e2]
      cases Phys.openFile b p <;> rfl
    rw [r1, r2]
    exact ⟨readAll_rel hab hp, hr.set e1 e2 (openFile_ok hab hp)⟩

theorem sim_clearAt {R : World → World → Prop} {fs1 fs2 : FS} (h : SimC R fs1 fs2) (q : Str)
    (hq : Canon q) : CSim R KRel (· = ·) (clearAt fs1 q) (clearAt fs2 q) := by
  unfold clearAt
  refine CSim.bind_eq (h.exists_ q hq).ofEq fun ex => ?_
  exact CSim.ite (fun _ => h.removeFile q hq) (fun _ => CSim.pure rfl)

/-- `create_file`, an interlude that leaves the new file alone (or removes it), the writes, drop -/
theorem leaf_createThen (i : Nat) (p : Str) (hp : Canon p) (mid1 mid2 : M Unit)
    (hmid : CSim RCore KRel (· = ·) mid1 mid2)
    (hfr : ∀ w a, w.leaf? i = some { kind := .mem, files := a } →
      ∃ a', (mid1 w).2.leaf? i = some { kind := .mem, files := a' } ∧
        (a'.find? p = none ∨ a'.find? p = a.find? p))
    (s : List Bytes) :
    CSim RCore KRel (· = ·) ((leafFS i).createFile p >>= fun h => mid1 >>= fun _ => finish h s)
      ((leafFS i).createFile p >>= fun h => mid2 >>= fun _ => finish h s) := by
  intro w1 w2 hr
  rw [bind_eval, bind_eval]
  rcases hr.at i with ⟨e1, e2⟩ | ⟨a, b, e1, e2, hab⟩
  · rw [show (leafFS i).createFile p = onLeaf i _ from rfl, onLeaf_none e1, onLeaf_none e2]
    exact ⟨.panic, hr⟩
  · have c1 := run_createFile e1 p
    rw [c1, LeafAt.createFile_eq (k := .phys) e2 p]
    obtain ⟨hres, hok, hempty⟩ := createFile_rel hab hp
    have hr' := hr.set e1 e2 hok
    have e1' := World.setLeafFiles_same w1 i _ (Mem.createFile a p).2 e1
    generalize (Mem.createFile a p).1 = r1 at hres hempty ⊢
    generalize (Phys.createFile b p).1 = r2 at hres ⊢
    cases hres with
    | err hk => exact ⟨.err hk, hr'⟩
    | panic => exact ⟨.panic, hr'⟩
    | @ok u1 u2 _ =>
      simp only [Res.map]
      rw [bind_eval, bind_eval]
      obtain ⟨hm, hr''⟩ := hmid _ _ hr'
      obtain ⟨a'', ha'', hfind⟩ := hfr _ _ e1'
      rcases em1 : mid1 (w1.setLeafFiles i (Mem.createFile a p).2) with ⟨rm1, w1''⟩
      rcases em2 : mid2 (w2.setLeafFiles i (Phys.createFile b p).2) with ⟨rm2, w2''⟩
      rw [em1, em2] at hm hr''
      rw [em1] at ha''
      simp only at hm hr'' ha''
      cases hm with
      | err hk => exact ⟨.err hk, hr''⟩
      | panic => exact ⟨.panic, hr''⟩
      | ok _ =>
        rcases hr''.at i with ⟨f1, _⟩ | ⟨a3, b3, f1, f2, hab3⟩
        · rw [f1] at ha''; cases ha''
        · rw [f1] at ha''
          have h3 : a3 = a'' := (Leaf.mk.inj (Option.some.inj ha'')).2
          rw [← h3] at hfind
          obtain ⟨e, he, hty, hc⟩ := hempty rfl
          have pre : a3.find? p = none ∨ ∃ e, a3.find? p = some e ∧ e.ftype = .file ∧ e.content = [] := by
            rcases hfind with h | h
            · exact Or.inl h
            · exact Or.inr ⟨e, by rw [h]; exact he, hty, hc⟩
          have hfin := finish_rel hr'' hp f1 f2 hab3 [] pre s ⟨i, p, .physCreate, [], 0⟩
            (Or.inl ⟨[], rfl⟩)
          exact ⟨hfin.1.mono (fun _ _ _ => trivial), hfin.2⟩

theorem leaf_createSession (i : Nat) (p : Str) (hp : Canon p) (s : List Bytes) :
    CSim RCore KRel (· = ·) (createSession (leafFS i) p s) (createSession (leafFS i) p s) :=
  leaf_createThen i p hp (pure ()) (pure ()) (CSim.pure rfl)
    (fun _ a h => ⟨a, h, Or.inr rfl⟩) s

theorem clearAt_frame (i : Nat) (p q : Str) (w : World) (a : FMap)
    (h : w.leaf? i = some { kind := .mem, files := a }) :
    ∃ a', (clearAt (leafFS i) q w).2.leaf? i = some { kind := .mem, files := a' } ∧
      (a'.find? p = none ∨ a'.find? p = a.find? p) := by
  unfold clearAt
  rw [bind_eval, run_exists h q]
  simp only
  by_cases hc : a.contains q = true
  · rw [if_pos hc, run_removeFile h q]
    refine ⟨_, World.setLeafFiles_same w i _ _ h, ?_⟩
    -- `remove_file` keeps the slot of `q` or empties it
    rw [Mem.removeFile_eq, onSlot, Write.find?_app]
    split
    · rename_i hpq; rw [hpq]
      rcases a.find? q with _ | ⟨⟨_ | _, c, cr, mo, ac⟩⟩ <;> simp [Mem.removeFileS, Write.slot]
    · exact Or.inr rfl
  · rw [if_neg hc]
    exact ⟨a, h, Or.inr rfl⟩

theorem appendFile_rel {a b : FMap} (hab : LeafOK a b) {p : Str} (hp : Canon p) :
    (∃ e, a.find? p = some e ∧ e.ftype = .file ∧ Mem.appendFile a p = .ok e.content ∧
        Phys.appendFile b p = .ok ()) ∨
    (∃ k1 k2 q1 q2, Mem.appendFile a p = .err k1 q1 ∧ Phys.appendFile b p = .err k2 q2 ∧
        KRel k1 k2) := by
  obtain ⟨_, _, h⟩ := look hab hp
  unfold Mem.appendFile Phys.appendFile
  cases h with
  | present e e' hf _ _ hl ht =>
    rw [hf, hl]
    simp only [ht]
    cases hty : e.ftype
    · exact Or.inl ⟨e, rfl, hty, by simp, by simp⟩
    · exact Or.inr ⟨.other, .io, none, none, by simp [fail], by simp [fail],
        KRel.soft (Or.inr rfl) (Or.inl rfl)⟩
  | absent hf _ _ hl =>
    rw [hf, hl]
    exact Or.inr ⟨.fileNotFound, .fileNotFound, none, none, rfl, rfl, Or.inl rfl⟩
  | blocked k hf _ _ hl hk =>
    rw [hf, hl]
    exact Or.inr ⟨.fileNotFound, k, none, none, rfl, rfl, KRel.notFound_host hk⟩

theorem leaf_appendSession (i : Nat) (p : Str) (hp : Canon p) (s : List Bytes) :
    CSim RCore KRel (· = ·) (appendSession (leafFS i) p s) (appendSession (leafFS i) p s) := by
  intro w1 w2 hr
  unfold appendSession
  rw [bind_eval, bind_eval]
  rcases hr.at i with ⟨e1, e2⟩ | ⟨a, b, e1, e2, hab⟩
  · rw [show (leafFS i).appendFile p = onLeaf i _ from rfl, onLeaf_none e1, onLeaf_none e2]
    exact ⟨.panic, hr⟩
  · have c1 := run_appendFile e1 p
    rw [c1, LeafAt.appendFile_eq (k := .phys) e2 p]
    rcases appendFile_rel hab hp with ⟨e, he, hty, hm, hph⟩ | ⟨k1, k2, q1, q2, hm, hph, hk⟩
    · rw [hm, hph]
      simp only [Res.map]
      have hfin := finish_rel hr hp e1 e2 hab e.content (Or.inr ⟨e, he, hty, rfl⟩) s
        ⟨i, p, .physAppend, [], 0⟩ (Or.inr ⟨[], 0, rfl⟩)
      exact ⟨hfin.1.mono (fun _ _ _ => trivial), hfin.2⟩
    · rw [hm, hph]
      exact ⟨.err hk, hr⟩

theorem tolerate_of_ne {m : M Unit} {w : World} (h : ∀ pth, (m w).1 ≠ .err .fileNotFound pth) :
    tolerate m w = m w := by
  unfold tolerate
  split
  · rename_i pth w' heq
    exact absurd (congrArg Prod.fst heq) (h pth)
  · rfl

/-- `clear_whiteout` as `OverlayFS::create_dir` calls it (finding O11, DESIGN.md): after a positive
probe neither backend answers `FileNotFound` (memory: `Ok` or `Other`; host: `Ok` or `IoError`), so
nothing is swallowed on either side and the removal is `leaf_removeFile` -/
theorem leaf_clearT (i : Nat) (q : Str) (hq : Canon q) :
    CSim RCore KRel (· = ·) (clearAtT (leafFS i) q) (clearAtT (leafFS i) q) := by
  intro w1 w2 hr
  unfold clearAtT
  rw [bind_eval, bind_eval]
  rcases hr.at i with ⟨e1, e2⟩ | ⟨a, b, e1, e2, hab⟩
  · rw [show (leafFS i).exists_ q = onLeaf i _ from rfl, onLeaf_none e1, onLeaf_none e2]
    exact ⟨.panic, hr⟩
  · rw [run_exists e1 q, LeafAt.exists_eq (k := .phys) e2 q, ← exists_rel hab hq]
    simp only
    by_cases hc : a.contains q = true
    · rw [if_pos hc]
      obtain ⟨e, hf⟩ := (FMap.contains_iff a q).1 hc
      obtain ⟨e', _, _, _⟩ := hab.core.some q e hf
      have hl := (wfb hab).lookup_present q e' ‹_›
      rw [tolerate_of_ne, tolerate_of_ne]
      · have h := leaf_removeFile i q hq w1 w2 hr
        exact ⟨h.1.mono fun _ _ _ => trivial, h.2⟩
      · intro pth
        rw [LeafAt.removeFile_eq (k := .phys) e2 q]
        show (Phys.removeFile b q).1 ≠ _
        unfold Phys.removeFile
        simp only [hl]
        split <;> simp [fail]
      · intro pth
        rw [run_removeFile e1 q]
        show (Mem.removeFile a q).1 ≠ _
        unfold Mem.removeFile
        simp only [hf]
        split <;> simp [fail]
    · rw [if_neg hc]
      exact ⟨.ok trivial, hr⟩

theorem leaf_simC (i : Nat) : SimC RCore (leafFS i) (leafFS i) where
  exists_ p hp := leaf_exists i p hp
  metadata p hp := leaf_metadata i p hp
  readDir p hp := leaf_readDir i p hp
  readAll p hp := leaf_readAll i p hp
  createDir p hp hne := leaf_createDir i p hp hne
  removeFile p hp := leaf_removeFile i p hp
  removeDir p hp hne := leaf_removeDir i p hp hne
  createOnly p hp := leaf_createOnly i p hp
  createSession p s hp := leaf_createSession i p hp s

/-- memory leaf `i` and physical leaf `i` with the same content are related at the session level,
also as the write layer of an overlay -/
theorem leaf_simW (i : Nat) : SimW RCore (leafFS i) (leafFS i) where
  toSimC := leaf_simC i
  appendSession p s hp := leaf_appendSession i p hp s
  createClear p q s hp hq :=
    leaf_createThen i p hp (clearAt (leafFS i) q) (clearAt (leafFS i) q)
      (sim_clearAt (leaf_simC i) q hq) (clearAt_frame i p q) s
  clearT q hq := leaf_clearT i q hq

end Vfs.C02
