/-
"A sub-directory of a `MemoryFS` is a `MemoryFS`" (Proofs/SubtreeSim.lean, see there for what the
definitions stand for) under the namespace `Vfs.T`, over the calculus of Proofs/SimT.lean.

The definitions (`stripP`, `sub`, `Inv0`, `AncOK`, `Role`, `RSub`, `PRdrop`, `HSub`, …) are written
out with the bodies they have in Proofs/SubtreeSim.lean. The plain ones unfold to the same terms as
those of `Vfs`, so a theorem about `Vfs.sub`, `Vfs.Inv0`, … proves the statement about `sub`, `Inv0`,
… as it stands. `Role` is an inductive type of its own: `Role.toV` maps it to `Vfs.Role`, and
`rSub_eq`, `hSub_eq` say that `RSub spec`, `HSub spec` are the relations of Proofs/SubtreeSim.lean
for `fun i => (spec i).toV`.
-/
import VfsModel.Proofs.SimT
import VfsModel.Proofs.SubtreeSim
import VfsModel.Props.C07
namespace Vfs.T

def Rooted (q : Str) : Prop := q = [] ∨ q.head? = some '/'

theorem _root_.Vfs.Canon.rootedT {q : Str} (h : Canon q) : Rooted q := h.rooted

theorem Rooted.child {q : Str} (hq : Rooted q) (n : Str) : Rooted (q ++ '/' :: n) :=
  Vfs.Rooted.child hq n

def stripP (P k : Str) : Option Str :=
  if k = P then some [] else if (P ++ ['/']).isPrefixOf k then some (k.drop P.length) else none

theorem stripP_some {P k q : Str} (h : stripP P k = some q) : k = P ++ q ∧ Rooted q :=
  Vfs.stripP_some h

def sub (P : Str) (m : FMap) : FMap :=
  m.filterMap fun kv => (stripP P kv.1).map fun q => (q, kv.2)

theorem sub_nil (P : Str) : sub P [] = [] := rfl

theorem sub_cons_some {P k q : Str} (v : Entry) (m : FMap) (h : stripP P k = some q) :
    sub P ((k, v) :: m) = (q, v) :: sub P m := Vfs.sub_cons_some v m h

theorem sub_cons_none {P k : Str} (v : Entry) (m : FMap) (h : stripP P k = none) :
    sub P ((k, v) :: m) = sub P m := Vfs.sub_cons_none v m h

theorem find?_sub (P : Str) (m : FMap) (q : Str) (hq : Rooted q) :
    (sub P m).find? q = m.find? (P ++ q) := Vfs.find?_sub P m q hq

def Inv0 (m : FMap) : Prop :=
  (∃ e, m.find? [] = some e ∧ e.ftype = .dir) ∧ ∀ k ∈ m.keys, Canon k

def KeysCanon (m : FMap) : Prop := ∀ k ∈ m.keys, Canon k

theorem KeysCanon.insert {m : FMap} (h : KeysCanon m) {q : Str} (hq : Canon q) (v : Entry) :
    KeysCanon (m.insert q v) := Vfs.KeysCanon.insert h hq v

theorem Inv0.insert {m : FMap} (h : Inv0 m) {q : Str} (hq : Canon q) (v : Entry)
    (hv : q = [] → v.ftype = .dir) : Inv0 (m.insert q v) := Vfs.Inv0.insert h hq v hv

theorem parent_shift (P : Str) {q : Str} (hq : Canon q) (hne : q ≠ []) :
    parentInternal (P ++ q) = P ++ parentInternal q ∧ Rooted (parentInternal q) ∧ '/' ∈ q ∧
      '/' ∈ P ++ q := Vfs.parent_shift P hq hne

end Vfs.T

namespace Vfs.T

def NoPath {α : Type} (r : Res α) : Prop := ∀ k p, r = .err k p → p = none

theorem NoPath.map {α β : Type} {r : Res α} (h : NoPath r) (f : α → β) : NoPath (r.map f) :=
  Vfs.NoPath.map h f

end Vfs.T

namespace Vfs.T

def Touch (k : Str) (m m' : FMap) : Prop := ∀ k', k' ≠ k → m'.find? k' = m.find? k'

theorem Touch.insert (k : Str) (m : FMap) (v : Entry) : Touch k m (m.insert k v) :=
  Vfs.Touch.insert k m v
theorem Touch.trans {k : Str} {a b c : FMap} (h1 : Touch k a b) (h2 : Touch k b c) : Touch k a c :=
  Vfs.Touch.trans h1 h2

def AncOK (P : Str) (m : FMap) : Prop :=
  ∀ ps : List Str, (∀ c ∈ ps, GoodComp c) → P = renderC ps → ∀ j, j < ps.length →
    ∃ e, m.find? (renderC (ps.take j)) = some e ∧ e.ftype = .dir

inductive Role where
  | free
  | sub (P : Str)

def LeafRel : Role → Option Leaf → Option Leaf → Prop
  | .free, a, b => a = b
  | .sub P, a, b => ∃ m1 : FMap, a = some { kind := .mem, files := m1 } ∧
      b = some { kind := .mem, files := sub P m1 } ∧ Inv0 (sub P m1) ∧ AncOK P m1

structure RSub (spec : Nat → Role) (w1 w2 : World) : Prop where
  log : w1.log = w2.log
  fault : w1.fault = w2.fault
  fired : w1.fired = w2.fired
  leaf : ∀ i, LeafRel (spec i) (w1.leaf? i) (w2.leaf? i)

def PRdrop (a b : Option Str) : Prop := a = b ∨ b = none
instance : ReflPR PRdrop := ⟨fun _ => Or.inl rfl⟩

def KeyRel : Role → Str → Str → WKind → Prop
  | .free, k1, k2, _ => k1 = k2
  | .sub P, k1, k2, kind => k1 = P ++ k2 ∧ Canon k2 ∧ kind = .memFile

def HSub (spec : Nat → Role) (h1 h2 : WHandle) : Prop :=
  h1.leaf = h2.leaf ∧ h1.kind = h2.kind ∧ h1.buf = h2.buf ∧ h1.pos = h2.pos ∧
    KeyRel (spec h1.leaf) h1.key h2.key h1.kind

def Role.toV : Role → Vfs.Role
  | .free => .free
  | .sub P => .sub P

theorem Role.toV_sub {spec : Nat → Role} {i : Nat} {P : Str} (hi : spec i = .sub P) :
    (spec i).toV = .sub P := by
  rw [hi]; rfl

theorem leafRel_eq (r : Role) : LeafRel r = Vfs.LeafRel r.toV := by
  cases r <;> rfl

theorem keyRel_eq (r : Role) : KeyRel r = Vfs.KeyRel r.toV := by
  cases r <;> rfl

theorem rSub_eq (spec : Nat → Role) : RSub spec = Vfs.RSub fun i => (spec i).toV := by
  funext w1 w2
  apply propext
  constructor
  · rintro ⟨a, b, c, d⟩
    exact ⟨a, b, c, fun i => leafRel_eq (spec i) ▸ d i⟩
  · rintro ⟨a, b, c, d⟩
    exact ⟨a, b, c, fun i => leafRel_eq (spec i) ▸ d i⟩

theorem hSub_eq (spec : Nat → Role) : HSub spec = Vfs.HSub fun i => (spec i).toV := by
  funext h1 h2
  unfold HSub Vfs.HSub
  rw [keyRel_eq]

theorem rlog_rsub (spec : Nat → Role) : RLog (RSub spec) := by
  rw [rSub_eq]
  exact Vfs.rlog_rsub _

theorem rfault_rsub (spec : Nat → Role) : RFault (RSub spec) := by
  rw [rSub_eq]
  exact ⟨(Vfs.rfault_rsub _).same, (Vfs.rfault_rsub _).fire, (Vfs.rfault_rsub _).tick⟩

theorem simHandles_sub (spec : Nat → Role) {PR : Option Str → Option Str → Prop} [ReflPR PR] :
    SimHandles (RSub spec) PR (HSub spec) := by
  have := ReflPR.toV ‹_›
  rw [simHandles_eq, rSub_eq, hSub_eq]
  exact Vfs.simHandles_sub (subRel_rsub _)

end Vfs.T

namespace Vfs.T

def KindNot {α : Type} (I : World → Prop) (k : ErrKind) (m : M α) : Prop :=
  ∀ w, I w → (∀ k' p, (m w).1 = .err k' p → k' ≠ k) ∧ I (m w).2

namespace KindNot
variable {α β : Type} {I : World → Prop} {k : ErrKind}

theorem pure (a : α) : KindNot I k (Pure.pure a : M α) := Vfs.KindNot.pure a

end KindNot

end Vfs.T

namespace Vfs.T

theorem SimM.withPath_any {α β : Type} {R : World → World → Prop} {Q : α → β → Prop}
    {PR PR' : Option Str → Option Str → Prop} [ReflPR PR'] {m1 : M α} {m2 : M β} (p : Str)
    (h : SimM R PR Q m1 m2) : SimM R PR' Q (M.withPath p m1) (M.withPath p m2) := by
  have := ReflPR.toV ‹_›
  rw [simM_eq] at h ⊢
  exact h.withPath_any p

/-- `Vfs.altroot_sim_leaf` over the definitions of this file. -/
theorem altroot_sim_leaf {spec : Nat → Role} {i : Nat} {P : Str} (hi : spec i = .sub P)
    (hP : Canon P) (id : Nat) :
    SimFS (RSub spec) PRdrop (HSub spec)
      (Altroot.fs { fs := leafFS i, fsId := id, path := P }) (leafFS i) := by
  rw [simFS_eq, rSub_eq, hSub_eq]
  exact Vfs.altroot_sim_leaf (subRel_rsub _) (Role.toV_sub hi) hP id

end Vfs.T
