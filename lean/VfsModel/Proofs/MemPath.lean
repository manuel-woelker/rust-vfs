/-
  The path-layer primitives (`VfsPath::create_dir`, write sessions, `remove_file`, …) as pure
  functions on a memory map, in the normal form of Proofs/LeafSpec.lean (a table entry applied to
  the slot of the path), and the preservation of the well-formedness invariant by each of them and
  by the raw `MemoryFS` methods, for EVERY path string. (That the generic `VPath` operations over
  `leafFS i` compute exactly these functions: Proofs/MemRun.lean.)
  `create_dir_all`: the loop `Mem.mkdirs`, what it computes on a chain of ancestor directories
  (`fillDirs`, `mkdirs_fill`), and the prefixes it visits on a canonical path (`dirPrefixes_renderC`).
  `Mem.Erasing f`: `f` is a removal (the key is erased on success, nothing changes otherwise), the
  hypothesis under which the overlay lemmas treat `remove_file` and `remove_dir` as one.
-/
import VfsModel.Proofs.LeafSpec
import VfsModel.PathOps
namespace Vfs
namespace Mem

/-- `get_parent`: the parent exists and is a directory -/
def parentOk (m : FMap) (p : Str) : Bool :=
  match m.find? (parentInternal p) with
  | some e => decide (e.ftype = .dir)
  | none => false

/-- `VfsPath::create_dir` -/
def pCreateDir (m : FMap) (p : Str) : Res Unit × FMap :=
  if parentOk m p then ((createDir m p).1.withPath p, (createDir m p).2)
  else (.err .other (some p), m)

/-- `create_file()?.write_all(bs)` then drop: one completed write session -/
def pWrite (m : FMap) (p : Str) (bs : Bytes) : Res Unit × FMap :=
  if parentOk m p then
    match createFile m p with
    | (.ok _, m') => (.ok (), memPublish m' p (cursorWrite [] 0 bs))
    | (.err k pth, m') => ((Res.err k pth : Res Unit).withPath p, m')
    | (.panic, m') => (.panic, m')
  else (.err .other (some p), m)

/-- `append_file()?.write_all(bs)` then drop -/
def pAppend (m : FMap) (p : Str) (bs : Bytes) : Res Unit × FMap :=
  match appendFile m p with
  | .ok old => (.ok (), memPublish m p (cursorWrite old old.length bs))
  | .err k pth => ((Res.err k pth : Res Unit).withPath p, m)
  | .panic => (.panic, m)

def pRemoveFile (m : FMap) (p : Str) : Res Unit × FMap :=
  ((removeFile m p).1.withPath p, (removeFile m p).2)

def pRemoveDir (m : FMap) (p : Str) : Res Unit × FMap :=
  ((removeDir m p).1.withPath p, (removeDir m p).2)

/-- the loop of `create_dir_all` over a list of prefixes, on a memory map -/
def mkdirs (m : FMap) : List Str → Res Unit × FMap
  | [] => (.ok (), m)
  | d :: rest =>
    match Mem.createDir m d with
    | (.ok _, m') => mkdirs m' rest
    | (.err .dirExists _, m') => mkdirs m' rest
    | (.err k _, m') => (.err k (some d), m')
    | (.panic, m') => (.panic, m')

end Mem

/-- the probe of `get_parent` passes exactly when the parent is a directory of the map -/
theorem Mem.parentOk_iff (m : FMap) (p : Str) :
    Mem.parentOk m p = true ↔ ∃ pe, m.find? (parentInternal p) = some pe ∧ pe.ftype = .dir := by
  unfold Mem.parentOk
  cases m.find? (parentInternal p) <;> simp

theorem Mem.parentOk_spec (m : FMap) (p : Str) (h : Mem.parentOk m p = true) :
    ∃ pe, m.find? (parentInternal p) = some pe ∧ pe.ftype = .dir :=
  (Mem.parentOk_iff m p).1 h

theorem Mem.parentOk_of_par {m : FMap} {p : Str} (h : Mem.par m p = true) : Mem.parentOk m p = true :=
  (Mem.parentOk_iff m p).2 ((Mem.par_iff m p).1 h).2

theorem Mem.ensureHasParent_spec (m : FMap) (p : Str) (u : Unit)
    (h : Mem.ensureHasParent m p = .ok u) :
    '/' ∈ p ∧ ∃ pe, m.find? (parentInternal p) = some pe ∧ pe.ftype = .dir :=
  (Mem.par_iff m p).1 (by rw [Mem.par, h]; rfl)

theorem Mem.par_of_dir {m : FMap} {p : Str} (hs : '/' ∈ p)
    (hp : ∃ pe, m.find? (parentInternal p) = some pe ∧ pe.ftype = .dir) : Mem.par m p = true :=
  (Mem.par_iff m p).2 ⟨hs, hp⟩

/-- the converse of `ensureHasParent_spec` -/
theorem Mem.ensureHasParent_dir (m : FMap) (p : Str) (hs : '/' ∈ p)
    (hp : ∃ pe, m.find? (parentInternal p) = some pe ∧ pe.ftype = .dir) :
    Mem.ensureHasParent m p = .ok () := by
  rw [Mem.ensureHasParent_eq, Mem.par_of_dir hs hp]; rfl

/-! ### the path-layer primitives are the tables, relabelled -/

namespace Mem

/-- `get_parent` adds nothing on a memory leaf: `ensure_has_parent` asks for more -/
theorem pCreateDir_eq (m : FMap) (p : Str) :
    pCreateDir m p =
      ((createDirS (par m p) (m.find? p)).1.withPath p, (createDirS (par m p) (m.find? p)).2.app m p) := by
  unfold pCreateDir
  split
  · rw [createDir_eq]; rfl
  · rename_i h
    have : par m p = false := Bool.eq_false_iff.2 fun hp => h (parentOk_of_par hp)
    simp [createDirS, this, Write.app, fail, Res.withPath]

theorem pRemoveFile_eq (m : FMap) (p : Str) :
    pRemoveFile m p = ((removeFileS (m.find? p)).1.withPath p, (removeFileS (m.find? p)).2.app m p) := by
  unfold pRemoveFile; rw [removeFile_eq]; rfl

theorem pRemoveDir_eq (m : FMap) (p : Str) :
    pRemoveDir m p =
      ((removeDirS (kids m p) (m.find? p)).1.withPath p, (removeDirS (kids m p) (m.find? p)).2.app m p) := by
  unfold pRemoveDir; rw [removeDir_eq]; rfl

theorem pWrite_eq (m : FMap) (p : Str) (bs : Bytes) :
    pWrite m p bs =
      ((writeS bs (par m p) (m.find? p)).1.withPath p, (writeS bs (par m p) (m.find? p)).2.app m p) := by
  unfold pWrite
  by_cases hp : par m p = true
  · rw [if_pos (parentOk_of_par hp), createFile_eq, hp]
    cases hf : m.find? p with
    | none =>
      simp [writeS, createFileS, onSlot, Write.app, memPublish_eq, publishS, fileEntryNow,
        FMap.insert_insert, Res.withPath, cursorWrite_nil]
    | some e =>
      by_cases hd : e.ftype = .dir <;>
        simp [writeS, createFileS, hd, onSlot, Write.app, memPublish_eq, publishS, fileEntryNow,
          FMap.insert_insert, Res.withPath, fail, cursorWrite_nil]
  · have hp' : par m p = false := Bool.eq_false_iff.2 hp
    split
    · simp [writeS, createFile_eq, createFileS, hp', onSlot, Write.app, fail, Res.withPath]
    · simp [writeS, createFileS, hp', Write.app, fail, Res.withPath]

theorem pAppend_eq (m : FMap) (p : Str) (bs : Bytes) :
    pAppend m p bs = ((appendS bs (m.find? p)).1.withPath p, (appendS bs (m.find? p)).2.app m p) := by
  unfold pAppend appendFile
  cases hf : m.find? p with
  | none => rfl
  | some e =>
    by_cases ht : e.ftype = .file <;>
      simp [appendS, ht, hf, memPublish_eq, fail, Res.withPath, Write.app, cursorWrite_end]

end Mem

/-! ### the effect of `create_dir` and `create_file`

The statement to use is the table: `Mem.createDir_eq` (Proofs/LeafSpec.lean), after which `cases` on
`Mem.par m d` and `m.find? d` gives every case. The lemmas here are its readings in the forms the
callers have their hypotheses in.
With the parent known to be a directory (with a file as parent both operations fail with `Other`):
`Mem.createDir_fresh`, `Mem.createDir_present` (with `createDir_existing_dir`), `Mem.createFile_fresh`.
On every path: `Mem.createDir_map` (the map stays or gains the directory), `Mem.createDir_find`
(entry by entry), `Mem.createDir_dir` (the directory is there afterwards); for `create_file`
`Mem.createFile_graph`, result and map in one statement. -/

theorem Mem.createDir_fresh (m : FMap) (d : Str) (hs : '/' ∈ d)
    (hp : ∃ pe, m.find? (parentInternal d) = some pe ∧ pe.ftype = .dir) (hd : m.find? d = none) :
    Mem.createDir m d = (.ok (), m.insert d dirEntryNow) := by
  simp [Mem.createDir_eq, Mem.par_of_dir hs hp, hd, Mem.createDirS, onSlot, Write.app]

theorem Mem.createDir_present (m : FMap) (d : Str) (e : Entry) (hs : '/' ∈ d)
    (hp : ∃ pe, m.find? (parentInternal d) = some pe ∧ pe.ftype = .dir) (hd : m.find? d = some e) :
    Mem.createDir m d = (if e.ftype = .file then fail .fileExists else fail .dirExists, m) := by
  simp [Mem.createDir_eq, Mem.par_of_dir hs hp, hd, Mem.createDirS, onSlot, Write.app]

/-- `create_dir` of an existing directory under a directory: `DirectoryExists`, nothing changes -/
theorem createDir_existing_dir (m : FMap) (k : Str) (hs : '/' ∈ k) (ep e : Entry)
    (hp : m.find? (parentInternal k) = some ep) (hpd : ep.ftype = .dir)
    (he : m.find? k = some e) (hd : e.ftype = .dir) : Mem.createDir m k = (fail .dirExists, m) := by
  rw [Mem.createDir_present m k e hs ⟨ep, hp, hpd⟩ he, if_neg (by rw [hd]; decide)]

/-- on every path: the map stays as it is, or a fresh directory is inserted -/
theorem Mem.createDir_map (m : FMap) (d : Str) :
    (Mem.createDir m d).2 = m ∨
      (m.find? d = none ∧ (Mem.createDir m d).2 = m.insert d dirEntryNow) := by
  rw [Mem.createDir_eq]
  cases Mem.par m d <;> cases hf : m.find? d <;> simp [Mem.createDirS, onSlot, Write.app]

/-- … so every entry stays, and the only new one is the directory at `d` -/
theorem Mem.createDir_find (m : FMap) (d k : Str) (e : Entry) :
    (m.find? k = some e → (Mem.createDir m d).2.find? k = some e) ∧
    ((Mem.createDir m d).2.find? k = some e → m.find? k = some e ∨ (k = d ∧ e = dirEntryNow)) := by
  rcases Mem.createDir_map m d with h | ⟨hnone, h⟩ <;> rw [h]
  · exact ⟨id, Or.inl⟩
  · rw [FMap.find?_insert]
    split
    · rename_i hk
      refine ⟨fun he => ?_, fun he => Or.inr ⟨hk, (Option.some.inj he).symm⟩⟩
      rw [hk, hnone] at he; cases he
    · exact ⟨id, Or.inl⟩

/-- the parent a directory and no file in the way: `Ok` or `DirectoryExists`, and the directory is
there afterwards -/
theorem Mem.createDir_dir (m : FMap) (d : Str) (hs : '/' ∈ d)
    (hp : ∃ pe, m.find? (parentInternal d) = some pe ∧ pe.ftype = .dir)
    (hnf : ∀ e, m.find? d = some e → e.ftype = .dir) :
    ((Mem.createDir m d).1 = .ok () ∨ (Mem.createDir m d).1 = .err .dirExists none) ∧
    ∃ e, (Mem.createDir m d).2.find? d = some e ∧ e.ftype = .dir := by
  cases hf : m.find? d with
  | none =>
    rw [Mem.createDir_fresh m d hs hp hf]
    exact ⟨Or.inl rfl, dirEntryNow, FMap.find?_insert_self _ _ _, rfl⟩
  | some e =>
    have hd : e.ftype = .dir := hnf e hf
    rw [Mem.createDir_present m d e hs hp hf, if_neg (by rw [hd]; decide)]
    exact ⟨Or.inr rfl, e, hf, hd⟩

theorem Mem.createFile_fresh (m : FMap) (p : Str) (hs : '/' ∈ p)
    (hpar : Mem.parentOk m p = true) (hf : m.find? p = none) :
    Mem.createFile m p = (.ok (), m.insert p fileEntryNow) := by
  simp [Mem.createFile_eq, Mem.par_of_dir hs (Mem.parentOk_spec m p hpar), hf, Mem.createFileS, onSlot,
    Write.app]

/-- `create_file` inserts a fresh empty file (over a file that was there, or at an absent key), or
leaves the map alone -/
theorem Mem.createFile_graph (m : FMap) (p : Str) :
    Mem.createFile m p = (.ok (), m.insert p fileEntryNow) ∨
    ((Mem.createFile m p).2 = m ∧ (Mem.createFile m p).1 ≠ .ok ()) := by
  rw [Mem.createFile_eq]
  cases Mem.par m p <;> rcases m.find? p with _ | ⟨⟨_ | _, _, _, _, _⟩⟩ <;>
    simp [Mem.createFileS, onSlot, Write.app, fail]

/-! `remove_file`: not there, or a file that goes; on every path the map stays or loses the entry -/

theorem Mem.removeFile_absent (m : FMap) (p : Str) (h : m.find? p = none) :
    Mem.removeFile m p = (fail .fileNotFound, m) := by
  rw [Mem.removeFile_eq, h]; rfl

theorem Mem.removeFile_file (m : FMap) (s : Str) (e : Entry) (hs : m.find? s = some e)
    (hf : e.ftype = .file) : Mem.removeFile m s = (.ok (), m.erase s) := by
  simp [Mem.removeFile_eq, hs, hf, Mem.removeFileS, onSlot, Write.app]

theorem Mem.removeFile_map (m : FMap) (p : Str) :
    (Mem.removeFile m p).2 = m ∨ (Mem.removeFile m p).2 = m.erase p := by
  rw [Mem.removeFile_eq]
  cases m.find? p with
  | none => exact Or.inl rfl
  | some e => by_cases h : e.ftype = .file <;> simp [Mem.removeFileS, onSlot, Write.app, h]

/-! ### well-formedness: every write of every table fits -/

/-- `MemoryFS::create_dir` keeps the tree well-formed on EVERY path: the parent is checked to be
a directory under the same lock as the insertion -/
theorem WF.createDir_any {m : FMap} (h : WF m) (p : Str) : WF (Mem.createDir m p).2 := by
  rw [Mem.createDir_eq]; exact h.fits (Mem.createDirS_fits ..)

theorem WF.pCreateDir {m : FMap} (h : WF m) (p : Str) : WF (Mem.pCreateDir m p).2 := by
  rw [Mem.pCreateDir_eq]; exact h.fits (Mem.createDirS_fits ..)

/-- publishing never breaks well-formedness, whatever sits at the destination now (a handle
used after its file was removed publishes nothing) -/
theorem WF.memPublish_any {m : FMap} (h : WF m) (p : Str) (buf : Bytes) :
    WF (Vfs.memPublish m p buf) := by
  rw [Mem.memPublish_eq]; exact h.fits (Mem.publishS_fits ..)

set_option linter.unusedVariables false in
/-- `WF.memPublish_any` in the situation of a flush (a file sits at the key); the hypotheses are not
needed -/
theorem WF.memPublish {m : FMap} (h : WF m) (p : Str) (buf : Bytes) (e : Entry)
    (he : m.find? p = some e) (hf : e.ftype = .file) : WF (memPublish m p buf) :=
  h.memPublish_any p buf

/-- publishing to a key that holds a file leaves a file with the buffer there -/
theorem find?_memPublish_self (m : FMap) (k : Str) (buf : Bytes) (e0 : Entry)
    (h0 : m.find? k = some e0) (hf0 : e0.ftype = .file) :
    ∃ e, (memPublish m k buf).find? k = some e ∧ e.ftype = .file ∧ e.content = buf := by
  rw [Mem.memPublish_eq, Write.find?_app_self, h0]
  simp only [Mem.publishS, hf0, if_true, Write.slot]
  exact ⟨_, rfl, rfl, rfl⟩

theorem find?_memPublish_ne (m : FMap) (k k' : Str) (buf : Bytes) (hk : k' ≠ k) :
    (memPublish m k buf).find? k' = m.find? k' := by
  rw [Mem.memPublish_eq]; exact Write.find?_app_ne m _ hk

/-- `MemoryFS::create_file` keeps the tree well-formed on EVERY path -/
theorem WF.createFile_any {m : FMap} (h : WF m) (p : Str) : WF (Mem.createFile m p).2 := by
  rw [Mem.createFile_eq]; exact h.fits (Mem.createFileS_fits ..)

theorem WF.pWrite {m : FMap} (h : WF m) (p : Str) (bs : Bytes) : WF (Mem.pWrite m p bs).2 := by
  rw [Mem.pWrite_eq]; exact h.fits (Mem.writeS_fits ..)

theorem WF.pAppend {m : FMap} (h : WF m) (p : Str) (bs : Bytes) : WF (Mem.pAppend m p bs).2 := by
  rw [Mem.pAppend_eq]; exact h.fits (Mem.appendS_fits ..)

theorem WF.pRemoveFile {m : FMap} (h : WF m) (p : Str) : WF (Mem.pRemoveFile m p).2 := by
  rw [Mem.pRemoveFile_eq]; exact h.fits (Mem.removeFileS_fits ..)

/-- `remove_dir` leaves the map as it is, or erases a key under which nothing is listed -/
theorem Mem.removeDir_files (m : FMap) (p : Str) :
    (Mem.removeDir m p).2 = m ∨
    ((Mem.removeDir m p).2 = m.erase p ∧ m.keys.filterMap (childName p) = []) := by
  rw [Mem.removeDir_eq]
  rcases m.find? p with _ | e
  · exact Or.inl rfl
  · by_cases h : e.ftype = .file ∨ Mem.kids m p = true
    · simp [Mem.removeDirS, h, onSlot, Write.app]
    · have hk : m.keys.filterMap (childName p) = [] := by
        simpa [Mem.kids] using fun hk => h (Or.inr hk)
      exact Or.inr ⟨by simp [Mem.removeDirS, h, onSlot, Write.app], hk⟩

/-- `remove_dir` (removal of the root itself aside) -/
theorem WF.pRemoveDir {m : FMap} (h : WF m) (p : Str) (hp : p ≠ []) : WF (Mem.pRemoveDir m p).2 := by
  rw [Mem.pRemoveDir_eq]; exact h.fits (by simpa [hp] using Mem.removeDirS_fits ..)

/-- replacing the entry at `p` by one of the same type (a time stamp set on it, or the access stamp
of `open_file`) -/
theorem WF.setTime {m : FMap} (h : WF m) (p : Str) (e e' : Entry) (he : m.find? p = some e)
    (ht : e'.ftype = e.ftype) : WF (m.insert p e') :=
  h.app (wr := .put e') (Write.legal_put_same he ht)

theorem WF.setAccessed {m : FMap} (h : WF m) (p : Str) (t : TS) : WF (Mem.setAccessed m p t).2 := by
  rw [Mem.setAccessed_eq]; exact h.fits (Mem.setS_fits _ _ _ _ fun _ => rfl)

theorem WF.setModified {m : FMap} (h : WF m) (p : Str) (t : TS) : WF (Mem.setModified m p t).2 := by
  rw [Mem.setModified_eq]; exact h.fits (Mem.setS_fits _ _ _ _ fun _ => rfl)

theorem WF.setCreated {m : FMap} (h : WF m) (p : Str) (t : TS) : WF (Mem.setCreated m p t).2 := by
  rw [Mem.setCreated_eq]; exact h.fits (Mem.setS_fits _ _ _ _ fun _ => rfl)

theorem WF.openFile {m : FMap} (h : WF m) (p : Str) : WF (Mem.openFile m p).2 := by
  rw [Mem.openFile_eq]; exact h.fits (Mem.openFileS_fits ..)

theorem wf_mkdirs {m : FMap} (h : WF m) (l : List Str) : WF (Mem.mkdirs m l).2 := by
  induction l generalizing m with
  | nil => exact h
  | cons d rest ih =>
    unfold Mem.mkdirs
    have := h.createDir_any d
    cases hc : Mem.createDir m d with
    | mk r m' =>
      rw [hc] at this
      cases r with
      | ok a => exact ih this
      | err e pth => cases e <;> first | exact ih this | exact this
      | panic => exact this

/-! ### `create_dir_all` on a chain of ancestors -/

/-- add a fresh directory entry at every listed key that is absent -/
def fillDirs (m : FMap) : List Str → FMap
  | [] => m
  | k :: ks => fillDirs (if m.contains k then m else m.insert k dirEntryNow) ks

theorem find?_fillDirs (m : FMap) (ks : List Str) (q : Str) :
    (fillDirs m ks).find? q = (m.find? q).or (if q ∈ ks then some dirEntryNow else none) := by
  induction ks generalizing m with
  | nil => simp [fillDirs]
  | cons k ks ih =>
    rw [fillDirs, ih]
    by_cases hk : m.contains k = true
    · rw [if_pos hk]
      by_cases hq : q = k
      · subst hq
        obtain ⟨e, he⟩ := (FMap.contains_iff m q).1 hk
        simp [he]
      · simp [hq]
    · rw [if_neg hk, FMap.find?_insert]
      by_cases hq : q = k
      · subst hq
        have : m.find? q = none := find?_none_of_contains (Bool.eq_false_iff.2 hk)
        simp [this]
      · simp [hq]

theorem contains_fillDirs_of_contains (m : FMap) (ks : List Str) (q : Str)
    (h : m.contains q = true) : (fillDirs m ks).contains q = true := by
  obtain ⟨e, he⟩ := (FMap.contains_iff m q).1 h
  rw [FMap.contains_iff]
  exact ⟨e, by rw [find?_fillDirs, he]; rfl⟩

theorem find?_fillDirs_not_mem (m : FMap) (ks : List Str) (q : Str) (h : q ∉ ks) :
    (fillDirs m ks).find? q = m.find? q := by
  rw [find?_fillDirs, if_neg h]; simp

theorem nodup_fillDirs {m : FMap} (h : FMap.NodupKeys m) (ks : List Str) :
    FMap.NodupKeys (fillDirs m ks) := by
  induction ks generalizing m with
  | nil => exact h
  | cons k ks ih =>
    rw [fillDirs]
    split
    · exact ih h
    · exact ih (FMap.nodup_insert m k _ h)

/-- on EVERY list of keys the loop leaves `fillDirs` of a prefix: it stops at the first key that is a
file or has no directory as parent, and changes nothing there -/
theorem mkdirs_fill (m : FMap) (ks : List Str) :
    ∃ j, j ≤ ks.length ∧ (Mem.mkdirs m ks).2 = fillDirs m (ks.take j) ∧
      ((Mem.mkdirs m ks).1 = .ok () → j = ks.length) := by
  induction ks generalizing m with
  | nil => exact ⟨0, Nat.le_refl _, rfl, fun _ => rfl⟩
  | cons d rest ih =>
    have stop : ∀ {k : ErrKind} {pth : Option Str}, k ≠ .dirExists →
        Mem.createDir m d = (.err k pth, m) → ∃ j, j ≤ (d :: rest).length ∧
          (Mem.mkdirs m (d :: rest)).2 = fillDirs m ((d :: rest).take j) ∧
          ((Mem.mkdirs m (d :: rest)).1 = .ok () → j = (d :: rest).length) := by
      intro k pth hk hc
      refine ⟨0, Nat.zero_le _, ?_, ?_⟩ <;> rw [Mem.mkdirs, hc] <;> cases k <;> simp_all [fillDirs]
    rw [Mem.createDir_eq] at stop
    cases hp : Mem.par m d with
    | false => exact stop (k := .other) (pth := none) (by decide) (by simp [Mem.createDirS, hp, onSlot, Write.app, fail])
    | true =>
      rcases hf : m.find? d with _ | ⟨⟨_ | _, c, cr, mo, ac⟩⟩
      · obtain ⟨j, hj, h1, h2⟩ := ih (m.insert d dirEntryNow)
        refine ⟨j + 1, Nat.succ_le_succ hj, ?_, ?_⟩ <;>
          simp only [Mem.mkdirs, Mem.createDir_eq, hp, hf, Mem.createDirS, if_true, onSlot, Write.app,
            List.take_succ_cons, fillDirs, contains_of_none hf, Bool.false_eq_true, if_false,
            List.length_cons, Nat.add_right_cancel_iff]
        · exact h1
        · exact h2
      · exact stop (k := .fileExists) (pth := none) (by decide)
          (by simp [Mem.createDirS, hp, hf, onSlot, Write.app, fail])
      · obtain ⟨j, hj, h1, h2⟩ := ih m
        refine ⟨j + 1, Nat.succ_le_succ hj, ?_, ?_⟩ <;>
          simp only [Mem.mkdirs, Mem.createDir_eq, hp, hf, Mem.createDirS, if_true, onSlot, Write.app,
            List.take_succ_cons, fillDirs, contains_of_find hf, reduceCtorEq, if_false, fail,
            List.length_cons, Nat.add_right_cancel_iff]
        · exact h1
        · exact h2

/-- on a chain of ancestors none of which is a file, below an existing directory, the loop fills in
the missing directories -/
theorem mkdirs_chain (m : FMap) (pre cs : List Str) (hpre : ∀ c ∈ pre, '/' ∉ c)
    (hcs : ∀ c ∈ cs, '/' ∉ c)
    (hroot : ∃ e, m.find? (renderC pre) = some e ∧ e.ftype = .dir)
    (hdirs : ∀ k ∈ chain pre cs, ∀ e, m.find? k = some e → e.ftype = .dir) :
    Mem.mkdirs m (chain pre cs) = (.ok (), fillDirs m (chain pre cs)) := by
  induction cs generalizing pre m with
  | nil => rfl
  | cons c cs ih =>
    have hpre' : ∀ x ∈ pre ++ [c], '/' ∉ x := by
      intro x hx; simp at hx; rcases hx with hx | rfl
      · exact hpre x hx
      · exact hcs x (by simp)
    have hsl : '/' ∈ renderC (pre ++ [c]) := slash_mem_renderC (by simp)
    have hpar : ∃ pe, m.find? (parentInternal (renderC (pre ++ [c]))) = some pe ∧ pe.ftype = .dir := by
      rw [parentInternal_renderC _ hpre', List.dropLast_concat]; exact hroot
    rcases Option.eq_none_or_eq_some (m.find? (renderC (pre ++ [c]))) with hf | ⟨e, hf⟩
    · simp only [chain, Mem.mkdirs, fillDirs, Mem.createDir_fresh m _ hsl hpar hf,
        contains_of_none hf, Bool.false_eq_true, if_false]
      apply ih _ (pre ++ [c]) hpre' (fun x hx => hcs x (by simp [hx]))
      · exact ⟨dirEntryNow, FMap.find?_insert_self _ _ _, rfl⟩
      · intro k hk e he
        rw [FMap.find?_insert] at he
        split at he
        · injection he with he; subst he; rfl
        · exact hdirs k (by simp [chain, hk]) e he
    · have hd : e.ftype = .dir := hdirs _ (by simp [chain]) e hf
      simp only [chain, Mem.mkdirs, fillDirs, Mem.createDir_present m _ e hsl hpar hf, hd,
        contains_of_find hf, if_true, reduceCtorEq, if_false, fail]
      exact ih _ (pre ++ [c]) hpre' (fun x hx => hcs x (by simp [hx])) ⟨e, hf, hd⟩
        (fun k hk e' he' => hdirs k (by simp [chain, hk]) e' he')

theorem mkdirs_ok_eq {m m' : FMap} {ks : List Str} (h : Mem.mkdirs m ks = (.ok (), m')) :
    m' = fillDirs m ks := by
  obtain ⟨j, _, hj, hok⟩ := mkdirs_fill m ks
  rw [h] at hj hok
  rw [hok rfl, List.take_length] at hj; exact hj

/-! ### removals -/

/-- a removal: when it succeeds the key is erased, otherwise nothing changes. (The overlay
lemmas about a removal in the upper layer take `Mem.Erasing f` as their hypothesis on the removing
operation `f`; `Mem.erasing_removeFile`, `Mem.erasing_removeDir` are the two instances.) -/
def Mem.Erasing (f : FMap → Str → Res Unit × FMap) : Prop :=
  ∀ m p, ((f m p).1 = .ok () ∧ (f m p).2 = m.erase p) ∨ ((f m p).1 ≠ .ok () ∧ (f m p).2 = m)

theorem Mem.erasing_removeFile : Mem.Erasing Mem.pRemoveFile := by
  intro m p
  rw [Mem.pRemoveFile_eq]
  rcases m.find? p with _ | ⟨⟨_ | _, _, _, _, _⟩⟩ <;> simp [Mem.removeFileS, Write.app, fail, Res.withPath]

theorem Mem.erasing_removeDir : Mem.Erasing Mem.pRemoveDir := by
  intro m p
  rw [Mem.pRemoveDir_eq]
  cases Mem.kids m p <;> rcases m.find? p with _ | ⟨⟨_ | _, _, _, _, _⟩⟩ <;>
    simp [Mem.removeDirS, Write.app, fail, Res.withPath]

/-! ### the prefixes visited by `create_dir_all` -/

theorem dirPrefixes_cons (x : Char) (s : Str) :
    VPath.dirPrefixes (x :: s) = (cuts s).map (x :: ·) := by
  unfold VPath.dirPrefixes cuts
  rw [List.length_cons, range_filter_map_succ, List.map_map]
  have h0 : decide (1 ≤ 0 ∧ (0 = s.length + 1 ∨ (x :: s)[0]? = some '/')) = false := by simp
  rw [h0]
  simp only [Bool.false_eq_true, if_false, List.nil_append]
  have hf : (List.range (s.length + 1)).filter
        (fun e => decide (1 ≤ e + 1 ∧ (e + 1 = s.length + 1 ∨ (x :: s)[e + 1]? = some '/')))
      = (List.range (s.length + 1)).filter
        (fun e => decide (e = s.length ∨ s[e]? = some '/')) := by
    apply List.filter_congr
    intro e _
    simp
  rw [hf]
  apply List.map_congr_left
  intro e _
  simp

/-- appending one slash-free component adds exactly one visited prefix: the whole path -/
theorem dirPrefixes_snoc (a c : Str) (hc : '/' ∉ c) :
    VPath.dirPrefixes (a ++ '/' :: c) = VPath.dirPrefixes a ++ [a ++ '/' :: c] := by
  cases a with
  | nil => rw [List.nil_append, dirPrefixes_cons, cuts_noSlash c hc]; rfl
  | cons x s =>
    rw [List.cons_append, dirPrefixes_cons, cuts_snoc s c hc, dirPrefixes_cons, List.map_append]
    rfl

/-- the prefixes visited by `create_dir_all` on `/c1/…/cn` are exactly the ancestor chain -/
theorem dirPrefixes_renderC_ancChain (cs : List Str) (h : ∀ c ∈ cs, '/' ∉ c) :
    VPath.dirPrefixes (renderC cs) = ancChain cs := by
  revert h
  refine snoc_induction (P := fun cs => (∀ c ∈ cs, '/' ∉ c) → VPath.dirPrefixes (renderC cs) = ancChain cs)
    ?_ ?_ cs
  · intro _; decide
  · intro l c ih h
    rw [renderC_snoc, dirPrefixes_snoc _ _ (h c (by simp)), ancChain_snoc, renderC_snoc,
      ih (fun x hx => h x (by simp [hx]))]

theorem dirPrefixes_renderC (cs : List Str) (hcs : ∀ c ∈ cs, '/' ∉ c) :
    VPath.dirPrefixes (renderC cs) = chain [] cs := by
  rw [dirPrefixes_renderC_ancChain cs hcs, ancChain_eq_chain]

/-- `create_dir_all` at a canonical path is the loop over its prefixes (none at the root) -/
theorem VPath.createDirAll_canon (v : VPath) {cs : List Str} (hcs : ∀ c ∈ cs, GoodComp c)
    (hv : v.path = renderC cs) : v.createDirAll = VPath.createDirAllLoop v (chain [] cs) := by
  unfold VPath.createDirAll
  rw [hv, dirPrefixes_renderC _ (good_noSlash hcs)]
  cases cs with
  | nil => rfl
  | cons c cs => rw [if_neg (by simp)]

end Vfs
