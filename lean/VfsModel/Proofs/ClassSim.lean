/-
C02 ("MemoryFS is a faithful stand-in for PhysicalFS") under adapters, by simulation.

The calculus of Proofs/Sim.lean relates two runs with EQUAL error kinds, EQUAL metadata and EQUAL
listings; none of the three holds between a memory leaf and a physical leaf (`Other` vs `IoError`,
timestamps, storage order of the association list: `Mem.openFile` moves the key it stamps to the
front). Here is the CLASS variant: `CSim R KR Q` relates outcomes up to a relation `KR` on error
kinds (`KRel` for memory/physical) and ignores error PATHS altogether, they are message text
(`PathEq`: computations that differ only in those paths are interchangeable). `CRes KR`/`CSim` ARE the
instance `clsK KR` of the calculus of Proofs/Rel.lean (`cRes_iff`, `cSim_iff`), from which the loop of
`create_dir_all` is taken, and the overlay in Proofs/ClassSimOverlay.lean. `SimC`/`SimW` is the
interface of a filesystem at the level of closed write sessions; the `VfsPath` operations that do not
iterate over listings, and the altroot (`Altroot.simC`, `Altroot.simW`), are parametric in it
(`SimA`: the append sessions alone, which `VfsPath` and the altroot hand through whatever else holds). The
overlay is in Proofs/ClassSimOverlay.lean, the instance (memory leaf left, physical leaf right) in
Proofs/MemPhysSim.lean.

Recurring hypotheses: the SAME canonical path string on both sides (`Canon`); `create_dir` and
`remove_dir` away from the root "".

Not here: the operations that iterate over a listing (listings agree as sets only, so the two runs
visit the entries in different orders) and `copy_file`, `move_file`, `append_file` of an overlay: see
Props/C02Iter.lean. With a DIRECTORY as source `copy_file` really diverges: memory fails in
`open_file`; the host opens the directory, creates the destination, then the read fails
(`copy_dir_source_diverges`, Props/C02Stack.lean). The time setters are left out
(`set_creation_time` is unsupported on the physical backend).
-/
import VfsModel.Proofs.SubtreeSim
import VfsModel.Proofs.PhysPath
namespace Vfs.C02

/-- error kinds of a memory run (left) and a physical run (right) are in the same class:
equal, or both "other failures" where the memory side may also say not-found (an entry below
a file: `ENOTDIR` on the host), or the trait-level `create_dir`/`create_file` below a missing
parent (`Other` in memory, `ENOENT` on the host; the `VfsPath` layer never gets there, its
parent probe fails first).  Already-exists (file/directory), invalid-path and not-supported
always match exactly, and a not-found of the host is a not-found or `Other` in memory. -/
def KRel (km kp : ErrKind) : Prop :=
  km = kp ∨ ((kp = .io ∨ kp = .other) ∧ (km = .io ∨ km = .other ∨ km = .fileNotFound))
    ∨ (km = .other ∧ kp = .fileNotFound)

instance : DecidableRel KRel := fun a b => by unfold KRel; exact inferInstance

theorem KRel.soft {km kp : ErrKind} (h1 : km = .fileNotFound ∨ km = .other)
    (h2 : kp = .io ∨ kp = .other ∨ kp = .fileNotFound) : KRel km kp := by
  unfold KRel
  rcases h1 with rfl | rfl <;> rcases h2 with rfl | rfl | rfl <;> simp

theorem KRel.notFound_host {k : ErrKind} (hk : k = .io ∨ k = .fileNotFound) : KRel .fileNotFound k :=
  KRel.soft (Or.inl rfl) (hk.elim Or.inl fun h => Or.inr (Or.inr h))

theorem KRel.other_host {k : ErrKind} (hk : k = .io ∨ k = .fileNotFound) : KRel .other k :=
  KRel.soft (Or.inr rfl) (hk.elim Or.inl fun h => Or.inr (Or.inr h))

class GoodKR (KR : ErrKind → ErrKind → Prop) : Prop where
  refl : ∀ k, KR k k
  dirExists : ∀ k1 k2, KR k1 k2 → (k1 = .dirExists ↔ k2 = .dirExists)

instance : GoodKR (· = ·) := ⟨fun _ => rfl, fun _ _ h => by rw [h]⟩
instance : GoodKR KRel where
  refl _ := Or.inl rfl
  dirExists k1 k2 h := by
    unfold KRel at h
    rcases h with rfl | ⟨h1 | h1, h2 | h2 | h2⟩ | ⟨h1, h2⟩ <;> simp_all

theorem KRel.exact {km kp : ErrKind} (h : KRel km kp) :
    (km = .fileExists ↔ kp = .fileExists) ∧ (km = .dirExists ↔ kp = .dirExists) ∧
    (km = .invalidPath ↔ kp = .invalidPath) ∧ (km = .notSupported ↔ kp = .notSupported) ∧
    (kp = .fileNotFound → km = .fileNotFound ∨ km = .other) := by
  unfold KRel at h
  rcases h with rfl | ⟨h1 | h1, h2 | h2 | h2⟩ | ⟨h1, h2⟩ <;> simp_all

inductive CRes {α β : Type} (KR : ErrKind → ErrKind → Prop) (Q : α → β → Prop) :
    Res α → Res β → Prop
  | ok {a : α} {b : β} : Q a b → CRes KR Q (.ok a) (.ok b)
  | err {k1 k2 : ErrKind} {p1 p2 : Option Str} : KR k1 k2 → CRes KR Q (.err k1 p1) (.err k2 p2)
  | panic : CRes KR Q .panic .panic

def CSim {α β : Type} (R : World → World → Prop) (KR : ErrKind → ErrKind → Prop)
    (Q : α → β → Prop) (m1 : M α) (m2 : M β) : Prop :=
  ∀ w1 w2, R w1 w2 → CRes KR Q (m1 w1).1 (m2 w2).1 ∧ R (m1 w1).2 (m2 w2).2

namespace CRes
variable {α β : Type} {KR : ErrKind → ErrKind → Prop} {Q : α → β → Prop}

theorem mono {Q' : α → β → Prop} {r1 : Res α} {r2 : Res β} (h : CRes KR Q r1 r2)
    (hq : ∀ a b, Q a b → Q' a b) : CRes KR Q' r1 r2 := by
  cases h with
  | ok h => exact .ok (hq _ _ h)
  | err h => exact .err h
  | panic => exact .panic

theorem monoK {KR' : ErrKind → ErrKind → Prop} {r1 : Res α} {r2 : Res β} (h : CRes KR Q r1 r2)
    (hk : ∀ a b, KR a b → KR' a b) : CRes KR' Q r1 r2 := by
  cases h with
  | ok h => exact .ok h
  | err h => exact .err (hk _ _ h)
  | panic => exact .panic

theorem refl [GoodKR KR] {Q : α → α → Prop} (hq : ∀ a, Q a a) (r : Res α) : CRes KR Q r r := by
  cases r with
  | ok a => exact .ok (hq a)
  | err k p => exact .err (GoodKR.refl k)
  | panic => exact .panic

theorem withPath {r1 : Res α} {r2 : Res β} (p q : Str) (h : CRes KR Q r1 r2) :
    CRes KR Q (r1.withPath p) (r2.withPath q) := by
  cases h with
  | ok h => exact .ok h
  | err h => exact .err h
  | panic => exact .panic

theorem isOk_eq {r1 : Res α} {r2 : Res β} (h : CRes KR Q r1 r2) : r1.isOk = r2.isOk := by
  cases h <;> rfl

theorem isPanic_eq {r1 : Res α} {r2 : Res β} (h : CRes KR Q r1 r2) : r1.isPanic = r2.isPanic := by
  cases h <;> rfl

theorem map {γ δ : Type} {Q' : γ → δ → Prop} {r1 : Res α} {r2 : Res β} {f : α → γ} {g : β → δ}
    (h : CRes KR Q r1 r2) (hf : ∀ a b, Q a b → Q' (f a) (g b)) :
    CRes KR Q' (r1.map f) (r2.map g) := by
  cases h with
  | ok h => exact .ok (hf _ _ h)
  | err h => exact .err h
  | panic => exact .panic

end CRes

namespace CSim
variable {α β γ δ : Type} {R : World → World → Prop} {KR : ErrKind → ErrKind → Prop}
  {Q : α → β → Prop}

theorem pure {a : α} {b : β} (h : Q a b) : CSim R KR Q (Pure.pure a : M α) (Pure.pure b : M β) :=
  fun _ _ hr => ⟨.ok h, hr⟩

theorem ret {r1 : Res α} {r2 : Res β} (h : CRes KR Q r1 r2) : CSim R KR Q (M.ret r1) (M.ret r2) :=
  fun _ _ hr => ⟨h, hr⟩

theorem panic : CSim R KR Q (M.ret .panic : M α) (M.ret .panic : M β) := ret .panic

theorem failK [GoodKR KR] (k : ErrKind) : CSim R KR Q (M.failK k : M α) (M.failK k : M β) :=
  fun _ _ hr => ⟨.err (GoodKR.refl k), hr⟩

theorem failAt [GoodKR KR] (k : ErrKind) (p q : Str) :
    CSim R KR Q (M.failAt k p : M α) (M.failAt k q : M β) :=
  fun _ _ hr => ⟨.err (GoodKR.refl k), hr⟩

theorem bind_at {Q' : γ → δ → Prop} {m1 : M α} {m2 : M β} {f : α → M γ} {g : β → M δ} {w1 w2 : World}
    (hm : CRes KR Q (m1 w1).1 (m2 w2).1 ∧ R (m1 w1).2 (m2 w2).2)
    (hf : ∀ a b, (m1 w1).1 = .ok a → Q a b → R (m1 w1).2 (m2 w2).2 →
      CRes KR Q' (f a (m1 w1).2).1 (g b (m2 w2).2).1 ∧ R (f a (m1 w1).2).2 (g b (m2 w2).2).2) :
    CRes KR Q' ((m1 >>= f) w1).1 ((m2 >>= g) w2).1 ∧ R ((m1 >>= f) w1).2 ((m2 >>= g) w2).2 := by
  show CRes KR Q' (M.bind m1 f w1).1 (M.bind m2 g w2).1 ∧ R (M.bind m1 f w1).2 (M.bind m2 g w2).2
  unfold M.bind
  revert hm hf
  generalize m1 w1 = x1
  generalize m2 w2 = x2
  intro ⟨h1, h2⟩ hf
  obtain ⟨r1, w1'⟩ := x1
  obtain ⟨r2, w2'⟩ := x2
  cases h1 with
  | ok hq => exact hf _ _ rfl hq h2
  | err hp => exact ⟨.err hp, h2⟩
  | panic => exact ⟨.panic, h2⟩

theorem bind {Q' : γ → δ → Prop} {m1 : M α} {m2 : M β} {f : α → M γ} {g : β → M δ}
    (hm : CSim R KR Q m1 m2) (hf : ∀ a b, Q a b → CSim R KR Q' (f a) (g b)) :
    CSim R KR Q' (m1 >>= f) (m2 >>= g) :=
  fun w1 w2 hr => bind_at (hm w1 w2 hr) fun a b _ hq h2 => hf a b hq _ _ h2

theorem bind_eq {Q' : γ → δ → Prop} {m1 m2 : M α} {f : α → M γ} {g : α → M δ}
    (hm : CSim R KR (· = ·) m1 m2) (hf : ∀ a, CSim R KR Q' (f a) (g a)) :
    CSim R KR Q' (m1 >>= f) (m2 >>= g) :=
  bind hm (fun a b hab => by cases hab; exact hf a)

theorem withPath (p q : Str) {m1 : M α} {m2 : M β} (h : CSim R KR Q m1 m2) :
    CSim R KR Q (M.withPath p m1) (M.withPath q m2) := by
  intro w1 w2 hr
  obtain ⟨h1, h2⟩ := h w1 w2 hr
  exact ⟨h1.withPath p q, h2⟩

theorem ite {c : Prop} [Decidable c] {a1 b1 : M α} {a2 b2 : M β}
    (ha : c → CSim R KR Q a1 a2) (hb : ¬c → CSim R KR Q b1 b2) :
    CSim R KR Q (if c then a1 else b1) (if c then a2 else b2) := by
  by_cases hc : c
  · rw [if_pos hc, if_pos hc]; exact ha hc
  · rw [if_neg hc, if_neg hc]; exact hb hc

theorem mono {Q' : α → β → Prop} {m1 : M α} {m2 : M β} (h : CSim R KR Q m1 m2)
    (hq : ∀ a b, Q a b → Q' a b) : CSim R KR Q' m1 m2 :=
  fun w1 w2 hr => ⟨(h w1 w2 hr).1.mono hq, (h w1 w2 hr).2⟩

theorem monoK {KR' : ErrKind → ErrKind → Prop} {m1 : M α} {m2 : M β} (h : CSim R KR Q m1 m2)
    (hk : ∀ a b, KR a b → KR' a b) : CSim R KR' Q m1 m2 :=
  fun w1 w2 hr => ⟨(h w1 w2 hr).1.monoK hk, (h w1 w2 hr).2⟩

theorem ofEq [GoodKR KR] {m1 : M α} {m2 : M β} (h : CSim R (· = ·) Q m1 m2) : CSim R KR Q m1 m2 :=
  h.monoK (fun a b e => by cases e; exact GoodKR.refl a)

end CSim

/-! ### the instance `clsK KR` of Proofs/Rel.lean -/
section inst
variable {α β : Type} {KR : ErrKind → ErrKind → Prop} {Q : α → β → Prop}

theorem cRes_iff {r1 : Res α} {r2 : Res β} : CRes KR Q r1 r2 ↔ ORel (clsK KR) Q r1 r2 := by
  constructor
  · intro h
    cases h with
    | ok h => exact .ok h
    | err h => exact .err h
    | panic => exact .panic
  · intro h
    cases h with
    | ok h => exact .ok h
    | err h => exact .err h
    | panic => exact .panic

theorem cSim_iff {R : World → World → Prop} {m1 : M α} {m2 : M β} :
    CSim R KR Q m1 m2 ↔ GSim R (clsK KR) Q m1 m2 :=
  forall_congr' fun _ => forall_congr' fun _ => imp_congr_right fun _ => and_congr_left' cRes_iff

instance [GoodKR KR] : (clsK KR).Good where
  refl k _ := GoodKR.refl k

end inst

/-- the same outcome, up to the path label of a failure -/
def ResPE {α : Type} (r r' : Res α) : Prop :=
  r = r' ∨ ∃ k p p', r = .err k p ∧ r' = .err k p'

/-- `m` and `m'` do the same to every world and answer alike up to the path label of a failure. An
equivalence (`refl`, `symm`, `trans`), a congruence for `>>=` and `with_path` erased (`withPath`);
`CSim`, which ignores labels, cannot tell such computations apart (`CSim.of_pathEq`): this is how a
`VfsPath` operation is brought to the trait-level session it wraps. -/
def PathEq {α : Type} (m m' : M α) : Prop := ∀ w, (m w).2 = (m' w).2 ∧ ResPE (m w).1 (m' w).1

theorem CRes.of_resPE {α β : Type} {KR : ErrKind → ErrKind → Prop} {Q : α → β → Prop}
    {r1 r1' : Res α} {r2 r2' : Res β} (h1 : ResPE r1' r1) (h2 : ResPE r2' r2)
    (h : CRes KR Q r1 r2) : CRes KR Q r1' r2' := by
  rcases h1 with rfl | ⟨k, p, p', rfl, rfl⟩ <;> rcases h2 with rfl | ⟨k', q, q', rfl, rfl⟩
  · exact h
  · cases h with | err hk => exact .err hk
  · cases h with | err hk => exact .err hk
  · cases h with | err hk => exact .err hk

namespace PathEq
variable {α β : Type}

theorem refl (m : M α) : PathEq m m := fun _ => ⟨rfl, Or.inl rfl⟩

theorem symm {m m' : M α} (h : PathEq m m') : PathEq m' m := by
  intro w
  obtain ⟨h1, h2⟩ := h w
  refine ⟨h1.symm, ?_⟩
  rcases h2 with h2 | ⟨k, p, p', e1, e2⟩
  · exact Or.inl h2.symm
  · exact Or.inr ⟨k, p', p, e2, e1⟩

theorem withPath (s : Str) (m : M α) : PathEq (M.withPath s m) m := by
  intro w
  rw [M.withPath_run]
  rcases m w with ⟨r, w'⟩
  refine ⟨rfl, ?_⟩
  cases r with
  | ok a => exact Or.inl rfl
  | err k p => exact Or.inr ⟨k, _, _, rfl, rfl⟩
  | panic => exact Or.inl rfl

theorem bind_left {m m' : M α} (h : PathEq m m') (k : α → M β) : PathEq (m >>= k) (m' >>= k) := by
  intro w
  show (M.bind m k w).2 = (M.bind m' k w).2 ∧ ResPE (M.bind m k w).1 (M.bind m' k w).1
  unfold M.bind
  obtain ⟨h1, h2⟩ := h w
  rcases e1 : m w with ⟨r, w'⟩
  rcases e2 : m' w with ⟨r', w''⟩
  rw [e1, e2] at h1 h2
  simp only at h1 h2
  subst h1
  rcases h2 with rfl | ⟨k', p, p', rfl, rfl⟩
  · cases r <;> exact ⟨rfl, Or.inl rfl⟩
  · exact ⟨rfl, Or.inr ⟨k', p, p', rfl, rfl⟩⟩

theorem bind_right (m : M α) {k k' : α → M β} (h : ∀ a, PathEq (k a) (k' a)) :
    PathEq (m >>= k) (m >>= k') := by
  intro w
  show (M.bind m k w).2 = (M.bind m k' w).2 ∧ ResPE (M.bind m k w).1 (M.bind m k' w).1
  unfold M.bind
  rcases e1 : m w with ⟨r, w'⟩
  cases r with
  | ok a => exact h a w'
  | err k p => exact ⟨rfl, Or.inl rfl⟩
  | panic => exact ⟨rfl, Or.inl rfl⟩

theorem withPath_bind (s : Str) (m : M α) (k : α → M β) : PathEq (M.withPath s m >>= k) (m >>= k) :=
  bind_left (withPath s m) k

end PathEq

theorem PathEq.cres_at {α β : Type} {R : World → World → Prop} {KR : ErrKind → ErrKind → Prop}
    {Q : α → β → Prop} {m1 m1' : M α} {m2 m2' : M β} (h1 : PathEq m1' m1) (h2 : PathEq m2' m2)
    {w1 w2 : World} (h : CRes KR Q (m1 w1).1 (m2 w2).1 ∧ R (m1 w1).2 (m2 w2).2) :
    CRes KR Q (m1' w1).1 (m2' w2).1 ∧ R (m1' w1).2 (m2' w2).2 := by
  obtain ⟨a1, a2⟩ := h1 w1
  obtain ⟨b1, b2⟩ := h2 w2
  rw [a1, b1]
  exact ⟨CRes.of_resPE a2 b2 h.1, h.2⟩

theorem CSim.of_pathEq {α β : Type} {R : World → World → Prop} {KR : ErrKind → ErrKind → Prop}
    {Q : α → β → Prop} {m1 m1' : M α} {m2 m2' : M β} (h1 : PathEq m1' m1) (h2 : PathEq m2' m2)
    (h : CSim R KR Q m1 m2) : CSim R KR Q m1' m2' :=
  fun w1 w2 hr => PathEq.cres_at h1 h2 (h w1 w2 hr)

theorem M.bind_pure3 {α : Type} (m : M α) : (m >>= fun a => (Pure.pure a : M α)) = m :=
  M.bind_pure m

def runScript (h : WHandle) : List Bytes → M WHandle
  | [] => pure h
  | bs :: rest => h.write bs >>= fun r => runScript r.2 rest

def finish (h : WHandle) (script : List Bytes) : M Unit := runScript h script >>= fun h' => h'.drop

/-- `create_file`, the writes, drop, on the trait object; `C02.VPath.createSession` below is the same
through `VfsPath` (as for `appendSession`, `readAll`, `createClear`), equal up to labels
(`VPath.createSession_pathEq`) -/
def createSession (fs : FS) (p : Str) (script : List Bytes) : M Unit :=
  fs.createFile p >>= fun h => finish h script

def appendSession (fs : FS) (p : Str) (script : List Bytes) : M Unit :=
  fs.appendFile p >>= fun h => finish h script

def clearAt (fs : FS) (q : Str) : M Unit :=
  fs.exists_ q >>= fun ex => if ex = true then fs.removeFile q else pure ()

/-- `clear_whiteout` of overlay.rs (finding O11, DESIGN.md): a marker that vanished between the probe
and the removal is not an error -/
def clearAtT (fs : FS) (q : Str) : M Unit :=
  fs.exists_ q >>= fun ex => if ex = true then tolerate (fs.removeFile q) else pure ()

theorem PathEq.tolerate {m m' : M Unit} (h : PathEq m m') : PathEq (tolerate m) (tolerate m') := by
  intro w
  obtain ⟨h1, h2⟩ := h w
  unfold C02.tolerate
  rcases e1 : m w with ⟨r, w'⟩
  rcases e2 : m' w with ⟨r', w''⟩
  rw [e1, e2] at h1 h2
  simp only at h1 h2
  subst h1
  rcases h2 with rfl | ⟨k, p, p', rfl, rfl⟩
  · exact ⟨rfl, Or.inl rfl⟩
  · cases k <;> first | exact ⟨rfl, Or.inl rfl⟩ | exact ⟨rfl, Or.inr ⟨_, p, p', rfl, rfl⟩⟩

/-- the session of `OverlayFS::create_file`: the marker is cleared while the handle is open -/
def createClear (fs : FS) (p q : Str) (script : List Bytes) : M Unit :=
  fs.createFile p >>= fun h => clearAt fs q >>= fun _ => finish h script

def readAll (fs : FS) (p : Str) : M Bytes := fs.openFile p >>= fun h => M.ret h.readToEnd.1

def MetaRel (m1 m2 : Meta) : Prop := m1.ftype = m2.ftype ∧ (m1.ftype = .file → m1.len = m2.len)

def NamesSet (l1 l2 : List Str) : Prop := (∀ n, n ∈ l1 ↔ n ∈ l2) ∧ ∀ n ∈ l1, GoodComp n

/-- related filesystems. Write handles occur only inside closed sessions (`create_file`, the writes
of the script in order, drop): a `MemoryFS` handle buffers until it is dropped, a `PhysicalFS`
handle writes through, so the worlds are related between sessions only. `createOnly` is a
`create_file` whose handle is never written. -/
structure SimC (R : World → World → Prop) (fs1 fs2 : FS) : Prop where
  exists_ : ∀ p, Canon p → CSim R (· = ·) (· = ·) (fs1.exists_ p) (fs2.exists_ p)
  metadata : ∀ p, Canon p → CSim R KRel MetaRel (fs1.metadata p) (fs2.metadata p)
  readDir : ∀ p, Canon p → CSim R KRel NamesSet (fs1.readDir p) (fs2.readDir p)
  readAll : ∀ p, Canon p → CSim R KRel (· = ·) (readAll fs1 p) (readAll fs2 p)
  createDir : ∀ p, Canon p → p ≠ [] → CSim R KRel (· = ·) (fs1.createDir p) (fs2.createDir p)
  removeFile : ∀ p, Canon p → CSim R KRel (· = ·) (fs1.removeFile p) (fs2.removeFile p)
  removeDir : ∀ p, Canon p → p ≠ [] → CSim R KRel (· = ·) (fs1.removeDir p) (fs2.removeDir p)
  createOnly : ∀ p, Canon p →
    CSim R KRel (fun _ _ => True) (fs1.createFile p) (fs2.createFile p)
  createSession : ∀ p s, Canon p → CSim R KRel (· = ·) (createSession fs1 p s) (createSession fs2 p s)

/-- what the write layer of an overlay needs in addition. `clearT` is `clear_whiteout` as
`OverlayFS::create_dir` calls it; probe and tolerant removal are ONE field because the kinds of
`remove_file` alone agree only up to `KRel`, which does not preserve `FileNotFound`. -/
structure SimW (R : World → World → Prop) (fs1 fs2 : FS) : Prop extends SimC R fs1 fs2 where
  appendSession : ∀ p s, Canon p → CSim R KRel (· = ·) (appendSession fs1 p s) (appendSession fs2 p s)
  createClear : ∀ p q s, Canon p → Canon q →
    CSim R KRel (· = ·) (createClear fs1 p q s) (createClear fs2 p q s)
  clearT : ∀ q, Canon q → CSim R KRel (· = ·) (clearAtT fs1 q) (clearAtT fs2 q)

/-- the append sessions alone: what `VfsPath::append_file` and an altroot hand through, whatever else
the filesystem is related for (an overlay is related for them without being a `SimW`) -/
def SimA (R : World → World → Prop) (fs1 fs2 : FS) : Prop :=
  ∀ p s, Canon p → CSim R KRel (· = ·) (appendSession fs1 p s) (appendSession fs2 p s)

structure SimVC (R : World → World → Prop) (v1 v2 : VPath) : Prop where
  fs : SimC R v1.fs v2.fs
  path : v2.path = v1.path
  canon : Canon v1.path

structure SimVW (R : World → World → Prop) (v1 v2 : VPath) : Prop where
  fs : SimW R v1.fs v2.fs
  path : v2.path = v1.path
  canon : Canon v1.path

section param
variable {R : World → World → Prop}

theorem SimVW.toC {v1 v2 : VPath} (h : SimVW R v1 v2) : SimVC R v1 v2 := ⟨h.fs.toSimC, h.path, h.canon⟩

theorem SimVC.withStr {v1 v2 : VPath} (h : SimVC R v1 v2) (s : Str) (hs : Canon s) :
    SimVC R (v1.withStr s) (v2.withStr s) := ⟨h.fs, rfl, hs⟩

theorem SimVW.withStr {v1 v2 : VPath} (h : SimVW R v1 v2) (s : Str) (hs : Canon s) :
    SimVW R (v1.withStr s) (v2.withStr s) := ⟨h.fs, rfl, hs⟩

theorem SimVC.parent {v1 v2 : VPath} (h : SimVC R v1 v2) : SimVC R v1.parent v2.parent := by
  unfold VPath.parent
  rw [h.path]
  exact h.withStr _ (C06.parent_canonical _ h.canon)

theorem SimVW.join {v1 v2 : VPath} (h : SimVW R v1 v2) (arg : Str) :
    CRes (· = ·) (SimVW R) (v1.join arg) (v2.join arg) := by
  unfold VPath.join
  rw [h.path]
  cases hj : joinInternal v1.path arg with
  | ok r => exact .ok (h.withStr r (C06.join_canonical _ _ _ h.canon hj))
  | err k p => exact .err rfl
  | panic => exact .panic

namespace VPath

theorem sim_exists {v1 v2 : VPath} (h : SimVC R v1 v2) :
    CSim R (· = ·) (· = ·) v1.exists_ v2.exists_ := by
  unfold VPath.exists_; rw [h.path]; exact h.fs.exists_ _ h.canon

theorem sim_metadata {v1 v2 : VPath} (h : SimVC R v1 v2) :
    CSim R KRel MetaRel v1.metadata v2.metadata := by
  unfold VPath.metadata; rw [h.path]; exact CSim.withPath _ _ (h.fs.metadata _ h.canon)

theorem sim_isFile {v1 v2 : VPath} (h : SimVC R v1 v2) : CSim R KRel (· = ·) v1.isFile v2.isFile := by
  unfold VPath.isFile
  refine CSim.bind_eq (sim_exists h).ofEq fun c => ?_
  refine CSim.ite (fun _ => CSim.pure rfl) (fun _ => ?_)
  refine CSim.bind (sim_metadata h) fun m1 m2 hm => CSim.pure ?_
  rw [hm.1]

theorem sim_isDir {v1 v2 : VPath} (h : SimVC R v1 v2) : CSim R KRel (· = ·) v1.isDir v2.isDir := by
  unfold VPath.isDir
  refine CSim.bind_eq (sim_exists h).ofEq fun c => ?_
  refine CSim.ite (fun _ => CSim.pure rfl) (fun _ => ?_)
  refine CSim.bind (sim_metadata h) fun m1 m2 hm => CSim.pure ?_
  rw [hm.1]

theorem sim_getParent {v1 v2 : VPath} (h : SimVC R v1 v2) :
    CSim R KRel (· = ·) v1.getParent v2.getParent := by
  unfold VPath.getParent
  dsimp only
  refine CSim.bind_eq (sim_exists h.parent).ofEq fun c => ?_
  refine CSim.ite (fun _ => CSim.failAt _ _ _) (fun _ => ?_)
  refine CSim.bind (sim_metadata h.parent) fun m1 m2 hm => ?_
  rw [hm.1]
  exact CSim.ite (fun _ => CSim.failAt _ _ _) (fun _ => CSim.pure rfl)

theorem sim_createDir {v1 v2 : VPath} (h : SimVC R v1 v2) (hne : v1.path ≠ []) :
    CSim R KRel (· = ·) v1.createDir v2.createDir := by
  unfold VPath.createDir
  refine CSim.bind_eq (sim_getParent h) fun _ => ?_
  rw [h.path]
  exact CSim.withPath _ _ (h.fs.createDir _ h.canon hne)

theorem sim_removeFile {v1 v2 : VPath} (h : SimVC R v1 v2) :
    CSim R KRel (· = ·) v1.removeFile v2.removeFile := by
  unfold VPath.removeFile; rw [h.path]; exact CSim.withPath _ _ (h.fs.removeFile _ h.canon)

theorem sim_removeDir {v1 v2 : VPath} (h : SimVC R v1 v2) (hne : v1.path ≠ []) :
    CSim R KRel (· = ·) v1.removeDir v2.removeDir := by
  unfold VPath.removeDir; rw [h.path]; exact CSim.withPath _ _ (h.fs.removeDir _ h.canon hne)

theorem sim_createDirAllLoop {v1 v2 : VPath} (h : SimVC R v1 v2) (l : List Str)
    (hl : ∀ d ∈ l, Canon d ∧ d ≠ []) :
    CSim R KRel (· = ·) (VPath.createDirAllLoop v1 l) (VPath.createDirAllLoop v2 l) :=
  cSim_iff.2 (gsim_createDirAllLoop (E := clsK KRel) (fun he => (KRel.exact he).2.1)
    (ListRel.diag l fun d hd =>
      ⟨cSim_iff.1 (h.fs.createDir d (hl d hd).1 (hl d hd).2), fun he => he⟩))

theorem sim_createDirAll {v1 v2 : VPath} (h : SimVC R v1 v2) :
    CSim R KRel (· = ·) v1.createDirAll v2.createDirAll := by
  unfold VPath.createDirAll
  rw [h.path]
  exact CSim.ite (fun _ => CSim.pure rfl)
    (fun _ => sim_createDirAllLoop h _ (fun d hd => Vfs.VPath.dirPrefixes_canon h.canon hd))

theorem map_filename_children (p : Str) (names : List Str) (hg : ∀ n ∈ names, '/' ∉ n) (v : VPath) :
    (names.map fun n => v.withStr (p ++ '/' :: n)).map (fun c => filenameInternal c.path) = names := by
  induction names with
  | nil => rfl
  | cons n rest ih =>
    simp only [List.map_cons]
    rw [ih (fun x hx => hg x (by simp [hx]))]
    show filenameInternal (p ++ '/' :: n) :: rest = n :: rest
    rw [Vfs.filename_child _ _ (hg n (by simp))]

theorem sim_readNames {v1 v2 : VPath} (h : SimVC R v1 v2) :
    CSim R KRel NamesSet v1.readNames v2.readNames := by
  unfold Vfs.VPath.readNames VPath.readDir
  rw [h.path]
  rw [M.bind_assoc, M.bind_assoc]
  refine CSim.bind (CSim.withPath _ _ (h.fs.readDir _ h.canon)) fun n1 n2 hn => ?_
  rw [M.pure_bind, M.pure_bind]
  apply CSim.pure
  have h2 : ∀ n ∈ n2, GoodComp n := fun n hn' => hn.2 n ((hn.1 n).2 hn')
  rw [map_filename_children _ n1 (fun n hn' => (hn.2 n hn').noSlash),
    map_filename_children _ n2 (fun n hn' => (h2 n hn').noSlash)]
  exact hn

def PathsSet (R : World → World → Prop) (l1 l2 : List VPath) : Prop :=
  (∀ a ∈ l1, ∃ b ∈ l2, SimVC R a b) ∧ (∀ b ∈ l2, ∃ a ∈ l1, SimVC R a b)

theorem sim_readDir {v1 v2 : VPath} (h : SimVC R v1 v2) :
    CSim R KRel (PathsSet R) v1.readDir v2.readDir := by
  unfold VPath.readDir
  rw [h.path]
  refine CSim.bind (CSim.withPath _ _ (h.fs.readDir _ h.canon)) fun n1 n2 hn => ?_
  apply CSim.pure
  constructor
  · intro a ha
    obtain ⟨n, hn1, rfl⟩ := List.mem_map.1 ha
    exact ⟨_, List.mem_map.2 ⟨n, (hn.1 n).1 hn1, rfl⟩,
      h.withStr _ (Vfs.canon_child h.canon (hn.2 n hn1))⟩
  · intro b hb
    obtain ⟨n, hn2, rfl⟩ := List.mem_map.1 hb
    have hn1 := (hn.1 n).2 hn2
    exact ⟨_, List.mem_map.2 ⟨n, hn1, rfl⟩, h.withStr _ (Vfs.canon_child h.canon (hn.2 n hn1))⟩

def readAll (v : VPath) : M Bytes := v.openFile >>= fun h => M.ret h.readToEnd.1

theorem sim_readAll {v1 v2 : VPath} (h : SimVC R v1 v2) :
    CSim R KRel (· = ·) (readAll v1) (readAll v2) := by
  unfold readAll VPath.openFile
  rw [h.path]
  exact CSim.of_pathEq (PathEq.withPath_bind _ _ _) (PathEq.withPath_bind _ _ _)
    (h.fs.readAll _ h.canon)

theorem sim_createOnly {v1 v2 : VPath} (h : SimVC R v1 v2) :
    CSim R KRel (fun _ _ => True) v1.createFile v2.createFile := by
  unfold VPath.createFile
  refine CSim.bind_eq (sim_getParent h) fun _ => ?_
  rw [h.path]
  exact CSim.withPath _ _ (h.fs.createOnly _ h.canon)

def createSession (v : VPath) (script : List Bytes) : M Unit :=
  v.createFile >>= fun h => finish h script

def appendSession (v : VPath) (script : List Bytes) : M Unit :=
  v.appendFile >>= fun h => finish h script

theorem createSession_pathEq (v : VPath) (s : List Bytes) :
    PathEq (createSession v s) (v.getParent >>= fun _ => C02.createSession v.fs v.path s) := by
  unfold createSession VPath.createFile C02.createSession
  rw [M.bind_assoc]
  exact PathEq.bind_right _ fun _ => PathEq.withPath_bind _ _ _

theorem sim_createSession {v1 v2 : VPath} (h : SimVC R v1 v2) (s : List Bytes) :
    CSim R KRel (· = ·) (createSession v1 s) (createSession v2 s) := by
  refine CSim.of_pathEq (createSession_pathEq v1 s) (createSession_pathEq v2 s) ?_
  refine CSim.bind_eq (sim_getParent h) fun _ => ?_
  rw [h.path]
  exact h.fs.createSession _ s h.canon

/-- `VfsPath::append_file` only labels the error of the trait method -/
theorem sim_appendSession_of {v1 v2 : VPath} (ha : SimA R v1.fs v2.fs) (hp : v2.path = v1.path)
    (hc : Canon v1.path) (s : List Bytes) :
    CSim R KRel (· = ·) (appendSession v1 s) (appendSession v2 s) := by
  unfold appendSession VPath.appendFile
  rw [hp]
  exact CSim.of_pathEq (PathEq.withPath_bind _ _ _) (PathEq.withPath_bind _ _ _) (ha _ s hc)

theorem sim_appendSession {v1 v2 : VPath} (h : SimVW R v1 v2) (s : List Bytes) :
    CSim R KRel (· = ·) (appendSession v1 s) (appendSession v2 s) :=
  sim_appendSession_of h.fs.appendSession h.path h.canon s

end VPath
end param

theorem PathEq.trans {α : Type} {a b c : M α} (h1 : PathEq a b) (h2 : PathEq b c) : PathEq a c := by
  intro w
  obtain ⟨x1, x2⟩ := h1 w
  obtain ⟨y1, y2⟩ := h2 w
  refine ⟨x1.trans y1, ?_⟩
  rcases x2 with x2 | ⟨k, p, p', e1, e2⟩
  · rw [x2]; exact y2
  · rcases y2 with y2 | ⟨k', q, q', f1, f2⟩
    · exact Or.inr ⟨k, p, p', e1, by rw [← y2]; exact e2⟩
    · rw [e2] at f1
      cases f1
      exact Or.inr ⟨k, p, q', e1, f2⟩

section param2
variable {R : World → World → Prop}
namespace VPath

def clearV (v : VPath) : M Unit :=
  v.exists_ >>= fun ex => if ex = true then v.removeFile else pure ()

theorem clearV_pathEq (v : VPath) : PathEq (clearV v) (clearAt v.fs v.path) := by
  unfold clearV clearAt VPath.exists_
  refine PathEq.bind_right _ fun ex => ?_
  by_cases h : ex = true
  · rw [if_pos h, if_pos h]; exact PathEq.withPath _ _
  · rw [if_neg h, if_neg h]; exact PathEq.refl _

theorem sim_clearV {v1 v2 : VPath} (h : SimVC R v1 v2) : CSim R KRel (· = ·) (clearV v1) (clearV v2) := by
  unfold clearV
  refine CSim.bind_eq (sim_exists h).ofEq fun ex => ?_
  exact CSim.ite (fun _ => sim_removeFile h) (fun _ => CSim.pure rfl)

theorem clearVT_pathEq (v : VPath) : PathEq v.clearVT (clearAtT v.fs v.path) := by
  unfold Vfs.VPath.clearVT clearAtT VPath.exists_ VPath.removeFile
  refine PathEq.bind_right _ fun ex => ?_
  by_cases h : ex = true
  · rw [if_pos h, if_pos h]; exact PathEq.tolerate (PathEq.withPath _ _)
  · rw [if_neg h, if_neg h]; exact PathEq.refl _

theorem sim_clearVT {v1 v2 : VPath} (h : SimVW R v1 v2) :
    CSim R KRel (· = ·) v1.clearVT v2.clearVT := by
  refine CSim.of_pathEq (clearVT_pathEq v1) (clearVT_pathEq v2) ?_
  rw [h.path]
  exact h.fs.clearT _ h.canon

def createClear (vp vq : VPath) (script : List Bytes) : M Unit :=
  vp.createFile >>= fun h => clearV vq >>= fun _ => finish h script

theorem createClear_pathEq (vp vq : VPath) (hfs : vq.fs = vp.fs) (s : List Bytes) :
    PathEq (createClear vp vq s)
      (vp.getParent >>= fun _ => C02.createClear vp.fs vp.path vq.path s) := by
  unfold createClear VPath.createFile C02.createClear
  rw [M.bind_assoc]
  refine PathEq.bind_right _ fun _ => ?_
  refine PathEq.trans (PathEq.withPath_bind _ _ _) ?_
  refine PathEq.bind_right _ fun h => ?_
  rw [← hfs]
  exact PathEq.bind_left (clearV_pathEq vq) _

theorem sim_createClear {p1 p2 q1 q2 : VPath} (hp : SimVW R p1 p2) (hq : q2.path = q1.path)
    (hqc : Canon q1.path) (hfs1 : q1.fs = p1.fs) (hfs2 : q2.fs = p2.fs) (s : List Bytes) :
    CSim R KRel (· = ·) (createClear p1 q1 s) (createClear p2 q2 s) := by
  refine CSim.of_pathEq (createClear_pathEq p1 q1 hfs1 s) (createClear_pathEq p2 q2 hfs2 s) ?_
  refine CSim.bind_eq (sim_getParent hp.toC) fun _ => ?_
  rw [hp.path, hq]
  exact hp.fs.createClear _ _ s hp.canon hqc

end VPath

namespace Altroot
open Vfs.Altroot

variable {root1 root2 : VPath}

/-- a method of the shape `self.path(p)?.m()` (possibly followed by more) at a canonical `p`: related
as soon as `m` is, at the two roots with `p` appended -/
theorem sim_method {α β : Type} {KR : ErrKind → ErrKind → Prop} {Q : α → β → Prop}
    (hc : Canon root1.path) (he : root2.path = root1.path) {p : Str} (hp : Canon p)
    {f : VPath → M α} {g : VPath → M β}
    (h : CSim R KR Q (f (root1.withStr (root1.path ++ p))) (g (root2.withStr (root1.path ++ p)))) :
    CSim R KR Q (M.ret (path root1 p) >>= f) (M.ret (path root2 p) >>= g) := by
  rw [run_method root1 p hc hp, run_method root2 p (he ▸ hc) hp, he]
  exact h

theorem simC (hroot : SimVC R root1 root2) : SimC R (fs root1) (fs root2) := by
  have hc := hroot.canon
  have he := hroot.path
  have hsub : ∀ p, Canon p → SimVC R (root1.withStr (root1.path ++ p))
      (root2.withStr (root1.path ++ p)) :=
    fun p hp => hroot.withStr _ (Vfs.canon_append hroot.canon hp)
  have hnr : ∀ p : Str, p ≠ [] → (root1.withStr (root1.path ++ p)).path ≠ [] :=
    fun p hp h => hp (List.append_eq_nil_iff.1 h).2
  exact {
    exists_ := fun p hp => by
      rw [C07.altroot_exact_exists root1 p hc hp, C07.altroot_exact_exists root2 p (he ▸ hc) hp, he]
      exact VPath.sim_exists (hsub p hp)
    metadata := fun p hp => sim_method hc he hp (VPath.sim_metadata (hsub p hp))
    readDir := fun p hp => sim_method hc he hp (VPath.sim_readNames (hsub p hp))
    readAll := fun p hp => by
      show CSim R _ _ ((M.ret (path root1 p) >>= _) >>= _) ((M.ret (path root2 p) >>= _) >>= _)
      rw [M.bind_assoc, M.bind_assoc]
      exact sim_method hc he hp (VPath.sim_readAll (hsub p hp))
    createDir := fun p hp hne => sim_method hc he hp (VPath.sim_createDir (hsub p hp) (hnr p hne))
    removeFile := fun p hp => sim_method hc he hp (VPath.sim_removeFile (hsub p hp))
    removeDir := fun p hp hne => sim_method hc he hp (VPath.sim_removeDir (hsub p hp) (hnr p hne))
    createOnly := fun p hp => sim_method hc he hp (VPath.sim_createOnly (hsub p hp))
    createSession := fun p s hp => by
      show CSim R _ _ ((M.ret (path root1 p) >>= _) >>= _) ((M.ret (path root2 p) >>= _) >>= _)
      rw [M.bind_assoc, M.bind_assoc]
      exact sim_method hc he hp (VPath.sim_createSession (hsub p hp) s) }

theorem clearAt_fs (root : VPath) (q : Str) (hroot : Canon root.path) (hq : Canon q) :
    clearAt (fs root) q = VPath.clearV (root.withStr (root.path ++ q)) := by
  unfold clearAt VPath.clearV
  rw [C07.altroot_exact_exists root q hroot hq]
  congr 1
  funext ex
  congr 1
  exact run_method root q hroot hq _

theorem clearAtT_fs (root : VPath) (q : Str) (hroot : Canon root.path) (hq : Canon q) :
    clearAtT (fs root) q = (root.withStr (root.path ++ q)).clearVT := by
  unfold clearAtT Vfs.VPath.clearVT
  rw [C07.altroot_exact_exists root q hroot hq]
  congr 1
  funext ex
  congr 2
  exact run_method root q hroot hq _

theorem simA (hp : root2.path = root1.path) (hc : Canon root1.path) (ha : SimA R root1.fs root2.fs) :
    SimA R (fs root1) (fs root2) := by
  intro p s hpc
  show CSim R _ _ ((M.ret (path root1 p) >>= _) >>= _) ((M.ret (path root2 p) >>= _) >>= _)
  rw [run_method root1 p hc hpc, run_method root2 p (hp ▸ hc) hpc]
  exact VPath.sim_appendSession_of (v1 := root1.withStr (root1.path ++ p))
    (v2 := root2.withStr (root2.path ++ p)) ha (by rw [hp]; rfl) (Vfs.canon_append hc hpc) s

theorem simW (hroot : SimVW R root1 root2) : SimW R (fs root1) (fs root2) := by
  have hc1 : Canon root1.path := hroot.canon
  have hc2 : Canon root2.path := by rw [hroot.path]; exact hroot.canon
  have hsub : ∀ p, Canon p → SimVW R (root1.withStr (root1.path ++ p))
      (root2.withStr (root2.path ++ p)) := by
    intro p hp; rw [hroot.path]; exact hroot.withStr _ (Vfs.canon_append hroot.canon hp)
  refine { toSimC := simC hroot.toC, appendSession := simA hroot.path hc1 hroot.fs.appendSession,
           createClear := ?_, clearT := ?_ }
  · intro p q s hp hq
    unfold createClear
    rw [clearAt_fs root1 q hc1 hq, clearAt_fs root2 q hc2 hq]
    show CSim R _ _ ((M.ret (path root1 p) >>= _) >>= _) ((M.ret (path root2 p) >>= _) >>= _)
    rw [run_method root1 p hc1 hp, run_method root2 p hc2 hp]
    refine VPath.sim_createClear (q1 := root1.withStr (root1.path ++ q))
      (q2 := root2.withStr (root2.path ++ q)) (hsub p hp) ?_ (Vfs.canon_append hc1 hq) rfl rfl s
    show root2.path ++ q = root1.path ++ q
    rw [hroot.path]
  · intro q hq
    rw [clearAtT_fs root1 q hc1 hq, clearAtT_fs root2 q hc2 hq]
    exact VPath.sim_clearVT (hsub q hq)

end Altroot
end param2

example : ¬ KRel .fileExists .dirExists := by decide
example : ¬ KRel .other .notSupported := by decide
example : ¬ KRel .fileNotFound .fileExists := by decide
example : KRel .other .io := by decide
example : KRel .fileNotFound .io := by decide
example : ¬ CSim (· = ·) KRel (· = ·) (M.failK .fileExists : M Unit) (M.failK .dirExists : M Unit) := by
  intro h
  have := (h default default rfl).1
  cases this with
  | err hk => exact absurd hk (by decide)
example : ¬ CSim (· = ·) KRel (· = ·) (pure () : M Unit) (M.failK .other : M Unit) := by
  intro h
  have := (h default default rfl).1
  cases this


end Vfs.C02
