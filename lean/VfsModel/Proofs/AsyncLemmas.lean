/-
  Lemmas for Props/C15Async.lean and Props/C15Adapters.lean: the async port against the sync model
  under `eraseTS` (forget every timestamp).
  `eraseTS` on the finite map is a `MapHom` (Proofs/LeafNat.lean) with the identity on keys and
  `Entry.eraseTS` on entries (`homErase`), and commutes with `World.leaf?` / `setLeafFiles`.
  Publication (`World.publish` is in Proofs/HandleLemmas.lean): the async publication is the sync one
  followed by the erasure of what it puts (`amemPublish_eq`, `amemPublish_eraseTS`,
  `World.publish_eraseTS`), a second publication wins (`memPublish_twice`, `amemPublish_twice`), and
  dropping an async writer is that publication (`AWHandle.dropA_snd`).
  The methods of the memory leaf that do not stamp are the same on the erased map (`Mem.*_eraseTS`).
-/
import VfsModel.AsyncOps
import VfsModel.Proofs.LeafNat
import VfsModel.Proofs.HandleLemmas
namespace Vfs

/-! ### entries -/

@[simp] theorem Entry.eraseTS_ftype (e : Entry) : e.eraseTS.ftype = e.ftype := rfl
@[simp] theorem Entry.eraseTS_content (e : Entry) : e.eraseTS.content = e.content := rfl
@[simp] theorem Entry.eraseTS_idem (e : Entry) : e.eraseTS.eraseTS = e.eraseTS := rfl
@[simp] theorem afileEntry_eraseTS (b : Bytes) : (afileEntry b).eraseTS = afileEntry b := rfl
@[simp] theorem adirEntry_eraseTS : adirEntry.eraseTS = adirEntry := rfl
@[simp] theorem dirEntryNow_eraseTS : dirEntryNow.eraseTS = adirEntry := rfl
@[simp] theorem fileEntryNow_eraseTS : fileEntryNow.eraseTS = afileEntry [] := rfl

namespace FMap

@[simp] theorem eraseTS_nil : eraseTS ([] : FMap) = [] := rfl

@[simp] theorem eraseTS_cons (k : Str) (v : Entry) (m : FMap) :
    eraseTS ((k, v) :: m) = (k, v.eraseTS) :: eraseTS m := rfl

theorem find?_eraseTS (m : FMap) (k : Str) :
    find? (eraseTS m) k = (find? m k).map Entry.eraseTS := by
  induction m with
  | nil => rfl
  | cons kv rest ih =>
    obtain ⟨k', v⟩ := kv
    rw [eraseTS_cons, find?_cons, find?_cons]
    by_cases h : k' = k
    · simp [h]
    · simp [h, ih]

theorem erase_eraseTS (m : FMap) (k : Str) : erase (eraseTS m) k = eraseTS (erase m k) := by
  induction m with
  | nil => rfl
  | cons kv rest ih =>
    obtain ⟨k', v⟩ := kv
    rw [eraseTS_cons, erase_cons, erase_cons]
    by_cases h : k' = k
    · simp [h, ih]
    · simp [h, ih]

theorem insert_eraseTS (m : FMap) (k : Str) (e : Entry) :
    insert (eraseTS m) k e.eraseTS = eraseTS (insert m k e) := by
  simp [insert, erase_eraseTS]

@[simp] theorem keys_eraseTS (m : FMap) : keys (eraseTS m) = keys m := by
  simp [keys, eraseTS, List.map_map, Function.comp_def]

@[simp] theorem contains_eraseTS (m : FMap) (k : Str) : contains (eraseTS m) k = contains m k := by
  simp [contains, find?_eraseTS]

@[simp] theorem eraseTS_idem (m : FMap) : eraseTS (eraseTS m) = eraseTS m := by
  simp [eraseTS, List.map_map, Function.comp_def, Entry.eraseTS]

end FMap

theorem homErase : MapHom FMap.eraseTS id Entry.eraseTS (fun _ => True) (fun _ => True) where
  find m q _ := FMap.find?_eraseTS m q
  insert m q v _ := (FMap.insert_eraseTS m q v).symm
  erase m q _ := (FMap.erase_eraseTS m q).symm
  children m q _ := by rw [FMap.keys_eraseTS]; rfl
  ftype _ := rfl
  content _ := rfl
  parent _ _ := ⟨trivial, rfl, Iff.rfl⟩

/-! ### the world -/

theorem World.leaf?_eraseTS (w : World) (i : Nat) :
    w.eraseTS.leaf? i = (w.leaf? i).map Leaf.eraseTS := by
  simp [World.leaf?, World.eraseTS]

theorem World.setLeafFiles_eraseTS (w : World) (i : Nat) (f : FMap) :
    (w.setLeafFiles i f).eraseTS = w.eraseTS.setLeafFiles i f.eraseTS := by
  simp only [World.setLeafFiles, World.eraseTS]
  congr 1
  apply List.ext_getElem?
  intro n
  simp only [List.getElem?_map, List.getElem?_modify]
  cases h : w.leaves[n]? with
  | none => simp
  | some l =>
    by_cases hn : i = n
    · simp [hn, Leaf.eraseTS]
    · simp [hn]

/-! ### publication -/

theorem Write.map_eraseTS_idem (wr : Write) :
    (wr.map Entry.eraseTS).map Entry.eraseTS = wr.map Entry.eraseTS := by cases wr <;> rfl

/-- a table followed by the erasure on what it puts writes, up to erasure, what the table writes -/
theorem onSlot_map_eraseTS {α} (m : FMap) (p : Str) (x : Res α × Write) :
    (onSlot m p (x.1, x.2.map Entry.eraseTS)).2.eraseTS = (onSlot m p x).2.eraseTS := by
  have h1 : ((x.2.map Entry.eraseTS).app m p).eraseTS = _ :=
    (homErase.app m (q := p) trivial _).symm
  have h2 : (x.2.app m p).eraseTS = _ := (homErase.app m (q := p) trivial _).symm
  show ((x.2.map Entry.eraseTS).app m p).eraseTS = (x.2.app m p).eraseTS
  rw [h1, h2, Write.map_eraseTS_idem]

/-- a write that replaces an entry by one with the same erasure does not show once the stamps are
forgotten (`open_file`'s access stamp, the three setters) -/
theorem Write.find?_app_eraseTS (m : FMap) (p : Str) (wr : Write)
    (h : (wr.slot (m.find? p)).map Entry.eraseTS = (m.find? p).map Entry.eraseTS) (k : Str) :
    (wr.app m p).eraseTS.find? k = m.eraseTS.find? k := by
  rw [FMap.find?_eraseTS, FMap.find?_eraseTS, Write.find?_app]
  split
  · rename_i hk; rw [hk]; exact h
  · rfl

/-- the async publication is the sync one followed by the erasure of what it puts -/
theorem amemPublish_eq (m : FMap) (k : Str) (b : Bytes) :
    amemPublish m k b = ((Mem.publishS b (m.find? k)).map Entry.eraseTS).app m k := by
  unfold amemPublish Mem.publishS
  cases m.find? k with
  | none => rfl
  | some e => simp only; split <;> rfl

/-- the async publication on the erased map is the erasure of the sync publication -/
theorem amemPublish_eraseTS (m : FMap) (k : Str) (b : Bytes) :
    amemPublish m.eraseTS k b = (memPublish m k b).eraseTS := by
  rw [amemPublish_eq]
  refine homErase.publish m (q := k) trivial b fun tgt => ?_
  cases tgt with
  | none => rfl
  | some e =>
    simp only [Option.map_some, Mem.publishS, Entry.eraseTS_ftype]
    by_cases hf : e.ftype = .file
    · simp only [hf, if_true]; rfl
    · simp only [hf, if_false]

/-- publishing twice, the second buffer wins (sync) -/
theorem memPublish_twice (m : FMap) (k : Str) (b b' : Bytes) :
    memPublish (memPublish m k b) k b' = memPublish m k b' := by
  unfold memPublish
  cases h : m.find? k with
  | none => simp [h]
  | some e =>
    by_cases hf : e.ftype = .file
    · simp [hf, FMap.insert_insert]
    · simp [hf, h]

/-- publishing twice, the second buffer wins (async) -/
theorem amemPublish_twice (m : FMap) (k : Str) (b b' : Bytes) :
    amemPublish (amemPublish m k b) k b' = amemPublish m k b' := by
  unfold amemPublish
  cases h : m.find? k with
  | none => simp [h]
  | some e =>
    by_cases hf : e.ftype = .file
    · simp [hf, FMap.insert_insert, afileEntry]
    · simp [hf, h]

namespace World

theorem publish_eraseTS (w : World) (i : Nat) (k : Str) (b : Bytes) :
    (w.publish memPublish i k b).eraseTS = w.eraseTS.publish amemPublish i k b := by
  unfold publish
  rw [World.leaf?_eraseTS]
  cases w.leaf? i with
  | none => rfl
  | some l =>
    simp only [Option.map_some, World.setLeafFiles_eraseTS, Leaf.eraseTS, amemPublish_eraseTS]

end World

theorem AWHandle.dropA_snd (h : AWHandle) (w : World) :
    (h.dropA w).2 = w.publish amemPublish h.leaf h.key h.buf := by
  unfold AWHandle.dropA World.publish
  cases w.leaf? h.leaf <;> rfl

/-! ### the verbatim parts of the memory leaf under erasure -/

theorem Mem.ensureHasParent_eraseTS (m : FMap) (p : Str) :
    Mem.ensureHasParent m.eraseTS p = Mem.ensureHasParent m p := homErase.ensureHasParent m trivial

theorem Mem.readDir_eraseTS (m : FMap) (p : Str) : Mem.readDir m.eraseTS p = Mem.readDir m p :=
  homErase.readDir m trivial

theorem Mem.appendFile_eraseTS (m : FMap) (p : Str) :
    Mem.appendFile m.eraseTS p = Mem.appendFile m p := homErase.appendFile m trivial

theorem Mem.removeFile_eraseTS (m : FMap) (p : Str) :
    Mem.removeFile m.eraseTS p = ((Mem.removeFile m p).1, (Mem.removeFile m p).2.eraseTS) :=
  homErase.removeFile m trivial

theorem Mem.removeDir_eraseTS (m : FMap) (p : Str) :
    Mem.removeDir m.eraseTS p = ((Mem.removeDir m p).1, (Mem.removeDir m p).2.eraseTS) :=
  homErase.removeDir m trivial

end Vfs
