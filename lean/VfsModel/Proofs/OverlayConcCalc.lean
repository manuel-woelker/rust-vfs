/-
  A rely-guarantee calculus for the programs of VfsModel/OverlayConc.lean.

  `wpR R t Q w`: thread `t`, started in world `w`, with every step of every thread (its own
  included) related by `R`, makes only `R`-steps and, when it has returned `r` in world `w'`,
  `Q r w'` holds and keeps holding: before each of its calls and after its last one the world may
  be replaced by any `R`-later world.  `SInv`: every thread of a system satisfies its `wpR`; it is
  kept by every step of every schedule when `R` is reflexive and transitive (`run_SInv`), so a
  statement about all interleavings is reduced to one statement per thread (`run_wpR`; in the
  setting below, `run_WP`).

  The setting `St w mu` (= `OWN`): the layers are memory leaves, the write layer holds `mu`, the
  lower layers hold the fixed maps `ms`.  `RelW Rel`: the world changes only in the write layer,
  by `Rel`.  `WP Rel t Q mu` is `wpR` with assertions on the write layer's map, with one rule per
  layer call the programs make.  Everything is for an arbitrary reflexive transitive `Rel`.
-/
import VfsModel.Proofs.OverlayConcLemmas
import VfsModel.Proofs.OverlayNLemmas
namespace Vfs.OConc
open Vfs Vfs.Overlay Prog

def wpR {α} (R : World → World → Prop) : Prog α → (Res α → World → Prop) → World → Prop
  | .done r, Q, w => ∀ w', R w w' → Q r w'
  | .exists_ fs p k, Q, w => ∀ w', R w w' →
      R w' (fs.exists_ p w').2 ∧ wpR R (k (fs.exists_ p w').1) Q (fs.exists_ p w').2
  | .metadata fs p k, Q, w => ∀ w', R w w' →
      R w' (fs.metadata p w').2 ∧ wpR R (k (fs.metadata p w').1) Q (fs.metadata p w').2
  | .createDir fs p k, Q, w => ∀ w', R w w' →
      R w' (fs.createDir p w').2 ∧ wpR R (k (fs.createDir p w').1) Q (fs.createDir p w').2
  | .removeFile fs p k, Q, w => ∀ w', R w w' →
      R w' (fs.removeFile p w').2 ∧ wpR R (k (fs.removeFile p w').1) Q (fs.removeFile p w').2

section wp
variable {R : World → World → Prop} (hrefl : ∀ w, R w w) (htr : ∀ a b c, R a b → R b c → R a c)

include htr in
theorem wpR_stable {α} (t : Prog α) (Q : Res α → World → Prop) (w w1 : World)
    (h : wpR R t Q w) (hR : R w w1) : wpR R t Q w1 := by
  cases t <;> exact fun w' hw' => h w' (htr _ _ _ hR hw')

theorem wpR_mono {α} (t : Prog α) (Q Q' : Res α → World → Prop) (hQ : ∀ r w, Q r w → Q' r w)
    (w : World) (h : wpR R t Q w) : wpR R t Q' w := by
  induction t generalizing w with
  | done r => exact fun w' hw' => hQ _ _ (h w' hw')
  | exists_ fs p k ih => exact fun w' hw' => ⟨(h w' hw').1, ih _ _ (h w' hw').2⟩
  | metadata fs p k ih => exact fun w' hw' => ⟨(h w' hw').1, ih _ _ (h w' hw').2⟩
  | createDir fs p k ih => exact fun w' hw' => ⟨(h w' hw').1, ih _ _ (h w' hw').2⟩
  | removeFile fs p k ih => exact fun w' hw' => ⟨(h w' hw').1, ih _ _ (h w' hw').2⟩

include hrefl in
theorem wpR_bindR {α β} (m : Prog α) (f : Res α → Prog β) (Q : Res β → World → Prop) (w : World)
    (h : wpR R m (fun r w' => wpR R (f r) Q w') w) : wpR R (m.bindR f) Q w := by
  induction m generalizing w with
  | done r => exact h w (hrefl w)
  | exists_ fs p k ih => exact fun w' hw' => ⟨(h w' hw').1, ih _ _ (h w' hw').2⟩
  | metadata fs p k ih => exact fun w' hw' => ⟨(h w' hw').1, ih _ _ (h w' hw').2⟩
  | createDir fs p k ih => exact fun w' hw' => ⟨(h w' hw').1, ih _ _ (h w' hw').2⟩
  | removeFile fs p k ih => exact fun w' hw' => ⟨(h w' hw').1, ih _ _ (h w' hw').2⟩

include htr in
theorem wpR_rel {α} (t : Prog α) (Q : Res α → World → Prop) (w : World) (h : wpR R t Q w) :
    wpR R t (fun r w' => Q r w' ∧ R w w') w := by
  induction t generalizing w with
  | done r => exact fun w' hw' => ⟨h w' hw', hw'⟩
  | exists_ fs p k ih =>
    exact fun w' hw' => ⟨(h w' hw').1, wpR_mono _ _ _
      (fun r w'' hq => ⟨hq.1, htr _ _ _ hw' (htr _ _ _ (h w' hw').1 hq.2)⟩) _ (ih _ _ (h w' hw').2)⟩
  | metadata fs p k ih =>
    exact fun w' hw' => ⟨(h w' hw').1, wpR_mono _ _ _
      (fun r w'' hq => ⟨hq.1, htr _ _ _ hw' (htr _ _ _ (h w' hw').1 hq.2)⟩) _ (ih _ _ (h w' hw').2)⟩
  | createDir fs p k ih =>
    exact fun w' hw' => ⟨(h w' hw').1, wpR_mono _ _ _
      (fun r w'' hq => ⟨hq.1, htr _ _ _ hw' (htr _ _ _ (h w' hw').1 hq.2)⟩) _ (ih _ _ (h w' hw').2)⟩
  | removeFile fs p k ih =>
    exact fun w' hw' => ⟨(h w' hw').1, wpR_mono _ _ _
      (fun r w'' hq => ⟨hq.1, htr _ _ _ hw' (htr _ _ _ (h w' hw').1 hq.2)⟩) _ (ih _ _ (h w' hw').2)⟩

include hrefl in
theorem wpR_step {α} (t : Prog α) (Q : Res α → World → Prop) (w : World) (h : wpR R t Q w) :
    R w (t.step1 w).2 ∧ wpR R (t.step1 w).1 Q (t.step1 w).2 := by
  cases t with
  | done r => exact ⟨hrefl w, h⟩
  | exists_ fs p k => exact h w (hrefl w)
  | metadata fs p k => exact h w (hrefl w)
  | createDir fs p k => exact h w (hrefl w)
  | removeFile fs p k => exact h w (hrefl w)

include hrefl in
theorem wpR_done {α} (r : Res α) (Q : Res α → World → Prop) (w : World)
    (h : wpR R (.done r) Q w) : Q r w := h w (hrefl w)

structure SInv (R : World → World → Prop) (Qs : List (Res Unit → World → Prop)) (w0 : World)
    (s : Sys) : Prop where
  rel : R w0 s.world
  len : s.threads.length = Qs.length
  thr : ∀ (i : Nat) (t : Prog Unit) (Q : Res Unit → World → Prop), s.threads[i]? = some t → Qs[i]? = some Q → wpR R t Q s.world

include hrefl htr in
theorem step_SInv (Qs : List (Res Unit → World → Prop)) (w0 : World) (s : Sys) (tid : Nat)
    (h : SInv R Qs w0 s) : SInv R Qs w0 (step s tid) := by
  unfold step
  cases hg : s.threads[tid]? with
  | none => exact h
  | some t =>
    have hlt : tid < Qs.length := by rw [← h.len]; exact (List.getElem?_eq_some_iff.1 hg).1
    obtain ⟨Q0, hQ0⟩ : ∃ Q0, Qs[tid]? = some Q0 := ⟨_, List.getElem?_eq_getElem hlt⟩
    obtain ⟨hR, hwp⟩ := wpR_step hrefl t _ s.world (h.thr tid t Q0 hg hQ0)
    refine ⟨htr _ _ _ h.rel hR, by simp [h.len], fun i t' Q ht' hQ => ?_⟩
    refine forall_getElem?_set (F := fun i t => ∀ Q, Qs[i]? = some Q → wpR R t Q s.world)
      (fun i t ht Q hQ => h.thr i t Q ht hQ)
      (fun i t _ hF Q hQ => wpR_stable htr t Q _ _ (hF Q hQ) hR) (fun Q hQ => ?_) i t' ht' Q hQ
    rw [hQ0] at hQ; cases hQ; exact hwp

include hrefl htr in
theorem run_SInv (Qs : List (Res Unit → World → Prop)) (w0 : World) (s : Sys) (schedule : List Nat)
    (h : SInv R Qs w0 s) : SInv R Qs w0 (run s schedule) := by
  induction schedule generalizing s with
  | nil => exact h
  | cons tid _ ih => exact ih _ (step_SInv hrefl htr Qs w0 s tid h)

include hrefl in
theorem SInv.init {A} (xs : List A) (prog : A → Prog Unit) (Q : A → Res Unit → World → Prop)
    (w0 : World) (h : ∀ x ∈ xs, wpR R (prog x) (Q x) w0) :
    SInv R (xs.map Q) w0 { world := w0, threads := xs.map prog } := by
  refine ⟨hrefl w0, by simp, ?_⟩
  intro i t Q' ht hQ
  simp only [List.getElem?_map] at ht hQ
  cases hx : xs[i]? with
  | none => simp [hx] at ht
  | some x =>
    simp only [hx, Option.map_some, Option.some.injEq] at ht hQ
    subst ht; subst hQ
    exact h x (List.mem_of_getElem? hx)

include hrefl in
theorem SInv.result {A} {xs : List A} {Q : A → Res Unit → World → Prop} {w0 : World} {s : Sys}
    (h : SInv R (xs.map Q) w0 s) {i : Nat} {x : A} {r : Res Unit} (hx : xs[i]? = some x)
    (hr : s.results[i]? = some (some r)) : Q x r s.world := by
  simp only [Sys.results, List.getElem?_map] at hr
  cases ht : s.threads[i]? with
  | none => simp [ht] at hr
  | some t =>
    simp only [ht, Option.map_some, Option.some.injEq] at hr
    cases t with
    | done r' =>
      injection hr with hr
      subst hr
      exact wpR_done hrefl _ _ _ (h.thr i _ _ ht (by simp [hx]))
    | exists_ _ _ _ => cases hr
    | metadata _ _ _ => cases hr
    | createDir _ _ _ => cases hr
    | removeFile _ _ _ => cases hr

include hrefl htr in
/-- Adequacy of `wpR`: one specification per thread, in the initial world, gives under every schedule
an `R`-later world in which every result returned so far satisfies its thread's postcondition. -/
theorem run_wpR {A} (xs : List A) (prog : A → Prog Unit) (Q : A → Res Unit → World → Prop)
    (w0 : World) (h : ∀ x ∈ xs, wpR R (prog x) (Q x) w0) (schedule : List Nat) :
    R w0 (run { world := w0, threads := xs.map prog } schedule).world ∧
    (run { world := w0, threads := xs.map prog } schedule).threads.length = xs.length ∧
    ∀ (i : Nat) (x : A) (r : Res Unit), xs[i]? = some x →
      (run { world := w0, threads := xs.map prog } schedule).results[i]? = some (some r) →
      Q x r (run { world := w0, threads := xs.map prog } schedule).world := by
  have hinv := run_SInv hrefl htr _ w0 _ schedule (SInv.init hrefl xs prog Q w0 h)
  exact ⟨hinv.rel, by rw [hinv.len, List.length_map], fun i x r hx hr => hinv.result hrefl hx hr⟩

end wp

theorem Sys.all_ok {A} {s : Sys} {xs : List A} {P : A → Prop} (hlen : s.threads.length = xs.length)
    (hb : ∀ (i : Nat) (x : A) (r : Res Unit), xs[i]? = some x → s.results[i]? = some (some r) →
      r = .ok () ∧ P x)
    (hfin : s.finished = true) : s.results = xs.map (fun _ => some (.ok ())) ∧ ∀ x ∈ xs, P x := by
  have hall : ∀ (i : Nat) (x : A), xs[i]? = some x → s.results[i]? = some (some (.ok ())) ∧ P x := by
    intro i x hx
    have hlt : i < s.threads.length := by rw [hlen]; exact (List.getElem?_eq_some_iff.1 hx).1
    have hsome : (s.threads[i]).result?.isSome = true := by
      have := List.all_eq_true.1 hfin s.threads[i] (List.getElem_mem hlt)
      simpa using this
    obtain ⟨r, hr⟩ := Option.isSome_iff_exists.1 hsome
    have hres : s.results[i]? = some (some r) := by
      simp [Sys.results, List.getElem?_eq_getElem hlt, hr]
    obtain ⟨hok, hP⟩ := hb i x r hx hres
    subst hok
    exact ⟨hres, hP⟩
  refine ⟨?_, ?_⟩
  · apply List.ext_getElem?
    intro i
    cases hx : xs[i]? with
    | none =>
      have : xs.length ≤ i := List.getElem?_eq_none_iff.1 hx
      simp [Sys.results, hx, List.getElem?_eq_none (by rw [hlen]; exact this)]
    | some x => rw [(hall i x hx).1]; simp [hx]
  · intro x hx
    obtain ⟨i, hi⟩ := List.mem_iff_getElem?.1 hx
    exact (hall i x hi).2

section setting
variable (u idu : Nat) (is ids : List Nat) (ms : List FMap)

def St (w : World) (mu : FMap) : Prop := OWN w (u :: is) (idu :: ids) (mu :: ms)

variable {u idu is ids ms}

theorem St.unique {w : World} {mu mu2 : FMap} (h1 : St u idu is ids ms w mu)
    (h2 : St u idu is ids ms w mu2) : mu = mu2 := by
  exact (OWN.hu h1).unique (OWN.hu h2)

theorem St.set {w : World} {mu : FMap} (h : St u idu is ids ms w mu) (m' : FMap) :
    St u idu is ids ms (w.setLeafFiles u m') m' := OWN.setHead h m'

theorem St.low {w : World} {mu : FMap} (h : St u idu is ids ms w mu) {j i : Nat} {m : FMap}
    (hi : is[j]? = some i) (hm : ms[j]? = some m) : MemLeafAt w i m :=
  OWN.leafAt h (j + 1) i m (by simpa using hi) (by simpa using hm)

variable (u idu is ids ms)

def RelW (Rel : FMap → FMap → Prop) (w w' : World) : Prop :=
  ∀ mu, St u idu is ids ms w mu → ∃ mu', w' = w.setLeafFiles u mu' ∧ Rel mu mu'

variable (Rel : FMap → FMap → Prop)

def WP {α} (t : Prog α) (Q : Res α → FMap → Prop) (mu : FMap) : Prop :=
  ∀ w, St u idu is ids ms w mu →
    wpR (RelW u idu is ids ms Rel) t (fun r w' => ∃ mu', St u idu is ids ms w' mu' ∧ Q r mu') w

variable {u idu is ids ms Rel}
variable (hrefl : ∀ m, Rel m m) (htr : ∀ a b c, Rel a b → Rel b c → Rel a c)

include hrefl in
theorem RelW_refl (w : World) : RelW u idu is ids ms Rel w w :=
  fun mu h => ⟨mu, (OWN.hu h).same.symm, hrefl mu⟩

include htr in
theorem RelW_trans (a b c : World) (h1 : RelW u idu is ids ms Rel a b)
    (h2 : RelW u idu is ids ms Rel b c) : RelW u idu is ids ms Rel a c := by
  intro mu hst
  obtain ⟨mu1, rfl, hr1⟩ := h1 mu hst
  obtain ⟨mu2, rfl, hr2⟩ := h2 mu1 (hst.set mu1)
  exact ⟨mu2, World.setLeafFiles_twice _ _ _ _, htr _ _ _ hr1 hr2⟩

theorem RelW_set {w : World} {mu mu' : FMap} (hst : St u idu is ids ms w mu) (h : Rel mu mu') :
    RelW u idu is ids ms Rel w (w.setLeafFiles u mu') := by
  intro mu0 h0
  rw [← St.unique hst h0]
  exact ⟨mu', rfl, h⟩

theorem WP_done {α} (r : Res α) (Q : Res α → FMap → Prop) (mu : FMap)
    (h : ∀ mu', Rel mu mu' → Q r mu') : WP u idu is ids ms Rel (.done r) Q mu := by
  intro w hst w' hR
  obtain ⟨mu', rfl, hrel⟩ := hR mu hst
  exact ⟨mu', hst.set mu', h mu' hrel⟩

include hrefl in
theorem WP_exists_u {α} (p : Str) (k : Res Bool → Prog α) (Q : Res α → FMap → Prop) (mu : FMap)
    (h : ∀ mu', Rel mu mu' → WP u idu is ids ms Rel (k (.ok (mu'.contains p))) Q mu') :
    WP u idu is ids ms Rel (.exists_ (leafFS u) p k) Q mu := by
  intro w hst w' hR
  obtain ⟨mu', rfl, hrel⟩ := hR mu hst
  have hst' := hst.set mu'
  rw [run_exists (OWN.hu hst') p]
  exact ⟨RelW_refl hrefl _, h mu' hrel _ hst'⟩

include hrefl in
theorem WP_exists_low {α} (j i : Nat) (m : FMap) (hi : is[j]? = some i) (hm : ms[j]? = some m)
    (p : Str) (k : Res Bool → Prog α) (Q : Res α → FMap → Prop) (mu : FMap)
    (h : ∀ mu', Rel mu mu' → WP u idu is ids ms Rel (k (.ok (m.contains p))) Q mu') :
    WP u idu is ids ms Rel (.exists_ (leafFS i) p k) Q mu := by
  intro w hst w' hR
  obtain ⟨mu', rfl, hrel⟩ := hR mu hst
  have hst' := hst.set mu'
  rw [run_exists (hst'.low hi hm) p]
  exact ⟨RelW_refl hrefl _, h mu' hrel _ hst'⟩

include hrefl in
theorem WP_metadata_u {α} (p : Str) (k : Res Meta → Prog α) (Q : Res α → FMap → Prop) (mu : FMap)
    (h : ∀ mu', Rel mu mu' → WP u idu is ids ms Rel (k (Mem.metadata mu' p)) Q mu') :
    WP u idu is ids ms Rel (.metadata (leafFS u) p k) Q mu := by
  intro w hst w' hR
  obtain ⟨mu', rfl, hrel⟩ := hR mu hst
  have hst' := hst.set mu'
  rw [run_metadata (OWN.hu hst') p]
  exact ⟨RelW_refl hrefl _, h mu' hrel _ hst'⟩

include hrefl in
theorem WP_metadata_low {α} (j i : Nat) (m : FMap) (hi : is[j]? = some i) (hm : ms[j]? = some m)
    (p : Str) (k : Res Meta → Prog α) (Q : Res α → FMap → Prop) (mu : FMap)
    (h : ∀ mu', Rel mu mu' → WP u idu is ids ms Rel (k (Mem.metadata m p)) Q mu') :
    WP u idu is ids ms Rel (.metadata (leafFS i) p k) Q mu := by
  intro w hst w' hR
  obtain ⟨mu', rfl, hrel⟩ := hR mu hst
  have hst' := hst.set mu'
  rw [run_metadata (hst'.low hi hm) p]
  exact ⟨RelW_refl hrefl _, h mu' hrel _ hst'⟩

theorem WP_createDir_u {α} (p : Str) (k : Res Unit → Prog α) (Q : Res α → FMap → Prop) (mu : FMap)
    (h : ∀ mu', Rel mu mu' → Rel mu' (Mem.createDir mu' p).2 ∧
      WP u idu is ids ms Rel (k (Mem.createDir mu' p).1) Q (Mem.createDir mu' p).2) :
    WP u idu is ids ms Rel (.createDir (leafFS u) p k) Q mu := by
  intro w hst w' hR
  obtain ⟨mu', rfl, hrel⟩ := hR mu hst
  have hst' := hst.set mu'
  rw [Vfs.run_createDir (OWN.hu hst') p]
  exact ⟨RelW_set hst' (h mu' hrel).1, (h mu' hrel).2 _ (hst'.set _)⟩

theorem WP_removeFile_u {α} (p : Str) (k : Res Unit → Prog α) (Q : Res α → FMap → Prop) (mu : FMap)
    (h : ∀ mu', Rel mu mu' → Rel mu' (Mem.removeFile mu' p).2 ∧
      WP u idu is ids ms Rel (k (Mem.removeFile mu' p).1) Q (Mem.removeFile mu' p).2) :
    WP u idu is ids ms Rel (.removeFile (leafFS u) p k) Q mu := by
  intro w hst w' hR
  obtain ⟨mu', rfl, hrel⟩ := hR mu hst
  have hst' := hst.set mu'
  rw [Vfs.run_removeFile (OWN.hu hst') p]
  exact ⟨RelW_set hst' (h mu' hrel).1, (h mu' hrel).2 _ (hst'.set _)⟩

theorem WP_mono {α} (t : Prog α) (Q Q' : Res α → FMap → Prop) (mu : FMap)
    (hQ : ∀ r mu', Q r mu' → Q' r mu') (h : WP u idu is ids ms Rel t Q mu) :
    WP u idu is ids ms Rel t Q' mu := by
  intro w hst
  exact wpR_mono _ _ _ (fun r w' ⟨mu', h1, h2⟩ => ⟨mu', h1, hQ _ _ h2⟩) _ (h w hst)

include htr in
theorem WP_rel {α} (t : Prog α) (Q : Res α → FMap → Prop) (mu : FMap)
    (h : WP u idu is ids ms Rel t Q mu) :
    WP u idu is ids ms Rel t (fun r mu' => Q r mu' ∧ Rel mu mu') mu := by
  intro w hst
  refine wpR_mono _ _ _ ?_ _ (wpR_rel (RelW_trans htr) _ _ _ (h w hst))
  rintro r w' ⟨⟨mu', h1, h2⟩, hR⟩
  obtain ⟨mu2, rfl, hrel⟩ := hR mu hst
  have := St.unique h1 (hst.set mu2)
  subst this
  exact ⟨mu', h1, h2, hrel⟩

include hrefl htr in
theorem WP_bindR {α β} (m : Prog α) (f : Res α → Prog β) (P : Res α → FMap → Prop)
    (Q : Res β → FMap → Prop) (mu : FMap) (hm : WP u idu is ids ms Rel m P mu)
    (hf : ∀ r mu', Rel mu mu' → P r mu' → WP u idu is ids ms Rel (f r) Q mu') :
    WP u idu is ids ms Rel (m.bindR f) Q mu := by
  intro w hst
  apply wpR_bindR (RelW_refl hrefl)
  refine wpR_mono _ _ _ ?_ _ (WP_rel htr _ _ _ hm w hst)
  rintro r w' ⟨mu', h1, h2, h3⟩
  exact hf r mu' h3 h2 w' h1

include hrefl htr in
theorem WP_bind {α β} (m : Prog α) (f : α → Prog β) (P : Res α → FMap → Prop)
    (Q : Res β → FMap → Prop) (mu : FMap) (hm : WP u idu is ids ms Rel m P mu)
    (hf : ∀ r mu', Rel mu mu' → P r mu' → WP u idu is ids ms Rel (Prog.lift f r) Q mu') :
    WP u idu is ids ms Rel (m >>= f) Q mu :=
  WP_bindR hrefl htr m (Prog.lift f) P Q mu hm hf

include hrefl htr in
/-- Adequacy of `WP` (`run_wpR` in the setting `St`): one specification per thread, on the initial map
`mu0` of the write layer, gives under every schedule a `Rel`-later map `mu` of the write layer, nothing
else in the world changed, on which every result returned so far satisfies its thread's
postcondition. -/
theorem run_WP {A} (xs : List A) (prog : A → Prog Unit) (Q : A → Res Unit → FMap → Prop)
    (w0 : World) (mu0 : FMap) (hown : St u idu is ids ms w0 mu0)
    (h : ∀ x ∈ xs, WP u idu is ids ms Rel (prog x) (Q x) mu0) (schedule : List Nat) :
    ∃ mu, (run { world := w0, threads := xs.map prog } schedule).world = w0.setLeafFiles u mu ∧
      St u idu is ids ms (run { world := w0, threads := xs.map prog } schedule).world mu ∧
      Rel mu0 mu ∧
      (run { world := w0, threads := xs.map prog } schedule).threads.length = xs.length ∧
      ∀ (i : Nat) (x : A) (r : Res Unit), xs[i]? = some x →
        (run { world := w0, threads := xs.map prog } schedule).results[i]? = some (some r) →
        Q x r mu := by
  obtain ⟨hrel, hlen, hres⟩ := run_wpR (RelW_refl hrefl) (RelW_trans htr) xs prog _ w0
    (fun x hx => h x hx w0 hown) schedule
  obtain ⟨mu, hw, hev⟩ := hrel mu0 hown
  have hst : St u idu is ids ms (run { world := w0, threads := xs.map prog } schedule).world mu := by
    rw [hw]; exact hown.set mu
  refine ⟨mu, hw, hst, hev, hlen, fun i x r hx hr => ?_⟩
  obtain ⟨mu', hst', hq⟩ := hres i x r hx hr
  rw [St.unique hst hst']
  exact hq

end setting

end Vfs.OConc
