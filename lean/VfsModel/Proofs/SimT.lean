/-
The relational calculus of Proofs/Sim.lean under the namespace `Vfs.T`, in which
Props/C11Altroot.lean and Props/C13Altroot.lean state their theorems.

The definitions (`RelRes`, `SimM`, `SimFS`, `SimVPath`, …) are written out here with the bodies they
have in Proofs/Sim.lean (see there for what they stand for). Each is proved EQUAL to the definition
of the same name in `Vfs` (`relRes_eq`, `simM_eq`, `simFS_eq`, …: `funext` and `propext`, field by
field for the structures); a statement over the `Vfs.T` definitions is then the statement of
Proofs/Sim.lean after rewriting with these equations, and that is how the theorems below are proved
(a few short ones, `SimM.transfer`, `mbind`, `seq`, `LV.parent`, directly). The two vocabularies
are interchangeable; results that do not have to match the altroot corollaries are stated over `Vfs`.
-/
import VfsModel.Proofs.Sim
set_option linter.unusedSectionVars false
namespace Vfs.T

inductive RelRes {α β : Type} (PR : Option Str → Option Str → Prop) (Q : α → β → Prop) :
    Res α → Res β → Prop
  | ok {a : α} {b : β} : Q a b → RelRes PR Q (.ok a) (.ok b)
  | err {k : ErrKind} {p1 p2 : Option Str} : PR p1 p2 → RelRes PR Q (.err k p1) (.err k p2)
  | panic : RelRes PR Q .panic .panic

class ReflPR (PR : Option Str → Option Str → Prop) : Prop where
  refl : ∀ x, PR x x

instance : ReflPR (· = ·) := ⟨fun _ => rfl⟩
instance : ReflPR (fun _ _ => True) := ⟨fun _ => trivial⟩

def SimM {α β : Type} (R : World → World → Prop) (PR : Option Str → Option Str → Prop)
    (Q : α → β → Prop) (m1 : M α) (m2 : M β) : Prop :=
  ∀ w1 w2, R w1 w2 → RelRes PR Q (m1 w1).1 (m2 w2).1 ∧ R (m1 w1).2 (m2 w2).2

theorem relRes_eq : @RelRes = @Vfs.RelRes := by
  funext α β PR Q r1 r2
  apply propext
  constructor
  · intro h
    cases h with
    | ok h => exact .ok h
    | err h => exact .err h
    | panic => exact .panic
  · intro h
    cases h with
    | ok h => exact .ok h
    | err h => exact .err h
    | panic => exact .panic

theorem ReflPR.toV {PR : Option Str → Option Str → Prop} (h : ReflPR PR) : Vfs.ReflPR PR :=
  ⟨h.refl⟩

theorem simM_eq : @SimM = @Vfs.SimM := by
  funext α β R PR Q m1 m2
  unfold SimM Vfs.SimM
  rw [relRes_eq]

namespace RelRes
variable {α β : Type} {PR : Option Str → Option Str → Prop} {Q : α → β → Prop}

theorem map {γ δ : Type} {Q' : γ → δ → Prop} {r1 : Res α} {r2 : Res β} {f : α → γ} {g : β → δ}
    (h : RelRes PR Q r1 r2) (hf : ∀ a b, Q a b → Q' (f a) (g b)) :
    RelRes PR Q' (r1.map f) (r2.map g) := by
  rw [relRes_eq] at h ⊢
  exact h.map hf

theorem isOk_eq {r1 : Res α} {r2 : Res β} (h : RelRes PR Q r1 r2) : r1.isOk = r2.isOk := by
  rw [relRes_eq] at h
  exact h.isOk_eq

theorem kind_eq {r1 : Res α} {r2 : Res β} (h : RelRes PR Q r1 r2) : r1.kind? = r2.kind? := by
  rw [relRes_eq] at h
  exact h.kind_eq

theorem isPanic_eq {r1 : Res α} {r2 : Res β} (h : RelRes PR Q r1 r2) :
    r1.isPanic = r2.isPanic := by
  rw [relRes_eq] at h
  exact h.isPanic_eq

end RelRes

namespace SimM
variable {α β γ δ : Type} {R : World → World → Prop} {PR : Option Str → Option Str → Prop}
  {Q : α → β → Prop}

theorem mpure {a : α} {b : β} (h : Q a b) : SimM R PR Q (M.pure a) (M.pure b) := by
  rw [simM_eq]
  exact Vfs.SimM.mpure h

theorem bind {Q' : γ → δ → Prop} {m1 : M α} {m2 : M β} {f : α → M γ} {g : β → M δ}
    (hm : SimM R PR Q m1 m2) (hf : ∀ a b, Q a b → SimM R PR Q' (f a) (g b)) :
    SimM R PR Q' (m1 >>= f) (m2 >>= g) := by
  rw [simM_eq] at hm hf ⊢
  exact Vfs.SimM.bind hm hf

theorem mbind {Q' : γ → δ → Prop} {m1 : M α} {m2 : M β} {f : α → M γ} {g : β → M δ}
    (hm : SimM R PR Q m1 m2) (hf : ∀ a b, Q a b → SimM R PR Q' (f a) (g b)) :
    SimM R PR Q' (M.bind m1 f) (M.bind m2 g) := bind hm hf

theorem seq {Q' : γ → δ → Prop} {Q0 : Unit → Unit → Prop} {m1 m2 : M Unit} {f : M γ} {g : M δ}
    (hm : SimM R PR Q0 m1 m2) (hf : SimM R PR Q' f g) :
    SimM R PR Q' (m1 >>= fun _ => f) (m2 >>= fun _ => g) :=
  bind hm (fun _ _ _ => hf)

theorem mono {Q' : α → β → Prop} {m1 : M α} {m2 : M β} (h : SimM R PR Q m1 m2)
    (hq : ∀ a b, Q a b → Q' a b) : SimM R PR Q' m1 m2 := by
  rw [simM_eq] at h ⊢
  exact h.mono hq

theorem map_pure {Q' : γ → δ → Prop} {m1 : M α} {m2 : M β} {f : α → γ} {g : β → δ}
    (hm : SimM R PR Q m1 m2) (hf : ∀ a b, Q a b → Q' (f a) (g b)) :
    SimM R PR Q' (m1 >>= fun a => Pure.pure (f a)) (m2 >>= fun b => Pure.pure (g b)) := by
  rw [simM_eq] at hm ⊢
  exact hm.map_pure hf

end SimM

end Vfs.T

namespace Vfs.T

def NamesRel (l1 l2 : List Str) : Prop := l1 = l2 ∧ ∀ n ∈ l1, GoodComp n

def HRes (H : WHandle → WHandle → Prop) (r1 r2 : Nat × WHandle) : Prop := r1.1 = r2.1 ∧ H r1.2 r2.2

structure SimHandles (R : World → World → Prop) (PR : Option Str → Option Str → Prop)
    (H : WHandle → WHandle → Prop) : Prop where
  write : ∀ h1 h2 bs, H h1 h2 → SimM R PR (HRes H) (h1.write bs) (h2.write bs)
  flush : ∀ h1 h2, H h1 h2 → SimM R PR (· = ·) h1.flush h2.flush
  seek : ∀ h1 h2 s, H h1 h2 → SimM R PR (HRes H) (h1.seek s) (h2.seek s)

structure SimFS0 (R : World → World → Prop) (PR : Option Str → Option Str → Prop)
    (H : WHandle → WHandle → Prop) (fs1 fs2 : FS) : Prop where
  readDir : ∀ p, Canon p → SimM R PR NamesRel (fs1.readDir p) (fs2.readDir p)
  createDir : ∀ p, Canon p → p ≠ [] → SimM R PR (· = ·) (fs1.createDir p) (fs2.createDir p)
  openFile : ∀ p, Canon p → SimM R PR (· = ·) (fs1.openFile p) (fs2.openFile p)
  createFile : ∀ p, Canon p → SimM R PR H (fs1.createFile p) (fs2.createFile p)
  appendFile : ∀ p, Canon p → SimM R PR H (fs1.appendFile p) (fs2.appendFile p)
  metadata : ∀ p, Canon p → SimM R PR (· = ·) (fs1.metadata p) (fs2.metadata p)
  setCreationTime : ∀ p t, Canon p →
    SimM R PR (· = ·) (fs1.setCreationTime p t) (fs2.setCreationTime p t)
  setModificationTime : ∀ p t, Canon p →
    SimM R PR (· = ·) (fs1.setModificationTime p t) (fs2.setModificationTime p t)
  setAccessTime : ∀ p t, Canon p →
    SimM R PR (· = ·) (fs1.setAccessTime p t) (fs2.setAccessTime p t)
  exists_ : ∀ p, Canon p → SimM R PR (· = ·) (fs1.exists_ p) (fs2.exists_ p)
  removeFile : ∀ p, Canon p → SimM R PR (· = ·) (fs1.removeFile p) (fs2.removeFile p)
  removeDir : ∀ p, Canon p → p ≠ [] → SimM R PR (· = ·) (fs1.removeDir p) (fs2.removeDir p)
  moveFile : ∀ s d, Canon s → Canon d → SimM R PR (· = ·) (fs1.moveFile s d) (fs2.moveFile s d)
  moveDir : ∀ s d, Canon s → Canon d → SimM R PR (· = ·) (fs1.moveDir s d) (fs2.moveDir s d)

structure SimFS (R : World → World → Prop) (PR : Option Str → Option Str → Prop)
    (H : WHandle → WHandle → Prop) (fs1 fs2 : FS) : Prop where
  base : SimFS0 R PR H fs1 fs2
  copyFileV : ∀ id s d, Canon s → Canon d →
    SimM R PR (· = ·)
      (VPath.copyFile { fs := fs1, fsId := id, path := s } { fs := fs1, fsId := id, path := d })
      (VPath.copyFile { fs := fs2, fsId := id, path := s } { fs := fs2, fsId := id, path := d })

structure SimVPath0 (R : World → World → Prop) (PR : Option Str → Option Str → Prop)
    (H : WHandle → WHandle → Prop) (v1 v2 : VPath) : Prop where
  fs : SimFS0 R PR H v1.fs v2.fs
  id : v2.fsId = v1.fsId
  path : v2.path = v1.path
  canon : Canon v1.path

structure SimVPath (R : World → World → Prop) (PR : Option Str → Option Str → Prop)
    (H : WHandle → WHandle → Prop) (v1 v2 : VPath) : Prop where
  fs : SimFS R PR H v1.fs v2.fs
  id : v2.fsId = v1.fsId
  path : v2.path = v1.path
  canon : Canon v1.path

/- `NamesRel`, `HRes` unfold to the bodies of `Vfs.NamesRel`, `Vfs.HRes`, so once `SimM` is
rewritten the fields of the structures here ARE the fields of the structures of `Vfs`. -/

theorem simHandles_eq : @SimHandles = @Vfs.SimHandles := by
  funext R PR H
  apply propext
  constructor
  · rintro ⟨a, b, c⟩
    rw [simM_eq] at a b c
    exact ⟨a, b, c⟩
  · rintro ⟨a, b, c⟩
    rw [← simM_eq] at a b c
    exact ⟨a, b, c⟩

theorem simFS0_eq : @SimFS0 = @Vfs.SimFS0 := by
  funext R PR H fs1 fs2
  apply propext
  constructor
  · rintro ⟨a1, a2, a3, a4, a5, a6, a7, a8, a9, a10, a11, a12, a13, a14⟩
    rw [simM_eq] at a1 a2 a3 a4 a5 a6 a7 a8 a9 a10 a11 a12 a13 a14
    exact ⟨a1, a2, a3, a4, a5, a6, a7, a8, a9, a10, a11, a12, a13, a14⟩
  · rintro ⟨a1, a2, a3, a4, a5, a6, a7, a8, a9, a10, a11, a12, a13, a14⟩
    rw [← simM_eq] at a1 a2 a3 a4 a5 a6 a7 a8 a9 a10 a11 a12 a13 a14
    exact ⟨a1, a2, a3, a4, a5, a6, a7, a8, a9, a10, a11, a12, a13, a14⟩

theorem simFS_eq : @SimFS = @Vfs.SimFS := by
  funext R PR H fs1 fs2
  apply propext
  constructor
  · rintro ⟨a, b⟩
    rw [simFS0_eq] at a
    rw [simM_eq] at b
    exact ⟨a, b⟩
  · rintro ⟨a, b⟩
    rw [← simFS0_eq] at a
    rw [← simM_eq] at b
    exact ⟨a, b⟩

theorem simVPath0_eq : @SimVPath0 = @Vfs.SimVPath0 := by
  funext R PR H v1 v2
  apply propext
  constructor
  · rintro ⟨a, b, c, d⟩
    rw [simFS0_eq] at a
    exact ⟨a, b, c, d⟩
  · rintro ⟨a, b, c, d⟩
    rw [← simFS0_eq] at a
    exact ⟨a, b, c, d⟩

theorem simVPath_eq : @SimVPath = @Vfs.SimVPath := by
  funext R PR H v1 v2
  apply propext
  constructor
  · rintro ⟨a, b, c, d⟩
    rw [simFS_eq] at a
    exact ⟨a, b, c, d⟩
  · rintro ⟨a, b, c, d⟩
    rw [← simFS_eq] at a
    exact ⟨a, b, c, d⟩

section param
variable {R : World → World → Prop} {PR : Option Str → Option Str → Prop}
  {H : WHandle → WHandle → Prop}

theorem SimVPath0.parent {v1 v2 : VPath} (h : SimVPath0 R PR H v1 v2) :
    SimVPath0 R PR H v1.parent v2.parent := by
  rw [simVPath0_eq] at h ⊢
  exact h.parent

theorem SimVPath.parent {v1 v2 : VPath} (h : SimVPath R PR H v1 v2) :
    SimVPath R PR H v1.parent v2.parent := by
  rw [simVPath_eq] at h ⊢
  exact h.parent

theorem SimVPath0.join [ReflPR PR] {v1 v2 : VPath} (h : SimVPath0 R PR H v1 v2) (arg : Str) :
    RelRes PR (SimVPath0 R PR H) (v1.join arg) (v2.join arg) := by
  have := ReflPR.toV ‹_›
  rw [simVPath0_eq] at h
  rw [relRes_eq, simVPath0_eq]
  exact h.join arg

theorem SimVPath.join [ReflPR PR] {v1 v2 : VPath} (h : SimVPath R PR H v1 v2) (arg : Str) :
    RelRes PR (SimVPath R PR H) (v1.join arg) (v2.join arg) := by
  have := ReflPR.toV ‹_›
  rw [simVPath_eq] at h
  rw [relRes_eq, simVPath_eq]
  exact h.join arg

end param
end Vfs.T

namespace Vfs.T
section param2
variable {R : World → World → Prop} {PR : Option Str → Option Str → Prop}
  {H : WHandle → WHandle → Prop} [ReflPR PR]

inductive ListRel {α β : Type} (Rel : α → β → Prop) : List α → List β → Prop
  | nil : ListRel Rel [] []
  | cons {a : α} {b : β} {l1 : List α} {l2 : List β} :
      Rel a b → ListRel Rel l1 l2 → ListRel Rel (a :: l1) (b :: l2)

theorem listRel_eq : @ListRel = @Vfs.ListRel := by
  funext α β Rel l1 l2
  apply propext
  constructor
  · intro h
    induction h with
    | nil => exact .nil
    | cons hab _ ih => exact .cons hab ih
  · intro h
    induction h with
    | nil => exact .nil
    | cons hab _ ih => exact .cons hab ih

def SimVP (R : World → World → Prop) (PR : Option Str → Option Str → Prop)
    (H : WHandle → WHandle → Prop) (B : VPath → VPath → Prop) (v1 v2 : VPath) : Prop :=
  SimVPath R PR H v1 v2 ∧ B v1 v2

theorem simVP_eq : @SimVP = @Vfs.SimVP := by
  funext R PR H B v1 v2
  unfold SimVP Vfs.SimVP
  rw [simVPath_eq]

def ChildClosed (B : VPath → VPath → Prop) : Prop :=
  ∀ v1 v2 n, B v1 v2 → GoodComp n →
    B (v1.withStr (v1.path ++ '/' :: n)) (v2.withStr (v1.path ++ '/' :: n))

def ChildStep (B0 B : VPath → VPath → Prop) : Prop :=
  ∀ v1 v2 n, B0 v1 v2 → GoodComp n →
    B (v1.withStr (v1.path ++ '/' :: n)) (v2.withStr (v1.path ++ '/' :: n))

theorem ChildClosed.step {B : VPath → VPath → Prop} (h : ChildClosed B) : ChildStep B B := h

def NonRoot (v1 _v2 : VPath) : Prop := v1.path ≠ []

namespace VPath
open Vfs.VPath

theorem sim_getParent {v1 v2 : VPath} (h : SimVPath R PR H v1 v2) :
    SimM R PR (· = ·) v1.getParent v2.getParent := by
  have := ReflPR.toV ‹_›
  rw [simVPath_eq] at h
  rw [simM_eq]
  exact Vfs.VPath.sim_getParent h

theorem sim_removeChildren (fuel : Nat) {l1 l2 : List VPath}
    (hl : ListRel (SimVP R PR H NonRoot) l1 l2) :
    SimM R PR (· = ·) (removeChildren fuel l1) (removeChildren fuel l2) := by
  have := ReflPR.toV ‹_›
  rw [listRel_eq, simVP_eq] at hl
  rw [simM_eq]
  exact Vfs.VPath.sim_removeChildren fuel hl

theorem sim_createDirAll {v1 v2 : VPath} (h : SimVPath R PR H v1 v2) :
    SimM R PR (· = ·) v1.createDirAll v2.createDirAll := by
  have := ReflPR.toV ‹_›
  rw [simVPath_eq] at h
  rw [simM_eq]
  exact Vfs.VPath.sim_createDirAll h

theorem sim_removeDirAll (fuel : Nat) {v1 v2 : VPath} (h : SimVPath R PR H v1 v2)
    (hne : v1.path ≠ []) :
    SimM R PR (· = ·) (removeDirAll fuel v1) (removeDirAll fuel v2) := by
  have := ReflPR.toV ‹_›
  rw [simVPath_eq] at h
  rw [simM_eq]
  exact Vfs.VPath.sim_removeDirAll fuel h hne

theorem sim_copyDir (hh : SimHandles R PR H) (fuel : Nat) {src1 src2 dst1 dst2 : VPath}
    (hsrc : SimVPath R PR H src1 src2) (hdst : SimVPath R PR H dst1 dst2)
    (hne : dst1.path ≠ []) (hid1 : IdsOK src1 dst1) (hid2 : IdsOK src2 dst2) :
    SimM R PR (· = ·) (copyDir fuel src1 dst1) (copyDir fuel src2 dst2) := by
  have := ReflPR.toV ‹_›
  rw [simHandles_eq] at hh
  rw [simVPath_eq] at hsrc hdst
  rw [simM_eq]
  exact Vfs.VPath.sim_copyDir hh fuel hsrc hdst hne hid1 hid2

theorem sim_moveDir (hh : SimHandles R PR H) (fuel : Nat) {src1 src2 dst1 dst2 : VPath}
    (hsrc : SimVPath R PR H src1 src2) (hdst : SimVPath R PR H dst1 dst2)
    (hnes : src1.path ≠ []) (hne : dst1.path ≠ [])
    (hid1 : IdsOK src1 dst1) (hid2 : IdsOK src2 dst2) :
    SimM R PR (· = ·) (moveDir fuel src1 dst1) (moveDir fuel src2 dst2) := by
  have := ReflPR.toV ‹_›
  rw [simHandles_eq] at hh
  rw [simVPath_eq] at hsrc hdst
  rw [simM_eq]
  exact Vfs.VPath.sim_moveDir hh fuel hsrc hdst hnes hne hid1 hid2

end VPath
end param2
end Vfs.T

namespace Vfs.T
section adapters
variable {R : World → World → Prop} {PR : Option Str → Option Str → Prop}
  {H : WHandle → WHandle → Prop} [ReflPR PR]

namespace Altroot
open Vfs.Altroot

theorem sim_fs (hh : SimHandles R PR H) {root1 root2 : VPath} (hroot : SimVPath R PR H root1 root2) :
    SimFS R PR H (fs root1) (fs root2) := by
  have := ReflPR.toV ‹_›
  rw [simHandles_eq] at hh
  rw [simVPath_eq] at hroot
  rw [simFS_eq]
  exact Vfs.Altroot.sim_fs hh hroot

end Altroot

def RLog (R : World → World → Prop) : Prop :=
  ∀ w1 w2 (e : LogEntry), R w1 w2 →
    R { w1 with log := w1.log ++ [e] } { w2 with log := w2.log ++ [e] }

theorem sim_recordFS (hh : SimHandles R PR H) (hlog : RLog R) (tag : Nat) {fs1 fs2 : FS}
    (h : SimFS0 R PR H fs1 fs2)
    (hc : ∀ s d, Canon s → Canon d → SimM R PR (· = ·) (fs1.copyFile s d) (fs2.copyFile s d)) :
    SimFS R PR H (recordFS tag fs1) (recordFS tag fs2) := by
  have := ReflPR.toV ‹_›
  rw [simHandles_eq] at hh
  rw [simFS0_eq] at h
  rw [simM_eq] at hc
  rw [simFS_eq]
  exact Vfs.sim_recordFS hh hlog tag h hc

structure RFault (R : World → World → Prop) : Prop where
  same : ∀ w1 w2, R w1 w2 → w1.fault = w2.fault
  fire : ∀ w1 w2, R w1 w2 →
    R { w1 with fault := none, fired := true } { w2 with fault := none, fired := true }
  tick : ∀ w1 w2 k, R w1 w2 → R { w1 with fault := some k } { w2 with fault := some k }

theorem RFault.toV (h : RFault R) : Vfs.RFault R := ⟨h.same, h.fire, h.tick⟩

theorem sim_faultFS (hh : SimHandles R PR H) (hf : RFault R) {fs1 fs2 : FS}
    (h : SimFS0 R PR H fs1 fs2)
    (hc : ∀ s d, Canon s → Canon d → SimM R PR (· = ·) (fs1.copyFile s d) (fs2.copyFile s d)) :
    SimFS R PR H (faultFS fs1) (faultFS fs2) := by
  have := ReflPR.toV ‹_›
  rw [simHandles_eq] at hh
  rw [simFS0_eq] at h
  rw [simM_eq] at hc
  rw [simFS_eq]
  exact Vfs.sim_faultFS hh hf.toV h hc

end adapters
end Vfs.T

namespace Vfs.T
namespace Overlay
open Vfs.Overlay
section overlay
variable {R : World → World → Prop} {PR : Option Str → Option Str → Prop}
  {H : WHandle → WHandle → Prop} [ReflPR PR]

def LayersOK (layers : List VPath) : Prop :=
  ∀ a ∈ layers, ∀ b ∈ layers, a.fsId = b.fsId → a.fs = b.fs

def LV (R : World → World → Prop) (PR : Option Str → Option Str → Prop)
    (H : WHandle → WHandle → Prop) (l1 l2 : List VPath) (v1 v2 : VPath) : Prop :=
  SimVPath R PR H v1 v2 ∧ (∃ a ∈ l1, v1.fs = a.fs ∧ v1.fsId = a.fsId) ∧
    (∃ a ∈ l2, v2.fs = a.fs ∧ v2.fsId = a.fsId)

variable {l1 l2 : List VPath}

theorem LV.parent {v1 v2 : VPath} (h : LV R PR H l1 l2 v1 v2) :
    LV R PR H l1 l2 v1.parent v2.parent := ⟨h.1.parent, h.2.1, h.2.2⟩

section withLayers
variable (hL : ListRel (SimVPath R PR H) l1 l2) (hne : l1 ≠ [])
include hL hne

theorem sim_fs (hh : SimHandles R PR H) (hok1 : LayersOK l1) (hok2 : LayersOK l2) :
    SimFS R PR H (fs l1) (fs l2) := by
  have := ReflPR.toV ‹_›
  rw [listRel_eq, simVPath_eq] at hL
  rw [simHandles_eq] at hh
  rw [simFS_eq]
  exact Vfs.Overlay.sim_fs hL hne hh hok1 hok2

end withLayers
end overlay
end Overlay
end Vfs.T

namespace Vfs.T

section demo
variable {R : World → World → Prop} {PR : Option Str → Option Str → Prop}
  {H : WHandle → WHandle → Prop} [ReflPR PR]

example {v1 v2 : VPath} (h : SimVPath R PR H v1 v2) : SimM R PR (· = ·) v1.isDir v2.isDir := by
  have := ReflPR.toV ‹_›
  rw [simVPath_eq] at h
  rw [simM_eq]
  exact Vfs.VPath.sim_isDir h

example {v1 v2 : VPath} (h : SimVPath R PR H v1 v2) :
    SimM R PR (· = ·) v1.getParent v2.getParent := VPath.sim_getParent h

end demo

/-- a run equation of the right-hand computation gives outcome and final world of the left-hand one,
up to the relations (Props/C11Altroot.lean and Props/C13Altroot.lean carry the run theorems of
Props/C11.lean, C11Nested.lean, C13Term.lean over to the altroot this way) -/
theorem SimM.transfer {α β : Type} {R : World → World → Prop}
    {PR : Option Str → Option Str → Prop} {Q : α → β → Prop} {m1 : M α} {m2 : M β}
    (h : SimM R PR Q m1 m2) {w1 w2 w2' : World} {r2 : Res β} (hr : R w1 w2)
    (h2 : m2 w2 = (r2, w2')) : RelRes PR Q (m1 w1).1 r2 ∧ R (m1 w1).2 w2' := by
  have := h w1 w2 hr
  rw [h2] at this
  exact this

theorem SimM.eq_of_eq {α : Type} {m1 m2 : M α}
    (h : SimM (· = ·) (· = ·) (· = ·) m1 m2) : m1 = m2 := by
  rw [simM_eq] at h
  exact h.eq_of_eq

theorem SimM.refl_eq {α : Type} (m : M α) : SimM (· = ·) (· = ·) (· = ·) m m := by
  rw [simM_eq]
  exact Vfs.SimM.refl_eq m

example : ¬ SimM (· = ·) (· = ·) (· = ·) (M.failK .other : M Unit) (M.failK .io : M Unit) := by
  intro h
  have := (h default default rfl).1
  cases this

end Vfs.T
