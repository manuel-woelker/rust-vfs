/-
The overlay adapter is parametric in its layers, proved once over the calculus of Proofs/Rel.lean.

`LayerCore R Ex E Nm Mt V NR`: what `OverlayFS` needs from a pair of `V`-related layer paths, handles
aside. `NR a b`: neither is the root of its layer. `V` need not be closed under `parent` (the shifted
layers of Proofs/OverlayShift.lean are not, at the layer's root), so `parent`, `create_dir` and
`remove_dir` are asked of `V ∧ NR` pairs only, and that is what a `join` with a `GoodArg` yields.
`Ex` relates the failures of `join` and `exists`, `E ⊇ Ex` those of everything else: the
overlay's own `exists` turns a `FileNotFound` of `read_path` into `false`, so it asks
`Ex.Resp .fileNotFound`, and `read_path` is built from `join` and `exists` alone. `Nm` relates listings
(`NamesCong`: a congruence for what `read_dir` does with them), `Mt` metadata (related metadata have
the same type). `abs_*`: every piece of Adapters.lean/`Overlay` that touches no handle, and the methods
`exists`, `metadata`, `read_dir`, `create_dir`; `remove_file` / `remove_dir` given `add_whiteout`.

What is NOT shared is what involves an open write handle (`create_file`, `append_file`,
`add_whiteout`, `open_file`): Proofs/Sim.lean relates handles (`SimHandles`), Proofs/ClassSim.lean
relates closed sessions only.
-/
import VfsModel.Proofs.Rel
import VfsModel.Proofs.OverlayLemmas
namespace Vfs

/-- a canonical relative argument `c1/c2/…` (at least one component) -/
def GoodArg (arg : Str) : Prop :=
  ∃ c cs, GoodComp c ∧ (∀ x ∈ cs, GoodComp x) ∧ arg = c ++ renderC cs

abbrev nameOf (c : VPath) : Str := filenameInternal c.path

namespace VPath

/-- the names of the children of a directory, as `AltrootFS` and `OverlayFS` compute them from
`VfsPath::read_dir`: `Altroot.fs`'s `read_dir` is this at the resolved path by unfolding, the
overlay's uses are brought to it by `readDir_names` -/
def readNames (v : VPath) : M (List Str) := v.readDir >>= fun l => pure (l.map nameOf)

theorem readDir_names (lp : VPath) {α : Type} (F : List Str → M α) :
    (lp.readDir >>= fun cs => F (cs.map nameOf)) = lp.readNames >>= F := by
  unfold readNames
  rw [M.bind_assoc]
  rfl

theorem join_nil (a : VPath) : a.join [] = .ok a := by
  cases a; rfl

/-- joining a good argument onto a canonical path succeeds, with a canonical non-root result -/
theorem join_goodArg (v : VPath) (hv : Canon v.path) {arg : Str} (h : GoodArg arg) :
    ∃ r, v.join arg = .ok (v.withStr r) ∧ Canon r ∧ r ≠ [] := by
  obtain ⟨ds, hds, hd⟩ := hv
  obtain ⟨c, cs, hc, hcs, rfl⟩ := h
  refine ⟨renderC (ds ++ c :: cs), ?_, ⟨_, good_append hds (fun x hx => ?_), rfl⟩, by simp⟩
  · rw [VPath.join_good v ds hd (good_noSlash hds) c cs hc hcs, renderC_append]
  · rcases List.mem_cons.1 hx with rfl | hx
    · exact hc
    · exact hcs x hx

end VPath

/-- `clear_whiteout` as `OverlayFS::create_dir` calls it, at a path -/
def VPath.clearVT (v : VPath) : M Unit :=
  v.exists_ >>= fun ex => if ex = true then C02.tolerate v.removeFile else pure ()

theorem Overlay.clearWhiteoutT_eq (l : List VPath) (p : Str) :
    Overlay.clearWhiteoutT l p = (M.ret (Overlay.whiteoutPath l p) >>= fun wo => wo.clearVT) := rfl

/-- `Nm` is kept by what `OverlayFS::read_dir` does with listings: duplicate-free union in order of
appearance, filters, the emptiness test of `remove_dir` -/
structure NamesCong (Nm : List Str → List Str → Prop) : Prop where
  nil : Nm [] []
  mem : ∀ {l1 l2}, Nm l1 l2 → ∀ n, n ∈ l1 ↔ n ∈ l2
  dedup : ∀ {a1 a2 n1 n2}, Nm a1 a2 → Nm n1 n2 →
    Nm (n1.foldl (fun a n => if n ∈ a then a else a ++ [n]) a1)
      (n2.foldl (fun a n => if n ∈ a then a else a ++ [n]) a2)
  filter : ∀ {l1 l2} {P1 P2 : Str → Bool}, Nm l1 l2 → (∀ n, P1 n = P2 n) →
    Nm (l1.filter P1) (l2.filter P2)

/-- `read_path` and the overlay's `exists` are built from `join` and `exists` of the layers alone -/
structure LayerProbe (R : World → World → Prop) (Ex : ERel) (V NR : VPath → VPath → Prop) : Prop where
  notFound : Ex.Resp .fileNotFound
  join : ∀ {a b : VPath} {arg : Str}, V a b → GoodArg arg →
    ORel Ex (fun a' b' => V a' b' ∧ NR a' b') (a.join arg) (b.join arg)
  exists_ : ∀ {a b : VPath}, V a b → GSim R Ex (· = ·) a.exists_ b.exists_

structure LayerCore (R : World → World → Prop) (Ex E : ERel) (Nm : List Str → List Str → Prop)
    (Mt : Meta → Meta → Prop) (V NR : VPath → VPath → Prop) : Prop
    extends LayerProbe R Ex V NR where
  sub : ∀ {k1 p1 k2 p2}, Ex k1 p1 k2 p2 → E k1 p1 k2 p2
  dirExists : E.Resp .dirExists
  names : NamesCong Nm
  ftype : ∀ {m1 m2}, Mt m1 m2 → m1.ftype = m2.ftype
  parent : ∀ {a b : VPath}, V a b → NR a b → V a.parent b.parent
  metadata : ∀ {a b : VPath}, V a b → GSim R E Mt a.metadata b.metadata
  readNames : ∀ {a b : VPath}, V a b → GSim R E Nm a.readNames b.readNames
  createDirAll : ∀ {a b : VPath}, V a b → GSim R E (· = ·) a.createDirAll b.createDirAll
  createDir : ∀ {a b : VPath}, V a b → NR a b → GSim R E (· = ·) a.createDir b.createDir
  removeFile : ∀ {a b : VPath}, V a b → GSim R E (· = ·) a.removeFile b.removeFile
  removeDir : ∀ {a b : VPath}, V a b → NR a b → GSim R E (· = ·) a.removeDir b.removeDir

namespace Overlay

/-- the handlers of `Overlay.exists_` and `Overlay.createDir` pass on the failures they do not match
(stated for a predicate of the outcome: the matchers of Adapters.lean are not the ones elaborated
here, so an equation could not be used for rewriting) -/
theorem exists_step_err {k : ErrKind} (pth : Option Str) (w : World) (hk : k ≠ .fileNotFound)
    {P : Res Bool × World → Prop} (h : P (.err k pth, w)) :
    P (match ((Res.err k pth : Res VPath), w) with
      | (.ok q, w') => q.exists_ w'
      | (.err .fileNotFound _, w') => (.ok false, w')
      | (.err k pth, w') => (.err k pth, w')
      | (.panic, w') => (.panic, w')) := by
  cases k <;> first | exact absurd rfl hk | exact h

theorem createDir_step_err (l : List VPath) (p : Str) {k : ErrKind} (pth : Option Str) (w : World)
    (hk : k ≠ .dirExists) {P : Res Unit × World → Prop} (h : P (.err k pth, w)) :
    P (match ((Res.err k pth : Res Unit), w) with
      | (.ok (), w') => clearWhiteoutT l p w'
      | (.err .dirExists pth, w') =>
        match clearWhiteoutT l p w' with
        | (.ok (), w'') => (.err .dirExists pth, w'')
        | (.err k pth', w'') => (.err k pth', w'')
        | (.panic, w'') => (.panic, w'')
      | (.err k pth, w') => (.err k pth, w')
      | (.panic, w') => (.panic, w')) := by
  cases k <;> first | exact absurd rfl hk | exact h

section probe
variable {R : World → World → Prop} {Ex : ERel} {V NR : VPath → VPath → Prop} [Ex.Good]
  (ops : LayerProbe R Ex V NR)
include ops

omit [Ex.Good] in
theorem abs_join_tail {a b : VPath} (h : V a b) {p : Str} (hp : Canon p) (hpn : p ≠ []) :
    ORel Ex (fun a' b' => V a' b' ∧ NR a' b') (a.join (tail1 p)) (b.join (tail1 p)) := by
  obtain ⟨cs, hcs, rfl⟩ := hp
  cases cs with
  | nil => exact absurd rfl hpn
  | cons c cs =>
    rw [tail1_renderC_cons]
    exact ops.join h ⟨c, cs, hcs c (by simp), fun x hx => hcs x (by simp [hx]), rfl⟩

omit ops [Ex.Good] in
/-- pointwise related layer lists, not empty, have related write layers: the `hw` of what follows -/
theorem abs_writeLayer {l1 l2 : List VPath} (hL : ListRel V l1 l2) (hne : l1 ≠ []) :
    V (writeLayer l1) (writeLayer l2) := by
  cases hL with
  | nil => exact absurd rfl hne
  | cons hxy _ => exact hxy

variable {l1 l2 : List VPath} (hL : ListRel V l1 l2) (hw : V (writeLayer l1) (writeLayer l2))
include hL hw

omit hL [Ex.Good] in
theorem abs_whiteoutPath {p : Str} (hp : Canon p) :
    ORel Ex (fun a' b' => V a' b' ∧ NR a' b') (whiteoutPath l1 p) (whiteoutPath l2 p) := by
  obtain ⟨cs, hcs, rfl⟩ := hp
  rcases List.eq_nil_or_concat cs with rfl | ⟨ds, n, rfl⟩
  · rw [renderC_nil, whiteoutPath_nil, whiteoutPath_nil]
    exact ops.join hw ⟨woDir, [woSuffix], goodComp_woDir, by decide, by simp⟩
  · have hne' : renderC (ds.concat n) ≠ [] := by cases ds <;> simp
    rw [whiteoutPath_of_ne l1 hne', whiteoutPath_of_ne l2 hne']
    have hds : ∀ c ∈ ds, GoodComp c := fun c hc => hcs c (by simp [hc])
    have hn : GoodComp n := hcs n (by simp)
    have harg : woDir ++ '/' :: (tail1 (renderC (ds.concat n)) ++ woSuffix)
        = woDir ++ renderC (ds ++ [n ++ woSuffix]) := by
      cases ds with
      | nil => simp [tail1]
      | cons d ds => simp [tail1, List.append_assoc]
    rw [harg]
    exact ops.join hw ⟨woDir, ds ++ [n ++ woSuffix], goodComp_woDir,
      good_snoc hds (goodComp_wo hn), rfl⟩

omit hL [Ex.Good] in
theorem abs_writePath {p : Str} (hp : Canon p) :
    ORel Ex (fun a' b' => V a' b' ∧ (p ≠ [] → NR a' b')) (writePath l1 p) (writePath l2 p) := by
  by_cases hpn : p = []
  · subst hpn; rw [writePath_nil, writePath_nil]
    exact .ok ⟨hw, fun h => absurd rfl h⟩
  · rw [writePath_of_ne l1 hpn, writePath_of_ne l2 hpn]
    exact (abs_join_tail ops hw hp hpn).mono fun _ _ h => ⟨h.1, fun _ => h.2⟩

omit hL hw [Ex.Good] in
theorem abs_firstExisting {p : Str} (hp : Canon p) (hpn : p ≠ []) {a b : List VPath}
    (hab : ListRel V a b) :
    GSim R Ex (OptRel V) (firstExisting p a) (firstExisting p b) := by
  induction hab with
  | nil => rw [firstExisting_nil]; exact GSim.pure trivial
  | @cons x y a b hxy _ ih =>
    rw [firstExisting_cons, firstExisting_cons]
    refine GSim.bind (GSim.ret (abs_join_tail ops hxy hp hpn)) fun lp1 lp2 hlp => ?_
    refine GSim.bind_eq (ops.exists_ hlp.1) fun c => ?_
    exact GSim.ite (fun _ => GSim.pure (show OptRel _ (some lp1) (some lp2) from hlp.1))
      (fun _ => ih)

theorem abs_readPath {p : Str} (hp : Canon p) : GSim R Ex V (readPath l1 p) (readPath l2 p) := by
  unfold readPath
  refine GSim.ite (fun _ => GSim.pure hw) (fun hpn => ?_)
  refine GSim.bind (GSim.ret (abs_whiteoutPath ops hw hp)) fun wo1 wo2 hwo => ?_
  refine GSim.bind_eq (ops.exists_ hwo.1) fun marked => ?_
  refine GSim.ite (fun _ => GSim.failK _) (fun _ => ?_)
  refine GSim.bind (abs_firstExisting ops hp hpn hL) fun f1 f2 hf => ?_
  rcases OptRel.cases hf with ⟨rfl, rfl⟩ | ⟨a1, a2, rfl, rfl, hf'⟩
  · dsimp only
    refine GSim.bind (GSim.ret (abs_join_tail ops hw hp hpn))
      fun rp1 rp2 hrp => ?_
    refine GSim.bind_eq (ops.exists_ hrp.1) fun ex => ?_
    exact GSim.ite (fun _ => GSim.failK _) (fun _ => GSim.pure hrp.1)
  · exact GSim.pure hf'

theorem abs_exists {p : Str} (hp : Canon p) : GSim R Ex (· = ·) (exists_ l1 p) (exists_ l2 p) := by
  unfold exists_
  refine GSim.bind (GSim.ret (abs_whiteoutPath ops hw hp)) fun wo1 wo2 hwo => ?_
  refine GSim.bind_eq (ops.exists_ hwo.1) fun marked => ?_
  refine GSim.ite (fun _ => GSim.pure rfl) (fun _ => ?_)
  intro w1 w2 hr
  dsimp only
  rcases e1 : readPath l1 p w1 with ⟨r1, w1'⟩
  rcases e2 : readPath l2 p w2 with ⟨r2, w2'⟩
  obtain ⟨hres, hr'⟩ := (abs_readPath ops hL hw hp).run hr e1 e2
  cases hres with
  | ok hq => exact ops.exists_ hq w1' w2' hr'
  | panic => exact ⟨.panic, hr'⟩
  | @err k1 k2 p1 p2 he =>
    by_cases hk : k1 = .fileNotFound
    · have hk2 := (ops.notFound he).1 hk
      subst hk hk2
      exact ⟨.ok rfl, hr'⟩
    · have hk2 : k2 ≠ .fileNotFound := fun h2 => hk ((ops.notFound he).2 h2)
      refine exists_step_err p1 w1' hk (P := fun x => ORel Ex (· = ·) x.1 _ ∧ R x.2 _) ?_
      refine exists_step_err p2 w2' hk2 (P := fun y => ORel Ex (· = ·) _ y.1 ∧ R _ y.2) ?_
      exact ⟨.err he, hr'⟩

end probe

section abs
variable {R : World → World → Prop} {Ex E : ERel} {Nm : List Str → List Str → Prop}
  {Mt : Meta → Meta → Prop} {V NR : VPath → VPath → Prop} [Ex.Good] [E.Good]
  (ops : LayerCore R Ex E Nm Mt V NR)
include ops

omit [Ex.Good] [E.Good] in
theorem abs_isDir {a b : VPath} (h : V a b) : GSim R E (· = ·) a.isDir b.isDir := by
  unfold VPath.isDir
  refine GSim.bind_eq ((ops.exists_ h).monoE ops.sub) fun c => ?_
  refine GSim.ite (fun _ => GSim.pure rfl) (fun _ => ?_)
  exact GSim.bind (ops.metadata h) fun m1 m2 hm => GSim.pure (by rw [ops.ftype hm])

omit [Ex.Good] [E.Good] in
theorem abs_isFile {a b : VPath} (h : V a b) : GSim R E (· = ·) a.isFile b.isFile := by
  unfold VPath.isFile
  refine GSim.bind_eq ((ops.exists_ h).monoE ops.sub) fun c => ?_
  refine GSim.ite (fun _ => GSim.pure rfl) (fun _ => ?_)
  exact GSim.bind (ops.metadata h) fun m1 m2 hm => GSim.pure (by rw [ops.ftype hm])

variable {l1 l2 : List VPath} (hL : ListRel V l1 l2) (hw : V (writeLayer l1) (writeLayer l2))
include hL hw

theorem abs_ensureHasParent {p : Str} (hp : Canon p) :
    GSim R E (· = ·) (ensureHasParent l1 p) (ensureHasParent l2 p) := by
  have hpp := C06.parent_canonical p hp
  unfold ensureHasParent
  refine GSim.ite (fun _ => ?_) (fun _ => GSim.failK _)
  refine GSim.bind_eq ((abs_exists ops.1 hL hw hpp).monoE ops.sub) fun ex => ?_
  refine GSim.ite (fun _ => ?_) (fun _ => GSim.failK _)
  refine GSim.bind ((abs_readPath ops.1 hL hw hpp).monoE ops.sub) fun rp1 rp2 hrp => ?_
  refine GSim.bind_eq (abs_isDir ops hrp) fun isd => ?_
  refine GSim.ite (fun _ => ?_) (fun _ => GSim.failK _)
  refine GSim.bind ((GSim.ret (abs_writePath ops.1 hw hpp)).monoE ops.sub) fun wp1 wp2 hwp => ?_
  exact ops.createDirAll hwp.1

omit hL hw [Ex.Good] [E.Good] in
theorem abs_mergeListings {p : Str} (hp : Canon p) {a b : List VPath} (hab : ListRel V a b)
    {acc1 acc2 : List Str} (hacc : Nm acc1 acc2) :
    GSim R E Nm (mergeListings (if p ≠ [] then tail1 p else p) a acc1)
      (mergeListings (if p ≠ [] then tail1 p else p) b acc2) := by
  induction hab generalizing acc1 acc2 with
  | nil => unfold mergeListings; exact GSim.pure hacc
  | @cons x y a b hxy _ ih =>
    unfold mergeListings
    have hj : ORel E V (x.join (if p ≠ [] then tail1 p else p))
        (y.join (if p ≠ [] then tail1 p else p)) := by
      by_cases hpn : p = []
      · subst hpn
        simp only [ne_eq, not_true_eq_false, if_false]
        rw [VPath.join_nil, VPath.join_nil]
        exact .ok hxy
      · rw [if_pos hpn]
        exact ((abs_join_tail ops.1 hxy hp hpn).mono fun _ _ h => h.1).monoE ops.sub
    refine GSim.bind (GSim.ret hj) fun lp1 lp2 hlp => ?_
    refine GSim.bind_eq (abs_isDir ops hlp) fun isd => ?_
    refine GSim.ite (fun _ => ?_) (fun _ => ih hacc)
    rw [VPath.readDir_names lp1 (fun names => mergeListings _ a
        (names.foldl (fun a n => if n ∈ a then a else a ++ [n]) acc1)),
      VPath.readDir_names lp2 (fun names => mergeListings _ b
        (names.foldl (fun a n => if n ∈ a then a else a ++ [n]) acc2))]
    exact GSim.bind (ops.readNames hlp) fun n1 n2 hn => ih (ops.names.dedup hacc hn)

omit hL [Ex.Good] [E.Good] in
theorem abs_clearWhiteout {p : Str} (hp : Canon p) :
    GSim R E (· = ·) (clearWhiteout l1 p) (clearWhiteout l2 p) := by
  unfold clearWhiteout
  refine GSim.bind ((GSim.ret (abs_whiteoutPath ops.1 hw hp)).monoE ops.sub) fun wo1 wo2 hwo => ?_
  refine GSim.bind_eq ((ops.exists_ hwo.1).monoE ops.sub) fun ex => ?_
  exact GSim.ite (fun _ => ops.removeFile hwo.1) (fun _ => GSim.pure rfl)

omit hL [Ex.Good] [E.Good] in
/-- `clear_whiteout` as `create_dir` calls it, swallowing a `FileNotFound` of the removal: related
removals have to be `FileNotFound` together (`hE`) -/
theorem abs_clearWhiteoutT (hE : E.Resp .fileNotFound) {p : Str} (hp : Canon p) :
    GSim R E (· = ·) (clearWhiteoutT l1 p) (clearWhiteoutT l2 p) := by
  rw [clearWhiteoutT_eq, clearWhiteoutT_eq]
  refine GSim.bind ((GSim.ret (abs_whiteoutPath ops.1 hw hp)).monoE ops.sub) fun wo1 wo2 hwo => ?_
  unfold VPath.clearVT
  refine GSim.bind_eq ((ops.exists_ hwo.1).monoE ops.sub) fun ex => ?_
  exact GSim.ite (fun _ => (ops.removeFile hwo.1).tolerate hE) (fun _ => GSim.pure rfl)

theorem abs_readDir {p : Str} (hp : Canon p) : GSim R E Nm (readDir l1 p) (readDir l2 p) := by
  unfold readDir
  refine GSim.bind ((abs_readPath ops.1 hL hw hp).monoE ops.sub) fun rp1 rp2 hrp => ?_
  refine GSim.bind_eq ((ops.exists_ hrp).monoE ops.sub) fun ex => ?_
  refine GSim.ite (fun _ => GSim.failK _) (fun _ => ?_)
  refine GSim.bind_eq (abs_isDir ops hrp) fun isd => ?_
  refine GSim.ite (fun _ => GSim.failK _) (fun _ => ?_)
  refine GSim.bind (abs_mergeListings ops hp hL ops.names.nil) fun en1 en2 hen => ?_
  have hwj : ORel Ex (fun a' b' => V a' b' ∧ NR a' b') ((writeLayer l1).join (woDir ++ p))
      ((writeLayer l2).join (woDir ++ p)) := by
    obtain ⟨cs, hcs, rfl⟩ := hp
    exact ops.join hw ⟨woDir, cs, goodComp_woDir, hcs, rfl⟩
  refine GSim.bind ((GSim.ret hwj).monoE ops.sub) fun wp1 wp2 hwp => ?_
  refine GSim.bind_eq ((ops.exists_ hwp.1).monoE ops.sub) fun wex => ?_
  have hbase : Nm (if p = [] then en1.filter (fun n => n ≠ woDir) else en1)
      (if p = [] then en2.filter (fun n => n ≠ woDir) else en2) := by
    split
    · exact ops.names.filter hen fun _ => rfl
    · exact hen
  refine GSim.ite (fun _ => ?_) (fun _ => GSim.pure hbase)
  have e : ∀ marks : List VPath, (marks.filterMap fun m => stripWo (filenameInternal m.path))
      = (marks.map nameOf).filterMap stripWo := by
    intro marks; rw [List.filterMap_map]; rfl
  simp only [e]
  rw [VPath.readDir_names wp1 (fun names => (pure ((if p = [] then en1.filter (fun n => n ≠ woDir)
        else en1).filter fun x => x ∉ names.filterMap stripWo) : M (List Str))),
    VPath.readDir_names wp2 (fun names => (pure ((if p = [] then en2.filter (fun n => n ≠ woDir)
        else en2).filter fun x => x ∉ names.filterMap stripWo) : M (List Str)))]
  refine GSim.bind (ops.readNames hwp.1) fun m1 m2 hm => GSim.pure (ops.names.filter hbase ?_)
  intro n
  have : n ∈ m1.filterMap stripWo ↔ n ∈ m2.filterMap stripWo := by
    simp only [List.mem_filterMap]
    exact ⟨fun ⟨x, hx, e⟩ => ⟨x, (ops.names.mem hm x).1 hx, e⟩,
      fun ⟨x, hx, e⟩ => ⟨x, (ops.names.mem hm x).2 hx, e⟩⟩
  simp only [this]

/-- related answers of the write layers select the same branch: `DirectoryExists` is answered
together -/
theorem abs_createDir (hT : GSim R E (· = ·) (clearWhiteoutT l1 p) (clearWhiteoutT l2 p))
    (hp : Canon p) (hpn : p ≠ []) : GSim R E (· = ·) (createDir l1 p) (createDir l2 p) := by
  unfold createDir
  refine GSim.bind_eq (abs_ensureHasParent ops hL hw hp) fun _ => ?_
  refine GSim.bind_eq ((abs_exists ops.1 hL hw hp).monoE ops.sub) fun ex => ?_
  refine GSim.ite (fun _ => ?_) (fun _ => ?_)
  · refine GSim.bind ((abs_readPath ops.1 hL hw hp).monoE ops.sub) fun q1 q2 hq => ?_
    refine GSim.bind (ops.metadata hq) fun m1 m2 hm => ?_
    rw [ops.ftype hm]
    exact GSim.failK _
  · refine GSim.bind ((GSim.ret (abs_writePath ops.1 hw hp)).monoE ops.sub) fun wp1 wp2 hwp => ?_
    intro w1 w2 hr
    dsimp only
    rcases e1 : wp1.createDir w1 with ⟨r1, w1'⟩
    rcases e2 : wp2.createDir w2 with ⟨r2, w2'⟩
    obtain ⟨hres, hr'⟩ := (ops.createDir hwp.1 (hwp.2 hpn)).run hr e1 e2
    cases hres with
    | @ok a b hq => cases a; cases b; exact hT w1' w2' hr'
    | panic => exact ⟨.panic, hr'⟩
    | @err k1 k2 p1 p2 he =>
      by_cases hd : k1 = .dirExists
      · have hd2 := (ops.dirExists he).1 hd
        subst hd hd2
        dsimp only
        rcases e3 : clearWhiteoutT l1 p w1' with ⟨r3, w1''⟩
        rcases e4 : clearWhiteoutT l2 p w2' with ⟨r4, w2''⟩
        obtain ⟨hres2, hr''⟩ := hT.run hr' e3 e4
        cases hres2 with
        | @ok a b hq => cases a; cases b; exact ⟨.err he, hr''⟩
        | panic => exact ⟨.panic, hr''⟩
        | err he2 => exact ⟨.err he2, hr''⟩
      · have hd2 : k2 ≠ .dirExists := fun h2 => hd ((ops.dirExists he).2 h2)
        refine createDir_step_err l1 p p1 w1' hd (P := fun x => ORel E (· = ·) x.1 _ ∧ R x.2 _) ?_
        refine createDir_step_err l2 p p2 w2' hd2 (P := fun y => ORel E (· = ·) _ y.1 ∧ R _ y.2) ?_
        exact ⟨.err he, hr'⟩

theorem abs_refuseDir {p : Str} (hp : Canon p) :
    GSim R E (· = ·) (refuseDir l1 p) (refuseDir l2 p) := by
  unfold refuseDir
  refine GSim.bind_eq ((abs_exists ops.1 hL hw hp).monoE ops.sub) fun ex => ?_
  refine GSim.ite (fun _ => ?_) (fun _ => GSim.pure rfl)
  refine GSim.bind ((abs_readPath ops.1 hL hw hp).monoE ops.sub) fun q1 q2 hq => ?_
  refine GSim.bind (ops.metadata hq) fun m1 m2 hm => ?_
  rw [ops.ftype hm]
  exact GSim.ite (fun _ => GSim.failK _) (fun _ => GSim.pure rfl)

omit [E.Good] in
theorem abs_metadata {p : Str} (hp : Canon p) :
    GSim R E Mt ((fs l1).metadata p) ((fs l2).metadata p) :=
  GSim.bind ((abs_readPath ops.1 hL hw hp).monoE ops.sub) fun _ _ hq => ops.metadata hq

omit [E.Good] in
theorem abs_removeFile {p : Str} (hp : Canon p)
    (haw : GSim R E (· = ·) (addWhiteout l1 p) (addWhiteout l2 p)) :
    GSim R E (· = ·) (removeFile l1 p) (removeFile l2 p) := by
  unfold removeFile
  refine GSim.bind ((abs_readPath ops.1 hL hw hp).monoE ops.sub) fun _ _ _ => ?_
  refine GSim.bind ((GSim.ret (abs_writePath ops.1 hw hp)).monoE ops.sub) fun wp1 wp2 hwp => ?_
  refine GSim.bind_eq ((ops.exists_ hwp.1).monoE ops.sub) fun ex => ?_
  exact GSim.bind_eq (GSim.ite (fun _ => ops.removeFile hwp.1) (fun _ => GSim.pure rfl))
    fun _ => haw

theorem abs_removeDir {p : Str} (hp : Canon p) (hpn : p ≠ [])
    (haw : GSim R E (· = ·) (addWhiteout l1 p) (addWhiteout l2 p)) :
    GSim R E (· = ·) (removeDir l1 p) (removeDir l2 p) := by
  unfold removeDir
  refine GSim.bind ((abs_readPath ops.1 hL hw hp).monoE ops.sub) fun _ _ _ => ?_
  refine GSim.bind (abs_readDir ops hL hw hp) fun n1 n2 hn => ?_
  have hnil : (n1 ≠ []) ↔ (n2 ≠ []) := by
    have hm := ops.names.mem hn
    constructor
    · intro h h2
      obtain ⟨x, hx⟩ := List.exists_mem_of_ne_nil _ h
      have := (hm x).1 hx
      rw [h2] at this; cases this
    · intro h h1
      obtain ⟨x, hx⟩ := List.exists_mem_of_ne_nil _ h
      have := (hm x).2 hx
      rw [h1] at this; cases this
  by_cases h1 : n1 ≠ []
  · rw [if_pos h1, if_pos (hnil.1 h1)]; exact GSim.failK _
  · rw [if_neg h1, if_neg (fun h => h1 (hnil.2 h))]
    refine GSim.bind ((GSim.ret (abs_writePath ops.1 hw hp)).monoE ops.sub) fun wp1 wp2 hwp => ?_
    refine GSim.bind_eq ((ops.exists_ hwp.1).monoE ops.sub) fun ex => ?_
    exact GSim.bind_eq (GSim.ite (fun _ => ops.removeDir hwp.1 (hwp.2 hpn))
      (fun _ => GSim.pure rfl)) fun _ => haw

end abs
end Overlay
end Vfs
