/-
  Panic-freedom calculus for C13 ("no operation panics").

  In the model every site where the Rust code can panic is the explicit outcome `Res.panic`
  (slices out of range, arithmetic overflow, `onLeaf` on a leaf that does not exist, and the
  fuel sentinel of the recursive functions). An operation is panic-free *relative to an
  invariant on worlds*:

    `NoPanic I m := (∀ w, I w → I (m w).2) ∧ (∀ w, I w → (m w).1 ≠ .panic)`

  The first half makes the notion closed under `bind` (the continuation starts in a world that
  satisfies `I` again). The invariant that the concrete stacks need is "the leaves exist"
  (`LeafExists i`, `LeavesLen n`): `onLeaf i` panics exactly when leaf `i` is missing, and no
  operation changes the number of leaves.

  `NoPanic I` is the specification `Spec.noPanic I` (below; `Spec`: Proofs/Hoare.lean), so the
  operations of the `VfsPath` layer, AltrootFS, OverlayFS and EmbeddedFS, and one unfolding of each fuel-taking
  recursion, are instances of the statements of Proofs/PreservesOps.lean (where the walk invariant
  `Walk.Below` for the slice of `relJoin` lives). Proved here: the calculus (with two inversion
  rules for the fuel statements), write handles, `FS.NoPanic`, leaves, "a panic of a
  fuel-taking recursion is the fuel sentinel" via the predicates `…Out`, and that the site
  `path.split_at(1)` of EmbeddedFS is a real one (`Embedded.openFileSplitAt`).
-/
import VfsModel.Proofs.PreservesOps
import VfsModel.Proofs.LeafFrame
import VfsModel.Embedded
namespace Vfs

/-! ### `NoPanic I m`, and `NoPanic I` as a specification -/

/-- `m` keeps the invariant `I` and, started in a world satisfying `I`, does not panic -/
structure NoPanic {α} (I : World → Prop) (m : M α) : Prop where
  pres : ∀ w, I w → I (m w).2
  np : ∀ w, I w → (m w).1 ≠ .panic


theorem Res.map_ne_panic {α β} (f : α → β) (r : Res α) (h : r ≠ .panic) : r.map f ≠ .panic := by
  cases r <;> simp [Res.map] at h ⊢

theorem fail_ne_panic {α} (k : ErrKind) : (fail k : Res α) ≠ .panic := by simp [fail]

theorem Res.ok_ne_panic {α} (a : α) : (Res.ok a : Res α) ≠ .panic := by simp
theorem Res.err_ne_panic {α} (k : ErrKind) (p : Option Str) : (Res.err k p : Res α) ≠ .panic := by simp

/-- `NoPanic I` as a specification -/
def Spec.noPanic (I : World → Prop) : Spec := .never I (· = .panic) nofun

instance (I : World → Prop) (k : ErrKind) : (Spec.noPanic I).May (.err k) := ⟨nofun⟩
instance (I : World → Prop) : (Spec.noPanic I).Errs := ⟨fun _ _ => nofun⟩

/-! ### the calculus -/
namespace NoPanic
variable {I : World → Prop}

theorem sat {α} {m : M α} (h : NoPanic I m) : (Spec.noPanic I).Sat m :=
  ⟨fun w hw => ⟨h.pres w hw, fun e => h.np w hw ((Res.out_eq_panic _).1 e)⟩⟩

theorem of_sat {α} {m : M α} (h : (Spec.noPanic I).Sat m) : NoPanic I m :=
  ⟨fun w hw => (h.post w hw).1, fun w hw e => (h.post w hw).2 ((Res.out_eq_panic _).2 e)⟩


theorem preserves {α} {m : M α} (h : NoPanic I m) : Preserves I m := ⟨h.pres⟩

theorem of_preserves {α} {m : M α} (hp : Preserves I m) (hn : ∀ w, I w → (m w).1 ≠ .panic) :
    NoPanic I m := ⟨hp.pres, hn⟩

/-- an operation that never panics, in any world, and preserves `I` -/
theorem of_total {α} {m : M α} (hp : Preserves I m) (hn : ∀ w, (m w).1 ≠ .panic) :
    NoPanic I m := ⟨hp.pres, fun w _ => hn w⟩

theorem pure {α} (a : α) : NoPanic I (Pure.pure a : M α) :=
  ⟨fun _ h => h, fun _ _ => Res.ok_ne_panic a⟩
theorem mpure {α} (a : α) : NoPanic I (M.pure a) :=
  ⟨fun _ h => h, fun _ _ => Res.ok_ne_panic a⟩
/-- lifting an outcome that is not `.panic` -/
theorem ret {α} (r : Res α) (h : r ≠ .panic) : NoPanic I (M.ret r) :=
  ⟨fun _ hw => hw, fun _ _ => h⟩
theorem failK {α} (k : ErrKind) : NoPanic I (M.failK k : M α) :=
  ⟨fun _ h => h, fun _ _ => fail_ne_panic k⟩
theorem failAt {α} (k : ErrKind) (p : Str) : NoPanic I (M.failAt k p : M α) :=
  ⟨fun _ h => h, fun _ _ => Res.err_ne_panic k (some p)⟩


theorem bindQ {α β} {m : M α} {f : α → M β} (Q : α → Prop) (hm : NoPanic I m) (hq : Returns m Q)
    (hf : ∀ a, Q a → NoPanic I (f a)) : NoPanic I (m >>= f) :=
  of_sat (.bindQ Q hm.sat hq (fun a ha => (hf a ha).sat))


theorem bind {α β} {m : M α} {f : α → M β} (hm : NoPanic I m) (hf : ∀ a, NoPanic I (f a)) :
    NoPanic I (m >>= f) :=
  bindQ (fun _ => True) hm (Returns.trivial m) (fun a _ => hf a)

theorem mbind {α β} {m : M α} {f : α → M β} (hm : NoPanic I m) (hf : ∀ a, NoPanic I (f a)) :
    NoPanic I (M.bind m f) := bind hm hf

theorem seq_unit {β} {m : M Unit} {f : M β} (hm : NoPanic I m) (hf : NoPanic I f) :
    NoPanic I (do m; f) := bind hm (fun _ => hf)

theorem withPath {α} (p : Str) {m : M α} (hm : NoPanic I m) : NoPanic I (M.withPath p m) :=
  of_sat (.withPath p hm.sat)


/-- `M.attempt` hands the outcome to a handler: the attempt itself never fails … -/
theorem attempt {α} {m : M α} (hm : NoPanic I m) : NoPanic I (M.attempt m) :=
  ⟨(Preserves.attempt hm.preserves).pres, fun w _ => Res.ok_ne_panic (m w).1⟩

/-- … and the outcome handed over is not `.panic` -/
theorem attempt_post {α} {m : M α} (hm : NoPanic I m) (w : World) (hw : I w) (r : Res α)
    (h : (M.attempt m w).1 = .ok r) : r ≠ .panic := by
  have : (M.attempt m w) = (.ok (m w).1, (m w).2) := rfl
  rw [this] at h
  injection h with h
  subst h
  exact hm.np w hw

theorem ite {α} {c : Prop} [Decidable c] {a b : M α} (ha : NoPanic I a) (hb : NoPanic I b) :
    NoPanic I (if c then a else b) := by
  split <;> assumption

/-- `bind` after an operation that returns `()` -/
theorem unit_bind {β} {m : M Unit} {f : Unit → M β} (hm : NoPanic I m) (hf : NoPanic I (f ())) :
    NoPanic I (m >>= f) := bind hm (fun _ => hf)

/-! #### inversion of a panicking `bind` (used for the fuel statements) -/

/-- if `m` cannot panic, a panic of `m >>= f` is a panic of the continuation, which was started
on the value and in the world that `m` ended with -/
theorem bind_panic_right {α β} {m : M α} {f : α → M β} (hm : NoPanic I m) {w : World} (hw : I w)
    (h : ((m >>= f) w).1 = .panic) : ∃ a w', m w = (.ok a, w') ∧ I w' ∧ (f a w').1 = .panic := by
  have h1 := hm.pres w hw; have h2 := hm.np w hw
  have h' : (M.bind m f w).1 = .panic := h
  cases hres : m w with
  | mk r w' =>
    rw [hres] at h1 h2
    cases r with
    | ok a => rw [M.bind_ok hres] at h'; exact ⟨a, w', rfl, h1, h'⟩
    | err k p => rw [M.bind_err hres] at h'; cases h'
    | panic => exact absurd rfl h2

/-- if the continuation cannot panic, a panic of `m >>= f` is a panic of `m` -/
theorem bind_panic_left {α β} {m : M α} {f : α → M β} (hp : Preserves I m)
    (hf : ∀ a, NoPanic I (f a)) {w : World} (hw : I w)
    (h : ((m >>= f) w).1 = .panic) : (m w).1 = .panic := by
  have h1 := hp.pres w hw
  have h' : (M.bind m f w).1 = .panic := h
  cases hres : m w with
  | mk r w' =>
    rw [hres] at h1
    cases r with
    | ok a => rw [M.bind_ok hres] at h'; exact absurd h' ((hf a).np w' h1)
    | err k p => rw [M.bind_err hres] at h'; cases h'
    | panic => rfl

end NoPanic


/-! ### invariants: the leaves exist -/

/-- leaf `i` exists -/
def LeafExists (i : Nat) (w : World) : Prop := w.leaf? i ≠ none

/-- the world has exactly `n` leaves -/
def LeavesLen (n : Nat) (w : World) : Prop := w.leaves.length = n

theorem World.setLeafFiles_length (w : World) (i : Nat) (f : FMap) :
    (w.setLeafFiles i f).leaves.length = w.leaves.length := by
  unfold World.setLeafFiles
  simp

theorem LeavesLen.ignores (n i : Nat) : IgnoresLeaf (LeavesLen n) i := by
  intro w f h
  unfold LeavesLen at *
  rw [World.setLeafFiles_length]; exact h

theorem LeavesLen.exists_ {n i : Nat} (hi : i < n) (w : World) (h : LeavesLen n w) :
    LeafExists i w := by
  unfold LeavesLen at h
  unfold LeafExists World.leaf?
  simp
  omega

theorem LeafExists.iff_lt (i : Nat) (w : World) : LeafExists i w ↔ i < w.leaves.length := by
  unfold LeafExists World.leaf?
  simp

theorem LeafExists.ignores (i j : Nat) : IgnoresLeaf (LeafExists i) j := by
  intro w f h
  rw [LeafExists.iff_lt] at *
  rw [World.setLeafFiles_length]; exact h

/-! ### write handles never panic, in any world -/

theorem cursorSeek_ne_panic (len pos : Nat) (s : SeekFrom) : cursorSeek len pos s ≠ .panic := by
  unfold cursorSeek
  cases s with
  | start o => simp
  | cur o => dsimp only; split <;> simp [fail]
  | fromEnd o => dsimp only; split <;> simp [fail]

namespace WHandle

/-- `write` tolerates a missing leaf and a removed file (it then writes nothing) -/
theorem write_ne_panic (h : WHandle) (bs : Bytes) (w : World) : (h.write bs w).1 ≠ .panic := by
  obtain ⟨h', e⟩ := WHandle.write_ok h bs w
  rw [e]
  exact nofun

theorem seek_ne_panic (h : WHandle) (s : SeekFrom) (w : World) : (h.seek s w).1 ≠ .panic := by
  have := cursorSeek_ne_panic (h.fileLen w) h.pos s
  rw [WHandle.seek_eq]
  cases hc : cursorSeek (h.fileLen w) h.pos s
  · exact nofun
  · exact nofun
  · exact absurd hc this

theorem flush_ne_panic (h : WHandle) (w : World) : (h.flush w).1 ≠ .panic := by
  rw [WHandle.flush_ok]
  exact nofun

theorem drop_ne_panic (h : WHandle) (w : World) : (h.drop w).1 ≠ .panic := flush_ne_panic h w

theorem writeAllAndDrop_ne_panic (h : WHandle) (bs : Bytes) (w : World) :
    (h.writeAllAndDrop bs w).1 ≠ .panic := by
  unfold WHandle.writeAllAndDrop
  show (M.bind (h.write bs) _ w).1 ≠ .panic
  have h1 := write_ne_panic h bs w
  cases hres : h.write bs w with
  | mk r w' =>
    rw [hres] at h1
    cases r with
    | ok a => rw [M.bind_ok hres]; exact drop_ne_panic _ _
    | err k p => rw [M.bind_err hres]; intro h; cases h
    | panic => exact absurd rfl h1

end WHandle

namespace HandleOK
variable {I : World → Prop}

theorem np_write {h : WHandle} (hk : HandleOK I h) (bs : Bytes) : NoPanic I (h.write bs) :=
  .of_total (hk.write bs) (WHandle.write_ne_panic h bs)
theorem np_flush {h : WHandle} (hk : HandleOK I h) : NoPanic I h.flush :=
  .of_total hk.flush (WHandle.flush_ne_panic h)
theorem np_drop {h : WHandle} (hk : HandleOK I h) : NoPanic I h.drop :=
  .of_total hk.drop (WHandle.drop_ne_panic h)
theorem np_seek {h : WHandle} (s : SeekFrom) : NoPanic I (h.seek s) :=
  .of_total (WHandle.seek_pres h s) (WHandle.seek_ne_panic h s)
theorem np_writeAllAndDrop {h : WHandle} (hk : HandleOK I h) (bs : Bytes) :
    NoPanic I (h.writeAllAndDrop bs) :=
  .of_total (hk.writeAllAndDrop bs) (WHandle.writeAllAndDrop_ne_panic h bs)

end HandleOK

theorem HandleOK.np {I : World → Prop} {h : WHandle} (hk : HandleOK I h) :
    (Spec.noPanic I).HandleOK h :=
  fun b p => ⟨fun bs => (NoPanic.of_total ((hk b p).1 bs) (WHandle.write_ne_panic _ bs)).sat,
    (NoPanic.of_total (hk b p).2 (WHandle.flush_ne_panic _)).sat⟩

theorem HandleOK.of_np {I : World → Prop} {h : WHandle} (hk : (Spec.noPanic I).HandleOK h) :
    HandleOK I h :=
  fun b p => ⟨fun bs => (NoPanic.of_sat ((hk b p).1 bs)).preserves,
    (NoPanic.of_sat (hk b p).2).preserves⟩


/-! ### filesystems -/

/-- every method of the filesystem is panic-free under `I` and keeps `I`, and the write
handles it hands out keep `I` (that they never panic holds for every handle) -/
structure FS.NoPanic (I : World → Prop) (fs : FS) : Prop where
  readDir : ∀ p, Vfs.NoPanic I (fs.readDir p)
  createDir : ∀ p, Vfs.NoPanic I (fs.createDir p)
  openFile : ∀ p, Vfs.NoPanic I (fs.openFile p)
  createFile : ∀ p, Vfs.NoPanic I (fs.createFile p)
  appendFile : ∀ p, Vfs.NoPanic I (fs.appendFile p)
  metadata : ∀ p, Vfs.NoPanic I (fs.metadata p)
  setCreationTime : ∀ p t, Vfs.NoPanic I (fs.setCreationTime p t)
  setModificationTime : ∀ p t, Vfs.NoPanic I (fs.setModificationTime p t)
  setAccessTime : ∀ p t, Vfs.NoPanic I (fs.setAccessTime p t)
  exists_ : ∀ p, Vfs.NoPanic I (fs.exists_ p)
  removeFile : ∀ p, Vfs.NoPanic I (fs.removeFile p)
  removeDir : ∀ p, Vfs.NoPanic I (fs.removeDir p)
  copyFile : ∀ s d, Vfs.NoPanic I (fs.copyFile s d)
  moveFile : ∀ s d, Vfs.NoPanic I (fs.moveFile s d)
  moveDir : ∀ s d, Vfs.NoPanic I (fs.moveDir s d)
  createHandle : ∀ p, Returns (fs.createFile p) (HandleOK I)
  appendHandle : ∀ p, Returns (fs.appendFile p) (HandleOK I)

theorem FS.NoPanic.all {I : World → Prop} {fs : FS} (h : fs.NoPanic I) : fs.AllPreserve I where
  readDir p := (h.readDir p).preserves
  createDir p := (h.createDir p).preserves
  openFile p := (h.openFile p).preserves
  createFile p := (h.createFile p).preserves
  appendFile p := (h.appendFile p).preserves
  metadata p := (h.metadata p).preserves
  setCreationTime p t := (h.setCreationTime p t).preserves
  setModificationTime p t := (h.setModificationTime p t).preserves
  setAccessTime p t := (h.setAccessTime p t).preserves
  exists_ p := (h.exists_ p).preserves
  removeFile p := (h.removeFile p).preserves
  removeDir p := (h.removeDir p).preserves
  copyFile s d := (h.copyFile s d).preserves
  moveFile s d := (h.moveFile s d).preserves
  moveDir s d := (h.moveDir s d).preserves
  createHandle := h.createHandle
  appendHandle := h.appendHandle

theorem FS.NoPanic.sat {I : World → Prop} {fs : FS} (h : fs.NoPanic I) : (Spec.noPanic I).All fs where
  readDir p := (h.readDir p).sat
  createDir p := (h.createDir p).sat
  openFile p := (h.openFile p).sat
  createFile p := (h.createFile p).sat
  appendFile p := (h.appendFile p).sat
  metadata p := (h.metadata p).sat
  setCreationTime p t := (h.setCreationTime p t).sat
  setModificationTime p t := (h.setModificationTime p t).sat
  setAccessTime p t := (h.setAccessTime p t).sat
  exists_ p := (h.exists_ p).sat
  removeFile p := (h.removeFile p).sat
  removeDir p := (h.removeDir p).sat
  copyFile s d := (h.copyFile s d).sat
  moveFile s d := (h.moveFile s d).sat
  moveDir s d := (h.moveDir s d).sat
  createHandle p := (h.createHandle p).mono (fun _ => HandleOK.np)
  appendHandle p := (h.appendHandle p).mono (fun _ => HandleOK.np)

theorem FS.NoPanic.of_sat {I : World → Prop} {fs : FS} (h : (Spec.noPanic I).All fs) : fs.NoPanic I where
  readDir p := .of_sat (h.readDir p)
  createDir p := .of_sat (h.createDir p)
  openFile p := .of_sat (h.openFile p)
  createFile p := .of_sat (h.createFile p)
  appendFile p := .of_sat (h.appendFile p)
  metadata p := .of_sat (h.metadata p)
  setCreationTime p t := .of_sat (h.setCreationTime p t)
  setModificationTime p t := .of_sat (h.setModificationTime p t)
  setAccessTime p t := .of_sat (h.setAccessTime p t)
  exists_ p := .of_sat (h.exists_ p)
  removeFile p := .of_sat (h.removeFile p)
  removeDir p := .of_sat (h.removeDir p)
  copyFile s d := .of_sat (h.copyFile s d)
  moveFile s d := .of_sat (h.moveFile s d)
  moveDir s d := .of_sat (h.moveDir s d)
  createHandle p := (h.createHandle p).mono (fun _ => HandleOK.of_np)
  appendHandle p := (h.appendHandle p).mono (fun _ => HandleOK.of_np)


/-- the placeholder filesystem (every method `NotSupported`) -/
theorem FS.NoPanic.default {I : World → Prop} : (default : FS).NoPanic I :=
  .of_sat Spec.All.default

end Vfs

/-! ### leaves: `Mem.*` and `Phys.*` are total functions producing `ok` / `err` only

For every map and every path string — the root `""`, paths without a parent, targets of the
wrong type included. The `.panic` branches of these functions only forward a panic of a callee
(`ensureHasParent`, `lookup`, …), and the callees have none. -/
namespace Vfs

namespace Mem

theorem ensureHasParent_np (m : FMap) (p : Str) : ensureHasParent m p ≠ .panic := by
  rw [ensureHasParent_eq]; split <;> simp [fail]

theorem createDir_np (m : FMap) (p : Str) : (createDir m p).1 ≠ .panic := by
  rw [createDir_eq]; exact createDirS_np _ _

theorem setAccessed_np (m : FMap) (p : Str) (t : TS) : (setAccessed m p t).1 ≠ .panic := by
  rw [setAccessed_eq]; exact setS_np _ _
theorem setModified_np (m : FMap) (p : Str) (t : TS) : (setModified m p t).1 ≠ .panic := by
  rw [setModified_eq]; exact setS_np _ _
theorem setCreated_np (m : FMap) (p : Str) (t : TS) : (setCreated m p t).1 ≠ .panic := by
  rw [setCreated_eq]; exact setS_np _ _

theorem openFile_np (m : FMap) (p : Str) : (openFile m p).1 ≠ .panic := by
  rw [openFile_eq]; exact openFileS_np _

theorem createFile_np (m : FMap) (p : Str) : (createFile m p).1 ≠ .panic := by
  rw [createFile_eq]; exact createFileS_np _ _

theorem appendFile_np (m : FMap) (p : Str) : appendFile m p ≠ .panic := by
  unfold appendFile
  split
  · simp [fail]
  · split <;> simp [fail]

theorem removeFile_np (m : FMap) (p : Str) : (removeFile m p).1 ≠ .panic := by
  rw [removeFile_eq]; exact removeFileS_np _

theorem removeDir_np (m : FMap) (p : Str) : (removeDir m p).1 ≠ .panic := by
  rw [removeDir_eq]; exact removeDirS_np _ _

end Mem

namespace Phys

theorem resolveParent_np (m : FMap) (p : Str) : resolveParent m p ≠ .panic := by
  unfold resolveParent
  split
  · simp
  · split <;> simp [fail]

theorem lookup_np (m : FMap) (p : Str) : lookup m p ≠ .panic := by
  have := resolveParent_np m p
  unfold lookup
  split
  · simp
  · simp
  · rename_i heq; exact absurd heq this

theorem readDir_np (m : FMap) (p : Str) : readDir m p ≠ .panic := by
  have := lookup_np m p
  unfold readDir
  split
  · simp [fail]
  · split <;> simp [fail]
  · simp
  · rename_i heq; exact absurd heq this

theorem createDir_np (m : FMap) (p : Str) : (createDir m p).1 ≠ .panic := by
  rw [createDir_eq]; exact createDirS_np (lookup_np m p)

theorem openFile_np (m : FMap) (p : Str) : openFile m p ≠ .panic := by
  have := lookup_np m p
  unfold openFile
  split
  · simp [fail]
  · split <;> simp
  · simp
  · rename_i heq; exact absurd heq this

theorem createFile_np (m : FMap) (p : Str) : (createFile m p).1 ≠ .panic := by
  rw [createFile_eq]; exact createFileS_np (lookup_np m p)

theorem appendFile_np (m : FMap) (p : Str) : appendFile m p ≠ .panic := by
  have := lookup_np m p
  unfold appendFile
  split
  · simp [fail]
  · split <;> simp [fail]
  · simp
  · rename_i heq; exact absurd heq this

theorem metadata_np (m : FMap) (p : Str) : metadata m p ≠ .panic := by
  have := lookup_np m p
  unfold metadata
  split
  · simp [fail]
  · simp
  · simp
  · rename_i heq; exact absurd heq this

theorem removeFile_np (m : FMap) (p : Str) : (removeFile m p).1 ≠ .panic := by
  rw [removeFile_eq]; exact removeFileS_np (lookup_np m p)

theorem removeDir_np (m : FMap) (p : Str) : (removeDir m p).1 ≠ .panic := by
  rw [removeDir_eq]; exact removeDirS_np _ (lookup_np m p)

theorem setTime_np (upd : Entry → Entry) (m : FMap) (p : Str) : (setTime upd m p).1 ≠ .panic := by
  have := lookup_np m p
  unfold setTime
  split
  · simp [fail]
  · simp
  · simp
  · rename_i heq; exact absurd heq this

theorem copyFile_np (m : FMap) (s d : Str) : (copyFile m s d).1 ≠ .panic := by
  rw [copyFile_eq]; exact copyFileS_np (lookup_np m s) (lookup_np m d)

theorem rename_np (m : FMap) (s d : Str) : (rename m s d).1 ≠ .panic := by
  have h1 := lookup_np m s
  have h2 := lookup_np m d
  have h3 := resolveParent_np m s
  have h4 := resolveParent_np m d
  unfold rename
  split
  · simp
  · rename_i heq; exact absurd heq h3
  · simp
  · rename_i heq; exact absurd heq h4
  · split
    · simp [fail]
    · split
      · split <;> simp [fail]
      · simp [fail]
      · simp
      · rename_i heq; exact absurd heq h2
    · simp
    · rename_i heq; exact absurd heq h1

end Phys

/-- `onLeaf i f` panics exactly when leaf `i` is missing (given that `f` does not) -/
theorem onLeaf_np {α} {I : World → Prop} (i : Nat) (hI : IgnoresLeaf I i)
    (hex : ∀ w, I w → LeafExists i w) (f : Leaf → Res α × FMap) (hf : ∀ l, (f l).1 ≠ .panic) :
    NoPanic I (onLeaf i f) := by
  refine .of_preserves (onLeaf_pres i hI f) (fun w hw => ?_)
  have := hex w hw
  unfold LeafExists at this
  unfold onLeaf
  split
  · rename_i heq; exact absurd heq this
  · exact hf _

/-- the converse: on a world without leaf `i`, every `onLeaf i f` panics -/
theorem onLeaf_panics {α} (i : Nat) (f : Leaf → Res α × FMap) (w : World) (h : w.leaf? i = none) :
    (onLeaf i f w).1 = .panic := by
  rw [onLeaf_none h]

/-- **a leaf filesystem never panics as long as its leaf exists**, for every invariant that
guarantees the leaf and is not disturbed by writes to it -/
theorem leafFS_noPanic_of {I : World → Prop} (i : Nat) (hI : IgnoresLeaf I i)
    (hex : ∀ w, I w → LeafExists i w) : (leafFS i).NoPanic I := by
  -- every method dispatches on the kind of the leaf to a `Mem` or a `Phys` function
  have hk : ∀ {α} {a b : Leaf → Res α × FMap}, (∀ l, (a l).1 ≠ .panic) → (∀ l, (b l).1 ≠ .panic) →
      NoPanic I (onLeaf i fun l => match l.kind with | .mem => a l | .phys => b l) :=
    fun ha hb => onLeaf_np i hI hex _ (fun l => by
      cases l.kind
      · exact ha l
      · exact hb l)
  exact {
    readDir := fun p => hk (fun _ => Mem.readDir_np _ _) (fun _ => Phys.readDir_np _ _)
    createDir := fun p => hk (fun _ => Mem.createDir_np _ _) (fun _ => Phys.createDir_np _ _)
    openFile := fun p => hk (fun _ => Mem.openFile_np _ _) (fun _ => Phys.openFile_np _ _)
    createFile := fun p => hk (fun _ => Res.map_ne_panic _ _ (Mem.createFile_np _ _))
      (fun _ => Res.map_ne_panic _ _ (Phys.createFile_np _ _))
    appendFile := fun p => hk (fun _ => Res.map_ne_panic _ _ (Mem.appendFile_np _ _))
      (fun _ => Res.map_ne_panic _ _ (Phys.appendFile_np _ _))
    metadata := fun p => hk (fun _ => Mem.metadata_np _ _) (fun _ => Phys.metadata_np _ _)
    setCreationTime := fun p t => hk (fun _ => Mem.setCreated_np _ _ _) (fun _ => fail_ne_panic _)
    setModificationTime := fun p t => hk (fun _ => Mem.setModified_np _ _ _)
      (fun _ => Phys.setTime_np _ _ _)
    setAccessTime := fun p t => hk (fun _ => Mem.setAccessed_np _ _ _)
      (fun _ => Phys.setTime_np _ _ _)
    exists_ := fun p => hk (fun _ => Res.ok_ne_panic _) (fun _ => Res.ok_ne_panic _)
    removeFile := fun p => hk (fun _ => Mem.removeFile_np _ _) (fun _ => Phys.removeFile_np _ _)
    removeDir := fun p => hk (fun _ => Mem.removeDir_np _ _) (fun _ => Phys.removeDir_np _ _)
    copyFile := fun s d => hk (fun _ => fail_ne_panic _) (fun _ => Phys.copyFile_np _ _ _)
    moveFile := fun s d => hk (fun _ => fail_ne_panic _) (fun _ => Phys.rename_np _ _ _)
    moveDir := fun s d => hk (fun _ => fail_ne_panic _) (fun l => by
      split
      · exact Res.ok_ne_panic _
      · exact fail_ne_panic _)
    createHandle := (leafFS_all_preserve i hI).createHandle
    appendHandle := (leafFS_all_preserve i hI).appendHandle }

theorem leafFS_noPanic (i : Nat) : (leafFS i).NoPanic (LeafExists i) :=
  leafFS_noPanic_of i (LeafExists.ignores i i) (fun _ h => h)

theorem leafFS_noPanic_len {n i : Nat} (hi : i < n) : (leafFS i).NoPanic (LeavesLen n) :=
  leafFS_noPanic_of i (LeavesLen.ignores n i) (LeavesLen.exists_ hi)

end Vfs

/-! ### the `VfsPath` layer, over an arbitrary filesystem with `FS.NoPanic I` -/
namespace Vfs
namespace VPath
variable {I : World → Prop}


theorem np_exists (p : VPath) (h : p.fs.NoPanic I) : NoPanic I p.exists_ := h.exists_ _
theorem np_metadata (p : VPath) (h : p.fs.NoPanic I) : NoPanic I p.metadata :=
  .withPath _ (h.metadata _)
theorem np_openFile (p : VPath) (h : p.fs.NoPanic I) : NoPanic I p.openFile :=
  .withPath _ (h.openFile _)
theorem np_appendFile (p : VPath) (h : p.fs.NoPanic I) : NoPanic I p.appendFile :=
  .withPath _ (h.appendFile _)
theorem np_removeFile (p : VPath) (h : p.fs.NoPanic I) : NoPanic I p.removeFile :=
  .withPath _ (h.removeFile _)
theorem np_removeDir (p : VPath) (h : p.fs.NoPanic I) : NoPanic I p.removeDir :=
  .withPath _ (h.removeDir _)
theorem np_setCreationTime (p : VPath) (t : Int) (h : p.fs.NoPanic I) :
    NoPanic I (p.setCreationTime t) := .withPath _ (h.setCreationTime _ _)
theorem np_setModificationTime (p : VPath) (t : Int) (h : p.fs.NoPanic I) :
    NoPanic I (p.setModificationTime t) := .withPath _ (h.setModificationTime _ _)
theorem np_setAccessTime (p : VPath) (t : Int) (h : p.fs.NoPanic I) :
    NoPanic I (p.setAccessTime t) := .withPath _ (h.setAccessTime _ _)


theorem np_readDir (p : VPath) (h : p.fs.NoPanic I) : NoPanic I p.readDir :=
  .of_sat (sat_readDir p h.sat.obs)
theorem np_isFile (p : VPath) (h : p.fs.NoPanic I) : NoPanic I p.isFile :=
  .of_sat (sat_isFile p h.sat.obs)
theorem np_isDir (p : VPath) (h : p.fs.NoPanic I) : NoPanic I p.isDir :=
  .of_sat (sat_isDir p h.sat.obs)
/-- `get_parent`, also on the root (whose parent is the root) -/
theorem np_getParent (p : VPath) (h : p.fs.NoPanic I) : NoPanic I p.getParent :=
  .of_sat (sat_getParent p h.sat.obs)
theorem np_createDir (p : VPath) (h : p.fs.NoPanic I) : NoPanic I p.createDir :=
  .of_sat (sat_createDir p h.sat)
theorem np_createFile (p : VPath) (h : p.fs.NoPanic I) : NoPanic I p.createFile :=
  .of_sat (sat_createFile p h.sat)

theorem createFile_handleOK (p : VPath) (h : p.fs.NoPanic I) : Returns p.createFile (HandleOK I) :=
  createFile_handle p h.all
theorem appendFile_handleOK (p : VPath) (h : p.fs.NoPanic I) : Returns p.appendFile (HandleOK I) :=
  appendFile_handle p h.all

theorem np_createDirAll (p : VPath) (h : p.fs.NoPanic I) : NoPanic I p.createDirAll :=
  .of_sat (sat_createDirAll p h.sat)
theorem np_readToEndChecked (p : VPath) (h : p.fs.NoPanic I) : NoPanic I p.readToEndChecked :=
  .of_sat (sat_readToEndChecked p h.sat.obs)

/-! #### transfers -/


theorem np_copyFile (src dst : VPath) (hs : src.fs.NoPanic I) (hd : dst.fs.NoPanic I) :
    NoPanic I (src.copyFile dst) :=
  .of_sat (sat_copyFile src dst hs.sat.obs hd.sat (fun _ => hs.sat))

theorem np_moveFile (src dst : VPath) (hs : src.fs.NoPanic I) (hd : dst.fs.NoPanic I) :
    NoPanic I (src.moveFile dst) :=
  .of_sat (sat_moveFile src dst hs.sat hd.sat (fun _ _ w hk hp => ⟨(hk.drop.post w hp.1).1, hp.2⟩))

/-! #### the walk iterator -/

theorem np_walkDir (p : VPath) (h : p.fs.NoPanic I) : NoPanic I p.walkDir :=
  .of_sat (sat_walkDir p h.sat.obs)


/-- **`WalkDirIterator::next`** never panics (structural on the pending directories) -/
theorem np_walkNext (fs : FS) (hfs : fs.NoPanic I) (s : Walk) (hs : s.On fs) :
    NoPanic I (walkNext s) :=
  .of_sat (sat_walkNext (S := .noPanic I) (fun _ _ h => h.1) s
    (fun c hc => by rw [hs.1 c hc]; exact hfs.sat.obs) (fun c hc => by rw [hs.2 c hc]; exact hfs.sat.obs))


end VPath
end Vfs

/-! ### the fuel-taking recursions

`removeDirAll`, `walkAll`, `copyItems` (hence `copyDir`, `moveDir`) return `.panic` at fuel 0.
That outcome is a sentinel of the model for "the recursion of the real code went deeper / the
iteration went on longer than the fuel" (in the real code: a directory tree deeper than the
stack, or an iterator that never ends, which needs a cyclic or infinite directory structure) —
it is not a Rust panic site. Two kinds of statements:

* one-step lemmas (`np_…_step`, instances of `sat_…_step`): one unfolding never panics provided
  the recursive calls do not — every panic site *other than* the recursive call is excluded;
* exhaustion lemmas (`…_panic`): if the outcome is `.panic`, then the run reached the `0 =>`
  branch, in the sense of the predicates `RemoveDirAllOut`, `WalkAllOut`, `CopyItemsOut`, which
  mirror the recursion along the successful steps of the run. -/
namespace Vfs
namespace VPath
variable {I : World → Prop}

theorem withPath_panic_inv {α} (p : Str) (m : M α) (w : World)
    (h : (M.withPath p m w).1 = .panic) : (m w).1 = .panic := by
  rw [M.withPath_run] at h
  cases hr : (m w).1 <;> rw [hr] at h <;> simp [Res.withPath] at h ⊢

/-- a panic behind the probe of the destination is a panic of the body, which ran because the
destination was absent -/
theorem guarded_panic {α} {src dst : VPath} {lbl : Str} {body : M α} (hex : NoPanic I dst.exists_)
    {w : World} (hw : I w) (h : (guarded src dst lbl body w).1 = .panic) :
    ∃ w', dst.exists_ w = (.ok false, w') ∧ I w' ∧ (body w').1 = .panic := by
  obtain ⟨b, w1, he, hw1, hp1⟩ := NoPanic.bind_panic_right hex hw (withPath_panic_inv _ _ _ h)
  cases b with
  | true => exact absurd hp1 (Res.err_ne_panic _ _)
  | false => exact ⟨w1, he, hw1, hp1⟩

/-- a panic behind the same-filesystem shortcut is a panic of the generic route -/
theorem fastOr_panic {c : Prop} [Decidable c] {m slow : M Unit} (hm : c → NoPanic I m)
    {w : World} (hw : I w) (h : (fastOr c m slow w).1 = .panic) :
    ∃ w', I w' ∧ (slow w').1 = .panic := by
  unfold fastOr at h
  by_cases hc : c
  · rw [if_pos hc] at h
    obtain ⟨r, w1, he, hw1, hp1⟩ := NoPanic.bind_panic_right (.attempt (hm hc)) hw h
    have hr := NoPanic.attempt_post (hm hc) w hw r (by rw [he])
    cases r with
    | ok u => exact absurd hp1 (Res.ok_ne_panic _)
    | panic => exact absurd rfl hr
    | err k p =>
      dsimp only at hp1
      split at hp1
      · exact absurd hp1 (Res.err_ne_panic _ _)
      · exact ⟨w1, hw1, hp1⟩
  · rw [if_neg hc] at h
    exact ⟨w, hw, h⟩

/-! #### `remove_dir_all` -/

/-- **one unfolding of `remove_dir_all`** never panics, provided the recursive calls (on paths
of the same filesystem, with the remaining fuel) do not -/
theorem np_removeDirAll_step (fuel : Nat) (p : VPath) (h : p.fs.NoPanic I)
    (hrec : ∀ c : VPath, c.fs = p.fs → NoPanic I (removeDirAll fuel c)) :
    NoPanic I (removeDirAll (fuel + 1) p) :=
  .of_sat (sat_removeDirAll_step fuel p h.sat.rm (fun c hc => (hrec c hc).sat))


/-- the loop over the children runs out of fuel: some child is a directory on which the
recursive call `act` (with exhaustion predicate `R`) runs out of fuel, all earlier children
having been removed successfully -/
def ChildrenOut (act : VPath → M Unit) (R : VPath → World → Prop) : List VPath → World → Prop
  | [], _ => False
  | c :: rest, w => ∃ md w1, c.metadata w = (.ok md, w1) ∧
      ((md.ftype = .dir ∧ R c w1) ∨
       (md.ftype = .dir ∧ ∃ w2, act c w1 = (.ok (), w2) ∧ ChildrenOut act R rest w2) ∨
       (md.ftype = .file ∧ ∃ w2, c.removeFile w1 = (.ok (), w2) ∧ ChildrenOut act R rest w2))

/-- `removeDirAll fuel p` started in `w` reaches the `0 =>` branch: the fuel is 0, or the path
exists, its listing succeeds, and the loop over the children runs out of fuel -/
def RemoveDirAllOut : Nat → VPath → World → Prop
  | 0, _, _ => True
  | fuel + 1, p, w => ∃ w1 children w2, p.exists_ w = (.ok true, w1) ∧
      p.readDir w1 = (.ok children, w2) ∧
      ChildrenOut (removeDirAll fuel) (RemoveDirAllOut fuel) children w2

theorem removeChildren_panic (fuel : Nat)
    (hrec : ∀ (c : VPath) (w : World), c.fs.NoPanic I → I w →
      (removeDirAll fuel c w).1 = .panic → RemoveDirAllOut fuel c w)
    (l : List VPath) (h : ∀ c ∈ l, c.fs.NoPanic I) (w : World) (hw : I w)
    (hp : (removeChildren fuel l w).1 = .panic) :
    ChildrenOut (removeDirAll fuel) (RemoveDirAllOut fuel) l w := by
  induction l generalizing w with
  | nil =>
    rw [removeChildren_nil] at hp
    exact absurd hp (Res.ok_ne_panic _)
  | cons c rest ih =>
    have hc := h c (by simp)
    have hrest := ih (fun x hx => h x (by simp [hx]))
    rw [removeChildren_cons] at hp
    obtain ⟨md, w1, hmd, hw1, hp1⟩ := NoPanic.bind_panic_right (np_metadata c hc) hw hp
    refine ⟨md, w1, hmd, ?_⟩
    dsimp only at hp1
    cases hft : md.ftype with
    | file =>
      rw [hft] at hp1
      obtain ⟨_, w2, hrm, hw2, hp2⟩ := NoPanic.bind_panic_right (np_removeFile c hc) hw1 hp1
      exact Or.inr (Or.inr ⟨rfl, w2, hrm, hrest w2 hw2 hp2⟩)
    | dir =>
      rw [hft] at hp1
      have hp1' : (M.bind (removeDirAll fuel c) (fun _ => removeChildren fuel rest) w1).1 = .panic := hp1
      have hpres := (pres_removeDirAll fuel c hc.all).pres w1 hw1
      cases hres : removeDirAll fuel c w1 with
      | mk r w2 =>
        rw [hres] at hpres
        cases r with
        | ok u =>
          rw [M.bind_ok hres] at hp1'
          exact Or.inr (Or.inl ⟨rfl, w2, rfl, hrest w2 hpres hp1'⟩)
        | err k pth => rw [M.bind_err hres] at hp1'; cases hp1'
        | panic => exact Or.inl ⟨rfl, hrec c w1 hc hw1 (by rw [hres])⟩

/-- **a `.panic` of `remove_dir_all` is the fuel sentinel**: over a panic-free filesystem, in a
world satisfying the invariant, the only way to `.panic` is to reach the `0 =>` branch -/
theorem removeDirAll_panic (fuel : Nat) (p : VPath) (h : p.fs.NoPanic I) (w : World) (hw : I w)
    (hp : (removeDirAll fuel p w).1 = .panic) : RemoveDirAllOut fuel p w := by
  induction fuel generalizing p w with
  | zero => unfold RemoveDirAllOut; trivial
  | succ fuel ih =>
    rw [removeDirAll_succ] at hp
    obtain ⟨b, w1, hex, hw1, hp1⟩ := NoPanic.bind_panic_right (np_exists p h) hw hp
    split at hp1
    · exact absurd hp1 (Res.ok_ne_panic _)
    · rename_i hb
      have hb' : b = true := by cases b <;> simp_all
      subst hb'
      have hq := (readDir_fs p).post w1
      obtain ⟨children, w2, hrd, hw2, hp2⟩ := NoPanic.bind_panic_right (np_readDir p h) hw1 hp1
      rw [hrd] at hq
      have hc := hq children rfl
      have hcf : ∀ c ∈ children, c.fs.NoPanic I := fun c hm => by rw [(hc c hm).1]; exact h
      have hp3 := NoPanic.bind_panic_left (pres_removeChildren fuel children (fun c hm => (hcf c hm).all))
        (fun _ => np_removeDir p h) hw2 hp2
      unfold RemoveDirAllOut
      exact ⟨w1, children, w2, hex, hrd,
        removeChildren_panic fuel (fun c w hc hw hp => ih c hc w hw hp) children hcf w2 hw2 hp3⟩

theorem removeDirAll_ne_panic_of (fuel : Nat) (p : VPath) (h : p.fs.NoPanic I) (w : World)
    (hw : I w) (hfuel : ¬ RemoveDirAllOut fuel p w) : (removeDirAll fuel p w).1 ≠ .panic :=
  fun hp => hfuel (removeDirAll_panic fuel p h w hw hp)

/-! #### collecting a walk -/

/-- **one unfolding of the collection loop** never panics provided the recursive call does not -/
theorem np_walkAll_step (fs : FS) (hfs : fs.NoPanic I) (fuel : Nat) (s : Walk) (hs : s.On fs)
    (hrec : ∀ s' : Walk, s'.On fs → NoPanic I (walkAll fuel s')) :
    NoPanic I (walkAll (fuel + 1) s) :=
  .of_sat (sat_walkAll_step (S := .noPanic I) (fun _ _ h => h.1) (.of_children (readDir_on fs))
    (fun c hc => by rw [hc]; exact hfs.sat.obs) fuel s hs (fun s' h => (hrec s' h).sat))

/-- `walkAll fuel s` reaches the `0 =>` branch: the iterator yields at least `fuel` items -/
def WalkAllOut : Nat → Walk → World → Prop
  | 0, _, _ => True
  | fuel + 1, s, w => ∃ it s' w', walkNext s w = (.ok (some it, s'), w') ∧ WalkAllOut fuel s' w'

/-- **a `.panic` of the collected walk is the fuel sentinel** -/
theorem walkAll_panic (fs : FS) (hfs : fs.NoPanic I) (fuel : Nat) (s : Walk) (hs : s.On fs)
    (w : World) (hw : I w) (hp : (walkAll fuel s w).1 = .panic) : WalkAllOut fuel s w := by
  induction fuel generalizing s w with
  | zero => unfold WalkAllOut; trivial
  | succ fuel ih =>
    rw [walkAll_succ] at hp
    have hq := (walkNext_on fs s hs).post w
    obtain ⟨x, w1, hnx, hw1, hp1⟩ := NoPanic.bind_panic_right (np_walkNext fs hfs s hs) hw hp
    rw [hnx] at hq
    obtain ⟨item, s'⟩ := x
    have hs' : s'.On fs := (hq _ rfl).2
    cases item with
    | none => exact absurd hp1 (Res.ok_ne_panic _)
    | some it =>
      have hp1' : (M.bind (walkAll fuel s') (fun rest => Pure.pure (it :: rest)) w1).1 = .panic := hp1
      unfold WalkAllOut
      refine ⟨it, s', w1, hnx, ?_⟩
      cases hres : walkAll fuel s' w1 with
      | mk r w2 =>
        cases r with
        | ok rest => rw [M.bind_ok hres] at hp1'; exact absurd hp1' (Res.ok_ne_panic _)
        | err k pth => rw [M.bind_err hres] at hp1'; cases hp1'
        | panic => exact ih s' hs' w1 hw1 (by rw [hres])

/-! #### the loop of copy_dir / move_dir -/

/-- **one unfolding of the copy loop** never panics (in particular not at the slice
`[prefix_len + 1..]`), provided the recursive call does not -/
theorem np_copyItems_step (fuel : Nat) (src dst : VPath) (hs : src.fs.NoPanic I)
    (hd : dst.fs.NoPanic I) (s : Walk) (hfrom : s.From src) (count : Nat)
    (hrec : ∀ (s' : Walk) (c : Nat), s'.From src → NoPanic I (copyItems fuel src dst s' c)) :
    NoPanic I (copyItems (fuel + 1) src dst s count) :=
  .of_sat (sat_copyItems_step fuel src dst hs.sat hd.sat s hfrom count (fun s' c h => (hrec s' c h).sat))

theorem pres_copyItems (fuel : Nat) (src dst : VPath) (hs : src.fs.NoPanic I)
    (hd : dst.fs.NoPanic I) (s : Walk) (hfrom : s.From src) (count : Nat) :
    Preserves I (copyItems fuel src dst s count) :=
  .of_sat (sat_copyItems (S := .preserves I) fuel src dst hs.all.sat hd.all.sat s hfrom count)

/-- `copyItems fuel src dst s _` reaches the `0 =>` branch: the fuel is 0, or the iterator
yields a path, that item is transferred successfully, and the rest of the loop runs out of
fuel -/
def CopyItemsOut (src dst : VPath) : Nat → Walk → World → Prop
  | 0, _, _ => True
  | fuel + 1, s, w => ∃ x s' w1 d md w2 w3, walkNext s w = (.ok (some (.ok x), s'), w1) ∧
      relJoin dst src.path.length x = .ok d ∧ x.metadata w1 = (.ok md, w2) ∧
      ((md.ftype = .dir ∧ d.createDir w2 = (.ok (), w3)) ∨
       (md.ftype = .file ∧ x.copyFile d w2 = (.ok (), w3))) ∧
      CopyItemsOut src dst fuel s' w3

/-- **a `.panic` of the copy loop is the fuel sentinel** — it is never the out-of-range slice
`&src_path[prefix_len + 1..]`, nor a panic of anything the loop calls -/
theorem copyItems_panic (fuel : Nat) (src dst : VPath) (hs : src.fs.NoPanic I)
    (hd : dst.fs.NoPanic I) (s : Walk) (hfrom : s.From src) (count : Nat) (w : World) (hw : I w)
    (hp : (copyItems fuel src dst s count w).1 = .panic) : CopyItemsOut src dst fuel s w := by
  induction fuel generalizing s count w with
  | zero => unfold CopyItemsOut; trivial
  | succ fuel ih =>
    unfold copyItems at hp
    have hq := (walkNext_from src s hfrom).post w
    obtain ⟨a, w1, hnx, hw1, hp1⟩ := NoPanic.bind_panic_right (np_walkNext src.fs hs s hfrom.1) hw hp
    rw [hnx] at hq
    obtain ⟨item, s'⟩ := a
    obtain ⟨hx1, hx2, hx3⟩ := hq _ rfl
    cases item with
    | none => exact absurd hp1 (Res.ok_ne_panic _)
    | some r =>
      cases r with
      | err k pth => exact absurd hp1 (Res.err_ne_panic _ _)
      | panic => exact absurd rfl hx2
      | ok x =>
        obtain ⟨hxf, hxb⟩ := hx1 x rfl
        have hx : x.fs.NoPanic I := by rw [hxf]; exact hs
        dsimp only at hp1
        have hq2 := (relJoin_fs dst src.path.length x).post w1
        obtain ⟨d, w1', hrj, hw1', hp2⟩ := NoPanic.bind_panic_right
          (.ret _ (relJoin_ne_panic dst src.path x hxb)) hw1 hp1
        rw [hrj] at hq2
        have hdf : d.fs.NoPanic I := by rw [(hq2 d rfl).1]; exact hd
        -- `M.ret` leaves the world alone: `w1'` is `w1`, the `w1` of `CopyItemsOut`
        obtain ⟨hrj', rfl⟩ := M.ret_ok_inv hrj
        obtain ⟨md, w2, hmd, hw2, hp3⟩ := NoPanic.bind_panic_right (np_metadata x hx) hw1 hp2
        unfold CopyItemsOut
        cases hft : md.ftype with
        | dir =>
          rw [hft] at hp3
          obtain ⟨_, w3, hcd, hw3, hp4⟩ := NoPanic.bind_panic_right (np_createDir d hdf) hw2 hp3
          exact ⟨x, s', w1', d, md, w2, w3, hnx, hrj', hmd, Or.inl ⟨hft, hcd⟩,
            ih s' hx3 _ w3 hw3 hp4⟩
        | file =>
          rw [hft] at hp3
          obtain ⟨_, w3, hcf, hw3, hp4⟩ := NoPanic.bind_panic_right (np_copyFile x d hx hdf) hw2 hp3
          exact ⟨x, s', w1', d, md, w2, w3, hnx, hrj', hmd, Or.inr ⟨hft, hcf⟩,
            ih s' hx3 _ w3 hw3 hp4⟩

/-- `copy_dir`: one unfolding -/
theorem np_copyDir_of (fuel : Nat) (src dst : VPath) (hs : src.fs.NoPanic I) (hd : dst.fs.NoPanic I)
    (hrec : ∀ s : Walk, s.From src → NoPanic I (copyItems fuel src dst s 0)) :
    NoPanic I (src.copyDir fuel dst) :=
  .of_sat (sat_copyDir_of fuel src dst hs.sat hd.sat (fun s h => (hrec s h).sat))

/-- **a `.panic` of `copy_dir` is the fuel sentinel of its loop** -/
theorem copyDir_panic (fuel : Nat) (src dst : VPath) (hs : src.fs.NoPanic I) (hd : dst.fs.NoPanic I)
    (w : World) (hw : I w) (hp : (src.copyDir fuel dst w).1 = .panic) :
    ∃ w1 w2 s w3, dst.exists_ w = (.ok false, w1) ∧ dst.createDir w1 = (.ok (), w2) ∧
      src.walkDir w2 = (.ok s, w3) ∧ CopyItemsOut src dst fuel s w3 := by
  obtain ⟨w1, hex, hw1, hp1⟩ := guarded_panic (np_exists dst hd) hw hp
  obtain ⟨_, w2, hcd, hw2, hp2⟩ := NoPanic.bind_panic_right (np_createDir dst hd) hw1 hp1
  have hq := (walkDir_from src).post w2
  obtain ⟨s, w3, hwd, hw3, hp3⟩ := NoPanic.bind_panic_right (np_walkDir src hs) hw2 hp2
  rw [hwd] at hq
  exact ⟨w1, w2, s, w3, hex, hcd, hwd, copyItems_panic fuel src dst hs hd s (hq s rfl) 0 w3 hw3 hp3⟩

/-- `move_dir`: one unfolding -/
theorem np_moveDir_of (fuel : Nat) (src dst : VPath) (hs : src.fs.NoPanic I) (hd : dst.fs.NoPanic I)
    (hrec1 : ∀ s : Walk, s.From src → NoPanic I (copyItems fuel src dst s 0))
    (hrec2 : NoPanic I (removeDirAll fuel src)) :
    NoPanic I (src.moveDir fuel dst) :=
  .of_sat (sat_moveDir_of fuel src dst hs.sat hd.sat (fun s h => (hrec1 s h).sat) hrec2.sat)

/-- **a `.panic` of `move_dir` is the fuel sentinel** of its copy loop or of the final
`remove_dir_all` -/
theorem moveDir_panic (fuel : Nat) (src dst : VPath) (hs : src.fs.NoPanic I) (hd : dst.fs.NoPanic I)
    (w : World) (hw : I w) (hp : (src.moveDir fuel dst w).1 = .panic) :
    (∃ s w', s.From src ∧ I w' ∧ CopyItemsOut src dst fuel s w') ∨
    (∃ w', I w' ∧ RemoveDirAllOut fuel src w') := by
  rw [moveDir_eq] at hp
  obtain ⟨w1, _, hw1, hp1⟩ := guarded_panic (np_exists dst hd) hw hp
  obtain ⟨w2, hw2, hp2⟩ := fastOr_panic (fun _ => hs.moveDir src.path dst.path) hw1 hp1
  obtain ⟨_, w3, hcd, hw3, hp3⟩ := NoPanic.bind_panic_right (np_createDir dst hd) hw2 hp2
  have hq := (walkDir_from src).post w3
  obtain ⟨s, w4, hwd, hw4, hp4⟩ := NoPanic.bind_panic_right (np_walkDir src hs) hw3 hp3
  rw [hwd] at hq
  have hfrom := hq s rfl
  have hp4' : (M.bind (copyItems fuel src dst s 0) (fun _ => removeDirAll fuel src) w4).1 = .panic := hp4
  have hpres := (pres_copyItems fuel src dst hs hd s hfrom 0).pres w4 hw4
  cases hres : copyItems fuel src dst s 0 w4 with
  | mk r w5 =>
    rw [hres] at hpres
    cases r with
    | ok n =>
      rw [M.bind_ok hres] at hp4'
      exact Or.inr ⟨w5, hpres, removeDirAll_panic fuel src hs w5 hpres hp4'⟩
    | err k pth => rw [M.bind_err hres] at hp4'; cases hp4'
    | panic =>
      exact Or.inl ⟨s, w4, hfrom, hw4,
        copyItems_panic fuel src dst hs hd s hfrom 0 w4 hw4 (by rw [hres])⟩

end VPath
end Vfs

/-! ### AltrootFS and OverlayFS -/
namespace Vfs
namespace Altroot
variable {I : World → Prop}

theorem noPanic (root : VPath) (h : root.fs.NoPanic I) : (fs root).NoPanic I :=
  .of_sat (sat_all root h.sat)

end Altroot

/-! OverlayFS. The model writes the Rust slices `&path[1..]` as `drop 1` (`tail1`) and `&filename[..len-3]`
as `take (len - 3)` (`stripWo`), which are total. In the Rust code these slices are guarded:
`&path[1..]` is reached only after `path.is_empty()` has been excluded (`read_path`,
`write_path`, `whiteout_path`, `read_dir`), and `[..len-3]` only under `ends_with("_wo")`;
VFS path strings are ASCII-'/'-separated, so index 1 is a character boundary for every
non-empty path that starts with '/'. Every other step (joins, the per-layer calls, the loops
over the layers, which are structural) is covered by `Overlay.sat_all`. -/
namespace Overlay
open VPath
variable {I : World → Prop}

/-- the hypothesis on the layers -/
abbrev NPLayers (I : World → Prop) (layers : List VPath) : Prop := ∀ l ∈ layers, l.fs.NoPanic I

/-- every method of the overlay, for arbitrary panic-free layers (any number — the empty list
included —, nested adapters) -/
theorem noPanic (layers : List VPath) (hl : NPLayers I layers) : (Overlay.fs layers).NoPanic I :=
  .of_sat (sat_all (.of_all (fun l hm => (hl l hm).sat)))

end Overlay


/-! ### EmbeddedFS -/
namespace Embedded
variable {I : World → Prop}

/-- the embedded filesystem never panics, for every state and in every world -/
theorem noPanic (s : State) : (fs s).NoPanic I := .of_sat (sat_all s)

/-- `open_file` with the slice taken by `path.split_at(1)`, as `EmbeddedFS::metadata` of the crate
takes it: on the empty string (the root) `split_at(1)` panics. `Embedded.openFile` of the model
goes through `normalize_path` instead, as the crate's `open_file` does. -/
def openFileSplitAt (s : State) (p : Str) : Res RHandle :=
  if p = [] then .panic   -- `"".split_at(1)`: byte index 1 is out of bounds
  else openFile s p       -- otherwise the same lookup of `path[1..]`

/-- the `split_at(1)` variant panics on the root, for every state -/
theorem openFileSplitAt_panics_on_root (s : State) : openFileSplitAt s [] = .panic := rfl

/-- away from the root the two agree -/
theorem openFileSplitAt_eq (s : State) (p : Str) (h : p ≠ []) : openFileSplitAt s p = openFile s p := by
  unfold openFileSplitAt
  rw [if_neg h]

/-- hence a filesystem whose `open_file` is the `split_at(1)` variant does not satisfy `FS.NoPanic`,
whatever the invariant (as long as some world satisfies it) -/
theorem old_openFile_not_noPanic (s : State) (w : World) (hw : I w) :
    ¬ NoPanic I (M.ret (openFileSplitAt s [])) :=
  fun h => h.np w hw rfl

end Embedded
end Vfs
