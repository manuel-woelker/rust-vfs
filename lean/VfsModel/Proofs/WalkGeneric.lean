/-
  `VfsPath::walk_dir` (/repo/src/path.rs, `WalkDirIterator`) over any filesystem whose observers
  show a finite well-formed tree; Props/C05Walk.lean (memory leaf) and Props/C05WalkView.lean
  instantiate it.

  `TreeViewOn fs S v`: `v : Str → Option Entry` is a finite tree (root `""` a directory, every other
  present path has a '/' and its `parent_internal` is a present directory), and in every world of
  `S` the two trait methods the walker calls answer by `v` and leave the world inside `S`: `read_dir`
  of a directory gives the bare names of its present children, each once, in some order (which may
  differ from call to call; nothing is assumed about it), `metadata` of a present path reports its
  type. `S` closed under the two observers is the precise "nothing the walker can see changes".
  `TreeView fs w v` is `S = {w}`: it holds for MemoryFS, the overlay over memory layers and the
  altroot over a memory leaf (`open_file` stamps access times, but the walker never opens a file).
  `ViewAbsent` is used only for `walk_dir` on a non-directory.

  A finite view is the lookup function of a flat map (`exists_map`), so the definitions `Good` and
  `pending` of Proofs/WalkLemmas.lean on maps and the combinatorial lemmas about them (`emit_good`,
  `expand_good'`) apply. The step lemma `walkNext_sees` is by induction on the stack; it asks the
  observers only about keys of a descendant-closed `Dom` (`SeesOn`) and says that the new state lies
  there again. `walkNext_spec'` is the case of a whole tree view. The whole walk `walkAll_spec'` is
  by induction on the fuel.

  A primed name is the statement for any filesystem with a tree view and any order of `read_dir`.
  The names that exist without the prime as well (`Wk.run_walkDir` in Proofs/WalkLemmas.lean,
  `run_metadata`, `run_readDir` in Proofs/MemRun.lean) are about the memory leaf, which lists the
  children in key order.

  The last section is the collected walk started anywhere. `Refuses fs S v dom`: in every world of
  `S`, `read_dir` of a path of `dom` that is not a directory of `v` (a file, or nothing there) is
  some `Err` and stays in `S` (`ViewAbsent` also fixes which error). `collect_outcome` is the walk
  from a directory: a listing of the subtree, or the out-of-fuel `.panic`; `collect_sentinel_iff`
  says when the outcome is `.panic` for any path, the third outcome being the `Err` of `read_dir`
  (`collect_readDir_err`).

  Fuel: `walkAll fuel` calls `next` at most `fuel` times, and a walk of `n` items needs `n + 1`
  calls, the last one answering `None`. So every bound here reads "`n < fuel` gives the list,
  `fuel ≤ n` gives the sentinel".
-/
import VfsModel.Proofs.WalkLemmas
namespace Vfs.WkG
open Vfs.Wk

/-- what `read_dir p` answers under the view `v`: the bare names of the present children, each
once, in some order -/
def IsNames (v : Str → Option Entry) (p : Str) (names : List Str) : Prop :=
  names.Nodup ∧ ∀ n, n ∈ names ↔ ('/' ∉ n ∧ v (p ++ '/' :: n) ≠ none)

structure TreeViewOn (fs : FS) (S : World → Prop) (v : Str → Option Entry) : Prop where
  /-- any finite superset of the present paths will do -/
  finite : ∃ keys : List Str, ∀ k, v k ≠ none → k ∈ keys
  root : ∃ e, v [] = some e ∧ e.ftype = .dir
  parent : ∀ k e, v k = some e → k ≠ [] →
    '/' ∈ k ∧ ∃ pe, v (parentInternal k) = some pe ∧ pe.ftype = .dir
  readDir : ∀ w, S w → ∀ p e, v p = some e → e.ftype = .dir →
    ∃ names w', fs.readDir p w = (.ok names, w') ∧ S w' ∧ IsNames v p names
  metadata : ∀ w, S w → ∀ p e, v p = some e →
    ∃ md w', fs.metadata p w = (.ok md, w') ∧ S w' ∧ md.ftype = e.ftype

def TreeView (fs : FS) (w : World) (v : Str → Option Entry) : Prop :=
  TreeViewOn fs (fun w' => w' = w) v

structure ViewAbsent (fs : FS) (S : World → Prop) (v : Str → Option Entry) (dom : Str → Prop) :
    Prop where
  absent : ∀ w, S w → ∀ p, dom p → v p = none →
    (∃ pth w', fs.readDir p w = (.err .fileNotFound pth, w') ∧ S w') ∧
    (∃ pth w', fs.metadata p w = (.err .fileNotFound pth, w') ∧ S w')
  file : ∀ w, S w → ∀ p e, dom p → v p = some e → e.ftype = .file →
    ∃ k pth w', fs.readDir p w = (.err k pth, w') ∧ S w'

theorem TreeViewOn.mono {fs : FS} {S S' : World → Prop} {v : Str → Option Entry}
    (tv : TreeViewOn fs S v) (hsub : ∀ w, S' w → S w)
    (hrd : ∀ w, S' w → ∀ p names w', fs.readDir p w = (.ok names, w') → S' w')
    (hmd : ∀ w, S' w → ∀ p md w', fs.metadata p w = (.ok md, w') → S' w') :
    TreeViewOn fs S' v where
  finite := tv.finite
  root := tv.root
  parent := tv.parent
  readDir := by
    intro w hw p e hp hd
    obtain ⟨names, w', h1, _, h3⟩ := tv.readDir w (hsub w hw) p e hp hd
    exact ⟨names, w', h1, hrd w hw p names w' h1, h3⟩
  metadata := by
    intro w hw p e hp
    obtain ⟨md, w', h1, _, h3⟩ := tv.metadata w (hsub w hw) p e hp
    exact ⟨md, w', h1, hmd w hw p md w' h1, h3⟩

def dedup : List Str → List Str
  | [] => []
  | k :: ks => if k ∈ dedup ks then dedup ks else k :: dedup ks

theorem mem_dedup (ks : List Str) (k : Str) : k ∈ dedup ks ↔ k ∈ ks := by
  induction ks with
  | nil => simp [dedup]
  | cons a ks ih =>
    unfold dedup
    split
    · rename_i ha
      rw [ih, List.mem_cons]
      constructor
      · exact Or.inr
      · rintro (rfl | h)
        · exact (ih.1 ha)
        · exact h
    · rw [List.mem_cons, List.mem_cons, ih]

theorem nodup_dedup (ks : List Str) : (dedup ks).Nodup := by
  induction ks with
  | nil => simp [dedup]
  | cons a ks ih =>
    unfold dedup
    split
    · exact ih
    · rename_i ha
      exact List.nodup_cons.2 ⟨ha, ih⟩

theorem exists_map {v : Str → Option Entry}
    (hfin : ∃ keys : List Str, ∀ k, v k ≠ none → k ∈ keys)
    (hroot : ∃ e, v [] = some e ∧ e.ftype = .dir)
    (hpar : ∀ k e, v k = some e → k ≠ [] →
      '/' ∈ k ∧ ∃ pe, v (parentInternal k) = some pe ∧ pe.ftype = .dir) :
    ∃ m : FMap, v = m.find? ∧ WF m ∧ FMap.NodupKeys m := by
  obtain ⟨keys, hkeys⟩ := hfin
  have hv : v = (FMap.tab (dedup keys) v).find? := by
    funext k
    rw [FMap.find?_tab]
    split
    · rfl
    · rename_i hk
      cases hvk : v k with
      | none => rfl
      | some e =>
        exact absurd ((mem_dedup keys k).2 (hkeys k (by rw [hvk]; simp))) hk
  refine ⟨FMap.tab (dedup keys) v, hv, ?_, FMap.nodupKeys_tab _ v (nodup_dedup keys)⟩
  have hf : ∀ k, (FMap.tab (dedup keys) v).find? k = v k := fun k => (congrFun hv k).symm
  unfold WF
  simp only [hf]
  exact ⟨hroot, hpar⟩

theorem isListing_of_names {m : FMap} {p : Str} {names : List Str}
    (h : IsNames m.find? p names) : IsListing m p (names.map (fun n => p ++ '/' :: n)) := by
  obtain ⟨hnd, hmem⟩ := h
  constructor
  · unfold List.Nodup at *
    rw [List.pairwise_map]
    refine hnd.imp ?_
    intro a b hab heq
    exact hab (by simpa using List.append_cancel_left heq)
  · intro k
    rw [Wk.mem_children, List.mem_map]
    constructor
    · rintro ⟨n, hn, rfl⟩
      obtain ⟨hs, hpres⟩ := (hmem n).1 hn
      refine ⟨?_, by simp, parent_of_child p n hs⟩
      cases hf : m.find? (p ++ '/' :: n) with
      | none => exact absurd hf hpres
      | some e => exact ⟨e, rfl⟩
    · rintro ⟨⟨e, he⟩, hs, hp⟩
      have h2 := (split_last '/' k hs).2
      have hk : k = p ++ '/' :: afterLast '/' k := by
        rw [← hp]; exact parentInternal_split k hs
      refine ⟨afterLast '/' k, (hmem _).2 ⟨h2, ?_⟩, hk.symm⟩
      rw [← hk, he]
      simp

section step
variable {S : World → Prop} {m : FMap} {P : VPath} (tv : TreeViewOn P.fs S m.find?)
include tv

theorem run_metadata' (w : World) (hw : S w) (x : Str) (e : Entry) (hx : m.find? x = some e) :
    ∃ md w', S w' ∧ (P.withStr x).metadata w = (.ok md, w') ∧ md.ftype = e.ftype := by
  obtain ⟨md, w', hmd, hS, hft⟩ := tv.metadata w hw x e hx
  exact ⟨md, w', hS, VPath.metadata_of_call (p := P.withStr x) hmd, hft⟩

theorem run_readDir' (w : World) (hw : S w) (d : Str) (e : Entry) (hd : m.find? d = some e)
    (hdir : e.ftype = .dir) :
    ∃ l w', S w' ∧ IsListing m d l ∧ (P.withStr d).readDir w = (.ok (l.map P.withStr), w') := by
  obtain ⟨names, w', hrd, hS, hn⟩ := tv.readDir w hw d e hd hdir
  refine ⟨names.map (fun n => d ++ '/' :: n), w', hS, isListing_of_names hn, ?_⟩
  rw [VPath.readDir_of_call (p := P.withStr d) hrd, List.map_map]
  rfl

theorem walkNext_cons' (w : World) (hw : S w) (x : Str) (rest todo : List Str) (e : Entry)
    (hx : m.find? x = some e) :
    ∃ w', S w' ∧ VPath.walkNext (st P (x :: rest) todo) w =
      (.ok (some (.ok (P.withStr x)),
        st P rest (if e.ftype = .dir then x :: todo else todo)), w') := by
  obtain ⟨md, w', hS, hmd, hft⟩ := run_metadata' tv w hw x e hx
  exact ⟨w', hS, by rw [walkNext_cons_of hmd, hft]⟩

theorem walkNext_expand' (w : World) (hw : S w) (d : Str) (todo : List Str) (e : Entry)
    (hd : m.find? d = some e) (hdir : e.ftype = .dir) :
    ∃ l w', S w' ∧ IsListing m d l ∧
      VPath.walkNext (st P [] (d :: todo)) w = VPath.walkNext (st P l todo) w' := by
  obtain ⟨l, w', hS, hl, hrd⟩ := run_readDir' tv w hw d e hd hdir
  exact ⟨l, w', hS, hl, walkNext_expand_of hrd todo⟩

omit tv in
/-- `WalkDirIterator::next` asks `metadata` and `read_dir` only about paths the iterator holds, and
those lie below where the walk started: on the keys of a descendant-closed `Dom`, in every world of
`S`, the two calls answer as the tree `m` says and stay in `S`. Elsewhere the filesystem may show
anything (the destination of `copy_dir` may lie on the walked filesystem). -/
structure SeesOn (P : VPath) (m : FMap) (Dom : Str → Prop) (S : World → Prop) : Prop where
  mdata : ∀ w, S w → ∀ x e, Dom x → m.find? x = some e →
    ∃ md w', S w' ∧ (P.withStr x).metadata w = (.ok md, w') ∧ md.ftype = e.ftype
  listing : ∀ w, S w → ∀ d e, Dom d → m.find? d = some e → e.ftype = .dir →
    ∃ l w', S w' ∧ IsListing m d l ∧ (P.withStr d).readDir w = (.ok (l.map P.withStr), w')

theorem SeesOn.of_treeView (Dom : Str → Prop) : SeesOn P m Dom S :=
  ⟨fun w hw x e _ hx => run_metadata' tv w hw x e hx,
    fun w hw d e _ hd hdir => run_readDir' tv w hw d e hd hdir⟩

end step

/-- a set of path strings closed under descendants -/
def Down (Dom : Str → Prop) : Prop := ∀ d k, Dom d → below d k = true → Dom k

theorem down_all : Down (fun _ => True) := fun _ _ _ _ => trivial

theorem down_below (R : Str) : Down (fun k => below R k = true) :=
  fun _ _ hd hk => below_trans hd hk

theorem down_within (R : Str) : Down (fun k => within R k = true) :=
  fun _ _ hd hk => within_of_below (below_of_within_below hd hk)

/-- the iterator state lies in `Dom` -/
def In (Dom : Str → Prop) (inner todo : List Str) : Prop :=
  (∀ x ∈ inner, Dom x) ∧ ∀ d ∈ todo, Dom d

/-- a family of trees that agree with `m0` on `Dom`, each shown in its own worlds, is `m0` seen on
`Dom` in all of them -/
theorem seesOn_of_family {P : VPath} {m0 : FMap} {Dom : Str → Prop} (hdown : Down Dom)
    (Q : FMap → Prop) (V : FMap → World → Prop)
    (tv : ∀ m, Q m → TreeViewOn P.fs (V m) m.find?)
    (hq : ∀ m, Q m → ∀ k, Dom k → m.find? k = m0.find? k) :
    SeesOn P m0 Dom (fun w => ∃ m, Q m ∧ V m w) where
  mdata := by
    rintro w ⟨m, hQ, hV⟩ x e hx he
    obtain ⟨md, w', hS, h1, h2⟩ := run_metadata' (tv m hQ) w hV x e (by rw [hq m hQ x hx]; exact he)
    exact ⟨md, w', ⟨m, hQ, hS⟩, h1, h2⟩
  listing := by
    rintro w ⟨m, hQ, hV⟩ d e hd he hdir
    obtain ⟨l, w', hS, hl, h1⟩ :=
      run_readDir' (tv m hQ) w hV d e (by rw [hq m hQ d hd]; exact he) hdir
    refine ⟨l, w', ⟨m, hQ, hS⟩, ⟨hl.1, fun k => ?_⟩, h1⟩
    -- a child of `d` lies in `Dom`, where `m` and `m0` agree
    rw [hl.2 k, Wk.mem_children, Wk.mem_children]
    constructor
    · rintro ⟨hk, hs, hp⟩
      refine ⟨?_, hs, hp⟩
      rwa [← hq m hQ k (hdown d k hd (by rw [← hp]; exact below_parent_self k hs))]
    · rintro ⟨hk, hs, hp⟩
      refine ⟨?_, hs, hp⟩
      rwa [hq m hQ k (hdown d k hd (by rw [← hp]; exact below_parent_self k hs))]

/-- one call of `next` from a good state in `Dom`: either the walk is over and nothing is pending,
or a present key `x` of `Dom` is yielded, the new state is good and in `Dom` again, exactly `x`
leaves the pending set, nothing still pending is an ancestor of `x`, and no string, present or not,
becomes pending (a walk stays blind to keys that appear elsewhere while it runs) -/
def StepOn (S : World → Prop) (P : VPath) (m : FMap) (Dom : Str → Prop) (w : World)
    (inner todo : List Str) : Prop :=
  (∃ w', S w' ∧ VPath.walkNext (st P inner todo) w = (.ok (none, st P [] []), w') ∧
    ∀ k, (∃ e, m.find? k = some e) → pending inner todo k = false) ∨
  ∃ x inner' todo' w', S w' ∧
    VPath.walkNext (st P inner todo) w = (.ok (some (.ok (P.withStr x)), st P inner' todo'), w') ∧
    Good m inner' todo' ∧ In Dom inner' todo' ∧ Dom x ∧ (∃ e, m.find? x = some e) ∧
    pending inner' todo' x = false ∧
    (∀ k, (∃ e, m.find? k = some e) →
      pending inner todo k = (decide (k = x) || pending inner' todo' k)) ∧
    (∀ b, pending inner' todo' b = true → below b x = false) ∧
    (∀ k, pending inner' todo' k = true → pending inner todo k = true)

/-- the step over a whole tree view: no domain to stay in -/
def StepSpec (S : World → Prop) (P : VPath) (m : FMap) (w : World) (inner todo : List Str) : Prop :=
  StepOn S P m (fun _ => True) w inner todo

/-- one call of `next` from a good state in `Dom`, by induction on the stack of directories. For
observers that leave the world alone take `S := (· = w)`: the `S w'` of the conclusion is then
`w' = w`. -/
theorem walkNext_sees {P : VPath} {m : FMap} {Dom : Str → Prop} {S : World → Prop} (hwf : WF m)
    (hdown : Down Dom) (hs : SeesOn P m Dom S) :
    ∀ (todo inner : List Str) (w : World), S w → Good m inner todo → In Dom inner todo →
      StepOn S P m Dom w inner todo := by
  have emit : ∀ (x : Str) (rest todo : List Str) (w : World), S w → Good m (x :: rest) todo →
      In Dom (x :: rest) todo → StepOn S P m Dom w (x :: rest) todo := by
    intro x rest todo w hw hg hl
    obtain ⟨e, hx⟩ := hg.innerKeys x (by simp)
    have hDx := hl.1 x (by simp)
    obtain ⟨md, w', hS, hmd, hft⟩ := hs.mdata w hw x e hDx hx
    obtain ⟨g1, g2, g3, g4⟩ := emit_good hwf hg e hx _ rfl
    refine Or.inr ⟨x, rest, _, w', hS, by rw [walkNext_cons_of hmd, hft], g1,
      ⟨fun y hy => hl.1 y (by simp [hy]), fun d hd => ?_⟩, hDx, ⟨e, hx⟩, g2, g3, g4,
      pending_emit_mono x rest todo _⟩
    split at hd
    · rcases List.mem_cons.1 hd with rfl | hd
      · exact hDx
      · exact hl.2 d hd
    · exact hl.2 d hd
  intro todo
  induction todo with
  | nil =>
    intro inner w hw hg hl
    cases inner with
    | nil => exact Or.inl ⟨w, hw, rfl, fun k _ => rfl⟩
    | cons x rest => exact emit x rest [] w hw hg hl
  | cons d todo ih =>
    intro inner w hw hg hl
    cases inner with
    | cons x rest => exact emit x rest (d :: todo) w hw hg hl
    | nil =>
      obtain ⟨e, hd, hdir⟩ := hg.todoDirs d (by simp)
      have hDd := hl.2 d (by simp)
      obtain ⟨l, w1, hS1, hlist, hrd⟩ := hs.listing w hw d e hDd hd hdir
      obtain ⟨g1, g2⟩ := expand_good' hwf hlist hg
      have hrun := walkNext_expand_of hrd todo
      have hl' : In Dom l todo :=
        ⟨fun y hy => hdown d y hDd (child_below ((hlist.2 y).1 hy)),
          fun d' hd' => hl.2 d' (by simp [hd'])⟩
      rcases ih l w1 hS1 g1 hl' with
        ⟨w', hS, h1, h2⟩ | ⟨x, inner', todo', w', hS, h1, h2, hloc, hDx, h3, h4, h5, h6, h7⟩
      · exact Or.inl ⟨w', hS, by rw [hrun]; exact h1, fun k hk => by rw [g2 k hk]; exact h2 k hk⟩
      · exact Or.inr ⟨x, inner', todo', w', hS, by rw [hrun]; exact h1, h2, hloc, hDx, h3, h4,
          fun k hk => by rw [g2 k hk]; exact h5 k hk, h6,
          fun k hk => pending_expand_mono hlist todo k (h7 k hk)⟩

theorem walkNext_spec' {S : World → Prop} {m : FMap} {P : VPath}
    (tv : TreeViewOn P.fs S m.find?) (hwf : WF m) :
    ∀ (todo inner : List Str) (w : World), S w → Good m inner todo →
      StepSpec S P m w inner todo := fun todo inner w hw hg =>
  walkNext_sees hwf down_all (SeesOn.of_treeView tv _) todo inner w hw hg
    ⟨fun _ _ => trivial, fun _ _ => trivial⟩


theorem filter_length_succ (l : List Str) (hnd : l.Nodup) (q q' : Str → Bool) (x : Str)
    (hx : x ∈ l) (hqx : q x = true) (hq'x : q' x = false)
    (hrest : ∀ k ∈ l, k ≠ x → q k = q' k) :
    (l.filter q).length = (l.filter q').length + 1 := by
  induction l with
  | nil => cases hx
  | cons a l ih =>
    have hnd' := List.nodup_cons.1 hnd
    simp only [List.filter_cons]
    by_cases hxa : a = x
    · subst hxa
      rw [hqx, hq'x]
      have : l.filter q = l.filter q' := by
        apply List.filter_congr
        intro k hk
        exact hrest k (List.mem_cons_of_mem _ hk) (fun h => hnd'.1 (h ▸ hk))
      simp [this]
    · have hxl : x ∈ l := by
        rcases List.mem_cons.1 hx with h | h
        · exact absurd h.symm hxa
        · exact h
      have ih' := ih hnd'.2 hxl (fun k hk => hrest k (List.mem_cons_of_mem _ hk))
      rw [hrest a (by simp) hxa]
      cases q' a
      · simpa using ih'
      · simp only [if_true, List.length_cons]; omega

section all
variable {S : World → Prop} {m : FMap} {P : VPath} (tv : TreeViewOn P.fs S m.find?)
include tv

theorem walkAll_spec' (hwf : WF m) (hk : FMap.NodupKeys m) :
    ∀ (fuel : Nat) (inner todo : List Str) (w : World), S w → Good m inner todo →
      ((m.keys.filter (pending inner todo)).length < fuel →
        ∃ (L : List Str) (w' : World), S w' ∧
          VPath.walkAll fuel (st P inner todo) w = (.ok (L.map (fun k => .ok (P.withStr k))), w') ∧
          (∀ k, k ∈ L ↔ k ∈ m.keys ∧ pending inner todo k = true) ∧ L.Nodup ∧
          L.Pairwise (fun a b => below b a = false)) ∧
      (fuel ≤ (m.keys.filter (pending inner todo)).length →
        ∃ w', S w' ∧ VPath.walkAll fuel (st P inner todo) w = (.panic, w')) := by
  intro fuel
  induction fuel with
  | zero =>
    intro inner todo w hw _
    exact ⟨fun hf => absurd hf (Nat.not_lt_zero _), fun _ => ⟨w, hw, rfl⟩⟩
  | succ fuel ih =>
    intro inner todo w hw hg
    rcases walkNext_spec' tv hwf todo inner w hw hg with
      ⟨w1, hS1, h1, h2⟩ | ⟨x, inner', todo', w1, hS1, h1, h2, -, -, h3, h4, h5, h6, -⟩
    · have hnil : m.keys.filter (pending inner todo) = [] := by
        rw [List.filter_eq_nil_iff]
        intro k hk'
        rw [h2 k ((FMap.mem_keys_iff m k).1 hk')]
        simp
      constructor
      · intro _
        refine ⟨[], w1, hS1, ?_, ?_, List.nodup_nil, List.Pairwise.nil⟩
        · rw [VPath.walkAll_succ]
          simp only [bind, M.bind, h1]
          rfl
        · intro k
          rw [← List.mem_filter, hnil]
      · intro hf
        rw [hnil] at hf
        cases hf
    · have hxk : x ∈ m.keys := (FMap.mem_keys_iff m x).2 h3
      have hpx : pending inner todo x = true := by rw [h5 x h3]; simp
      -- exactly `x` leaves the pending set
      have hcount := filter_length_succ m.keys hk (pending inner todo) (pending inner' todo') x
        hxk hpx h4 (by
          intro k hk' hne
          rw [h5 k ((FMap.mem_keys_iff m k).1 hk')]
          simp [hne])
      obtain ⟨ih1, ih2⟩ := ih inner' todo' w1 hS1 h2
      constructor
      · intro hf
        obtain ⟨L, w2, hS2, hL, hmem, hnd, hord⟩ := ih1 (by omega)
        refine ⟨x :: L, w2, hS2, ?_, ?_, ?_, ?_⟩
        · rw [VPath.walkAll_succ]
          simp only [bind, M.bind, h1, hL, pure, M.pure, List.map_cons]
        · intro k
          simp only [List.mem_cons, hmem]
          constructor
          · rintro (rfl | ⟨hk1, hk2⟩)
            · exact ⟨hxk, hpx⟩
            · exact ⟨hk1, by rw [h5 k ((FMap.mem_keys_iff m k).1 hk1), hk2]; simp⟩
          · rintro ⟨hk1, hk2⟩
            rw [h5 k ((FMap.mem_keys_iff m k).1 hk1), Bool.or_eq_true, decide_eq_true_eq] at hk2
            rcases hk2 with hk2 | hk2
            · exact Or.inl hk2
            · exact Or.inr ⟨hk1, hk2⟩
        · rw [List.nodup_cons]
          refine ⟨?_, hnd⟩
          intro hx
          have := ((hmem x).1 hx).2
          rw [h4] at this; cases this
        · rw [List.pairwise_cons]
          refine ⟨?_, hord⟩
          intro b hb
          exact h6 b ((hmem b).1 hb).2
      · intro hf
        obtain ⟨w2, hS2, hL⟩ := ih2 (by omega)
        refine ⟨w2, hS2, ?_⟩
        rw [VPath.walkAll_succ]
        simp only [bind, M.bind, h1, hL]

end all

/-- `self.walk_dir()?` then collect the iterator (at most `fuel` calls of `next`) — the same
term as `C05.walkCollect` (`C05.walkCollect_eq_collect`, by `rfl`, in Props/C05Walk.lean) -/
def collect (fuel : Nat) (p : VPath) : M (List (Res VPath)) := do
  let s ← p.walkDir
  VPath.walkAll fuel s

section start
variable {S : World → Prop} {m : FMap} {P : VPath} (tv : TreeViewOn P.fs S m.find?)
include tv

theorem run_walkDir' (w : World) (hw : S w) (p : Str) (e : Entry) (hp : m.find? p = some e)
    (hdir : e.ftype = .dir) :
    ∃ l w', S w' ∧ IsListing m p l ∧ VPath.walkDir (P.withStr p) w = (.ok (st P l []), w') := by
  obtain ⟨l, w', hS, hl, hrd⟩ := run_readDir' tv w hw p e hp hdir
  exact ⟨l, w', hS, hl, walkDir_of hrd⟩

/-- the traversal theorem: from a directory `p` of the view, with more fuel than keys strictly below
`p` (one call of `next` per key and one more that answers `None`) the collected walk is an `.ok` list of `.ok` items, exactly the keys strictly below `p`, each
once, no path before one of its ancestors; with less fuel it is `.panic`, the out-of-fuel sentinel
of `walkAll` -/
theorem walk_from_dir (hwf : WF m) (hk : FMap.NodupKeys m) (w : World) (hw : S w) (p : Str)
    (e : Entry) (hp : m.find? p = some e) (hdir : e.ftype = .dir) (fuel : Nat) :
    ((m.keys.filter (below p)).length < fuel →
      ∃ (L : List Str) (w' : World), S w' ∧
        collect fuel (P.withStr p) w = (.ok (L.map (fun k => .ok (P.withStr k))), w') ∧
        (∀ k, k ∈ L ↔ k ∈ m.keys ∧ below p k = true) ∧ L.Nodup ∧
        L.Pairwise (fun a b => below b a = false)) ∧
    (fuel ≤ (m.keys.filter (below p)).length →
      ∃ w', S w' ∧ collect fuel (P.withStr p) w = (.panic, w')) := by
  obtain ⟨l, w1, hS1, hl, hrun⟩ := run_walkDir' tv w hw p e hp hdir
  obtain ⟨g1, g2⟩ := start_good' hwf p e hp hdir hl
  have hfilt : m.keys.filter (pending l []) = m.keys.filter (below p) :=
    List.filter_congr (fun k hk' => g2 k ((FMap.mem_keys_iff m k).1 hk'))
  have hcol : collect fuel (P.withStr p) w = VPath.walkAll fuel (st P l []) w1 := by
    unfold collect
    simp only [bind, M.bind, hrun]
  obtain ⟨hlong, hshort⟩ := walkAll_spec' tv hwf hk fuel l [] w1 hS1 g1
  rw [hfilt] at hlong hshort
  rw [hcol]
  refine ⟨fun hf => ?_, hshort⟩
  obtain ⟨L, w2, hS2, h1, h2, h3, h4⟩ := hlong hf
  refine ⟨L, w2, hS2, h1, fun k => ?_, h3, h4⟩
  rw [h2 k, ← List.mem_filter, ← List.mem_filter, hfilt]

end start

theorem collect_readDir_err (fuel : Nat) (P : VPath) (w w' : World) (k : ErrKind)
    (pth : Option Str) (h : P.fs.readDir P.path w = (.err k pth, w')) :
    VPath.walkDir P w = (.err k (some P.path), w') ∧
    collect fuel P w = (.err k (some P.path), w') := by
  have : VPath.walkDir P w = (.err k (some P.path), w') :=
    bind_run_err (show P.readDir w = (.err k (some P.path), w') from VPath.readDir_of_call h)
  refine ⟨this, ?_⟩
  unfold collect
  simp only [bind, M.bind, this]

theorem dirs_first_index {L : List Str} (hord : L.Pairwise (fun a b => below b a = false))
    (a b : Nat) (ha : a < L.length) (hb : b < L.length) (hab : below L[a] L[b] = true) :
    a < b := by
  rw [List.pairwise_iff_getElem] at hord
  apply Nat.lt_of_not_le
  intro hle
  rcases Nat.lt_or_eq_of_le hle with hlt | heq
  · have := hord b a hb ha hlt
    rw [hab] at this; cases this
  · subst heq
    rw [below_irrefl] at hab; cases hab

theorem split_at_two {α} (L : List α) (a b : Nat) (ha : a < L.length) (hb : b < L.length)
    (hlt : a < b) : ∃ l1 l2 l3, L = l1 ++ L[a] :: l2 ++ L[b] :: l3 := by
  refine ⟨L.take a, (L.drop (a + 1)).take (b - a - 1), L.drop (b + 1), ?_⟩
  have e1 : L = L.take a ++ L[a] :: L.drop (a + 1) := by
    rw [List.getElem_cons_drop, List.take_append_drop]
  have hb' : b - a - 1 < (L.drop (a + 1)).length := by rw [List.length_drop]; omega
  have e2 : L.drop (a + 1) = (L.drop (a + 1)).take (b - a - 1) ++
      (L.drop (a + 1))[b - a - 1] :: (L.drop (a + 1)).drop (b - a - 1 + 1) := by
    rw [List.getElem_cons_drop, List.take_append_drop]
  have e3 : (L.drop (a + 1))[b - a - 1] = L[b] := by
    rw [List.getElem_drop]
    have : a + 1 + (b - a - 1) = b := by omega
    simp only [this]
  have e4 : (L.drop (a + 1)).drop (b - a - 1 + 1) = L.drop (b + 1) := by
    rw [List.drop_drop]; congr 1; omega
  rw [e3, e4] at e2
  conv => lhs; rw [e1, e2]
  simp

/-! ### what the collected walk returns

`WalkOf v p L`: `L` is a walk of the tree `v` from `p`, that is the present proper descendants of
`p`, each once, none before one of its ancestors. What C05 says about `walk_dir` are facts about
such a list. -/

structure WalkOf (v : Str → Option Entry) (p : Str) (L : List Str) : Prop where
  mem : ∀ k, k ∈ L ↔ (v k ≠ none ∧ below p k = true)
  nodup : L.Nodup
  order : L.Pairwise (fun a b => below b a = false)

namespace WalkOf
variable {v : Str → Option Entry} {p : Str} {L : List Str}

theorem perm_desc {D : List Str} (h : WalkOf v p L)
    (hD : D.Nodup ∧ ∀ k, k ∈ D ↔ (v k ≠ none ∧ below p k = true)) : L.Perm D :=
  (List.perm_ext_iff_of_nodup h.nodup hD.1).2 fun k => by rw [h.mem k, hD.2 k]

theorem perm {L' : List Str} (h : WalkOf v p L) (h' : WalkOf v p L') : L.Perm L' :=
  h.perm_desc ⟨h'.nodup, h'.mem⟩

theorem mem_iff (h : WalkOf v p L) (k : Str) :
    k ∈ L ↔ v k ≠ none ∧ k ≠ p ∧ (k = p ∨ ∃ t, k = p ++ '/' :: t) := by
  rw [h.mem k, below_iff_under]

theorem mem_map {m : FMap} (h : WalkOf m.find? p L) (k : Str) :
    k ∈ L ↔ k ∈ m.keys ∧ below p k = true := by
  rw [h.mem k, FMap.mem_keys_iff, Option.ne_none_iff_exists']

theorem count_one (h : WalkOf v p L) {k : Str} (hk : v k ≠ none) (hb : below p k = true) :
    L.count k = 1 := by
  rw [List.Nodup.count h.nodup, if_pos ((h.mem k).2 ⟨hk, hb⟩)]

theorem ancestor_listed {fs : FS} {S : World → Prop} (tv : TreeViewOn fs S v) (h : WalkOf v p L)
    {k1 k2 : Str} (h2 : k2 ∈ L) (hp1 : below p k1 = true) (h12 : below k1 k2 = true) :
    k1 ∈ L ∧ ∃ e1, v k1 = some e1 ∧ e1.ftype = .dir := by
  obtain ⟨m, rfl, hwf, _⟩ := exists_map tv.finite tv.root tv.parent
  obtain ⟨e1, he1, hd1⟩ :=
    ancestor_dir hwf (Option.ne_none_iff_exists'.1 ((h.mem k2).1 h2).1) h12
  exact ⟨(h.mem k1).2 ⟨by rw [he1]; simp, hp1⟩, e1, he1, hd1⟩

/-- a directory comes before anything inside it -/
theorem dir_before_content {fs : FS} {S : World → Prop} (tv : TreeViewOn fs S v)
    (h : WalkOf v p L) {k1 k2 : Str} (h2 : k2 ∈ L) (hp1 : below p k1 = true)
    (h12 : below k1 k2 = true) : ∃ l1 l2 l3, L = l1 ++ k1 :: l2 ++ k2 :: l3 := by
  obtain ⟨a, ha, hak⟩ := List.getElem_of_mem (h.ancestor_listed tv h2 hp1 h12).1
  obtain ⟨b, hb, hbk⟩ := List.getElem_of_mem h2
  have := split_at_two L a b ha hb
    (dirs_first_index h.order a b ha hb (by rw [hak, hbk]; exact h12))
  rwa [hak, hbk] at this

end WalkOf

theorem items_inj {P : VPath} {L L' : List Str}
    (h : L.map (fun k => (Res.ok (P.withStr k) : Res VPath)) = L'.map (fun k => .ok (P.withStr k))) :
    L = L' := by
  have := congrArg (List.map (fun it : Res VPath => match it with
    | .ok x => x.path
    | _ => [])) h
  simpa [List.map_map, Function.comp_def, VPath.withStr] using this

theorem collect_fuel_le {fuel fuel' : Nat} (hle : fuel ≤ fuel') (P : VPath) (w w' : World)
    (l : List (Res VPath)) (h : collect fuel P w = (.ok l, w')) :
    collect fuel' P w = (.ok l, w') := by
  unfold collect at h ⊢
  simp only [bind, M.bind] at h ⊢
  rcases hd : P.walkDir w with ⟨r, w1⟩
  rw [hd] at h
  cases r with
  | ok s => exact walkAll_fuel_le hle s w1 w' l h
  | err k p => simp at h
  | panic => simp at h

/-- `read_dir` of a path of `dom` that is not a directory of the tree is an error (whichever: the
physical filesystem answers an I/O error below a file, where `ViewAbsent` wants not-found) -/
def Refuses (fs : FS) (S : World → Prop) (v : Str → Option Entry) (dom : Str → Prop) : Prop :=
  ∀ w, S w → ∀ p, dom p → (∀ e, v p = some e → e.ftype ≠ .dir) →
    ∃ k pth w', fs.readDir p w = (.err k pth, w') ∧ S w'

section outcome
variable {S : World → Prop} {v : Str → Option Entry} {P : VPath} (tv : TreeViewOn P.fs S v)
  {w : World} (hw : S w) {p : Str} {D : List Str}
  (hD : D.Nodup ∧ ∀ k, k ∈ D ↔ (v k ≠ none ∧ below p k = true))
include tv hw hD

/-- **the collected walk over any tree view**, from a directory `p` with `D` any duplicate-free
enumeration of its present proper descendants: with more fuel than that a walk of the tree, in
whatever order the listings come; with less the out-of-fuel sentinel -/
theorem collect_outcome {e : Entry} (hp : v p = some e) (hdir : e.ftype = .dir) (fuel : Nat) :
    (D.length < fuel → ∃ (L : List Str) (w' : World), S w' ∧
        collect fuel (P.withStr p) w = (.ok (L.map (fun k => .ok (P.withStr k))), w') ∧
        WalkOf v p L) ∧
    (fuel ≤ D.length → ∃ w', S w' ∧ collect fuel (P.withStr p) w = (.panic, w')) := by
  obtain ⟨m, rfl, hwf, hk⟩ := exists_map tv.finite tv.root tv.parent
  have hlen : (m.keys.filter (below p)).length = D.length := by
    refine ((List.perm_ext_iff_of_nodup (List.Pairwise.filter _ hk) hD.1).2 fun k => ?_).length_eq
    rw [hD.2 k, List.mem_filter, FMap.mem_keys_iff, Option.ne_none_iff_exists']
  obtain ⟨h1, h2⟩ := walk_from_dir tv hwf hk w hw p e hp hdir fuel
  refine ⟨fun hf => ?_, fun hf => h2 (by omega)⟩
  obtain ⟨L, w', hS, hrun, hmem, hnd, hord⟩ := h1 (by omega)
  refine ⟨L, w', hS, hrun, fun k => ?_, hnd, hord⟩
  rw [hmem k, FMap.mem_keys_iff, Option.ne_none_iff_exists']

/-- EVERY `.ok` outcome, whatever the fuel, is a walk of the tree -/
theorem collect_ok_inv {e : Entry} (hp : v p = some e) (hdir : e.ftype = .dir) {fuel : Nat}
    {items : List (Res VPath)} {w' : World}
    (hrun : collect fuel (P.withStr p) w = (.ok items, w')) :
    S w' ∧ ∃ L, items = L.map (fun k => .ok (P.withStr k)) ∧ WalkOf v p L := by
  obtain ⟨L, w2, hS, h1, h2⟩ :=
    (collect_outcome tv hw hD hp hdir (max fuel (D.length + 1))).1 (by omega)
  have := collect_fuel_le (Nat.le_max_left fuel (D.length + 1)) _ w w' items hrun
  rw [h1] at this
  simp only [Prod.mk.injEq, Res.ok.injEq] at this
  exact ⟨by rw [← this.2]; exact hS, L, this.1.symm, h2⟩

/-- the out-of-fuel sentinel is the outcome iff `p` is a directory of the tree and the fuel does
not exceed the number of its descendants, for ANY path string `p` at which `read_dir` refuses
whatever is not a directory of the tree (`hr`; a `Refuses` gives it on its `dom`, and for a
directory `p` it asks nothing); the world stays in `S` -/
theorem collect_sentinel_iff
    (hr : (∀ e, v p = some e → e.ftype ≠ .dir) →
      ∃ k pth w', P.fs.readDir p w = (.err k pth, w') ∧ S w') (fuel : Nat) :
    ((collect fuel (P.withStr p) w).1 = .panic ↔
      (∃ e, v p = some e ∧ e.ftype = .dir) ∧ fuel ≤ D.length) ∧
    S (collect fuel (P.withStr p) w).2 := by
  by_cases hd : ∃ e, v p = some e ∧ e.ftype = .dir
  · obtain ⟨e, hp, hdir⟩ := hd
    obtain ⟨h1, h2⟩ := collect_outcome tv hw hD hp hdir fuel
    rcases Nat.lt_or_ge D.length fuel with hf | hf
    · obtain ⟨L, w', hS, hrun, _⟩ := h1 hf
      rw [hrun]
      exact ⟨⟨fun h => (by cases h), fun h => absurd h.2 (by omega)⟩, hS⟩
    · obtain ⟨w', hS, hrun⟩ := h2 hf
      rw [hrun]
      exact ⟨⟨fun _ => ⟨⟨e, hp, hdir⟩, hf⟩, fun _ => rfl⟩, hS⟩
  · obtain ⟨k, pth, w', hrd, hS⟩ := hr (fun e he hdir => hd ⟨e, he, hdir⟩)
    rw [(collect_readDir_err fuel (P.withStr p) w w' k pth hrd).2]
    exact ⟨⟨fun h => (by cases h), fun h => absurd h.1 hd⟩, hS⟩

/-- from a directory the bound is exact -/
theorem collect_panic_iff {e : Entry} (hp : v p = some e) (hdir : e.ftype = .dir) (fuel : Nat) :
    (collect fuel (P.withStr p) w).1 = .panic ↔ fuel ≤ D.length :=
  (collect_sentinel_iff tv hw hD (fun h => absurd hdir (h e hp)) fuel).1.trans
    ⟨fun h => h.2, fun h => ⟨⟨e, hp, hdir⟩, h⟩⟩

end outcome

/-- over observers that leave the world alone (`TreeView`) so does the walk -/
theorem collect_outcome_fixed {v : Str → Option Entry} {P : VPath} {w : World}
    (tv : TreeView P.fs w v) {p : Str} {D : List Str}
    (hD : D.Nodup ∧ ∀ k, k ∈ D ↔ (v k ≠ none ∧ below p k = true)) {e : Entry}
    (hp : v p = some e) (hdir : e.ftype = .dir) (fuel : Nat) :
    (D.length < fuel → ∃ L : List Str,
        collect fuel (P.withStr p) w = (.ok (L.map (fun k => .ok (P.withStr k))), w) ∧
        WalkOf v p L) ∧
    (fuel ≤ D.length → collect fuel (P.withStr p) w = (.panic, w)) := by
  obtain ⟨h1, h2⟩ := collect_outcome tv rfl hD hp hdir fuel
  exact ⟨fun hf => by obtain ⟨L, _, rfl, hrun, hL⟩ := h1 hf; exact ⟨L, hrun, hL⟩,
    fun hf => by obtain ⟨_, rfl, hrun⟩ := h2 hf; exact hrun⟩

end Vfs.WkG
