/-
  Two runs of `walk_dir`, `copy_dir`, `move_dir` side by side (`GSim`, Proofs/Rel.lean), with the
  CALLER's relation on the walked items.

  The two sides may be different filesystems, different paths, different worlds. What is asked is
  stated on the calls the loops make, each a `VfsPath` method: on `B`-related items `read_dir`
  gives listings related item by item and `metadata` the same type (`WalkRel`); the destinations
  `relJoin` computes are `D`-related; `copy_file` on `B`-related sources and `D`-related
  destinations, and `create_dir` on `D`-related destinations, are related. Then so are the iterator
  steps (`gsim_walkNext`), the loop that `copy_dir` and `move_dir` share (`gsim_copyItems`) and the
  body of `copy_dir` (`gsim_copyDirBody`). Of how failures are related (`E`) the loops ask nothing:
  they pass on what the calls return.

  `gsim_guarded`, `gsim_fastOr`: the skeleton of Proofs/Routes.lean. These do ask of `E`: the probe's
  refusal and the relabelling by `with_path` (`hrefuse`, `hE`); that related failures are
  `NotSupported`, on which `fastOr` branches, together (`E.Resp .notSupported`); and `E.Good` for the
  `NotSupported` that both sides raise themselves where the shortcut does not apply.
-/
import VfsModel.Proofs.Rel
import VfsModel.Proofs.Routes
namespace Vfs
namespace RelLoop
open VPath

variable {R : World → World → Prop} {E : ERel} {B : VPath → VPath → Prop}

/-- what the walk asks of two related items -/
structure WalkRel (R : World → World → Prop) (E : ERel) (B : VPath → VPath → Prop) : Prop where
  readDir : ∀ {x1 x2}, B x1 x2 → GSim R E (ListRel B) x1.readDir x2.readDir
  metadata : ∀ {x1 x2}, B x1 x2 → GSim R E (fun a b => a.ftype = b.ftype) x1.metadata x2.metadata

/-- two iterator states: the same shape, related items -/
def WalkB (B : VPath → VPath → Prop) (s1 s2 : Walk) : Prop :=
  ListRel B s1.inner s2.inner ∧ ListRel B s1.todo s2.todo

/-- two iterator steps: both at the end, or two related answers; related states -/
def StepB (E : ERel) (B : VPath → VPath → Prop) (r1 r2 : Option (Res VPath) × Walk) : Prop :=
  OptRel (ORel E B) r1.1 r2.1 ∧ WalkB B r1.2 r2.2

theorem WalkB.diag {P : VPath → Prop} (hB : ∀ x, P x → B x x) (s : Walk)
    (hi : ∀ x ∈ s.inner, P x) (ht : ∀ x ∈ s.todo, P x) : WalkB B s s :=
  ⟨ListRel.diag _ fun x hx => hB x (hi x hx), ListRel.diag _ fun x hx => hB x (ht x hx)⟩

theorem gsim_walkDir {v1 v2 : VPath} (h : GSim R E (ListRel B) v1.readDir v2.readDir) :
    GSim R E (WalkB B) v1.walkDir v2.walkDir := by
  unfold VPath.walkDir
  exact GSim.bind h fun l1 l2 hl => GSim.pure ⟨hl, .nil⟩

section walk
variable (h : WalkRel R E B)
include h

theorem gsim_walkFind_nil {t1 t2 : List VPath} (ht : ListRel B t1 t2) :
    GSim R E (StepB E B) (walkFind [] t1) (walkFind [] t2) := by
  induction ht with
  | nil => unfold walkFind; exact GSim.pure ⟨trivial, .nil, .nil⟩
  | @cons d1 d2 t1 t2 hd ht ih =>
    intro w1 w2 hr
    unfold walkFind
    rcases e1 : d1.readDir w1 with ⟨r1, w1'⟩
    rcases e2 : d2.readDir w2 with ⟨r2, w2'⟩
    obtain ⟨hres, hr'⟩ := (h.readDir hd).run hr e1 e2
    cases hres with
    | panic => exact ⟨.panic, hr'⟩
    | err hp => exact ⟨.ok ⟨.err hp, .nil, ht⟩, hr'⟩
    | ok hl =>
      cases hl with
      | nil => exact ih w1' w2' hr'
      | cons hx hl => exact ⟨.ok ⟨.ok hx, hl, ht⟩, hr'⟩

theorem gsim_walkFind {i1 i2 t1 t2 : List VPath} (hi : ListRel B i1 i2) (ht : ListRel B t1 t2) :
    GSim R E (StepB E B) (walkFind i1 t1) (walkFind i2 t2) := by
  cases hi with
  | nil => exact gsim_walkFind_nil h ht
  | cons hx hi => unfold walkFind; exact GSim.pure ⟨.ok hx, hi, ht⟩

theorem gsim_walkNext {s1 s2 : Walk} (hs : WalkB B s1 s2) :
    GSim R E (StepB E B) (walkNext s1) (walkNext s2) := by
  unfold VPath.walkNext
  refine GSim.bind (gsim_walkFind h hs.1 hs.2) fun r1 r2 hr => ?_
  obtain ⟨item1, s1'⟩ := r1
  obtain ⟨item2, s2'⟩ := r2
  obtain ⟨hit, hw⟩ := hr
  dsimp only at hit hw ⊢
  rcases OptRel.cases hit with ⟨rfl, rfl⟩ | ⟨a1, a2, rfl, rfl, hit'⟩
  · exact GSim.pure ⟨trivial, hw⟩
  · cases hit' with
    | panic => exact GSim.pure ⟨ORel.panic, hw⟩
    | err hp => exact GSim.pure ⟨ORel.err hp, hw⟩
    | @ok x1 x2 hx =>
      intro w1 w2 hr
      dsimp only
      rcases e1 : x1.metadata w1 with ⟨r1, w1'⟩
      rcases e2 : x2.metadata w2 with ⟨r2, w2'⟩
      obtain ⟨hres, hr'⟩ := (h.metadata hx).run hr e1 e2
      cases hres with
      | panic => exact ⟨.panic, hr'⟩
      | err hp => exact ⟨.ok ⟨ORel.err hp, hw⟩, hr'⟩
      | @ok md1 md2 hmd =>
        by_cases hd : md1.ftype = .dir
        · simp only [hd, hmd ▸ hd, if_true]
          exact ⟨.ok ⟨ORel.ok hx, hw.1, .cons hx hw.2⟩, hr'⟩
        · simp only [hd, hmd ▸ hd, if_false]
          exact ⟨.ok ⟨ORel.ok hx, hw⟩, hr'⟩

/-- the loop of `copy_dir` / `move_dir`, item by item on both sides -/
theorem gsim_copyItems {D : VPath → VPath → Prop} {src1 src2 dst1 dst2 : VPath}
    (hjoin : ∀ {x1 x2}, B x1 x2 →
      ORel E D (relJoin dst1 src1.path.length x1) (relJoin dst2 src2.path.length x2))
    (hfile : ∀ {x1 x2 d1 d2}, B x1 x2 → D d1 d2 → GSim R E (· = ·) (x1.copyFile d1) (x2.copyFile d2))
    (hdir : ∀ {d1 d2}, D d1 d2 → GSim R E (· = ·) d1.createDir d2.createDir)
    (fuel : Nat) {s1 s2 : Walk} (hs : WalkB B s1 s2) (count : Nat) :
    GSim R E (· = ·) (copyItems fuel src1 dst1 s1 count) (copyItems fuel src2 dst2 s2 count) := by
  induction fuel generalizing s1 s2 count with
  | zero => unfold copyItems; exact GSim.ret .panic
  | succ fuel ih =>
    unfold copyItems
    refine GSim.bind (gsim_walkNext h hs) fun r1 r2 hr => ?_
    obtain ⟨item1, s1'⟩ := r1
    obtain ⟨item2, s2'⟩ := r2
    obtain ⟨hit, hw⟩ := hr
    dsimp only at hit hw ⊢
    rcases OptRel.cases hit with ⟨rfl, rfl⟩ | ⟨a1, a2, rfl, rfl, hit'⟩
    · exact GSim.pure rfl
    · cases hit' with
      | panic => exact GSim.ret .panic
      | err hp => exact GSim.ret (.err hp)
      | @ok x1 x2 hx =>
        dsimp only
        refine GSim.bind (GSim.ret (hjoin hx)) fun d1 d2 hd => ?_
        refine GSim.bind (h.metadata hx) fun md1 md2 hmd => ?_
        rw [show md2.ftype = md1.ftype from hmd.symm]
        cases md1.ftype
        · exact GSim.bind_eq (hfile hx hd) fun _ => ih hw _
        · exact GSim.bind_eq (hdir hd) fun _ => ih hw _

/-- `create_dir`, `walk_dir`, the loop -/
theorem gsim_copyDirBody {D : VPath → VPath → Prop} {src1 src2 dst1 dst2 : VPath}
    (hcd : GSim R E (· = ·) dst1.createDir dst2.createDir)
    (hroot : GSim R E (ListRel B) src1.readDir src2.readDir)
    (hjoin : ∀ {x1 x2}, B x1 x2 →
      ORel E D (relJoin dst1 src1.path.length x1) (relJoin dst2 src2.path.length x2))
    (hfile : ∀ {x1 x2 d1 d2}, B x1 x2 → D d1 d2 → GSim R E (· = ·) (x1.copyFile d1) (x2.copyFile d2))
    (hdir : ∀ {d1 d2}, D d1 d2 → GSim R E (· = ·) d1.createDir d2.createDir) (fuel : Nat) :
    GSim R E (· = ·) (src1.copyDirBody fuel dst1) (src2.copyDirBody fuel dst2) := by
  unfold VPath.copyDirBody
  refine GSim.bind_eq hcd fun _ => GSim.bind (gsim_walkDir hroot) fun s1 s2 hs => ?_
  exact gsim_copyItems h hjoin hfile hdir fuel hs 0

end walk

/-- the probe of the destination on both sides, the refusals related, the bodies related; `E'`:
failures relabelled with the two source paths. The enclosing `with_path` overwrites the labels
`lbl1`, `lbl2` of the refusal (`guarded_refused`), so `hrefuse` asks only that SOME `E`-related pair
of `Other` failures exists for `hE` to relabel. -/
theorem gsim_guarded {α β : Type} {E' : ERel} {Q : α → β → Prop} {src1 dst1 src2 dst2 : VPath}
    {lbl1 lbl2 : Str} {body1 : M α} {body2 : M β}
    (hex : GSim R E (· = ·) dst1.exists_ dst2.exists_)
    (hrefuse : E .other (some lbl1) .other (some lbl2)) (hbody : GSim R E Q body1 body2)
    (hE : ∀ {k1 p1 k2 p2}, E k1 p1 k2 p2 → E' k1 (some src1.path) k2 (some src2.path)) :
    GSim R E' Q (guarded src1 dst1 lbl1 body1) (guarded src2 dst2 lbl2 body2) := by
  unfold guarded
  refine GSim.withPath2 _ _ (GSim.bind_eq hex fun c => ?_) hE
  exact GSim.ite (fun _ => GSim.failAt hrefuse) fun _ => hbody

/-- the shortcut taken on both sides or on neither; related failures are `NotSupported` together -/
theorem gsim_fastOr [E.Good] {c1 c2 : Prop} [Decidable c1] [Decidable c2] {f1 f2 g1 g2 : M Unit}
    (hc : c1 ↔ c2) (hE : E.Resp .notSupported)
    (hf : c1 → GSim R E (· = ·) f1 f2) (hg : GSim R E (· = ·) g1 g2) :
    GSim R E (· = ·) (fastOr c1 f1 g1) (fastOr c2 f2 g2) := by
  unfold fastOr
  refine GSim.bind (Q := ORel E (· = ·)) ?_ fun r1 r2 hr => ?_
  · by_cases h1 : c1
    · rw [if_pos h1, if_pos (hc.1 h1)]
      exact (hf h1).attempt
    · rw [if_neg h1, if_neg fun h2 => h1 (hc.2 h2)]
      exact GSim.pure (.err (ERel.Good.refl _ _))
  · cases hr with
    | ok _ => exact GSim.pure rfl
    | panic => exact GSim.ret .panic
    | @err k1 k2 p1 p2 he =>
      by_cases hk : k1 = .notSupported
      · have hk2 := (hE he).1 hk
        subst hk hk2
        simpa using hg
      · have hk2 : k2 ≠ .notSupported := fun h2 => hk ((hE he).2 h2)
        simp only [ne_eq, hk, hk2, not_false_eq_true, if_true]
        exact GSim.ret (.err he)

end RelLoop
end Vfs
