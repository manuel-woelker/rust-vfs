/-
  Path resolution of the physical model. On any map it answers `Ok`, `ENOENT`, or `ENOTDIR` below a
  file (`Phys.resolveParent_view`). On well-formed maps every proper ancestor of a present path is a
  directory, so `Phys.lookup` is a plain map lookup wherever the parent is a directory, and below a
  file resolution does fail with `ENOTDIR` (`Phys.resolveParent_below_file`); `Phys.lookup_absent_view`,
  `Phys.lookup_kind`, `Phys.lookup_ns`: what a failed lookup can answer. What the mutators need of it:
  a successful create has resolved its parent to a directory (`Phys.resolve_parent`), which is what
  keeps the map a tree (`WF.insert_resolved`); under an existing directory the host's `create_dir` is
  `MemoryFS`'s (`Phys.createDir_eq_mem`); `Phys.removeFile_file`, `Phys.removeDir_empty`: the
  removals where they succeed.
-/
import VfsModel.Proofs.MemPath
namespace Vfs

theorem mem_ancestors (p a : Str) :
    a ∈ Phys.ancestors p ↔ ∃ i, i < p.length ∧ p[i]? = some '/' ∧ a = p.take i := by
  unfold Phys.ancestors
  simp only [List.mem_map, List.mem_filter, List.mem_range, decide_eq_true_eq]
  constructor
  · rintro ⟨i, ⟨h1, h2⟩, rfl⟩; exact ⟨i, h1, h2, rfl⟩
  · rintro ⟨i, h1, h2, rfl⟩; exact ⟨i, ⟨h1, h2⟩, rfl⟩

theorem prefix_mem_ancestors (s k : Str) (h : (s ++ ['/']).isPrefixOf k = true) :
    s ∈ Phys.ancestors k := by
  rw [List.isPrefixOf_iff_prefix] at h
  obtain ⟨t, rfl⟩ := h
  rw [mem_ancestors]
  refine ⟨s.length, by simp [List.length_append], ?_, ?_⟩
  · simp [List.append_assoc]
  · simp [List.append_assoc]

def GoodAnc (m : FMap) (a : Str) : Prop := ∃ e, m.find? a = some e ∧ e.ftype = .dir

theorem resolveParent_ok_iff (m : FMap) (p : Str) :
    Phys.resolveParent m p = .ok () ↔ ∀ a ∈ Phys.ancestors p, GoodAnc m a := by
  unfold Phys.resolveParent
  constructor
  · intro h
    split at h
    · rename_i hnone
      intro a ha
      have := List.find?_eq_none.1 hnone a ha
      unfold GoodAnc
      cases hf : m.find? a with
      | none => simp [hf] at this
      | some e => simp [hf] at this; exact ⟨e, rfl, this⟩
    · split at h <;> simp [fail] at h
  · intro h
    split
    · rfl
    · rename_i a hsome
      have hmem := List.mem_of_find?_eq_some hsome
      have hbad := List.find?_some hsome
      obtain ⟨e, he, hd⟩ := h a hmem
      simp [he, hd] at hbad

theorem ancestors_cases (p a : Str) (hs : '/' ∈ p) (ha : a ∈ Phys.ancestors p) :
    a ∈ Phys.ancestors (parentInternal p) ∨ a = parentInternal p := by
  obtain ⟨hdec, hno⟩ := split_last '/' p hs
  rw [mem_ancestors] at ha
  obtain ⟨i, hi, hc, rfl⟩ := ha
  unfold parentInternal at *
  generalize beforeLast '/' p = P at *
  generalize afterLast '/' p = A at *
  subst hdec
  by_cases h1 : i < P.length
  · left
    rw [mem_ancestors]
    refine ⟨i, h1, ?_, ?_⟩
    · rw [List.getElem?_append_left h1] at hc; exact hc
    · rw [List.take_append_of_le_length (by omega)]
  · by_cases h2 : i = P.length
    · right; subst h2; simp
    · exfalso
      have h3 : P.length < i := by omega
      rw [List.getElem?_append_right (by omega)] at hc
      have : i - P.length = (i - P.length - 1) + 1 := by omega
      rw [this, List.getElem?_cons_succ] at hc
      exact hno (List.mem_of_getElem? hc)

theorem WF.ancestors_good {m : FMap} (h : WF m) : ∀ (n : Nat) (q : Str), q.length ≤ n →
    (∃ e, m.find? q = some e) → ∀ a ∈ Phys.ancestors q, GoodAnc m a := by
  intro n
  induction n with
  | zero =>
    intro q hl _ a ha
    have : q = [] := List.eq_nil_of_length_eq_zero (by omega)
    subst this
    simp [Phys.ancestors] at ha
  | succ n ih =>
    intro q hl ⟨e, he⟩ a ha
    by_cases hne : q = []
    · subst hne; simp [Phys.ancestors] at ha
    · obtain ⟨hs, pe, hp, hd⟩ := h.2 q e he hne
      rcases ancestors_cases q a hs ha with h1 | h1
      · have hlen : (parentInternal q).length < q.length := parent_shorter q hs
        exact ih (parentInternal q) (by omega) ⟨pe, hp⟩ a h1
      · subst h1; exact ⟨pe, hp, hd⟩

theorem WF.resolve_present {m : FMap} (h : WF m) (q : Str) (e : Entry) (he : m.find? q = some e) :
    Phys.resolveParent m q = .ok () :=
  (resolveParent_ok_iff m q).2 (h.ancestors_good q.length q (Nat.le_refl _) ⟨e, he⟩)

theorem WF.resolve_child {m : FMap} (h : WF m) (p : Str) (hs : '/' ∈ p) (pe : Entry)
    (hp : m.find? (parentInternal p) = some pe) (hd : pe.ftype = .dir) :
    Phys.resolveParent m p = .ok () := by
  rw [resolveParent_ok_iff]
  intro a ha
  rcases ancestors_cases p a hs ha with h1 | h1
  · exact h.ancestors_good _ _ (Nat.le_refl _) ⟨pe, hp⟩ a h1
  · subst h1; exact ⟨pe, hp, hd⟩

/-! `Phys.lookup` by what the resolution of the parent answers, and back -/

theorem Phys.lookup_of_resolve {m : FMap} {p : Str} (h : Phys.resolveParent m p = .ok ()) :
    Phys.lookup m p = .ok (m.find? p) := by
  unfold Phys.lookup; rw [h]

theorem Phys.lookup_of_err {m : FMap} {p : Str} {k : ErrKind} {pth : Option Str}
    (h : Phys.resolveParent m p = .err k pth) : Phys.lookup m p = .err k pth := by
  unfold Phys.lookup; rw [h]

theorem Phys.lookup_ok_inv {m : FMap} {p : Str} {o : Option Entry} (h : Phys.lookup m p = .ok o) :
    m.find? p = o ∧ Phys.resolveParent m p = .ok () := by
  unfold Phys.lookup at h
  cases hr : Phys.resolveParent m p with
  | ok u => rw [hr] at h; exact ⟨Res.ok.inj h, rfl⟩
  | err k pth => rw [hr] at h; cases h
  | panic => rw [hr] at h; cases h

theorem WF.lookup_child {m : FMap} (h : WF m) (p : Str) (hs : '/' ∈ p) (pe : Entry)
    (hp : m.find? (parentInternal p) = some pe) (hd : pe.ftype = .dir) :
    Phys.lookup m p = .ok (m.find? p) :=
  Phys.lookup_of_resolve (h.resolve_child p hs pe hp hd)

theorem WF.lookup_present {m : FMap} (h : WF m) (q : Str) (e : Entry) (he : m.find? q = some e) :
    Phys.lookup m q = .ok (some e) := by
  rw [Phys.lookup_of_resolve (h.resolve_present q e he), he]

theorem parent_mem_ancestors (p : Str) (hs : '/' ∈ p) : parentInternal p ∈ Phys.ancestors p := by
  obtain ⟨hdec, _⟩ := split_last '/' p hs
  rw [mem_ancestors]
  unfold parentInternal
  generalize beforeLast '/' p = P at *
  generalize afterLast '/' p = A at *
  subst hdec
  exact ⟨P.length, by simp [List.length_append], by simp, by simp⟩

/-- a path that resolves has an existing directory as its parent (on any map) -/
theorem Phys.resolve_parent {m : FMap} {p : Str} (h : Phys.resolveParent m p = .ok ())
    (hs : '/' ∈ p) : GoodAnc m (parentInternal p) :=
  (resolveParent_ok_iff m p).1 h _ (parent_mem_ancestors p hs)

theorem resolve_bad_parent (m : FMap) (p : Str) (hs : '/' ∈ p)
    (hbad : ∀ pe, m.find? (parentInternal p) = some pe → pe.ftype = .file) :
    Phys.resolveParent m p ≠ .ok () := by
  intro hok
  obtain ⟨e, he, hd⟩ := Phys.resolve_parent hok hs
  rw [hbad e he] at hd; cases hd

/-- what `create_dir`, `create_file` and `copy` of the host put where the lookup answered "resolvable,
absent" comes under an existing directory: the tree stays well-formed -/
theorem WF.insert_resolved {m : FMap} (h : WF m) {q : Str} (v : Entry)
    (hl : Phys.lookup m q = .ok none) (hs : '/' ∈ q) : WF (m.insert q v) := by
  obtain ⟨hnone, hres⟩ := Phys.lookup_ok_inv hl
  exact h.insert q v (fun e he => by rw [hnone] at he; cases he)
    (fun _ => ⟨hs, Phys.resolve_parent hres hs⟩)

/-- some proper ancestor of `p` is a file -/
def Phys.BelowFile (m : FMap) (p : Str) : Prop :=
  ∃ a ∈ Phys.ancestors p, ∃ e, m.find? a = some e ∧ e.ftype = .file

/-- what path resolution answers: `Ok`, `ENOENT` at a missing ancestor, `ENOTDIR` at one that is a
file -/
theorem Phys.resolveParent_view (m : FMap) (p : Str) :
    Phys.resolveParent m p = .ok () ∨ Phys.resolveParent m p = fail .fileNotFound ∨
      (Phys.resolveParent m p = fail .io ∧ Phys.BelowFile m p) := by
  unfold Phys.resolveParent
  split
  · exact Or.inl rfl
  · rename_i a heq
    have hmem := List.mem_of_find?_eq_some heq
    have hbad := List.find?_some heq
    split
    · rename_i e he
      refine Or.inr (Or.inr ⟨rfl, a, hmem, e, he, ?_⟩)
      simp only [he] at hbad
      cases hft : e.ftype with
      | file => rfl
      | dir => simp [hft] at hbad
    · exact Or.inr (Or.inl rfl)

theorem Phys.resolveParent_cases (m : FMap) (p : Str) :
    Phys.resolveParent m p = .ok () ∨
      ∃ k, Phys.resolveParent m p = .err k none ∧ (k = .io ∨ k = .fileNotFound) := by
  rcases Phys.resolveParent_view m p with h | h | ⟨h, _⟩
  · exact Or.inl h
  · exact Or.inr ⟨_, h, Or.inr rfl⟩
  · exact Or.inr ⟨_, h, Or.inl rfl⟩

theorem Phys.lookup_absent_view (m : FMap) (p : Str) (hp : m.find? p = none) :
    Phys.lookup m p = .ok none ∨ Phys.lookup m p = fail .fileNotFound ∨
      (Phys.lookup m p = fail .io ∧ Phys.BelowFile m p) := by
  rcases Phys.resolveParent_view m p with h | h | ⟨h, hb⟩
  · left; rw [Phys.lookup_of_resolve h, hp]
  · right; left; exact Phys.lookup_of_err h
  · right; right; exact ⟨Phys.lookup_of_err h, hb⟩

theorem Phys.lookup_cases (m : FMap) (p : Str) :
    Phys.lookup m p = .ok (m.find? p) ∨
      ∃ k, Phys.lookup m p = .err k none ∧ (k = .io ∨ k = .fileNotFound) := by
  rcases Phys.resolveParent_cases m p with h | ⟨k, h, hk⟩
  · exact Or.inl (Phys.lookup_of_resolve h)
  · exact Or.inr ⟨k, Phys.lookup_of_err h, hk⟩

/-- the host's lookup fails with `ENOTDIR` or `ENOENT` only -/
theorem Phys.lookup_kind {b : FMap} {p : Str} {k : ErrKind} {q : Option Str}
    (h : Phys.lookup b p = .err k q) : k = .io ∨ k = .fileNotFound := by
  rcases Phys.lookup_cases b p with hl | ⟨k', hl, hk⟩
  · rw [hl] at h; cases h
  · rw [hl] at h; cases h; exact hk

theorem Phys.lookup_ns (b : FMap) (p : Str) (q : Option Str) :
    Phys.lookup b p ≠ .err .notSupported q := by
  intro h
  rcases Phys.lookup_kind h with h | h <;> cases h

/-- path resolution looks only at whether the proper ancestors are directories -/
theorem resolveParent_congr {m m' : FMap} {q : Str}
    (h : ∀ a ∈ Phys.ancestors q, (m'.find? a).map (·.ftype) = (m.find? a).map (·.ftype)) :
    Phys.resolveParent m' q = Phys.resolveParent m q := by
  unfold Phys.resolveParent
  generalize Phys.ancestors q = as at h
  induction as with
  | nil => rfl
  | cons a as ih =>
    have ha := h a (List.mem_cons_self ..)
    have ih' := ih fun x hx => h x (List.mem_cons_of_mem _ hx)
    simp only [List.find?_cons]
    cases hm : m.find? a with
    | none =>
      have hm' : m'.find? a = none := by
        cases hm' : m'.find? a with
        | none => rfl
        | some e' => rw [hm, hm'] at ha; cases ha
      simp only [hm, hm']
    | some e =>
      obtain ⟨e', hm', ht⟩ : ∃ e', m'.find? a = some e' ∧ e'.ftype = e.ftype := by
        cases hm' : m'.find? a with
        | none => rw [hm, hm'] at ha; cases ha
        | some e' => rw [hm, hm'] at ha; exact ⟨e', rfl, Option.some.inj ha⟩
      simp only [hm', ht]
      cases hd : decide (e.ftype ≠ FType.dir)
      · simp only; exact ih'
      · simp only [hm, hm']

/-- a proper ancestor of `p` is not `p` -/
theorem ne_of_mem_ancestors {p a : Str} (h : a ∈ Phys.ancestors p) : a ≠ p := by
  obtain ⟨i, hi, _, rfl⟩ := (mem_ancestors p a).1 h
  intro heq
  have := congrArg List.length heq
  simp at this; omega

theorem resolveParent_noslash (m : FMap) (p : Str) (h : '/' ∉ p) : Phys.resolveParent m p = .ok () := by
  rw [resolveParent_ok_iff]
  intro a ha
  obtain ⟨i, _, hc, _⟩ := (mem_ancestors p a).1 ha
  exact absurd (List.mem_of_getElem? hc) h

/-- the host's lookup on a well-formed map: the entry, or — only for an absent path whose parent
is not a directory — the error of the path resolution -/
theorem WF.lookup_view {m : FMap} (hm : WF m) (p : Str) :
    Phys.lookup m p = .ok (m.find? p) ∨
    (m.find? p = none ∧ ¬ GoodAnc m (parentInternal p) ∧
      ∃ k, Phys.lookup m p = .err k none ∧ (k = .io ∨ k = .fileNotFound)) := by
  rcases Phys.lookup_cases m p with h | ⟨k, h, hk⟩
  · exact Or.inl h
  · cases hf : m.find? p with
    | some e => rw [hm.lookup_present p e hf] at h; cases h
    | none =>
      refine Or.inr ⟨rfl, fun ⟨pe, h1, h2⟩ => ?_, k, h, hk⟩
      by_cases hs : '/' ∈ p
      · rw [hm.lookup_child p hs pe h1 h2] at h; cases h
      · rw [Phys.lookup_of_resolve (resolveParent_noslash m p hs)] at h; cases h

theorem ancestor_split (p a : Str) (ha : a ∈ Phys.ancestors p) : ∃ t, p = a ++ '/' :: t := by
  obtain ⟨i, hi, hc, rfl⟩ := (mem_ancestors p a).1 ha
  refine ⟨p.drop (i + 1), ?_⟩
  have h1 : p[i] = '/' := by
    rw [List.getElem?_eq_getElem hi] at hc; simpa using hc
  conv => lhs; rw [← List.take_append_drop i p, List.drop_eq_getElem_cons hi, h1]

theorem take_mem_ancestors_take (p : Str) (i j : Nat) (hij : i < j) (hj : j < p.length)
    (hc : p[i]? = some '/') : p.take i ∈ Phys.ancestors (p.take j) := by
  rw [mem_ancestors]
  refine ⟨i, by rw [List.length_take]; omega, ?_, ?_⟩
  · rw [List.getElem?_take]; simp [hij, hc]
  · rw [List.take_take]; congr 1; omega

/-- the proper ancestors of a path come shortest first, each an ancestor of the next -/
theorem ancestors_pairwise (p : Str) :
    (Phys.ancestors p).Pairwise (fun a b => a ∈ Phys.ancestors b) := by
  rw [show Phys.ancestors p = ((List.range p.length).filter
    (fun i => p[i]? = some '/')).map (fun i => p.take i) from rfl, List.pairwise_map]
  have h := (List.pairwise_lt_range (n := p.length)).filter (fun i => p[i]? = some '/')
  refine h.imp_of_mem ?_
  intro i j hi hj hij
  simp only [List.mem_filter, List.mem_range, decide_eq_true_eq] at hi hj
  exact take_mem_ancestors_take p i j hij hj.1 hi.2

/-- the converse of `Phys.resolveParent_view` on a well-formed map: below a file, resolution fails
with `ENOTDIR` (the first bad ancestor is that file or lies above it, where all are directories) -/
theorem Phys.resolveParent_below_file {m : FMap} (hwf : WF m) (p a' : Str)
    (ha' : a' ∈ Phys.ancestors p) (e' : Entry) (he' : m.find? a' = some e')
    (hf : e'.ftype = .file) : Phys.resolveParent m p = fail .io := by
  unfold Phys.resolveParent
  split
  · rename_i heq
    have := List.find?_eq_none.1 heq a' ha'
    simp [he', hf] at this
  · rename_i a heq
    split
    · rfl
    · rename_i ha
      exfalso
      obtain ⟨_, as, bs, hl, has⟩ := List.find?_eq_some_iff_append.1 heq
      have hpw := ancestors_pairwise p
      rw [hl] at ha' hpw
      rcases List.mem_append.1 ha' with hm | hm
      · have := has a' hm
        simp [he', hf] at this
      · rcases List.mem_cons.1 hm with rfl | hm
        · rw [he'] at ha; cases ha
        · have h1 := (List.pairwise_append.1 hpw).2.1
          have h2 := (List.pairwise_cons.1 h1).1 a' hm
          obtain ⟨e, he, _⟩ := hwf.ancestors_good a'.length a' (Nat.le_refl _) ⟨e', he'⟩ a h2
          rw [he] at ha; cases ha

/-- under an existing directory of a well-formed map the host's `create_dir` is MemoryFS's: the
same answer, the same map (so `create_dir_all` leaves `fillDirs` on either leaf) -/
theorem Phys.createDir_eq_mem {m : FMap} (hwf : WF m) {d : Str} (hs : '/' ∈ d)
    (hp : ∃ pe, m.find? (parentInternal d) = some pe ∧ pe.ftype = .dir) :
    Phys.createDir m d = Mem.createDir m d := by
  obtain ⟨pe, hpe, hpd⟩ := hp
  rw [Phys.createDir_eq, hwf.lookup_child d hs pe hpe hpd, Mem.createDir_eq,
    Mem.par_of_dir hs ⟨pe, hpe, hpd⟩]
  cases m.find? d <;> rfl

theorem Phys.removeFile_file {m : FMap} (hwf : WF m) (s : Str) (e : Entry)
    (hs : m.find? s = some e) (hf : e.ftype = .file) :
    Phys.removeFile m s = (.ok (), m.erase s) := by
  simp [Phys.removeFile, hwf.lookup_present s e hs, hf]

theorem Phys.removeDir_empty {m : FMap} (hwf : WF m) (s : Str) (e : Entry)
    (hs : m.find? s = some e) (hf : e.ftype = .dir)
    (hempty : m.keys.filterMap (childName s) = []) :
    Phys.removeDir m s = (.ok (), m.erase s) := by
  simp [Phys.removeDir, hwf.lookup_present s e hs, hf, Phys.children, hempty]

end Vfs
