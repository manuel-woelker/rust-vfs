/-
A relational calculus for the state monad `M` of the model, and parametricity of the `VfsPath` layer
(PathOps.lean) and of the adapters (Adapters.lean) in the filesystems below them.

`SimM R PR Q m1 m2`: from `R`-related worlds the two computations end in `R`-related worlds, with
outcomes that are both ok with `Q`-related values, both errors of EQUAL kind with `PR`-related path
labels, or both panics. How error labels are related is a parameter; it only has to be reflexive
(`ReflPR`). `RelRes PR`/`SimM` ARE the instance `eqK PR` of the calculus of Proofs/Rel.lean
(`relRes_iff`, `simM_iff`); the overlay's part that needs no handle is taken from there
(Proofs/RelOverlay.lean). `SimFS0 R PR H fs1 fs2`: the trait methods other than `copy_file`, called with the SAME
canonical path string (`Canon`, Proofs/PathLemmas.lean), are related, write handles by `H`;
`create_dir` and `remove_dir` only at `p ≠ []` (at its root an altroot and the bare filesystem answer
differently, Proofs/SubtreeSim.lean). `SimFS` adds `copy_file`, asked at the `VfsPath` level between
two paths of the filesystem (`copyFileV`) and not of the trait method, which one side may implement and
the other not; `SimFS.of_strong` derives it from related methods. Every operation of PathOps.lean
then maps related paths (`SimVPath`: related filesystems, equal `fsId`, equal canonical strings) to
related computations (`VPath.sim_*`), and the adapters map related filesystems to related
filesystems: `Altroot.sim_fs`, `Overlay.sim_fs` (pointwise related layer lists), `sim_recordFS`,
`sim_faultFS`.
The iterator, the loop of `copy_dir`/`move_dir`, the probe and the shortcut of the transfers are the
instances at `eqK PR` and `SimVP R PR H B` of Proofs/RelLoop.lean (`VPath.walkRel`).

Recurring hypotheses: `SimHandles R PR H` (the handle operations of Handle.lean respect `H`) where
handles are written or dropped; `IdsOK` where `copy_file` may take the same-filesystem fast path.

Not here: relations between DIFFERENT path strings at the `VfsPath` level (the prefix shift is done
at the leaf, Proofs/SubtreeSim.lean); the async ports.
-/
import VfsModel.Proofs.RelOverlay
import VfsModel.Proofs.RelLoop
set_option linter.unusedSectionVars false
namespace Vfs

inductive RelRes {α β : Type} (PR : Option Str → Option Str → Prop) (Q : α → β → Prop) :
    Res α → Res β → Prop
  | ok {a : α} {b : β} : Q a b → RelRes PR Q (.ok a) (.ok b)
  | err {k : ErrKind} {p1 p2 : Option Str} : PR p1 p2 → RelRes PR Q (.err k p1) (.err k p2)
  | panic : RelRes PR Q .panic .panic

class ReflPR (PR : Option Str → Option Str → Prop) : Prop where
  refl : ∀ x, PR x x

instance : ReflPR (· = ·) := ⟨fun _ => rfl⟩
instance : ReflPR (fun _ _ => True) := ⟨fun _ => trivial⟩

def SimM {α β : Type} (R : World → World → Prop) (PR : Option Str → Option Str → Prop)
    (Q : α → β → Prop) (m1 : M α) (m2 : M β) : Prop :=
  ∀ w1 w2, R w1 w2 → RelRes PR Q (m1 w1).1 (m2 w2).1 ∧ R (m1 w1).2 (m2 w2).2

namespace RelRes
variable {α β : Type} {PR : Option Str → Option Str → Prop} {Q : α → β → Prop}

theorem mono {Q' : α → β → Prop} {r1 : Res α} {r2 : Res β} (h : RelRes PR Q r1 r2)
    (hq : ∀ a b, Q a b → Q' a b) : RelRes PR Q' r1 r2 := by
  cases h with
  | ok h => exact .ok (hq _ _ h)
  | err h => exact .err h
  | panic => exact .panic

theorem monoPR {PR' : Option Str → Option Str → Prop} {r1 : Res α} {r2 : Res β}
    (h : RelRes PR Q r1 r2) (hp : ∀ a b, PR a b → PR' a b) : RelRes PR' Q r1 r2 := by
  cases h with
  | ok h => exact .ok h
  | err h => exact .err (hp _ _ h)
  | panic => exact .panic

theorem refl [ReflPR PR] {Q : α → α → Prop} (hq : ∀ a, Q a a) (r : Res α) : RelRes PR Q r r := by
  cases r with
  | ok a => exact .ok (hq a)
  | err k p => exact .err (ReflPR.refl p)
  | panic => exact .panic

theorem withPath [ReflPR PR] {r1 : Res α} {r2 : Res β} (p : Str) (h : RelRes PR Q r1 r2) :
    RelRes PR Q (r1.withPath p) (r2.withPath p) := by
  cases h with
  | ok h => exact .ok h
  | err h => exact .err (ReflPR.refl _)
  | panic => exact .panic

theorem map {γ δ : Type} {Q' : γ → δ → Prop} {r1 : Res α} {r2 : Res β} {f : α → γ} {g : β → δ}
    (h : RelRes PR Q r1 r2) (hf : ∀ a b, Q a b → Q' (f a) (g b)) :
    RelRes PR Q' (r1.map f) (r2.map g) := by
  cases h with
  | ok h => exact .ok (hf _ _ h)
  | err h => exact .err h
  | panic => exact .panic

theorem isOk_eq {r1 : Res α} {r2 : Res β} (h : RelRes PR Q r1 r2) : r1.isOk = r2.isOk := by
  cases h <;> rfl

theorem kind_eq {r1 : Res α} {r2 : Res β} (h : RelRes PR Q r1 r2) : r1.kind? = r2.kind? := by
  cases h <;> rfl

theorem isPanic_eq {r1 : Res α} {r2 : Res β} (h : RelRes PR Q r1 r2) :
    r1.isPanic = r2.isPanic := by
  cases h <;> rfl

theorem eq_of_eq {r1 r2 : Res α} (h : RelRes (· = ·) (· = ·) r1 r2) : r1 = r2 := by
  cases h with
  | ok h => rw [h]
  | err h => rw [h]
  | panic => rfl

end RelRes

namespace SimM
variable {α β γ δ : Type} {R : World → World → Prop} {PR : Option Str → Option Str → Prop}
  {Q : α → β → Prop}

theorem pure {a : α} {b : β} (h : Q a b) : SimM R PR Q (Pure.pure a : M α) (Pure.pure b : M β) :=
  fun _ _ hr => ⟨.ok h, hr⟩

theorem mpure {a : α} {b : β} (h : Q a b) : SimM R PR Q (M.pure a) (M.pure b) :=
  fun _ _ hr => ⟨.ok h, hr⟩

theorem ret {r1 : Res α} {r2 : Res β} (h : RelRes PR Q r1 r2) : SimM R PR Q (M.ret r1) (M.ret r2) :=
  fun _ _ hr => ⟨h, hr⟩

theorem ret_refl [ReflPR PR] {Q : α → α → Prop} (hq : ∀ a, Q a a) (r : Res α) :
    SimM R PR Q (M.ret r) (M.ret r) := ret (RelRes.refl hq r)

theorem panic : SimM R PR Q (M.ret .panic : M α) (M.ret .panic : M β) := ret .panic

theorem failK [ReflPR PR] (k : ErrKind) : SimM R PR Q (M.failK k : M α) (M.failK k : M β) :=
  fun _ _ hr => ⟨.err (ReflPR.refl _), hr⟩

theorem failAt [ReflPR PR] (k : ErrKind) (p : Str) :
    SimM R PR Q (M.failAt k p : M α) (M.failAt k p : M β) :=
  fun _ _ hr => ⟨.err (ReflPR.refl _), hr⟩

theorem bind {Q' : γ → δ → Prop} {m1 : M α} {m2 : M β} {f : α → M γ} {g : β → M δ}
    (hm : SimM R PR Q m1 m2) (hf : ∀ a b, Q a b → SimM R PR Q' (f a) (g b)) :
    SimM R PR Q' (m1 >>= f) (m2 >>= g) := by
  intro w1 w2 hr
  show RelRes PR Q' (M.bind m1 f w1).1 (M.bind m2 g w2).1 ∧ R (M.bind m1 f w1).2 (M.bind m2 g w2).2
  unfold M.bind
  obtain ⟨h1, h2⟩ := hm w1 w2 hr
  rcases hm1 : m1 w1 with ⟨r1, w1'⟩
  rcases hm2 : m2 w2 with ⟨r2, w2'⟩
  rw [hm1, hm2] at h1 h2
  cases h1 with
  | ok hq => exact hf _ _ hq w1' w2' h2
  | err hp => exact ⟨.err hp, h2⟩
  | panic => exact ⟨.panic, h2⟩

theorem mbind {Q' : γ → δ → Prop} {m1 : M α} {m2 : M β} {f : α → M γ} {g : β → M δ}
    (hm : SimM R PR Q m1 m2) (hf : ∀ a b, Q a b → SimM R PR Q' (f a) (g b)) :
    SimM R PR Q' (M.bind m1 f) (M.bind m2 g) := bind hm hf

theorem bind_eq {Q' : γ → δ → Prop} {m1 m2 : M α} {f : α → M γ} {g : α → M δ}
    (hm : SimM R PR (· = ·) m1 m2) (hf : ∀ a, SimM R PR Q' (f a) (g a)) :
    SimM R PR Q' (m1 >>= f) (m2 >>= g) :=
  bind hm (fun a b hab => by cases hab; exact hf a)

theorem seq {Q' : γ → δ → Prop} {Q0 : Unit → Unit → Prop} {m1 m2 : M Unit} {f : M γ} {g : M δ}
    (hm : SimM R PR Q0 m1 m2) (hf : SimM R PR Q' f g) :
    SimM R PR Q' (m1 >>= fun _ => f) (m2 >>= fun _ => g) :=
  bind hm (fun _ _ _ => hf)

theorem withPath [ReflPR PR] (p : Str) {m1 : M α} {m2 : M β} (h : SimM R PR Q m1 m2) :
    SimM R PR Q (M.withPath p m1) (M.withPath p m2) := by
  intro w1 w2 hr
  obtain ⟨h1, h2⟩ := h w1 w2 hr
  exact ⟨h1.withPath p, h2⟩

theorem attempt {m1 : M α} {m2 : M β} (h : SimM R PR Q m1 m2) :
    SimM R PR (RelRes PR Q) (M.attempt m1) (M.attempt m2) := by
  intro w1 w2 hr
  obtain ⟨h1, h2⟩ := h w1 w2 hr
  unfold M.attempt
  exact ⟨.ok h1, h2⟩

theorem ite {c : Prop} [Decidable c] {a1 b1 : M α} {a2 b2 : M β}
    (ha : c → SimM R PR Q a1 a2) (hb : ¬c → SimM R PR Q b1 b2) :
    SimM R PR Q (if c then a1 else b1) (if c then a2 else b2) := by
  by_cases hc : c
  · rw [if_pos hc, if_pos hc]; exact ha hc
  · rw [if_neg hc, if_neg hc]; exact hb hc

theorem mono {Q' : α → β → Prop} {m1 : M α} {m2 : M β} (h : SimM R PR Q m1 m2)
    (hq : ∀ a b, Q a b → Q' a b) : SimM R PR Q' m1 m2 :=
  fun w1 w2 hr => ⟨(h w1 w2 hr).1.mono hq, (h w1 w2 hr).2⟩

theorem monoPR {PR' : Option Str → Option Str → Prop} {m1 : M α} {m2 : M β}
    (h : SimM R PR Q m1 m2) (hp : ∀ a b, PR a b → PR' a b) : SimM R PR' Q m1 m2 :=
  fun w1 w2 hr => ⟨(h w1 w2 hr).1.monoPR hp, (h w1 w2 hr).2⟩

theorem map_pure {Q' : γ → δ → Prop} {m1 : M α} {m2 : M β} {f : α → γ} {g : β → δ}
    (hm : SimM R PR Q m1 m2) (hf : ∀ a b, Q a b → Q' (f a) (g b)) :
    SimM R PR Q' (m1 >>= fun a => Pure.pure (f a)) (m2 >>= fun b => Pure.pure (g b)) :=
  bind hm (fun a b hab => pure (hf a b hab))

/-- the elimination form used for code written as `fun w => match m w with …` -/
theorem run {m1 : M α} {m2 : M β} (h : SimM R PR Q m1 m2) {w1 w2 : World} (hr : R w1 w2)
    {r1 : Res α} {w1' : World} {r2 : Res β} {w2' : World}
    (h1 : m1 w1 = (r1, w1')) (h2 : m2 w2 = (r2, w2')) : RelRes PR Q r1 r2 ∧ R w1' w2' := by
  have := h w1 w2 hr
  rw [h1, h2] at this
  exact this

end SimM

/-! ### the instance `eqK PR` of Proofs/Rel.lean -/

section inst
variable {α β : Type} {PR : Option Str → Option Str → Prop} {Q : α → β → Prop}

theorem relRes_iff {r1 : Res α} {r2 : Res β} : RelRes PR Q r1 r2 ↔ ORel (eqK PR) Q r1 r2 := by
  constructor
  · intro h
    cases h with
    | ok h => exact .ok h
    | err h => exact .err ⟨rfl, h⟩
    | panic => exact .panic
  · intro h
    cases h with
    | ok h => exact .ok h
    | err h => obtain ⟨rfl, h⟩ := h; exact .err h
    | panic => exact .panic

theorem simM_iff {R : World → World → Prop} {m1 : M α} {m2 : M β} :
    SimM R PR Q m1 m2 ↔ GSim R (eqK PR) Q m1 m2 :=
  forall_congr' fun _ => forall_congr' fun _ => imp_congr_right fun _ => and_congr_left' relRes_iff

instance [ReflPR PR] : (eqK PR).Good where
  refl _ p := ⟨rfl, ReflPR.refl p⟩

end inst

end Vfs

namespace Vfs

def NamesRel (l1 l2 : List Str) : Prop := l1 = l2 ∧ ∀ n ∈ l1, GoodComp n

def HRes (H : WHandle → WHandle → Prop) (r1 r2 : Nat × WHandle) : Prop := r1.1 = r2.1 ∧ H r1.2 r2.2

structure SimHandles (R : World → World → Prop) (PR : Option Str → Option Str → Prop)
    (H : WHandle → WHandle → Prop) : Prop where
  write : ∀ h1 h2 bs, H h1 h2 → SimM R PR (HRes H) (h1.write bs) (h2.write bs)
  flush : ∀ h1 h2, H h1 h2 → SimM R PR (· = ·) h1.flush h2.flush
  seek : ∀ h1 h2 s, H h1 h2 → SimM R PR (HRes H) (h1.seek s) (h2.seek s)

theorem SimHandles.drop {R PR H} (hh : SimHandles R PR H) (h1 h2 : WHandle) (h : H h1 h2) :
    SimM R PR (· = ·) h1.drop h2.drop := hh.flush h1 h2 h

/-- the trait methods other than `copy_file`, at equal canonical paths; `create_dir` and `remove_dir`
only away from the root (Proofs/SubtreeSim.lean says why) -/
structure SimFS0 (R : World → World → Prop) (PR : Option Str → Option Str → Prop)
    (H : WHandle → WHandle → Prop) (fs1 fs2 : FS) : Prop where
  readDir : ∀ p, Canon p → SimM R PR NamesRel (fs1.readDir p) (fs2.readDir p)
  createDir : ∀ p, Canon p → p ≠ [] → SimM R PR (· = ·) (fs1.createDir p) (fs2.createDir p)
  openFile : ∀ p, Canon p → SimM R PR (· = ·) (fs1.openFile p) (fs2.openFile p)
  createFile : ∀ p, Canon p → SimM R PR H (fs1.createFile p) (fs2.createFile p)
  appendFile : ∀ p, Canon p → SimM R PR H (fs1.appendFile p) (fs2.appendFile p)
  metadata : ∀ p, Canon p → SimM R PR (· = ·) (fs1.metadata p) (fs2.metadata p)
  setCreationTime : ∀ p t, Canon p →
    SimM R PR (· = ·) (fs1.setCreationTime p t) (fs2.setCreationTime p t)
  setModificationTime : ∀ p t, Canon p →
    SimM R PR (· = ·) (fs1.setModificationTime p t) (fs2.setModificationTime p t)
  setAccessTime : ∀ p t, Canon p →
    SimM R PR (· = ·) (fs1.setAccessTime p t) (fs2.setAccessTime p t)
  exists_ : ∀ p, Canon p → SimM R PR (· = ·) (fs1.exists_ p) (fs2.exists_ p)
  removeFile : ∀ p, Canon p → SimM R PR (· = ·) (fs1.removeFile p) (fs2.removeFile p)
  removeDir : ∀ p, Canon p → p ≠ [] → SimM R PR (· = ·) (fs1.removeDir p) (fs2.removeDir p)
  moveFile : ∀ s d, Canon s → Canon d → SimM R PR (· = ·) (fs1.moveFile s d) (fs2.moveFile s d)
  moveDir : ∀ s d, Canon s → Canon d → SimM R PR (· = ·) (fs1.moveDir s d) (fs2.moveDir s d)

/-- `copy_file` is asked only at the `VfsPath` level, between two paths of the filesystem: this weak
form is what lets an altroot, which implements `copy_file`, be related to a `MemoryFS`, which does not.
`SimFS.of_strong` derives it from a relation of the two `copy_file` methods. -/
structure SimFS (R : World → World → Prop) (PR : Option Str → Option Str → Prop)
    (H : WHandle → WHandle → Prop) (fs1 fs2 : FS) : Prop where
  base : SimFS0 R PR H fs1 fs2
  copyFileV : ∀ id s d, Canon s → Canon d →
    SimM R PR (· = ·)
      (VPath.copyFile { fs := fs1, fsId := id, path := s } { fs := fs1, fsId := id, path := d })
      (VPath.copyFile { fs := fs2, fsId := id, path := s } { fs := fs2, fsId := id, path := d })

structure SimVPath0 (R : World → World → Prop) (PR : Option Str → Option Str → Prop)
    (H : WHandle → WHandle → Prop) (v1 v2 : VPath) : Prop where
  fs : SimFS0 R PR H v1.fs v2.fs
  id : v2.fsId = v1.fsId
  path : v2.path = v1.path
  canon : Canon v1.path

structure SimVPath (R : World → World → Prop) (PR : Option Str → Option Str → Prop)
    (H : WHandle → WHandle → Prop) (v1 v2 : VPath) : Prop where
  fs : SimFS R PR H v1.fs v2.fs
  id : v2.fsId = v1.fsId
  path : v2.path = v1.path
  canon : Canon v1.path

/-! ### related paths; the operations that need no `copy_file`; the skeleton of the transfers -/

section basic
variable {R : World → World → Prop} {PR : Option Str → Option Str → Prop}
  {H : WHandle → WHandle → Prop}

theorem SimVPath.to0 {v1 v2 : VPath} (h : SimVPath R PR H v1 v2) : SimVPath0 R PR H v1 v2 :=
  ⟨h.fs.base, h.id, h.path, h.canon⟩

theorem SimVPath0.withStr {v1 v2 : VPath} (h : SimVPath0 R PR H v1 v2) (s : Str) (hs : Canon s) :
    SimVPath0 R PR H (v1.withStr s) (v2.withStr s) := ⟨h.fs, h.id, rfl, hs⟩

theorem SimVPath.withStr {v1 v2 : VPath} (h : SimVPath R PR H v1 v2) (s : Str) (hs : Canon s) :
    SimVPath R PR H (v1.withStr s) (v2.withStr s) := ⟨h.fs, h.id, rfl, hs⟩

theorem SimVPath0.parent {v1 v2 : VPath} (h : SimVPath0 R PR H v1 v2) :
    SimVPath0 R PR H v1.parent v2.parent := by
  unfold VPath.parent
  rw [h.path]
  exact h.withStr _ (C06.parent_canonical _ h.canon)

theorem SimVPath.parent {v1 v2 : VPath} (h : SimVPath R PR H v1 v2) :
    SimVPath R PR H v1.parent v2.parent :=
  ⟨h.fs, h.id, h.to0.parent.path, h.to0.parent.canon⟩

theorem canon_child {p n : Str} (hp : Canon p) (hn : GoodComp n) : Canon (p ++ '/' :: n) := by
  obtain ⟨cs, hcs, rfl⟩ := hp
  refine ⟨cs ++ [n], ?_, by simp⟩
  intro c hc
  rcases List.mem_append.1 hc with hc | hc
  · exact hcs c hc
  · rw [List.mem_singleton.1 hc]; exact hn

/-- `join` at equal path strings: the same error on both sides, or both paths with the joined
string -/
theorem relRes_join [ReflPR PR] {Q : VPath → VPath → Prop} {v1 v2 : VPath} (hp : v2.path = v1.path)
    (arg : Str) (h : ∀ r, joinInternal v1.path arg = .ok r → Q (v1.withStr r) (v2.withStr r)) :
    RelRes PR Q (v1.join arg) (v2.join arg) := by
  unfold VPath.join
  rw [hp]
  cases hj : joinInternal v1.path arg with
  | ok r => exact .ok (h r hj)
  | err k p => exact .err (ReflPR.refl _)
  | panic => exact .panic

theorem SimVPath0.join [ReflPR PR] {v1 v2 : VPath} (h : SimVPath0 R PR H v1 v2) (arg : Str) :
    RelRes PR (SimVPath0 R PR H) (v1.join arg) (v2.join arg) :=
  relRes_join h.path arg fun r hj => h.withStr r (C06.join_canonical _ _ _ h.canon hj)

theorem SimVPath.join [ReflPR PR] {v1 v2 : VPath} (h : SimVPath R PR H v1 v2) (arg : Str) :
    RelRes PR (SimVPath R PR H) (v1.join arg) (v2.join arg) :=
  relRes_join h.path arg fun r hj => h.withStr r (C06.join_canonical _ _ _ h.canon hj)

namespace VPath
variable [ReflPR PR]

omit [ReflPR PR] in
theorem sim0_exists {v1 v2 : VPath} (h : SimVPath0 R PR H v1 v2) :
    SimM R PR (· = ·) v1.exists_ v2.exists_ := by
  unfold VPath.exists_; rw [h.path]; exact h.fs.exists_ _ h.canon

theorem sim0_metadata {v1 v2 : VPath} (h : SimVPath0 R PR H v1 v2) :
    SimM R PR (· = ·) v1.metadata v2.metadata := by
  unfold VPath.metadata; rw [h.path]; exact SimM.withPath _ (h.fs.metadata _ h.canon)

theorem sim0_openFile {v1 v2 : VPath} (h : SimVPath0 R PR H v1 v2) :
    SimM R PR (· = ·) v1.openFile v2.openFile := by
  unfold VPath.openFile; rw [h.path]; exact SimM.withPath _ (h.fs.openFile _ h.canon)

theorem sim0_getParent {v1 v2 : VPath} (h : SimVPath0 R PR H v1 v2) :
    SimM R PR (· = ·) v1.getParent v2.getParent := by
  unfold VPath.getParent
  dsimp only
  refine SimM.bind_eq (sim0_exists h.parent) fun c => ?_
  rw [h.path]
  refine SimM.ite (fun _ => SimM.failAt _ _) (fun _ => ?_)
  refine SimM.bind_eq (sim0_metadata h.parent) fun md => ?_
  exact SimM.ite (fun _ => SimM.failAt _ _) (fun _ => SimM.pure rfl)

theorem sim0_createFile {v1 v2 : VPath} (h : SimVPath0 R PR H v1 v2) :
    SimM R PR H v1.createFile v2.createFile := by
  unfold VPath.createFile
  refine SimM.bind_eq (sim0_getParent h) fun _ => ?_
  rw [h.path]
  exact SimM.withPath _ (h.fs.createFile _ h.canon)

theorem sim0_createDir {v1 v2 : VPath} (h : SimVPath0 R PR H v1 v2) (hne : v1.path ≠ []) :
    SimM R PR (· = ·) v1.createDir v2.createDir := by
  unfold VPath.createDir
  refine SimM.bind_eq (sim0_getParent h) fun _ => ?_
  rw [h.path]
  exact SimM.withPath _ (h.fs.createDir _ h.canon hne)

theorem sim0_removeFile {v1 v2 : VPath} (h : SimVPath0 R PR H v1 v2) :
    SimM R PR (· = ·) v1.removeFile v2.removeFile := by
  unfold VPath.removeFile; rw [h.path]; exact SimM.withPath _ (h.fs.removeFile _ h.canon)

theorem sim_writeAllAndDrop (hh : SimHandles R PR H) {h1 h2 : WHandle} (h : H h1 h2) (bs : Bytes) :
    SimM R PR (· = ·) (h1.writeAllAndDrop bs) (h2.writeAllAndDrop bs) := by
  unfold WHandle.writeAllAndDrop
  refine SimM.bind (hh.write h1 h2 bs h) fun r1 r2 hr => ?_
  obtain ⟨n1, h1'⟩ := r1
  obtain ⟨n2, h2'⟩ := r2
  exact hh.drop _ _ hr.2

theorem sim_ioCopyAndDrop (hh : SimHandles R PR H) (r : RHandle) {h1 h2 : WHandle} (h : H h1 h2)
    (sp : Str) : SimM R PR (· = ·) (ioCopyAndDrop r h1 sp) (ioCopyAndDrop r h2 sp) := by
  unfold ioCopyAndDrop
  exact SimM.bind_eq (SimM.withPath _ (SimM.ret_refl (fun _ => rfl) _)) fun bytes =>
    sim_writeAllAndDrop hh h bytes

/-- the same-filesystem shortcut: related methods answer `NotSupported` together -/
theorem sim_fastOr {c : Prop} [Decidable c] {f1 f2 g1 g2 : M Unit}
    (hf : c → SimM R PR (· = ·) f1 f2) (hg : SimM R PR (· = ·) g1 g2) :
    SimM R PR (· = ·) (fastOr c f1 g1) (fastOr c f2 g2) :=
  simM_iff.2 (RelLoop.gsim_fastOr Iff.rfl (eqK_resp PR _) (fun h => simM_iff.1 (hf h))
    (simM_iff.1 hg))

/-- the probe of the destination in front of a transfer -/
theorem sim_guarded {α β : Type} {Q : α → β → Prop} {s1 s2 d1 d2 : VPath} (hs : s2.path = s1.path)
    (hd : SimM R PR (· = ·) d1.exists_ d2.exists_) {l1 l2 : Str} (hl : l2 = l1) {b1 : M α} {b2 : M β}
    (hb : SimM R PR Q b1 b2) : SimM R PR Q (guarded s1 d1 l1 b1) (guarded s2 d2 l2 b2) :=
  simM_iff.2 (RelLoop.gsim_guarded (simM_iff.1 hd) ⟨rfl, hl ▸ ReflPR.refl _⟩ (simM_iff.1 hb)
    fun h => ⟨h.1, hs ▸ ReflPR.refl _⟩)

theorem sim_copyFile_body (hh : SimHandles R PR H) {s1 s2 d1 d2 : VPath}
    (hs : SimVPath0 R PR H s1 s2) (hd : SimVPath0 R PR H d1 d2)
    (hfast : s1.fsId = d1.fsId →
      SimM R PR (· = ·) (s1.fs.copyFile s1.path d1.path) (s2.fs.copyFile s2.path d2.path)) :
    SimM R PR (· = ·) (s1.copyFile d1) (s2.copyFile d2) := by
  rw [copyFile_eq, copyFile_eq, hs.id, hd.id]
  refine sim_guarded hs.path (sim0_exists hd) hs.path (sim_fastOr hfast ?_)
  unfold copyGeneric
  rw [hs.path]
  refine SimM.bind_eq (sim0_openFile hs) fun r => ?_
  exact SimM.bind (sim0_createFile hd) fun w1 w2 hw => sim_ioCopyAndDrop hh r hw _

end VPath

theorem SimFS.of_strong [ReflPR PR] (hh : SimHandles R PR H) {fs1 fs2 : FS}
    (h0 : SimFS0 R PR H fs1 fs2)
    (hc : ∀ s d, Canon s → Canon d → SimM R PR (· = ·) (fs1.copyFile s d) (fs2.copyFile s d)) :
    SimFS R PR H fs1 fs2 where
  base := h0
  copyFileV _ s d hs hd :=
    VPath.sim_copyFile_body hh ⟨h0, rfl, rfl, hs⟩ ⟨h0, rfl, rfl, hd⟩ (fun _ => hc s d hs hd)

end basic
end Vfs

namespace Vfs
/-! ### the operations of PathOps.lean on related paths: one call, `create_dir_all`, `read_dir`,
`remove_dir_all` -/

section operations
variable {R : World → World → Prop} {PR : Option Str → Option Str → Prop}
  {H : WHandle → WHandle → Prop} [ReflPR PR]

theorem ListRel.map_map {α β γ : Type} {Rel : β → γ → Prop} (l : List α) (f : α → β) (g : α → γ)
    (h : ∀ a ∈ l, Rel (f a) (g a)) : ListRel Rel (l.map f) (l.map g) := by
  induction l with
  | nil => exact .nil
  | cons a l ih =>
    exact .cons (h a (by simp)) (ih fun x hx => h x (by simp [hx]))

/-- related paths that also satisfy a side relation `B` (`NonRoot`, `FromSrc`, `GoodName`) -/
def SimVP (R : World → World → Prop) (PR : Option Str → Option Str → Prop)
    (H : WHandle → WHandle → Prop) (B : VPath → VPath → Prop) (v1 v2 : VPath) : Prop :=
  SimVPath R PR H v1 v2 ∧ B v1 v2

def ChildClosed (B : VPath → VPath → Prop) : Prop :=
  ∀ v1 v2 n, B v1 v2 → GoodComp n →
    B (v1.withStr (v1.path ++ '/' :: n)) (v2.withStr (v1.path ++ '/' :: n))

def ChildStep (B0 B : VPath → VPath → Prop) : Prop :=
  ∀ v1 v2 n, B0 v1 v2 → GoodComp n →
    B (v1.withStr (v1.path ++ '/' :: n)) (v2.withStr (v1.path ++ '/' :: n))

theorem ChildClosed.step {B : VPath → VPath → Prop} (h : ChildClosed B) : ChildStep B B := h

def NonRoot (v1 _v2 : VPath) : Prop := v1.path ≠ []

theorem childClosed_nonRoot : ChildClosed NonRoot := by
  intro v1 v2 n _ _
  show v1.path ++ '/' :: n ≠ []
  simp

theorem childClosed_true : ChildClosed (fun _ _ => True) := fun _ _ _ _ _ => trivial

namespace VPath

theorem sim_exists {v1 v2 : VPath} (h : SimVPath R PR H v1 v2) :
    SimM R PR (· = ·) v1.exists_ v2.exists_ := sim0_exists h.to0
theorem sim_metadata {v1 v2 : VPath} (h : SimVPath R PR H v1 v2) :
    SimM R PR (· = ·) v1.metadata v2.metadata := sim0_metadata h.to0
theorem sim_openFile {v1 v2 : VPath} (h : SimVPath R PR H v1 v2) :
    SimM R PR (· = ·) v1.openFile v2.openFile := sim0_openFile h.to0
theorem sim_getParent {v1 v2 : VPath} (h : SimVPath R PR H v1 v2) :
    SimM R PR (· = ·) v1.getParent v2.getParent := sim0_getParent h.to0
theorem sim_createFile {v1 v2 : VPath} (h : SimVPath R PR H v1 v2) :
    SimM R PR H v1.createFile v2.createFile := sim0_createFile h.to0
theorem sim_createDir {v1 v2 : VPath} (h : SimVPath R PR H v1 v2) (hne : v1.path ≠ []) :
    SimM R PR (· = ·) v1.createDir v2.createDir := sim0_createDir h.to0 hne
theorem sim_removeFile {v1 v2 : VPath} (h : SimVPath R PR H v1 v2) :
    SimM R PR (· = ·) v1.removeFile v2.removeFile := sim0_removeFile h.to0

theorem sim_appendFile {v1 v2 : VPath} (h : SimVPath R PR H v1 v2) :
    SimM R PR H v1.appendFile v2.appendFile := by
  unfold VPath.appendFile; rw [h.path]; exact SimM.withPath _ (h.fs.base.appendFile _ h.canon)

theorem sim_removeDir {v1 v2 : VPath} (h : SimVPath R PR H v1 v2) (hne : v1.path ≠ []) :
    SimM R PR (· = ·) v1.removeDir v2.removeDir := by
  unfold VPath.removeDir; rw [h.path]; exact SimM.withPath _ (h.fs.base.removeDir _ h.canon hne)

theorem sim_setCreationTime {v1 v2 : VPath} (h : SimVPath R PR H v1 v2) (t : Int) :
    SimM R PR (· = ·) (v1.setCreationTime t) (v2.setCreationTime t) := by
  unfold VPath.setCreationTime; rw [h.path]
  exact SimM.withPath _ (h.fs.base.setCreationTime _ t h.canon)

theorem sim_setModificationTime {v1 v2 : VPath} (h : SimVPath R PR H v1 v2) (t : Int) :
    SimM R PR (· = ·) (v1.setModificationTime t) (v2.setModificationTime t) := by
  unfold VPath.setModificationTime; rw [h.path]
  exact SimM.withPath _ (h.fs.base.setModificationTime _ t h.canon)

theorem sim_setAccessTime {v1 v2 : VPath} (h : SimVPath R PR H v1 v2) (t : Int) :
    SimM R PR (· = ·) (v1.setAccessTime t) (v2.setAccessTime t) := by
  unfold VPath.setAccessTime; rw [h.path]
  exact SimM.withPath _ (h.fs.base.setAccessTime _ t h.canon)

theorem sim_isFile {v1 v2 : VPath} (h : SimVPath R PR H v1 v2) :
    SimM R PR (· = ·) v1.isFile v2.isFile := by
  unfold VPath.isFile
  refine SimM.bind_eq (sim_exists h) fun c => ?_
  refine SimM.ite (fun _ => SimM.pure rfl) (fun _ => ?_)
  exact SimM.bind_eq (sim_metadata h) fun md => SimM.pure rfl

theorem sim_isDir {v1 v2 : VPath} (h : SimVPath R PR H v1 v2) :
    SimM R PR (· = ·) v1.isDir v2.isDir := by
  unfold VPath.isDir
  refine SimM.bind_eq (sim_exists h) fun c => ?_
  refine SimM.ite (fun _ => SimM.pure rfl) (fun _ => ?_)
  exact SimM.bind_eq (sim_metadata h) fun md => SimM.pure rfl

theorem dirPrefixes_canon {p d : Str} (hp : Canon p) (hd : d ∈ dirPrefixes p) :
    Canon d ∧ d ≠ [] := by
  obtain ⟨cs, hcs, rfl⟩ := hp
  rw [dirPrefixes_renderC cs (good_noSlash hcs), mem_chain] at hd
  obtain ⟨j, h1, h2, rfl⟩ := hd
  refine ⟨⟨cs.take j, fun c hc => hcs c (List.take_subset _ _ hc), by simp⟩, ?_⟩
  cases cs with
  | nil => simp at h2; omega
  | cons c cs =>
    obtain ⟨i, rfl⟩ : ∃ i, j = i + 1 := ⟨j - 1, by omega⟩
    simp

theorem sim_createDirAllLoop {v1 v2 : VPath} (h : SimVPath R PR H v1 v2) (l : List Str)
    (hl : ∀ d ∈ l, Canon d ∧ d ≠ []) :
    SimM R PR (· = ·) (createDirAllLoop v1 l) (createDirAllLoop v2 l) :=
  simM_iff.2 (gsim_createDirAllLoop (eqK_resp PR _) (ListRel.diag l fun d hd =>
    ⟨simM_iff.1 (h.fs.base.createDir d (hl d hd).1 (hl d hd).2), fun he => ⟨he.1, ReflPR.refl _⟩⟩))

theorem sim_createDirAll {v1 v2 : VPath} (h : SimVPath R PR H v1 v2) :
    SimM R PR (· = ·) v1.createDirAll v2.createDirAll := by
  unfold VPath.createDirAll
  rw [h.path]
  exact SimM.ite (fun _ => SimM.pure rfl)
    (fun _ => sim_createDirAllLoop h _ (fun d hd => dirPrefixes_canon h.canon hd))

theorem sim_readDir {B0 B : VPath → VPath → Prop} {v1 v2 : VPath} (h : SimVPath R PR H v1 v2)
    (hb : B0 v1 v2) (hB : ChildStep B0 B) :
    SimM R PR (ListRel (SimVP R PR H B)) v1.readDir v2.readDir := by
  unfold VPath.readDir
  rw [h.path]
  refine SimM.bind (SimM.withPath _ (h.fs.base.readDir _ h.canon)) fun n1 n2 hn => ?_
  obtain ⟨rfl, hg⟩ := hn
  apply SimM.pure
  exact ListRel.map_map n1 _ _ (fun n hn =>
    ⟨h.withStr _ (canon_child h.canon (hg n hn)), hB v1 v2 n hb (hg n hn)⟩)

theorem sim_removeChildren_of (fuel : Nat)
    (ih : ∀ v1 v2 : VPath, SimVPath R PR H v1 v2 → v1.path ≠ [] →
      SimM R PR (· = ·) (removeDirAll fuel v1) (removeDirAll fuel v2))
    {l1 l2 : List VPath} (hl : ListRel (SimVP R PR H NonRoot) l1 l2) :
    SimM R PR (· = ·) (removeChildren fuel l1) (removeChildren fuel l2) := by
  induction hl with
  | nil => rw [removeChildren_nil]; exact SimM.pure rfl
  | @cons c1 c2 r1 r2 hc _ ihl =>
    rw [removeChildren_cons, removeChildren_cons]
    refine SimM.bind_eq (sim_metadata hc.1) fun md => ?_
    dsimp only
    cases md.ftype
    · exact SimM.bind_eq (sim_removeFile hc.1) fun _ => ihl
    · exact SimM.bind_eq (ih _ _ hc.1 hc.2) fun _ => ihl

theorem sim_removeDirAll (fuel : Nat) {v1 v2 : VPath} (h : SimVPath R PR H v1 v2)
    (hne : v1.path ≠ []) :
    SimM R PR (· = ·) (removeDirAll fuel v1) (removeDirAll fuel v2) := by
  induction fuel generalizing v1 v2 with
  | zero => rw [removeDirAll_zero, removeDirAll_zero]; exact SimM.panic
  | succ fuel ih =>
    rw [removeDirAll_succ, removeDirAll_succ]
    refine SimM.bind_eq (sim_exists h) fun c => ?_
    refine SimM.ite (fun _ => SimM.pure rfl) (fun _ => ?_)
    refine SimM.bind (sim_readDir (B := NonRoot) h hne childClosed_nonRoot) fun l1 l2 hl => ?_
    refine SimM.bind_eq (sim_removeChildren_of fuel (fun a b hab hn => ih hab hn) hl) fun _ => ?_
    exact sim_removeDir h hne

theorem sim_removeChildren (fuel : Nat) {l1 l2 : List VPath}
    (hl : ListRel (SimVP R PR H NonRoot) l1 l2) :
    SimM R PR (· = ·) (removeChildren fuel l1) (removeChildren fuel l2) :=
  sim_removeChildren_of fuel (fun _ _ h hn => sim_removeDirAll fuel h hn) hl

end VPath
end operations
end Vfs

namespace Vfs
/-! ### the iterator, `read_to_string`, the write sessions, `copy_file`, `move_file` -/

section walk
variable {R : World → World → Prop} {PR : Option Str → Option Str → Prop}
  {H : WHandle → WHandle → Prop} [ReflPR PR]

/-- two iterator states: the same shape, related items (`RelLoop.WalkB` at `SimVP`) -/
def SimWalk (R : World → World → Prop) (PR : Option Str → Option Str → Prop)
    (H : WHandle → WHandle → Prop) (B : VPath → VPath → Prop) (s1 s2 : VPath.Walk) : Prop :=
  RelLoop.WalkB (SimVP R PR H B) s1 s2

namespace VPath

/-- the calls of the walk on related paths with a side relation that children inherit: the instance
of Proofs/RelLoop.lean -/
theorem walkRel {B : VPath → VPath → Prop} (hB : ChildClosed B) :
    RelLoop.WalkRel R (eqK PR) (SimVP R PR H B) where
  readDir hx := simM_iff.1 (sim_readDir hx.1 hx.2 hB)
  metadata hx := (simM_iff.1 (sim_metadata hx.1)).mono fun _ _ h => by rw [h]

theorem sim_walkDir {B0 B : VPath → VPath → Prop} {v1 v2 : VPath} (h : SimVPath R PR H v1 v2)
    (hb : B0 v1 v2) (hB : ChildStep B0 B) :
    SimM R PR (SimWalk R PR H B) v1.walkDir v2.walkDir :=
  simM_iff.2 (RelLoop.gsim_walkDir (simM_iff.1 (sim_readDir h hb hB)))

theorem sim_walkAll {B : VPath → VPath → Prop} (hB : ChildClosed B) (fuel : Nat) {s1 s2 : Walk}
    (hs : SimWalk R PR H B s1 s2) :
    SimM R PR (ListRel (RelRes PR (SimVP R PR H B))) (walkAll fuel s1) (walkAll fuel s2) := by
  induction fuel generalizing s1 s2 with
  | zero => rw [walkAll_zero, walkAll_zero]; exact SimM.panic
  | succ fuel ih =>
    rw [walkAll_succ, walkAll_succ]
    refine SimM.bind (simM_iff.2 (RelLoop.gsim_walkNext (walkRel hB) hs)) fun r1 r2 hr => ?_
    obtain ⟨item1, s1'⟩ := r1
    obtain ⟨item2, s2'⟩ := r2
    obtain ⟨hit, hw⟩ := hr
    dsimp only at hit hw ⊢
    rcases OptRel.cases hit with ⟨rfl, rfl⟩ | ⟨a1, a2, rfl, rfl, hit'⟩
    · exact SimM.pure .nil
    · exact SimM.bind (ih hw) fun l1 l2 hl => SimM.pure (.cons (relRes_iff.2 hit') hl)

theorem sim_readToEndChecked {v1 v2 : VPath} (h : SimVPath R PR H v1 v2) :
    SimM R PR (· = ·) v1.readToEndChecked v2.readToEndChecked := by
  unfold VPath.readToEndChecked
  refine SimM.bind_eq (sim_metadata h) fun md => ?_
  rw [h.path]
  refine SimM.ite (fun _ => SimM.failAt _ _) (fun _ => ?_)
  refine SimM.bind_eq (sim_openFile h) fun r => ?_
  exact SimM.withPath _ (SimM.ret_refl (fun _ => rfl) _)

theorem sim_writeSession (hh : SimHandles R PR H) {v1 v2 : VPath} (h : SimVPath R PR H v1 v2)
    (bs : Bytes) :
    SimM R PR (· = ·) (do let hd ← v1.createFile; hd.writeAllAndDrop bs : M Unit)
      (do let hd ← v2.createFile; hd.writeAllAndDrop bs : M Unit) :=
  SimM.bind (sim_createFile h) fun _ _ hw => sim_writeAllAndDrop hh hw bs

theorem sim_appendSession (hh : SimHandles R PR H) {v1 v2 : VPath} (h : SimVPath R PR H v1 v2)
    (bs : Bytes) :
    SimM R PR (· = ·) (do let hd ← v1.appendFile; hd.writeAllAndDrop bs : M Unit)
      (do let hd ← v2.appendFile; hd.writeAllAndDrop bs : M Unit) :=
  SimM.bind (sim_appendFile h) fun _ _ hw => sim_writeAllAndDrop hh hw bs

/-- paths with the same `fsId` carry the same filesystem value: the model's reading of
`Arc::ptr_eq(&self.fs, &destination.fs)` in src/path.rs -/
def IdsOK (a b : VPath) : Prop := a.fsId = b.fsId → a.fs = b.fs

theorem sim_copyFile (hh : SimHandles R PR H) {s1 s2 d1 d2 : VPath}
    (hs : SimVPath R PR H s1 s2) (hd : SimVPath R PR H d1 d2)
    (hid1 : IdsOK s1 d1) (hid2 : IdsOK s2 d2) :
    SimM R PR (· = ·) (s1.copyFile d1) (s2.copyFile d2) := by
  by_cases hid : s1.fsId = d1.fsId
  · have hf1 := hid1 hid
    have hf2 := hid2 (by rw [hs.id, hd.id]; exact hid)
    obtain ⟨f1, i1, p1⟩ := s1
    obtain ⟨f2, i2, p2⟩ := s2
    obtain ⟨g1, j1, q1⟩ := d1
    obtain ⟨g2, j2, q2⟩ := d2
    have e1 := hs.id; have e2 := hd.id; have e3 := hs.path; have e4 := hd.path
    simp only at hid hf1 hf2 e1 e2 e3 e4
    subst hf1 hf2 e1 e2 e3 e4 hid
    exact hs.fs.copyFileV _ _ _ hs.canon hd.canon
  · exact sim_copyFile_body hh hs.to0 hd.to0 (fun h => absurd h hid)

theorem sim_moveFile (hh : SimHandles R PR H) {s1 s2 d1 d2 : VPath}
    (hs : SimVPath R PR H s1 s2) (hd : SimVPath R PR H d1 d2) :
    SimM R PR (· = ·) (s1.moveFile d1) (s2.moveFile d2) := by
  rw [moveFile_eq, moveFile_eq, hs.id, hd.id]
  refine sim_guarded hs.path (sim_exists hd) hd.path (sim_fastOr (fun _ => ?_) ?_)
  · rw [hs.path, hd.path]; exact hs.fs.base.moveFile _ _ hs.canon hd.canon
  unfold moveGeneric moveTail
  rw [hs.path]
  refine SimM.bind_eq (sim_openFile hs) fun r => ?_
  refine SimM.bind (sim_createFile hd) fun w1 w2 hw => ?_
  refine SimM.bind_eq (SimM.withPath _ (SimM.ret_refl (fun _ => rfl) _)) fun bytes => ?_
  refine SimM.bind (hh.write w1 w2 bytes hw) fun r1 r2 hr => ?_
  obtain ⟨n1, h1'⟩ := r1
  obtain ⟨n2, h2'⟩ := r2
  refine SimM.bind (SimM.attempt (sim_removeFile hs)) fun res1 res2 hres => ?_
  exact SimM.bind_eq (hh.drop _ _ hr.2) fun _ => SimM.ret hres

end VPath
end walk
end Vfs

namespace Vfs
/-! ### `copy_dir`, `move_dir`: the walked items stay strictly below the source (`FromSrc`) -/

section copyDir
variable {R : World → World → Prop} {PR : Option Str → Option Str → Prop}
  {H : WHandle → WHandle → Prop} [ReflPR PR]

namespace VPath

def StrictBelow (s x : Str) : Prop :=
  ∃ c cs, GoodComp c ∧ (∀ y ∈ cs, GoodComp y) ∧ x = s ++ renderC (c :: cs)

def FromSrc (src1 src2 : VPath) (v1 v2 : VPath) : Prop :=
  v1.fs = src1.fs ∧ v1.fsId = src1.fsId ∧ v2.fs = src2.fs ∧ v2.fsId = src2.fsId ∧
    StrictBelow src1.path v1.path

theorem StrictBelow.child {s x n : Str} (h : StrictBelow s x) (hn : GoodComp n) :
    StrictBelow s (x ++ '/' :: n) := by
  obtain ⟨c, cs, hc, hcs, rfl⟩ := h
  refine ⟨c, cs ++ [n], hc, ?_, ?_⟩
  · intro y hy
    rcases List.mem_append.1 hy with hy | hy
    · exact hcs y hy
    · rw [List.mem_singleton.1 hy]; exact hn
  · simp [List.append_assoc]

theorem childClosed_fromSrc (src1 src2 : VPath) : ChildClosed (FromSrc src1 src2) := by
  intro v1 v2 n hb hn
  obtain ⟨h1, h2, h3, h4, h5⟩ := hb
  exact ⟨h1, h2, h3, h4, h5.child hn⟩

theorem childStep_fromSrc (src1 src2 : VPath) :
    ChildStep (fun v1 v2 => v1 = src1 ∧ v2 = src2) (FromSrc src1 src2) := by
  rintro v1 v2 n ⟨rfl, rfl⟩ hn
  exact ⟨rfl, rfl, rfl, rfl, n, [], hn, by simp, by simp [VPath.withStr]⟩

omit [ReflPR PR] in
theorem sim_relJoin {src1 src2 dst1 dst2 x1 x2 : VPath} (hp : src2.path = src1.path)
    (hdst : SimVPath R PR H dst1 dst2) (hx : SimVP R PR H (FromSrc src1 src2) x1 x2) :
    RelRes PR (fun d1 d2 => SimVPath R PR H d1 d2 ∧ d1.path ≠ [] ∧
        d1.fs = dst1.fs ∧ d1.fsId = dst1.fsId ∧ d2.fs = dst2.fs ∧ d2.fsId = dst2.fsId)
      (relJoin dst1 src1.path.length x1) (relJoin dst2 src2.path.length x2) := by
  obtain ⟨hxs, _, _, _, _, c, cs, hc, hcs, hxp⟩ := hx
  obtain ⟨ds, hds, hdp⟩ := hdst.canon
  have hlen : ¬ (x1.path.length < src1.path.length + 1) := by
    rw [hxp]; simp
  have hdrop : x1.path.drop (src1.path.length + 1) = c ++ renderC cs := by
    rw [hxp]; simp
  have hj := joinInternal_good ds c cs (good_noSlash hds) hc hcs
  unfold relJoin
  rw [hp, hxs.path, if_neg hlen, if_neg hlen, hdrop]
  unfold VPath.join
  rw [hdst.path, hdp, hj]
  refine .ok ⟨hdst.withStr _ ⟨ds ++ c :: cs, ?_, rfl⟩, ?_, rfl, rfl, rfl, rfl⟩
  · intro y hy
    rcases List.mem_append.1 hy with hy | hy
    · exact hds y hy
    · rcases List.mem_cons.1 hy with rfl | hy
      · exact hc
      · exact hcs y hy
  · show renderC (ds ++ c :: cs) ≠ []
    simp

theorem sim_copyItems (hh : SimHandles R PR H) (fuel : Nat) {src1 src2 dst1 dst2 : VPath}
    (hp : src2.path = src1.path) (hdst : SimVPath R PR H dst1 dst2)
    (hid1 : IdsOK src1 dst1) (hid2 : IdsOK src2 dst2) {s1 s2 : Walk}
    (hs : SimWalk R PR H (FromSrc src1 src2) s1 s2) (count : Nat) :
    SimM R PR (· = ·) (copyItems fuel src1 dst1 s1 count) (copyItems fuel src2 dst2 s2 count) := by
  refine simM_iff.2 (RelLoop.gsim_copyItems (walkRel (childClosed_fromSrc src1 src2))
    (fun hx => relRes_iff.1 (sim_relJoin hp hdst hx)) (fun hx hd => simM_iff.1 ?_)
    (fun hd => simM_iff.1 (sim_createDir hd.1 hd.2.1)) fuel hs count)
  obtain ⟨hdv, _, e1, e2, e3, e4⟩ := hd
  obtain ⟨hxv, f1, f2, f3, f4, _⟩ := hx
  refine sim_copyFile hh hxv hdv ?_ ?_
  · intro h; rw [f1, e1]; exact hid1 (by rw [← f2, ← e2]; exact h)
  · intro h; rw [f3, e3]; exact hid2 (by rw [← f4, ← e4]; exact h)

theorem sim_copyDir (hh : SimHandles R PR H) (fuel : Nat) {src1 src2 dst1 dst2 : VPath}
    (hsrc : SimVPath R PR H src1 src2) (hdst : SimVPath R PR H dst1 dst2)
    (hne : dst1.path ≠ []) (hid1 : IdsOK src1 dst1) (hid2 : IdsOK src2 dst2) :
    SimM R PR (· = ·) (copyDir fuel src1 dst1) (copyDir fuel src2 dst2) := by
  rw [copyDir_eq, copyDir_eq]
  refine sim_guarded hsrc.path (sim_exists hdst) hdst.path ?_
  refine SimM.bind_eq (sim_createDir hdst hne) fun _ => ?_
  refine SimM.bind (sim_walkDir hsrc ⟨rfl, rfl⟩ (childStep_fromSrc src1 src2)) fun s1 s2 hs => ?_
  exact sim_copyItems hh fuel hsrc.path hdst hid1 hid2 hs 0

theorem sim_moveDir (hh : SimHandles R PR H) (fuel : Nat) {src1 src2 dst1 dst2 : VPath}
    (hsrc : SimVPath R PR H src1 src2) (hdst : SimVPath R PR H dst1 dst2)
    (hnes : src1.path ≠ []) (hne : dst1.path ≠ [])
    (hid1 : IdsOK src1 dst1) (hid2 : IdsOK src2 dst2) :
    SimM R PR (· = ·) (moveDir fuel src1 dst1) (moveDir fuel src2 dst2) := by
  rw [moveDir_eq, moveDir_eq, hsrc.id, hdst.id]
  refine sim_guarded hsrc.path (sim_exists hdst) hdst.path (sim_fastOr (fun _ => ?_) ?_)
  · rw [hsrc.path, hdst.path]; exact hsrc.fs.base.moveDir _ _ hsrc.canon hdst.canon
  refine SimM.bind_eq (sim_createDir hdst hne) fun _ => ?_
  refine SimM.bind (sim_walkDir hsrc ⟨rfl, rfl⟩ (childStep_fromSrc src1 src2)) fun s1 s2 hs => ?_
  refine SimM.bind_eq (sim_copyItems hh fuel hsrc.path hdst hid1 hid2 hs 0) fun _ => ?_
  exact sim_removeDirAll fuel hsrc hnes

end VPath
end copyDir
end Vfs

namespace Vfs
section adapters
variable {R : World → World → Prop} {PR : Option Str → Option Str → Prop}
  {H : WHandle → WHandle → Prop} [ReflPR PR]

theorem filename_child (p n : Str) (hn : '/' ∉ n) : filenameInternal (p ++ '/' :: n) = n :=
  afterLast_append_delim '/' p n hn

def GoodName (v1 _v2 : VPath) : Prop := GoodComp (filenameInternal v1.path)

theorem childStep_goodName : ChildStep (fun _ _ => True) GoodName := by
  intro v1 v2 n _ hn
  show GoodComp (filenameInternal (v1.path ++ '/' :: n))
  rw [filename_child _ _ hn.noSlash]; exact hn

omit [ReflPR PR] in
theorem names_of_children {l1 l2 : List VPath}
    (hl : ListRel (SimVP R PR H GoodName) l1 l2) :
    NamesRel (l1.map fun c => filenameInternal c.path) (l2.map fun c => filenameInternal c.path) := by
  induction hl with
  | nil => exact ⟨rfl, by simp⟩
  | @cons a b l1 l2 hab _ ih =>
    obtain ⟨ih1, ih2⟩ := ih
    refine ⟨?_, ?_⟩
    · simp only [List.map_cons]
      rw [ih1, hab.1.path]
    · intro n hn
      simp only [List.map_cons, List.mem_cons] at hn
      rcases hn with rfl | hn
      · exact hab.2
      · exact ih2 n hn

namespace Altroot

/-- a method of the shape `self.path(p)?.m()` at a canonical `p`: related as soon as `m` is, at the
two roots with `p` appended -/
theorem sim_method {α β : Type} {Q : α → β → Prop} {root1 root2 : VPath}
    (hroot : SimVPath R PR H root1 root2) {p : Str} (hp : Canon p) {f : VPath → M α} {g : VPath → M β}
    (h : SimVPath R PR H (root1.withStr (root1.path ++ p)) (root2.withStr (root1.path ++ p)) →
      (p ≠ [] → root1.path ++ p ≠ []) →
      SimM R PR Q (f (root1.withStr (root1.path ++ p))) (g (root2.withStr (root1.path ++ p)))) :
    SimM R PR Q (M.ret (path root1 p) >>= f) (M.ret (path root2 p) >>= g) := by
  have hc2 : Canon root2.path := by rw [hroot.path]; exact hroot.canon
  rw [run_method root1 p hroot.canon hp, run_method root2 p hc2 hp, hroot.path]
  exact h (hroot.withStr _ (canon_append hroot.canon hp))
    fun hne h0 => hne (List.append_eq_nil_iff.1 h0).2

theorem sim_fs (hh : SimHandles R PR H) {root1 root2 : VPath} (hroot : SimVPath R PR H root1 root2) :
    SimFS R PR H (fs root1) (fs root2) := by
  refine SimFS.of_strong hh ?_ ?_
  · exact {
      readDir := fun p hp => sim_method hroot hp fun h _ =>
        SimM.bind (VPath.sim_readDir (B0 := fun _ _ => True) h trivial childStep_goodName)
          fun l1 l2 hl => SimM.pure (names_of_children hl)
      createDir := fun p hp hne => sim_method hroot hp fun h hn => VPath.sim_createDir h (hn hne)
      openFile := fun p hp => sim_method hroot hp fun h _ => VPath.sim_openFile h
      createFile := fun p hp => sim_method hroot hp fun h _ => VPath.sim_createFile h
      appendFile := fun p hp => sim_method hroot hp fun h _ => VPath.sim_appendFile h
      metadata := fun p hp => sim_method hroot hp fun h _ => VPath.sim_metadata h
      setCreationTime := fun p t hp =>
        sim_method hroot hp fun h _ => VPath.sim_setCreationTime h t
      setModificationTime := fun p t hp =>
        sim_method hroot hp fun h _ => VPath.sim_setModificationTime h t
      setAccessTime := fun p t hp => sim_method hroot hp fun h _ => VPath.sim_setAccessTime h t
      exists_ := fun p hp => by
        have hc2 : Canon root2.path := by rw [hroot.path]; exact hroot.canon
        simp only [fs, path_canon root1 p hroot.canon hp, path_canon root2 p hc2 hp]
        rw [hroot.path]
        exact VPath.sim_exists (hroot.withStr _ (canon_append hroot.canon hp))
      removeFile := fun p hp => sim_method hroot hp fun h _ => VPath.sim_removeFile h
      removeDir := fun p hp hne => sim_method hroot hp fun h hn => VPath.sim_removeDir h (hn hne)
      moveFile := fun _ _ _ _ => SimM.failK _
      moveDir := fun _ _ _ _ => SimM.failK _ }
  · intro s d hs hd
    show SimM R PR (· = ·) (if d = [] then _ else _) (if d = [] then _ else _)
    refine SimM.ite (fun _ => SimM.failK _) (fun _ => ?_)
    exact sim_method hroot hs fun h1 _ => sim_method hroot hd fun h2 _ =>
      VPath.sim_copyFile hh h1 h2 (fun _ => rfl) (fun _ => rfl)

end Altroot

def RLog (R : World → World → Prop) : Prop :=
  ∀ w1 w2 (e : LogEntry), R w1 w2 →
    R { w1 with log := w1.log ++ [e] } { w2 with log := w2.log ++ [e] }

omit [ReflPR PR] in
theorem sim_logCall (hlog : RLog R) (tag : Nat) (m : Method) (p p2 : Str) :
    SimM R PR (· = ·) (logCall tag m p p2) (logCall tag m p p2) :=
  fun w1 w2 hr => ⟨.ok rfl, hlog w1 w2 _ hr⟩

/-- asks for a DIRECT relation between the inner `copy_file` methods: the log distinguishes an inner
`copy_file` that succeeds from one that is unsupported, so the weak form of `SimFS` does not suffice -/
theorem sim_recordFS (hh : SimHandles R PR H) (hlog : RLog R) (tag : Nat) {fs1 fs2 : FS}
    (h : SimFS0 R PR H fs1 fs2)
    (hc : ∀ s d, Canon s → Canon d → SimM R PR (· = ·) (fs1.copyFile s d) (fs2.copyFile s d)) :
    SimFS R PR H (recordFS tag fs1) (recordFS tag fs2) := by
  refine SimFS.of_strong hh ?_ ?_
  · exact {
      readDir := fun p hp => SimM.bind_eq (sim_logCall hlog _ _ _ _) fun _ => h.readDir p hp
      createDir := fun p hp hne => SimM.bind_eq (sim_logCall hlog _ _ _ _) fun _ => h.createDir p hp hne
      openFile := fun p hp => SimM.bind_eq (sim_logCall hlog _ _ _ _) fun _ => h.openFile p hp
      createFile := fun p hp => SimM.bind_eq (sim_logCall hlog _ _ _ _) fun _ => h.createFile p hp
      appendFile := fun p hp => SimM.bind_eq (sim_logCall hlog _ _ _ _) fun _ => h.appendFile p hp
      metadata := fun p hp => SimM.bind_eq (sim_logCall hlog _ _ _ _) fun _ => h.metadata p hp
      setCreationTime := fun p t hp =>
        SimM.bind_eq (sim_logCall hlog _ _ _ _) fun _ => h.setCreationTime p t hp
      setModificationTime := fun p t hp =>
        SimM.bind_eq (sim_logCall hlog _ _ _ _) fun _ => h.setModificationTime p t hp
      setAccessTime := fun p t hp =>
        SimM.bind_eq (sim_logCall hlog _ _ _ _) fun _ => h.setAccessTime p t hp
      exists_ := fun p hp => SimM.bind_eq (sim_logCall hlog _ _ _ _) fun _ => h.exists_ p hp
      removeFile := fun p hp => SimM.bind_eq (sim_logCall hlog _ _ _ _) fun _ => h.removeFile p hp
      removeDir := fun p hp hne => SimM.bind_eq (sim_logCall hlog _ _ _ _) fun _ => h.removeDir p hp hne
      moveFile := fun s d hs hd => SimM.bind_eq (sim_logCall hlog _ _ _ _) fun _ => h.moveFile s d hs hd
      moveDir := fun s d hs hd => SimM.bind_eq (sim_logCall hlog _ _ _ _) fun _ => h.moveDir s d hs hd }
  · exact fun s d hs hd => SimM.bind_eq (sim_logCall hlog _ _ _ _) fun _ => hc s d hs hd

structure RFault (R : World → World → Prop) : Prop where
  same : ∀ w1 w2, R w1 w2 → w1.fault = w2.fault
  fire : ∀ w1 w2, R w1 w2 →
    R { w1 with fault := none, fired := true } { w2 with fault := none, fired := true }
  tick : ∀ w1 w2 k, R w1 w2 → R { w1 with fault := some k } { w2 with fault := some k }

theorem sim_faultGate {α β : Type} {Q : α → β → Prop} (hf : RFault R) {m1 : M α} {m2 : M β}
    (h : SimM R PR Q m1 m2) : SimM R PR Q (faultGate m1) (faultGate m2) := by
  intro w1 w2 hr
  unfold faultGate
  have hs := hf.same w1 w2 hr
  rw [← hs]
  rcases hw : w1.fault with _ | k
  · exact h w1 w2 hr
  · cases k with
    | zero => exact ⟨.err (ReflPR.refl _), hf.fire w1 w2 hr⟩
    | succ k => exact h _ _ (hf.tick w1 w2 k hr)

theorem sim_faultFS (hh : SimHandles R PR H) (hf : RFault R) {fs1 fs2 : FS}
    (h : SimFS0 R PR H fs1 fs2)
    (hc : ∀ s d, Canon s → Canon d → SimM R PR (· = ·) (fs1.copyFile s d) (fs2.copyFile s d)) :
    SimFS R PR H (faultFS fs1) (faultFS fs2) := by
  refine SimFS.of_strong hh ?_ ?_
  · exact {
      readDir := fun p hp => sim_faultGate hf (h.readDir p hp)
      createDir := fun p hp hne => sim_faultGate hf (h.createDir p hp hne)
      openFile := fun p hp => sim_faultGate hf (h.openFile p hp)
      createFile := fun p hp => sim_faultGate hf (h.createFile p hp)
      appendFile := fun p hp => sim_faultGate hf (h.appendFile p hp)
      metadata := fun p hp => sim_faultGate hf (h.metadata p hp)
      setCreationTime := fun p t hp => sim_faultGate hf (h.setCreationTime p t hp)
      setModificationTime := fun p t hp => sim_faultGate hf (h.setModificationTime p t hp)
      setAccessTime := fun p t hp => sim_faultGate hf (h.setAccessTime p t hp)
      exists_ := fun p hp => sim_faultGate hf (h.exists_ p hp)
      removeFile := fun p hp => sim_faultGate hf (h.removeFile p hp)
      removeDir := fun p hp hne => sim_faultGate hf (h.removeDir p hp hne)
      moveFile := fun s d hs hd => sim_faultGate hf (h.moveFile s d hs hd)
      moveDir := fun s d hs hd => sim_faultGate hf (h.moveDir s d hs hd) }
  · exact fun s d hs hd => sim_faultGate hf (hc s d hs hd)

end adapters
end Vfs

namespace Vfs

theorem Overlay.foldl_names_good (names acc : List Str) (hn : ∀ n ∈ names, GoodComp n)
    (ha : ∀ n ∈ acc, GoodComp n) :
    ∀ n ∈ names.foldl (fun a n => if n ∈ a then a else a ++ [n]) acc, GoodComp n := by
  induction names generalizing acc with
  | nil => exact ha
  | cons x xs ih =>
    simp only [List.foldl_cons]
    apply ih _ (fun n h => hn n (by simp [h]))
    intro n h
    split at h
    · exact ha n h
    · rcases List.mem_append.1 h with h | h
      · exact ha n h
      · rw [List.mem_singleton.1 h]; exact hn x (by simp)


theorem namesCong_namesRel : NamesCong NamesRel where
  nil := ⟨rfl, by simp⟩
  mem h n := by rw [h.1]
  dedup := by
    rintro a1 a2 n1 n2 ⟨rfl, ha⟩ ⟨rfl, hn⟩
    exact ⟨rfl, Overlay.foldl_names_good _ _ hn ha⟩
  filter := by
    rintro l1 l2 P1 P2 ⟨rfl, hg⟩ hP
    exact ⟨by rw [funext hP], fun n hn => hg n (List.mem_filter.1 hn).1⟩


/-! ### the overlay over abstractly related layers -/

/-- what the overlay needs from related layer paths (`NR`: "not the layer's own root") -/
structure LayerOps (R : World → World → Prop) (PR : Option Str → Option Str → Prop)
    (H : WHandle → WHandle → Prop) (V NR : VPath → VPath → Prop) : Prop where
  join : ∀ {a b : VPath} {arg : Str}, V a b → GoodArg arg →
    RelRes PR (fun a' b' => V a' b' ∧ NR a' b') (a.join arg) (b.join arg)
  parent : ∀ {a b : VPath}, V a b → NR a b → V a.parent b.parent
  exists_ : ∀ {a b : VPath}, V a b → SimM R PR (· = ·) a.exists_ b.exists_
  metadata : ∀ {a b : VPath}, V a b → SimM R PR (· = ·) a.metadata b.metadata
  openFile : ∀ {a b : VPath}, V a b → SimM R PR (· = ·) a.openFile b.openFile
  readDirK : ∀ {a b : VPath}, V a b → ∀ {γ δ : Type} (Q' : γ → δ → Prop) (F : List Str → M γ)
    (G : List Str → M δ), (∀ n, (∀ x ∈ n, GoodComp x) → SimM R PR Q' (F n) (G n)) →
    SimM R PR Q' (a.readDir >>= fun cs => F (cs.map nameOf)) (b.readDir >>= fun cs => G (cs.map nameOf))
  createDirAll : ∀ {a b : VPath}, V a b → SimM R PR (· = ·) a.createDirAll b.createDirAll
  createDir : ∀ {a b : VPath}, V a b → NR a b → SimM R PR (· = ·) a.createDir b.createDir
  createFile : ∀ {a b : VPath}, V a b → SimM R PR H a.createFile b.createFile
  appendFile : ∀ {a b : VPath}, V a b → SimM R PR H a.appendFile b.appendFile
  removeFile : ∀ {a b : VPath}, V a b → SimM R PR (· = ·) a.removeFile b.removeFile
  removeDir : ∀ {a b : VPath}, V a b → NR a b → SimM R PR (· = ·) a.removeDir b.removeDir
  setCreationTime : ∀ {a b : VPath}, V a b → ∀ t,
    SimM R PR (· = ·) (a.setCreationTime t) (b.setCreationTime t)
  setModificationTime : ∀ {a b : VPath}, V a b → ∀ t,
    SimM R PR (· = ·) (a.setModificationTime t) (b.setModificationTime t)
  setAccessTime : ∀ {a b : VPath}, V a b → ∀ t,
    SimM R PR (· = ·) (a.setAccessTime t) (b.setAccessTime t)
  copyFile : ∀ {a b c d : VPath}, V a b → V c d → SimM R PR (· = ·) (a.copyFile c) (b.copyFile d)

section core
variable {R : World → World → Prop} {PR : Option Str → Option Str → Prop}
  {H : WHandle → WHandle → Prop} {V NR : VPath → VPath → Prop} [ReflPR PR]

/-- the handle-free part of `LayerOps` is a `LayerCore` -/
theorem LayerOps.core (ops : LayerOps R PR H V NR) :
    LayerCore R (eqK PR) (eqK PR) NamesRel (· = ·) V NR where
  sub h := h
  notFound := eqK_resp PR _
  dirExists := eqK_resp PR _
  names := namesCong_namesRel
  ftype h := by rw [h]
  join h ha := relRes_iff.1 (ops.join h ha)
  parent := ops.parent
  exists_ h := simM_iff.1 (ops.exists_ h)
  metadata h := simM_iff.1 (ops.metadata h)
  readNames h := simM_iff.1 (ops.readDirK h NamesRel pure pure fun _ hn => SimM.pure ⟨rfl, hn⟩)
  createDirAll h := simM_iff.1 (ops.createDirAll h)
  createDir h hn := simM_iff.1 (ops.createDir h hn)
  removeFile h := simM_iff.1 (ops.removeFile h)
  removeDir h hn := simM_iff.1 (ops.removeDir h hn)

namespace Overlay
variable (ops : LayerOps R PR H V NR) {l1 l2 : List VPath} (hL : ListRel V l1 l2)
  (hw : V (writeLayer l1) (writeLayer l2))
include ops hL hw

/-- what involves a write handle: `add_whiteout`, `create_file`, `append_file` with its copy-up -/
theorem abs_addWhiteout (hh : SimHandles R PR H) {p : Str} (hp : Canon p) :
    SimM R PR (· = ·) (addWhiteout l1 p) (addWhiteout l2 p) := by
  unfold addWhiteout
  refine SimM.bind (SimM.ret (relRes_iff.2 (abs_whiteoutPath ops.core.1 hw hp))) fun _ _ hwo => ?_
  refine SimM.bind_eq (ops.createDirAll (ops.parent hwo.1 hwo.2)) fun _ => ?_
  exact SimM.bind (ops.createFile hwo.1) fun h1 h2 hh' => hh.drop _ _ hh'

theorem abs_createFile {p : Str} (hp : Canon p) :
    SimM R PR H (createFile l1 p) (createFile l2 p) := by
  unfold createFile
  refine SimM.bind_eq (simM_iff.2 (abs_ensureHasParent ops.core hL hw hp)) fun _ => ?_
  refine SimM.bind_eq (simM_iff.2 (abs_refuseDir ops.core hL hw hp)) fun _ => ?_
  refine SimM.bind (SimM.ret (relRes_iff.2 (abs_writePath ops.core.1 hw hp))) fun _ _ hwp => ?_
  refine SimM.bind (ops.createFile hwp.1) fun h1 h2 hh' => ?_
  exact SimM.bind_eq (simM_iff.2 (abs_clearWhiteout ops.core hw hp)) fun _ => SimM.pure hh'

theorem abs_appendFile {p : Str} (hp : Canon p) :
    SimM R PR H (appendFile l1 p) (appendFile l2 p) := by
  unfold appendFile copyUp
  refine SimM.bind (SimM.ret (relRes_iff.2 (abs_writePath ops.core.1 hw hp))) fun _ _ hwp => ?_
  refine SimM.bind_eq ?_ fun _ => ops.appendFile hwp.1
  refine SimM.bind_eq (ops.exists_ hwp.1) fun ex => ?_
  refine SimM.ite (fun _ => ?_) (fun _ => SimM.pure rfl)
  refine SimM.bind_eq (simM_iff.2 (abs_ensureHasParent ops.core hL hw hp)) fun _ => ?_
  refine SimM.bind (simM_iff.2 (abs_readPath ops.core.1 hL hw hp)) fun _ _ hrp => ?_
  refine SimM.bind_eq (simM_iff.2 (abs_isFile ops.core hrp)) fun isf => ?_
  exact SimM.ite (fun _ => SimM.failK _) (fun _ => ops.copyFile hrp hwp.1)

omit hw in
theorem sim_fs_abs (hne : l1 ≠ []) (hh : SimHandles R PR H) : SimFS R PR H (fs l1) (fs l2) := by
  have c := ops.core
  have hw := abs_writeLayer hL hne
  have wp : ∀ {p : Str}, Canon p → ∀ {α : Type} {Q : α → α → Prop} {f : VPath → M α},
      (∀ a b, V a b → SimM R PR Q (f a) (f b)) →
      SimM R PR Q (M.ret (writePath l1 p) >>= f) (M.ret (writePath l2 p) >>= f) :=
    fun hp _ _ _ hf => SimM.bind (SimM.ret (relRes_iff.2 (abs_writePath c.1 hw hp)))
      fun _ _ hwp => hf _ _ hwp.1
  refine SimFS.of_strong hh ?_ (fun _ _ _ _ => SimM.failK _)
  exact {
    readDir := fun p hp => simM_iff.2 (abs_readDir c hL hw hp)
    createDir := fun p hp hpn => simM_iff.2
      (abs_createDir c hL hw (abs_clearWhiteoutT c hw (eqK_resp PR _) hp) hp hpn)
    openFile := fun p hp =>
      SimM.bind (simM_iff.2 (abs_readPath c.1 hL hw hp)) fun _ _ hq => ops.openFile hq
    createFile := fun p hp => abs_createFile ops hL hw hp
    appendFile := fun p hp => abs_appendFile ops hL hw hp
    metadata := fun p hp => simM_iff.2 (abs_metadata c hL hw hp)
    setCreationTime := fun p t hp => wp hp fun _ _ h => ops.setCreationTime h t
    setModificationTime := fun p t hp => wp hp fun _ _ h => ops.setModificationTime h t
    setAccessTime := fun p t hp => wp hp fun _ _ h => ops.setAccessTime h t
    exists_ := fun p hp => simM_iff.2 (abs_exists c.1 hL hw hp)
    removeFile := fun p hp => simM_iff.2
      (abs_removeFile c hL hw hp (simM_iff.1 (abs_addWhiteout ops hL hw hh hp)))
    removeDir := fun p hp hpn => simM_iff.2
      (abs_removeDir c hL hw hp hpn (simM_iff.1 (abs_addWhiteout ops hL hw hh hp)))
    moveFile := fun _ _ _ _ => SimM.failK _
    moveDir := fun _ _ _ _ => SimM.failK _ }

end Overlay
end core
end Vfs

namespace Vfs
namespace Overlay
section overlay
variable {R : World → World → Prop} {PR : Option Str → Option Str → Prop}
  {H : WHandle → WHandle → Prop} [ReflPR PR]

def LayersOK (layers : List VPath) : Prop :=
  ∀ a ∈ layers, ∀ b ∈ layers, a.fsId = b.fsId → a.fs = b.fs

def LV (R : World → World → Prop) (PR : Option Str → Option Str → Prop)
    (H : WHandle → WHandle → Prop) (l1 l2 : List VPath) (v1 v2 : VPath) : Prop :=
  SimVPath R PR H v1 v2 ∧ (∃ a ∈ l1, v1.fs = a.fs ∧ v1.fsId = a.fsId) ∧
    (∃ a ∈ l2, v2.fs = a.fs ∧ v2.fsId = a.fsId)

variable {l1 l2 : List VPath}

omit [ReflPR PR] in
theorem LV.withStr {v1 v2 : VPath} (h : LV R PR H l1 l2 v1 v2) (s : Str) (hs : Canon s) :
    LV R PR H l1 l2 (v1.withStr s) (v2.withStr s) := ⟨h.1.withStr s hs, h.2.1, h.2.2⟩

theorem LV.join {v1 v2 : VPath} (h : LV R PR H l1 l2 v1 v2) (arg : Str) :
    RelRes PR (LV R PR H l1 l2) (v1.join arg) (v2.join arg) :=
  relRes_join h.1.path arg fun r hj => h.withStr r (C06.join_canonical _ _ _ h.1.canon hj)

theorem LV.parent {v1 v2 : VPath} (h : LV R PR H l1 l2 v1 v2) :
    LV R PR H l1 l2 v1.parent v2.parent := ⟨h.1.parent, h.2.1, h.2.2⟩

omit [ReflPR PR] in
theorem LV.idsOK (hok1 : LayersOK l1) (hok2 : LayersOK l2) {a1 a2 b1 b2 : VPath}
    (ha : LV R PR H l1 l2 a1 a2) (hb : LV R PR H l1 l2 b1 b2) :
    VPath.IdsOK a1 b1 ∧ VPath.IdsOK a2 b2 := by
  obtain ⟨_, ⟨x1, hx1, e1, e2⟩, ⟨x2, hx2, e3, e4⟩⟩ := ha
  obtain ⟨_, ⟨y1, hy1, f1, f2⟩, ⟨y2, hy2, f3, f4⟩⟩ := hb
  constructor
  · intro h; rw [e1, f1]; exact hok1 x1 hx1 y1 hy1 (by rw [← e2, ← f2]; exact h)
  · intro h; rw [e3, f3]; exact hok2 x2 hx2 y2 hy2 (by rw [← e4, ← f4]; exact h)

omit [ReflPR PR] in
theorem listRel_LV {a b : List VPath} (h : ListRel (SimVPath R PR H) a b)
    (ha : ∀ x ∈ a, x ∈ l1) (hb : ∀ x ∈ b, x ∈ l2) : ListRel (LV R PR H l1 l2) a b :=
  h.mono fun x hx y hy hxy => ⟨hxy, ⟨x, ha x hx, rfl, rfl⟩, ⟨y, hb y hy, rfl, rfl⟩⟩

theorem join_tail_canon {b p : Str} (hb : Canon b) (hp : Canon p) (hpn : p ≠ []) :
    joinInternal b (tail1 p) = .ok (b ++ p) := by
  obtain ⟨ds, hds, rfl⟩ := hb
  obtain ⟨cs, hcs, rfl⟩ := hp
  cases cs with
  | nil => exact absurd rfl hpn
  | cons c cs =>
    rw [tail1_renderC_cons, joinInternal_good ds c cs (good_noSlash hds) (hcs c (by simp))
      (fun x hx => hcs x (by simp [hx])), renderC_append]

theorem paths_of_listRel {B : VPath → VPath → Prop} {a b : List VPath}
    (h : ListRel (SimVP R PR H B) a b) : a.map (·.path) = b.map (·.path) := by
  induction h with
  | nil => rfl
  | cons hxy _ ih => simp only [List.map_cons]; rw [ih, hxy.1.path]


/-- layer paths with the same canonical string, of filesystems of the two layer lists -/
theorem layerOps_LV (hh : SimHandles R PR H) (hok1 : LayersOK l1) (hok2 : LayersOK l2) :
    LayerOps R PR H (LV R PR H l1 l2) NonRoot where
  join := by
    intro a b arg h ha
    obtain ⟨r, e, hc, hn⟩ := a.join_goodArg h.1.canon ha
    have := h.join (R := R) (PR := PR) arg
    rw [e] at this ⊢
    cases hb : b.join arg with
    | ok b' =>
      rw [hb] at this
      cases this with
      | ok hq => exact .ok ⟨hq, hn⟩
    | err k p => rw [hb] at this; cases this
    | panic => rw [hb] at this; cases this
  parent h _ := h.parent
  exists_ h := VPath.sim_exists h.1
  metadata h := VPath.sim_metadata h.1
  openFile h := VPath.sim_openFile h.1
  readDirK := by
    intro a b h γ δ Q' F G hFG
    refine SimM.bind (VPath.sim_readDir (B0 := fun _ _ => True) h.1 trivial childStep_goodName)
      fun c1 c2 hc => ?_
    obtain ⟨e, hg⟩ := names_of_children hc
    rw [← e]
    exact hFG _ hg
  createDirAll h := VPath.sim_createDirAll h.1
  createDir h hn := VPath.sim_createDir h.1 hn
  createFile h := VPath.sim_createFile h.1
  appendFile h := VPath.sim_appendFile h.1
  removeFile h := VPath.sim_removeFile h.1
  removeDir h hn := VPath.sim_removeDir h.1 hn
  setCreationTime h t := VPath.sim_setCreationTime h.1 t
  setModificationTime h t := VPath.sim_setModificationTime h.1 t
  setAccessTime h t := VPath.sim_setAccessTime h.1 t
  copyFile h h' := VPath.sim_copyFile hh h.1 h'.1 (LV.idsOK hok1 hok2 h h').1 (LV.idsOK hok1 hok2 h h').2

theorem sim_fs (hL : ListRel (SimVPath R PR H) l1 l2) (hne : l1 ≠ []) (hh : SimHandles R PR H)
    (hok1 : LayersOK l1) (hok2 : LayersOK l2) : SimFS R PR H (fs l1) (fs l2) :=
  sim_fs_abs (layerOps_LV hh hok1 hok2) (listRel_LV hL (fun _ h => h) (fun _ h => h)) hne hh

end overlay
end Overlay
end Vfs

namespace Vfs

section demo
variable {R : World → World → Prop} {PR : Option Str → Option Str → Prop}
  {H : WHandle → WHandle → Prop} [ReflPR PR]

example {v1 v2 : VPath} (h : SimVPath R PR H v1 v2) : SimM R PR (· = ·) v1.isDir v2.isDir :=
  VPath.sim_isDir h

example {v1 v2 : VPath} (h : SimVPath R PR H v1 v2) :
    SimM R PR (· = ·) v1.getParent v2.getParent :=
  VPath.sim_getParent h

end demo

/-- a run equation of the right-hand computation gives outcome and final world of the left-hand one,
up to the relations (Props/C09Subdir.lean carries the run theorems of Props/C09N.lean, C10N.lean over
to overlays on sub-directories this way) -/
theorem SimM.transfer {α β : Type} {R : World → World → Prop}
    {PR : Option Str → Option Str → Prop} {Q : α → β → Prop} {m1 : M α} {m2 : M β}
    (h : SimM R PR Q m1 m2) {w1 w2 w2' : World} {r2 : Res β} (hr : R w1 w2)
    (h2 : m2 w2 = (r2, w2')) : RelRes PR Q (m1 w1).1 r2 ∧ R (m1 w1).2 w2' := by
  have := h w1 w2 hr
  rw [h2] at this
  exact this

/-- sanity: with all three relations equality, simulation is equality of state transformers -/
theorem SimM.eq_of_eq {α : Type} {m1 m2 : M α}
    (h : SimM (· = ·) (· = ·) (· = ·) m1 m2) : m1 = m2 := by
  funext w
  obtain ⟨h1, h2⟩ := h w w rfl
  exact Prod.ext h1.eq_of_eq h2

theorem SimM.refl_eq {α : Type} (m : M α) : SimM (· = ·) (· = ·) (· = ·) m m := by
  intro w1 w2 hr
  cases hr
  exact ⟨RelRes.refl (fun _ => rfl) _, rfl⟩

/-- sanity: failures of different kinds are not related -/
example : ¬ SimM (· = ·) (· = ·) (· = ·) (M.failK .other : M Unit) (M.failK .io : M Unit) := by
  intro h
  have := (h default default rfl).1
  cases this

end Vfs
