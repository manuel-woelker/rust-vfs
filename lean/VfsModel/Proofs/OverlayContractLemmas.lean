/-
  Map-level lemmas for Props/C09Contract.lean (the overlay obeys the operation contract relative to
  its n-layer union view). Nothing here speaks about worlds. Of the property files it uses one
  lemma, `C04.insert_touch_same` (Props/C04Overlay.lean: an access stamp changes no entry up to
  `stripAcc`), and the facts about keys and removals that Proofs/OverlayEffect.lean states in
  namespace `Vfs.C10` (`C10.marker_ne_self`, `C10.rootOk_of_frame`, `C10.tail_result` …).

  The contract is about the view `oview all : Str → Option Entry`, compared by `vcore` (type, and the
  bytes of a file), on the non-reserved namespace `NR` (absolute paths whose first component is not
  ".whiteout"); an operated path obeys `OpPath`. `OInv mu ms` is the invariant of the hidden state
  (upper map `mu`, markers, bookkeeping directories), `ViewWF` the well-formedness of the view.

  Every overlay mutator is made of three building blocks, each giving the new view and
  re-establishing `OInv`: `ensure_fail` / `ensure_ok` (`ensure_has_parent` fails and changes nothing /
  fills in the ancestors in the upper map), `insert_spec` (an entry is put at `p`, the marker of `p`
  is gone), `remove_spec` (`p` leaves the upper map, its marker is written); the last two from
  `upper_change_spec`. `oview_lowerSame_all` / `OInv.lowerSame_all`: some layer gets an access stamp.
  Under `OInv` the upper map and the listing are read off the view: `OInv.upper_view` / `OInv.upper_none`
  (what the upper map holds at a non-reserved path is what the view shows), `OInv.mem_listing`,
  `OInv.listing_nil_iff` (`remove_dir`'s emptiness test is `VNoChildren` of the view).
  Hypotheses of the blocks: `OInv mu ms`, `OpPath (ds ++ [n])`, and `ViewWF` for `ensure_ok`.

  Not proved: anything about paths inside ".whiteout" or with components ending in "_wo" as
  operated paths (they may exist in the maps).
-/
import VfsModel.Proofs.OverlayEffect
import VfsModel.Props.C04Overlay
namespace Vfs.C09
open Vfs Vfs.Overlay

def NoWo (c : Str) : Prop := ¬ woSuffix <:+ c

instance (c : Str) : Decidable (NoWo c) := by unfold NoWo; exact inferInstance

def firstComp (q : Str) : Str := (q.drop 1).takeWhile (fun c => c != '/')

/-- non-reserved: an absolute path string whose first component is not ".whiteout" -/
def NR (q : Str) : Prop := q.head? = some '/' ∧ firstComp q ≠ woDir

instance (q : Str) : Decidable (NR q) := by unfold NR; exact inferInstance

theorem takeWhile_noSlash (c rest : Str) (hc : '/' ∉ c) (hr : rest = [] ∨ rest.head? = some '/') :
    (c ++ rest).takeWhile (fun x => x != '/') = c := by
  induction c with
  | nil =>
    rcases hr with rfl | hr
    · rfl
    · cases rest with
      | nil => rfl
      | cons a r => simp at hr; subst hr; simp
  | cons a c ih =>
    simp only [List.mem_cons, not_or] at hc
    have ha : (a != '/') = true := by simp; exact fun h => hc.1 h.symm
    simp only [List.cons_append, List.takeWhile_cons, ha, if_true, ih hc.2]

theorem firstComp_cons (c rest : Str) (hc : '/' ∉ c) (hr : rest = [] ∨ rest.head? = some '/') :
    firstComp ('/' :: (c ++ rest)) = c := by
  unfold firstComp
  simp only [List.drop_succ_cons, List.drop_zero]
  exact takeWhile_noSlash c rest hc hr

theorem renderC_nil_or_head (cs : List Str) : renderC cs = [] ∨ (renderC cs).head? = some '/' := by
  cases cs <;> simp

theorem firstComp_renderC (c : Str) (cs : List Str) (hc : '/' ∉ c) :
    firstComp (renderC (c :: cs)) = c := by
  rw [renderC_cons]
  exact firstComp_cons c _ hc (renderC_nil_or_head cs)

theorem firstComp_marker (p : Str) (hp : p.head? = some '/') : firstComp (marker p) = woDir := by
  unfold marker
  rw [List.append_assoc]
  apply firstComp_cons woDir _ (by decide)
  right
  cases p with
  | nil => simp at hp
  | cons a p => simpa using hp

theorem firstComp_woChain {ds : List Str} {k : Str}
    (hk : k ∈ chain [] (woDir :: ds)) : firstComp k = woDir := by
  obtain ⟨j, h1, h2, rfl⟩ := (mem_chain [] (woDir :: ds) k).1 hk
  obtain ⟨i, rfl⟩ : ∃ i, j = i + 1 := ⟨j - 1, by omega⟩
  simp only [List.nil_append, List.take_succ_cons]
  exact firstComp_renderC woDir _ (by decide)

theorem NR_renderC {cs : List Str} (hne : cs ≠ []) (hcs : ∀ c ∈ cs, '/' ∉ c)
    (hhead : cs.head? ≠ some woDir) : NR (renderC cs) := by
  cases cs with
  | nil => exact absurd rfl hne
  | cons c cs =>
    refine ⟨by simp, ?_⟩
    rw [firstComp_renderC c cs (hcs c (by simp))]
    intro h; apply hhead; simp [h]

theorem NR_child {cs : List Str} (hne : cs ≠ []) (hcs : ∀ c ∈ cs, '/' ∉ c)
    (hhead : cs.head? ≠ some woDir) (y : Str) : NR (renderC cs ++ '/' :: y) := by
  cases cs with
  | nil => exact absurd rfl hne
  | cons c cs =>
    refine ⟨by simp, ?_⟩
    have hrw : renderC (c :: cs) ++ '/' :: y = '/' :: (c ++ (renderC cs ++ '/' :: y)) := by
      simp [List.append_assoc]
    rw [hrw, firstComp_cons c _ (hcs c (by simp)) (by
      right
      cases cs with
      | nil => simp
      | cons d ds => simp)]
    intro h; apply hhead; simp [h]

theorem NR.ne_marker {q p : Str} (hq : NR q) (hp : p.head? = some '/') : q ≠ marker p := by
  intro h; apply hq.2; rw [h]; exact firstComp_marker p hp

theorem NR.not_woChain {q : Str} (hq : NR q) {ds : List Str} :
    q ∉ chain [] (woDir :: ds) := fun hk => hq.2 (firstComp_woChain hk)

theorem NR.ne_nil {q : Str} (hq : NR q) : q ≠ [] := by
  intro h; rw [h] at hq; have := hq.1; simp at this

theorem marker_not_woChain {ds : List Str} (hnw : ∀ c ∈ ds, NoWo c)
    (q : Str) : marker q ∉ chain [] (woDir :: ds) := by
  intro hk
  obtain ⟨j, h1, h2, he⟩ := (mem_chain [] (woDir :: ds) _).1 hk
  obtain ⟨i, rfl⟩ : ∃ i, j = i + 1 := ⟨j - 1, by omega⟩
  simp only [List.nil_append, List.take_succ_cons, renderC_cons, marker, List.cons_append,
    List.cons.injEq, true_and, List.append_assoc] at he
  have he' : q ++ woSuffix = renderC (ds.take i) := List.append_cancel_left he
  rcases List.eq_nil_or_concat (ds.take i) with hnil | ⟨ys, y, hy⟩
  · rw [hnil] at he'
    have := congrArg List.length he'
    simp [woSuffix] at this
  · rw [List.concat_eq_append] at hy
    have hyin : y ∈ ds := List.mem_of_mem_take (by rw [hy]; simp)
    rw [hy, renderC_snoc] at he'
    have hs1 : woSuffix <:+ (renderC ys ++ '/' :: y) := ⟨q, he'⟩
    have hs2 : ('/' :: y) <:+ (renderC ys ++ '/' :: y) := ⟨renderC ys, rfl⟩
    rcases List.suffix_or_suffix_of_suffix hs1 hs2 with h | h
    · rcases List.suffix_cons_iff.1 h with h | h
      · have := congrArg List.head? h
        simp [woSuffix] at this
      · exact hnw y hyin h
    · have : '/' ∈ woSuffix := h.subset (by simp)
      revert this; decide

abbrev View := Str → Option Entry

def oview (all : List FMap) : View := dirEntryN all

theorem oview_root (mu : FMap) (ms : List FMap) : oview (mu :: ms) [] = mu.find? [] := by
  simp [oview, dirEntryN]

theorem oview_ne {all : List FMap} {q : Str} (hq : q ≠ []) : oview all q = viewN all q := by
  simp [oview, dirEntryN, hq]

theorem oview_NR {all : List FMap} {q : Str} (hq : NR q) : oview all q = viewN all q :=
  oview_ne hq.ne_nil

/-- what is compared: the type, and the bytes of a file (`core` of PhysPath.lean after
`dirBlind`) -/
def vcore (e : Entry) : FType × Bytes := core (dirBlind e)

theorem vcore_file {e : Entry} (h : e.ftype = .file) : vcore e = (.file, e.content) := by
  unfold vcore; rw [dirBlind_file e h]; simp [core, h]

theorem vcore_dir {e : Entry} (h : e.ftype = .dir) : vcore e = (.dir, []) := by
  unfold vcore dirBlind; rw [if_pos h]; rfl

theorem vcore_fst (e : Entry) : (vcore e).1 = e.ftype := by
  unfold vcore core; exact dirBlind_ftype e

theorem vcore_of_dirBlind {a b : Option Entry} (h : a.map dirBlind = b.map dirBlind) :
    a.map vcore = b.map vcore := by
  cases a <;> cases b <;> simp at h ⊢
  unfold vcore; rw [h]

theorem vcore_of_stripAcc {a b : Option Entry} (h : a.map stripAcc = b.map stripAcc) :
    a.map vcore = b.map vcore := by
  cases a <;> cases b <;> simp at h ⊢
  rename_i x y
  have h1 : x.ftype = y.ftype :=
    show (stripAcc x).ftype = (stripAcc y).ftype from congrArg Entry.ftype h
  have h2 : x.content = y.content :=
    show (stripAcc x).content = (stripAcc y).content from congrArg Entry.content h
  unfold vcore dirBlind core
  rw [h1]; split <;> simp [h1, h2]

/-- the paths the contract speaks about: the root and the non-reserved absolute paths -/
def Vis (q : Str) : Prop := q = [] ∨ NR q

/-- the parent of a canonical path outside ".whiteout" is visible: the root, or again such a path -/
theorem vis_of_snoc {ds : List Str} {n : Str} (hds : ∀ c ∈ ds, '/' ∉ c)
    (hhead : (ds ++ [n]).head? ≠ some woDir) : Vis (renderC ds) := by
  by_cases h : ds = []
  · left; rw [h]; rfl
  · right; exact NR_renderC h hds (C10.head_ne_of_snoc hhead)

def VIsDir (v : View) (p : Str) : Prop := ∃ e, v p = some e ∧ e.ftype = .dir
def VIsFile (v : View) (p : Str) : Prop := ∃ e, v p = some e ∧ e.ftype = .file
def VAbsent (v : View) (p : Str) : Prop := v p = none
def VHasFile (v : View) (p : Str) (bs : Bytes) : Prop :=
  ∃ e, v p = some e ∧ e.ftype = .file ∧ e.content = bs
def VNoChildren (v : View) (p : Str) : Prop := ∀ n, '/' ∉ n → v (p ++ '/' :: n) = none

def VFrame (v v' : View) (p : Str) : Prop :=
  ∀ q, Vis q → q ≠ p → (v' q).map vcore = (v q).map vcore

def VSame (v v' : View) : Prop := ∀ q, Vis q → (v' q).map vcore = (v q).map vcore

theorem VSame.refl (v : View) : VSame v v := fun _ _ => rfl

theorem VSame.trans {a b c : View} (h1 : VSame a b) (h2 : VSame b c) : VSame a c :=
  fun q hq => (h2 q hq).trans (h1 q hq)

theorem VSame.frame {a b : View} (h : VSame a b) (p : Str) : VFrame a b p := fun q hq _ => h q hq

theorem VFrame.trans_same {a b c : View} {p : Str} (h1 : VSame a b) (h2 : VFrame b c p) :
    VFrame a c p := fun q hq hne => (h2 q hq hne).trans (h1 q hq)

theorem VFrame.same_trans {a b c : View} {p : Str} (h1 : VFrame a b p) (h2 : VSame b c) :
    VFrame a c p := fun q hq hne => (h2 q hq).trans (h1 q hq hne)

theorem isDir_of_vcore {v v' : View} {q : Str} (h : (v' q).map vcore = (v q).map vcore) :
    VIsDir v' q ↔ VIsDir v q := by
  unfold VIsDir
  cases h1 : v' q <;> cases h2 : v q <;> rw [h1, h2] at h <;> simp at h ⊢
  rename_i a b
  have := congrArg Prod.fst h
  rw [vcore_fst, vcore_fst] at this
  rw [this]

theorem isFile_of_vcore {v v' : View} {q : Str} (h : (v' q).map vcore = (v q).map vcore) :
    VIsFile v' q ↔ VIsFile v q := by
  unfold VIsFile
  cases h1 : v' q <;> cases h2 : v q <;> rw [h1, h2] at h <;> simp at h ⊢
  rename_i a b
  have := congrArg Prod.fst h
  rw [vcore_fst, vcore_fst] at this
  rw [this]

theorem none_of_vcore {v v' : View} {q : Str} (h : (v' q).map vcore = (v q).map vcore) :
    v' q = none ↔ v q = none := by
  cases h1 : v' q <;> cases h2 : v q <;> rw [h1, h2] at h <;> simp at h ⊢

theorem hasFile_of_vcore {v v' : View} {q : Str} {bs : Bytes}
    (h : (v' q).map vcore = (v q).map vcore) : VHasFile v' q bs ↔ VHasFile v q bs := by
  unfold VHasFile
  cases h1 : v' q <;> cases h2 : v q <;> rw [h1, h2] at h <;> simp at h ⊢
  rename_i a b
  have hft := congrArg Prod.fst h
  rw [vcore_fst, vcore_fst] at hft
  constructor
  · rintro ⟨hf, hc⟩
    have hb : b.ftype = .file := by rw [← hft]; exact hf
    rw [vcore_file hf, vcore_file hb] at h
    exact ⟨hb, by rw [← hc]; exact (congrArg Prod.snd h).symm⟩
  · rintro ⟨hf, hc⟩
    have ha : a.ftype = .file := by rw [hft]; exact hf
    rw [vcore_file ha, vcore_file hf] at h
    exact ⟨ha, by rw [← hc]; exact congrArg Prod.snd h⟩

/-- the path of an operation: canonical, non-root, outside ".whiteout", no component ending in
"_wo" (the reserved suffix of the markers) -/
structure OpPath (cs : List Str) : Prop where
  ne : cs ≠ []
  good : ∀ c ∈ cs, GoodComp c
  nowo : ∀ c ∈ cs, NoWo c
  head : cs.head? ≠ some woDir

instance (cs : List Str) : Decidable (OpPath cs) :=
  decidable_of_iff (cs ≠ [] ∧ (∀ c ∈ cs, GoodComp c) ∧ (∀ c ∈ cs, NoWo c) ∧ cs.head? ≠ some woDir)
    ⟨fun ⟨a, b, c, d⟩ => ⟨a, b, c, d⟩, fun ⟨a, b, c, d⟩ => ⟨a, b, c, d⟩⟩

section oppath
variable {ds : List Str} {n : Str} (hp : OpPath (ds ++ [n]))
include hp

theorem OpPath.hds : ∀ c ∈ ds, GoodComp c := (good_of_snoc hp.good).1
theorem OpPath.hn : GoodComp n := (good_of_snoc hp.good).2
theorem OpPath.nwds : ∀ c ∈ ds, NoWo c := fun c hc => hp.nowo c (by simp [hc])
theorem OpPath.dhead : ds.head? ≠ some woDir := C10.head_ne_of_snoc hp.head
theorem OpPath.dsuf : ds.head? ≠ some woSuffix := by
  intro hd
  cases ds with
  | nil => simp at hd
  | cons d ds =>
    simp at hd
    exact hp.nowo d (by simp) (by rw [hd]; exact List.suffix_refl _)
theorem OpPath.nr : NR (renderC (ds ++ [n])) := NR_renderC hp.ne (good_noSlash hp.good) hp.head
theorem OpPath.abs : (renderC (ds ++ [n])).head? = some '/' := hp.nr.1
theorem OpPath.parent : parentInternal (renderC (ds ++ [n])) = renderC ds :=
  parent_snoc ds n hp.hds hp.hn
theorem OpPath.parentVis : Vis (renderC ds) := vis_of_snoc (good_noSlash hp.hds) hp.head
omit hp in
theorem OpPath.parent_ne : renderC ds ≠ renderC (ds ++ [n]) := by
  intro h
  have := congrArg List.length h
  simp at this
omit hp in
theorem OpPath.marker_ne : marker (renderC (ds ++ [n])) ≠ renderC (ds ++ [n]) := C10.marker_ne_self ds n
theorem OpPath.prefixPath {j : Nat} (h1 : 1 ≤ j) (h2 : j ≤ ds.length) :
    NR (renderC (ds.take j)) := by
  apply NR_renderC
  · intro h0
    have := congrArg List.length h0
    rw [List.length_take, List.length_nil] at this; omega
  · exact fun c hc => (hp.hds c (List.mem_of_mem_take hc)).noSlash
  · exact C10.take_head_ne h1 hp.dhead

end oppath

/-- the view is a tree as far as the contract needs it: the root is a directory, and below every
non-root canonical path outside ".whiteout" a present child has a directory parent. The second
clause starts at `ds ≠ []`: of the children of the root it says nothing, their parent is the
first clause. -/
def ViewWF (v : View) : Prop :=
  VIsDir v [] ∧
  ∀ (ds : List Str) (n : Str), ds ≠ [] → (∀ c ∈ ds, GoodComp c) → '/' ∉ n →
    ds.head? ≠ some woDir → v (renderC ds ++ '/' :: n) ≠ none → VIsDir v (renderC ds)

/-- the hidden state of the overlay is in order: the root, every layer map well-formed, no FILE
where the bookkeeping needs a directory, no DIRECTORY where a marker goes, and nothing at a
marked path in the upper map -/
structure OInv (mu : FMap) (ms : List FMap) : Prop where
  root : RootOk mu
  wf : ∀ m ∈ mu :: ms, WF m
  woarea : ∀ cs, (∀ c ∈ cs, GoodComp c) → (∀ c ∈ cs, NoWo c) → ∀ e,
    mu.find? (renderC (woDir :: cs)) = some e → e.ftype = .dir
  markFile : ∀ q e, NR q → mu.find? (marker q) = some e → e.ftype = .file
  ghost : ∀ q, NR q → mu.contains (marker q) = true → mu.find? q = none

theorem OInv.hwoarea {mu : FMap} {ms : List FMap} (inv : OInv mu ms) {ds : List Str}
    (hds : ∀ c ∈ ds, GoodComp c) (hnw : ∀ c ∈ ds, NoWo c) :
    ∀ k ∈ chain [] (woDir :: ds), ∀ e, mu.find? k = some e → e.ftype = .dir := by
  intro k hk e he
  obtain ⟨j, h1, h2, rfl⟩ := (mem_chain [] (woDir :: ds) k).1 hk
  obtain ⟨i, rfl⟩ : ∃ i, j = i + 1 := ⟨j - 1, by omega⟩
  simp only [List.nil_append, List.take_succ_cons] at he
  exact inv.woarea (ds.take i) (fun c hc => hds c (List.mem_of_mem_take hc))
    (fun c hc => hnw c (List.mem_of_mem_take hc)) e he

theorem OInv.hwo {mu : FMap} {ms : List FMap} (inv : OInv mu ms) {cs : List Str}
    (hcs : ∀ c ∈ cs, GoodComp c) (hnw : ∀ c ∈ cs, NoWo c) :
    ∀ e, mu.find? (woDirOf (renderC cs)) = some e → e.ftype = .dir := by
  intro e he
  rw [woDirOf_renderC] at he
  exact inv.woarea cs hcs hnw e he

/-- what the upper map holds at a non-reserved path is what the view shows there (a marked path
holds nothing) -/
theorem OInv.upper_view {mu : FMap} {ms : List FMap} (inv : OInv mu ms) {q : Str} (hq : NR q)
    {e : Entry} (he : mu.find? q = some e) : viewN (mu :: ms) q = some e := by
  have hm : mu.contains (marker q) = false := by
    cases hc : mu.contains (marker q)
    · rfl
    · rw [inv.ghost _ hq hc] at he; cases he
  exact viewN_upper hm he

theorem OInv.upper_none {mu : FMap} {ms : List FMap} (inv : OInv mu ms) {q : Str} (hq : NR q)
    (hv : viewN (mu :: ms) q = none) : mu.find? q = none := by
  cases he : mu.find? q with
  | none => rfl
  | some e => rw [inv.upper_view hq he] at hv; cases hv

theorem OInv.mem_listing {mu : FMap} {ms : List FMap} (inv : OInv mu ms) (p n : Str) :
    n ∈ pListingN (mu :: ms) p ↔
      ('/' ∉ n ∧ (viewN (mu :: ms) (p ++ '/' :: n)).isSome = true ∧ (p = [] → n ≠ woDir)) :=
  mem_pListingN mu ms p n (fun m hm => (inv.wf m hm).childrenHaveDir _)
    ((inv.wf mu (by simp)).childrenHaveDir _)

/-- the emptiness test of `remove_dir` (nothing is listed) is the contract's precondition (the view
has no child) -/
theorem OInv.listing_nil_iff {mu : FMap} {ms : List FMap} (inv : OInv mu ms) {p : Str} (hp : p ≠ []) :
    pListingN (mu :: ms) p = [] ↔ VNoChildren (oview (mu :: ms)) p := by
  rw [List.eq_nil_iff_forall_not_mem]
  constructor
  · intro hl x hx
    rw [oview_ne (by simp)]
    cases hc : viewN (mu :: ms) (p ++ '/' :: x) with
    | none => rfl
    | some ce =>
      exact absurd ((inv.mem_listing p x).2 ⟨hx, by rw [hc]; rfl, fun h0 => absurd h0 hp⟩) (hl x)
  · intro hnoc x hx
    obtain ⟨hxs, hsome, _⟩ := (inv.mem_listing p x).1 hx
    have := hnoc x hxs
    rw [oview_ne (by simp)] at this
    rw [this] at hsome; cases hsome

theorem rootIsDir {mu : FMap} {ms : List FMap} (hroot : RootOk mu) : VIsDir (oview (mu :: ms)) [] := by
  obtain ⟨e, he, hd⟩ := hroot.root
  exact ⟨e, by rw [oview_root]; exact he, hd⟩

theorem ViewWF.below_dir {v : View} (hv : ViewWF v) {cs : List Str} :
    ∀ ts : List Str, ts ≠ [] → (∀ c ∈ cs ++ ts, GoodComp c) → (cs ++ ts).head? ≠ some woDir →
      v (renderC (cs ++ ts)) ≠ none → VIsDir v (renderC cs) := by
  intro ts
  induction hk : ts.length generalizing ts with
  | zero => intro h; exact absurd (List.eq_nil_of_length_eq_zero hk) h
  | succ k ih =>
    intro hne hg hhead hpres
    rcases List.eq_nil_or_concat ts with h0 | ⟨ts0, n, h0⟩
    · exact absurd h0 hne
    · rw [List.concat_eq_append] at h0
      subst h0
      rw [← List.append_assoc] at hg hhead hpres
      obtain ⟨hg0, hn⟩ := good_of_snoc hg
      have hpar : VIsDir v (renderC (cs ++ ts0)) := by
        by_cases h0 : cs ++ ts0 = []
        · rw [h0]; exact hv.1
        · exact hv.2 _ n h0 hg0 hn.noSlash (C10.head_ne_of_snoc hhead)
            (by rw [← renderC_snoc]; exact hpres)
      by_cases hts : ts0 = []
      · subst hts; rw [List.append_nil] at hpar; exact hpar
      · obtain ⟨e, he, _⟩ := hpar
        exact ih ts0 (by simpa using hk) hts hg0 (C10.head_ne_of_snoc hhead) (by rw [he]; simp)

theorem ancDirsN_of_viewWF {mu : FMap} {ms : List FMap} (hv : ViewWF (oview (mu :: ms)))
    {ds : List Str} (hds : ∀ c ∈ ds, GoodComp c) (hhead : ds.head? ≠ some woDir)
    (hdir : VIsDir (oview (mu :: ms)) (renderC ds)) : AncDirsN (mu :: ms) ds := by
  intro j h1 h2
  have hne : ds.take j ≠ [] := by
    intro h0
    have := congrArg List.length h0
    rw [List.length_take, List.length_nil] at this; omega
  have hd : VIsDir (oview (mu :: ms)) (renderC (ds.take j)) := by
    by_cases hj : j = ds.length
    · rw [hj, List.take_length]; exact hdir
    · have hdrop : ds.drop j ≠ [] := by
        intro h0
        have := congrArg List.length h0
        rw [List.length_drop, List.length_nil] at this; omega
      obtain ⟨e, he, _⟩ := hdir
      exact hv.below_dir (cs := ds.take j) (ds.drop j) hdrop
        (by rw [List.take_append_drop]; exact hds) (by rw [List.take_append_drop]; exact hhead)
        (by rw [List.take_append_drop, he]; simp)
  obtain ⟨e, he, hde⟩ := hd
  rw [oview_ne (renderC_ne_nil hne)] at he
  exact ⟨e, he, hde⟩

/-- the same maps, up to access times -/
inductive LowerSame : List FMap → List FMap → Prop
  | nil : LowerSame [] []
  | cons {m m' : FMap} {ms ms' : List FMap} :
      (∀ q, (m'.find? q).map stripAcc = (m.find? q).map stripAcc) → LowerSame ms ms' →
      LowerSame (m :: ms) (m' :: ms')

theorem LowerSame.refl (ms : List FMap) : LowerSame ms ms := by
  induction ms with
  | nil => exact .nil
  | cons m ms ih => exact .cons (fun _ => rfl) ih

theorem LowerSame.trans {a b c : List FMap} (h1 : LowerSame a b) (h2 : LowerSame b c) :
    LowerSame a c := by
  induction h1 generalizing c with
  | nil => cases h2; exact .nil
  | cons hab _ ih =>
    cases h2 with
    | cons hbc h2' => exact .cons (fun q => (hbc q).trans (hab q)) (ih h2')

theorem LowerSame.set {ms : List FMap} {j : Nat} {m m2 : FMap} (hm : ms[j]? = some m)
    (h : ∀ q, (m2.find? q).map stripAcc = (m.find? q).map stripAcc) :
    LowerSame ms (ms.set j m2) := by
  induction ms generalizing j with
  | nil => exact .nil
  | cons m0 ms ih =>
    cases j with
    | zero => simp at hm; subst hm; exact .cons h (LowerSame.refl ms)
    | succ j => simp at hm; exact .cons (fun _ => rfl) (ih hm)

/-- the access stamp of a copy-up changes access times only -/
theorem lowerSame_stampFirst (ms : List FMap) (p : Str) : LowerSame ms (stampFirst ms p) := by
  induction ms with
  | nil => exact .nil
  | cons m ms ih =>
    unfold stampFirst
    cases hf : m.find? p with
    | none => exact .cons (fun _ => rfl) ih
    | some e => exact .cons (C04.insert_touch_same m p e hf) (LowerSame.refl ms)

theorem firstN_lowerSame {ms ms' : List FMap} (h : LowerSame ms ms') (q : Str) :
    (firstN ms' q).map stripAcc = (firstN ms q).map stripAcc := by
  induction h with
  | nil => rfl
  | @cons m m' ms ms' hm _ ih =>
    simp only [firstN]
    have := hm q
    cases h1 : m'.find? q <;> cases h2 : m.find? q <;> rw [h1, h2] at this <;> simp at this ⊢
    · exact ih
    · exact this

theorem strip_none {a b : Option Entry} (h : a.map stripAcc = b.map stripAcc) :
    a = none ↔ b = none := by
  cases a <;> cases b <;> simp at h ⊢

theorem strip_some {a b : Option Entry} (h : a.map stripAcc = b.map stripAcc) {e : Entry}
    (ha : a = some e) : ∃ e0, b = some e0 ∧ e0.ftype = e.ftype ∧ e0.content = e.content := by
  subst ha
  cases b with
  | none => simp at h
  | some e0 =>
    simp only [Option.map_some, Option.some.injEq] at h
    exact ⟨e0, rfl, (show (stripAcc e).ftype = (stripAcc e0).ftype from congrArg Entry.ftype h).symm,
      (show (stripAcc e).content = (stripAcc e0).content from congrArg Entry.content h).symm⟩

theorem contains_of_stripAcc {m m' : FMap}
    (h : ∀ q, (m'.find? q).map stripAcc = (m.find? q).map stripAcc) (k : Str) :
    m'.contains k = m.contains k := by
  unfold FMap.contains
  have := h k
  cases h1 : m'.find? k <;> cases h2 : m.find? k <;> rw [h1, h2] at this <;> simp at this ⊢

theorem oview_lowerSame_all {mu mu1 : FMap} {ms ms1 : List FMap}
    (h : LowerSame (mu :: ms) (mu1 :: ms1)) : VSame (oview (mu :: ms)) (oview (mu1 :: ms1)) := by
  cases h with
  | cons hm hl =>
    intro q hq
    apply vcore_of_stripAcc
    by_cases hq0 : q = []
    · subst hq0; rw [oview_root, oview_root]; exact hm []
    · rw [oview_ne hq0, oview_ne hq0, viewN_cons, viewN_cons, contains_of_stripAcc hm]
      split
      · rfl
      · exact firstN_lowerSame (LowerSame.cons hm hl) q

theorem oview_lowerSame (mu : FMap) {ms ms' : List FMap} (h : LowerSame ms ms') :
    VSame (oview (mu :: ms)) (oview (mu :: ms')) :=
  oview_lowerSame_all (.cons (fun _ => rfl) h)

theorem wf_of_stripAcc {m m' : FMap} (hm : WF m)
    (h : ∀ q, (m'.find? q).map stripAcc = (m.find? q).map stripAcc) : WF m' := by
  apply hm.of_coreEq
  intro k
  obtain hn := strip_none (h k)
  cases h1 : m'.find? k with
  | none => rw [hn.1 h1]
  | some x =>
    obtain ⟨y, h2, a1, a2⟩ := strip_some (h k) h1
    rw [h2]
    simp [core, a1, a2]

theorem OInv.lowerSame_all {mu mu1 : FMap} {ms ms1 : List FMap} (inv : OInv mu ms)
    (h : LowerSame (mu :: ms) (mu1 :: ms1)) : OInv mu1 ms1 := by
  have hwf : ∀ {a b : List FMap}, LowerSame a b → (∀ x ∈ a, WF x) → ∀ y ∈ b, WF y := by
    intro a b hab
    induction hab with
    | nil => intro _ y hy; cases hy
    | @cons m0 m0' _ _ h1 _ ih =>
      intro ha y hy
      rcases List.mem_cons.1 hy with rfl | hy
      · exact wf_of_stripAcc (ha m0 (by simp)) h1
      · exact ih (fun x hx => ha x (by simp [hx])) y hy
  cases h with
  | cons hm hl =>
    refine ⟨⟨?_, ?_⟩, hwf (.cons hm hl) inv.wf, ?_, ?_, ?_⟩
    · obtain ⟨e, he, hd⟩ := inv.root.root
      obtain ⟨e1, he1, hft, _⟩ := strip_some (hm []).symm he
      exact ⟨e1, he1, by rw [hft]; exact hd⟩
    · rw [contains_of_stripAcc hm]; exact inv.root.noMark
    · intro cs hcs hnw e he
      obtain ⟨e0, he0, hft, _⟩ := strip_some (hm _) he
      rw [← hft]; exact inv.woarea cs hcs hnw e0 he0
    · intro q e hq he
      obtain ⟨e0, he0, hft, _⟩ := strip_some (hm _) he
      rw [← hft]; exact inv.markFile q e0 hq he0
    · intro q hq hc
      rw [contains_of_stripAcc hm] at hc
      exact (strip_none (hm q)).2 (inv.ghost q hq hc)

theorem OInv.lowerSame {mu : FMap} {ms ms' : List FMap} (inv : OInv mu ms)
    (h : LowerSame ms ms') : OInv mu ms' :=
  inv.lowerSame_all (.cons (fun _ => rfl) h)

theorem pIsDirN_iff (all : List FMap) (p : Str) : pIsDirN all p = true ↔ VIsDir (oview all) p := by
  unfold pIsDirN VIsDir oview dirEntryN
  cases (if p = [] then (all.headD []).find? [] else viewN all p) with
  | none => simp
  | some e => simp

section blocks
variable {mu : FMap} {ms : List FMap} (inv : OInv mu ms) {ds : List Str} {n : Str}
  (hp : OpPath (ds ++ [n]))
include inv hp

omit inv hp in
theorem ensure_fail (hnd : ¬ VIsDir (oview (mu :: ms)) (renderC ds)) :
    pEnsureN (mu :: ms) ds = (.err .other none, mu) := by
  have hd : pIsDirN (mu :: ms) (renderC ds) = false := by
    cases h : pIsDirN (mu :: ms) (renderC ds)
    · rfl
    · exact absurd ((pIsDirN_iff _ _).1 h) hnd
  exact pEnsureN_notDir hd

theorem ensure_ok (hv : ViewWF (oview (mu :: ms))) (hd : VIsDir (oview (mu :: ms)) (renderC ds)) :
    pEnsureN (mu :: ms) ds = (.ok (), fillDirs mu (chain [] ds)) ∧
    OInv (fillDirs mu (chain [] ds)) ms ∧
    VSame (oview (mu :: ms)) (oview (fillDirs mu (chain [] ds) :: ms)) ∧
    Mem.parentOk (fillDirs mu (chain [] ds)) (renderC (ds ++ [n])) = true ∧
    (fillDirs mu (chain [] ds)).find? (renderC (ds ++ [n])) = mu.find? (renderC (ds ++ [n])) ∧
    (fillDirs mu (chain [] ds)).find? (marker (renderC (ds ++ [n])))
      = mu.find? (marker (renderC (ds ++ [n]))) := by
  have hds := hp.hds
  have hn := hp.hn
  have hanc : AncDirsN (mu :: ms) ds := ancDirsN_of_viewWF hv hds hp.dhead hd
  have hE := pEnsureN_ok inv.root hds hanc
  have hp0 := find?_snoc_fillDirs (mu := mu) hds hn [] (Or.inl rfl)
  simp only [List.append_nil] at hp0
  have hmk : ∀ q, q.head? = some '/' →
      (fillDirs mu (chain [] ds)).find? (marker q) = mu.find? (marker q) := fun q hq =>
    find?_fillDirs_not_mem _ _ _ (marker_not_in_chain hds hp.dhead q hq)
  have hnotin : ∀ k, firstComp k = woDir → k ∉ chain [] ds := by
    intro k hk hmem
    obtain ⟨j, h1, h2, rfl⟩ := (mem_chain [] ds k).1 hmem
    simp only [List.nil_append] at hk
    exact (hp.prefixPath h1 h2).2 hk
  have hwfE : WF (fillDirs mu (chain [] ds)) := by
    have := wf_pEnsureN (ms := ms) (inv.wf mu (by simp)) ds
    rw [hE] at this; exact this
  refine ⟨hE, ⟨?_, ?_, ?_, ?_, ?_⟩, ?_, parentOk_fillDirs_gen inv.root.root hds hn
    (chain_dirs_of_ancN hanc), hp0, hmk _ hp.abs⟩
  ·
    obtain ⟨e0, he0, hd0⟩ := inv.root.root
    refine ⟨⟨e0, ?_, hd0⟩, ?_⟩
    · rw [find?_fillDirs_not_mem _ _ _ (by
        intro hmem
        obtain ⟨j, h1, h2, he⟩ := (mem_chain [] ds _).1 hmem
        exact (hp.prefixPath h1 h2).ne_nil (by simpa using he.symm))]
      exact he0
    · rw [contains_eq_of_find (find?_fillDirs_not_mem _ _ _ (hnotin _ (by decide)))]
      exact inv.root.noMark
  · intro m hm
    rcases List.mem_cons.1 hm with rfl | hm
    · exact hwfE
    · exact inv.wf m (by simp [hm])
  · intro cs hcs hnw e he
    rw [find?_fillDirs_not_mem _ _ _ (hnotin _ (firstComp_renderC woDir cs (by decide)))] at he
    exact inv.woarea cs hcs hnw e he
  · intro q e hq he
    rw [hmk q hq.1] at he
    exact inv.markFile q e hq he
  · intro q hq hc
    rw [contains_eq_of_find (hmk q hq.1)] at hc
    have hnone := inv.ghost q hq hc
    rw [find?_fillDirs, hnone]
    by_cases hk : q ∈ chain [] ds
    · exfalso
      obtain ⟨j, h1, h2, he⟩ := (mem_chain [] ds _).1 hk
      simp only [List.nil_append] at he
      obtain ⟨e', hv', _⟩ := hanc j h1 h2
      rw [← he, viewN_marked hc] at hv'
      cases hv'
    · simp [hk]
  · intro q hq
    rcases hq with rfl | hq
    · rw [oview_root, oview_root, find?_fillDirs_not_mem _ _ _ (by
        intro hmem
        obtain ⟨j, h1, h2, he⟩ := (mem_chain [] ds _).1 hmem
        exact (hp.prefixPath h1 h2).ne_nil (by simpa using he.symm))]
    · rw [oview_NR hq, oview_NR hq]
      exact vcore_of_dirBlind (view_fillDirsN hds hanc hp.dhead q hq.1)

/-! ### the shape every successful mutator shares: the upper map changes at `p`, at the marker of
`p` and (bookkeeping directories) on the chain "/.whiteout/<ds>" only -/

theorem upper_change_spec (mu2 : FMap)
    (hframe : ∀ k, k ≠ renderC (ds ++ [n]) → k ≠ marker (renderC (ds ++ [n])) →
      k ∉ chain [] (woDir :: ds) → mu2.find? k = mu.find? k)
    (hwoarea : ∀ cs, (∀ c ∈ cs, GoodComp c) → (∀ c ∈ cs, NoWo c) → ∀ e,
      mu2.find? (renderC (woDir :: cs)) = some e → e.ftype = .dir)
    (hmark : ∀ em, mu2.find? (marker (renderC (ds ++ [n]))) = some em → em.ftype = .file)
    (hghost : mu2.contains (marker (renderC (ds ++ [n]))) = true →
      mu2.find? (renderC (ds ++ [n])) = none)
    (hwf2 : WF mu2) :
    OInv mu2 ms ∧
    ∀ q, Vis q → q ≠ renderC (ds ++ [n]) → oview (mu2 :: ms) q = oview (mu :: ms) q := by
  have hnr := hp.nr
  -- a marker of a non-reserved path is never `p`, nor a bookkeeping directory
  have hmq : ∀ q, NR q → marker q ≠ renderC (ds ++ [n]) := fun q hq h => hnr.ne_marker hq.1 h.symm
  have hmw : ∀ q, marker q ∉ chain [] (woDir :: ds) := marker_not_woChain hp.nwds
  refine ⟨⟨?_, ?_, hwoarea, ?_, ?_⟩, ?_⟩
  · exact C10.rootOk_of_frame hp.hds hp.hn inv.root hp.head hp.dsuf hframe
  · intro m hm
    rcases List.mem_cons.1 hm with rfl | hm
    · exact hwf2
    · exact inv.wf m (by simp [hm])
  · intro q e' hq he'
    by_cases h2 : marker q = marker (renderC (ds ++ [n]))
    · rw [h2] at he'; exact hmark e' he'
    · rw [hframe _ (hmq q hq) h2 (hmw q)] at he'; exact inv.markFile q e' hq he'
  · intro q hq hc
    by_cases h2 : marker q = marker (renderC (ds ++ [n]))
    · rw [h2] at hc; rw [marker_injective _ _ h2]; exact hghost hc
    · have hc' : mu.contains (marker q) = true := by
        rw [← contains_eq_of_find (hframe _ (hmq q hq) h2 (hmw q))]; exact hc
      have hqp : q ≠ renderC (ds ++ [n]) := fun h => h2 (by rw [h])
      rw [hframe q hqp (hq.ne_marker hp.abs) hq.not_woChain]
      exact inv.ghost q hq hc'
  · intro q hq hqp
    rcases hq with rfl | hq
    · rw [oview_root, oview_root]
      exact hframe [] (fun h => hnr.ne_nil h.symm) (by simp [marker]) (by
        intro hk
        have := firstComp_woChain hk
        revert this; decide)
    · rw [oview_NR hq, oview_NR hq]
      exact C10.viewN_congr_upper
        (hframe q hqp (hq.ne_marker hp.abs) hq.not_woChain)
        (hframe _ (hmq q hq) (fun h => hqp (marker_injective _ _ h)) (hmw q))

theorem insert_spec (e : Entry) (mu2 : FMap)
    (hmu2 : ∀ k, mu2.find? k = if k = renderC (ds ++ [n]) then some e
      else if k = marker (renderC (ds ++ [n])) then none else mu.find? k)
    (hwf2 : WF mu2) :
    OInv mu2 ms ∧ oview (mu2 :: ms) (renderC (ds ++ [n])) = some e ∧
    ∀ q, Vis q → q ≠ renderC (ds ++ [n]) → oview (mu2 :: ms) q = oview (mu :: ms) q := by
  have hnr := hp.nr
  have hframe : ∀ k, k ≠ renderC (ds ++ [n]) → k ≠ marker (renderC (ds ++ [n])) →
      mu2.find? k = mu.find? k := by
    intro k h1 h2; rw [hmu2, if_neg h1, if_neg h2]
  have hmk : mu2.find? (marker (renderC (ds ++ [n]))) = none := by
    rw [hmu2, if_neg (C10.marker_ne_self ds n), if_pos rfl]
  obtain ⟨inv2, hfr⟩ := upper_change_spec inv hp mu2 (fun k h1 h2 _ => hframe k h1 h2)
    (fun cs hcs hnw e' he' => by
      have h1 : renderC (woDir :: cs) ≠ renderC (ds ++ [n]) := by
        intro h; apply hnr.2; rw [← h]; exact firstComp_renderC woDir cs (by decide)
      by_cases h2 : renderC (woDir :: cs) = marker (renderC (ds ++ [n]))
      · rw [h2, hmk] at he'; cases he'
      · rw [hframe _ h1 h2] at he'; exact inv.woarea cs hcs hnw e' he')
    (fun em hem => by rw [hmk] at hem; cases hem)
    (fun hc => by rw [contains_of_none hmk] at hc; cases hc) hwf2
  refine ⟨inv2, ?_, hfr⟩
  rw [oview_NR hnr]
  exact viewN_upper (contains_of_none hmk) (by rw [hmu2, if_pos rfl])

theorem remove_spec {f : FMap → Str → Res Unit × FMap} (hf : Mem.Erasing f) (mu2 : FMap)
    (ht : pRemoveTail f mu (ds ++ [n]) = (.ok (), mu2)) (hwf2 : WF mu2) :
    OInv mu2 ms ∧ oview (mu2 :: ms) (renderC (ds ++ [n])) = none ∧
    ∀ q, Vis q → q ≠ renderC (ds ++ [n]) → oview (mu2 :: ms) q = oview (mu :: ms) q := by
  obtain ⟨hold, _, hnew, _⟩ := C10.onlyMarkerAdded_of_tail hf hp.good ht
  obtain ⟨hmark, _, hframe⟩ := C10.tail_result hf hp.hds hp.hn ht
  rw [List.dropLast_concat] at hnew
  have hnr := hp.nr
  obtain ⟨em, hem, hemf⟩ := hmark
  obtain ⟨inv2, hfr⟩ := upper_change_spec inv hp mu2 hframe
    (fun cs hcs hnw e' he' => by
      -- a bookkeeping directory: kept, or newly made by `mkdirs`
      have h1 : renderC (woDir :: cs) ≠ renderC (ds ++ [n]) := by
        intro h; apply hnr.2; rw [← h]; exact firstComp_renderC woDir cs (by decide)
      have h2 : renderC (woDir :: cs) ≠ marker (renderC (ds ++ [n])) := by
        intro h
        rw [marker_renderC] at h
        have := C06.renderC_injective _ _
          (by intro c hc
              rcases List.mem_cons.1 hc with rfl | hc
              · decide
              · exact (hcs c hc).noSlash)
          (good_noSlash (good_markerComps hp.hds hp.hn)) h
        simp only [List.cons.injEq, true_and] at this
        exact hnw (n ++ woSuffix) (by rw [this]; simp) (List.suffix_append _ _)
      rcases Option.eq_none_or_eq_some (mu.find? (renderC (woDir :: cs))) with hf | ⟨e0, hf⟩
      · by_cases hk : renderC (woDir :: cs) ∈ chain [] (woDir :: ds)
        · rw [hnew _ hk h1 h2 hf] at he'
          injection he' with he'; rw [← he']; rfl
        · rw [hframe _ h1 h2 hk, hf] at he'; cases he'
      · rw [hold _ h1 h2 (contains_of_find hf)] at he'
        exact inv.woarea cs hcs hnw e' he')
    (fun em' hem' => by rw [hem] at hem'; injection hem' with hem'; rw [← hem']; exact hemf)
    (fun _ => (C10.onlyMarkerAdded_of_tail hf hp.good ht).2.2.2 hp.head) hwf2
  refine ⟨inv2, ?_, hfr⟩
  rw [oview_NR hnr]
  exact viewN_marked (contains_of_find hem)

end blocks

end Vfs.C09
