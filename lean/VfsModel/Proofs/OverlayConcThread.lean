/-
  ONE thread running the overlay's `create_dir_all` over n memory layers under interference
  (`Evolve`): a specification (`WP`, Proofs/OverlayConcCalc.lean) of every function of
  VfsModel/OverlayConc.lean, each with a STABLE postcondition, up to `sp_createDirAll`.

  The two parts that do not depend on the overlay are proved for any rely: `VfsPath::create_dir` on
  a key of the write leaf (`WP_vCreateDir`) and the loop of `create_dir_all` over any `create_dir`
  (`WP_cdaLoop`, `WP_cdaWith`; `WP_cdaWith_prefixes` with the invariant "`G` and the prefixes so far");
  Proofs/AltrootConcThread.lean uses them too.
-/
import VfsModel.Proofs.OverlayConcInv
namespace Vfs.OConc
open Vfs Vfs.Overlay Prog

theorem ret_ok_bind {α β} (a : α) (f : α → Prog β) : (Prog.ret (.ok a) >>= f) = f a := rfl
theorem pure_bind' {α β} (a : α) (f : α → Prog β) : ((pure a : Prog α) >>= f) = f a := rfl
theorem lift_ok {α β} (f : α → Prog β) (a : α) : Prog.lift f (.ok a) = f a := rfl
theorem lift_err {α β} (f : α → Prog β) (k : ErrKind) (p : Option Str) :
    Prog.lift f (.err k p) = .done (.err k p) := rfl

/-! ### `VfsPath::create_dir` on the write leaf and the loop of `create_dir_all`, for any rely -/

def KeepsDir (Rel : FMap → FMap → Prop) (k : Str) : Prop :=
  ∀ a b, Rel a b → IsDirU a k → IsDirU b k

section anyRel
variable {u idu : Nat} {is ids : List Nat} {ms : List FMap} {Rel : FMap → FMap → Prop}
  (hrefl : ∀ m, Rel m m) (htr : ∀ a b c, Rel a b → Rel b c → Rel a c)

include hrefl htr in
/-- `VfsPath::create_dir` on the key `/ds/n` of the write leaf is three calls (`exists(parent)`,
`metadata(parent)`, `create_dir`), each seeing a `Rel`-later map; `hnf`: no file appears at `/ds/n` -/
theorem WP_vCreateDir (id : Nat) (ds : List Str) (n : Str) (hds : ∀ c ∈ ds, GoodComp c)
    (hn : GoodComp n) (hkp : KeepsDir Rel (renderC ds)) (hkq : KeepsDir Rel (renderC (ds ++ [n])))
    (hstep : ∀ m, Rel m (Mem.createDir m (renderC (ds ++ [n]))).2) (mu : FMap)
    (hnf : ∀ mu', Rel mu mu' → ∀ e, mu'.find? (renderC (ds ++ [n])) = some e → e.ftype = .dir)
    (hd : IsDirU mu (renderC ds)) :
    WP u idu is ids ms Rel (vCreateDir { fs := leafFS u, fsId := id, path := renderC (ds ++ [n]) })
      (fun r mu' => (r = .ok () ∨ ∃ pth, r = .err .dirExists pth) ∧
        IsDirU mu' (renderC (ds ++ [n]))) mu := by
  have hpi := parent_snoc ds n hds hn
  unfold vCreateDir vGetParent
  simp only [VPath.parent, VPath.withStr, hpi]
  rw [Prog.bind_def, Prog.bind_def]
  show WP u idu is ids ms Rel (((vExists _).bindR _).bindR _) _ _
  refine WP_exists_u hrefl _ _ _ _ (fun mu1 h1 => ?_)
  obtain ⟨e1, he1, hdd1⟩ := hkp _ _ h1 hd
  rw [contains_of_find he1]
  simp only [Prog.bindR, Prog.lift, Bool.not_true, Bool.false_eq_true, ↓reduceIte]
  show WP u idu is ids ms Rel (Prog.metadata _ _ _) _ _
  refine WP_metadata_u hrefl _ _ _ _ (fun mu2 h2 => ?_)
  obtain ⟨e2, he2, hdd2⟩ := hkp _ _ h2 ⟨e1, he1, hdd1⟩
  have hmd : Mem.metadata mu2 (renderC ds) = .ok e2.meta := by simp [Mem.metadata, he2]
  rw [hmd]
  simp only [Prog.bindR, Prog.lift, Res.withPath, Entry.meta, hdd2, ne_eq, not_true_eq_false,
    ↓reduceIte]
  show WP u idu is ids ms Rel (Prog.createDir _ _ _) _ _
  refine WP_createDir_u _ _ _ _ (fun mu3 h3 => ?_)
  obtain ⟨hres, hnow⟩ := createDir_spec mu3 (renderC (ds ++ [n])) (slash_mem_renderC (by simp))
    (by rw [hpi]; exact hkp _ _ h3 ⟨e2, he2, hdd2⟩) (hnf mu3 (htr _ _ _ (htr _ _ _ h1 h2) h3))
  refine ⟨hstep mu3, WP_done _ _ _ (fun mu4 h4 => ⟨?_, hkq _ _ h4 hnow⟩)⟩
  rcases hres with hres | hres <;> rw [hres] <;> simp

variable (mk : Str → Prog Unit) (cs : List Str) (P : Nat → FMap → Prop)
  (hst : ∀ k a b, k ≤ cs.length → Rel a b → P k a → P k b)
  (hmk : ∀ k (hk : k < cs.length) mu, P k mu →
    WP u idu is ids ms Rel (mk (renderC (cs.take k ++ [cs[k]])))
      (fun r mu' => (r = .ok () ∨ ∃ pth, r = .err .dirExists pth) ∧ P (k + 1) mu') mu)

include hrefl htr hst hmk in
/-- the loop of `create_dir_all` for any `create_dir` (`mk`): `P k` (stable, `hst`) says that the
first `k` prefixes are in place -/
theorem WP_cdaLoop : ∀ (n k : Nat) (mu : FMap), cs.length - k = n → k ≤ cs.length → P k mu →
    WP u idu is ids ms Rel (cdaLoop mk (chain (cs.take k) (cs.drop k)))
      (fun r mu' => r = .ok () ∧ P cs.length mu') mu := by
  intro n
  induction n with
  | zero =>
    intro k mu hn hk h
    have hkl : k = cs.length := by omega
    subst hkl
    simp only [List.drop_length, chain, cdaLoop]
    exact WP_done _ _ _ (fun mu1 h1 => ⟨rfl, hst _ _ _ (Nat.le_refl _) h1 h⟩)
  | succ n ih =>
    intro k mu hn hk h
    have hlt : k < cs.length := by omega
    rw [List.drop_eq_getElem_cons hlt]
    simp only [chain, cdaLoop]
    refine WP_bindR hrefl htr _ _ _ _ _ (hmk k hlt mu h) ?_
    rintro r mu1 _ ⟨hr, hP⟩
    have hnext := ih (k + 1) mu1 (by omega) (by omega) hP
    rw [take_succ_snoc cs k hlt] at hnext
    rcases hr with rfl | ⟨pth, rfl⟩
    · exact hnext
    · exact hnext

include hrefl htr hst hmk in
theorem WP_cdaWith (hcs : ∀ c ∈ cs, '/' ∉ c) (mu : FMap) (h0 : P 0 mu) :
    WP u idu is ids ms Rel (cdaWith mk (renderC cs))
      (fun r mu' => r = .ok () ∧ P cs.length mu') mu := by
  unfold cdaWith
  by_cases hne : cs = []
  · subst hne
    simp only [renderC_nil, ↓reduceIte]
    exact WP_done _ _ _ (fun mu1 h1 => ⟨rfl, hst _ _ _ (Nat.le_refl _) h1 h0⟩)
  · rw [if_neg (renderC_ne_nil hne), dirPrefixes_renderC cs hcs]
    have := WP_cdaLoop hrefl htr mk cs P hst hmk cs.length 0 mu (by omega) (by omega) h0
    simpa using this

include hrefl htr in
/-- `WP_cdaWith` with the invariant all users have: `G` holds throughout and prefix `j` is in place
(`D j`) for every `j ≤ k`, both stable under `Rel`; `mk` on prefix `k + 1` has to put that prefix in
place, the rest is carried over its calls by `WP_rel` -/
theorem WP_cdaWith_prefixes (G : FMap → Prop) (D : Nat → FMap → Prop)
    (hG : ∀ a b, Rel a b → G a → G b)
    (hD : ∀ j a b, j ≤ cs.length → Rel a b → D j a → D j b)
    (hmkD : ∀ k (hk : k < cs.length) mu, G mu → (∀ j, j ≤ k → D j mu) →
      WP u idu is ids ms Rel (mk (renderC (cs.take k ++ [cs[k]])))
        (fun r mu' => (r = .ok () ∨ ∃ pth, r = .err .dirExists pth) ∧ D (k + 1) mu') mu)
    (hcs : ∀ c ∈ cs, '/' ∉ c) (mu : FMap) (g : G mu) (h0 : D 0 mu) :
    WP u idu is ids ms Rel (cdaWith mk (renderC cs))
      (fun r mu' => r = .ok () ∧ ∀ j, j ≤ cs.length → D j mu') mu := by
  refine WP_mono _ _ _ _ (fun r mu' h => ⟨h.1, h.2.2⟩)
    (WP_cdaWith hrefl htr mk cs (fun k m => G m ∧ ∀ j, j ≤ k → D j m) ?_ ?_ hcs mu
      ⟨g, fun j hj => by rw [Nat.le_zero.1 hj]; exact h0⟩)
  · rintro k a b hk h ⟨ga, da⟩
    exact ⟨hG a b h ga, fun j hj => hD j a b (by omega) h (da j hj)⟩
  · rintro k hlt m ⟨gm, dm⟩
    refine WP_mono _ _ _ _ ?_ (WP_rel htr _ _ _ (hmkD k hlt m gm dm))
    rintro r m1 ⟨⟨hr, hnow⟩, h1⟩
    refine ⟨hr, hG m m1 h1 gm, fun j hj => ?_⟩
    rcases Nat.lt_or_ge k j with hjk | hjk
    · rw [show j = k + 1 by omega]; exact hnow
    · exact hD j m m1 (by omega) h1 (dm j hjk)

end anyRel

section thread
variable {u idu : Nat} {is ids : List Nat} {ms : List FMap} {paths : List (List Str)}

abbrev W (u idu : Nat) (is ids : List Nat) (ms : List FMap) (paths : List (List Str)) {α}
    (t : Prog α) (Q : Res α → FMap → Prop) (mu : FMap) : Prop :=
  WP u idu is ids ms (Evolve paths) t Q mu

theorem eR : ∀ m, Evolve paths m m := Evolve.refl
theorem eT (hp : PathsOK paths) : ∀ a b c, Evolve paths a b → Evolve paths b c → Evolve paths a c :=
  fun _ _ _ => Evolve.trans hp

/-! ### the rules, in the shape the programs have -/

theorem W_vExists_u {β} (id : Nat) (p : Str) (g : Res Bool → Prog β) (Q : Res β → FMap → Prop)
    (mu : FMap)
    (h : ∀ mu', Evolve paths mu mu' → W u idu is ids ms paths (g (.ok (mu'.contains p))) Q mu') :
    W u idu is ids ms paths ((vExists { fs := leafFS u, fsId := id, path := p }).bindR g) Q mu :=
  WP_exists_u eR p _ Q mu h

theorem W_vExists_low {β} (j i : Nat) (m : FMap) (hi : is[j]? = some i) (hm : ms[j]? = some m)
    (id : Nat) (p : Str) (g : Res Bool → Prog β) (Q : Res β → FMap → Prop) (mu : FMap)
    (h : ∀ mu', Evolve paths mu mu' → W u idu is ids ms paths (g (.ok (m.contains p))) Q mu') :
    W u idu is ids ms paths ((vExists { fs := leafFS i, fsId := id, path := p }).bindR g) Q mu :=
  WP_exists_low eR j i m hi hm p _ Q mu h

theorem W_vMetadata_u {β} (id : Nat) (p : Str) (g : Res Meta → Prog β) (Q : Res β → FMap → Prop)
    (mu : FMap)
    (h : ∀ mu', Evolve paths mu mu' →
      W u idu is ids ms paths (g ((Mem.metadata mu' p).withPath p)) Q mu') :
    W u idu is ids ms paths ((vMetadata { fs := leafFS u, fsId := id, path := p }).bindR g) Q mu :=
  WP_metadata_u eR p _ Q mu h

theorem W_vMetadata_low {β} (j i : Nat) (m : FMap) (hi : is[j]? = some i) (hm : ms[j]? = some m)
    (id : Nat) (p : Str) (g : Res Meta → Prog β) (Q : Res β → FMap → Prop) (mu : FMap)
    (h : ∀ mu', Evolve paths mu mu' →
      W u idu is ids ms paths (g ((Mem.metadata m p).withPath p)) Q mu') :
    W u idu is ids ms paths ((vMetadata { fs := leafFS i, fsId := id, path := p }).bindR g) Q mu :=
  WP_metadata_low eR j i m hi hm p _ Q mu h

variable (hp : PathsOK paths) (hl1 : is.length = ids.length) (hl2 : is.length = ms.length)

include hp in
theorem W_bind {α β} (m : Prog α) (f : α → Prog β) (P : Res α → FMap → Prop)
    (Q : Res β → FMap → Prop) (mu : FMap) (hm : W u idu is ids ms paths m P mu)
    (hf : ∀ r mu', Evolve paths mu mu' → P r mu' →
      W u idu is ids ms paths (Prog.lift f r) Q mu') :
    W u idu is ids ms paths (m >>= f) Q mu :=
  WP_bind eR (eT hp) m f P Q mu hm hf

include hp in
theorem W_bindR {α β} (m : Prog α) (f : Res α → Prog β) (P : Res α → FMap → Prop)
    (Q : Res β → FMap → Prop) (mu : FMap) (hm : W u idu is ids ms paths m P mu)
    (hf : ∀ r mu', Evolve paths mu mu' → P r mu' → W u idu is ids ms paths (f r) Q mu') :
    W u idu is ids ms paths (m.bindR f) Q mu :=
  WP_bindR eR (eT hp) m f P Q mu hm hf

include hl1 hl2 in
/-- over the lower layers (which never change) `firstExisting` computes `firstPath` -/
theorem sp_firstLow (cs : List Str) (hne : cs ≠ []) (hcs : ∀ c ∈ cs, GoodComp c) :
    ∀ (n o : Nat) (mu : FMap), is.length - o = n →
      W u idu is ids ms paths (OConc.firstExisting (renderC cs) (layersN (is.drop o) (ids.drop o)))
        (fun r _ => r = .ok (firstPath (renderC cs) (is.drop o) (ids.drop o) (ms.drop o))) mu := by
  intro n
  induction n with
  | zero =>
    intro o mu ho
    have h1 : is.drop o = [] := List.drop_eq_nil_iff.2 (by omega)
    rw [h1]
    exact WP_done _ _ _ (fun _ _ => rfl)
  | succ n ih =>
    intro o mu ho
    have ho1 : o < is.length := by omega
    have ho2 : o < ids.length := by omega
    have ho3 : o < ms.length := by omega
    rw [List.drop_eq_getElem_cons ho1, List.drop_eq_getElem_cons ho2, List.drop_eq_getElem_cons ho3]
    unfold layersN OConc.firstExisting firstPath
    rw [join_leafRoot _ _ cs hne hcs, ret_ok_bind]
    refine W_vExists_low o is[o] ms[o] (List.getElem?_eq_getElem ho1) (List.getElem?_eq_getElem ho3)
      _ _ _ _ _ (fun mu1 _ => ?_)
    rw [lift_ok]
    by_cases hc : ms[o].contains (renderC cs) = true
    · rw [if_pos hc, if_pos hc]
      exact WP_done _ _ _ (fun _ _ => rfl)
    · rw [if_neg hc, if_neg hc]
      exact ih (o + 1) mu1 (by omega)

def LowDir (ms : List FMap) (q : Str) : Prop := ∀ e, firstN ms q = some e → e.ftype = .dir

include hp hl1 hl2 in
theorem sp_firstExisting (cs : List Str) (hne : cs ≠ []) (hcs : ∀ c ∈ cs, GoodComp c)
    (hq : Req paths (renderC cs)) (mu : FMap) (g : GI ms paths mu) :
    W u idu is ids ms paths (OConc.firstExisting (renderC cs) (layersN (u :: is) (idu :: ids)))
      (fun r mu' =>
        (r = .ok (some { fs := leafFS u, fsId := idu, path := renderC cs }) ∧
          mu'.contains (renderC cs) = true) ∨
        (r = .ok (firstPath (renderC cs) is ids ms) ∧
          (mu.contains (marker (renderC cs)) = false → LowDir ms (renderC cs)))) mu := by
  unfold layersN OConc.firstExisting
  rw [join_leafRoot _ _ cs hne hcs, ret_ok_bind]
  refine W_vExists_u _ _ _ _ _ (fun mu1 h1 => ?_)
  rw [lift_ok]
  by_cases hc : mu1.contains (renderC cs) = true
  · rw [if_pos hc]
    exact WP_done _ _ _ (fun mu2 h2 => Or.inl ⟨rfl, h2.contains_req hp hq hc⟩)
  · rw [if_neg hc]
    have hlow : mu.contains (marker (renderC cs)) = false → LowDir ms (renderC cs) := by
      intro hm
      have hm1 := h1.unmarked hp hq.head hm
      rcases (g.evolve hp h1).low _ hq with h | h | h
      · rw [hm1] at h; cases h
      · exact absurd h hc
      · exact h
    have := sp_firstLow (u := u) (idu := idu) (paths := paths) hl1 hl2 cs hne hcs _ 0 mu1 rfl
    simp only [List.drop_zero] at this
    exact WP_mono _ _ _ _ (fun r mu' hr => Or.inr ⟨hr, hlow⟩) this

/-- what `read_path(q)` returns: `q` unmarked, and the path of a layer that holds `q` — the write
layer, or the first lower layer that has it, as a directory -/
def Found (u idu : Nat) (is ids : List Nat) (ms : List FMap) (q : Str) (lp : VPath) (mu : FMap) :
    Prop :=
  mu.contains (marker q) = false ∧
  ((lp = { fs := leafFS u, fsId := idu, path := q } ∧ mu.contains q = true) ∨
   (∃ j i id m e, is[j]? = some i ∧ ids[j]? = some id ∧ lp = { fs := leafFS i, fsId := id, path := q } ∧
      FirstAt ms q j m ∧ m.find? q = some e ∧ e.ftype = .dir))

include hp in
theorem Found.evolve {q : Str} {lp : VPath} {mu mu' : FMap} (h : Found u idu is ids ms q lp mu)
    (hq : Req paths q) (he : Evolve paths mu mu') : Found u idu is ids ms q lp mu' := by
  obtain ⟨hm, h⟩ := h
  refine ⟨he.unmarked hp hq.head hm, ?_⟩
  rcases h with ⟨h1, h2⟩ | h
  · exact Or.inl ⟨h1, he.contains_req hp hq h2⟩
  · exact Or.inr h

theorem Found.visDir {q : Str} {lp : VPath} {mu : FMap} (h : Found u idu is ids ms q lp mu)
    (hq : Req paths q) (g : GI ms paths mu) : VisDir ms mu q := by
  obtain ⟨hm, h⟩ := h
  refine ⟨hm, ?_⟩
  rcases h with ⟨_, h2⟩ | ⟨j, i, id, m, e, _, _, _, hf, he, hd⟩
  · obtain ⟨e, he⟩ := (FMap.contains_iff _ _).1 h2
    exact ⟨e, by simp [firstN, he], g.dirs q hq e he⟩
  · rcases Option.eq_none_or_eq_some (mu.find? q) with h0 | ⟨e0, h0⟩
    · exact ⟨e, by simp [firstN, h0, firstN_of_firstAt hf, he], hd⟩
    · exact ⟨e0, by simp [firstN, h0], g.dirs q hq e0 h0⟩

theorem metadata_of_find {m : FMap} {p : Str} {e : Entry} (h : m.find? p = some e) :
    (Mem.metadata m p).withPath p = .ok e.meta := by
  simp [Mem.metadata, h, Res.withPath]

include hp in
theorem W_vExists_found {β} {q : Str} {lp : VPath} (hq : Req paths q) (k : Res Bool → Prog β)
    (Q : Res β → FMap → Prop) (mu : FMap) (hf : Found u idu is ids ms q lp mu)
    (h : ∀ mu', Evolve paths mu mu' → W u idu is ids ms paths (k (.ok true)) Q mu') :
    W u idu is ids ms paths ((vExists lp).bindR k) Q mu := by
  obtain ⟨_, ⟨rfl, hc⟩ | ⟨j, i, id, m, e, hi, _, rfl, hfa, _, _⟩⟩ := hf
  · refine W_vExists_u _ _ _ _ _ (fun mu1 h1 => ?_)
    rw [h1.contains_req hp hq hc]
    exact h mu1 h1
  · refine W_vExists_low j i m hi hfa.get _ _ _ _ _ (fun mu1 h1 => ?_)
    rw [hfa.has]
    exact h mu1 h1

include hp in
theorem W_vMetadata_found {β} {q : Str} {lp : VPath} (hq : Req paths q) (k : Res Meta → Prog β)
    (Q : Res β → FMap → Prop) (mu : FMap) (g : GI ms paths mu)
    (hf : Found u idu is ids ms q lp mu)
    (h : ∀ mu' (e : Entry), Evolve paths mu mu' → e.ftype = .dir →
      W u idu is ids ms paths (k (.ok e.meta)) Q mu') :
    W u idu is ids ms paths ((vMetadata lp).bindR k) Q mu := by
  obtain ⟨_, ⟨rfl, hc⟩ | ⟨j, i, id, m, e, hi, _, rfl, hfa, he, hd⟩⟩ := hf
  · refine W_vMetadata_u _ _ _ _ _ (fun mu1 h1 => ?_)
    obtain ⟨e1, he1⟩ := (FMap.contains_iff _ _).1 (h1.contains_req hp hq hc)
    rw [metadata_of_find he1]
    exact h mu1 e1 h1 ((g.evolve hp h1).dirs _ hq e1 he1)
  · refine W_vMetadata_low j i m hi hfa.get _ _ _ _ _ (fun mu1 h1 => ?_)
    rw [metadata_of_find he]
    exact h mu1 e h1 hd

include hp hl1 hl2 in
theorem sp_readPath (cs : List Str) (hne : cs ≠ []) (hcs : ∀ c ∈ cs, GoodComp c)
    (hq : Req paths (renderC cs)) (mu : FMap) (g : GI ms paths mu) :
    W u idu is ids ms paths (OConc.readPath (layersN (u :: is) (idu :: ids)) (renderC cs))
      (fun r mu' =>
        (∃ lp, r = .ok lp ∧ Found u idu is ids ms (renderC cs) lp mu') ∨
        (r = .err .fileNotFound none ∧ ¬ VisDir ms mu (renderC cs))) mu := by
  unfold OConc.readPath
  rw [if_neg (renderC_ne_nil hne), whiteoutPath_layersN cs hne hcs, ret_ok_bind]
  refine W_vExists_u _ _ _ _ _ (fun mu1 h1 => ?_)
  rw [lift_ok]
  by_cases hm : mu1.contains (marker (renderC cs)) = true
  · rw [if_pos hm]
    refine WP_done _ _ _ (fun mu2 _ => Or.inr ⟨rfl, ?_⟩)
    intro hv
    have := (hv.evolve hp hq h1).1
    rw [hm] at this; cases this
  · rw [if_neg hm]
    have hm1 : mu1.contains (marker (renderC cs)) = false := by simpa using hm
    have g1 := g.evolve hp h1
    refine W_bind hp _ _ _ _ _ (sp_firstExisting hp hl1 hl2 cs hne hcs hq mu1 g1) ?_
    rintro r mu2 h2 (⟨rfl, hc⟩ | ⟨rfl, hlow⟩)
    · rw [lift_ok]
      refine WP_done _ _ _ (fun mu3 h3 => Or.inl ⟨_, rfl, ?_⟩)
      exact ⟨(h2.trans hp h3).unmarked hp hq.head hm1, Or.inl ⟨rfl, h3.contains_req hp hq hc⟩⟩
    · rw [lift_ok]
      have hlow := hlow hm1
      cases hfp : firstPath (renderC cs) is ids ms with
      | some lp =>
        obtain ⟨j, i, id, m, hf, hi, hid, rfl⟩ := firstPath_some hfp
        obtain ⟨e, he⟩ := (FMap.contains_iff _ _).1 hf.has
        have hd : e.ftype = .dir := hlow e (by rw [firstN_of_firstAt hf, he])
        refine WP_done _ _ _ (fun mu3 h3 => Or.inl ⟨_, rfl, ?_⟩)
        exact ⟨(h2.trans hp h3).unmarked hp hq.head hm1, Or.inr ⟨j, i, id, m, e, hi, hid, rfl, hf, he, hd⟩⟩
      | none =>
        have hnone := firstPath_none hfp hl1 hl2
        show W u idu is ids ms paths (Prog.ret _ >>= _) _ _
        rw [writeLayer_layersN, join_leafRoot _ _ cs hne hcs, ret_ok_bind]
        refine W_vExists_u _ _ _ _ _ (fun mu3 h3 => ?_)
        rw [lift_ok]
        by_cases hc : mu3.contains (renderC cs) = true
        · simp only [hc, Bool.not_true, Bool.false_eq_true, ↓reduceIte]
          refine WP_done _ _ _ (fun mu4 h4 => Or.inl ⟨_, rfl, ?_⟩)
          exact ⟨((h2.trans hp h3).trans hp h4).unmarked hp hq.head hm1,
            Or.inl ⟨rfl, h4.contains_req hp hq hc⟩⟩
        · have hc' : mu3.contains (renderC cs) = false := by simpa using hc
          simp only [hc', Bool.not_false, ↓reduceIte]
          refine WP_done _ _ _ (fun mu4 _ => Or.inr ⟨rfl, ?_⟩)
          intro hv
          obtain ⟨_, e, he, _⟩ := hv.evolve hp hq ((h1.trans hp h2).trans hp h3)
          have h0 : mu3.find? (renderC cs) = none := find?_none_of_contains hc'
          simp only [firstN, h0, Option.none_or] at he
          rw [(firstN_none_iff ms _).2 hnone] at he
          cases he

include hp hl1 hl2 in
theorem sp_oexists (cs : List Str) (hne : cs ≠ []) (hcs : ∀ c ∈ cs, GoodComp c)
    (hq : Req paths (renderC cs)) (mu : FMap) (g : GI ms paths mu) :
    W u idu is ids ms paths (OConc.oexists (layersN (u :: is) (idu :: ids)) (renderC cs))
      (fun r mu' => ∃ b, r = .ok b ∧ (b = true → VisDir ms mu' (renderC cs)) ∧
        (VisDir ms mu (renderC cs) → b = true)) mu := by
  unfold OConc.oexists
  rw [whiteoutPath_layersN cs hne hcs, ret_ok_bind]
  refine W_vExists_u _ _ _ _ _ (fun mu1 h1 => ?_)
  rw [lift_ok]
  by_cases hm : mu1.contains (marker (renderC cs)) = true
  · rw [if_pos hm]
    refine WP_done _ _ _ (fun mu2 _ => ⟨false, rfl, by simp, ?_⟩)
    intro hv
    have := (hv.evolve hp hq h1).1
    rw [hm] at this; cases this
  · rw [if_neg hm]
    have g1 := g.evolve hp h1
    refine W_bindR hp _ _ _ _ _ (sp_readPath hp hl1 hl2 cs hne hcs hq mu1 g1) ?_
    rintro r mu2 h2 (⟨lp, rfl, hf⟩ | ⟨rfl, hnv⟩)
    · have g2 := g1.evolve hp h2
      show W u idu is ids ms paths ((vExists lp).bindR Prog.done) _ _
      refine W_vExists_found hp hq _ _ mu2 hf (fun mu3 h3 => WP_done _ _ _ (fun mu4 h4 => ?_))
      exact ⟨true, rfl, fun _ => ((hf.evolve hp hq h3).evolve hp hq h4).visDir hq
        ((g2.evolve hp h3).evolve hp h4), fun _ => rfl⟩
    · refine WP_done _ _ _ (fun mu3 _ => ⟨false, rfl, by simp, ?_⟩)
      intro hv
      exact absurd (hv.evolve hp hq h1) hnv

theorem sp_oexists_root (mu : FMap) (g : GI ms paths mu) (hp : PathsOK paths) :
    W u idu is ids ms paths (OConc.oexists (layersN (u :: is) (idu :: ids)) [])
      (fun r _ => r = .ok true) mu := by
  unfold OConc.oexists
  rw [whiteoutPath_root _ rfl, writeLayer_layersN, ret_ok_bind]
  refine W_vExists_u _ _ _ _ _ (fun mu1 h1 => ?_)
  rw [lift_ok, (g.evolve hp h1).noRootMark]
  simp only [Bool.false_eq_true, ↓reduceIte]
  show W u idu is ids ms paths ((vExists _).bindR Prog.done) _ _
  rw [writeLayer_layersN]
  refine W_vExists_u _ _ _ _ _ (fun mu2 h2 => ?_)
  obtain ⟨e, he, _⟩ := ((g.evolve hp h1).evolve hp h2).root
  rw [contains_of_find he]
  exact WP_done _ _ _ (fun _ _ => rfl)

theorem sp_vIsDir_u (id : Nat) (p : Str) (hk : NotMk paths p) (mu : FMap) (hd : IsDirU mu p) :
    W u idu is ids ms paths (vIsDir { fs := leafFS u, fsId := id, path := p })
      (fun r _ => r = .ok true) mu := by
  unfold vIsDir
  refine W_vExists_u _ _ _ _ _ (fun mu1 h1 => ?_)
  obtain ⟨e1, he1, _⟩ := hd.evolve hk h1
  rw [lift_ok, contains_of_find he1]
  simp only [Bool.not_true, Bool.false_eq_true, ↓reduceIte]
  refine W_vMetadata_u _ _ _ _ _ (fun mu2 h2 => ?_)
  obtain ⟨e2, he2, hd2⟩ := (hd.evolve hk h1).evolve hk h2
  rw [metadata_of_find he2, lift_ok]
  refine WP_done _ _ _ (fun _ _ => ?_)
  simp [Entry.meta, hd2]

include hp in
theorem sp_vIsDir_found {q : Str} {lp : VPath} (hq : Req paths q) (mu : FMap) (g : GI ms paths mu)
    (hf : Found u idu is ids ms q lp mu) :
    W u idu is ids ms paths (vIsDir lp) (fun r _ => r = .ok true) mu := by
  unfold vIsDir
  refine W_vExists_found hp hq _ _ mu hf (fun mu1 h1 => ?_)
  rw [lift_ok]
  simp only [Bool.not_true, Bool.false_eq_true, ↓reduceIte]
  refine W_vMetadata_found hp hq _ _ mu1 (g.evolve hp h1) (hf.evolve hp hq h1)
    (fun mu2 e _ hd => ?_)
  rw [lift_ok]
  exact WP_done _ _ _ (fun _ _ => by simp [Entry.meta, hd])

include hp in
theorem sp_mkdirs (ds : List Str) (hds : ∀ c ∈ ds, GoodComp c)
    (hreq : ∀ k ∈ chain [] ds, Req paths k) (mu : FMap) (g : GI ms paths mu) :
    W u idu is ids ms paths (vCreateDirAll { fs := leafFS u, fsId := idu, path := renderC ds })
      (fun r mu' => r = .ok () ∧ IsDirU mu' (renderC ds)) mu := by
  have hreq' : ∀ k, 1 ≤ k → k ≤ ds.length → Req paths (renderC (ds.take k)) :=
    fun k h1 h2 => hreq _ ((mem_chain [] ds _).2 ⟨k, h1, h2, rfl⟩)
  have hnm : ∀ k, k ≤ ds.length → NotMk paths (renderC (ds.take k)) := by
    intro k hk
    by_cases h0 : k = 0
    · subst h0; exact NotMk.root
    · exact NotMk.req hp (hreq' k (by omega) hk)
  refine WP_mono _ _ _ _ (fun r mu' h => ⟨h.1, by simpa using h.2 ds.length (Nat.le_refl _)⟩)
    (WP_cdaWith_prefixes eR (eT hp) _ ds (GI ms paths) (fun k m => IsDirU m (renderC (ds.take k)))
      (fun _ _ h g => g.evolve hp h) (fun k _ _ hk h d => d.evolve (hnm k hk) h) ?_
      (good_noSlash hds) mu g (by simpa using g.root))
  rintro k hlt m gm dm
  have hq : Req paths (renderC (ds.take k ++ [ds[k]])) := by
    rw [← take_succ_snoc ds k hlt]; exact hreq' (k + 1) (by omega) (by omega)
  refine WP_createDir_u _ _ _ _ (fun mu1 h1 => ?_)
  obtain ⟨hres, hnow⟩ := createDir_spec mu1 (renderC (ds.take k ++ [ds[k]]))
    (slash_mem_renderC (List.append_ne_nil_of_right_ne_nil _ (List.cons_ne_nil _ _)))
    (by rw [parent_snoc _ _ (fun c hc => hds c (List.mem_of_mem_take hc))
          (hds _ (List.getElem_mem hlt))]
        exact (dm k (Nat.le_refl _)).evolve (hnm k (by omega)) h1)
    ((gm.evolve hp h1).dirs _ hq)
  refine ⟨evolve_createDir mu1 hq, WP_done _ _ _ (fun mu2 h2 => ⟨hres.imp_right fun h => ⟨_, h⟩, ?_⟩)⟩
  rw [take_succ_snoc ds k hlt]
  exact hnow.evolve (NotMk.req hp hq) h2

def ParentOK (ms : List FMap) (paths : List (List Str)) (ds : List Str) (mu : FMap) : Prop :=
  ds = [] ∨ (Req paths (renderC ds) ∧ VisDir ms mu (renderC ds))

include hp hl1 hl2 in
theorem sp_ensureHasParent (ds : List Str) (n : Str) (hds : ∀ c ∈ ds, GoodComp c) (hn : GoodComp n)
    (hreq : ∀ k ∈ chain [] ds, Req paths k) (mu : FMap) (g : GI ms paths mu)
    (hpar : ParentOK ms paths ds mu) :
    W u idu is ids ms paths (OConc.ensureHasParent (layersN (u :: is) (idu :: ids)) (renderC (ds ++ [n])))
      (fun r mu' => r = .ok () ∧ IsDirU mu' (renderC ds)) mu := by
  unfold OConc.ensureHasParent
  rw [if_pos (slash_mem_renderC (by simp)), parent_snoc ds n hds hn]
  rcases hpar with rfl | ⟨hq, hv⟩
  · simp only [renderC_nil]
    refine W_bind hp _ _ _ _ _ (sp_oexists_root mu g hp) ?_
    rintro r mu1 h1 rfl
    rw [lift_ok]
    simp only [↓reduceIte]
    have g1 := g.evolve hp h1
    have hrp : OConc.readPath (layersN (u :: is) (idu :: ids)) [] = pure (writeLayer (layersN (u :: is) (idu :: ids))) := by
      unfold OConc.readPath; rfl
    rw [hrp, pure_bind', writeLayer_layersN]
    refine W_bind hp _ _ _ _ _ (sp_vIsDir_u _ _ NotMk.root mu1 g1.root) ?_
    rintro r mu2 h2 rfl
    rw [lift_ok]
    simp only [↓reduceIte]
    have g2 := g1.evolve hp h2
    rw [writePath_nil, writeLayer_layersN, ret_ok_bind]
    exact sp_mkdirs hp [] (by simp) (by simp [chain]) mu2 g2
  · have hne : ds ≠ [] := by
      intro h0; subst h0
      have := hq.head; simp at this
    refine W_bind hp _ _ _ _ _ (sp_oexists hp hl1 hl2 ds hne hds hq mu g) ?_
    rintro r mu1 h1 ⟨b, rfl, _, hb⟩
    have hb := hb hv
    subst hb
    rw [lift_ok]
    simp only [↓reduceIte]
    have g1 := g.evolve hp h1
    have hv1 := hv.evolve hp hq h1
    refine W_bind hp _ _ _ _ _ (sp_readPath hp hl1 hl2 ds hne hds hq mu1 g1) ?_
    rintro r mu2 h2 (⟨lp, rfl, hf⟩ | ⟨_, hnv⟩)
    · rw [lift_ok]
      have g2 := g1.evolve hp h2
      refine W_bind hp _ _ _ _ _ (sp_vIsDir_found hp hq mu2 g2 hf) ?_
      rintro r mu3 h3 rfl
      rw [lift_ok]
      simp only [↓reduceIte]
      have g3 := g2.evolve hp h3
      rw [writePath_layersN_any ds hds, ret_ok_bind]
      exact sp_mkdirs hp ds hds hreq mu3 g3
    · exact absurd hv1 hnv

include hp in
theorem sp_vCreateDir (ds : List Str) (n : Str) (hds : ∀ c ∈ ds, GoodComp c) (hn : GoodComp n)
    (hq : Req paths (renderC (ds ++ [n]))) (hk : NotMk paths (renderC ds)) (mu : FMap)
    (g : GI ms paths mu) (hd : IsDirU mu (renderC ds)) :
    W u idu is ids ms paths (vCreateDir { fs := leafFS u, fsId := idu, path := renderC (ds ++ [n]) })
      (fun r mu' => (r = .ok () ∨ ∃ pth, r = .err .dirExists pth) ∧
        IsDirU mu' (renderC (ds ++ [n]))) mu :=
  WP_vCreateDir eR (eT hp) idu ds n hds hn (fun _ _ h d => d.evolve hk h)
    (fun _ _ h d => d.evolve (NotMk.req hp hq) h) (fun m => evolve_createDir m hq) mu
    (fun _ h => (g.evolve hp h).dirs _ hq) hd

include hp in
theorem sp_clearT (cs : List Str) (hne : cs ≠ []) (hcs : ∀ c ∈ cs, GoodComp c)
    (hq : Req paths (renderC cs)) (mu : FMap) (g : GI ms paths mu) (hd : IsDirU mu (renderC cs)) :
    W u idu is ids ms paths (OConc.clearWhiteoutT (layersN (u :: is) (idu :: ids)) (renderC cs))
      (fun r mu' => r = .ok () ∧ mu'.contains (marker (renderC cs)) = false ∧
        IsDirU mu' (renderC cs)) mu := by
  have hk := NotMk.req hp hq
  unfold OConc.clearWhiteoutT
  rw [whiteoutPath_layersN cs hne hcs, ret_ok_bind]
  refine W_vExists_u _ _ _ _ _ (fun mu1 h1 => ?_)
  rw [lift_ok]
  by_cases hm : mu1.contains (marker (renderC cs)) = true
  · rw [if_pos hm]
    show W u idu is ids ms paths (Prog.removeFile _ _ _) _ _
    refine WP_removeFile_u _ _ _ _ (fun mu2 h2 => ?_)
    have g2 := (g.evolve hp h1).evolve hp h2
    have hd2 := (hd.evolve (NotMk.req hp hq) h1).evolve (NotMk.req hp hq) h2
    refine ⟨evolve_removeMarker hp mu2 hq hd2, ?_⟩
    rcases Option.eq_none_or_eq_some (mu2.find? (marker (renderC cs))) with hf | ⟨e, hf⟩
    · rw [Mem.removeFile_absent _ _ hf]
      simp only [fail, Prog.bindR, Res.withPath]
      exact WP_done _ _ _ (fun mu3 h3 => ⟨rfl, h3.unmarked hp hq.head (contains_of_none hf),
        hd2.evolve hk h3⟩)
    · have hfile := g2.markFile _ hq e hf
      rw [Mem.removeFile_file _ _ e hf hfile]
      simp only [Prog.bindR, Res.withPath]
      have hd2' : IsDirU (mu2.erase (marker (renderC cs))) (renderC cs) := by
        obtain ⟨e', he', hd'⟩ := hd2
        exact ⟨e', by rw [FMap.find?_erase_ne _ _ _ (hk _ hq)]; exact he', hd'⟩
      refine WP_done _ _ _ (fun mu3 h3 => ⟨rfl, h3.unmarked hp hq.head ?_, hd2'.evolve hk h3⟩)
      exact contains_of_none (FMap.find?_erase_self _ _)
  · rw [if_neg hm]
    have hm1 : mu1.contains (marker (renderC cs)) = false := by simpa using hm
    exact WP_done _ _ _ (fun mu2 h2 => ⟨rfl, h2.unmarked hp hq.head hm1,
      (hd.evolve hk h1).evolve hk h2⟩)

include hp hl1 hl2 in
theorem sp_createDir (ds : List Str) (n : Str) (hds : ∀ c ∈ ds, GoodComp c) (hn : GoodComp n)
    (hq : Req paths (renderC (ds ++ [n]))) (hreq : ∀ k ∈ chain [] ds, Req paths k) (mu : FMap)
    (g : GI ms paths mu) (hpar : ParentOK ms paths ds mu) :
    W u idu is ids ms paths (OConc.createDir (layersN (u :: is) (idu :: ids)) (renderC (ds ++ [n])))
      (fun r mu' => (r = .ok () ∨ ∃ pth, r = .err .dirExists pth) ∧
        VisDir ms mu' (renderC (ds ++ [n]))) mu := by
  have hcs := good_snoc hds hn
  have hne : ds ++ [n] ≠ [] := by simp
  have hkp : NotMk paths (renderC ds) := by
    rcases hpar with rfl | ⟨hqp, _⟩
    · exact NotMk.root
    · exact NotMk.req hp hqp
  unfold OConc.createDir OConc.createDirHead
  refine W_bind hp _ _ _ _ _ (sp_ensureHasParent hp hl1 hl2 ds n hds hn hreq mu g hpar) ?_
  rintro r mu1 h1 ⟨rfl, hd1⟩
  rw [lift_ok]
  have g1 := g.evolve hp h1
  refine W_bind hp _ _ _ _ _ (sp_oexists hp hl1 hl2 _ hne hcs hq mu1 g1) ?_
  rintro r mu2 h2 ⟨b, rfl, hb, _⟩
  rw [lift_ok]
  have g2 := g1.evolve hp h2
  cases b with
  | true =>
    simp only [↓reduceIte]
    have hv2 := hb rfl
    refine W_bind hp _ _ _ _ _ (sp_readPath hp hl1 hl2 _ hne hcs hq mu2 g2) ?_
    rintro r mu3 h3 (⟨lp, rfl, hf⟩ | ⟨_, hnv⟩)
    · rw [lift_ok]
      have g3 := g2.evolve hp h3
      rw [Prog.bind_def]
      refine W_vMetadata_found hp hq _ _ mu3 g3 hf (fun mu4 e h4 hd => ?_)
      rw [lift_ok]
      simp only [Entry.meta, hd, reduceCtorEq, ↓reduceIte, Prog.failK, fail]
      exact WP_done _ _ _ (fun mu5 h5 => ⟨Or.inr ⟨_, rfl⟩,
        ((hf.evolve hp hq h4).evolve hp hq h5).visDir hq ((g3.evolve hp h4).evolve hp h5)⟩)
    · exact absurd hv2 hnv
  | false =>
    simp only [Bool.false_eq_true, ↓reduceIte]
    rw [writePath_layersN _ hne hcs, ret_ok_bind]
    have hd2 := hd1.evolve hkp h2
    refine W_bindR hp _ _ _ _ _ (sp_vCreateDir hp ds n hds hn hq hkp mu2 g2 hd2) ?_
    rintro r mu3 h3 ⟨hr, hd3⟩
    have g3 := g2.evolve hp h3
    rcases hr with rfl | ⟨pth, rfl⟩
    · show W u idu is ids ms paths (OConc.clearWhiteoutT _ _) _ _
      refine WP_mono _ _ _ _ ?_ (sp_clearT hp _ hne hcs hq mu3 g3 hd3)
      rintro r mu4 ⟨hr, hm, hd4⟩
      exact ⟨Or.inl hr, VisDir.of_upper hm hd4⟩
    · show W u idu is ids ms paths ((OConc.clearWhiteoutT _ _).bindR _) _ _
      refine W_bindR hp _ _ _ _ _ (sp_clearT hp _ hne hcs hq mu3 g3 hd3) ?_
      rintro r mu4 _ ⟨rfl, hm, hd4⟩
      exact WP_done _ _ _ (fun mu5 h5 => ⟨Or.inr ⟨_, rfl⟩,
        (VisDir.of_upper hm hd4).evolve hp hq h5⟩)

def VisUpTo (ms : List FMap) (cs : List Str) (k : Nat) (mu : FMap) : Prop :=
  ∀ j, 1 ≤ j → j ≤ k → VisDir ms mu (renderC (cs.take j))

include hp hl1 hl2 in
/-- one thread: `create_dir_all(p)` on the overlay, `p` a requested path, started under the global
invariant, with all threads (itself included) changing the write layer only by `Evolve` -/
theorem sp_createDirAll (cs : List Str) (hcs : cs ∈ paths) (mu : FMap) (g : GI ms paths mu) :
    W u idu is ids ms paths (OConc.createDirAll (layersN (u :: is) (idu :: ids)) (renderC cs))
      (fun r mu' => r = .ok () ∧ VisUpTo ms cs cs.length mu') mu := by
  have hgood := (hp cs hcs).1
  unfold OConc.createDirAll
  refine WP_mono _ _ _ _ (fun r mu' h => ⟨h.1, fun j h1 h2 => h.2 j h2 h1⟩)
    (WP_cdaWith_prefixes eR (eT hp) _ cs (GI ms paths)
      (fun j m => 1 ≤ j → VisDir ms m (renderC (cs.take j)))
      (fun _ _ h g => g.evolve hp h) (fun j _ _ hj h d h1 => (d h1).evolve hp (Req.take hcs h1 hj) h)
      ?_ (good_noSlash hgood) mu g (fun h => by omega))
  rintro k hlt m gm vm
  have htk := take_succ_snoc cs k hlt
  have hq : Req paths (renderC (cs.take k ++ [cs[k]])) := by
    rw [← htk]; exact Req.take hcs (by omega) (by omega)
  have hpar : ParentOK ms paths (cs.take k) m := by
    by_cases h0 : k = 0
    · left; subst h0; rfl
    · right; exact ⟨Req.take hcs (by omega) (by omega), vm k (Nat.le_refl _) (by omega)⟩
  refine WP_mono _ _ _ _ (fun r m1 h => ⟨h.1, fun _ => by rw [htk]; exact h.2⟩)
    (sp_createDir hp hl1 hl2 (cs.take k) cs[k] (fun c hc => hgood c (List.mem_of_mem_take hc))
      (hgood _ (List.getElem_mem hlt)) hq (Req.chain hcs (by omega)) m gm hpar)

end thread
end Vfs.OConc
