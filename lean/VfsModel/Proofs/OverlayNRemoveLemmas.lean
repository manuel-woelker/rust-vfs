/-
  The removal side and `append_file` of the overlay over n leaf roots (setting
  `OWN w (u :: is) (idu :: ids) (mu :: ms)` of OverlayNLemmas.lean), as pure functions of the maps.

  * `pRemoveFileN`, `pRemoveDirN`; both end in the same tail `pRemoveTail` (take the path out of the
    upper map if it is there, then write the marker);
  * `run_addWhiteoutN`, `run_removeTailN`, `run_oremoveFileN`, `run_oremoveDirN` (+ `run_oreadDirN_world`,
    `run_oreadDirN_woFile`): `remove_file` / `remove_dir` of the overlay compute these functions; only
    the upper leaf changes;
  * `run_oopenFileN`: `open_file` through the overlay, as a case analysis on `read_path`;
  * `pAppendN`, `run_oappendFileN`: `append_file` of the overlay (copy-up included) computes
    `pAppendN`: the initial buffer of the handle, the new upper map, and the lower maps with the
    access stamp of the entry that was copied up. The copy itself is `run_copyFile_generic`.
  What these functions do to the upper map is in Proofs/OverlayEffect.lean.
-/
import VfsModel.Proofs.OverlayNLemmas
import VfsModel.Proofs.TransferLemmas
namespace Vfs
open Overlay

/-! ### the pure functions -/

/-- `remove_file` over n layers, as a function of the maps -/
def pRemoveFileN (mu : FMap) (ms : List FMap) (cs : List Str) : Res Unit × FMap :=
  match viewN (mu :: ms) (renderC cs) with
  | none => (.err .fileNotFound none, mu)
  | some _ =>
    andThen (if mu.contains (renderC cs) then Mem.pRemoveFile mu (renderC cs) else (.ok (), mu))
      fun _ m1 => pAddWhiteout m1 cs

/-- `remove_dir` over n layers, as a function of the maps -/
def pRemoveDirN (mu : FMap) (ms : List FMap) (cs : List Str) : Res Unit × FMap :=
  match viewN (mu :: ms) (renderC cs) with
  | none => (.err .fileNotFound none, mu)
  | some _ =>
    match pReadDirN (mu :: ms) (renderC cs) with
    | .ok l =>
      if l ≠ [] then (.err .other none, mu)
      else
        andThen (if mu.contains (renderC cs) then Mem.pRemoveDir mu (renderC cs) else (.ok (), mu))
          fun _ m1 => pAddWhiteout m1 cs
    | .err k pth => (.err k pth, mu)
    | .panic => (.panic, mu)

theorem pRemoveFileN_two (mu ml : FMap) (cs : List Str) :
    pRemoveFileN mu [ml] cs = pRemoveFile mu ml cs := by
  unfold pRemoveFileN pRemoveFile
  rw [viewN_two]
  cases view mu ml (renderC cs) <;> rfl

theorem pRemoveDirN_two (mu ml : FMap) (cs : List Str) :
    pRemoveDirN mu [ml] cs = pRemoveDir mu ml cs := by
  unfold pRemoveDirN pRemoveDir
  rw [viewN_two, pReadDirN_two]
  cases view mu ml (renderC cs) with
  | none => rfl
  | some e => cases pReadDir mu ml (renderC cs) <;> rfl

/-- the part `remove_file` and `remove_dir` share: take `p` out of the upper map if it is there
(`f` = the removal of the memory layer), then write the marker -/
def pRemoveTail (f : FMap → Str → Res Unit × FMap) (mu : FMap) (cs : List Str) : Res Unit × FMap :=
  andThen (if mu.contains (renderC cs) then f mu (renderC cs) else (.ok (), mu))
    fun _ m1 => pAddWhiteout m1 cs

theorem pRemoveFileN_eq (mu : FMap) (ms : List FMap) (cs : List Str) :
    pRemoveFileN mu ms cs = match viewN (mu :: ms) (renderC cs) with
      | none => (.err .fileNotFound none, mu)
      | some _ => pRemoveTail Mem.pRemoveFile mu cs := rfl

theorem pRemoveDirN_eq (mu : FMap) (ms : List FMap) (cs : List Str) :
    pRemoveDirN mu ms cs = match viewN (mu :: ms) (renderC cs) with
      | none => (.err .fileNotFound none, mu)
      | some _ =>
        match pReadDirN (mu :: ms) (renderC cs) with
        | .ok l => if l ≠ [] then (.err .other none, mu) else pRemoveTail Mem.pRemoveDir mu cs
        | .err k pth => (.err k pth, mu)
        | .panic => (.panic, mu) := rfl

/-! ### the run lemmas -/

section runN3
variable {w : World} {u idu : Nat} {mu : FMap} {is ids : List Nat} {ms : List FMap}
  (h : OWN w (u :: is) (idu :: ids) (mu :: ms))
include h

theorem run_addWhiteoutN (cs : List Str) (hne : cs ≠ []) (hcs : ∀ c ∈ cs, GoodComp c) :
    addWhiteout (layersN (u :: is) (idu :: ids)) (renderC cs) w =
      ((pAddWhiteout mu cs).1, w.setLeafFiles u (pAddWhiteout mu cs).2) := by
  have hds : ∀ c ∈ woDir :: cs.dropLast, GoodComp c := by
    intro c hc
    rcases List.mem_cons.1 hc with rfl | hc
    · exact goodComp_woDir
    · exact hcs c (List.dropLast_subset _ hc)
  have hpar : parentInternal (marker (renderC cs)) = renderC (woDir :: cs.dropLast) := by
    rcases List.eq_nil_or_concat cs with rfl | ⟨ds, n, rfl⟩
    · exact absurd rfl hne
    · rw [List.concat_eq_append] at hcs ⊢
      obtain ⟨hd, hn⟩ := good_of_snoc hcs
      rw [marker_parent ds n hd hn, woDirOf_renderC, List.dropLast_concat]
  unfold addWhiteout pAddWhiteout
  rw [whiteoutPath_layersN cs hne hcs]
  simp only [bind, M.bind, M.ret, VPath.parent, VPath.withStr, hpar,
    run_createDirAll h.hu idu _ hds]
  cases hmk : Mem.mkdirs mu (chain [] (woDir :: cs.dropLast)) with
  | mk r m1 =>
    cases r with
    | ok a =>
      have := run_pTouch (h.hu.set m1) idu (marker (renderC cs))
      simp only [bind, M.bind] at this
      simp only [andThen, this, World.setLeafFiles_twice]
    | err k pth => simp [andThen]
    | panic => simp [andThen]

/-- the common tail of `remove_file` and `remove_dir`: the entry goes from the upper leaf if it is
there (`g`, which computes `f` on the leaf's map), then the marker is added -/
theorem run_removeTailN (cs : List Str) (hne : cs ≠ []) (hcs : ∀ c ∈ cs, GoodComp c)
    {g : VPath → M Unit} {f : FMap → Str → Res Unit × FMap}
    (hg : ∀ {w' : World} {m : FMap}, MemLeafAt w' u m →
      g { fs := leafFS u, fsId := idu, path := renderC cs } w'
        = ((f m (renderC cs)).1, w'.setLeafFiles u (f m (renderC cs)).2)) :
    (do let wp ← M.ret (writePath (layersN (u :: is) (idu :: ids)) (renderC cs))
        let ex ← wp.exists_
        (if ex then g wp else pure ())
        addWhiteout (layersN (u :: is) (idu :: ids)) (renderC cs) : M Unit) w =
      ((pRemoveTail f mu cs).1, w.setLeafFiles u (pRemoveTail f mu cs).2) := by
  unfold pRemoveTail
  simp only [bind, M.bind, M.ret, writePath_layersN cs hne hcs, run_vexists h.hu]
  by_cases hc : mu.contains (renderC cs) = true
  · simp only [hc, if_true, hg h.hu]
    cases hR : f mu (renderC cs) with
    | mk r m1 =>
      cases r with
      | err k pth => rfl
      | panic => rfl
      | ok a =>
        simp only [andThen, World.setLeafFiles_twice, run_addWhiteoutN (h.setHead m1) cs hne hcs]
  · simp only [hc, Bool.false_eq_true, if_false, Pure.pure, M.pure, andThen,
      run_addWhiteoutN h cs hne hcs]

/-- `remove_file` over n leaf roots -/
theorem run_oremoveFileN (cs : List Str) (hne : cs ≠ []) (hcs : ∀ c ∈ cs, GoodComp c) :
    Overlay.removeFile (layersN (u :: is) (idu :: ids)) (renderC cs) w =
      ((pRemoveFileN mu ms cs).1, w.setLeafFiles u (pRemoveFileN mu ms cs).2) := by
  unfold Overlay.removeFile
  rw [run_readPath_thenN h cs hne hcs, pRemoveFileN_eq]
  rcases Option.eq_none_or_eq_some (viewN (mu :: ms) (renderC cs)) with hv | ⟨e, hv⟩
  · simp only [hv, h.hu.same]
  · simp only [hv]
    exact run_removeTailN h cs hne hcs (fun hl => run_pRemoveFile hl idu _)

/-- `remove_dir` over n leaf roots, provided "/.whiteout" ++ p is not a file of the upper layer -/
theorem run_oremoveDirN (cs : List Str) (hne : cs ≠ []) (hcs : ∀ c ∈ cs, GoodComp c)
    (hwo : ∀ e, mu.find? (woDirOf (renderC cs)) = some e → e.ftype = .dir) :
    Overlay.removeDir (layersN (u :: is) (idu :: ids)) (renderC cs) w =
      ((pRemoveDirN mu ms cs).1, w.setLeafFiles u (pRemoveDirN mu ms cs).2) := by
  unfold Overlay.removeDir
  rw [run_readPath_thenN h cs hne hcs, pRemoveDirN_eq]
  rcases Option.eq_none_or_eq_some (viewN (mu :: ms) (renderC cs)) with hv | ⟨e, hv⟩
  · simp only [hv, h.hu.same]
  · simp only [hv, bind, M.bind, run_oreadDirN h cs hcs hwo]
    cases hL : pReadDirN (mu :: ms) (renderC cs) with
    | err k pth => simp only [h.hu.same]
    | panic => simp only [h.hu.same]
    | ok lst =>
      by_cases hl : lst ≠ []
      · simp only [hl, ne_eq, not_false_eq_true, if_true, M.failK, fail, h.hu.same]
      · simp only [hl, if_false]
        exact run_removeTailN h cs hne hcs (fun hl => run_pRemoveDir hl idu _)

/-- when "/.whiteout" ++ p is a FILE of the upper layer, the listing step of `read_dir` fails -/
theorem run_readDirTailN_file (cs : List Str) (hcs : ∀ c ∈ cs, GoodComp c) (e : Entry)
    (hf : mu.find? (woDirOf (renderC cs)) = some e) (hd : e.ftype = .file) :
    readDirTail (layersN (u :: is) (idu :: ids)) (renderC cs) w
      = (.err .other (some (woDirOf (renderC cs))), w) := by
  unfold readDirTail
  simp only [bind, M.bind, run_mergeListingsN h cs hcs, M.ret, writeLayer_layersN,
    woDir_join_layers2 cs hcs, run_vexists h.hu, contains_of_find hf, if_true,
    run_vreadDir_file h.hu idu _ e hf hd]

omit h in
/-- where "/.whiteout" ++ p need not be a directory of the upper map, it is a file there -/
theorem woDir_file_of_not (p : Str)
    (hwo : ¬ ∀ e, mu.find? (woDirOf p) = some e → e.ftype = .dir) :
    ∃ e, mu.find? (woDirOf p) = some e ∧ e.ftype = .file := by
  apply Classical.byContradiction
  intro hno
  apply hwo
  intro e he
  cases hft : e.ftype with
  | dir => rfl
  | file => exact absurd ⟨e, he, hft⟩ hno

/-- when "/.whiteout" ++ p is a FILE of the upper layer, `read_dir(p)` fails and changes nothing -/
theorem run_oreadDirN_woFile (cs : List Str) (hcs : ∀ c ∈ cs, GoodComp c) (e : Entry)
    (he : mu.find? (woDirOf (renderC cs)) = some e) (hfile : e.ftype = .file) :
    (Overlay.readDir (layersN (u :: is) (idu :: ids)) (renderC cs) w).2 = w ∧
    (Overlay.readDir (layersN (u :: is) (idu :: ids)) (renderC cs) w).1.isOk = false := by
  rw [run_oreadDirN_of_tail h cs hcs (run_readDirTailN_file h cs hcs e he hfile)]
  refine ⟨rfl, ?_⟩
  cases dirEntryN (mu :: ms) (renderC cs) with
  | none => rfl
  | some e1 =>
    show (if e1.ftype = .dir then _ else _ : Res (List Str)).isOk = false
    split <;> rfl

/-- `read_dir` never changes the world, whatever it answers (no hypothesis on "/.whiteout") -/
theorem run_oreadDirN_world (cs : List Str) (hcs : ∀ c ∈ cs, GoodComp c) :
    ∃ r, Overlay.readDir (layersN (u :: is) (idu :: ids)) (renderC cs) w = (r, w) := by
  by_cases hwo : ∀ e, mu.find? (woDirOf (renderC cs)) = some e → e.ftype = .dir
  · exact ⟨_, run_oreadDirN h cs hcs hwo⟩
  · obtain ⟨e, he, hfile⟩ := woDir_file_of_not _ hwo
    exact ⟨_, Prod.ext rfl (run_oreadDirN_woFile h cs hcs e he hfile).1⟩

/-- `open_file` through the overlay: either the view has nothing at the path (not-found, world
unchanged), or the first layer `k` that has the path serves it — the only change of the world is
what `open_file` of the memory backend does to the map of that layer -/
theorem run_oopenFileN (cs : List Str) (hne : cs ≠ []) (hcs : ∀ c ∈ cs, GoodComp c) :
    (viewN (mu :: ms) (renderC cs) = none ∧
      (Overlay.fs (layersN (u :: is) (idu :: ids))).openFile (renderC cs) w
        = (.err .fileNotFound none, w)) ∨
    (∃ k i m, FirstAt (mu :: ms) (renderC cs) k m ∧ (u :: is)[k]? = some i ∧
      (Overlay.fs (layersN (u :: is) (idu :: ids))).openFile (renderC cs) w
        = ((Mem.openFile m (renderC cs)).1.withPath (renderC cs),
            w.setLeafFiles i (Mem.openFile m (renderC cs)).2) ∧
      OWN (w.setLeafFiles i (Mem.openFile m (renderC cs)).2) (u :: is) (idu :: ids)
        ((mu :: ms).set k (Mem.openFile m (renderC cs)).2)) := by
  rcases readPath_casesN h cs hne hcs with ⟨hv, hr⟩ | ⟨k, i, id, m, e, hf, hi, _, hl, _, _, _, hr⟩
  · left
    refine ⟨hv, ?_⟩
    show (do let q ← readPath (layersN (u :: is) (idu :: ids)) (renderC cs); q.openFile : M RHandle) w = _
    simp [bind, M.bind, hr]
  · right
    refine ⟨k, i, m, hf, hi, ?_, h.setAt k i hi _⟩
    show (do let q ← readPath (layersN (u :: is) (idu :: ids)) (renderC cs); q.openFile : M RHandle) w = _
    simp only [bind, M.bind, hr, run_vopenFile hl]

end runN3

/-! ### `append_file` -/

/-- the access stamp `open_file` leaves in the first map that has `p` -/
def stampFirst : List FMap → Str → List FMap
  | [], _ => []
  | m :: rest, p =>
    match m.find? p with
    | some e => m.insert p (touched e) :: rest
    | none => m :: stampFirst rest p

theorem stampFirst_of_firstAt {all : List FMap} {p : Str} {k : Nat} {m : FMap} {e : Entry}
    (h : FirstAt all p k m) (he : m.find? p = some e) :
    all.set k (m.insert p (touched e)) = stampFirst all p := by
  induction all generalizing k with
  | nil => have := h.get; simp at this
  | cons m0 rest ih =>
    cases k with
    | zero =>
      have hg := h.get; simp at hg; subst hg
      simp [stampFirst, he]
    | succ k =>
      have h0 : m0.find? p = none := h.before 0 m0 (by omega) rfl
      have h' : FirstAt rest p k m :=
        ⟨by simpa using h.get, h.has,
          fun j mj hj hmj => h.before (j + 1) mj (by omega) (by simpa using hmj)⟩
      simp [stampFirst, h0, ih h']

/-- sequencing of two outcomes alone. `pAppendN` gives its three components (outcome, upper map,
lower maps) side by side, so its outcome is put together from the outcomes of the write session
of the copy-up and of `append_file` without their maps; `andThen` sequences outcome and map
together. Its only rule is its definition (three cases). -/
def thenR {α β} : Res α → Res β → Res β
  | .ok _, r => r
  | .err k q, _ => .err k q
  | .panic, _ => .panic

/-- `append_file(p)` through the overlay as a function of the maps: the initial buffer of the
handle (or the error), the new upper map, the new lower maps. When the upper map lacks `p`:
`ensure_has_parent`, then the copy-up from the first lower layer that has `p` (its entry gets an
access stamp, the upper map one write session with its bytes), then `append_file` of the upper layer -/
def pAppendN (mu : FMap) (ms : List FMap) (cs : List Str) : Res Bytes × FMap × List FMap :=
  if mu.contains (renderC cs) then ((Mem.appendFile mu (renderC cs)).withPath (renderC cs), mu, ms)
  else
    match pEnsureN (mu :: ms) cs.dropLast with
    | (.ok _, mu1) =>
      match viewN (mu1 :: ms) (renderC cs) with
      | none => (.err .fileNotFound none, mu1, ms)
      | some e =>
        if e.ftype = .file then
          (thenR ((Mem.pWrite mu1 (renderC cs) e.content).1.withPath (renderC cs))
              ((Mem.appendFile (Mem.pWrite mu1 (renderC cs) e.content).2 (renderC cs)).withPath (renderC cs)),
            (Mem.pWrite mu1 (renderC cs) e.content).2, stampFirst ms (renderC cs))
        else (.err .other none, mu1, ms)
    | (.err k q, mu1) => (.err k q, mu1, ms)
    | (.panic, mu1) => (.panic, mu1, ms)

/-- `ensure_has_parent` does not touch the path itself -/
theorem pEnsureN_find_self {mu : FMap} {ms : List FMap} {cs : List Str} (hne : cs ≠ [])
    (hcs : ∀ c ∈ cs, GoodComp c) :
    (pEnsureN (mu :: ms) cs.dropLast).2.find? (renderC cs) = mu.find? (renderC cs) := by
  rcases List.eq_nil_or_concat cs with rfl | ⟨ds, n, rfl⟩
  · exact absurd rfl hne
  · rw [List.concat_eq_append] at hcs ⊢
    obtain ⟨hds, hn⟩ := good_of_snoc hcs
    rw [List.dropLast_concat]
    rcases pEnsureN_cases (mu :: ms) ds with he | he <;> rw [he]
    · have hnot := snoc_not_in_chain hds hn [] (Or.inl rfl)
      rw [List.append_nil] at hnot
      obtain ⟨j, _, hj, _⟩ := mkdirs_fill ((mu :: ms).headD []) (chain [] ds)
      rw [hj]
      exact find?_fillDirs_not_mem _ _ _ (fun hk => hnot (List.mem_of_mem_take hk))
    · rfl

section runN
variable {w : World} {u idu : Nat} {mu : FMap} {is ids : List Nat} {ms : List FMap}
  (h : OWN w (u :: is) (idu :: ids) (mu :: ms))
include h

/-- `append_file` through the overlay on a path the upper map holds: the upper leaf's `append_file` -/
theorem oappendFileN_upper (cs : List Str) (hne : cs ≠ []) (hcs : ∀ c ∈ cs, GoodComp c)
    (hq : mu.contains (renderC cs) = true) :
    Overlay.appendFile (layersN (u :: is) (idu :: ids)) (renderC cs) w =
      VPath.appendFile { fs := leafFS u, fsId := idu, path := renderC cs } w := by
  unfold Overlay.appendFile copyUp
  simp [bind, M.bind, M.ret, writePath_layersN cs hne hcs, run_vexists h.hu, hq, Pure.pure, M.pure]

/-- `append_file` through the overlay on a path the upper map lacks: `ensure_has_parent` (it
computes `pEnsureN`) and, when it passes, in the world with the filled upper map the copy-up from
the layer that `read_path` finds, then the upper leaf's `append_file` -/
theorem oappendFileN_lower (cs : List Str) (hne : cs ≠ []) (hcs : ∀ c ∈ cs, GoodComp c)
    (hq : mu.contains (renderC cs) = false) :
    Overlay.appendFile (layersN (u :: is) (idu :: ids)) (renderC cs) w =
      match pEnsureN (mu :: ms) cs.dropLast with
      | (.ok _, mu1) =>
        (do (do let rp ← readPath (layersN (u :: is) (idu :: ids)) (renderC cs)
                let isf ← rp.isFile
                if !isf then M.failK .other
                else rp.copyFile { fs := leafFS u, fsId := idu, path := renderC cs })
            VPath.appendFile { fs := leafFS u, fsId := idu, path := renderC cs } : M WHandle)
          (w.setLeafFiles u mu1)
      | (.err k q, mu1) => (.err k q, w.setLeafFiles u mu1)
      | (.panic, mu1) => (.panic, w.setLeafFiles u mu1) := by
  have hEr := run_ensureHasParentN h cs hne hcs
  unfold Overlay.appendFile copyUp
  rcases hE : pEnsureN (mu :: ms) cs.dropLast with ⟨r, mu1⟩
  rw [hE] at hEr
  cases r <;>
    simp [bind, M.bind, M.ret, writePath_layersN cs hne hcs, run_vexists h.hu, hq, hEr]

/-- **`append_file` over n leaf roots** -/
theorem run_oappendFileN (cs : List Str) (hne : cs ≠ []) (hcs : ∀ c ∈ cs, GoodComp c) :
    ∃ w', Overlay.appendFile (layersN (u :: is) (idu :: ids)) (renderC cs) w =
        ((pAppendN mu ms cs).1.map (fun b =>
          ({ leaf := u, key := renderC cs, kind := .memFile, buf := b, pos := b.length } : WHandle)),
          w') ∧
      OWN w' (u :: is) (idu :: ids) ((pAppendN mu ms cs).2.1 :: (pAppendN mu ms cs).2.2) := by
  unfold pAppendN
  by_cases hq : mu.contains (renderC cs) = true
  · refine ⟨w, ?_, by simpa [hq] using h⟩
    rw [oappendFileN_upper h cs hne hcs hq, run_vappendFile h.hu, if_pos hq]
    cases Mem.appendFile mu (renderC cs) <;> rfl
  · have hq' : mu.contains (renderC cs) = false := by simpa using hq
    have hself := pEnsureN_find_self (mu := mu) (ms := ms) hne hcs
    have h1 := h.setHead (pEnsureN (mu :: ms) cs.dropLast).2
    rw [if_neg hq]
    rcases hE : pEnsureN (mu :: ms) cs.dropLast with ⟨r, mu1⟩
    rw [hE] at hself h1
    simp only at hself h1
    have hf1 : mu1.find? (renderC cs) = none := by
      rw [hself]; exact find?_none_of_not_contains hq
    rw [oappendFileN_lower h cs hne hcs hq', hE]
    cases r with
    | err k q =>
      exact ⟨_, rfl, h1⟩
    | panic =>
      exact ⟨_, rfl, h1⟩
    | ok a =>
      rcases readPath_casesN h1 cs hne hcs with ⟨hv, hr⟩ | ⟨k, i, id, m, e, hf, hi, _, hl, he, _, hv, hr⟩
      · refine ⟨_, ?_, by simpa [hv] using h1⟩
        simp [bind, M.bind, hr, hv, Res.map]
      · by_cases hfile : e.ftype = .file
        · obtain ⟨j, rfl⟩ : ∃ j, k = j + 1 := by
            cases k with
            | zero => have hg := hf.get; simp at hg; subst hg; rw [hf1] at he; cases he
            | succ j => exact ⟨j, rfl⟩
          have h2 := h1.setAt (j + 1) i hi (m.insert (renderC cs) (touched e))
          have hst : (mu1 :: ms).set (j + 1) (m.insert (renderC cs) (touched e)) =
              mu1 :: stampFirst ms (renderC cs) := by
            rw [stampFirst_of_firstAt hf he]; simp [stampFirst, hf1]
          rw [hst] at h2
          have hcopy := run_copyFile_generic hl h1.hu id idu (renderC cs) (renderC cs) e he hfile hf1
            h2.hu
          have h3 := h2.setHead (Mem.pWrite mu1 (renderC cs) e.content).2
          refine ⟨_, ?_, by simpa [hv, hfile] using h3⟩
          simp only [bind, M.bind, hr, run_visFile hl, he, hfile, hv, hcopy, if_true, decide_true,
            Bool.not_true, Bool.false_eq_true, if_false]
          cases hW : (Mem.pWrite mu1 (renderC cs) e.content).1 with
          | ok a2 =>
            simp only [Res.withPath, thenR, run_vappendFile h3.hu]
            cases Mem.appendFile (Mem.pWrite mu1 (renderC cs) e.content).2 (renderC cs) <;> rfl
          | err k2 q2 => simp [Res.withPath, thenR, Res.map]
          | panic => simp [Res.withPath, thenR, Res.map]
        · refine ⟨_, ?_, by simpa [hv, hfile] using h1⟩
          simp [bind, M.bind, hr, run_visFile hl, he, hfile, hv, M.failK, fail, Res.map]

end runN

end Vfs
