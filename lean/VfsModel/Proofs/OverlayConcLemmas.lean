/-
  The small-step model VfsModel/OverlayConc.lean IS the modelled code: `Prog.run` is a monad
  morphism `Prog → M`, under which the `VfsPath` primitives and the overlay functions written in
  `Prog` are those of PathOps.lean / Adapters.lean, for ARBITRARY layers (`run_createDirAll`); and
  stepping a single thread `callsFrom` times computes `Prog.run` (`alone_run`).
  Nothing here is about memory layers; no hypothesis anywhere.
-/
import VfsModel.OverlayConc
namespace Vfs.OConc
open Vfs Vfs.Overlay Prog

theorem Prog.run_bindR {α β} (m : Prog α) (f : Res α → Prog β) (w : World) :
    (m.bindR f).run w = (f (m.run w).1).run (m.run w).2 := by
  induction m generalizing w with
  | done r => rfl
  | exists_ fs p k ih => simp only [Prog.bindR, Prog.run, ih]
  | metadata fs p k ih => simp only [Prog.bindR, Prog.run, ih]
  | createDir fs p k ih => simp only [Prog.bindR, Prog.run, ih]
  | removeFile fs p k ih => simp only [Prog.bindR, Prog.run, ih]

theorem Prog.bind_def {α β} (m : Prog α) (f : α → Prog β) : (m >>= f) = m.bindR (Prog.lift f) := rfl

theorem Prog.run_bind {α β} (m : Prog α) (f : α → Prog β) :
    (m >>= f).run = m.run >>= fun a => (f a).run := by
  funext w
  rw [Prog.bind_def, Prog.run_bindR]
  show _ = M.bind _ _ w
  unfold M.bind
  cases h : m.run w with
  | mk r w' =>
    cases r <;> rfl

theorem mbind_congr {α β} (m : M α) {f g : α → M β} (h : ∀ a, f a = g a) :
    (m >>= f) = (m >>= g) := by rw [funext h]

theorem Prog.run_pure {α} (a : α) : (pure a : Prog α).run = (pure a : M α) := rfl
theorem Prog.run_ret {α} (r : Res α) : (Prog.ret r).run = M.ret r := rfl
theorem Prog.run_failK {α} (k : ErrKind) : (Prog.failK k : Prog α).run = M.failK k := rfl
theorem Prog.run_done {α} (r : Res α) (w : World) : (Prog.done r).run w = (r, w) := rfl

theorem run_vExists (q : VPath) : (vExists q).run = q.exists_ := rfl

theorem run_vMetadata (q : VPath) : (vMetadata q).run = q.metadata := rfl

theorem run_vRemoveFile (q : VPath) : (vRemoveFile q).run = q.removeFile := rfl

theorem run_vGetParent (q : VPath) : (vGetParent q).run = q.getParent := by
  unfold vGetParent VPath.getParent
  simp only [Prog.run_bind, run_vExists]
  refine mbind_congr _ fun b => ?_
  cases b
  · rfl
  · simp only [Bool.not_true, Bool.false_eq_true, ↓reduceIte, Prog.run_bind, run_vMetadata]
    refine mbind_congr _ fun md => ?_
    split <;> rfl

theorem run_vCreateDir (q : VPath) : (vCreateDir q).run = q.createDir := by
  unfold vCreateDir VPath.createDir
  simp only [Prog.run_bind, run_vGetParent]
  rfl

theorem run_vIsDir (q : VPath) : (vIsDir q).run = q.isDir := by
  unfold vIsDir VPath.isDir
  simp only [Prog.run_bind, run_vExists]
  refine mbind_congr _ fun b => ?_
  cases b
  · rfl
  · simp only [Bool.not_true, Bool.false_eq_true, ↓reduceIte, Prog.run_bind, run_vMetadata]
    rfl

theorem run_cdaLoop (mk : Str → Prog Unit) (q : VPath) (hmk : ∀ d, (mk d).run = q.fs.createDir d)
    (ds : List Str) : (cdaLoop mk ds).run = VPath.createDirAllLoop q ds := by
  induction ds with
  | nil => rfl
  | cons d rest ih =>
    funext w
    unfold cdaLoop VPath.createDirAllLoop
    rw [Prog.run_bindR, hmk]
    cases h : q.fs.createDir d w with
    | mk r w' =>
      cases r with
      | ok a => simp only [ih]
      | err k pth => cases k <;> simp only [ih] <;> rfl
      | panic => rfl

theorem run_cdaWith (mk : Str → Prog Unit) (q : VPath) (hmk : ∀ d, (mk d).run = q.fs.createDir d) :
    (cdaWith mk q.path).run = q.createDirAll := by
  unfold cdaWith VPath.createDirAll
  split
  · rfl
  · exact run_cdaLoop mk q hmk _

theorem run_vCreateDirAll (q : VPath) : (vCreateDirAll q).run = q.createDirAll :=
  run_cdaWith _ q (fun _ => rfl)

theorem run_firstExisting (p : Str) (layers : List VPath) :
    (OConc.firstExisting p layers).run = Overlay.firstExisting p layers := by
  induction layers with
  | nil => rfl
  | cons l rest ih =>
    unfold OConc.firstExisting Overlay.firstExisting
    simp only [Prog.run_bind, Prog.run_ret, run_vExists]
    refine mbind_congr _ fun lp => ?_
    refine mbind_congr _ fun b => ?_
    cases b
    · simpa using ih
    · rfl

theorem run_readPath (layers : List VPath) (p : Str) :
    (OConc.readPath layers p).run = Overlay.readPath layers p := by
  unfold OConc.readPath Overlay.readPath
  split
  · rfl
  · simp only [Prog.run_bind, Prog.run_ret, run_vExists]
    refine mbind_congr _ fun wo => ?_
    refine mbind_congr _ fun marked => ?_
    cases marked
    · simp only [Bool.false_eq_true, ↓reduceIte, Prog.run_bind, run_firstExisting]
      refine mbind_congr _ fun found => ?_
      cases found with
      | some lp => rfl
      | none =>
        simp only [Prog.run_bind, Prog.run_ret, run_vExists]
        refine mbind_congr _ fun rp => ?_
        refine mbind_congr _ fun ex => ?_
        cases ex <;> rfl
    · rfl

theorem run_oexists (layers : List VPath) (p : Str) :
    (OConc.oexists layers p).run = Overlay.exists_ layers p := by
  unfold OConc.oexists Overlay.exists_
  simp only [Prog.run_bind, Prog.run_ret, run_vExists]
  refine mbind_congr _ fun wo => ?_
  refine mbind_congr _ fun marked => ?_
  cases marked
  · simp only [Bool.false_eq_true, ↓reduceIte]
    funext w
    rw [Prog.run_bindR, run_readPath]
    cases h : Overlay.readPath layers p w with
    | mk r w' =>
      cases r with
      | ok q => rfl
      | err k pth => cases k <;> rfl
      | panic => rfl
  · rfl

theorem run_ensureHasParent (layers : List VPath) (p : Str) :
    (OConc.ensureHasParent layers p).run = Overlay.ensureHasParent layers p := by
  unfold OConc.ensureHasParent Overlay.ensureHasParent
  split
  · simp only [Prog.run_bind, run_oexists]
    refine mbind_congr _ fun ex => ?_
    cases ex
    · rfl
    · simp only [↓reduceIte, Prog.run_bind, run_readPath, run_vIsDir]
      refine mbind_congr _ fun rp => ?_
      refine mbind_congr _ fun isd => ?_
      cases isd
      · rfl
      · simp only [↓reduceIte, Prog.run_bind, Prog.run_ret, run_vCreateDirAll]
  · rfl

theorem run_clearWhiteout (layers : List VPath) (p : Str) :
    (OConc.clearWhiteout layers p).run = Overlay.clearWhiteout layers p := by
  unfold OConc.clearWhiteout Overlay.clearWhiteout
  simp only [Prog.run_bind, Prog.run_ret, run_vExists]
  refine mbind_congr _ fun wo => ?_
  refine mbind_congr _ fun ex => ?_
  cases ex <;> rfl

theorem run_clearWhiteoutT (layers : List VPath) (p : Str) :
    (OConc.clearWhiteoutT layers p).run = Overlay.clearWhiteoutT layers p := by
  unfold OConc.clearWhiteoutT Overlay.clearWhiteoutT
  simp only [Prog.run_bind, Prog.run_ret, run_vExists]
  refine mbind_congr _ fun wo => ?_
  refine mbind_congr _ fun ex => ?_
  cases ex
  · rfl
  · simp only [↓reduceIte]
    funext w
    rw [Prog.run_bindR, run_vRemoveFile]
    cases h : wo.removeFile w with
    | mk r w' =>
      cases r with
      | ok a => rfl
      | err k pth => cases k <;> rfl
      | panic => rfl

theorem run_createDir (layers : List VPath) (p : Str) :
    (OConc.createDir layers p).run = Overlay.createDir layers p := by
  unfold OConc.createDir OConc.createDirHead Overlay.createDir
  simp only [Prog.run_bind, run_ensureHasParent, run_oexists]
  refine mbind_congr _ fun _ => ?_
  refine mbind_congr _ fun ex => ?_
  cases ex
  · simp only [Bool.false_eq_true, ↓reduceIte, Prog.run_bind, Prog.run_ret]
    refine mbind_congr _ fun wp => ?_
    funext w
    rw [Prog.run_bindR, run_vCreateDir]
    cases h : wp.createDir w with
    | mk r w' =>
      cases r with
      | ok a => simp only [run_clearWhiteoutT]
      | err k pth =>
        cases k <;> try rfl
        simp only [Prog.run_bindR, run_clearWhiteoutT]
        cases h2 : Overlay.clearWhiteoutT layers p w' with
        | mk r2 w2 => cases r2 <;> rfl
      | panic => rfl
  · simp only [↓reduceIte, Prog.run_bind, run_readPath, run_vMetadata]
    rfl

theorem run_createDirAll (layers : List VPath) (id : Nat) (p : Str) :
    (OConc.createDirAll layers p).run
      = VPath.createDirAll { fs := Overlay.fs layers, fsId := id, path := p } :=
  run_cdaWith (OConc.createDir layers) { fs := Overlay.fs layers, fsId := id, path := p }
    (fun d => run_createDir layers d)

theorem Prog.step1_done {α} (r : Res α) (w : World) : (Prog.done r).step1 w = (.done r, w) := rfl

def Prog.steps {α} : Nat → Prog α × World → Prog α × World
  | 0, x => x
  | n + 1, x => Prog.steps n (x.1.step1 x.2)

theorem Prog.steps_run {α} (t : Prog α) (w : World) :
    Prog.steps (t.callsFrom w) (t, w) = (.done (t.run w).1, (t.run w).2) := by
  induction t generalizing w with
  | done r => rfl
  | exists_ fs p k ih => simp only [Prog.callsFrom, Prog.steps, Prog.step1, Prog.run, ih]
  | metadata fs p k ih => simp only [Prog.callsFrom, Prog.steps, Prog.step1, Prog.run, ih]
  | createDir fs p k ih => simp only [Prog.callsFrom, Prog.steps, Prog.step1, Prog.run, ih]
  | removeFile fs p k ih => simp only [Prog.callsFrom, Prog.steps, Prog.step1, Prog.run, ih]

theorem run_single (t : Prog Unit) (w : World) (n : Nat) :
    OConc.run { world := w, threads := [t] } (List.replicate n 0)
      = { world := (Prog.steps n (t, w)).2, threads := [(Prog.steps n (t, w)).1] } := by
  induction n generalizing t w with
  | zero => rfl
  | succ n ih =>
    rw [List.replicate_succ, OConc.run, List.foldl_cons]
    show OConc.run (OConc.step _ 0) _ = _
    simp only [OConc.step, List.getElem?_cons_zero, List.set_cons_zero]
    rw [ih]
    rfl

theorem alone_run (t : Prog Unit) (w : World) :
    OConc.run { world := w, threads := [t] } (List.replicate (t.callsFrom w) 0)
      = { world := (t.run w).2, threads := [.done (t.run w).1] } := by
  rw [run_single, Prog.steps_run]

end Vfs.OConc
