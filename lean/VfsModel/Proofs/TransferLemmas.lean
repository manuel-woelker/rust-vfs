/-
  Helpers for property C11 (create_dir_all / remove_dir_all / copy_* / move_*), by section:
  1. over ARBITRARY filesystems: `copy_dir` / `move_dir` refuse an existing destination,
     `remove_dir_all` of a path whose `exists` answers false does nothing (`removeDirAll_absent'`;
     the probe and the fast-path skeleton of the transfers are in Proofs/Routes.lean),
  2. the pure loop of `create_dir_all` on a memory map and its exact effect (`ChainMade`),
  3. the generic route of copy_file / move_file on memory leaves, same leaf or two leaves
     (`FreshDest`: what one write session leaves at a fresh key; `Copied`, `Moved`),
  4. the fast path on a physical leaf (`Phys.copyFile`; `Phys.rename_fresh`: when `rename` succeeds),
  5. `remove_dir_all` on a memory leaf: exactly the subtree goes (`under`, `SubtreeRemoved`, `rd_all`);
     5a. the tree `rename` leaves, key by key (`find?_renameTree_tree`; a file: `Phys.find?_rename_file`),
  6. copy_dir / move_dir of a flat directory (`FlatDirCopied`, `FlatDirMoved`), and `create_dir_all`
     on a well-formed map with a file among the prefixes,
  7. a decidable bound on the key lengths, for the concrete examples.
-/
import VfsModel.Proofs.LeafRun
import VfsModel.Proofs.Routes
import VfsModel.Proofs.PhysPath
import VfsModel.Proofs.RemoveLoop
import VfsModel.Props.C06
namespace Vfs

/-! ### 1. generic: the existence probe comes first -/

section generic
variable (src dst : VPath) (w : World)

theorem copyDir_refused (fuel : Nat) (h : dst.exists_ w = (.ok true, w)) :
    src.copyDir fuel dst w = (.err .other (some src.path), w) :=
  VPath.guarded_refused _ _ _ _ w h

theorem moveDir_refused (fuel : Nat) (h : dst.exists_ w = (.ok true, w)) :
    src.moveDir fuel dst w = (.err .other (some src.path), w) :=
  VPath.guarded_refused _ _ _ _ w h

/-- `C11.removeDirAll_absent` (Props/C11.lean) with the arguments in the order of this section -/
theorem removeDirAll_absent' (fuel : Nat) (p : VPath) (h : p.exists_ w = (.ok false, w)) :
    VPath.removeDirAll (fuel + 1) p w = (.ok (), w) := by
  rw [VPath.removeDirAll_succ]
  simp [bind, M.bind, h, pure, M.pure]

/-- a path that exists and whose listing fails: `remove_dir_all` stops there, nothing is removed -/
theorem removeDirAll_readDir_err (fuel : Nat) (p : VPath) {k : ErrKind} {q : Option Str}
    (hex : p.exists_ w = (.ok true, w)) (hrd : p.fs.readDir p.path w = (.err k q, w)) :
    VPath.removeDirAll (fuel + 1) p w = (.err k (some p.path), w) := by
  rw [VPath.removeDirAll.eq_2]
  simp only [bind, M.bind, hex, Bool.not_true, Bool.false_eq_true, if_false,
    show p.readDir w = (.err k (some p.path), w) from VPath.readDir_of_call hrd]

end generic

/-! ### 2. `create_dir_all`: the ancestor chain -/

theorem ancChain_length_le (cs : List Str) (q : Str) (h : q ∈ ancChain cs) :
    q.length ≤ (renderC cs).length := by
  obtain ⟨k, _, rfl⟩ := (mem_ancChain cs q).1 h
  exact renderC_take_length_le cs (k + 1)

theorem snoc_not_mem_ancChain (cs : List Str) (c : Str) : renderC (cs ++ [c]) ∉ ancChain cs := by
  intro h
  have := ancChain_length_le cs _ h
  simp [List.length_append] at this
  omega


theorem ancChain_append_exists (x y : List Str) : ∃ rest, ancChain (x ++ y) = ancChain x ++ rest := by
  refine snoc_induction (P := fun y => ∃ rest, ancChain (x ++ y) = ancChain x ++ rest) ?_ ?_ y
  · exact ⟨[], by simp⟩
  · intro l c ⟨rest, hr⟩
    refine ⟨rest ++ [renderC (x ++ l ++ [c])], ?_⟩
    rw [← List.append_assoc, ancChain_snoc, hr, List.append_assoc]

theorem renderC_mem_ancChain (cs : List Str) (h : cs ≠ []) : renderC cs ∈ ancChain cs := by
  rw [mem_ancChain]
  have hl : 0 < cs.length := by
    cases cs with
    | nil => exact absurd rfl h
    | cons _ _ => simp
  refine ⟨cs.length - 1, by omega, ?_⟩
  have : cs.length - 1 + 1 = cs.length := by omega
  rw [this, List.take_length]

theorem mem_append_cons_of_snoc {α} {a b : List α} {c x : α} (h : x ∈ a ++ [c]) :
    x ∈ a ++ c :: b := by
  rw [List.mem_append, List.mem_singleton] at h
  rw [List.mem_append, List.mem_cons]
  exact h.imp_right Or.inl

/-! ### the loop of `create_dir_all` on a memory map -/

namespace Mem

theorem mkdirs_append (m : FMap) (a b : List Str)
    (h : (mkdirs m a).1 = .ok ()) :
    mkdirs m (a ++ b) = mkdirs (mkdirs m a).2 b := by
  induction a generalizing m with
  | nil => rfl
  | cons d rest ih =>
    simp only [List.cons_append, mkdirs] at h ⊢
    cases hc : createDir m d with
    | mk r m' =>
      rw [hc] at h
      cases r with
      | ok u => exact ih m' h
      | err k pth => cases k <;> first | exact ih m' h | cases h
      | panic => cases h

end Mem

/-- `VfsPath::create_dir_all` at `/c1/…/cn` on a memory leaf is MemoryFS's loop over the ancestor
chain (the root, `cs = []`, visits nothing) -/
theorem run_createDirAll_canon {w : World} {i : Nat} {m : FMap} (h : MemLeafAt w i m) (id : Nat)
    {cs : List Str} (hcs : ∀ c ∈ cs, GoodComp c) :
    VPath.createDirAll { fs := leafFS i, fsId := id, path := renderC cs } w =
      ((Mem.mkdirs m (ancChain cs)).1, w.setLeafFiles i (Mem.mkdirs m (ancChain cs)).2) := by
  rw [VPath.createDirAll_canon _ hcs rfl, ← ancChain_eq_chain, run_createDirAllLoop h]

/-- `m'` is `m` plus exactly the chain of directories of `/c1/…/cn` -/
structure ChainMade (m m' : FMap) (cs : List Str) : Prop where
  wf : WF m'
  /-- every prefix is a directory afterwards -/
  dirs : ∀ q ∈ ancChain cs, ∃ e, m'.find? q = some e ∧ e.ftype = .dir
  /-- every entry that was there is unchanged -/
  keeps : ∀ k e, m.find? k = some e → m'.find? k = some e
  /-- no key outside the ancChain was touched -/
  frame : ∀ k, k ∉ ancChain cs → m'.find? k = m.find? k
  /-- the missing prefixes are fresh directories -/
  fresh : ∀ q ∈ ancChain cs, m.find? q = none → m'.find? q = some dirEntryNow

/-- the parent of the next prefix is a directory after the shorter prefixes have been made -/
theorem ChainMade.parent_dir {m m' : FMap} {l : List Str} (h : ChainMade m m' l) :
    ∃ e, m'.find? (renderC l) = some e ∧ e.ftype = .dir := by
  by_cases hl : l = []
  · subst hl; exact h.wf.1
  · exact h.dirs _ (renderC_mem_ancChain l hl)

theorem ChainMade.parent_contained {m m' : FMap} {l : List Str} (h : ChainMade m m' l) :
    m'.contains (renderC l) = true := by
  obtain ⟨e, he, _⟩ := h.parent_dir
  exact (FMap.contains_iff _ _).2 ⟨e, he⟩

/-- no prefix is a file: the loop succeeds and makes exactly the ancChain -/
theorem createDirAllLoop_chain (m : FMap) (hm : WF m) (cs : List Str) :
    (∀ c ∈ cs, '/' ∉ c) →
    (∀ q ∈ ancChain cs, ∀ e, m.find? q = some e → e.ftype = .dir) →
    (Mem.mkdirs m (ancChain cs)).1 = .ok () ∧
      ChainMade m (Mem.mkdirs m (ancChain cs)).2 cs := by
  intro hsl hnf
  have hwf := wf_mkdirs hm (ancChain cs)
  rw [ancChain_eq_chain] at hnf hwf ⊢
  rw [mkdirs_chain m [] cs (by simp) hsl hm.1 hnf] at hwf ⊢
  refine ⟨rfl, hwf, ?_, ?_, ?_, ?_⟩
  · intro q hq
    rw [ancChain_eq_chain] at hq
    rw [find?_fillDirs, if_pos hq]
    cases hf : m.find? q with
    | none => exact ⟨_, rfl, rfl⟩
    | some e => exact ⟨e, rfl, hnf q hq e hf⟩
  · intro k e hk
    rw [find?_fillDirs, hk]; rfl
  · intro k hk
    rw [ancChain_eq_chain] at hk
    exact find?_fillDirs_not_mem _ _ _ hk
  · intro q hq hqn
    rw [ancChain_eq_chain] at hq
    rw [find?_fillDirs, hqn, if_pos hq]; rfl

/-- the first prefix that is a file stops the loop with `FileExists` naming that prefix; the
shorter prefixes HAVE been created (create_dir_all is not atomic) -/
theorem createDirAllLoop_file (m : FMap) (hm : WF m) (a b : List Str) (c : Str) (e : Entry)
    (hsl : ∀ x ∈ a ++ [c], '/' ∉ x)
    (hbefore : ∀ q ∈ ancChain a, ∀ e, m.find? q = some e → e.ftype = .dir)
    (hfile : m.find? (renderC (a ++ [c])) = some e) (hft : e.ftype = .file) :
    Mem.mkdirs m (ancChain (a ++ c :: b)) =
      (.err .fileExists (some (renderC (a ++ [c]))), (Mem.mkdirs m (ancChain a)).2) ∧
    ChainMade m (Mem.mkdirs m (ancChain a)).2 a := by
  obtain ⟨hok, hmade⟩ := createDirAllLoop_chain m hm a (fun x hx => hsl x (by simp [hx])) hbefore
  refine ⟨?_, hmade⟩
  obtain ⟨rest, hrest⟩ := ancChain_append_exists (a ++ [c]) b
  have hcs : a ++ c :: b = (a ++ [c]) ++ b := by simp
  rw [hcs, hrest, ancChain_snoc, List.append_assoc, Mem.mkdirs_append m _ _ hok]
  generalize (Mem.mkdirs m (ancChain a)).2 = m1 at hmade
  have hc : '/' ∉ c := hsl c (by simp)
  have hd : renderC (a ++ [c]) = renderC a ++ '/' :: c := renderC_snoc a c
  have hs : '/' ∈ renderC (a ++ [c]) := by rw [hd]; simp
  have hpar : parentInternal (renderC (a ++ [c])) = renderC a := by
    rw [hd]; exact parent_of_child _ _ hc
  have hcont : ∃ pe, m1.find? (parentInternal (renderC (a ++ [c]))) = some pe ∧ pe.ftype = .dir := by
    rw [hpar]; exact hmade.parent_dir
  have hsame : m1.find? (renderC (a ++ [c])) = some e := by
    rw [hmade.frame _ (snoc_not_mem_ancChain a c)]; exact hfile
  simp only [List.singleton_append, Mem.mkdirs, Mem.createDir_present m1 _ e hs hcont hsame,
    hft, ↓reduceIte, fail]

/-- visiting directories that all exist changes nothing at all -/
theorem createDirAllLoop_existing (m : FMap) (hm : WF m) (ds : List Str)
    (h : ∀ d ∈ ds, d ≠ [] ∧ ∃ e, m.find? d = some e ∧ e.ftype = .dir) :
    Mem.mkdirs m ds = (.ok (), m) := by
  induction ds with
  | nil => rfl
  | cons d rest ih =>
    obtain ⟨hne, e, he, hd⟩ := h d (by simp)
    obtain ⟨hs, pe, hpe, hpd⟩ := hm.2 d e he hne
    have hcont : ∃ pe, m.find? (parentInternal d) = some pe ∧ pe.ftype = .dir := ⟨pe, hpe, hpd⟩
    have hnotfile : ¬ e.ftype = .file := by rw [hd]; decide
    simp only [Mem.mkdirs, Mem.createDir_present m d e hs hcont he, hnotfile, ↓reduceIte, fail]
    exact ih (fun x hx => h x (by simp [hx]))

/-! ### 3. copy_file / move_file: the generic read/write route on memory leaves -/

/-- `open_file` stamps the access time -/
def touched (e : Entry) : Entry := { e with accessed := .now }

/-- the entry a completed copy leaves at a fresh destination -/
def copiedEntry (bs : Bytes) : Entry :=
  { ftype := .file, content := bs, created := .now, modified := .now, accessed := .now }

theorem Mem.openFile_file (m : FMap) (s : Str) (e : Entry) (hs : m.find? s = some e)
    (hf : e.ftype = .file) :
    Mem.openFile m s = (.ok { content := e.content, pos := 0 }, m.insert s (touched e)) := by
  simp [Mem.openFile, Mem.setAccessed, hs, hf, touched]

theorem run_vopenFile_file {w : World} {i : Nat} {m : FMap} (h : MemLeafAt w i m) (id : Nat)
    (s : Str) (e : Entry) (hs : m.find? s = some e) (hf : e.ftype = .file) :
    VPath.openFile { fs := leafFS i, fsId := id, path := s } w =
      (.ok { content := e.content, pos := 0 }, w.setLeafFiles i (m.insert s (touched e))) := by
  rw [VPath.openFile_of_call (p := ⟨leafFS i, id, s⟩) (run_openFile h s),
    Mem.openFile_file m s e hs hf]
  rfl

theorem run_moveFile_mem {w : World} {i : Nat} {m : FMap} (h : MemLeafAt w i m) (s d : Str) :
    (leafFS i).moveFile s d w = (fail .notSupported, w) := by
  show onLeaf i _ w = _
  rw [onLeaf_run h]; simp [h.same]

theorem run_moveDir_mem {w : World} {i : Nat} {m : FMap} (h : MemLeafAt w i m) (s d : Str) :
    (leafFS i).moveDir s d w = (fail .notSupported, w) := by
  show onLeaf i _ w = _
  rw [onLeaf_run h]; simp [h.same]

theorem run_pWrite' {w : World} {i : Nat} {m : FMap} (h : MemLeafAt w i m) (id : Nat) (p : Str) (bs : Bytes) :
    M.bind (VPath.createFile { fs := leafFS i, fsId := id, path := p })
        (fun hd => hd.writeAllAndDrop bs) w =
      ((Mem.pWrite m p bs).1, w.setLeafFiles i (Mem.pWrite m p bs).2) :=
  run_pWrite h id p bs

theorem run_vexists_absent {w : World} {j : Nat} {m : FMap} (h : MemLeafAt w j m) (id : Nat)
    (d : Str) (hd : m.find? d = none) :
    VPath.exists_ { fs := leafFS j, fsId := id, path := d } w = (.ok false, w) :=
  LeafAt.vexists_absent h id hd

/-- the generic route of `copy_file` between memory leaves (the same one or two different ones,
whatever the `Arc` identities): open the source, then one write session on the destination -/
theorem run_copyFile_generic {w : World} {i j : Nat} {ms md mj : FMap}
    (hi : MemLeafAt w i ms) (hj : MemLeafAt w j md) (sid did : Nat) (s d : Str) (e : Entry)
    (hs : ms.find? s = some e) (hf : e.ftype = .file) (hd : md.find? d = none)
    (hj1 : MemLeafAt (w.setLeafFiles i (ms.insert s (touched e))) j mj) :
    VPath.copyFile { fs := leafFS i, fsId := sid, path := s } { fs := leafFS j, fsId := did, path := d } w =
      ((Mem.pWrite mj d e.content).1.withPath s,
        (w.setLeafFiles i (ms.insert s (touched e))).setLeafFiles j (Mem.pWrite mj d e.content).2) := by
  rw [VPath.copyFile_eq, VPath.guarded_run _ _ _ _ w (run_vexists_absent hj did d hd),
    M.withPath, VPath.fastOr_slow (fun _ => ⟨none, run_copyFile_mem hi s d⟩)]
  unfold VPath.copyGeneric
  simp only [bind, M.bind, run_vopenFile_file hi sid s e hs hf,
    Res.withPath, fun h => VPath.ioCopyAndDrop_eq { content := e.content, pos := 0 } h s e.content rfl]
  have hw := run_pWrite' hj1 did d e.content
  simp only [M.bind] at hw
  rw [hw]

/-! ### fresh destination: what one write session leaves -/

/-- the destination is absent, its name has a parent part, and the parent is a directory -/
structure FreshDest (m : FMap) (d : Str) : Prop where
  absent : m.find? d = none
  slash : '/' ∈ d
  parent : ∃ pe, m.find? (parentInternal d) = some pe ∧ pe.ftype = .dir

/-- `ensure_has_parent` answers `Ok` at a fresh destination: with `absent` this selects the row of
each table of Proofs/LeafSpec.lean below -/
theorem FreshDest.par {m : FMap} {d : Str} (h : FreshDest m d) : Mem.par m d = true :=
  Mem.par_of_dir h.slash h.parent

theorem FreshDest.parentOk {m : FMap} {d : Str} (h : FreshDest m d) : Mem.parentOk m d = true :=
  Mem.parentOk_of_par h.par

theorem FreshDest.ne_nil {m : FMap} {d : Str} (h : FreshDest m d) : d ≠ [] :=
  List.ne_nil_of_mem h.slash

theorem FreshDest.createFile {m : FMap} {d : Str} (h : FreshDest m d) :
    Mem.createFile m d = (.ok (), m.insert d fileEntryNow) := by
  rw [Mem.createFile_eq, h.par, h.absent]; rfl

theorem FreshDest.pCreateDir {m : FMap} {d : Str} (h : FreshDest m d) :
    Mem.pCreateDir m d = (.ok (), m.insert d dirEntryNow) := by
  rw [Mem.pCreateDir_eq, h.par, h.absent]; rfl

/-- one write session at a fresh destination -/
theorem FreshDest.pWrite {m : FMap} {d : Str} (h : FreshDest m d) (c : Bytes) :
    Mem.pWrite m d c = (.ok (), m.insert d (copiedEntry c)) := by
  rw [Mem.pWrite_eq, h.par, h.absent]; rfl

/-- publishing the buffer of a handle whose file was just created -/
theorem memPublish_created {m : FMap} {d : Str} (hd : m.find? d = some fileEntryNow) (c : Bytes) :
    memPublish m d c = m.insert d (copiedEntry c) := by
  rw [Mem.memPublish_eq, hd]; rfl

/-- an insertion elsewhere keeps the destination fresh, provided it does not replace the parent
directory by a file -/
theorem FreshDest.insert_other {m : FMap} {d : Str} (h : FreshDest m d) (s : Str) (v : Entry)
    (hsd : s ≠ d) (hkeep : ∀ e, m.find? s = some e → e.ftype = .dir → v.ftype = .dir) :
    FreshDest (m.insert s v) d := by
  refine ⟨by rw [FMap.find?_insert_ne _ _ _ _ (Ne.symm hsd)]; exact h.absent, h.slash, ?_⟩
  obtain ⟨pe, hpe, hpd⟩ := h.parent
  rw [FMap.find?_insert]
  split
  · rename_i hps
    exact ⟨v, rfl, hkeep pe (by rw [← hps]; exact hpe) hpd⟩
  · exact ⟨pe, hpe, hpd⟩

theorem FreshDest.touch {m : FMap} {d s : Str} {e : Entry} (h : FreshDest m d)
    (hs : m.find? s = some e) : FreshDest (m.insert s (touched e)) d :=
  h.insert_other s _ (fun h' => by rw [h', h.absent] at hs; cases hs)
    fun e' he' hdir => by rw [hs] at he'; cases he'; exact hdir

/-! ### `copy_file` between memory leaves -/

/-- What a successful `copy_file s → d` from leaf `i` (holding `ms`) to leaf `j` (holding `md`)
leaves behind. ONE statement for `i = j` and `i ≠ j`: the destination leaf gains the file at `d`
with the source bytes; the source entry keeps type and bytes, only its access time is stamped
(`touched`); every other key of both leaves, and every other leaf, is unchanged. -/
structure Copied (i j : Nat) (ms md : FMap) (s d : Str) (e : Entry) (w w' : World) : Prop where
  others : ∀ l, l ≠ i → l ≠ j → w'.leaf? l = w.leaf? l
  ghost : w'.log = w.log ∧ w'.fault = w.fault ∧ w'.fired = w.fired
  leaves : ∃ ms' md', MemLeafAt w' i ms' ∧ MemLeafAt w' j md' ∧
    (∀ k, md'.find? k = if k = d then some (copiedEntry e.content)
                         else if i = j ∧ k = s then some (touched e) else md.find? k) ∧
    (∀ k, ms'.find? k = if i = j ∧ k = d then some (copiedEntry e.content)
                         else if k = s then some (touched e) else ms.find? k)
  /-- well-formedness and key uniqueness are kept -/
  inv : ∀ ms' md', MemLeafAt w' i ms' → MemLeafAt w' j md' →
    (WF ms → WF md → WF ms' ∧ WF md') ∧
    (FMap.NodupKeys ms → FMap.NodupKeys md → FMap.NodupKeys ms' ∧ FMap.NodupKeys md')

theorem copyFile_mem {w : World} {i j : Nat} {ms md : FMap}
    (hi : MemLeafAt w i ms) (hj : MemLeafAt w j md) (sid did : Nat) (s d : Str) (e : Entry)
    (hs : ms.find? s = some e) (hf : e.ftype = .file) (hd : FreshDest md d) :
    ∃ w', VPath.copyFile { fs := leafFS i, fsId := sid, path := s }
            { fs := leafFS j, fsId := did, path := d } w = (.ok (), w') ∧
      Copied i j ms md s d e w w' := by
  by_cases hij : i = j
  · subst hij
    have hmd : md = ms := hj.unique hi
    subst hmd
    have hd1 := hd.touch hs
    have hi2 := (hi.set (md.insert s (touched e))).set
      ((md.insert s (touched e)).insert d (copiedEntry e.content))
    refine ⟨_, ?_, ?_, ?_, ⟨_, _, hi2, hi2, ?_, ?_⟩, ?_⟩
    · rw [run_copyFile_generic hi hj sid did s d e hs hf hd.absent (hi.set _), hd1.pWrite]
      rfl
    · intro l hl _
      rw [World.leaf?_setLeafFiles_ne _ _ _ _ (Ne.symm hl), World.leaf?_setLeafFiles_ne _ _ _ _ (Ne.symm hl)]
    · exact ⟨rfl, rfl, rfl⟩
    · intro k
      rw [FMap.find?_insert, FMap.find?_insert]
      simp
    · intro k
      rw [FMap.find?_insert, FMap.find?_insert]
      simp
    · intro ms' md' hms' hmd'
      have e1 := hms'.unique hi2
      have e2 := hmd'.unique hi2
      subst e1; subst e2
      refine ⟨fun hwf _ => ?_, fun hnd _ => ?_⟩
      · have h2 := (hwf.setTime s e (touched e) hs rfl).pWrite d e.content
        rw [hd1.pWrite] at h2
        exact ⟨h2, h2⟩
      · have h2 := FMap.nodup_insert _ d (copiedEntry e.content) (FMap.nodup_insert _ s (touched e) hnd)
        exact ⟨h2, h2⟩
  · have hd1 : MemLeafAt (w.setLeafFiles i (ms.insert s (touched e))) j md := hj.set_ne hij _
    have hi2 := (hi.set (ms.insert s (touched e))).set_ne (Ne.symm hij)
      (md.insert d (copiedEntry e.content))
    have hj2 := hd1.set (md.insert d (copiedEntry e.content))
    refine ⟨_, ?_, ?_, ?_, ⟨_, _, hi2, hj2, ?_, ?_⟩, ?_⟩
    · rw [run_copyFile_generic hi hj sid did s d e hs hf hd.absent hd1, hd.pWrite]
      rfl
    · intro l hl hl'
      rw [World.leaf?_setLeafFiles_ne _ _ _ _ (Ne.symm hl'), World.leaf?_setLeafFiles_ne _ _ _ _ (Ne.symm hl)]
    · exact ⟨rfl, rfl, rfl⟩
    · intro k
      rw [FMap.find?_insert]
      simp [hij]
    · intro k
      rw [FMap.find?_insert]
      simp [hij]
    · intro ms' md' hms' hmd'
      have e1 := hms'.unique hi2
      have e2 := hmd'.unique hj2
      subst e1; subst e2
      refine ⟨fun hwfs hwfd => ⟨hwfs.setTime s e _ hs rfl, ?_⟩, fun hns hnd =>
        ⟨FMap.nodup_insert _ _ _ hns, FMap.nodup_insert _ _ _ hnd⟩⟩
      have h2 := hwfd.pWrite d e.content
      rw [hd.pWrite] at h2
      exact h2

/-- `VfsPath::create_file` on a fresh destination of a memory leaf -/
theorem run_vcreateFile_fresh {w : World} {j : Nat} {m : FMap} (h : MemLeafAt w j m) (id : Nat)
    (d : Str) (hd : FreshDest m d) :
    VPath.createFile { fs := leafFS j, fsId := id, path := d } w =
      (.ok { leaf := j, key := d, kind := .memFile, buf := [], pos := 0 },
        w.setLeafFiles j (m.insert d fileEntryNow)) :=
  VPath.createFile_of_calls (p := ⟨leafFS j, id, d⟩) (by rw [run_getParent h, hd.parentOk]; rfl)
    (by rw [run_createFile h, hd.createFile])

/-- `remove_file` of a file of a memory leaf, through `VfsPath` -/
theorem run_vremoveFile_file {w : World} {i : Nat} {m : FMap} (h : MemLeafAt w i m) (id : Nat)
    (s : Str) (e : Entry) (hs : m.find? s = some e) (hf : e.ftype = .file) :
    VPath.removeFile { fs := leafFS i, fsId := id, path := s } w =
      (.ok (), w.setLeafFiles i (m.erase s)) := by
  simp only [VPath.removeFile, M.withPath, run_removeFile h, Mem.removeFile_file m s e hs hf,
    Res.withPath]

/-- dropping the handle of a file that was just created, after `bs` went into its empty buffer -/
theorem run_dropCreated {w : World} {j : Nat} {m : FMap} (h : MemLeafAt w j m) (d : Str)
    (hd : m.find? d = some fileEntryNow) (bs : Bytes) :
    WHandle.drop ⟨j, d, .memFile, cursorWrite [] 0 bs, 0 + bs.length⟩ w =
      (.ok (), w.setLeafFiles j (m.insert d (copiedEntry bs))) := by
  rw [run_dropMem h, cursorWrite_nil, memPublish_created hd]

/-- What a successful `move_file` leaves behind: as `Copied`, and the source key is gone. -/
structure Moved (i j : Nat) (ms md : FMap) (s d : Str) (e : Entry) (w w' : World) : Prop where
  others : ∀ l, l ≠ i → l ≠ j → w'.leaf? l = w.leaf? l
  ghost : w'.log = w.log ∧ w'.fault = w.fault ∧ w'.fired = w.fired
  leaves : ∃ ms' md', MemLeafAt w' i ms' ∧ MemLeafAt w' j md' ∧
    (∀ k, md'.find? k = if k = d then some (copiedEntry e.content)
                         else if i = j ∧ k = s then none else md.find? k) ∧
    (∀ k, ms'.find? k = if k = s then none
                         else if i = j ∧ k = d then some (copiedEntry e.content) else ms.find? k)

theorem moveFile_mem {w : World} {i j : Nat} {ms md : FMap}
    (hi : MemLeafAt w i ms) (hj : MemLeafAt w j md) (sid did : Nat) (s d : Str) (e : Entry)
    (hs : ms.find? s = some e) (hf : e.ftype = .file) (hd : FreshDest md d) :
    ∃ w', VPath.moveFile { fs := leafFS i, fsId := sid, path := s }
            { fs := leafFS j, fsId := did, path := d } w = (.ok (), w') ∧
      Moved i j ms md s d e w w' := by
  -- the calls of the generic route (`VPath.moveFile_of_calls`): probe, open, create, write into the
  -- buffer, remove the source, drop
  have hex := run_vexists_absent hj did d hd.absent
  have hopen := run_vopenFile_file hi sid s e hs hf
  have hwrite : ∀ w2, WHandle.write ⟨j, d, .memFile, [], 0⟩ e.content w2 =
      (.ok (e.content.length, ⟨j, d, .memFile, cursorWrite [] 0 e.content, 0 + e.content.length⟩),
        w2) := fun _ => rfl
  have hi1 := hi.set (ms.insert s (touched e))
  by_cases hij : i = j
  · subst hij
    have hmd : md = ms := hj.unique hi
    subst hmd
    have hsd : s ≠ d := by intro h; rw [h, hd.absent] at hs; cases hs
    have hi2 := hi1.set ((md.insert s (touched e)).insert d fileEntryNow)
    have hs2 : ((md.insert s (touched e)).insert d fileEntryNow).find? s = some (touched e) := by
      rw [FMap.find?_insert_ne _ _ _ _ hsd, FMap.find?_insert_self]
    refine ⟨_, VPath.moveFile_of_calls _ _ w _ _ _ _ e.content _ _ _ hex
        (fun _ => ⟨none, run_moveFile_mem hi s d⟩) hopen
        (run_vcreateFile_fresh hi1 did d (hd.touch hs)) (hwrite _)
        (run_vremoveFile_file hi2 sid s (touched e) hs2 hf)
        (run_dropCreated (hi2.set _) d
          (by rw [FMap.find?_erase_ne _ _ _ (Ne.symm hsd), FMap.find?_insert_self]) e.content),
      ?_, ⟨rfl, rfl, rfl⟩, _, _, (hi2.set _).set _, (hi2.set _).set _, ?_, ?_⟩
    · intro l hl _
      simp only [World.leaf?_setLeafFiles_ne _ _ _ _ (Ne.symm hl)]
    · intro k
      rw [FMap.find?_insert, FMap.find?_erase, FMap.find?_insert, FMap.find?_insert]
      by_cases hkd : k = d <;> by_cases hks : k = s <;> simp [hkd, hks]
    · intro k
      rw [FMap.find?_insert, FMap.find?_erase, FMap.find?_insert, FMap.find?_insert]
      by_cases hkd : k = d <;> by_cases hks : k = s <;> simp [hkd, hks, hsd, Ne.symm hsd]
  · have hj1 : MemLeafAt (w.setLeafFiles i (ms.insert s (touched e))) j md := hj.set_ne hij _
    have hi2 := hi1.set_ne (Ne.symm hij) (md.insert d fileEntryNow)
    have hj3 := (hj1.set (md.insert d fileEntryNow)).set_ne hij ((ms.insert s (touched e)).erase s)
    refine ⟨_, VPath.moveFile_of_calls _ _ w _ _ _ _ e.content _ _ _ hex
        (fun _ => ⟨none, run_moveFile_mem hi s d⟩) hopen (run_vcreateFile_fresh hj1 did d hd)
        (hwrite _) (run_vremoveFile_file hi2 sid s (touched e) (FMap.find?_insert_self _ _ _) hf)
        (run_dropCreated hj3 d (FMap.find?_insert_self _ _ _) e.content),
      ?_, ⟨rfl, rfl, rfl⟩, _, _, (hi2.set _).set_ne (Ne.symm hij) _, hj3.set _, ?_, ?_⟩
    · intro l hl hl'
      simp only [World.leaf?_setLeafFiles_ne _ _ _ _ (Ne.symm hl), World.leaf?_setLeafFiles_ne _ _ _ _ (Ne.symm hl')]
    · intro k
      rw [FMap.insert_insert, FMap.find?_insert]
      simp [hij]
    · intro k
      rw [FMap.find?_erase, FMap.find?_insert]
      by_cases hks : k = s <;> simp [hks, hij]

/-! ### 4. the fast path on a physical leaf -/

/-- leaf `i` of the world is a physical leaf holding `b` -/
def PhysLeafAt (w : World) (i : Nat) (b : FMap) : Prop :=
  w.leaf? i = some { kind := .phys, files := b }

theorem PhysLeafAt.leafAt {w : World} {i : Nat} {b : FMap} (h : PhysLeafAt w i b) :
    LeafAt w i .phys b := h

theorem PhysLeafAt.set {w : World} {i : Nat} {b : FMap} (h : PhysLeafAt w i b) (b' : FMap) :
    PhysLeafAt (w.setLeafFiles i b') i b' :=
  LeafAt.set h b'

theorem run_onLeaf_phys {w : World} {i : Nat} {b : FMap} (h : PhysLeafAt w i b) {α}
    (f : Leaf → Res α × FMap) :
    onLeaf i f w = ((f { kind := .phys, files := b }).1,
      w.setLeafFiles i (f { kind := .phys, files := b }).2) :=
  onLeaf_run h f

theorem run_exists_phys {w : World} {i : Nat} {b : FMap} (h : PhysLeafAt w i b) (p : Str) :
    (leafFS i).exists_ p w = (.ok (Phys.exists_ b p), w) :=
  LeafAt.exists_eq h p

theorem FreshDest.lookup {b : FMap} {d : Str} (hwf : WF b) (h : FreshDest b d) :
    Phys.lookup b d = .ok none := by
  obtain ⟨pe, hpe, hpd⟩ := h.parent
  rw [hwf.lookup_child d h.slash pe hpe hpd, h.absent]

theorem Phys.copyFile_fresh (b : FMap) (hwf : WF b) (s d : Str) (e : Entry)
    (hs : b.find? s = some e) (hf : e.ftype = .file) (hd : FreshDest b d) :
    Phys.copyFile b s d = (.ok (), b.insert d { fileEntryNow with content := e.content }) := by
  simp [Phys.copyFile, hwf.lookup_present s e hs, hf, hd.lookup hwf]

/-- `std::fs::copy` fails with what the two lookups fail with, `EISDIR` or `ENOENT`: never
`NotSupported`, the answer on which `copy_file` would leave the fast path -/
theorem Phys.copyFile_ns (b : FMap) (s d : Str) (q : Option Str) :
    (Phys.copyFile b s d).1 ≠ .err .notSupported q := by
  rw [Phys.copyFile_eq]; exact Phys.copyFileS_ns (Phys.lookup_ns b s) (Phys.lookup_ns b d) q

/-- `copy_file` between two paths of ONE physical filesystem value onto a path that does not exist
is the host's copy, its error labelled with the source -/
theorem run_copy_phys {w : World} {i : Nat} {b : FMap} (h : PhysLeafAt w i b) (id : Nat)
    (s d : Str) (hex : Phys.exists_ b d = false) :
    VPath.copyFile { fs := leafFS i, fsId := id, path := s } { fs := leafFS i, fsId := id, path := d } w
      = ((Phys.copyFile b s d).1.withPath s, w.setLeafFiles i (Phys.copyFile b s d).2) := by
  have x2 : (VPath.exists_ { fs := leafFS i, fsId := id, path := d }) w = (.ok false, w) :=
    hex ▸ run_exists_phys h d
  have y2 : (leafFS i).copyFile s d w =
      ((Phys.copyFile b s d).1, w.setLeafFiles i (Phys.copyFile b s d).2) :=
    run_onLeaf_phys h _
  rw [VPath.copyFile_eq, VPath.guarded_run _ _ _ _ w x2, M.withPath_run,
    VPath.fastOr_final rfl (by rw [y2]; exact Phys.copyFile_ns b s d), y2]

/-- nothing lives below a file of a well-formed map -/
theorem WF.nothing_below_file {b : FMap} (hwf : WF b) (s : Str) (e : Entry)
    (hs : b.find? s = some e) (hf : e.ftype = .file) (k : Str) (hk : ∃ e', b.find? k = some e') :
    (s ++ ['/']).isPrefixOf k = false :=
  Wk.nothing_below_file hwf hs (by rw [hf]; decide) hk

theorem WF.above_present {m : FMap} (hwf : WF m) (P t : Str) (e : Entry)
    (hk : m.find? (P ++ '/' :: t) = some e) : ∃ e', m.find? P = some e' ∧ e'.ftype = .dir :=
  Wk.ancestor_dir hwf ⟨e, hk⟩ (Wk.below_child P t)

/-- `rename` of a present source onto a path that resolves and is absent, not into the source's own
subtree, succeeds with the renamed tree -/
theorem Phys.rename_fresh {b : FMap} (hwf : WF b) {s d : Str} {e : Entry} (hs : b.find? s = some e)
    (hl : Phys.lookup b d = .ok none) (hnp : (s ++ ['/']).isPrefixOf d = false) :
    Phys.rename b s d = (.ok (), Phys.renameTree b s d) := by
  simp [Phys.rename, hwf.resolve_present s e hs, (Phys.lookup_ok_inv hl).2, hwf.lookup_present s e hs,
    hl, hnp]

theorem Phys.rename_file (b : FMap) (hwf : WF b) (s d : Str) (e : Entry)
    (hs : b.find? s = some e) (hf : e.ftype = .file) (hd : FreshDest b d) :
    Phys.rename b s d = (.ok (), Phys.renameTree b s d) := by
  obtain ⟨pe, hpe, hpd⟩ := hd.parent
  refine Phys.rename_fresh hwf hs (hd.lookup hwf) ?_
  cases hp : Wk.below s d with
  | false => exact hp
  | true =>
    -- the parent of `d`, a directory, would be the file `s` or lie below it
    rcases (Wk.within_iff _ _).1 (Wk.within_parent_of_below hp) with h | h
    · rw [h, hs] at hpe; cases hpe; rw [hf] at hpd; cases hpd
    · rw [Wk.nothing_below_file hwf hs (by rw [hf]; decide) ⟨pe, hpe⟩] at h; cases h

/-- `copy_file` on one physical filesystem: the fast path (`std::fs::copy`) does it all -/
theorem copyFile_phys {w : World} {i : Nat} {b : FMap} (h : PhysLeafAt w i b) (hwf : WF b)
    (id : Nat) (s d : Str) (e : Entry) (hs : b.find? s = some e) (hf : e.ftype = .file)
    (hd : FreshDest b d) :
    VPath.copyFile { fs := leafFS i, fsId := id, path := s } { fs := leafFS i, fsId := id, path := d } w =
      (.ok (), w.setLeafFiles i (b.insert d { fileEntryNow with content := e.content })) := by
  have hex : VPath.exists_ { fs := leafFS i, fsId := id, path := d } w = (.ok false, w) :=
    LeafAt.vexists_absent h id hd.absent
  have hfast : (leafFS i).copyFile s d w =
      (.ok (), w.setLeafFiles i (b.insert d { fileEntryNow with content := e.content })) := by
    show onLeaf i _ w = _
    rw [run_onLeaf_phys h]
    simp [Phys.copyFile_fresh b hwf s d e hs hf hd]
  rw [VPath.copyFile_eq, VPath.guarded_run _ _ _ _ w hex, M.withPath, VPath.fastOr_fast rfl hfast]
  rfl

/-- `move_file` on one physical filesystem: the fast path (`std::fs::rename`) does it all -/
theorem moveFile_phys {w : World} {i : Nat} {b : FMap} (h : PhysLeafAt w i b) (hwf : WF b)
    (id : Nat) (s d : Str) (e : Entry) (hs : b.find? s = some e) (hf : e.ftype = .file)
    (hd : FreshDest b d) :
    VPath.moveFile { fs := leafFS i, fsId := id, path := s } { fs := leafFS i, fsId := id, path := d } w =
      (.ok (), w.setLeafFiles i (Phys.renameTree b s d)) := by
  have hex : VPath.exists_ { fs := leafFS i, fsId := id, path := d } w = (.ok false, w) :=
    LeafAt.vexists_absent h id hd.absent
  have hfast : (leafFS i).moveFile s d w = (.ok (), w.setLeafFiles i (Phys.renameTree b s d)) := by
    show onLeaf i _ w = _
    rw [run_onLeaf_phys h]
    simp [Phys.rename_file b hwf s d e hs hf hd]
  rw [VPath.moveFile_eq, VPath.guarded_run _ _ _ _ w hex, M.withPath, VPath.fastOr_fast rfl hfast]
  rfl

/-- freshness of a destination only looks at types, so it transfers along `CoreEq` -/
theorem FreshDest.of_coreEq {a b : FMap} {d : Str} (h : FreshDest a d) (hc : CoreEq a b) :
    FreshDest b d :=
  ⟨(hc.none_iff d).1 h.absent, h.slash, (hc.dir_iff _).1 h.parent⟩

/-! ### 5. `remove_dir_all` on a memory leaf -/

/-- `k` is `P` or lies below it: the Boolean `Wk.within P k` (`under_eq_within`, by `rfl`), under
the name the statements of Props/C11*.lean and Props/C13*.lean use; its lemmas are those of
`Wk.within` read through that equation -/
def under (P k : Str) : Bool := decide (k = P) || (P ++ ['/']).isPrefixOf k

theorem under_eq_within (P k : Str) : under P k = Wk.within P k := rfl

theorem under_self (P : Str) : under P P = true := Wk.within_self P

theorem under_iff (P k : Str) : under P k = true ↔ k = P ∨ ∃ t, k = P ++ '/' :: t := by
  rw [under_eq_within, Wk.within_iff, Wk.below_iff]

theorem child_ne (P n : Str) : P ++ '/' :: n ≠ P := by
  intro heq
  have := congrArg List.length heq
  simp [List.length_append] at this

/-- `m'` is `m` without the subtree at `P`; everything else is untouched -/
def SubtreeRemoved (m m' : FMap) (P : Str) : Prop :=
  ∀ k, m'.find? k = if under P k then none else m.find? k

/-- specification of `remove_dir_all fuel` on an existing directory of memory leaf `i`.
Fuel (the recursion depth available) must exceed the length difference to the longest key. -/
def RDSpec (i id fuel : Nat) : Prop :=
  ∀ (w : World) (m : FMap) (P : Str) (e : Entry), MemLeafAt w i m → WF m → FMap.NodupKeys m →
    P ≠ [] → m.find? P = some e → e.ftype = .dir →
    (∀ k e', m.find? k = some e' → k.length < P.length + fuel) →
    ∃ m', VPath.removeDirAll fuel { fs := leafFS i, fsId := id, path := P } w =
        (.ok (), w.setLeafFiles i m') ∧ WF m' ∧ FMap.NodupKeys m' ∧ SubtreeRemoved m m' P

theorem Mem.readDir_dir (m : FMap) (P : Str) (e : Entry) (he : m.find? P = some e)
    (hd : e.ftype = .dir) : Mem.readDir m P = .ok (m.keys.filterMap (childName P)) := by
  simp [Mem.readDir, he, hd]

theorem listing_spec (m : FMap) (P n : Str) (h : n ∈ m.keys.filterMap (childName P)) :
    '/' ∉ n ∧ ∃ e, m.find? (P ++ '/' :: n) = some e :=
  ⟨((mem_children m P n).1 h).1, (FMap.contains_iff _ _).1 ((mem_children m P n).1 h).2⟩

theorem rd_all (i id : Nat) : ∀ fuel, RDSpec i id fuel :=
  fun fuel _ _ _ _ h hwf hnd hP he hd hb =>
    RemoveLoop.leaf_removeDirAll id fuel h.leafAt hwf hnd hP he hd hb

/-! ### 5a. `std::fs::rename`: the renamed tree, key by key

`Phys.renameTree` maps the keys of the association list (`reKey`); where the key map is injective on
the stored keys a lookup in the renamed tree is a lookup in the old one. -/

theorem child_inj (P a b : Str) (h : P ++ '/' :: a = P ++ '/' :: b) : a = b := by
  have := List.append_cancel_left h
  injection this

theorem CD.under_graft (P t : Str) : under P (P ++ '/' :: t) = true := (under_iff P _).2 (Or.inr ⟨t, rfl⟩)

theorem under_false_iff (S k : Str) :
    under S k = false ↔ k ≠ S ∧ (S ++ ['/']).isPrefixOf k = false := by
  unfold under
  simp only [Bool.or_eq_false_iff, decide_eq_false_iff_not]

/-- in a well-formed map nothing lies at or below an absent path -/
theorem nothing_under_absent {m : FMap} (hwf : WF m) (P : Str) (habs : m.find? P = none) :
    ∀ k, under P k = true → m.find? k = none := by
  intro k hu
  cases hk : m.find? k with
  | none => rfl
  | some ek =>
    exfalso
    rcases (under_iff P k).1 hu with h | ⟨t, ht⟩
    · subst h; rw [habs] at hk; cases hk
    · subst ht
      obtain ⟨pe, hpe, _⟩ := hwf.above_present P t ek hk
      rw [habs] at hpe; cases hpe

/-- the key map of `Phys.renameTree` -/
def reKey (S D k : Str) : Str :=
  if k = S then D else if (S ++ ['/']).isPrefixOf k then D ++ k.drop S.length else k

theorem renameTree_eq (m : FMap) (S D : Str) :
    Phys.renameTree m S D = m.map (fun kv => (reKey S D kv.1, kv.2)) := by
  unfold Phys.renameTree
  apply List.map_congr_left
  intro kv _
  unfold reKey
  split
  · rfl
  · split <;> rfl

theorem find?_mapKey_hit (g : Str → Str) (k0 : Str) : ∀ (m : FMap),
    (∀ k1 ∈ m.keys, g k1 = g k0 → k1 = k0) →
    FMap.find? (m.map (fun kv => (g kv.1, kv.2))) (g k0) = m.find? k0 := by
  intro m
  induction m with
  | nil => intro _; rfl
  | cons kv rest ih =>
    obtain ⟨k1, v⟩ := kv
    intro h
    have ih' := ih (fun x hx => h x (by simp [FMap.keys] at hx ⊢; exact Or.inr hx))
    simp only [List.map_cons, FMap.find?_cons, ih']
    by_cases hk : k1 = k0
    · subst hk; simp
    · have : g k1 ≠ g k0 := fun hg => hk (h k1 (by simp [FMap.keys]) hg)
      simp [hk, this]

theorem find?_mapKey_miss (g : Str → Str) (k : Str) : ∀ (m : FMap),
    (∀ k1 ∈ m.keys, g k1 ≠ k) →
    FMap.find? (m.map (fun kv => (g kv.1, kv.2))) k = none := by
  intro m
  induction m with
  | nil => intro _; rfl
  | cons kv rest ih =>
    obtain ⟨k1, v⟩ := kv
    intro h
    have ih' := ih (fun x hx => h x (by simp [FMap.keys] at hx ⊢; exact Or.inr hx))
    simp only [List.map_cons, FMap.find?_cons, ih']
    simp [h k1 (by simp [FMap.keys])]

theorem prefix_graft (S t : Str) : (S ++ ['/']).isPrefixOf (S ++ '/' :: t) = true := by
  have : S ++ '/' :: t = (S ++ ['/']) ++ t := by simp
  rw [this, List.isPrefixOf_iff_prefix]
  exact List.prefix_append _ _

theorem reKey_self (S D : Str) : reKey S D S = D := by simp [reKey]

theorem reKey_graft (S D t : Str) : reKey S D (S ++ '/' :: t) = D ++ '/' :: t := by
  unfold reKey
  rw [if_neg (child_ne S t), if_pos (prefix_graft S t)]
  simp

theorem reKey_other (S D k : Str) (h : under S k = false) : reKey S D k = k := by
  rw [under_false_iff] at h
  unfold reKey
  rw [if_neg h.1]
  simp [h.2]

theorem reKey_cases (S D k : Str) :
    (k = S ∧ reKey S D k = D) ∨ (∃ t, k = S ++ '/' :: t ∧ reKey S D k = D ++ '/' :: t) ∨
    (under S k = false ∧ reKey S D k = k) := by
  cases hu : under S k with
  | false => exact Or.inr (Or.inr ⟨rfl, reKey_other S D k hu⟩)
  | true =>
    rcases (under_iff S k).1 hu with h | ⟨t, ht⟩
    · subst h; exact Or.inl ⟨rfl, reKey_self _ D⟩
    · subst ht; exact Or.inr (Or.inl ⟨t, rfl, reKey_graft S D t⟩)

/-- **`rename` computed exactly**: the renamed tree, key by key. `D` and everything below it is
absent before. -/
theorem find?_renameTree_tree (b : FMap) (S D : Str)
    (hD : ∀ k, under D k = true → b.find? k = none) :
    (Phys.renameTree b S D).find? D = b.find? S ∧
    (∀ t, (Phys.renameTree b S D).find? (D ++ '/' :: t) = b.find? (S ++ '/' :: t)) ∧
    (∀ k, under S k = true → under D k = false → (Phys.renameTree b S D).find? k = none) ∧
    (∀ k, under S k = false → under D k = false →
      (Phys.renameTree b S D).find? k = b.find? k) := by
  rw [renameTree_eq]
  have habs : ∀ k ∈ b.keys, under D k = false := by
    intro k hk
    cases hu : under D k with
    | false => rfl
    | true =>
      obtain ⟨e, he⟩ := (FMap.mem_keys_iff b k).1 hk
      rw [hD k hu] at he; cases he
  refine ⟨?_, ?_, ?_, ?_⟩
  · have h1 := find?_mapKey_hit (reKey S D) S b (by
      intro k1 hk1 hg
      rw [reKey_self] at hg
      rcases reKey_cases S D k1 with ⟨h, _⟩ | ⟨t, _, h⟩ | ⟨_, h⟩
      · exact h
      · rw [h] at hg; exact absurd hg (child_ne D t)
      · rw [h] at hg; have := habs k1 hk1; rw [hg, under_self] at this; cases this)
    rw [reKey_self] at h1; exact h1
  · intro t
    have h2 := find?_mapKey_hit (reKey S D) (S ++ '/' :: t) b (by
      intro k1 hk1 hg
      rw [reKey_graft] at hg
      rcases reKey_cases S D k1 with ⟨_, h⟩ | ⟨t', h1, h⟩ | ⟨_, h⟩
      · rw [h] at hg; exact absurd hg.symm (child_ne D t)
      · rw [h] at hg; rw [h1, child_inj D t' t hg]
      · rw [h] at hg; have := habs k1 hk1; rw [hg, CD.under_graft] at this; cases this)
    rw [reKey_graft] at h2; exact h2
  · intro k hu hd
    apply find?_mapKey_miss
    intro k1 hk1 hg
    rcases reKey_cases S D k1 with ⟨_, h⟩ | ⟨t', _, h⟩ | ⟨h0, h⟩
    · rw [h] at hg; rw [← hg, under_self] at hd; cases hd
    · rw [h] at hg; rw [← hg, CD.under_graft] at hd; cases hd
    · rw [h] at hg; rw [hg, hu] at h0; cases h0
  · intro k hu hd
    have hk := reKey_other S D k hu
    have h4 := find?_mapKey_hit (reKey S D) k b (by
      intro k1 hk1 hg
      rw [hk] at hg
      rcases reKey_cases S D k1 with ⟨_, h⟩ | ⟨t', _, h⟩ | ⟨_, h⟩
      · rw [h] at hg; rw [← hg, under_self] at hd; cases hd
      · rw [h] at hg; rw [← hg, CD.under_graft] at hd; cases hd
      · rw [h] at hg; exact hg)
    rw [hk] at h4; exact h4

/-- a file has nothing below it, so its rename moves one key -/
theorem Phys.find?_rename_file (b : FMap) (hwf : WF b) (s d : Str) (e : Entry)
    (hs : b.find? s = some e) (hf : e.ftype = .file) (hd : b.find? d = none) (k : Str) :
    (Phys.renameTree b s d).find? k =
      if k = d then some e else if k = s then none else b.find? k := by
  have hD := nothing_under_absent hwf d hd
  obtain ⟨r1, r2, r3, r4⟩ := find?_renameTree_tree b s d hD
  have hbelow : ∀ t, b.find? (s ++ '/' :: t) = none := fun t => by
    cases h : b.find? (s ++ '/' :: t) with
    | none => rfl
    | some e' =>
      obtain ⟨e'', h1, h2⟩ := hwf.above_present s t e' h
      rw [hs] at h1; cases h1; rw [hf] at h2; cases h2
  by_cases hkd : k = d
  · rw [if_pos hkd, hkd, r1, hs]
  · rw [if_neg hkd]
    cases hud : under d k with
    | true =>
      rcases (under_iff d k).1 hud with h | ⟨t, rfl⟩
      · exact absurd h hkd
      · rw [r2 t, hbelow t, hD _ hud, ite_self]
    | false =>
      cases hus : under s k with
      | true =>
        rw [r3 k hus hud]
        rcases (under_iff s k).1 hus with rfl | ⟨t, rfl⟩
        · rw [if_pos rfl]
        · rw [if_neg (child_ne s t), hbelow t]
      | false =>
        rw [r4 k hus hud, if_neg fun h => by rw [h, under_self] at hus; cases hus]

/-! ### 6. copy_dir / move_dir -/

/-- an exhausted walk ends the copy loop with the count so far -/
theorem copyItems_done (fuel : Nat) (src dst : VPath) (count : Nat) (w : World) :
    VPath.copyItems (fuel + 1) src dst { inner := [], todo := [] } count w = (.ok count, w) :=
  VPath.copyItems_none fuel src dst _ _ count w rfl

/-- one step of the copy loop on a listed FILE of a memory leaf: the item is copied to
`dst/name` and counted -/
theorem copyItems_file_step {w : World} {i : Nat} {ms : FMap} (h : MemLeafAt w i ms)
    (fuel sid : Nat) (S n : Str) (dfs : FS) (did : Nat) (bs : List Str) (hbs : ∀ c ∈ bs, '/' ∉ c)
    (hn : GoodComp n) (e : Entry) (he : ms.find? (S ++ '/' :: n) = some e) (hf : e.ftype = .file)
    (inner : List VPath) (count : Nat) :
    VPath.copyItems (fuel + 1) { fs := leafFS i, fsId := sid, path := S }
        { fs := dfs, fsId := did, path := renderC bs }
        { inner := { fs := leafFS i, fsId := sid, path := S ++ '/' :: n } :: inner, todo := [] } count w =
      M.bind (VPath.copyFile { fs := leafFS i, fsId := sid, path := S ++ '/' :: n }
                { fs := dfs, fsId := did, path := renderC (bs ++ [n]) })
        (fun _ => VPath.copyItems fuel { fs := leafFS i, fsId := sid, path := S }
          { fs := dfs, fsId := did, path := renderC bs } { inner := inner, todo := [] } (count + 1)) w := by
  have hmeta := run_vmetadata_of_find h sid _ e he
  have hfile : e.meta.ftype = .file := hf
  have hjoin : joinInternal (renderC bs) n = .ok (renderC bs ++ '/' :: n) := by
    rw [C06.join_name bs n hbs hn, renderC_snoc]
  rw [VPath.copyItems_some fuel _ _ _ _ _ { inner := inner, todo := [] } count w e.meta
    (by simp only [VPath.walkNext, VPath.walkFind, bind, M.bind, pure, M.pure, hmeta, hfile,
      reduceCtorEq, ↓reduceIte])
    (VPath.relJoin_below _ S n _ rfl hjoin) hmeta, hfile, renderC_snoc]
  rfl

/-- What copying the listed files `S/n ↦ D/n` (n ∈ ns) from leaf `i` to leaf `j` leaves behind;
one statement for `i = j` and `i ≠ j`. -/
structure FlatCopied (i j : Nat) (ms md : FMap) (S D : Str) (ns : List Str) (w w' : World) : Prop where
  others : ∀ l, l ≠ i → l ≠ j → w'.leaf? l = w.leaf? l
  leaves : ∃ ms' md', MemLeafAt w' i ms' ∧ MemLeafAt w' j md' ∧
    -- every listed file arrived with its bytes
    (∀ n ∈ ns, ∃ e, ms.find? (S ++ '/' :: n) = some e ∧
      md'.find? (D ++ '/' :: n) = some (copiedEntry e.content)) ∧
    -- the sources are still there (access time stamped)
    (∀ n ∈ ns, ∃ e, ms.find? (S ++ '/' :: n) = some e ∧
      ms'.find? (S ++ '/' :: n) = some (touched e)) ∧
    -- nothing else changed on the destination leaf
    (∀ k, (∀ n ∈ ns, k ≠ D ++ '/' :: n) → (i = j → ∀ n ∈ ns, k ≠ S ++ '/' :: n) →
      md'.find? k = md.find? k) ∧
    -- nothing else changed on the source leaf
    (∀ k, (∀ n ∈ ns, k ≠ S ++ '/' :: n) → (i = j → ∀ n ∈ ns, k ≠ D ++ '/' :: n) →
      ms'.find? k = ms.find? k)
  inv : ∀ ms' md', MemLeafAt w' i ms' → MemLeafAt w' j md' →
    (WF ms → WF md → WF ms' ∧ WF md') ∧
    (FMap.NodupKeys ms → FMap.NodupKeys md → FMap.NodupKeys ms' ∧ FMap.NodupKeys md')

theorem copyItems_flat {i j : Nat} (sid did : Nat) (S : Str) (bs : List Str)
    (hbs : ∀ c ∈ bs, '/' ∉ c) :
    ∀ (ns : List Str) (fuel count : Nat) (w : World) (ms md : FMap),
      MemLeafAt w i ms → MemLeafAt w j md → ns.length < fuel → ns.Nodup →
      (∀ n ∈ ns, GoodComp n) →
      (∀ n ∈ ns, ∃ e, ms.find? (S ++ '/' :: n) = some e ∧ e.ftype = .file) →
      (∃ de, md.find? (renderC bs) = some de ∧ de.ftype = .dir) →
      (∀ n ∈ ns, md.find? (renderC bs ++ '/' :: n) = none) →
      ∃ w', VPath.copyItems fuel { fs := leafFS i, fsId := sid, path := S }
            { fs := leafFS j, fsId := did, path := renderC bs }
            { inner := ns.map fun n => ({ fs := leafFS i, fsId := sid, path := S ++ '/' :: n } : VPath),
              todo := [] } count w = (.ok (count + ns.length), w') ∧
        FlatCopied i j ms md S (renderC bs) ns w w' := by
  intro ns
  induction ns with
  | nil =>
    intro fuel count w ms md hi hj hfuel _ _ _ _ _
    obtain ⟨fuel', rfl⟩ : ∃ f, fuel = f + 1 := ⟨fuel - 1, by simp at hfuel; omega⟩
    refine ⟨w, by simp [copyItems_done], fun _ _ _ => rfl, ⟨ms, md, hi, hj, by simp, by simp,
      fun _ _ _ => rfl, fun _ _ _ => rfl⟩, ?_⟩
    intro ms' md' hms' hmd'
    have e1 := hms'.unique hi
    have e2 := hmd'.unique hj
    subst e1; subst e2
    exact ⟨fun h1 h2 => ⟨h1, h2⟩, fun h1 h2 => ⟨h1, h2⟩⟩
  | cons n rest ih =>
    intro fuel count w ms md hi hj hfuel hnd hgood hsrc hD habs
    obtain ⟨fuel', rfl⟩ : ∃ f, fuel = f + 1 := ⟨fuel - 1, by simp at hfuel; omega⟩
    rw [List.nodup_cons] at hnd
    obtain ⟨e, he, hf⟩ := hsrc n (by simp)
    obtain ⟨de, hde, hdd⟩ := hD
    have hn := hgood n (by simp)
    have hsame : i = j → ms = md := fun hij => by subst hij; exact hi.unique hj
    -- on one leaf a source name (present) is never a destination name (absent)
    have hAB : i = j → ∀ x ∈ n :: rest, ∀ y ∈ n :: rest,
        S ++ '/' :: x ≠ renderC bs ++ '/' :: y := by
      intro hij x hx y hy heq
      obtain ⟨ex, hex, _⟩ := hsrc x hx
      rw [hsame hij, heq, habs y hy] at hex; cases hex
    have hfresh : FreshDest md (renderC bs ++ '/' :: n) :=
      ⟨habs n (by simp), by simp, de, by rw [parent_of_child _ _ hn.2.1]; exact hde, hdd⟩
    obtain ⟨w1, hrun1, hc1, _, ⟨ms1, md1, hi1, hj1, hmd1, hms1⟩, hinv1⟩ :=
      copyFile_mem hi hj sid did (S ++ '/' :: n) (renderC bs ++ '/' :: n) e he hf hfresh
    -- facts about the maps after the first copy
    have hsrc_keep : ∀ x ∈ rest, ms1.find? (S ++ '/' :: x) = ms.find? (S ++ '/' :: x) := by
      intro x hx
      rw [hms1]
      have h1 : ¬ (i = j ∧ S ++ '/' :: x = renderC bs ++ '/' :: n) := fun ⟨hij, heq⟩ =>
        hAB hij x (by simp [hx]) n (by simp) heq
      have h2 : S ++ '/' :: x ≠ S ++ '/' :: n := fun heq => hnd.1 (child_inj S x n heq ▸ hx)
      rw [if_neg h1, if_neg h2]
    have hD1 : ∃ de, md1.find? (renderC bs) = some de ∧ de.ftype = .dir := by
      rw [hmd1]
      have h1 : renderC bs ≠ renderC bs ++ '/' :: n := (child_ne _ n).symm
      have h2 : ¬ (i = j ∧ renderC bs = S ++ '/' :: n) := fun ⟨hij, heq⟩ => by
        rw [hsame hij, ← heq, hde] at he; injection he with he; subst he; rw [hf] at hdd; cases hdd
      rw [if_neg h1, if_neg h2]; exact ⟨de, hde, hdd⟩
    have habs1 : ∀ x ∈ rest, md1.find? (renderC bs ++ '/' :: x) = none := by
      intro x hx
      rw [hmd1]
      have h1 : renderC bs ++ '/' :: x ≠ renderC bs ++ '/' :: n := fun heq =>
        hnd.1 (child_inj _ x n heq ▸ hx)
      have h2 : ¬ (i = j ∧ renderC bs ++ '/' :: x = S ++ '/' :: n) := fun ⟨hij, heq⟩ =>
        hAB hij n (by simp) x (by simp [hx]) heq.symm
      rw [if_neg h1, if_neg h2]; exact habs x (by simp [hx])
    obtain ⟨w', hrun', hothers', ⟨ms', md', hi', hj', hdst', hsrc', hmdf', hmsf'⟩, hinv'⟩ :=
      ih fuel' (count + 1) w1 ms1 md1 hi1 hj1 (by simp at hfuel; omega) hnd.2
        (fun x hx => hgood x (by simp [hx]))
        (fun x hx => by
          obtain ⟨ex, hex, hfx⟩ := hsrc x (by simp [hx])
          exact ⟨ex, by rw [hsrc_keep x hx]; exact hex, hfx⟩)
        hD1 habs1
    refine ⟨w', ?_, ?_, ⟨ms', md', hi', hj', ?_, ?_, ?_, ?_⟩, ?_⟩
    · rw [List.map_cons, copyItems_file_step hi fuel' sid S n (leafFS j) did bs hbs hn e he hf,
        renderC_snoc]
      simp only [M.bind, hrun1, hrun', List.length_cons]
      congr 2; omega
    · intro l hl hl'
      rw [hothers' l hl hl', hc1 l hl hl']
    · intro x hx
      rw [List.mem_cons] at hx
      rcases hx with rfl | hx
      · refine ⟨e, he, ?_⟩
        rw [hmdf' _ (fun y hy heq => hnd.1 (child_inj _ x y heq ▸ hy))
          (fun hij y hy heq => hAB hij y (by simp [hy]) x (by simp) heq.symm),
          hmd1, if_pos rfl]
      · obtain ⟨e1, he1, hd1⟩ := hdst' x hx
        rw [hsrc_keep x hx] at he1
        exact ⟨e1, he1, hd1⟩
    · intro x hx
      rw [List.mem_cons] at hx
      rcases hx with rfl | hx
      · refine ⟨e, he, ?_⟩
        rw [hmsf' _ (fun y hy heq => hnd.1 (child_inj _ x y heq ▸ hy))
          (fun hij y hy heq => hAB hij x (by simp) y (by simp [hy]) heq),
          hms1, if_neg (fun ⟨hij, heq⟩ => hAB hij x (by simp) x (by simp) heq), if_pos rfl]
      · obtain ⟨e1, he1, hs1⟩ := hsrc' x hx
        rw [hsrc_keep x hx] at he1
        exact ⟨e1, he1, hs1⟩
    · intro k hk1 hk2
      rw [hmdf' k (fun y hy => hk1 y (by simp [hy])) (fun hij y hy => hk2 hij y (by simp [hy])),
        hmd1, if_neg (hk1 n (by simp)), if_neg (fun ⟨hij, heq⟩ => hk2 hij n (by simp) heq)]
    · intro k hk1 hk2
      rw [hmsf' k (fun y hy => hk1 y (by simp [hy])) (fun hij y hy => hk2 hij y (by simp [hy])),
        hms1, if_neg (fun ⟨hij, heq⟩ => hk2 hij n (by simp) heq), if_neg (hk1 n (by simp))]
    · intro ms'' md'' hms'' hmd''
      obtain ⟨hw1, hn1⟩ := hinv1 ms1 md1 hi1 hj1
      obtain ⟨hw2, hn2⟩ := hinv' ms'' md'' hms'' hmd''
      exact ⟨fun a b => hw2 (hw1 a b).1 (hw1 a b).2, fun a b => hn2 (hn1 a b).1 (hn1 a b).2⟩

/-- below an absent path of a well-formed map there is nothing -/
theorem FreshDest.child_absent {m : FMap} {d : Str} (h : FreshDest m d) (hwf : WF m) (n : Str) :
    m.find? (d ++ '/' :: n) = none := by
  cases hf : m.find? (d ++ '/' :: n) with
  | none => rfl
  | some e' =>
    obtain ⟨e'', he'', _⟩ := hwf.above_present d n e' hf
    rw [h.absent] at he''; cases he''

/-- `create_dir` at a fresh key of memory leaf `j`, and what leaf `i` (the same leaf or another)
holds afterwards; the listing of a directory other than the parent of the new key is unchanged -/
theorem createDir_mem {w : World} {i j : Nat} {ms md : FMap} (hi : MemLeafAt w i ms)
    (hj : MemLeafAt w j md) (did : Nat) (d : Str) (hd : FreshDest md d) :
    ∃ ms', VPath.createDir { fs := leafFS j, fsId := did, path := d } w =
        (.ok (), w.setLeafFiles j (md.insert d dirEntryNow)) ∧
      MemLeafAt (w.setLeafFiles j (md.insert d dirEntryNow)) i ms' ∧
      (∀ k, ms'.find? k = if i = j ∧ k = d then some dirEntryNow else ms.find? k) ∧
      (WF ms → WF ms') ∧ (FMap.NodupKeys ms → FMap.NodupKeys ms') ∧
      ∀ S, (i = j → parentInternal d ≠ S) →
        ms'.keys.filterMap (childName S) = ms.keys.filterMap (childName S) := by
  have hrun : VPath.createDir { fs := leafFS j, fsId := did, path := d } w =
      (.ok (), w.setLeafFiles j (md.insert d dirEntryNow)) := by
    rw [run_pCreateDir hj did d, hd.pCreateDir]
  by_cases hij : i = j
  · subst hij
    have := hi.unique hj; subst this
    obtain ⟨pe, hpe, hpd⟩ := hd.parent
    refine ⟨_, hrun, hj.set _, fun k => by rw [FMap.find?_insert]; simp,
      fun hwf => hwf.insert_dir _ _ rfl hd.slash pe hpe hpd, FMap.nodup_insert _ _ _, ?_⟩
    intro S hout
    have hcn : childName S d = none := by
      cases hcc : childName S d with
      | none => rfl
      | some n => exact absurd ((childName_iff _ _ _).1 hcc).2.1 (hout rfl)
    simp [FMap.insert, FMap.keys, FMap.erase_absent ms _ hd.absent, hcn]
  · exact ⟨ms, hrun, hi.set_ne (Ne.symm hij) _, fun k => by simp [hij], id, id, fun _ _ => rfl⟩

/-- the directory `S` of `ms` holds only files, with canonical names -/
structure FlatDir (ms : FMap) (S : Str) : Prop where
  isDir : ∃ se, ms.find? S = some se ∧ se.ftype = .dir
  files : ∀ n ∈ ms.keys.filterMap (childName S),
    GoodComp n ∧ ∃ e, ms.find? (S ++ '/' :: n) = some e ∧ e.ftype = .file

/-- What `copy_dir S → D` of a flat directory leaves behind (one statement for the same leaf and
for two leaves): the new directory `D`, under it every listed file with its bytes; the source
files keep type and bytes (access time stamped); every other key is unchanged. -/
structure FlatDirCopied (i j : Nat) (ms md : FMap) (S D : Str) (w w' : World) : Prop where
  others : ∀ l, l ≠ i → l ≠ j → w'.leaf? l = w.leaf? l
  leaves : ∃ ms' md', MemLeafAt w' i ms' ∧ MemLeafAt w' j md' ∧
    md'.find? D = some dirEntryNow ∧
    (∀ n ∈ ms.keys.filterMap (childName S), ∃ e, ms.find? (S ++ '/' :: n) = some e ∧
      md'.find? (D ++ '/' :: n) = some (copiedEntry e.content)) ∧
    (∀ n ∈ ms.keys.filterMap (childName S), ∃ e, ms.find? (S ++ '/' :: n) = some e ∧
      ms'.find? (S ++ '/' :: n) = some (touched e)) ∧
    (∀ k, k ≠ D → (∀ n ∈ ms.keys.filterMap (childName S), k ≠ D ++ '/' :: n) →
      (i = j → ∀ n ∈ ms.keys.filterMap (childName S), k ≠ S ++ '/' :: n) → md'.find? k = md.find? k) ∧
    (∀ k, (∀ n ∈ ms.keys.filterMap (childName S), k ≠ S ++ '/' :: n) →
      (i = j → k ≠ D ∧ ∀ n ∈ ms.keys.filterMap (childName S), k ≠ D ++ '/' :: n) →
      ms'.find? k = ms.find? k) ∧
    (WF ms → WF ms' ∧ WF md') ∧ (FMap.NodupKeys md → FMap.NodupKeys ms' ∧ FMap.NodupKeys md')

theorem copyDirBody_flat {w : World} {i j : Nat} {ms md : FMap}
    (hi : MemLeafAt w i ms) (hj : MemLeafAt w j md) (sid did fuel : Nat) (S : Str) (bs : List Str)
    (hbs : ∀ c ∈ bs, '/' ∉ c) (hnd : FMap.NodupKeys ms) (hwfd : WF md) (hflat : FlatDir ms S)
    (hfresh : FreshDest md (renderC bs)) (hout : i = j → parentInternal (renderC bs) ≠ S)
    (hfuel : (ms.keys.filterMap (childName S)).length < fuel) :
    ∃ w', VPath.copyDirBody fuel { fs := leafFS i, fsId := sid, path := S }
            { fs := leafFS j, fsId := did, path := renderC bs } w =
          (.ok (ms.keys.filterMap (childName S)).length, w') ∧
      FlatDirCopied i j ms md S (renderC bs) w w' := by
  obtain ⟨se, hse, hsd⟩ := hflat.isDir
  -- on one leaf a present key is not the fresh destination
  have hnotD : i = j → ∀ k e, ms.find? k = some e → k ≠ renderC bs := by
    intro hij k e hk heq
    subst hij
    rw [hi.unique hj, heq, hfresh.absent] at hk; cases hk
  have hj1 := hj.set (md.insert (renderC bs) dirEntryNow)
  obtain ⟨ms1, hcd, hi1, hms1, hwf1, hnd1, hlist⟩ := createDir_mem hi hj did _ hfresh
  have hlist1 := hlist S hout
  have hse1 : ms1.find? S = some se := by
    rw [hms1, if_neg fun ⟨hij, heq⟩ => hnotD hij S se hse heq]; exact hse
  have hsrc1 : ∀ n ∈ ms.keys.filterMap (childName S), ms1.find? (S ++ '/' :: n) = ms.find? (S ++ '/' :: n) := by
    intro n hn
    obtain ⟨_, e, he, _⟩ := hflat.files n hn
    rw [hms1, if_neg fun ⟨hij, heq⟩ => hnotD hij _ e he heq]
  obtain ⟨w', hrun', hothers', ⟨ms', md', hi', hj', hdst', hsrc', hmdf', hmsf'⟩, hinv'⟩ :=
    copyItems_flat (i := i) (j := j) sid did S bs hbs (ms.keys.filterMap (childName S)) fuel 0
      (w.setLeafFiles j (md.insert (renderC bs) dirEntryNow)) ms1 (md.insert (renderC bs) dirEntryNow)
      hi1 hj1 hfuel (filterMap_childName_nodup ms S hnd) (fun n hn => (hflat.files n hn).1)
      (fun n hn => by rw [hsrc1 n hn]; exact (hflat.files n hn).2)
      ⟨dirEntryNow, by simp, rfl⟩
      (fun n _ => by
        rw [FMap.find?_insert_ne _ _ _ _ (child_ne _ n)]
        exact hfresh.child_absent hwfd n)
  refine ⟨w', ?_, ?_, ms', md', hi', hj', ?_, ?_, ?_, ?_, ?_, ?_, ?_⟩
  · unfold VPath.copyDirBody
    simp only [bind, M.bind, M.withPath, hcd, VPath.walkDir, VPath.readDir, run_readDir hi1,
      Mem.readDir_dir ms1 S se hse1 hsd, hlist1, Res.withPath, pure, M.pure, VPath.withStr, hrun',
      Nat.zero_add]
  · intro l hl hl'
    rw [hothers' l hl hl', World.leaf?_setLeafFiles_ne _ _ _ _ (Ne.symm hl')]
  · rw [hmdf' _ (fun n _ => (child_ne _ n).symm)
      (fun hij n hn heq => by
        obtain ⟨_, e, he, _⟩ := hflat.files n hn
        exact hnotD hij _ e he heq.symm)]
    simp
  · intro n hn
    obtain ⟨e, he, hd⟩ := hdst' n hn
    exact ⟨e, by rw [← hsrc1 n hn]; exact he, hd⟩
  · intro n hn
    obtain ⟨e, he, hd⟩ := hsrc' n hn
    exact ⟨e, by rw [← hsrc1 n hn]; exact he, hd⟩
  · intro k hk1 hk2 hk3
    rw [hmdf' k hk2 hk3, FMap.find?_insert_ne _ _ _ _ hk1]
  · intro k hk1 hk2
    rw [hmsf' k hk1 (fun hij => (hk2 hij).2), hms1, if_neg (fun ⟨hij, heq⟩ => (hk2 hij).1 heq)]
  · intro hwf
    obtain ⟨pe, hpe, hpd⟩ := hfresh.parent
    exact (hinv' ms' md' hi' hj').1 (hwf1 hwf) (hwfd.insert_dir _ _ rfl hfresh.slash pe hpe hpd)
  · intro hndd
    exact (hinv' ms' md' hi' hj').2 (hnd1 hnd) (FMap.nodup_insert _ _ _ hndd)

theorem copyDir_flat {w : World} {i j : Nat} {ms md : FMap}
    (hi : MemLeafAt w i ms) (hj : MemLeafAt w j md) (sid did fuel : Nat) (S : Str) (bs : List Str)
    (hbs : ∀ c ∈ bs, '/' ∉ c) (hnd : FMap.NodupKeys ms) (hwfd : WF md) (hflat : FlatDir ms S)
    (hfresh : FreshDest md (renderC bs)) (hout : i = j → parentInternal (renderC bs) ≠ S)
    (hfuel : (ms.keys.filterMap (childName S)).length < fuel) :
    ∃ w', VPath.copyDir fuel { fs := leafFS i, fsId := sid, path := S }
            { fs := leafFS j, fsId := did, path := renderC bs } w =
          (.ok (ms.keys.filterMap (childName S)).length, w') ∧
      FlatDirCopied i j ms md S (renderC bs) w w' := by
  obtain ⟨w', hrun, hres⟩ := copyDirBody_flat hi hj sid did fuel S bs hbs hnd hwfd hflat hfresh hout hfuel
  exact ⟨w', VPath.copyDir_of_body (run_vexists_absent hj did _ hfresh.absent) hrun, hres⟩

/-- a key below `S` whose last component is `n` has its parent below `S` (or is a child of `S`) -/
theorem under_parent (S D n : Str) (hn : '/' ∉ n) (hne : D ++ '/' :: n ≠ S)
    (h : under S (D ++ '/' :: n) = true) : under S D = true := by
  rcases (under_iff _ _).1 h with h | ⟨t, ht⟩
  · exact absurd h hne
  · have hp := congrArg parentInternal ht
    rw [parent_of_child D n hn] at hp
    by_cases hs : '/' ∈ t
    · obtain ⟨h1, h2⟩ := split_last '/' t hs
      have : S ++ '/' :: t = (S ++ '/' :: beforeLast '/' t) ++ '/' :: afterLast '/' t := by
        conv => lhs; rw [h1]
        simp
      rw [this, parent_of_child _ _ h2] at hp
      exact (under_iff _ _).2 (Or.inr ⟨_, hp⟩)
    · rw [parent_of_child S t hs] at hp
      rw [hp]; exact under_self S

/-- What `move_dir S → D` of a flat directory leaves behind: the destination as after `copy_dir`,
NO key at or below `S`, everything else unchanged. -/
structure FlatDirMoved (i j : Nat) (ms md : FMap) (S D : Str) (w w' : World) : Prop where
  others : ∀ l, l ≠ i → l ≠ j → w'.leaf? l = w.leaf? l
  leaves : ∃ ms' md', MemLeafAt w' i ms' ∧ MemLeafAt w' j md' ∧
    -- no trace of the source
    (∀ k, under S k = true → ms'.find? k = none) ∧
    md'.find? D = some dirEntryNow ∧
    (∀ n ∈ ms.keys.filterMap (childName S), ∃ e, ms.find? (S ++ '/' :: n) = some e ∧
      md'.find? (D ++ '/' :: n) = some (copiedEntry e.content)) ∧
    (∀ k, k ≠ D → (∀ n ∈ ms.keys.filterMap (childName S), k ≠ D ++ '/' :: n) →
      (i = j → under S k = false) → md'.find? k = md.find? k) ∧
    (∀ k, under S k = false →
      (i = j → k ≠ D ∧ ∀ n ∈ ms.keys.filterMap (childName S), k ≠ D ++ '/' :: n) →
      ms'.find? k = ms.find? k)

theorem moveDir_flat {w : World} {i j : Nat} {ms md : FMap}
    (hi : MemLeafAt w i ms) (hj : MemLeafAt w j md) (sid did fuel : Nat) (S : Str) (bs : List Str)
    (hbs : ∀ c ∈ bs, '/' ∉ c) (hnds : FMap.NodupKeys ms) (hndd : FMap.NodupKeys md)
    (hwfs : WF ms) (hwfd : WF md) (hflat : FlatDir ms S) (hS : S ≠ [])
    (hfresh : FreshDest md (renderC bs)) (hout : i = j → under S (renderC bs) = false)
    (hfuel : (ms.keys.filterMap (childName S)).length < fuel)
    (hb1 : ∀ k e', ms.find? k = some e' → k.length < S.length + fuel)
    (hb2 : i = j → (renderC bs).length < S.length + fuel ∧
      ∀ n ∈ ms.keys.filterMap (childName S), (renderC bs ++ '/' :: n).length < S.length + fuel) :
    ∃ w', VPath.moveDir fuel { fs := leafFS i, fsId := sid, path := S }
            { fs := leafFS j, fsId := did, path := renderC bs } w = (.ok (), w') ∧
      FlatDirMoved i j ms md S (renderC bs) w w' := by
  obtain ⟨se, hse, hsd⟩ := hflat.isDir
  have hsame : i = j → ms = md := fun hij => by subst hij; exact hi.unique hj
  have hout' : i = j → parentInternal (renderC bs) ≠ S := by
    intro hij hp
    have := parentInternal_split (renderC bs) hfresh.slash
    rw [hp] at this
    have hu : under S (renderC bs) = true := (under_iff _ _).2 (Or.inr ⟨_, this⟩)
    rw [hout hij] at hu; cases hu
  have hchild : ∀ n, under S (S ++ '/' :: n) = true := fun n => (under_iff _ _).2 (Or.inr ⟨n, rfl⟩)
  -- facts for the same-leaf case
  have F1 : i = j → S ≠ renderC bs := by
    intro hij heq; rw [hsame hij, heq, hfresh.absent] at hse; cases hse
  have F2 : i = j → ∀ n, S ≠ renderC bs ++ '/' :: n := by
    intro hij n heq; rw [hsame hij, heq, hfresh.child_absent hwfd n] at hse; cases hse
  have F3 : i = j → ∀ n ∈ ms.keys.filterMap (childName S), under S (renderC bs ++ '/' :: n) = false := by
    intro hij n hn
    cases hu : under S (renderC bs ++ '/' :: n) with
    | false => rfl
    | true =>
      have := under_parent S (renderC bs) n (hflat.files n hn).1.2.1 (Ne.symm (F2 hij n)) hu
      rw [hout hij] at this; cases this
  have notchild : ∀ k, under S k = false → ∀ n ∈ ms.keys.filterMap (childName S), k ≠ S ++ '/' :: n := by
    intro k hk n _ heq; rw [heq, hchild n] at hk; cases hk
  obtain ⟨w1, hrun1, hothers1, ms1, md1, hi1, hj1, hD1, hdst1, hsrc1, hmdf1, hmsf1, hwf1, hnd1⟩ :=
    copyDirBody_flat hi hj sid did fuel S bs hbs hnds hwfd hflat hfresh hout' hfuel
  have hSu : under S S = true := under_self S
  -- the source directory is still there
  have hS1 : ms1.find? S = some se := by
    rw [hmsf1 S (fun n _ => (child_ne S n).symm)
      (fun hij => ⟨F1 hij, fun n _ => F2 hij n⟩)]
    exact hse
  have hbound : ∀ k e', ms1.find? k = some e' → k.length < S.length + fuel := by
    intro k e' hk
    by_cases h1 : ∃ n ∈ ms.keys.filterMap (childName S), k = S ++ '/' :: n
    · obtain ⟨n, hn, rfl⟩ := h1
      obtain ⟨_, e, he, _⟩ := hflat.files n hn
      exact hb1 _ e he
    · by_cases hij : i = j
      · by_cases h2 : k = renderC bs
        · subst h2; exact (hb2 hij).1
        · by_cases h3 : ∃ n ∈ ms.keys.filterMap (childName S), k = renderC bs ++ '/' :: n
          · obtain ⟨n, hn, rfl⟩ := h3; exact (hb2 hij).2 n hn
          · rw [hmsf1 k (fun n hn heq => h1 ⟨n, hn, heq⟩)
              (fun _ => ⟨h2, fun n hn heq => h3 ⟨n, hn, heq⟩⟩)] at hk
            exact hb1 k e' hk
      · rw [hmsf1 k (fun n hn heq => h1 ⟨n, hn, heq⟩) (fun h => absurd h hij)] at hk
        exact hb1 k e' hk
  obtain ⟨ms2, hrun2, _, _, hrem⟩ := rd_all i sid fuel w1 ms1 S se hi1 (hwf1 hwfs).1 (hnd1 hndd).1
    hS hS1 hsd hbound
  refine ⟨w1.setLeafFiles i ms2, ?_, ?_, ?_⟩
  · exact VPath.moveDir_of_body (run_vexists_absent hj did _ hfresh.absent)
      (fun _ => ⟨none, run_moveDir_mem hi _ _⟩) hrun1 hrun2
  · intro l hl hl'
    rw [World.leaf?_setLeafFiles_ne _ _ _ _ (Ne.symm hl), hothers1 l hl hl']
  · by_cases hij : i = j
    · subst hij
      have e1 := hi1.unique hj1
      subst e1
      have e2 := hsame rfl
      subst e2
      refine ⟨ms2, ms2, hi1.set ms2, hi1.set ms2, ?_, ?_, ?_, ?_, ?_⟩
      · intro k hk; rw [hrem k, hk]; rfl
      · rw [hrem, hout rfl]; exact hD1
      · intro n hn
        obtain ⟨e, he, hd⟩ := hdst1 n hn
        exact ⟨e, he, by rw [hrem, F3 rfl n hn]; exact hd⟩
      · intro k hk1 hk2 hk3
        rw [hrem, hk3 rfl]
        exact hmdf1 k hk1 hk2 (fun _ => notchild k (hk3 rfl))
      · intro k hk1 hk2
        rw [hrem, hk1]
        exact hmsf1 k (notchild k hk1) hk2
    · refine ⟨ms2, md1, hi1.set ms2, hj1.set_ne hij ms2, ?_, hD1, hdst1, ?_, ?_⟩
      · intro k hk; rw [hrem k, hk]; rfl
      · intro k hk1 hk2 _
        exact hmdf1 k hk1 hk2 (fun h => absurd h hij)
      · intro k hk1 _
        rw [hrem, hk1]
        exact hmsf1 k (notchild k hk1) (fun h => absurd h hij)

/-- in a well-formed map the shorter prefixes of a present path are existing directories -/
theorem WF.chain_dirs {m : FMap} (hwf : WF m) (a : List Str) (c : Str) (e : Entry)
    (hq : m.find? (renderC (a ++ [c])) = some e) :
    ∀ q' ∈ ancChain a, q' ≠ [] ∧ ∃ e', m.find? q' = some e' ∧ e'.ftype = .dir := by
  intro q' hq'
  obtain ⟨k, hk, rfl⟩ := (mem_ancChain a q').1 hq'
  have hsplit : renderC (a ++ [c]) = renderC (a.take (k + 1)) ++ renderC (a.drop (k + 1) ++ [c]) := by
    rw [← renderC_append, ← List.append_assoc, List.take_append_drop]
  have hne : a.take (k + 1) ≠ [] := by
    cases a with
    | nil => simp at hk
    | cons x xs => simp
  constructor
  · cases htk : a.take (k + 1) with
    | nil => exact absurd htk hne
    | cons x xs => simp
  · rw [hsplit] at hq
    cases hd : a.drop (k + 1) ++ [c] with
    | nil => simp at hd
    | cons x xs => rw [hd] at hq; exact hwf.above_present _ (x ++ renderC xs) e hq

/-- on a well-formed map: a file among the prefixes stops `create_dir_all` with
`FileExists(that prefix)` and NOTHING has changed, because the shorter prefixes all exist -/
theorem createDirAllLoop_file_wf (m : FMap) (hm : WF m) (a b : List Str) (c : Str) (e : Entry)
    (hsl : ∀ x ∈ a ++ [c], '/' ∉ x)
    (hfile : m.find? (renderC (a ++ [c])) = some e) (hft : e.ftype = .file) :
    Mem.mkdirs m (ancChain (a ++ c :: b)) =
      (.err .fileExists (some (renderC (a ++ [c]))), m) := by
  have hdirs := hm.chain_dirs a c e hfile
  have := (createDirAllLoop_file m hm a b c e hsl
    (fun q hq e' he' => by
      obtain ⟨_, e'', he'', hd⟩ := hdirs q hq
      rw [he'] at he''; injection he'' with he''; subst he''; exact hd) hfile hft).1
  rw [this, createDirAllLoop_existing m hm (ancChain a) hdirs]

/-! ### 7. evaluation helpers for the concrete examples -/

/-- all keys are shorter than `n` -/
theorem keys_bound (m : FMap) (n : Nat) (h : m.keys.all (fun k => decide (k.length < n)) = true) :
    ∀ k e, m.find? k = some e → k.length < n := by
  intro k e hk
  have hmem : k ∈ m.keys := (FMap.mem_keys_iff m k).2 ⟨e, hk⟩
  simpa using List.all_eq_true.1 h k hmem

end Vfs
