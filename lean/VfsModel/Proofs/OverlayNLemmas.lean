/-
  Helper lemmas for the n-layer generalisation of C09 (Props/C09N.lean).

  * the setting `OWN w is ids ms`: the leaves `is` (pairwise distinct) of the world are memory
    leaves holding the maps `ms`; `layersN is ids` are the roots of those leaf filesystems;
  * the union view of n layers `viewN ms p`, the layer that serves a path (`FirstAt`), and the
    pure functions `firstPath`, `mergeAll`, `pListingN`, `pexistsN`, `pEnsureN`;
  * the `run_*N` lemmas: `firstExisting`, `read_path`, `exists`, `mergeListings`, `read_dir`,
    `ensure_has_parent` of the overlay over n leaf roots compute those pure functions
    (induction over the list of layers; the per-layer facts are the `run_v*` lemmas of
    OverlayLemmas.lean; `run_oreadDirN_of_tail`: `read_dir` for an arbitrary answer of the listing
    step, of which `run_oreadDirN` is the successful case);
  * `create_dir`, `create_file` and the two `clear_whiteout`s over n layers: the pure functions
    `pCreateDirN`, `pRefuseN`, `pCreateFileN` with `run_ocreateDirN`, `run_refuseDirN`,
    `run_ocreateFileN`, `run_clearWhiteoutN`, `run_clearWhiteoutTN`;
  * `ensure_has_parent` keeps the n-layer view (`view_fillDirsN`); `pEnsureN` by the branch it takes
    (`pEnsureN_absent/_notDir/_dir/_cases`, `pEnsureN_ok`, `pEnsureN_file`);
  * two layers, as instances: the bridges `pexistsN_two`, `pEnsureN_two`, `dirEntryN_two`,
    `pReadDirN_two` to the definitions of OverlayLemmas.lean, and what the two-layer `pListing` and
    `view` do;
  * `metadata` and the parent probe of `VfsPath::create_dir` / `create_file` through the overlay
    (`run_ometadataN`, `run_getParent_overlayN`).
-/
import VfsModel.Proofs.OverlayLemmas
namespace Vfs
open Overlay

/-! ### the setting: n memory leaves, n layer roots -/

/-- the leaves `is` (pairwise distinct) of the world are memory leaves holding the maps `ms`;
`ids` are the (arbitrary) filesystem identities of the layers. The three lists have the same
length by construction. -/
inductive OWN (w : World) : List Nat → List Nat → List FMap → Prop
  | nil : OWN w [] [] []
  | cons {i id : Nat} {m : FMap} {is ids : List Nat} {ms : List FMap} :
      MemLeafAt w i m → i ∉ is → OWN w is ids ms → OWN w (i :: is) (id :: ids) (m :: ms)

/-- the layers of the overlay: the ROOTS of the leaf filesystems `is`, in order -/
def layersN : List Nat → List Nat → List VPath
  | i :: is, id :: ids => { fs := leafFS i, fsId := id, path := [] } :: layersN is ids
  | _, _ => []

theorem layersN_two (u l idu idl : Nat) : layersN [u, l] [idu, idl] = layers2 u l idu idl := rfl

theorem mem_layersN {is ids : List Nat} {l : VPath} (h : l ∈ layersN is ids) :
    ∃ k ∈ is, l.fs = leafFS k := by
  induction is generalizing ids with
  | nil => simp [layersN] at h
  | cons i is ih =>
    cases ids with
    | nil => simp [layersN] at h
    | cons id ids =>
      simp only [layersN, List.mem_cons] at h
      rcases h with rfl | h
      · exact ⟨i, by simp, rfl⟩
      · obtain ⟨k, hk, hl⟩ := ih h
        exact ⟨k, by simp [hk], hl⟩

theorem OWN.len_ids {w : World} {is ids : List Nat} {ms : List FMap} (h : OWN w is ids ms) :
    is.length = ids.length := by
  induction h with
  | nil => rfl
  | cons _ _ _ ih => simp [ih]

theorem OWN.len_ms {w : World} {is ids : List Nat} {ms : List FMap} (h : OWN w is ids ms) :
    is.length = ms.length := by
  induction h with
  | nil => rfl
  | cons _ _ _ ih => simp [ih]

theorem OWN.nodup {w : World} {is ids : List Nat} {ms : List FMap} (h : OWN w is ids ms) :
    is.Nodup := by
  induction h with
  | nil => exact List.nodup_nil
  | cons _ hni _ ih => exact List.nodup_cons.2 ⟨hni, ih⟩

theorem OWN.leafAt {w : World} {is ids : List Nat} {ms : List FMap} (h : OWN w is ids ms)
    (k i : Nat) (m : FMap) (hi : is[k]? = some i) (hm : ms[k]? = some m) : MemLeafAt w i m := by
  induction h generalizing k with
  | nil => simp at hi
  | cons h0 _ _ ih =>
    cases k with
    | zero => simp at hi hm; subst hi; subst hm; exact h0
    | succ k => simp at hi hm; exact ih k hi hm

/-- the setting, spelled out with indices -/
theorem OWN.of_lists {w : World} {is ids : List Nat} {ms : List FMap}
    (h1 : is.length = ids.length) (h2 : is.length = ms.length) (hnd : is.Nodup)
    (hl : ∀ (k i : Nat) (m : FMap), is[k]? = some i → ms[k]? = some m → MemLeafAt w i m) :
    OWN w is ids ms := by
  induction is generalizing ids ms with
  | nil =>
    cases ids with
    | nil =>
      cases ms with
      | nil => exact .nil
      | cons _ _ => simp at h2
    | cons _ _ => simp at h1
  | cons i is ih =>
    cases ids with
    | nil => simp at h1
    | cons id ids =>
      cases ms with
      | nil => simp at h2
      | cons m ms =>
        have hnd' := List.nodup_cons.1 hnd
        refine .cons (hl 0 i m rfl rfl) hnd'.1 (ih (by simpa using h1) (by simpa using h2) hnd'.2 ?_)
        intro k j mj hj hmj
        exact hl (k + 1) j mj (by simpa using hj) (by simpa using hmj)

/-- changing the map of a leaf that is not among the layers -/
theorem OWN.frame {w : World} {is ids : List Nat} {ms : List FMap} (h : OWN w is ids ms)
    (i : Nat) (hi : i ∉ is) (m' : FMap) : OWN (w.setLeafFiles i m') is ids ms := by
  induction h with
  | nil => exact .nil
  | @cons j id m is ids ms h0 hni _ ih =>
    have hij : i ≠ j := fun e => hi (by simp [e])
    exact .cons (h0.set_ne hij m') hni (ih (fun hm => hi (by simp [hm])))

/-- the upper layer's map changes -/
theorem OWN.setHead {w : World} {u idu : Nat} {mu : FMap} {is ids : List Nat} {ms : List FMap}
    (h : OWN w (u :: is) (idu :: ids) (mu :: ms)) (m' : FMap) :
    OWN (w.setLeafFiles u m') (u :: is) (idu :: ids) (m' :: ms) := by
  cases h with
  | cons h0 hni ht => exact .cons (h0.set m') hni (ht.frame u hni m')

/-- the map of layer `k` changes -/
theorem OWN.setAt {w : World} {is ids : List Nat} {ms : List FMap} (h : OWN w is ids ms)
    (k i : Nat) (hi : is[k]? = some i) (m' : FMap) :
    OWN (w.setLeafFiles i m') is ids (ms.set k m') := by
  induction h generalizing k with
  | nil => simp at hi
  | @cons j id m is ids ms h0 hni ht ih =>
    cases k with
    | zero =>
      simp at hi; subst hi
      exact .cons (h0.set m') hni (ht.frame _ hni m')
    | succ k =>
      simp at hi
      have hmem : i ∈ is := List.mem_of_getElem? hi
      have hij : i ≠ j := fun e => hni (e ▸ hmem)
      simp only [List.set_cons_succ]
      exact .cons (h0.set_ne hij m') hni (ih k hi)

theorem OW.toN {w : World} {u l : Nat} {mu ml : FMap} (h : OW w u l mu ml) (idu idl : Nat) :
    OWN w [u, l] [idu, idl] [mu, ml] :=
  .cons h.hu (by simpa using h.ne) (.cons h.hl (by simp) .nil)

theorem OWN.toOW {w : World} {u l idu idl : Nat} {mu ml : FMap}
    (h : OWN w [u, l] [idu, idl] [mu, ml]) : OW w u l mu ml := by
  cases h with
  | cons h0 hni ht =>
    cases ht with
    | cons h1 _ _ => exact ⟨h0, h1, by simpa using hni⟩

theorem OWN.lower_single {w : World} {u l idu idl : Nat} {mu : FMap} {ms : List FMap}
    (h : OWN w [u, l] [idu, idl] (mu :: ms)) : ∃ ml, ms = [ml] := by
  have hlen := h.len_ms
  match ms, hlen with
  | [ml], _ => exact ⟨ml, rfl⟩
  | [], hlen => simp at hlen
  | _ :: _ :: _, hlen => simp at hlen

theorem writeLayer_layersN (u idu : Nat) (is ids : List Nat) :
    writeLayer (layersN (u :: is) (idu :: ids)) = { fs := leafFS u, fsId := idu, path := [] } := rfl

/-! ### the union view of n layers -/

/-- the entry of the first layer (in order) whose map has the path -/
def firstN : List FMap → Str → Option Entry
  | [], _ => none
  | m :: rest, p => (m.find? p).or (firstN rest p)

/-- the union view of n layers: nothing where a marker sits in the upper (first) layer,
otherwise the entry of the first layer that has the path -/
def viewN (ms : List FMap) (p : Str) : Option Entry :=
  if (ms.headD []).contains (marker p) then none else firstN ms p

theorem viewN_two (mu ml : FMap) (p : Str) : viewN [mu, ml] p = view mu ml p := by
  unfold viewN view firstN firstN firstN
  simp

theorem viewN_cons (mu : FMap) (ms : List FMap) (p : Str) :
    viewN (mu :: ms) p = if mu.contains (marker p) then none else firstN (mu :: ms) p := rfl

theorem viewN_marked {mu : FMap} {ms : List FMap} {p : Str}
    (hm : mu.contains (marker p) = true) : viewN (mu :: ms) p = none := by
  rw [viewN_cons, if_pos hm]

theorem viewN_unmarked {mu : FMap} {ms : List FMap} {p : Str}
    (hm : mu.contains (marker p) = false) : viewN (mu :: ms) p = firstN (mu :: ms) p := by
  rw [viewN_cons, hm]; rfl

/-- layer `k` (holding `m`) is the first one whose map has `p` -/
structure FirstAt (ms : List FMap) (p : Str) (k : Nat) (m : FMap) : Prop where
  get : ms[k]? = some m
  has : m.contains p = true
  before : ∀ j mj, j < k → ms[j]? = some mj → mj.find? p = none

theorem firstN_of_firstAt {ms : List FMap} {p : Str} {k : Nat} {m : FMap}
    (h : FirstAt ms p k m) : firstN ms p = m.find? p := by
  induction ms generalizing k with
  | nil => have := h.get; simp at this
  | cons m0 ms ih =>
    cases k with
    | zero =>
      have hg := h.get; simp at hg; subst hg
      obtain ⟨e, he⟩ := (FMap.contains_iff _ _).1 h.has
      simp [firstN, he]
    | succ k =>
      have h0 : m0.find? p = none := h.before 0 m0 (by omega) rfl
      have : FirstAt ms p k m :=
        ⟨by simpa using h.get, h.has, fun j mj hj hmj => h.before (j + 1) mj (by omega) (by simpa using hmj)⟩
      simp [firstN, h0, ih this]

theorem firstN_none_iff (ms : List FMap) (p : Str) :
    firstN ms p = none ↔ ∀ m ∈ ms, m.find? p = none := by
  induction ms with
  | nil => simp [firstN]
  | cons m ms ih =>
    simp only [firstN, List.mem_cons, forall_eq_or_imp, ← ih]
    cases m.find? p <;> simp

/-- an entry of `firstN` comes from a first layer -/
theorem firstN_some {ms : List FMap} {p : Str} {e : Entry} (h : firstN ms p = some e) :
    ∃ k m, FirstAt ms p k m ∧ m.find? p = some e := by
  induction ms with
  | nil => simp [firstN] at h
  | cons m0 ms ih =>
    rcases Option.eq_none_or_eq_some (m0.find? p) with h0 | ⟨e0, h0⟩
    · simp only [firstN, h0, Option.none_or] at h
      obtain ⟨k, m, hf, he⟩ := ih h
      refine ⟨k + 1, m, ⟨by simpa using hf.get, hf.has, ?_⟩, he⟩
      intro j mj hj hmj
      cases j with
      | zero => simp at hmj; subst hmj; exact h0
      | succ j => exact hf.before j mj (by omega) (by simpa using hmj)
    · simp only [firstN, h0, Option.some_or, Option.some.injEq] at h
      subst h
      exact ⟨0, m0, ⟨rfl, contains_of_find h0, fun j _ hj => by omega⟩, h0⟩

theorem firstN_isSome (ms : List FMap) (p : Str) :
    (firstN ms p).isSome = ms.any (fun m => m.contains p) := by
  induction ms with
  | nil => rfl
  | cons m ms ih =>
    rcases Option.eq_none_or_eq_some (m.find? p) with hf | ⟨e, hf⟩
    · simp [firstN, hf, contains_of_none hf, ih]
    · simp [firstN, hf, contains_of_find hf]

theorem viewN_isSome (mu : FMap) (ms : List FMap) (p : Str) :
    (viewN (mu :: ms) p).isSome =
      (!mu.contains (marker p) && (mu :: ms).any (fun m => m.contains p)) := by
  rw [viewN_cons, ← firstN_isSome]
  cases mu.contains (marker p) <;> simp

theorem viewN_some_cases {mu : FMap} {ms : List FMap} {p : Str} {e : Entry}
    (h : viewN (mu :: ms) p = some e) :
    mu.contains (marker p) = false ∧ ∃ k m, FirstAt (mu :: ms) p k m ∧ m.find? p = some e := by
  rw [viewN_cons] at h
  split at h
  · cases h
  · rename_i hm
    exact ⟨by simpa using hm, firstN_some h⟩

/-! ### `firstExisting` and `read_path` over n leaf roots -/

/-- the path `firstExisting` returns: the first layer root whose map has `p`, at `p` -/
def firstPath (p : Str) : List Nat → List Nat → List FMap → Option VPath
  | i :: is, id :: ids, m :: ms =>
    if m.contains p then some { fs := leafFS i, fsId := id, path := p } else firstPath p is ids ms
  | _, _, _ => none

theorem run_firstExistingN {w : World} {is ids : List Nat} {ms : List FMap} (h : OWN w is ids ms)
    (cs : List Str) (hne : cs ≠ []) (hcs : ∀ c ∈ cs, GoodComp c) :
    firstExisting (renderC cs) (layersN is ids) w = (.ok (firstPath (renderC cs) is ids ms), w) := by
  induction h with
  | nil => rfl
  | @cons i id m is ids ms h0 hni ht ih =>
    unfold layersN firstExisting firstPath
    rw [join_leafRoot i id cs hne hcs]
    by_cases h1 : m.contains (renderC cs) = true
    · simp [h1, bind, M.bind, M.ret, run_vexists h0, Pure.pure, M.pure]
    · simp [h1, bind, M.bind, M.ret, run_vexists h0, ih]

/-- what a result of `firstPath` is (no world in it: `firstPath` looks at the maps only;
`OWN.firstPath_some` adds the leaf of the setting) -/
theorem firstPath_some {p : Str} {q : VPath} : ∀ {is ids : List Nat} {ms : List FMap},
    firstPath p is ids ms = some q →
    ∃ k i id m, FirstAt ms p k m ∧ is[k]? = some i ∧ ids[k]? = some id ∧
      q = { fs := leafFS i, fsId := id, path := p }
  | [], _, _, h => by simp [firstPath] at h
  | _ :: _, [], _, h => by simp [firstPath] at h
  | _ :: _, _ :: _, [], h => by simp [firstPath] at h
  | i :: is, id :: ids, m :: ms, h => by
    unfold firstPath at h
    by_cases h1 : m.contains p = true
    · rw [if_pos h1] at h
      injection h with h
      exact ⟨0, i, id, m, ⟨rfl, h1, fun j _ hj => by omega⟩, rfl, rfl, h.symm⟩
    · rw [if_neg h1] at h
      obtain ⟨k, i', id', m', hf, hi, hid, hq'⟩ := firstPath_some h
      refine ⟨k + 1, i', id', m', ⟨by simpa using hf.get, hf.has, ?_⟩, by simpa using hi,
        by simpa using hid, hq'⟩
      intro j mj hj hmj
      cases j with
      | zero =>
        simp at hmj; subst hmj
        have : m.contains p = false := by simpa using h1
        exact find?_none_of_contains this
      | succ j => exact hf.before j mj (by omega) (by simpa using hmj)

theorem firstPath_none {p : Str} : ∀ {is ids : List Nat} {ms : List FMap},
    firstPath p is ids ms = none → is.length = ids.length → is.length = ms.length →
    ∀ m ∈ ms, m.find? p = none
  | [], _, ms, _, _, h2 => by
    cases ms with
    | nil => simp
    | cons _ _ => simp at h2
  | _ :: _, [], _, _, h1, _ => by simp at h1
  | _ :: _, _ :: _, [], _, _, h2 => by simp at h2
  | i :: is, id :: ids, m :: ms, h, h1, h2 => by
    unfold firstPath at h
    by_cases hc : m.contains p = true
    · rw [if_pos hc] at h; cases h
    · rw [if_neg hc] at h
      intro m' hm'
      rcases List.mem_cons.1 hm' with rfl | hm'
      · have : m'.contains p = false := by simpa using hc
        exact find?_none_of_contains this
      · exact firstPath_none h (by simpa using h1) (by simpa using h2) m' hm'

theorem OWN.firstPath_some {w : World} {is ids : List Nat} {ms : List FMap} (h : OWN w is ids ms)
    {p : Str} {q : VPath} (hq : firstPath p is ids ms = some q) :
    ∃ k i id m, FirstAt ms p k m ∧ is[k]? = some i ∧ ids[k]? = some id ∧ MemLeafAt w i m ∧
      q = { fs := leafFS i, fsId := id, path := p } :=
  let ⟨k, i, id, m, hf, hi, hid, hq'⟩ := Vfs.firstPath_some hq
  ⟨k, i, id, m, hf, hi, hid, h.leafAt k i m hi hf.get, hq'⟩

theorem OWN.firstPath_none {w : World} {is ids : List Nat} {ms : List FMap} (h : OWN w is ids ms)
    {p : Str} (hq : firstPath p is ids ms = none) : ∀ m ∈ ms, m.find? p = none :=
  Vfs.firstPath_none hq h.len_ids h.len_ms

section runN
variable {w : World} {u idu : Nat} {mu : FMap} {is ids : List Nat} {ms : List FMap}
  (h : OWN w (u :: is) (idu :: ids) (mu :: ms))
include h

theorem OWN.hu : MemLeafAt w u mu := by
  cases h with
  | cons h0 _ _ => exact h0

omit h in
theorem whiteoutPath_layersN (cs : List Str) (hne : cs ≠ []) (hcs : ∀ c ∈ cs, GoodComp c) :
    whiteoutPath (layersN (u :: is) (idu :: ids)) (renderC cs)
      = .ok { fs := leafFS u, fsId := idu, path := marker (renderC cs) } := by
  rcases List.eq_nil_or_concat cs with rfl | ⟨ds, n, rfl⟩
  · exact absurd rfl hne
  · rw [List.concat_eq_append] at hcs ⊢
    obtain ⟨hds, hn⟩ := good_of_snoc hcs
    exact whiteoutPath_canon _ rfl ds n hds hn

omit h in
theorem writePath_layersN (cs : List Str) (hne : cs ≠ []) (hcs : ∀ c ∈ cs, GoodComp c) :
    writePath (layersN (u :: is) (idu :: ids)) (renderC cs)
      = .ok { fs := leafFS u, fsId := idu, path := renderC cs } :=
  writePath_canon _ rfl cs hne hcs

omit h in
theorem writePath_layersN_any (ds : List Str) (hds : ∀ c ∈ ds, GoodComp c) :
    writePath (layersN (u :: is) (idu :: ids)) (renderC ds)
      = .ok { fs := leafFS u, fsId := idu, path := renderC ds } := by
  by_cases hne : ds = []
  · subst hne; rfl
  · exact writePath_layersN ds hne hds

/-- `read_path` on a canonical non-root path, over n leaf roots -/
theorem run_readPathN (cs : List Str) (hne : cs ≠ []) (hcs : ∀ c ∈ cs, GoodComp c) :
    readPath (layersN (u :: is) (idu :: ids)) (renderC cs) w =
      (if mu.contains (marker (renderC cs)) then .err .fileNotFound none
       else match firstPath (renderC cs) (u :: is) (idu :: ids) (mu :: ms) with
         | some q => .ok q
         | none => .err .fileNotFound none, w) := by
  unfold readPath
  rw [if_neg (renderC_ne_nil hne), whiteoutPath_layersN cs hne hcs, writeLayer_layersN,
    join_leafRoot u idu cs hne hcs]
  by_cases hm : mu.contains (marker (renderC cs)) = true
  · simp [hm, bind, M.bind, M.ret, run_vexists h.hu, M.failK, fail]
  · cases hfp : firstPath (renderC cs) (u :: is) (idu :: ids) (mu :: ms) with
    | some q =>
      simp [hm, hfp, bind, M.bind, M.ret, run_vexists h.hu, run_firstExistingN h cs hne hcs,
        Pure.pure, M.pure]
    | none =>
      have h0 : mu.contains (renderC cs) = false :=
        contains_of_none (h.firstPath_none hfp mu (by simp))
      simp [hm, hfp, h0, bind, M.bind, M.ret, run_vexists h.hu, run_firstExistingN h cs hne hcs,
        M.failK, fail]

/-- **`read_path` is the n-layer view**: either the view has nothing at `p` and `read_path`
fails with `FileNotFound`, or it returns `p` on the root of the FIRST layer whose map has `p`,
and the view's entry is that layer's entry. The world is unchanged. -/
theorem readPath_casesN (cs : List Str) (hne : cs ≠ []) (hcs : ∀ c ∈ cs, GoodComp c) :
    (viewN (mu :: ms) (renderC cs) = none ∧
      readPath (layersN (u :: is) (idu :: ids)) (renderC cs) w = (.err .fileNotFound none, w)) ∨
    (∃ k i id m e, FirstAt (mu :: ms) (renderC cs) k m ∧ (u :: is)[k]? = some i ∧
      (idu :: ids)[k]? = some id ∧ MemLeafAt w i m ∧ m.find? (renderC cs) = some e ∧
      mu.contains (marker (renderC cs)) = false ∧
      viewN (mu :: ms) (renderC cs) = some e ∧
      readPath (layersN (u :: is) (idu :: ids)) (renderC cs) w =
        (.ok { fs := leafFS i, fsId := id, path := renderC cs }, w)) := by
  rw [run_readPathN h cs hne hcs]
  by_cases hm : mu.contains (marker (renderC cs)) = true
  · left; exact ⟨viewN_marked hm, by rw [if_pos hm]⟩
  · have hm' : mu.contains (marker (renderC cs)) = false := by simpa using hm
    rw [if_neg hm, viewN_unmarked hm']
    cases hfp : firstPath (renderC cs) (u :: is) (idu :: ids) (mu :: ms) with
    | none => left; exact ⟨(firstN_none_iff _ _).2 (h.firstPath_none hfp), rfl⟩
    | some q =>
      right
      obtain ⟨k, i, id, m, hf, hi, hid, hl, rfl⟩ := h.firstPath_some hfp
      obtain ⟨e, he⟩ := (FMap.contains_iff _ _).1 hf.has
      exact ⟨k, i, id, m, e, hf, hi, hid, hl, he, hm', by rw [firstN_of_firstAt hf, he], rfl⟩

/-- `exists` on a canonical non-root path is "the n-layer view has an entry" -/
theorem run_oexistsN (cs : List Str) (hne : cs ≠ []) (hcs : ∀ c ∈ cs, GoodComp c) :
    Overlay.exists_ (layersN (u :: is) (idu :: ids)) (renderC cs) w
      = (.ok (viewN (mu :: ms) (renderC cs)).isSome, w) := by
  unfold Overlay.exists_
  rw [whiteoutPath_layersN cs hne hcs]
  by_cases hm : mu.contains (marker (renderC cs)) = true
  · simp [hm, viewN_marked hm, bind, M.bind, M.ret, run_vexists h.hu, Pure.pure, M.pure]
  · rcases readPath_casesN h cs hne hcs with ⟨hv, hr⟩ | ⟨k, i, id, m, e, hf, _, _, hl, _, _, hv, hr⟩
    · simp [hm, hv, hr, bind, M.bind, M.ret, run_vexists h.hu]
    · simp [hm, hv, hr, bind, M.bind, M.ret, run_vexists h.hu, run_vexists hl, hf.has]

/-- `exists("")`: the root of the upper layer, unless "/.whiteout/_wo" exists -/
theorem run_oexists_rootN :
    Overlay.exists_ (layersN (u :: is) (idu :: ids)) [] w
      = (.ok (!mu.contains rootMarker && mu.contains []), w) := by
  unfold Overlay.exists_
  rw [whiteoutPath_root _ rfl, writeLayer_layersN]
  by_cases hm : mu.contains rootMarker = true
  · simp [hm, bind, M.bind, M.ret, VPath.withStr, run_vexists h.hu, Pure.pure, M.pure]
  · simp [hm, bind, M.bind, M.ret, VPath.withStr, run_vexists h.hu, readPath, Pure.pure, M.pure,
      writeLayer_layersN]

/-- the pure value of `exists` on a canonical path, the root included -/
def pexistsN (all : List FMap) (p : Str) : Bool :=
  if p = [] then (!(all.headD []).contains rootMarker && (all.headD []).contains [])
  else (viewN all p).isSome

theorem run_oexists_anyN (cs : List Str) (hcs : ∀ c ∈ cs, GoodComp c) :
    Overlay.exists_ (layersN (u :: is) (idu :: ids)) (renderC cs) w
      = (.ok (pexistsN (mu :: ms) (renderC cs)), w) := by
  unfold pexistsN
  by_cases hne : cs = []
  · subst hne; simp only [renderC_nil, if_true]; exact run_oexists_rootN h
  · rw [if_neg (renderC_ne_nil hne)]; exact run_oexistsN h cs hne hcs

end runN

/-! ### listings over n layers -/

/-- the merged listing: every layer, in order, contributes the names it has under `p` -/
def mergeAll (acc : List Str) (ms : List FMap) (p : Str) : List Str :=
  ms.foldl (fun a m => mergeStep a (layerNames m p)) acc

theorem mergeAll_cons (acc : List Str) (m : FMap) (ms : List FMap) (p : Str) :
    mergeAll acc (m :: ms) p = mergeAll (mergeStep acc (layerNames m p)) ms p := rfl

theorem run_mergeListingsN {w : World} {is ids : List Nat} {ms : List FMap} (h : OWN w is ids ms)
    (cs : List Str) (hcs : ∀ c ∈ cs, GoodComp c) (acc : List Str) :
    mergeListings (if renderC cs ≠ [] then tail1 (renderC cs) else renderC cs)
        (layersN is ids) acc w = (.ok (mergeAll acc ms (renderC cs)), w) := by
  induction h generalizing acc with
  | nil => rfl
  | @cons i id m is ids ms h0 _ _ ih =>
    unfold layersN
    rw [mergeListings, join_root_actual _ rfl cs hcs, ret_ok_bind]
    simp only [VPath.withStr]
    rw [run_mergeLayer h0, mergeAll_cons]
    exact ih _

theorem mem_mergeAll (acc : List Str) (ms : List FMap) (p x : Str) :
    x ∈ mergeAll acc ms p ↔ x ∈ acc ∨ ∃ m ∈ ms, x ∈ layerNames m p := by
  induction ms generalizing acc with
  | nil => simp [mergeAll]
  | cons m ms ih =>
    rw [mergeAll_cons, ih, mem_mergeStep]
    simp only [List.mem_cons, exists_eq_or_imp]
    constructor
    · rintro ((a | a) | a)
      · exact Or.inl a
      · exact Or.inr (Or.inl a)
      · exact Or.inr (Or.inr a)
    · rintro (a | a | a)
      · exact Or.inl (Or.inl a)
      · exact Or.inl (Or.inr a)
      · exact Or.inr a

theorem nodup_mergeAll (acc : List Str) (ms : List FMap) (p : Str) (h : acc.Nodup) :
    (mergeAll acc ms p).Nodup := by
  induction ms generalizing acc with
  | nil => exact h
  | cons m ms ih => rw [mergeAll_cons]; exact ih _ (nodup_mergeStep _ _ h)

/-- the listing `read_dir` computes over n layers: merged children, minus the bookkeeping
directory at the root, minus the names marked in the upper layer -/
def pListingN (all : List FMap) (p : Str) : List Str :=
  ((if p = [] then (mergeAll [] all p).filter (fun n => n ≠ woDir) else mergeAll [] all p).filter
    fun n => n ∉ markedNames (all.headD []) p)

theorem pListingN_cons (mu : FMap) (ms : List FMap) (p : Str) :
    pListingN (mu :: ms) p =
      ((if p = [] then (mergeAll [] (mu :: ms) p).filter (fun n => n ≠ woDir)
        else mergeAll [] (mu :: ms) p).filter fun n => n ∉ markedNames mu p) := rfl

theorem pListingN_two (mu ml : FMap) (p : Str) : pListingN [mu, ml] p = pListing mu ml p := rfl

theorem nodup_pListingN (all : List FMap) (p : Str) : (pListingN all p).Nodup := by
  unfold pListingN
  have := nodup_mergeAll [] all p List.nodup_nil
  apply List.Nodup.sublist List.filter_sublist
  split
  · exact List.Nodup.sublist List.filter_sublist this
  · exact this

theorem woDir_not_listedN (all : List FMap) : woDir ∉ pListingN all [] := by
  unfold pListingN
  simp

/-- **the n-layer listing is the union**: a name is listed iff it is a bare name, the n-layer
view has an entry at `p/name`, and it is not the bookkeeping directory at the root -/
theorem mem_pListingN (mu : FMap) (ms : List FMap) (p n : Str)
    (hall : ∀ m ∈ mu :: ms, ChildrenHaveDir m p) (hwo : ChildrenHaveDir mu (woDirOf p)) :
    n ∈ pListingN (mu :: ms) p ↔
      ('/' ∉ n ∧ (viewN (mu :: ms) (p ++ '/' :: n)).isSome = true ∧ (p = [] → n ≠ woDir)) := by
  have hmem : n ∈ mergeAll [] (mu :: ms) p ↔
      ('/' ∉ n ∧ (mu :: ms).any (fun m => m.contains (p ++ '/' :: n)) = true) := by
    rw [mem_mergeAll, List.any_eq_true]
    simp only [List.not_mem_nil, false_or]
    constructor
    · rintro ⟨m, hm, hx⟩
      have := (mem_layerNames m p n (hall m hm)).1 hx
      exact ⟨this.1, m, hm, this.2⟩
    · rintro ⟨hn, m, hm, hc⟩
      exact ⟨m, hm, (mem_layerNames m p n (hall m hm)).2 ⟨hn, hc⟩⟩
  have hmark : '/' ∉ n → (n ∈ markedNames mu p ↔ mu.contains (marker (p ++ '/' :: n)) = true) := by
    intro hn
    apply mem_markedNames mu p n hn
    intro hc
    rw [marker_child] at hc
    obtain ⟨e, he, _⟩ := hwo (n ++ woSuffix)
      (by simp only [List.mem_append, not_or]; exact ⟨hn, by decide⟩) hc
    exact contains_of_find he
  rw [pListingN_cons, viewN_isSome]
  by_cases hp : p = []
  · simp only [hp, if_true, List.mem_filter, decide_eq_true_eq, ne_eq] at hmem hmark ⊢
    rw [hmem]
    constructor
    · rintro ⟨⟨⟨hn, hc⟩, hw⟩, hk⟩
      rw [hmark hn] at hk
      refine ⟨hn, ?_, fun _ => hw⟩
      rw [Bool.and_eq_true]
      exact ⟨by simpa using hk, hc⟩
    · rintro ⟨hn, hv, hw⟩
      rw [Bool.and_eq_true] at hv
      refine ⟨⟨⟨hn, hv.2⟩, hw trivial⟩, ?_⟩
      rw [hmark hn]; simpa using hv.1
  · simp only [hp, if_false, List.mem_filter, decide_eq_true_eq, false_implies, and_true]
    rw [hmem]
    constructor
    · rintro ⟨⟨hn, hc⟩, hk⟩
      rw [hmark hn] at hk
      refine ⟨hn, ?_⟩
      rw [Bool.and_eq_true]
      exact ⟨by simpa using hk, hc⟩
    · rintro ⟨hn, hv⟩
      rw [Bool.and_eq_true] at hv
      refine ⟨⟨hn, hv.2⟩, ?_⟩
      rw [hmark hn]; simpa using hv.1

/-- the entry `read_dir(p)` inspects: the root of the upper layer, or the view of `p` -/
def dirEntryN (all : List FMap) (p : Str) : Option Entry :=
  if p = [] then (all.headD []).find? [] else viewN all p

/-- the outcome of `read_dir(p)` over n layers -/
def pReadDirN (all : List FMap) (p : Str) : Res (List Str) :=
  match dirEntryN all p with
  | none => .err .fileNotFound none
  | some e => if e.ftype = .dir then .ok (pListingN all p) else .err .other none

section runN2
variable {w : World} {u idu : Nat} {mu : FMap} {is ids : List Nat} {ms : List FMap}
  (h : OWN w (u :: is) (idu :: ids) (mu :: ms))
include h

theorem run_readDirTailN (cs : List Str) (hcs : ∀ c ∈ cs, GoodComp c)
    (hwo : ∀ e, mu.find? (woDirOf (renderC cs)) = some e → e.ftype = .dir) :
    readDirTail (layersN (u :: is) (idu :: ids)) (renderC cs) w
      = (.ok (pListingN (mu :: ms) (renderC cs)), w) := by
  unfold readDirTail pListingN markedNames
  simp only [bind, M.bind, run_mergeListingsN h cs hcs, M.ret, List.headD_cons,
    writeLayer_layersN, woDir_join_layers2 cs hcs, run_vexists h.hu]
  rcases Option.eq_none_or_eq_some (mu.find? (woDirOf (renderC cs))) with hf | ⟨e, hf⟩
  · simp only [contains_of_none hf, Bool.false_eq_true, if_false, Pure.pure, M.pure,
      filter_not_mem_nil]
  · have hd := hwo e hf
    simp only [contains_of_find hf, if_true, Pure.pure]
    have hmarks : ∀ names : List Str, (∀ n ∈ names, '/' ∉ n) →
        (names.map (fun n => VPath.withStr (⟨leafFS u, idu, woDirOf (renderC cs)⟩ : VPath)
            (woDirOf (renderC cs) ++ '/' :: n))).filterMap
          (fun m => stripWo (filenameInternal m.path)) = names.filterMap stripWo := by
      intro names
      induction names with
      | nil => intro _; rfl
      | cons n names ih =>
        intro hn
        simp only [List.map_cons, List.filterMap_cons, VPath.withStr]
        rw [show filenameInternal (woDirOf (renderC cs) ++ '/' :: n) = n from
          afterLast_append_delim '/' _ n (hn n (by simp))]
        have := ih (fun x hx => hn x (by simp [hx]))
        simp only [VPath.withStr] at this
        rw [this]
    simp only [M.bind, run_vreadDir_dir h.hu idu _ e hf hd,
      hmarks _ (children_noSlash mu (woDirOf (renderC cs)))]
    rfl

/-- `read_dir` on a canonical path (the root included) over n leaf roots, whatever its listing
step `readDirTail` answers (`t`): not-found where the view has nothing, the listing step on a
directory, `Other` on a file -/
theorem run_oreadDirN_of_tail (cs : List Str) (hcs : ∀ c ∈ cs, GoodComp c) {t : Res (List Str)}
    (htail : readDirTail (layersN (u :: is) (idu :: ids)) (renderC cs) w = (t, w)) :
    Overlay.readDir (layersN (u :: is) (idu :: ids)) (renderC cs) w =
      (match dirEntryN (mu :: ms) (renderC cs) with
        | none => .err .fileNotFound none
        | some e => if e.ftype = .dir then t else .err .other none, w) := by
  rw [readDir_eq_tail]
  unfold dirEntryN
  by_cases hne : cs = []
  · subst hne
    have hrp : readPath (layersN (u :: is) (idu :: ids)) (renderC [])
        = pure (writeLayer (layersN (u :: is) (idu :: ids))) := rfl
    rw [hrp, writeLayer_layersN]
    simp only [renderC_nil, List.headD_cons] at htail ⊢
    rcases Option.eq_none_or_eq_some (mu.find? []) with hf | ⟨e, hf⟩
    · simp [hf, bind, M.bind, Pure.pure, M.pure, run_vexists h.hu, contains_of_none hf, M.failK,
        fail]
    · by_cases hd : e.ftype = .dir
      · simp [hf, hd, bind, M.bind, Pure.pure, M.pure, run_vexists h.hu, contains_of_find hf,
          run_visDir h.hu, htail]
      · simp [hf, hd, bind, M.bind, Pure.pure, M.pure, run_vexists h.hu, contains_of_find hf,
          run_visDir h.hu, M.failK, fail]
  · rw [if_neg (renderC_ne_nil hne)]
    rcases readPath_casesN h cs hne hcs with ⟨hv, hr⟩ | ⟨k, i, id, m, e, hf, _, _, hl, he, _, hv, hr⟩
    · simp [hv, hr, bind, M.bind]
    · by_cases hd : e.ftype = .dir
      · simp [hv, hr, hd, he, bind, M.bind, run_vexists hl, hf.has, run_visDir hl, htail]
      · simp [hv, hr, hd, he, bind, M.bind, run_vexists hl, hf.has, run_visDir hl, M.failK, fail]

/-- `read_dir`, provided "/.whiteout" ++ p is not a file of the upper layer -/
theorem run_oreadDirN (cs : List Str) (hcs : ∀ c ∈ cs, GoodComp c)
    (hwo : ∀ e, mu.find? (woDirOf (renderC cs)) = some e → e.ftype = .dir) :
    Overlay.readDir (layersN (u :: is) (idu :: ids)) (renderC cs) w =
      (pReadDirN (mu :: ms) (renderC cs), w) :=
  run_oreadDirN_of_tail h cs hcs (run_readDirTailN h cs hcs hwo)

/-- `read_path(p)?.metadata()` followed by anything -/
theorem run_readPath_metadataN {β} (cs : List Str) (hne : cs ≠ []) (hcs : ∀ c ∈ cs, GoodComp c)
    (k : Meta → M β) :
    (do let q ← readPath (layersN (u :: is) (idu :: ids)) (renderC cs)
        let md ← q.metadata
        k md : M β) w =
      (match viewN (mu :: ms) (renderC cs) with
       | some e => k e.meta w
       | none => (.err .fileNotFound none, w)) := by
  rcases readPath_casesN h cs hne hcs with ⟨hv, hr⟩ | ⟨j, i, id, m, e, _, _, _, hl, he, _, hv, hr⟩
  · simp [hv, hr, bind, M.bind]
  · simp [hv, hr, he, bind, M.bind, run_vmetadata hl, Mem.metadata, Res.withPath]

/-- `read_path(p)?` followed by anything that ignores the path -/
theorem run_readPath_thenN {β} (cs : List Str) (hne : cs ≠ []) (hcs : ∀ c ∈ cs, GoodComp c)
    (k : M β) :
    (do let _ ← readPath (layersN (u :: is) (idu :: ids)) (renderC cs)
        k : M β) w =
      (match viewN (mu :: ms) (renderC cs) with
       | some _ => k w
       | none => (.err .fileNotFound none, w)) := by
  rcases readPath_casesN h cs hne hcs with ⟨hv, hr⟩ | ⟨j, i, id, m, e, _, _, _, _, _, _, hv, hr⟩
  · simp [hv, hr, bind, M.bind]
  · simp [hv, hr, bind, M.bind]

/-! ### `ensure_has_parent`, `create_dir`, `create_file` over n layers -/

/-- the type test of `ensure_has_parent` (`read_path(parent)?.is_dir()?`) on a canonical path:
the entry of the n-layer view (the root: of the upper layer) is a directory -/
def pIsDirN (all : List FMap) (p : Str) : Bool :=
  match (if p = [] then (all.headD []).find? [] else viewN all p) with
  | some e => decide (e.ftype = .dir)
  | none => false

set_option linter.unusedSectionVars false in
theorem pIsDirN_two (mu ml : FMap) (p : Str) : pIsDirN [mu, ml] p = pIsDir mu ml p := by
  unfold pIsDirN pIsDir
  rw [viewN_two]; rfl

/-- `read_path(p)?.is_dir()?` on a canonical path that exists: the world is unchanged, the
answer is `pIsDirN` -/
theorem run_readPath_isDirN (ds : List Str) (hds : ∀ c ∈ ds, GoodComp c)
    (hex : pexistsN (mu :: ms) (renderC ds) = true) :
    (do let rp ← readPath (layersN (u :: is) (idu :: ids)) (renderC ds)
        rp.isDir : M Bool) w = (.ok (pIsDirN (mu :: ms) (renderC ds)), w) := by
  unfold pIsDirN
  by_cases hne : ds = []
  · subst hne
    simp only [renderC_nil, ↓reduceIte, bind, M.bind, readPath, Pure.pure, M.pure,
      writeLayer_layersN, run_visDir h.hu, List.headD_cons]
    cases mu.find? [] <;> rfl
  · unfold pexistsN at hex
    rw [if_neg (renderC_ne_nil hne)] at hex ⊢
    rcases readPath_casesN h ds hne hds with ⟨hv, hr⟩ | ⟨k, i, id, m, e, _, _, _, hl, he, _, hv, hr⟩
    · rw [hv] at hex; cases hex
    · simp only [bind, M.bind, hr, run_visDir hl, he, hv]

/-- `ensure_has_parent` as a function of the maps; `ds` are the components of the parent.
The parent has to exist in the n-layer view AND be a directory there; otherwise the call fails
and the upper map is unchanged (as for `pEnsure`: the check comes first, finding O10). -/
def pEnsureN (all : List FMap) (ds : List Str) : Res Unit × FMap :=
  if pexistsN all (renderC ds) then
    if pIsDirN all (renderC ds) then Mem.mkdirs (all.headD []) (chain [] ds)
    else (.err .other none, all.headD [])
  else (.err .other none, all.headD [])

theorem run_ensureHasParentN (cs : List Str) (hne : cs ≠ []) (hcs : ∀ c ∈ cs, GoodComp c) :
    ensureHasParent (layersN (u :: is) (idu :: ids)) (renderC cs) w =
      ((pEnsureN (mu :: ms) cs.dropLast).1,
        w.setLeafFiles u (pEnsureN (mu :: ms) cs.dropLast).2) := by
  have hds : ∀ c ∈ cs.dropLast, GoodComp c := fun c hc => hcs c (List.dropLast_subset _ hc)
  unfold ensureHasParent pEnsureN
  rw [if_pos (slash_mem_renderC hne), parentInternal_renderC cs (good_noSlash hcs),
    writePath_layersN_any _ hds]
  by_cases hex : pexistsN (mu :: ms) (renderC cs.dropLast) = true
  · have hrd := run_readPath_isDirN h cs.dropLast hds hex
    simp only [bind, M.bind] at hrd
    by_cases hd : pIsDirN (mu :: ms) (renderC cs.dropLast) = true
    · rw [hd] at hrd
      simp only [bind, M.bind, run_oexists_anyN h _ hds, hex, if_true] at hrd ⊢
      split at hrd
      · rw [hrd]
        simp [hd, M.ret, M.bind, run_createDirAll h.hu idu _ hds]
      · cases hrd
      · cases hrd
    · have hd' : pIsDirN (mu :: ms) (renderC cs.dropLast) = false := by simpa using hd
      rw [hd'] at hrd
      simp only [bind, M.bind, run_oexists_anyN h _ hds, hex, if_true] at hrd ⊢
      split at hrd
      · rw [hrd]
        simp [hd', M.failK, fail, h.hu.same]
      · cases hrd
      · cases hrd
  · simp [hex, bind, M.bind, run_oexists_anyN h _ hds, M.failK, fail, h.hu.same]

theorem run_clearWhiteoutN (cs : List Str) (hne : cs ≠ []) (hcs : ∀ c ∈ cs, GoodComp c) :
    clearWhiteout (layersN (u :: is) (idu :: ids)) (renderC cs) w =
      ((pClear mu (renderC cs)).1, w.setLeafFiles u (pClear mu (renderC cs)).2) := by
  unfold clearWhiteout pClear
  rw [whiteoutPath_layersN cs hne hcs]
  by_cases hm : mu.contains (marker (renderC cs)) = true
  · simp [hm, bind, M.bind, M.ret, run_vexists h.hu, run_pRemoveFile h.hu]
  · simp [hm, bind, M.bind, M.ret, run_vexists h.hu, Pure.pure, M.pure, h.hu.same]

/-- the tolerant removal of the marker by `create_dir` (it accepts `FileNotFound`: finding O11)
computes `pClear` as well: over a memory layer a marker that exists is removable -/
theorem run_clearWhiteoutTN (cs : List Str) (hne : cs ≠ []) (hcs : ∀ c ∈ cs, GoodComp c) :
    clearWhiteoutT (layersN (u :: is) (idu :: ids)) (renderC cs) w =
      ((pClear mu (renderC cs)).1, w.setLeafFiles u (pClear mu (renderC cs)).2) := by
  unfold clearWhiteoutT pClear
  rw [whiteoutPath_layersN cs hne hcs]
  by_cases hm : mu.contains (marker (renderC cs)) = true
  · simp only [hm, bind, M.bind, M.ret, run_vexists h.hu, run_pRemoveFile h.hu, if_true]
    have hnf := Mem.pRemoveFile_not_nf hm
    cases hr : Mem.pRemoveFile mu (marker (renderC cs)) with
    | mk r m' =>
      rw [hr] at hnf
      cases r with
      | ok a => rfl
      | err k pth => cases k <;> first | rfl | exact absurd rfl (hnf pth)
      | panic => rfl
  · simp [hm, bind, M.bind, M.ret, run_vexists h.hu, Pure.pure, M.pure, h.hu.same]

/-- `create_dir` over n layers -/
def pCreateDirN (mu : FMap) (ms : List FMap) (cs : List Str) : Res Unit × FMap :=
  andThen (pEnsureN (mu :: ms) cs.dropLast) fun _ mu1 =>
    match viewN (mu1 :: ms) (renderC cs) with
    | some e => (.err (if e.ftype = .file then .fileExists else .dirExists) none, mu1)
    | none => pCreateTail mu1 (renderC cs)

theorem run_ocreateDirN (cs : List Str) (hne : cs ≠ []) (hcs : ∀ c ∈ cs, GoodComp c) :
    Overlay.createDir (layersN (u :: is) (idu :: ids)) (renderC cs) w =
      ((pCreateDirN mu ms cs).1, w.setLeafFiles u (pCreateDirN mu ms cs).2) := by
  unfold Overlay.createDir pCreateDirN
  simp only [bind, M.bind, run_ensureHasParentN h cs hne hcs]
  cases hE : pEnsureN (mu :: ms) cs.dropLast with
  | mk r mu1 =>
    cases r with
    | err k pth => rfl
    | panic => rfl
    | ok a =>
      have h1 := h.setHead mu1
      have hmeta := run_readPath_metadataN h1 cs hne hcs
        (fun md => (M.failK (if md.ftype = .file then .fileExists else .dirExists) : M Unit))
      simp only [bind, M.bind, M.failK, fail, Entry.meta] at hmeta
      simp only [andThen, run_oexistsN h1 cs hne hcs]
      rcases Option.eq_none_or_eq_some (viewN (mu1 :: ms) (renderC cs)) with hv | ⟨e, hv⟩
      · simp only [hv, Option.isSome_none, Bool.false_eq_true, if_false, M.ret, M.bind,
          writePath_layersN cs hne hcs, run_pCreateDir h1.hu]
        unfold pCreateTail
        cases hC : Mem.pCreateDir mu1 (renderC cs) with
        | mk r2 mu2 =>
          cases r2 with
          | err k pth =>
            cases k <;> try simp only [World.setLeafFiles_twice]
            simp only [run_clearWhiteoutTN (h.setHead mu2) cs hne hcs, World.setLeafFiles_twice]
            cases hP : pClear mu2 (renderC cs) with
            | mk r3 mu3 => cases r3 <;> rfl
          | panic => simp only [World.setLeafFiles_twice]
          | ok a2 =>
            simp only [run_clearWhiteoutTN (h.setHead mu2) cs hne hcs, World.setLeafFiles_twice]
      · rw [hv] at hmeta
        simp only [hv, Option.isSome_some, if_true, M.bind, M.failK, fail]
        exact hmeta

/-- the type check of `create_file` over n layers -/
def pRefuseN (all : List FMap) (p : Str) : Res Unit :=
  match viewN all p with
  | some e => if e.ftype = .dir then .err .other none else .ok ()
  | none => .ok ()

theorem run_refuseDirN (cs : List Str) (hne : cs ≠ []) (hcs : ∀ c ∈ cs, GoodComp c) :
    refuseDir (layersN (u :: is) (idu :: ids)) (renderC cs) w
      = (pRefuseN (mu :: ms) (renderC cs), w) := by
  unfold refuseDir pRefuseN
  have hmeta := run_readPath_metadataN h cs hne hcs
    (fun md => (if md.ftype = .dir then M.failK .other else pure () : M Unit))
  simp only [bind, M.bind] at hmeta
  simp only [bind, M.bind, run_oexistsN h cs hne hcs]
  rcases Option.eq_none_or_eq_some (viewN (mu :: ms) (renderC cs)) with hv | ⟨e, hv⟩
  · simp [hv, Pure.pure, M.pure]
  · simp only [hv, Option.isSome_some, if_true, M.bind, hmeta, Entry.meta]
    by_cases hd : e.ftype = .dir
    · simp [hd, M.failK, fail]
    · simp [hd, Pure.pure, M.pure]

/-- `create_file` (the handle aside) over n layers -/
def pCreateFileN (mu : FMap) (ms : List FMap) (cs : List Str) : Res Unit × FMap :=
  andThen (pEnsureN (mu :: ms) cs.dropLast) fun _ mu1 =>
    andThen (pRefuseN (mu1 :: ms) (renderC cs), mu1) fun _ _ =>
      andThen (Mem.pOpenW mu1 (renderC cs)) fun _ mu2 => pClear mu2 (renderC cs)

theorem run_ocreateFileN (cs : List Str) (hne : cs ≠ []) (hcs : ∀ c ∈ cs, GoodComp c) :
    Overlay.createFile (layersN (u :: is) (idu :: ids)) (renderC cs) w =
      ((pCreateFileN mu ms cs).1.map
        (fun _ => ({ leaf := u, key := renderC cs, kind := .memFile, buf := [], pos := 0 } : WHandle)),
        w.setLeafFiles u (pCreateFileN mu ms cs).2) := by
  unfold Overlay.createFile pCreateFileN
  simp only [bind, M.bind, run_ensureHasParentN h cs hne hcs]
  cases hE : pEnsureN (mu :: ms) cs.dropLast with
  | mk r mu1 =>
    cases r with
    | err k pth => rfl
    | panic => rfl
    | ok a =>
      have h1 := h.setHead mu1
      simp only [andThen, run_refuseDirN h1 cs hne hcs]
      cases hR : pRefuseN (mu1 :: ms) (renderC cs) with
      | err k pth => rfl
      | panic => rfl
      | ok a1 =>
        simp only [M.ret, writePath_layersN cs hne hcs, run_pOpenW h1.hu]
        cases hC : Mem.pOpenW mu1 (renderC cs) with
        | mk r2 mu2 =>
          cases r2 with
          | err k pth => simp only [Res.map, World.setLeafFiles_twice]
          | panic => simp only [Res.map, World.setLeafFiles_twice]
          | ok a2 =>
            simp only [Res.map, World.setLeafFiles_twice,
              run_clearWhiteoutN (h.setHead mu2) cs hne hcs]
            cases hP : pClear mu2 (renderC cs) with
            | mk r3 mu3 => cases r3 <;> rfl

end runN2

/-! ### `ensure_has_parent` does not change the n-layer view -/

/-- every proper ancestor directory `/d1`, `/d1/d2`, … is a directory of the n-layer view -/
def AncDirsN (all : List FMap) (ds : List Str) : Prop :=
  ∀ j, 1 ≤ j → j ≤ ds.length → ∃ e, viewN all (renderC (ds.take j)) = some e ∧ e.ftype = .dir

theorem AncDirsN_two (mu ml : FMap) (ds : List Str) : AncDirsN [mu, ml] ds ↔ AncDirs mu ml ds := by
  unfold AncDirsN AncDirs
  simp only [viewN_two]

theorem viewN_upper {mu : FMap} {ms : List FMap} {p : Str} {e : Entry}
    (hm : mu.contains (marker p) = false) (hf : mu.find? p = some e) :
    viewN (mu :: ms) p = some e := by
  rw [viewN_unmarked hm]; simp [firstN, hf]

theorem viewN_lower {mu : FMap} {ms : List FMap} {p : Str}
    (hm : mu.contains (marker p) = false) (hf : mu.find? p = none) :
    viewN (mu :: ms) p = firstN ms p := by
  rw [viewN_unmarked hm]; simp [firstN, hf]

theorem pexistsN_of_anc {mu : FMap} {ms : List FMap} {ds : List Str} (hroot : RootOk mu)
    (hanc : AncDirsN (mu :: ms) ds) : pexistsN (mu :: ms) (renderC ds) = true := by
  unfold pexistsN
  by_cases hne : ds = []
  · subst hne
    obtain ⟨e, he, _⟩ := hroot.root
    simp [hroot.noMark, contains_of_find he]
  · rw [if_neg (renderC_ne_nil hne)]
    have hl : 1 ≤ ds.length := by
      cases ds with
      | nil => exact absurd rfl hne
      | cons d ds => simp
    obtain ⟨e, he, _⟩ := hanc ds.length hl (Nat.le_refl _)
    rw [List.take_length] at he
    rw [he]; rfl

/-- when the proper ancestors are directories of the view, so is the parent itself: the type
test of `ensure_has_parent` succeeds -/
theorem pIsDirN_of_anc {mu : FMap} {ms : List FMap} {ds : List Str} (hroot : RootOk mu)
    (hanc : AncDirsN (mu :: ms) ds) : pIsDirN (mu :: ms) (renderC ds) = true := by
  unfold pIsDirN
  by_cases hne : ds = []
  · subst hne
    obtain ⟨e, he, hd⟩ := hroot.root
    simp [he, hd]
  · rw [if_neg (renderC_ne_nil hne)]
    have hl : 1 ≤ ds.length := by
      cases ds with
      | nil => exact absurd rfl hne
      | cons d ds => simp
    obtain ⟨e, he, hd⟩ := hanc ds.length hl (Nat.le_refl _)
    rw [List.take_length] at he
    simp [he, hd]

theorem chain_dirs_of_ancN {mu : FMap} {ms : List FMap} {ds : List Str}
    (hanc : AncDirsN (mu :: ms) ds) :
    ∀ k ∈ chain [] ds, ∀ e, mu.find? k = some e → e.ftype = .dir := by
  intro k hk e he
  obtain ⟨j, h1, h2, rfl⟩ := (mem_chain [] ds k).1 hk
  obtain ⟨e', hv, hd⟩ := hanc j h1 h2
  simp only [List.nil_append] at he
  have hm : mu.contains (marker (renderC (ds.take j))) = false := by
    rw [viewN_cons] at hv
    split at hv
    · cases hv
    · rename_i hm; simpa using hm
  rw [viewN_upper hm he] at hv
  injection hv with hv; subst hv; exact hd

/-! `pEnsureN` by the branch it takes -/

theorem pEnsureN_absent {all : List FMap} {ds : List Str} (h : pexistsN all (renderC ds) = false) :
    pEnsureN all ds = (.err .other none, all.headD []) := by
  unfold pEnsureN; rw [h]; rfl

theorem pEnsureN_notDir {all : List FMap} {ds : List Str} (h : pIsDirN all (renderC ds) = false) :
    pEnsureN all ds = (.err .other none, all.headD []) := by
  unfold pEnsureN; rw [h]; split <;> rfl

/-- on a directory of the view `ensure_has_parent` is `create_dir_all` of the upper layer -/
theorem pEnsureN_dir {all : List FMap} {ds : List Str} (hex : pexistsN all (renderC ds) = true)
    (hd : pIsDirN all (renderC ds) = true) :
    pEnsureN all ds = Mem.mkdirs (all.headD []) (chain [] ds) := by
  unfold pEnsureN; rw [hex, hd]; rfl

/-- it is `create_dir_all` of the upper layer, or a refusal that changes nothing -/
theorem pEnsureN_cases (all : List FMap) (ds : List Str) :
    pEnsureN all ds = Mem.mkdirs (all.headD []) (chain [] ds) ∨
      pEnsureN all ds = (.err .other none, all.headD []) := by
  cases hd : pIsDirN all (renderC ds)
  · exact Or.inr (pEnsureN_notDir hd)
  · cases hex : pexistsN all (renderC ds)
    · exact Or.inr (pEnsureN_absent hex)
    · exact Or.inl (pEnsureN_dir hex hd)

/-- under the hypotheses, `ensure_has_parent` succeeds and only fills in missing directories -/
theorem pEnsureN_ok {mu : FMap} {ms : List FMap} {ds : List Str} (hroot : RootOk mu)
    (hds : ∀ c ∈ ds, GoodComp c) (hanc : AncDirsN (mu :: ms) ds) :
    pEnsureN (mu :: ms) ds = (.ok (), fillDirs mu (chain [] ds)) := by
  rw [pEnsureN_dir (pexistsN_of_anc hroot hanc) (pIsDirN_of_anc hroot hanc)]
  exact mkdirs_chain mu [] ds (by simp) (good_noSlash hds) hroot.root
    (chain_dirs_of_ancN hanc)

/-- the parent is a FILE of the n-layer view (in whichever layer): `ensure_has_parent` fails
with `Other` and the upper map is unchanged -/
theorem pEnsureN_file {mu : FMap} {ms : List FMap} {ds : List Str} (hne : ds ≠ []) {e : Entry}
    (hv : viewN (mu :: ms) (renderC ds) = some e) (hf : e.ftype = .file) :
    pEnsureN (mu :: ms) ds = (.err .other none, mu) := by
  exact pEnsureN_notDir (by unfold pIsDirN; simp [renderC_ne_nil hne, hv, hf])

/-- in a well-formed upper map nothing sits below a path that the n-layer view shows as a file -/
theorem upper_child_absent_of_viewN_file {mu : FMap} {ms : List FMap} {ds : List Str} {n : Str}
    (hwf : WF mu) (hds : ∀ c ∈ ds, GoodComp c) (hn : GoodComp n) {e : Entry}
    (hv : viewN (mu :: ms) (renderC ds) = some e) (hf : e.ftype = .file) :
    mu.find? (renderC (ds ++ [n])) = none := by
  rcases Option.eq_none_or_eq_some (mu.find? (renderC (ds ++ [n]))) with hc | ⟨ce, hc⟩
  · exact hc
  · exfalso
    obtain ⟨_, pe, hp, hpd⟩ := hwf.2 _ ce hc (renderC_ne_nil (by simp))
    rw [parent_snoc ds n hds hn] at hp
    obtain ⟨hm, _⟩ := viewN_some_cases hv
    rw [viewN_upper hm hp] at hv
    injection hv with hv; subst hv; rw [hf] at hpd; cases hpd

/-- **`ensure_has_parent` leaves the n-layer view unchanged** (up to the timestamps of the
directories it materialises in the upper layer) -/
theorem view_fillDirsN {mu : FMap} {ms : List FMap} {ds : List Str} (hds : ∀ c ∈ ds, GoodComp c)
    (hanc : AncDirsN (mu :: ms) ds) (hhead : ds.head? ≠ some woDir) (q : Str)
    (hq : q.head? = some '/') :
    (viewN (fillDirs mu (chain [] ds) :: ms) q).map dirBlind
      = (viewN (mu :: ms) q).map dirBlind := by
  rw [viewN_cons, viewN_cons, contains_marker_fillDirs hds hhead q hq]
  by_cases hm : mu.contains (marker q) = true
  · simp [hm]
  · have hm' : mu.contains (marker q) = false := by simpa using hm
    simp only [hm, Bool.false_eq_true, if_false, firstN]
    rw [find?_fillDirs]
    rcases Option.eq_none_or_eq_some (mu.find? q) with hf | ⟨e, hf⟩
    · by_cases hk : q ∈ chain [] ds
      · obtain ⟨j, h1, h2, he⟩ := (mem_chain [] ds _).1 hk
        simp only [List.nil_append] at he
        obtain ⟨e', hv, hd⟩ := hanc j h1 h2
        rw [← he, viewN_lower hm' hf] at hv
        simp [hf, hk, hv, dirBlind, hd, dirEntryNow]
      · simp [hf, hk]
    · simp [hf]

/-- when every ancestor already is in the upper layer, nothing is filled in -/
theorem fillDirs_of_contains (m : FMap) (ks : List Str) (h : ∀ k ∈ ks, m.contains k = true) :
    fillDirs m ks = m := by
  induction ks with
  | nil => rfl
  | cons k ks ih =>
    rw [fillDirs, if_pos (h k (by simp))]
    exact ih (fun k' hk' => h k' (by simp [hk']))

/-! ### two layers, as instances

The bridges from the n-layer functions at `[mu, ml]` to the two-layer definitions of
Proofs/OverlayLemmas.lean (`viewN_two`, `pListingN_two`, `pIsDirN_two`, `AncDirsN_two` stand next to
the n-layer definition they bridge, above; `pRemoveFileN_two`, `pRemoveDirN_two` in
Proofs/OverlayNRemoveLemmas.lean, where those functions are defined), and what the two-layer
`pListing` and `view` do, read off the n-layer lemmas. -/

theorem pexistsN_two (mu ml : FMap) (p : Str) : pexistsN [mu, ml] p = pexists mu ml p := by
  unfold pexistsN pexists; rw [viewN_two]; rfl

theorem pEnsureN_two (mu ml : FMap) (ds : List Str) : pEnsureN [mu, ml] ds = pEnsure mu ml ds := by
  unfold pEnsureN pEnsure pIsDirN pIsDir; rw [pexistsN_two, viewN_two]; rfl

theorem dirEntryN_two (mu ml : FMap) (p : Str) : dirEntryN [mu, ml] p = dirEntry? mu ml p := by
  unfold dirEntryN dirEntry?
  simp only [List.headD_cons, viewN_two]

theorem pReadDirN_two (mu ml : FMap) (p : Str) : pReadDirN [mu, ml] p = pReadDir mu ml p := by
  unfold pReadDirN pReadDir; rw [dirEntryN_two, pListingN_two]
  cases dirEntry? mu ml p <;> rfl

theorem mem_pListing (mu ml : FMap) (p n : Str) (hmu : ChildrenHaveDir mu p)
    (hml : ChildrenHaveDir ml p) (hwo : ChildrenHaveDir mu (woDirOf p)) :
    n ∈ pListing mu ml p ↔
      ('/' ∉ n ∧ (view mu ml (p ++ '/' :: n)).isSome = true ∧ (p = [] → n ≠ woDir)) := by
  have := mem_pListingN mu [ml] p n
    (by intro m hm
        simp only [List.mem_cons, List.not_mem_nil, or_false] at hm
        rcases hm with rfl | rfl
        · exact hmu
        · exact hml) hwo
  rwa [pListingN_two, viewN_two] at this

theorem nodup_pListing (mu ml : FMap) (p : Str) : (pListing mu ml p).Nodup :=
  nodup_pListingN [mu, ml] p

theorem woDir_not_listed (mu ml : FMap) : woDir ∉ pListing mu ml [] := woDir_not_listedN [mu, ml]

theorem view_fillDirs {mu ml : FMap} {ds : List Str} (hds : ∀ c ∈ ds, GoodComp c)
    (hanc : AncDirs mu ml ds) (hhead : ds.head? ≠ some woDir) (q : Str)
    (hq : q.head? = some '/') :
    (view (fillDirs mu (chain [] ds)) ml q).map dirBlind = (view mu ml q).map dirBlind := by
  have := view_fillDirsN (ms := [ml]) hds ((AncDirsN_two mu ml ds).2 hanc) hhead q hq
  rwa [viewN_two, viewN_two] at this

/-- in a well-formed upper map nothing sits below a path that the view shows as a file -/
theorem upper_child_absent_of_view_file {mu ml : FMap} {ds : List Str} {n : Str} (hwf : WF mu)
    (hds : ∀ c ∈ ds, GoodComp c) (hn : GoodComp n) {e : Entry}
    (hv : view mu ml (renderC ds) = some e) (hf : e.ftype = .file) :
    mu.find? (renderC (ds ++ [n])) = none :=
  upper_child_absent_of_viewN_file (ms := [ml]) hwf hds hn (by rwa [viewN_two]) hf

section probe
variable {w : World} {u idu : Nat} {mu : FMap} {is ids : List Nat} {ms : List FMap}
  (h : OWN w (u :: is) (idu :: ids) (mu :: ms))
include h

/-- `metadata` through the overlay reports the entry of the n-layer view -/
theorem run_ometadataN (cs : List Str) (hne : cs ≠ []) (hcs : ∀ c ∈ cs, GoodComp c) :
    (Overlay.fs (layersN (u :: is) (idu :: ids))).metadata (renderC cs) w =
      (match viewN (mu :: ms) (renderC cs) with
       | some e => .ok e.meta
       | none => .err .fileNotFound none, w) := by
  have := run_readPath_metadataN h cs hne hcs (fun md => (pure md : M Meta))
  simp only [M.bind_pure] at this
  rw [show (Overlay.fs (layersN (u :: is) (idu :: ids))).metadata (renderC cs) w = _ from this]
  cases viewN (mu :: ms) (renderC cs) <;> rfl

/-- `metadata` of the overlay's root is the upper layer's (`read_path("")` is the write layer) -/
theorem run_ometadata_rootN :
    (Overlay.fs (layersN (u :: is) (idu :: ids))).metadata [] w
      = ((Mem.metadata mu []).withPath [], w) := by
  show (do let q ← Overlay.readPath (layersN (u :: is) (idu :: ids)) []; q.metadata : M Meta) w = _
  simp only [Overlay.readPath, writeLayer_layersN, bind, M.bind, Pure.pure, M.pure, if_true]
  exact run_vmetadata h.hu _ rfl

/-- **the parent probe** (`get_parent`) of `VfsPath::create_dir` / `create_file` through the
overlay: the world is unchanged; it passes exactly when the parent is a directory of the view, and
otherwise refuses with `Other` under the caller's path. Only the root of the upper layer has to be
in order. -/
theorem run_getParent_overlayN (ido : Nat) (ds : List Str) (n : Str) (hds : ∀ c ∈ ds, GoodComp c)
    (hn : GoodComp n) (hroot : RootOk mu) :
    VPath.getParent { fs := Overlay.fs (layersN (u :: is) (idu :: ids)), fsId := ido,
                      path := renderC (ds ++ [n]) } w =
      (if pIsDirN (mu :: ms) (renderC ds) then .ok ()
       else .err .other (some (renderC (ds ++ [n]))), w) := by
  have hx : VPath.parent ⟨Overlay.fs (layersN (u :: is) (idu :: ids)), ido, renderC (ds ++ [n])⟩ =
      ⟨Overlay.fs (layersN (u :: is) (idu :: ids)), ido, renderC ds⟩ := by
    rw [VPath.parent, VPath.withStr, parent_snoc ds n hds hn]
  obtain ⟨e0, he0, _⟩ := hroot.root
  refine VPath.getParent_of_entry
    (v := if renderC ds = [] then mu.find? [] else viewN (mu :: ms) (renderC ds)) ?_ fun e hv => ?_
  · rw [hx]
    refine (run_oexists_anyN h ds hds).trans ?_
    unfold pexistsN
    split
    · simp [hroot.noMark, contains_of_find he0, he0]
    · rfl
  · rw [hx]
    by_cases hne : ds = []
    · subst hne
      simp only [renderC_nil, if_true] at hv
      rw [VPath.metadata_of_call (run_ometadata_rootN h)]
      simp [Mem.metadata, hv, Res.withPath]
    · rw [if_neg (renderC_ne_nil hne)] at hv
      rw [VPath.metadata_of_call (run_ometadataN h ds hne hds), hv]; rfl

end probe

end Vfs
