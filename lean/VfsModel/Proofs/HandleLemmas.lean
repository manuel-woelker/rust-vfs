/-
  The write handle (`WHandle.*` of VfsModel/Handle.lean) in closed form.
  `World.publish`: the publication of a write handle, sync (`memPublish`) or async (`amemPublish`), as
  a total function of the world; `WHandle.flush_eq` says that this is what `flush` and `drop` do.
  `WHandle.write_mem`, `WHandle.seek_mem`: on an in-memory handle `write` and `seek` are functions of
  buffer and position and leave the world alone.
-/
import VfsModel.Proofs.MemRun
namespace Vfs

/-- the world after the writer on key `k` of leaf `i` has published `b` (`pub` = `memPublish` for
the sync writer, `amemPublish` for the async one); a writer without a leaf publishes nothing -/
def World.publish (pub : FMap → Str → Bytes → FMap) (w : World) (i : Nat) (k : Str) (b : Bytes) :
    World :=
  match w.leaf? i with
  | some l => w.setLeafFiles i (pub l.files k b)
  | none => w

namespace World
variable {pub : FMap → Str → Bytes → FMap} (w : World) (i : Nat) (k : Str) (b : Bytes)

theorem publish_of_leaf {l : Leaf} (hl : w.leaf? i = some l) :
    w.publish pub i k b = w.setLeafFiles i (pub l.files k b) := by
  simp only [publish, hl]

theorem leaf?_publish :
    (w.publish pub i k b).leaf? i = (w.leaf? i).map fun l => { l with files := pub l.files k b } := by
  unfold publish
  cases hl : w.leaf? i with
  | none => simp only [hl, Option.map_none]
  | some l => simp only [World.setLeafFiles_same w i l _ hl, Option.map_some]

theorem leaf?_publish_ne {j : Nat} (hj : j ≠ i) : (w.publish pub i k b).leaf? j = w.leaf? j := by
  unfold publish
  cases w.leaf? i with
  | none => rfl
  | some l => exact World.leaf?_setLeafFiles_ne w i j _ (fun e => hj e.symm)

/-- a second publication on the same key wins when `pub` itself says so -/
theorem publish_twice (b' : Bytes) (hp : ∀ m, pub (pub m k b) k b' = pub m k b') :
    (w.publish pub i k b).publish pub i k b' = w.publish pub i k b' := by
  cases hl : w.leaf? i with
  | none => simp only [publish, hl]
  | some l =>
    rw [publish_of_leaf w i k b hl, publish_of_leaf w i k b' hl,
      publish_of_leaf _ i k b' (World.setLeafFiles_same w i l _ hl), World.setLeafFiles_twice, hp]

end World

theorem WHandle.flush_eq (h : WHandle) (w : World) :
    h.flush w = (.ok (), if h.kind = .memFile then w.publish memPublish h.leaf h.key h.buf else w) := by
  unfold WHandle.flush World.publish
  cases h.kind
  · cases w.leaf? h.leaf <;> rfl
  · rfl
  · rfl

theorem WHandle.write_mem (h : WHandle) (hk : h.kind = .memFile) (bs : Bytes) (w : World) :
    h.write bs w =
      (.ok (bs.length, { h with buf := cursorWrite h.buf h.pos bs, pos := h.pos + bs.length }), w) := by
  unfold WHandle.write; simp only [hk]

theorem WHandle.seek_mem (h : WHandle) (hk : h.kind = .memFile) (s : SeekFrom) (w : World) :
    h.seek s w = ((cursorSeek h.buf.length h.pos s).map fun n => (n, { h with pos := n }), w) := by
  rw [WHandle.seek_eq, WHandle.fileLen, hk]

/-- a leaf function that commutes with the publication on the map commutes with it on the world
(on another leaf it always does) -/
theorem onLeaf_publish {α} {pub : FMap → Str → Bytes → FMap} (f : Leaf → Res α × FMap)
    (i j : Nat) (k : Str) (b : Bytes) (w : World)
    (hf : j = i → ∀ l, f { l with files := pub l.files k b } = ((f l).1, pub (f l).2 k b)) :
    onLeaf i f (w.publish pub j k b) = ((onLeaf i f w).1, (onLeaf i f w).2.publish pub j k b) := by
  by_cases hji : j = i
  · subst hji
    unfold onLeaf
    rw [World.leaf?_publish]
    cases hl : w.leaf? j with
    | none => simp only [Option.map_none, World.publish, hl]
    | some l =>
      simp only [Option.map_some, hf rfl l, World.publish_of_leaf w j k b hl,
        World.publish_of_leaf _ j k b (World.setLeafFiles_same w j l _ hl), World.setLeafFiles_twice]
  · unfold onLeaf
    rw [World.leaf?_publish_ne w j k b (fun e => hji e.symm)]
    cases hi : w.leaf? i with
    | none => rfl
    | some li =>
      simp only
      unfold World.publish
      rw [World.leaf?_setLeafFiles_ne w i j _ (fun e => hji e.symm)]
      cases w.leaf? j with
      | none => rfl
      | some lj => simp only [World.setLeafFiles_comm w j i _ _ hji]

end Vfs
