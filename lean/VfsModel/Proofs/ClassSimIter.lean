/-
The class calculus (Proofs/ClassSim.lean, ClassSimOverlay.lean, MemPhysSim.lean) extended to the file
transfers between a stacking over memory leaves and the same stacking over physical leaves:
`copy_file` and the copy-up of `OverlayFS::append_file`. Used by Props/C02Iter.lean, which also says
what is not proved.

With a DIRECTORY as source the two backends differ (`copy_dir_source_diverges`, Props/C02Stack.lean),
so the transfers are related under a precondition on the LEFT (memory-side) world, `CSimP P …` with
`P = NotDirAt fs s`: `metadata s` does not answer directory (it may fail). For the precondition to
survive the steps before the copy, and for the branch of `copy_file` on `NotSupported` (`VPath.fastOr`) to
go the same way on both sides, the filesystems on the left are `Tame` (Proofs/Tame.lean); leaves, and
altroots and overlays over tame filesystems, are.

`SimX` extends `SimC` by `open_file` of a non-directory returning EQUAL good read handles and by the
`VfsPath`-level `copy_file` between two paths of the filesystem. `leaf_simX` is the instance;
`Altroot.simX`, `Overlay.simX`, `Overlay.sim_appendSession` carry it through the adapters;
`VPath.sim_copyFile` is `copy_file` between paths of possibly DIFFERENT filesystems. `Compat` is
assumed where the same-filesystem fast path may be taken.
-/
import VfsModel.Proofs.MemPhysSim
import VfsModel.Proofs.Tame
import VfsModel.Proofs.TransferLemmas
namespace Vfs.C02

def CSimP {α β : Type} (P : World → Prop) (R : World → World → Prop)
    (KR : ErrKind → ErrKind → Prop) (Q : α → β → Prop) (m1 : M α) (m2 : M β) : Prop :=
  ∀ w1 w2, R w1 w2 → P w1 → CRes KR Q (m1 w1).1 (m2 w2).1 ∧ R (m1 w1).2 (m2 w2).2

def NotDirAt (fs : FS) (p : Str) (w : World) : Prop :=
  ∀ md, (fs.metadata p w).1 = .ok md → md.ftype = .file

namespace CSimP
variable {α β γ δ : Type} {P : World → Prop} {R : World → World → Prop}
  {KR : ErrKind → ErrKind → Prop} {Q : α → β → Prop}

theorem of {m1 : M α} {m2 : M β} (h : CSim R KR Q m1 m2) : CSimP P R KR Q m1 m2 :=
  fun w1 w2 hr _ => h w1 w2 hr

theorem weaken {P' : World → Prop} {m1 : M α} {m2 : M β} (h : CSimP P' R KR Q m1 m2)
    (hp : ∀ w, P w → P' w) : CSimP P R KR Q m1 m2 :=
  fun w1 w2 hr hP => h w1 w2 hr (hp w1 hP)

theorem withPath (p q : Str) {m1 : M α} {m2 : M β} (h : CSimP P R KR Q m1 m2) :
    CSimP P R KR Q (M.withPath p m1) (M.withPath q m2) := by
  intro w1 w2 hr hP
  obtain ⟨h1, h2⟩ := h w1 w2 hr hP
  exact ⟨h1.withPath p q, h2⟩

/-- a pure first step keeps the precondition -/
theorem bindL {Q' : γ → δ → Prop} {m1 : M α} {m2 : M β} {f : α → M γ} {g : β → M δ}
    (hm : CSim R KR Q m1 m2) (hp : MPure m1)
    (hf : ∀ a b, Q a b → CSimP P R KR Q' (f a) (g b)) :
    CSimP P R KR Q' (m1 >>= f) (m2 >>= g) :=
  fun w1 w2 hr hP => CSim.bind_at (hm w1 w2 hr) fun a b _ hq h2 =>
    hf a b hq _ _ h2 (by rw [hp w1]; exact hP)

/-- the precondition is used by the first step only -/
theorem bindR {Q' : γ → δ → Prop} {m1 : M α} {m2 : M β} {f : α → M γ} {g : β → M δ}
    (hm : CSimP P R KR Q m1 m2) (hf : ∀ a b, Q a b → CSim R KR Q' (f a) (g b)) :
    CSimP P R KR Q' (m1 >>= f) (m2 >>= g) :=
  fun w1 w2 hr hP => CSim.bind_at (hm w1 w2 hr hP) fun a b _ hq h2 => hf a b hq _ _ h2

theorem ite {c : Prop} [Decidable c] {a1 b1 : M α} {a2 b2 : M β}
    (ha : c → CSimP P R KR Q a1 a2) (hb : ¬c → CSimP P R KR Q b1 b2) :
    CSimP P R KR Q (if c then a1 else b1) (if c then a2 else b2) := by
  by_cases hc : c
  · rw [if_pos hc, if_pos hc]; exact ha hc
  · rw [if_neg hc, if_neg hc]; exact hb hc

theorem of_pathEq {m1 m1' : M α} {m2 m2' : M β} (h1 : PathEq m1' m1) (h2 : PathEq m2' m2)
    (h : CSimP P R KR Q m1 m2) : CSimP P R KR Q m1' m2' :=
  fun w1 w2 hr hP => PathEq.cres_at h1 h2 (h w1 w2 hr hP)

/-- the probe of the destination in front of a transfer: a pure probe keeps the precondition -/
theorem guarded {s1 s2 d1 d2 : VPath} {l1 l2 : Str} {b1 : M α} {b2 : M β}
    (hd : CSim R (· = ·) (· = ·) d1.exists_ d2.exists_) (hp : MPure d1.exists_)
    (hb : CSimP P R KRel Q b1 b2) :
    CSimP P R KRel Q (Vfs.VPath.guarded s1 d1 l1 b1) (Vfs.VPath.guarded s2 d2 l2 b2) := by
  unfold Vfs.VPath.guarded
  refine CSimP.withPath _ _ (CSimP.bindL hd.ofEq hp fun ex _ e => ?_)
  cases e
  exact CSimP.ite (fun _ => CSimP.of (CSim.failAt _ _ _)) (fun _ => hb)

end CSimP

theorem withPath_fst_ok {α : Type} (s : Str) (m : M α) (w : World) (a : α) :
    (M.withPath s m w).1 = .ok a ↔ (m w).1 = .ok a := by
  rw [M.withPath_run]
  cases (m w).1 <;> simp [Res.withPath]

/-- equal good read handles. Inside `namespace Vfs.C02` the name `HEq` is THIS relation, not core's
heterogeneous equality. -/
def HEq (h1 h2 : RHandle) : Prop := h1 = h2 ∧ h1.bad = false

/-- `SimC` with what the transfers need, both fields for a source that is not a directory: with a
directory source the two backends differ (`copy_dir_source_diverges`, Props/C02Stack.lean) -/
structure SimX (R : World → World → Prop) (fs1 fs2 : FS) : Prop extends SimC R fs1 fs2 where
  openND : ∀ p, Canon p →
    CSimP (NotDirAt fs1 p) R KRel HEq (fs1.openFile p) (fs2.openFile p)
  copyV : ∀ id s d, Canon s → Canon d →
    CSimP (NotDirAt fs1 s) R KRel (· = ·)
      (Vfs.VPath.copyFile { fs := fs1, fsId := id, path := s } { fs := fs1, fsId := id, path := d })
      (Vfs.VPath.copyFile { fs := fs2, fsId := id, path := s } { fs := fs2, fsId := id, path := d })

structure SimVX (R : World → World → Prop) (v1 v2 : VPath) : Prop where
  fs : SimX R v1.fs v2.fs
  path : v2.path = v1.path
  canon : Canon v1.path
  id : v2.fsId = v1.fsId
  tame : Tame v1.fs

/-- "equal `fsId` ⇒ the same filesystem value" (the model's reading of `Arc::ptr_eq`): `VPath.IdsOK`
of Proofs/Sim.lean, which it unfolds to, under the name the statements of C02 use -/
def Compat (a b : VPath) : Prop := a.fsId = b.fsId → a.fs = b.fs

section paramX
variable {R : World → World → Prop}

theorem SimVX.toC {v1 v2 : VPath} (h : SimVX R v1 v2) : SimVC R v1 v2 := ⟨h.fs.toSimC, h.path, h.canon⟩

theorem SimVX.withStr {v1 v2 : VPath} (h : SimVX R v1 v2) (s : Str) (hs : Canon s) :
    SimVX R (v1.withStr s) (v2.withStr s) := ⟨h.fs, rfl, hs, h.id, h.tame⟩

theorem SimVX.join {v1 v2 : VPath} (h : SimVX R v1 v2) (arg : Str) :
    CRes (· = ·) (fun a b => SimVX R a b ∧ a.fs = v1.fs ∧ a.fsId = v1.fsId ∧ b.fs = v2.fs ∧ b.fsId = v2.fsId)
      (v1.join arg) (v2.join arg) := by
  unfold Vfs.VPath.join
  rw [h.path]
  cases hj : joinInternal v1.path arg with
  | ok r => exact .ok ⟨h.withStr r (C06.join_canonical _ _ _ h.canon hj), rfl, rfl, rfl, rfl⟩
  | err k p => exact .err rfl
  | panic => exact .panic

theorem notDirAt_vpath (v : VPath) (w : World) :
    (∀ md, (v.metadata w).1 = .ok md → md.ftype = .file) ↔ NotDirAt v.fs v.path w := by
  unfold NotDirAt Vfs.VPath.metadata
  constructor
  · intro h md hm; exact h md ((withPath_fst_ok _ _ _ _).2 hm)
  · intro h md hm; exact h md ((withPath_fst_ok _ _ _ _).1 hm)

namespace VPath

theorem sim_openND {v1 v2 : VPath} (h : SimVX R v1 v2) :
    CSimP (NotDirAt v1.fs v1.path) R KRel HEq v1.openFile v2.openFile := by
  unfold Vfs.VPath.openFile
  rw [h.path]
  exact CSimP.withPath _ _ (h.fs.openND _ h.canon)

/-- `std::io::copy` from a good read handle, then both handles dropped = one write session -/
theorem ioCopy_eq (r : RHandle) (hb : r.bad = false) (h : WHandle) (p : Str) :
    Vfs.VPath.ioCopyAndDrop r h p = finish h [r.content.drop r.pos] := by
  funext w
  unfold Vfs.VPath.ioCopyAndDrop finish runScript runScript
  simp only [RHandle.readToEnd, hb, Bool.false_eq_true, if_false]
  show ((M.withPath p (M.ret (Res.ok (List.drop r.pos r.content))) >>= fun bytes =>
      h.write bytes >>= fun x => x.2.drop) w) =
    ((h.write (List.drop r.pos r.content) >>= fun r' => Pure.pure r'.2) >>= fun h' => h'.drop) w
  rw [M.bind_assoc]
  rfl

theorem sim_copyGeneric {P : World → Prop} {s1 s2 d1 d2 : VPath}
    (hopen : CSimP P R KRel HEq s1.openFile s2.openFile) (hd : SimVC R d1 d2) :
    CSimP P R KRel (· = ·) (s1.copyGeneric d1) (s2.copyGeneric d2) := by
  unfold Vfs.VPath.copyGeneric
  refine CSimP.bindR hopen fun r1 r2 hr => ?_
  obtain ⟨rfl, hb⟩ := hr
  have e : ∀ (d : VPath) (p : Str),
      (d.createFile >>= fun w => Vfs.VPath.ioCopyAndDrop r1 w p) =
        createSession d [r1.content.drop r1.pos] := by
    intro d p
    unfold createSession
    congr 1
    funext w
    exact ioCopy_eq r1 hb w p
  rw [e, e]
  exact sim_createSession hd _

/-- source and destination in the same filesystem (the field `copyV`) or in different ones (generic
route) -/
theorem sim_copyFile {s1 s2 d1 d2 : VPath} (hs : SimVX R s1 s2) (hd : SimVC R d1 d2)
    (hdt : Tame d1.fs) (hid : d2.fsId = d1.fsId) (hc1 : Compat s1 d1) (hc2 : Compat s2 d2) :
    CSimP (NotDirAt s1.fs s1.path) R KRel (· = ·) (s1.copyFile d1) (s2.copyFile d2) := by
  by_cases hi : s1.fsId = d1.fsId
  ·
    have hi2 : s2.fsId = d2.fsId := by rw [hs.id, hid, hi]
    have f1 := hc1 hi
    have f2 := hc2 hi2
    obtain ⟨sfs1, sid1, sp1⟩ := s1
    obtain ⟨sfs2, sid2, sp2⟩ := s2
    obtain ⟨dfs1, did1, dp1⟩ := d1
    obtain ⟨dfs2, did2, dp2⟩ := d2
    simp only at hi hi2 f1 f2
    have h3 := hs.path
    have h4 := hd.path
    have h5 := hs.id
    simp only at h3 h4 h5
    subst hi hi2 f1 f2 h3 h4
    subst h5
    exact hs.fs.copyV _ _ _ hs.canon hd.canon
  · have hi2 : ¬ s2.fsId = d2.fsId := by rw [hs.id, hid]; exact hi
    rw [Vfs.VPath.copyFile_eq, Vfs.VPath.copyFile_eq, Vfs.VPath.fastOr_neg hi,
      Vfs.VPath.fastOr_neg hi2]
    exact CSimP.guarded (sim_exists hd) (exists_pure hdt) (sim_copyGeneric (sim_openND hs) hd)

end VPath
end paramX

section fast
variable {R : World → World → Prop}

/-- a related shortcut that never answers `NotSupported` on the left: its answer is final on both
sides, the generic route is dead code -/
theorem sim_fastOr_final {P : World → Prop} {c : Prop} [Decidable c] {X1 X2 g1 g2 : M Unit} (hc : c)
    (hX : CSimP P R KRel (· = ·) X1 X2) (hNS : NoNS X1) :
    CSimP P R KRel (· = ·) (Vfs.VPath.fastOr c X1 g1) (Vfs.VPath.fastOr c X2 g2) := by
  intro w1 w2 hr hP
  obtain ⟨h1, h2⟩ := hX w1 w2 hr hP
  have hn := hNS w1
  have hn2 : ∀ p, (X2 w2).1 ≠ .err .notSupported p := by
    intro p hp
    rw [hp] at h1
    generalize (X1 w1).1 = r1 at h1 hn
    cases h1 with
    | err hk => exact hn _ (by rw [(KRel.exact hk).2.2.2.1.2 rfl])
  rw [Vfs.VPath.fastOr_final hc hn, Vfs.VPath.fastOr_final hc hn2]
  exact ⟨h1, h2⟩

end fast

namespace Altroot
open Vfs.Altroot
variable {R : World → World → Prop} {root1 root2 : VPath}

theorem notDir_sub (root : VPath) (hroot : Canon root.path) (p : Str) (hp : Canon p) (w : World)
    (h : NotDirAt (fs root) p w) : NotDirAt root.fs (root.path ++ p) w := by
  have e : (fs root).metadata p = (root.withStr (root.path ++ p)).metadata :=
    run_method root p hroot hp _
  unfold NotDirAt at h
  rw [e] at h
  exact (notDirAt_vpath (root.withStr (root.path ++ p)) w).1 h

theorem copyFile_fs (root : VPath) (hroot : Canon root.path) (s d : Str) (hs : Canon s) (hd : Canon d)
    (hdn : d ≠ []) :
    (fs root).copyFile s d =
      (root.withStr (root.path ++ s)).copyFile (root.withStr (root.path ++ d)) := by
  show (if d = [] then M.failK .notSupported else
    (M.ret (path root s) >>= fun sp => M.ret (path root d) >>= fun dp => sp.copyFile dp)) = _
  rw [if_neg hdn, run_method root s hroot hs, run_method root d hroot hd]

theorem copyFile_fs_nil (root : VPath) (s : Str) :
    (fs root).copyFile s [] = M.failK .notSupported := by
  show (if ([] : Str) = [] then (M.failK .notSupported : M Unit) else
    (M.ret (path root s) >>= fun sp => M.ret (path root []) >>= fun dp => sp.copyFile dp)) = _
  rw [if_pos rfl]

theorem sim_openND (hroot : SimVX R root1 root2) (p : Str) (hp : Canon p) :
    CSimP (NotDirAt (fs root1) p) R KRel HEq ((fs root1).openFile p) ((fs root2).openFile p) := by
  have hc1 : Canon root1.path := hroot.canon
  have hc2 : Canon root2.path := by rw [hroot.path]; exact hroot.canon
  show CSimP _ R _ _ (M.ret (path root1 p) >>= _) (M.ret (path root2 p) >>= _)
  rw [run_method root1 p hc1 hp, run_method root2 p hc2 hp]
  have hsub : SimVX R (root1.withStr (root1.path ++ p)) (root2.withStr (root2.path ++ p)) := by
    rw [hroot.path]; exact hroot.withStr _ (Vfs.canon_append hroot.canon hp)
  exact (VPath.sim_openND hsub).weaken (fun w h => notDir_sub root1 hc1 p hp w h)

theorem simX (hroot : SimVX R root1 root2) : SimX R (fs root1) (fs root2) := by
  have hc1 : Canon root1.path := hroot.canon
  have hc2 : Canon root2.path := by rw [hroot.path]; exact hroot.canon
  have hC := simC hroot.toC
  have hT := tame hroot.tame
  refine { toSimC := hC, openND := sim_openND hroot, copyV := ?_ }
  intro id s d hs hd
  have hsub : ∀ p, Canon p → SimVX R (root1.withStr (root1.path ++ p))
      (root2.withStr (root2.path ++ p)) := by
    intro p hp; rw [hroot.path]; exact hroot.withStr _ (Vfs.canon_append hroot.canon hp)
  rw [Vfs.VPath.copyFile_eq, Vfs.VPath.copyFile_eq]
  refine CSimP.guarded (hC.exists_ d hd) (hT.existsP d) ?_
  by_cases hdn : d = []
  · subst hdn
    show CSimP _ R _ _ (Vfs.VPath.fastOr _ ((fs root1).copyFile s []) _)
      (Vfs.VPath.fastOr _ ((fs root2).copyFile s []) _)
    rw [copyFile_fs_nil, copyFile_fs_nil, Vfs.VPath.fastOr_unsupported, Vfs.VPath.fastOr_unsupported]
    refine VPath.sim_copyGeneric (s1 := { fs := fs root1, fsId := id, path := s })
      (s2 := { fs := fs root2, fsId := id, path := s }) ?_ ⟨hC, rfl, hd⟩
    exact CSimP.withPath _ _ (sim_openND hroot s hs)
  · show CSimP _ R _ _ (Vfs.VPath.fastOr _ ((fs root1).copyFile s d) _)
      (Vfs.VPath.fastOr _ ((fs root2).copyFile s d) _)
    rw [copyFile_fs root1 hc1 s d hs hd hdn, copyFile_fs root2 hc2 s d hs hd hdn]
    refine sim_fastOr_final rfl ?_ (VPath.copyFile_ns hroot.tame hroot.tame)
    refine (VPath.sim_copyFile (hsub s hs) (hsub d hd).toC hroot.tame hroot.id
      (fun _ => rfl) (fun _ => rfl)).weaken ?_
    intro w h
    exact notDir_sub root1 hc1 s hs w h

end Altroot

section guard
variable {R : World → World → Prop}

/-- the precondition is what the first step's result says about the world it leaves -/
theorem CSimP.bindT {α β γ δ : Type} {P : World → Prop} {P' : α → World → Prop}
    {KR : ErrKind → ErrKind → Prop} {Q : α → β → Prop} {Q' : γ → δ → Prop}
    {m1 : M α} {m2 : M β} {f : α → M γ} {g : β → M δ}
    (hm : CSim R KR Q m1 m2) (hf : ∀ a b, Q a b → CSimP (P' a) R KR Q' (f a) (g b))
    (ht : ∀ w a, P w → (m1 w).1 = .ok a → P' a (m1 w).2) :
    CSimP P R KR Q' (m1 >>= f) (m2 >>= g) :=
  fun w1 w2 hr hP => CSim.bind_at (hm w1 w2 hr) fun a b he hq h2 =>
    hf a b hq _ _ h2 (ht w1 a hP he)

theorem isFile_true_notDir {v : VPath} (ht : Tame v.fs) (w : World)
    (h : (v.isFile w).1 = .ok true) : NotDirAt v.fs v.path w := by
  rw [← notDirAt_vpath]
  unfold Vfs.VPath.isFile at h
  rw [bind_eval] at h
  have hp := VPath.exists_pure ht w
  rcases e : v.exists_ w with ⟨r, w'⟩
  rw [e] at hp h
  simp only at hp
  subst hp
  cases r with
  | err k p => cases h
  | panic => cases h
  | ok ex =>
    simp only at h
    by_cases hex : (!ex) = true
    · rw [if_pos hex] at h; cases h
    · rw [if_neg hex, bind_eval] at h
      rcases e2 : v.metadata w' with ⟨r2, w''⟩
      rw [e2] at h
      cases r2 with
      | err k p => cases h
      | panic => cases h
      | ok md =>
        simp only at h
        intro md' hm
        simp only [Res.ok.injEq] at hm
        subst hm
        have : decide (md.ftype = .file) = true := by
          have := h
          simp only [Pure.pure, M.pure, Res.ok.injEq] at this
          exact this
        exact of_decide_eq_true this

/-- the `is_file` guard that `OverlayFS::append_file` puts in front of its copy-up discharges
`NotDirAt`: no precondition is left -/
theorem sim_guardedCopy {s1 s2 d1 d2 : VPath} (hs : SimVX R s1 s2) (hd : SimVC R d1 d2)
    (hdt : Tame d1.fs) (hid : d2.fsId = d1.fsId) (hc1 : Compat s1 d1) (hc2 : Compat s2 d2) :
    CSim R KRel (· = ·)
      (s1.isFile >>= fun isf => if (!isf) = true then M.failK .other else s1.copyFile d1)
      (s2.isFile >>= fun isf => if (!isf) = true then M.failK .other else s2.copyFile d2) := by
  refine fun w1 w2 hr => CSimP.bindT (P := fun _ => True)
    (P' := fun a w => a = true → NotDirAt s1.fs s1.path w) (VPath.sim_isFile hs.toC)
    (fun a b hq => ?_) (fun w a _ he ha => ?_) w1 w2 hr trivial
  · subst hq
    cases a
    · exact CSimP.of (CSim.failK _)
    · exact (VPath.sim_copyFile hs hd hdt hid hc1 hc2).weaken fun w h => h rfl
  · rw [VPath.isFile_pure hs.tame w]
    exact isFile_true_notDir hs.tame w (ha ▸ he)

end guard

namespace Overlay
open Vfs.Overlay

section overlayX
variable {R : World → World → Prop} {l1 l2 : List VPath}
variable (hL : ListRel (SimVX R) l1 l2) (hW : SimVW R (writeLayer l1) (writeLayer l2))
  (hWX : SimVX R (writeLayer l1) (writeLayer l2))
  (hC1 : ∀ x ∈ l1, Compat x (writeLayer l1)) (hC2 : ∀ y ∈ l2, Compat y (writeLayer l2))
include hL hW hWX hC1 hC2

def QX (l1 l2 : List VPath) (R : World → World → Prop) (q1 q2 : VPath) : Prop :=
  SimVX R q1 q2 ∧ Compat q1 (writeLayer l1) ∧ Compat q2 (writeLayer l2)

omit hL hW hWX hC1 hC2 in
theorem qx_join {x y : VPath} (hxy : SimVX R x y) (c1 : Compat x (writeLayer l1))
    (c2 : Compat y (writeLayer l2)) (arg : Str) :
    CRes (· = ·) (QX l1 l2 R) (x.join arg) (y.join arg) := by
  refine (hxy.join arg).mono ?_
  intro a b ⟨h, e1, e2, e3, e4⟩
  refine ⟨h, ?_, ?_⟩
  · intro hi; rw [e1]; exact c1 (by rw [← e2]; exact hi)
  · intro hi; rw [e3]; exact c2 (by rw [← e4]; exact hi)

omit hL hW hWX hC1 hC2 in
theorem layerProbe_QX : LayerProbe R (clsK (· = ·)) (QX l1 l2 R) (fun _ _ => True) where
  notFound h := by cases h; exact Iff.rfl
  join h _ := cRes_iff.1 ((qx_join h.1 h.2.1 h.2.2 _).mono fun _ _ h => ⟨h, trivial⟩)
  exists_ h := cSim_iff.1 (VPath.sim_exists h.1.toC)

omit hW in
theorem sim_readPathX {p : Str} (hp : Canon p) :
    CSim R (· = ·) (QX l1 l2 R) (readPath l1 p) (readPath l2 p) :=
  cSim_iff.2 (abs_readPath layerProbe_QX
    (hL.mono fun x hx y hy h => ⟨h, hC1 x hx, hC2 y hy⟩) ⟨hWX, fun _ => rfl, fun _ => rfl⟩ hp)

omit hW in
theorem sim_openND {p : Str} (hp : Canon p) :
    CSimP (NotDirAt (fs l1) p) R KRel HEq ((fs l1).openFile p) ((fs l2).openFile p) := by
  show CSimP _ R _ _ (readPath l1 p >>= fun q => q.openFile) (readPath l2 p >>= fun q => q.openFile)
  refine CSimP.bindT (P' := fun q w => NotDirAt q.fs q.path w)
    (sim_readPathX hL hWX hC1 hC2 hp).ofEq (fun q1 q2 hq => VPath.sim_openND hq.1) ?_
  intro w q hP hq
  rw [← notDirAt_vpath]
  intro md hm
  apply hP md
  show ((readPath l1 p >>= fun q => q.metadata) w).1 = _
  rw [bind_eval]
  rcases e : readPath l1 p w with ⟨r, w'⟩
  rw [e] at hq hm
  simp only at hq
  subst hq
  exact hm

omit hW hC1 hC2 in
theorem tame1 : Tame (fs l1) := by
  refine tame ?_ hWX.tame
  intro x hx
  obtain ⟨y, _, h⟩ := hL.left x hx
  exact h.tame

theorem simX : SimX R (fs l1) (fs l2) := by
  have hC := simC (hL.mono fun _ _ _ _ h => h.toC) hW
  have hT := tame1 hL hWX
  refine { toSimC := hC, openND := fun p hp => sim_openND hL hWX hC1 hC2 hp, copyV := ?_ }
  intro id s d hs hd
  rw [Vfs.VPath.copyFile_eq, Vfs.VPath.copyFile_eq]
  refine CSimP.guarded (hC.exists_ d hd) (hT.existsP d) ?_
  show CSimP _ R _ _ (Vfs.VPath.fastOr _ (M.failK .notSupported) _)
    (Vfs.VPath.fastOr _ (M.failK .notSupported) _)
  rw [Vfs.VPath.fastOr_unsupported, Vfs.VPath.fastOr_unsupported]
  refine VPath.sim_copyGeneric (s1 := { fs := fs l1, fsId := id, path := s })
    (s2 := { fs := fs l2, fsId := id, path := s }) ?_ ⟨hC, rfl, hd⟩
  exact CSimP.withPath _ _ (sim_openND hL hWX hC1 hC2 hs)

omit hL hC1 hC2 in
theorem sim_writePathX (p : Str) :
    CRes KRel (fun a b => SimVW R a b ∧ SimVX R a b ∧ a.fs = (writeLayer l1).fs ∧
        a.fsId = (writeLayer l1).fsId ∧ b.fs = (writeLayer l2).fs ∧ b.fsId = (writeLayer l2).fsId)
      (writePath l1 p) (writePath l2 p) := by
  by_cases h : p = []
  · subst h; rw [writePath_nil, writePath_nil]; exact .ok ⟨hW, hWX, rfl, rfl, rfl, rfl⟩
  · rw [writePath_of_ne l1 h, writePath_of_ne l2 h]
    unfold Vfs.VPath.join
    rw [hW.path]
    cases hj : joinInternal (writeLayer l1).path (tail1 p) with
    | ok r =>
      have hc := C06.join_canonical _ _ _ hW.canon hj
      exact .ok ⟨hW.withStr r hc, hWX.withStr r hc, rfl, rfl, rfl, rfl⟩
    | err k q => exact .err (Or.inl rfl)
    | panic => exact .panic

theorem sim_copyUp {p : Str} (hp : Canon p) {wp1 wp2 : VPath} (hwp : SimVX R wp1 wp2)
    (e1 : wp1.fs = (writeLayer l1).fs) (e2 : wp1.fsId = (writeLayer l1).fsId)
    (e3 : wp2.fs = (writeLayer l2).fs) (e4 : wp2.fsId = (writeLayer l2).fsId) :
    CSim R KRel (· = ·) (copyUp l1 p wp1) (copyUp l2 p wp2) := by
  have hLC := hL.mono fun _ _ _ _ h => h.toC
  unfold copyUp
  refine CSim.bind_eq (VPath.sim_exists hwp.toC).ofEq fun ex => ?_
  refine CSim.ite (fun _ => ?_) (fun _ => CSim.pure rfl)
  refine CSim.bind_eq (sim_ensureHasParent hLC hW hp) fun _ => ?_
  refine CSim.bind (sim_readPathX hL hWX hC1 hC2 hp).ofEq fun rp1 rp2 hrp => ?_
  refine sim_guardedCopy hrp.1 hwp.toC hwp.tame hwp.id ?_ ?_
  · intro hi; rw [e1]; exact hrp.2.1 (by rw [← e2]; exact hi)
  · intro hi; rw [e3]; exact hrp.2.2 (by rw [← e4]; exact hi)

omit hL hW hWX hC1 hC2 in
theorem appendSession_eq (l : List VPath) (p : Str) (s : List Bytes) :
    appendSession (fs l) p s =
      (M.ret (writePath l p) >>= fun wp => copyUp l p wp >>= fun _ => VPath.appendSession wp s) := by
  show (appendFile l p >>= fun h => finish h s) = _
  unfold appendFile VPath.appendSession
  simp only [M.bind_assoc]

/-- the copy-up of `OverlayFS::append_file` (behind its `is_file` guard, hence from a FILE source),
then `append_file` of the write layer -/
theorem sim_appendSession {p : Str} (hp : Canon p) (s : List Bytes) :
    CSim R KRel (· = ·) (appendSession (fs l1) p s) (appendSession (fs l2) p s) := by
  rw [appendSession_eq, appendSession_eq]
  refine CSim.bind (CSim.ret (sim_writePathX hW hWX p)) fun wp1 wp2 hwp => ?_
  obtain ⟨hw, hx, e1, e2, e3, e4⟩ := hwp
  refine CSim.bind_eq (sim_copyUp hL hW hWX hC1 hC2 hp hx e1 e2 e3 e4) fun _ => ?_
  exact VPath.sim_appendSession hw s

end overlayX
end Overlay

theorem copyFile_exists_panic {s d : VPath} {w w' : World} (h : d.exists_ w = (.panic, w')) :
    s.copyFile d w = (.panic, w') := by
  rw [Vfs.VPath.copyFile_eq]
  unfold Vfs.VPath.guarded M.withPath
  rw [bind_run_panic h]
  rfl

theorem notDir_leaf {w : World} {i : Nat} {a : FMap} (h : MemLeafAt w i a) {p : Str}
    (hP : NotDirAt (leafFS i) p w) : ∀ e, a.find? p = some e → e.ftype = .file := by
  intro e he
  have := hP e.meta (by rw [run_metadata h p]; simp [Mem.metadata, he])
  exact this

theorem leaf_openND (i : Nat) (p : Str) (hp : Canon p) :
    CSimP (NotDirAt (leafFS i) p) RCore KRel HEq ((leafFS i).openFile p) ((leafFS i).openFile p) := by
  intro w1 w2 hr hP
  rcases hr.at i with ⟨e1, e2⟩ | ⟨a, b, e1, e2, hab⟩
  · rw [show (leafFS i).openFile p = onLeaf i _ from rfl, onLeaf_none e1, onLeaf_none e2]
    exact ⟨.panic, hr⟩
  · have hP' := notDir_leaf e1 hP
    rw [run_openFile e1 p, LeafAt.openFile_eq (k := .phys) e2 p, ← LeafAt.same e2]
    refine ⟨?_, hr.set e1 e2 (openFile_ok hab hp)⟩
    show CRes KRel HEq (Mem.openFile a p).1 (Phys.openFile b p)
    obtain ⟨_, _, h⟩ := look hab hp
    rw [Mem.openFile_eq]
    unfold Phys.openFile onSlot
    cases h with
    | present e e' hf _ _ hl ht hcn =>
      simp [hf, hl, Mem.openFileS, ht, hP' e hf, hcn]
      exact .ok ⟨rfl, rfl⟩
    | absent hf _ _ hl => simp only [hf, hl, Mem.openFileS]; exact .err (Or.inl rfl)
    | blocked k hf _ _ hl hk => simp only [hf, hl, Mem.openFileS]; exact .err (KRel.notFound_host hk)

theorem run_copyGeneric_absent {w : World} {i : Nat} {a : FMap} (h : MemLeafAt w i a) (id : Nat) (s d : Str)
    (hf : a.find? s = none) :
    Vfs.VPath.copyGeneric { fs := leafFS i, fsId := id, path := s } { fs := leafFS i, fsId := id, path := d } w
      = (.err .fileNotFound (some s), w) := by
  have ho : Vfs.VPath.openFile { fs := leafFS i, fsId := id, path := s } w
      = (.err .fileNotFound (some s), w) := by
    unfold Vfs.VPath.openFile M.withPath
    rw [run_openFile h]
    simp [Mem.openFile, Mem.setAccessed, hf, fail, Res.withPath, h.same]
  unfold Vfs.VPath.copyGeneric
  exact bind_run_err ho

theorem withPath_cres {α β : Type} {KR : ErrKind → ErrKind → Prop} {Q : α → β → Prop}
    {r1 : Res α} {r2 : Res β} (p q : Str) (h : CRes KR Q r1 r2) :
    CRes KR Q (r1.withPath p) (r2.withPath q) := h.withPath p q

/-- `copy_file` on a leaf: the generic read/write route over `MemoryFS` against `std::fs::copy` over
`PhysicalFS`, the source not a directory -/
theorem leaf_copyV (i id : Nat) (s d : Str) (hs : Canon s) (hd : Canon d) :
    CSimP (NotDirAt (leafFS i) s) RCore KRel (· = ·)
      (Vfs.VPath.copyFile { fs := leafFS i, fsId := id, path := s } { fs := leafFS i, fsId := id, path := d })
      (Vfs.VPath.copyFile { fs := leafFS i, fsId := id, path := s } { fs := leafFS i, fsId := id, path := d }) := by
  intro w1 w2 hr hP
  rcases hr.at i with ⟨e1, e2⟩ | ⟨a, b, e1, e2, hab⟩
  · have x : ∀ w : World, w.leaf? i = none →
        (Vfs.VPath.exists_ { fs := leafFS i, fsId := id, path := d }) w = (.panic, w) := by
      intro w hw
      show (leafFS i).exists_ d w = _
      rw [show (leafFS i).exists_ d = onLeaf i _ from rfl, onLeaf_none hw]
    rw [copyFile_exists_panic (x w1 e1), copyFile_exists_panic (x w2 e2)]
    exact ⟨.panic, hr⟩
  · have hP' := notDir_leaf e1 hP
    have hex := exists_rel hab hd
    by_cases hc : a.contains d = true
    · -- the destination exists: refused on both sides
      have x1 : (Vfs.VPath.exists_ { fs := leafFS i, fsId := id, path := d }) w1 = (.ok true, w1) :=
        hc ▸ LeafAt.exists_eq (k := .mem) e1 d
      have x2 : (Vfs.VPath.exists_ { fs := leafFS i, fsId := id, path := d }) w2 = (.ok true, w2) :=
        hc ▸ hex ▸ LeafAt.exists_eq (k := .phys) e2 d
      rw [Vfs.VPath.copyFile_eq, Vfs.VPath.guarded_refused _ _ _ _ w1 x1,
        Vfs.VPath.guarded_refused _ _ _ _ w2 x2]
      exact ⟨.err (Or.inl rfl), hr⟩
    · have hc' : a.contains d = false := by simpa using hc
      have hdn : a.find? d = none := find?_none_of_contains hc'
      have hne : d ≠ [] := hab.wf.ne_nil_of_absent hdn
      have hsd := slash_mem_canon hd hne
      have hsame : RCore w1 (w2.setLeafFiles i b) := by rw [World.setLeafFiles_self w2 i _ e2]; exact hr
      rw [run_copy_phys e2 id s d (by rw [← hex]; exact hc')]
      obtain ⟨_, _, hS⟩ := look hab hs
      cases hS with
      | absent hf _ _ hl =>
        rw [run_copy_mem e1 id s d hc', M.withPath, run_copyGeneric_absent e1 id s d hf]
        simp only [Phys.copyFile, hl, fail, Res.withPath]
        exact ⟨.err (Or.inl rfl), hsame⟩
      | blocked k hf _ _ hl hk =>
        rw [run_copy_mem e1 id s d hc', M.withPath, run_copyGeneric_absent e1 id s d hf]
        simp only [Phys.copyFile, hl, Res.withPath]
        exact ⟨.err (KRel.notFound_host hk), hsame⟩
      | present e e' hf _ _ hl ht h3 =>
        -- the source is a file: after the open, one write session on the destination
        have hty := hP' e hf
        have hf' : e'.ftype = .file := by rw [ht, hty]
        have hab' : LeafOK (a.insert s (touched e)) b := by
          have := openFile_ok hab hs
          rwa [Mem.openFile_file a s e hf hty] at this
        have hdn' : (a.insert s (touched e)).find? d = none := by
          rw [FMap.find?_insert_ne _ _ _ _ (fun h0 => by subst h0; rw [hdn] at hf; cases hf)]
          exact hdn
        obtain ⟨pr, hpr, hD⟩ := look hab' hd
        rw [run_copyFile_generic e1 e1 id id s d e hf hty hdn (MemLeafAt.set e1 _), Mem.pWrite_eq,
          World.setLeafFiles_twice, hdn', hpr hne]
        simp only [Phys.copyFile, hl, hf', show (FType.file = FType.dir) = False from by simp, if_false]
        cases hD with
        | present x _ hx => rw [hdn'] at hx; cases hx
        | absent _ _ hpt hld =>
          simp only [hpt, hld, Mem.writeS, Mem.createFileS, if_true, Res.withPath]
          refine ⟨.ok trivial, hr.set e1 e2
            ⟨hab'.wf.fits ?_, hab'.core.app (wb := .put _) ?_, Write.keysCanon _ hab'.keys hd⟩⟩
          · rw [hdn']; exact (hpr hne).trans hpt
          · simp [Write.slot, Vfs.core, h3]
        | blocked k _ _ hpf hld hk =>
          simp only [hpf, hld, Mem.writeS, Mem.createFileS, Bool.false_eq_true, if_false, Res.withPath,
            Write.app, fail]
          exact ⟨.err (KRel.other_host hk), hr.set e1 e2 hab'⟩

theorem leaf_simX (i : Nat) : SimX RCore (leafFS i) (leafFS i) where
  toSimC := leaf_simC i
  openND p hp := leaf_openND i p hp
  copyV id s d hs hd := leaf_copyV i id s d hs hd

end Vfs.C02
