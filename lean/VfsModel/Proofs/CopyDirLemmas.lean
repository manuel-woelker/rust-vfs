/-
  Helpers for the nested-tree theorems of property C11 (`VfsPath::copy_dir` / `move_dir` on
  memory leaves, Props/C11Nested.lean).

  * 1. strings: `under` (TransferLemmas) is `Wk.within`; the parent of a grafted path; a canonical
       key below a canonical directory is joined back onto the destination unchanged (`rel_join`);
       source and destination apart (`apart_of_not_under`, from `Wk.within_comparable`);
  * 2. the iterator invariant `Good` looks only at which keys are present and which are
       directories (`Good.transfer`);
  * 3. one item of the copy loop: `create_dir` / `copy_file` of a present source key to a fresh
       destination key, source and destination leaf equal or different (`item_step`);
  * 4. the loop is `CopyLoop.copyItems_run` (Proofs/CopyLoop.lean) with the source map as the tree,
       looked at only at or below `S` (on one leaf the copies appear elsewhere while it runs), and
       the invariant `MemInv`: destination = directory `D` + the re-rooted copies of the keys
       copied so far, source unchanged up to access times; one round is `mem_step`. (`PInv` states
       the same with the iterator state and the list of keys yielded in it; no proof here goes
       through it.)
  * 5. `copy_dir` = existence probe, `create_dir D`, `walk_dir S`, loop: `copyDirBody_tree`,
       `copyDir_tree` (result: `TreeCopied`);
  * 6. `move_dir` = the same, then `remove_dir_all S` (`rd_all` of TransferLemmas): `moveDir_tree`.
-/
import VfsModel.Proofs.TransferLemmas
import VfsModel.Props.C05Walk
import VfsModel.Proofs.AltrootLemmas
import VfsModel.Proofs.CopyLoop
namespace Vfs.CD
open Vfs.Wk (below within below_iff within_iff pending Good children st mk)
open Vfs.CopyLoop (Setting copyDirBody_run)
open Vfs.WkG (SeesOn)

/-! ### 1. strings -/

theorem under_of_below {P k : Str} (h : below P k = true) : under P k = true := by
  rw [under_eq_within]; exact Wk.within_of_below h

theorem graft_ne (P t : Str) : P ++ '/' :: t ≠ P := child_ne P t

theorem graft_inj (P a b : Str) : P ++ '/' :: a = P ++ '/' :: b ↔ a = b :=
  ⟨child_inj P a b, fun h => by rw [h]⟩

theorem beforeLast_append_of_mem (d : Char) (a u : Str) (h : d ∈ u) :
    beforeLast d (a ++ u) = a ++ beforeLast d u := by
  induction a with
  | nil => rfl
  | cons c cs ih => simp [beforeLast, h, ih]

/-- the parent of `A/t` is `A` followed by the parent part of `/t` -/
theorem parent_graft (A t : Str) :
    parentInternal (A ++ '/' :: t) = A ++ beforeLast '/' ('/' :: t) := by
  unfold parentInternal
  exact beforeLast_append_of_mem '/' A ('/' :: t) (by simp)

theorem beforeLast_slash_cons (t : Str) :
    beforeLast '/' ('/' :: t) = if '/' ∈ t then '/' :: beforeLast '/' t else [] := by
  simp [beforeLast]

/-- a rendered list that starts with another rendered list followed by "/t" -/
theorem renderC_split : ∀ (ss ks : List Str) (t : Str), (∀ c ∈ ss, '/' ∉ c) → (∀ c ∈ ks, '/' ∉ c) →
    renderC ks = renderC ss ++ '/' :: t → ∃ ts, ks = ss ++ ts ∧ renderC ts = '/' :: t := by
  intro ss
  induction ss with
  | nil => intro ks t _ _ h; exact ⟨ks, rfl, by simpa using h⟩
  | cons s ss ih =>
    intro ks t hss hks h
    cases ks with
    | nil => simp at h
    | cons k ks =>
      simp only [renderC_cons, List.cons_append, List.cons.injEq, true_and, List.append_assoc] at h
      have hh : renderC ss ++ '/' :: t = [] ∨ (renderC ss ++ '/' :: t).head? = some '/' := by
        cases ss <;> simp
      have hk : renderC ks = [] ∨ (renderC ks).head? = some '/' := by
        cases ks <;> simp
      obtain ⟨h1, h2⟩ := slashfree_split k s _ _ (hks k (by simp)) (hss s (by simp)) hk hh h
      obtain ⟨ts, h3, h4⟩ := ih ks t (fun c hc => hss c (by simp [hc]))
        (fun c hc => hks c (by simp [hc])) h2
      exact ⟨ts, by rw [h1, h3]; rfl, h4⟩

/-- `destination.join(&src_path[prefix_len + 1..])` for a canonical key `S/t` below the canonical
directory `S`: the relative part `t` is appended unchanged -/
theorem rel_join (bs : List Str) (S t : Str) (hbs : ∀ c ∈ bs, '/' ∉ c) (hS : Canon S)
    (hk : Canon (S ++ '/' :: t)) : joinInternal (renderC bs) t = .ok (renderC bs ++ '/' :: t) := by
  obtain ⟨ss, hss, rfl⟩ := hS
  obtain ⟨ks, hks, hk⟩ := hk
  obtain ⟨ts, h1, h2⟩ := renderC_split ss ks t (fun c hc => (hss c hc).2.1)
    (fun c hc => (hks c hc).2.1) hk.symm
  subst h1
  exact joinInternal_tail bs ts hbs (fun c hc => hks c (by simp [hc])) h2

/-- source and destination are apart: a path at or below `S` is not at or below `D` -/
theorem apart_of_not_under {S D : Str} (h1 : under S D = false) (h2 : under D S = false) (k : Str)
    (hk : under S k = true) : under D k = false := by
  cases hd : under D k with
  | false => rfl
  | true =>
    rw [under_eq_within] at *
    rcases Wk.within_comparable hk hd with h | h
    · rw [h1] at h; cases h
    · rw [h2] at h; cases h

/-! ### 2. the iterator invariant on another map -/

/-- the invariant of the iterator only looks at which keys are present and which are
directories -/
theorem Good.transfer {m m' : FMap} {inner todo : List Str} (hg : Good m inner todo)
    (h : ∀ k e, m.find? k = some e → ∃ e', m'.find? k = some e' ∧ e'.ftype = e.ftype) :
    Good m' inner todo := by
  refine ⟨?_, ?_, hg.apart⟩
  · intro x hx
    obtain ⟨e, he⟩ := hg.innerKeys x hx
    obtain ⟨e', he', _⟩ := h x e he
    exact ⟨e', he'⟩
  · intro d hd
    obtain ⟨e, he, hdir⟩ := hg.todoDirs d hd
    obtain ⟨e', he', hft⟩ := h d e he
    exact ⟨e', he', by rw [hft]; exact hdir⟩

/-! ### 3. one item of the copy loop -/

/-- what a copy must reproduce: the type, and the bytes of a file -/
def shape (e : Entry) : FType × Bytes := (e.ftype, if e.ftype = .file then e.content else [])

theorem shape_of_stripAcc {a b : Entry} (h : stripAcc a = stripAcc b) : shape a = shape b := by
  have h1 : a.ftype = b.ftype := by simpa [stripAcc] using congrArg Entry.ftype h
  have h2 : a.content = b.content := by simpa [stripAcc] using congrArg Entry.content h
  simp [shape, h1, h2]

theorem ftype_of_stripAcc {a b : Entry} (h : stripAcc a = stripAcc b) : a.ftype = b.ftype := by
  simpa [stripAcc] using congrArg Entry.ftype h

theorem shape_dirEntryNow : shape dirEntryNow = (.dir, []) := by decide

theorem shape_dir {e : Entry} (h : e.ftype = .dir) : shape e = (.dir, []) := by simp [shape, h]

theorem shape_file {e : Entry} (h : e.ftype = .file) : shape e = (.file, e.content) := by
  simp [shape, h]

/-- a directory item: `create_dir` at the fresh destination key -/
theorem item_dir {w : World} {i j : Nat} {ms md : FMap} (hi : MemLeafAt w i ms)
    (hj : MemLeafAt w j md) (did : Nat) (d : Str) (hd : FreshDest md d)
    (hwfs : WF ms) (hwfd : WF md) (hnd : FMap.NodupKeys ms) :
    ∃ w' ms' md', VPath.createDir (mk j did d) w = (.ok (), w') ∧
      MemLeafAt w' i ms' ∧ MemLeafAt w' j md' ∧ WF ms' ∧ WF md' ∧ FMap.NodupKeys ms' ∧
      (∀ l, l ≠ i → l ≠ j → w'.leaf? l = w.leaf? l) ∧
      (∀ k, md'.find? k = if k = d then some dirEntryNow else md.find? k) ∧
      (∀ k, ms'.find? k = if i = j ∧ k = d then some dirEntryNow else ms.find? k) := by
  obtain ⟨ms', hrun, hi', hms', hwf', hnd', _⟩ := createDir_mem hi hj did d hd
  obtain ⟨pe, hpe, hpd⟩ := hd.parent
  exact ⟨_, ms', _, hrun, hi', hj.set _, hwf' hwfs, hwfd.insert_dir _ _ rfl hd.slash pe hpe hpd,
    hnd' hnd, fun l _ hl => World.leaf?_setLeafFiles_ne _ _ _ _ (Ne.symm hl),
    fun k => by rw [FMap.find?_insert], hms'⟩

/-- a file item: `copy_file` to the fresh destination key -/
theorem item_file {w : World} {i j : Nat} {ms md : FMap} (hi : MemLeafAt w i ms)
    (hj : MemLeafAt w j md) (sid did : Nat) (x d : Str) (e : Entry) (hx : ms.find? x = some e)
    (hf : e.ftype = .file) (hd : FreshDest md d)
    (hwfs : WF ms) (hwfd : WF md) (hnd : FMap.NodupKeys ms) :
    ∃ w' ms' md', VPath.copyFile (mk i sid x) (mk j did d) w = (.ok (), w') ∧
      MemLeafAt w' i ms' ∧ MemLeafAt w' j md' ∧ WF ms' ∧ WF md' ∧ FMap.NodupKeys ms' ∧
      (∀ l, l ≠ i → l ≠ j → w'.leaf? l = w.leaf? l) ∧
      (∀ k, md'.find? k = if k = d then some (copiedEntry e.content)
                           else if i = j ∧ k = x then some (touched e) else md.find? k) ∧
      (∀ k, ms'.find? k = if i = j ∧ k = d then some (copiedEntry e.content)
                           else if k = x then some (touched e) else ms.find? k) := by
  obtain ⟨w', hrun, hoth, _, ⟨ms', md', hi', hj', hmd', hms'⟩, hinv⟩ :=
    copyFile_mem hi hj sid did x d e hx hf hd
  have hwf' := (hinv ms' md' hi' hj').1 hwfs hwfd
  refine ⟨w', ms', md', hrun, hi', hj', hwf'.1, hwf'.2, ?_, hoth, hmd', hms'⟩
  by_cases hij : i = j
  · subst hij
    have := hi.unique hj; subst this
    exact ((hinv ms' md' hi' hj').2 hnd hnd).1
  · -- two leaves: the source leaf is `ms` with the access time of `x` stamped
    have hd1 : MemLeafAt (w.setLeafFiles i (ms.insert x (touched e))) j md := hj.set_ne hij _
    have hrun2 := run_copyFile_generic hi hj sid did x d e hx hf hd.absent hd1
    have hw : w' = (w.setLeafFiles i (ms.insert x (touched e))).setLeafFiles j
        (Mem.pWrite md d e.content).2 := by
      rw [hrun2] at hrun
      exact (congrArg Prod.snd hrun).symm
    have hi2 : MemLeafAt w' i (ms.insert x (touched e)) := by
      rw [hw]; exact (hi.set _).set_ne (Ne.symm hij) _
    rw [hi'.unique hi2]
    exact FMap.nodup_insert _ _ _ hnd

theorem stripAcc_touched (e : Entry) : stripAcc (touched e) = stripAcc e := rfl

/-- one item, directory or file: a new entry `ne` at the destination key whose type and bytes are
the shape of the source entry (a directory is created with no bytes), the
source entry `e` replaced by `te` (equal up to the access time), nothing else touched -/
theorem item_step {w : World} {i j : Nat} {ms md : FMap} (hi : MemLeafAt w i ms)
    (hj : MemLeafAt w j md) (sid did : Nat) (x d : Str) (e : Entry) (hx : ms.find? x = some e)
    (hd : FreshDest md d) (hwfs : WF ms) (hwfd : WF md) (hnd : FMap.NodupKeys ms) :
    ∃ w' ms' md' ne te, VPath.copyItem e.ftype (mk i sid x) (mk j did d) w = (.ok (), w') ∧
      MemLeafAt w' i ms' ∧ MemLeafAt w' j md' ∧ WF ms' ∧ WF md' ∧ FMap.NodupKeys ms' ∧
      (∀ l, l ≠ i → l ≠ j → w'.leaf? l = w.leaf? l) ∧
      core ne = shape e ∧ stripAcc te = stripAcc e ∧
      (∀ k, md'.find? k = if k = d then some ne
                           else if i = j ∧ k = x then some te else md.find? k) ∧
      (∀ k, ms'.find? k = if i = j ∧ k = d then some ne
                           else if k = x then some te else ms.find? k) := by
  cases hft : e.ftype with
  | dir =>
    obtain ⟨w', ms', md', hrun, hi', hj', h1, h2, h3, h4, hmd', hms'⟩ :=
      item_dir hi hj did d hd hwfs hwfd hnd
    refine ⟨w', ms', md', dirEntryNow, e, hrun, hi', hj', h1, h2, h3, h4, ?_, rfl, ?_, ?_⟩
    · rw [shape_dir hft]; rfl
    -- the source entry stays as it is: the clause for `x` says nothing new
    · intro k
      rw [hmd' k, (ite_eq_right_iff (p := i = j ∧ k = x)).2]
      rintro ⟨hij, rfl⟩
      subst hij
      rw [← hi.unique hj, hx]
    · intro k
      rw [hms' k, (ite_eq_right_iff (p := k = x)).2]
      rintro rfl
      exact hx.symm
  | file =>
    obtain ⟨w', ms', md', hrun, hi', hj', h1, h2, h3, h4, hmd', hms'⟩ :=
      item_file hi hj sid did x d e hx hft hd hwfs hwfd hnd
    refine ⟨w', ms', md', copiedEntry e.content, touched e, hrun, hi', hj', h1, h2, h3, h4, ?_,
      stripAcc_touched e, hmd', hms'⟩
    rw [shape_file hft]; rfl

/-! ### 4. the loop invariant -/

theorem opt_map_some {α β} {f : α → β} {a b : Option α} {e : α} (h : a.map f = b.map f)
    (ha : a = some e) : ∃ e0, b = some e0 ∧ f e = f e0 := by
  subst ha
  cases b with
  | none => simp at h
  | some e0 => exact ⟨e0, rfl, by simpa using h⟩

/-- the fixed data of one run of the copy loop: source leaf `i` held `ms`, destination leaf `j`
held `md` before the call; `S` the source directory, `D` the destination path -/
structure Setup (i j : Nat) (ms md : FMap) (S D : Str) (N : Nat) : Prop where
  /-- one leaf: a path at or below the source is not at or below the destination -/
  apart : i = j → ∀ k, under S k = true → under D k = false
  /-- the relative part of a source key is joined onto the destination unchanged -/
  join : ∀ t e, ms.find? (S ++ '/' :: t) = some e → joinInternal D t = .ok (D ++ '/' :: t)
  /-- `N` bounds the number of keys strictly below the source -/
  bound : ∀ L : List Str, L.Nodup →
    (∀ k ∈ L, (∃ e, ms.find? k = some e) ∧ below S k = true) → L.length ≤ N

/-- the invariant of the copy loop written with the iterator in it: `msc` / `mdc` are the current
maps of the source and destination leaf, `(inner, todo)` the iterator state, `L` the keys yielded
(and copied) so far. The loop theorem (`mem_setting`, `copyDirBody_tree`) runs on `MemInv` below,
which is the data part of this (`wfs`, `wfd`, `nds`, `src`, `dstD`, `dst`, `frame`) with the set of
keys copied in place of `L`; the iterator part (`good`, `scope`, `listed`, `nodup`) is what
`CopyLoop.copyItems_run` maintains by itself. Nothing constructs or consumes `PInv`. -/
structure PInv (i j : Nat) (ms md : FMap) (S D : Str) (msc mdc : FMap)
    (inner todo L : List Str) : Prop where
  wfs : WF msc
  wfd : WF mdc
  nds : FMap.NodupKeys msc
  good : Good msc inner todo
  /-- only keys below the source are ever pending -/
  scope : ∀ k, pending inner todo k = true → below S k = true
  /-- yielded so far = the source keys below `S` that are no longer pending -/
  listed : ∀ k, k ∈ L ↔
    (∃ e, ms.find? k = some e) ∧ below S k = true ∧ pending inner todo k = false
  nodup : L.Nodup
  /-- the source leaf is as it was, up to access times (on one leaf: outside the destination) -/
  src : ∀ k, (i = j → under D k = false) →
    (msc.find? k).map stripAcc = (ms.find? k).map stripAcc
  dstD : mdc.find? D = some dirEntryNow
  /-- below the destination: exactly the re-rooted copies of the keys yielded so far -/
  dst : ∀ t, (mdc.find? (D ++ '/' :: t)).map core =
    if S ++ '/' :: t ∈ L then (ms.find? (S ++ '/' :: t)).map shape else none
  /-- outside the destination the destination leaf is as it was, up to access times -/
  frame : ∀ k, under D k = false → (mdc.find? k).map stripAcc = (md.find? k).map stripAcc

/-- the copy invariant: `P` = the source keys copied so far; the current maps of the source leaf
`i` and the destination leaf `j` against the maps `ms`, `md` before the call -/
structure MemInv (i j : Nat) (ms md : FMap) (S D : Str) (w0 w : World) (P : Str → Prop) : Prop where
  leaves : ∃ msc mdc, MemLeafAt w i msc ∧ MemLeafAt w j mdc ∧ WF msc ∧ WF mdc ∧
    FMap.NodupKeys msc ∧
    (∀ k, (i = j → under D k = false) →
      (msc.find? k).map stripAcc = (ms.find? k).map stripAcc) ∧
    mdc.find? D = some dirEntryNow ∧
    (∀ t, P (S ++ '/' :: t) →
      (mdc.find? (D ++ '/' :: t)).map core = (ms.find? (S ++ '/' :: t)).map shape) ∧
    (∀ t, ¬ P (S ++ '/' :: t) → mdc.find? (D ++ '/' :: t) = none) ∧
    (∀ k, under D k = false → (mdc.find? k).map stripAcc = (md.find? k).map stripAcc)
  others : ∀ l, l ≠ i → l ≠ j → w.leaf? l = w0.leaf? l

section inst
variable {i j : Nat} {ms md : FMap} {S D : Str} {N : Nat} (hs : Setup i j ms md S D N)
  (hwfs : WF ms) (hnd : FMap.NodupKeys ms) (sid did : Nat) (w0 : World)
include hs hwfs

omit hwfs in
theorem ftype_same {msc : FMap}
    (hsrc : ∀ k, (i = j → under D k = false) →
      (msc.find? k).map stripAcc = (ms.find? k).map stripAcc) {k : Str}
    (hk : within S k = true) : (ms.find? k).map Entry.ftype = (msc.find? k).map Entry.ftype := by
  have := hsrc k (fun hij => hs.apart hij k hk)
  cases h1 : msc.find? k <;> cases h2 : ms.find? k <;> rw [h1, h2] at this <;>
    simp only [Option.map_some, Option.map_none, Option.some.injEq, reduceCtorEq] at this ⊢
  exact (ftype_of_stripAcc this).symm

/-- one round: `create_dir` / `copy_file` of the present source key `S/t` onto the fresh `D/t` -/
theorem mem_step (w : World) (P : Str → Prop) (t : Str) (e : Entry)
    (hJ : MemInv i j ms md S D w0 w P) (hx : ms.find? (S ++ '/' :: t) = some e)
    (hnP : ¬ P (S ++ '/' :: t))
    (hanc : ∀ p, below S p = true → below p (S ++ '/' :: t) = true →
      (∃ e', ms.find? p = some e') → P p) :
    ∃ w', VPath.copyItem e.ftype ((mk i sid S).withStr (S ++ '/' :: t))
        ((mk j did D).withStr (D ++ '/' :: t)) w = (.ok (), w') ∧
      MemInv i j ms md S D w0 w' (fun k => P k ∨ k = S ++ '/' :: t) := by
  obtain ⟨⟨msc, mdc, hi, hj, wfs, wfd, nds, hsrc, hdD, hdst, hnot, hfr⟩, hoth⟩ := hJ
  have hxS : below S (S ++ '/' :: t) = true := Wk.below_child S t
  have hxD : i = j → under D (S ++ '/' :: t) = false := fun hij => hs.apart hij _ (under_graft S t)
  have hdD' : under D (D ++ '/' :: t) = true := under_graft D t
  obtain ⟨ec, hec, hse⟩ := opt_map_some (hsrc _ hxD).symm hx
  have hcs : i = j → msc = mdc := fun hij => by subst hij; exact hi.unique hj
  -- the destination key is fresh: absent, its parent the destination or the copy of `S/t`'s parent
  have hfresh : FreshDest mdc (D ++ '/' :: t) := by
    refine ⟨hnot t hnP, by simp, ?_⟩
    rw [parent_graft, beforeLast_slash_cons]
    by_cases hsl : '/' ∈ t
    · rw [if_pos hsl]
      have hpar : parentInternal (S ++ '/' :: t) = S ++ '/' :: beforeLast '/' t := by
        rw [parent_graft, beforeLast_slash_cons, if_pos hsl]
      obtain ⟨hxs, pe, hpe, hpd⟩ := hwfs.2 _ e hx (by simp)
      rw [hpar] at hpe
      have hbp : below (S ++ '/' :: beforeLast '/' t) (S ++ '/' :: t) = true := by
        have := Wk.below_parent_self _ hxs
        rw [hpar] at this; exact this
      have hd := hdst _ (hanc _ (Wk.below_child S _) hbp ⟨pe, hpe⟩)
      rw [hpe] at hd
      obtain ⟨v, hv, hcv⟩ := Option.map_eq_some_iff.1 hd
      refine ⟨v, hv, ?_⟩
      have h1 : (core v).1 = (shape pe).1 := by rw [hcv]
      simpa [shape, core, hpd] using h1
    · rw [if_neg hsl, List.append_nil]
      exact ⟨dirEntryNow, hdD, rfl⟩
  obtain ⟨w1, ms', md', ne, te, hrun, hi', hj', hw1, hw2, hn, hoth1, hsh, hst, hmd, hms⟩ :=
    item_step hi hj sid did _ _ ec hec hfresh wfs wfd nds
  have hft : ec.ftype = e.ftype := (ftype_of_stripAcc hse).symm
  refine ⟨w1, by rw [← hft]; exact hrun, ⟨ms', md', hi', hj', hw1, hw2, hn, ?_, ?_, ?_, ?_, ?_⟩,
    fun l h1 h2 => by rw [hoth1 l h1 h2, hoth l h1 h2]⟩
  · -- the source leaf
    intro k hk
    rw [hms k]
    have c1 : ¬ (i = j ∧ k = D ++ '/' :: t) := by
      rintro ⟨hij, rfl⟩
      rw [hk hij] at hdD'; cases hdD'
    rw [if_neg c1]
    by_cases c2 : k = S ++ '/' :: t
    · rw [if_pos c2, ← hsrc k hk, c2, hec]; simp [hst]
    · rw [if_neg c2]; exact hsrc k hk
  · -- the destination directory itself
    rw [hmd D, if_neg (graft_ne D t).symm, if_neg]
    · exact hdD
    · rintro ⟨hij, hDx⟩
      have := hxD hij
      rw [← hDx, under_self] at this; cases this
  · -- below the destination: the copies
    rintro t2 (h2 | h2)
    · have ht : t2 ≠ t := fun h0 => hnP (h0 ▸ h2)
      rw [hmd, if_neg (fun hq => ht ((graft_inj D t2 t).1 hq)), if_neg]
      · exact hdst t2 h2
      · rintro ⟨hij, hq⟩
        have := hxD hij
        rw [← hq, under_graft] at this; cases this
    · obtain rfl := (graft_inj S t2 t).1 h2
      rw [hmd, if_pos rfl, hx]
      simp [hsh, shape_of_stripAcc hse]
  · -- below the destination: nothing else
    intro t2 h2
    have ht : t2 ≠ t := fun h0 => h2 (Or.inr (by rw [h0]))
    rw [hmd, if_neg (fun hq => ht ((graft_inj D t2 t).1 hq)), if_neg]
    · exact hnot t2 (fun h0 => h2 (Or.inl h0))
    · rintro ⟨hij, hq⟩
      have := hxD hij
      rw [← hq, under_graft] at this; cases this
  · -- outside the destination
    intro k hk
    rw [hmd k]
    have c1 : k ≠ D ++ '/' :: t := by
      rintro rfl
      rw [hk] at hdD'; cases hdD'
    rw [if_neg c1]
    by_cases c2 : i = j ∧ k = S ++ '/' :: t
    · rw [if_pos c2]
      obtain ⟨hij, rfl⟩ := c2
      have : mdc.find? (S ++ '/' :: t) = some ec := by rw [← hcs hij]; exact hec
      rw [← hfr _ hk, this]; simp [hst]
    · rw [if_neg c2]; exact hfr k hk

include hnd in
theorem mem_setting :
    Setting (mk i sid S) (mk j did D) ms (fun k => within S k = true)
      (MemInv i j ms md S D w0) where
  wf := hwfs
  nodup := hnd
  down := WkG.down_within S
  join := hs.join
  sees _ _ := fun ⟨⟨_, _, hi, _, wfs, _, nds, hsrc, _⟩, _⟩ =>
    (SeesOn.of_treeView (P := mk i sid S) (C05.mem_treeView hi wfs nds) _).congr (WkG.down_within S)
      fun _ hk => ftype_same hs hsrc hk
  congr _ _ _ := fun ⟨⟨msc, mdc, a, b, c, d, e, f, g, h1, h2, h3⟩, ho⟩ hp =>
    ⟨⟨msc, mdc, a, b, c, d, e, f, g, fun t ht => h1 t ((hp _ (Wk.below_child S t)).1 ht),
      fun t ht => h2 t (fun h0 => ht ((hp _ (Wk.below_child S t)).2 h0)), h3⟩, ho⟩
  step := mem_step hs hwfs sid did w0

end inst

theorem relJoin_graft (j did sid i : Nat) (S D t : Str) (h : joinInternal D t = .ok (D ++ '/' :: t)) :
    VPath.relJoin (mk j did D) (mk i sid S).path.length (mk i sid (S ++ '/' :: t)) =
      .ok (mk j did (D ++ '/' :: t)) :=
  VPath.relJoin_below (mk j did D) S t (mk i sid (S ++ '/' :: t)) rfl h

/-! ### 5. `copy_dir` -/

/-- What `copy_dir S → D` leaves behind (one statement for one leaf and for two leaves). `n` is
the count returned. -/
structure TreeCopied (i j : Nat) (ms md : FMap) (S D : Str) (w w' : World) (n : Nat) : Prop where
  others : ∀ l, l ≠ i → l ≠ j → w'.leaf? l = w.leaf? l
  /-- the count is the number of keys strictly below the source -/
  count : n = (ms.keys.filter (below S)).length
  leaves : ∃ ms' md', MemLeafAt w' i ms' ∧ MemLeafAt w' j md' ∧ WF ms' ∧ WF md' ∧
    FMap.NodupKeys ms' ∧
    -- the destination is a fresh directory
    md'.find? D = some dirEntryNow ∧
    -- below it: `D/t` exists iff `S/t` did, with the same type; a file has the same bytes, a
    -- directory (empty ones included) has none
    (∀ t, (md'.find? (D ++ '/' :: t)).map core = (ms.find? (S ++ '/' :: t)).map shape) ∧
    -- nothing else on the destination leaf changed (access times aside)
    (∀ k, under D k = false → (md'.find? k).map stripAcc = (md.find? k).map stripAcc) ∧
    -- the source leaf is unchanged (access times aside; on one leaf: outside the destination)
    (∀ k, (i = j → under D k = false) → (ms'.find? k).map stripAcc = (ms.find? k).map stripAcc)

/-- the static facts the loop needs, from the hypotheses of the theorem -/
theorem setup_of {i j : Nat} {ms md : FMap} {w : World} (hi : MemLeafAt w i ms)
    (hj : MemLeafAt w j md) (hwfd : WF md) (S : Str) (bs : List Str)
    (hbs : ∀ c ∈ bs, '/' ∉ c) (se : Entry) (hse : ms.find? S = some se)
    (hcanon : ∀ k e, ms.find? k = some e → under S k = true → Canon k)
    (hfresh : FreshDest md (renderC bs)) (hout : i = j → under S (renderC bs) = false) :
    Setup i j ms md S (renderC bs) (ms.keys.filter (below S)).length := by
  refine ⟨?_, ?_, ?_⟩
  · intro hij
    subst hij
    have := hi.unique hj; subst this
    refine apart_of_not_under (hout rfl) ?_
    cases hu : under (renderC bs) S with
    | false => rfl
    | true =>
      rcases (under_iff _ _).1 hu with h | ⟨t, h⟩
      · rw [h, hfresh.absent] at hse; cases hse
      · rw [h, hfresh.child_absent hwfd t] at hse; cases hse
  · intro t e he
    exact rel_join bs S t hbs (hcanon S se hse (under_self S)) (hcanon _ e he (under_graft S t))
  · intro L hnd hL
    refine hnd.length_le_of_subset fun k hk => ?_
    obtain ⟨hp, hb⟩ := hL k hk
    exact List.mem_filter.2 ⟨(FMap.mem_keys_iff ms k).2 hp, hb⟩

/-- `create_dir D`, `walk_dir S`, the loop: on memory leaves `i` (source) and `j` (destination),
equal or different, a tree of any depth -/
theorem copyDirBody_tree {w : World} {i j : Nat} {ms md : FMap}
    (hi : MemLeafAt w i ms) (hj : MemLeafAt w j md) (sid did fuel : Nat) (S : Str) (bs : List Str)
    (hbs : ∀ c ∈ bs, '/' ∉ c) (hwfs : WF ms) (hwfd : WF md) (hnd : FMap.NodupKeys ms)
    (hdir : ∃ se, ms.find? S = some se ∧ se.ftype = .dir)
    (hcanon : ∀ k e, ms.find? k = some e → under S k = true → Canon k)
    (hfresh : FreshDest md (renderC bs)) (hout : i = j → under S (renderC bs) = false)
    (hfuel : (ms.keys.filter (below S)).length < fuel) :
    ∃ w', VPath.copyDirBody fuel { fs := leafFS i, fsId := sid, path := S }
            { fs := leafFS j, fsId := did, path := renderC bs } w =
          (.ok (ms.keys.filter (below S)).length, w') ∧
      TreeCopied i j ms md S (renderC bs) w w' (ms.keys.filter (below S)).length := by
  obtain ⟨se, hse, hsd⟩ := hdir
  have hs := setup_of hi hj hwfd S bs hbs se hse hcanon hfresh hout
  obtain ⟨w1, ms1, md1, hcd, hi1, hj1, hwf1, hwfd1, hnd1, hoth1, hmd1, hms1⟩ :=
    item_dir hi hj did (renderC bs) hfresh hwfs hwfd hnd
  -- the invariant after `create_dir D`: nothing copied
  have hJ : MemInv i j ms md S (renderC bs) w1 w1 (fun _ => False) := by
    refine ⟨⟨ms1, md1, hi1, hj1, hwf1, hwfd1, hnd1, fun k hk => ?_, by rw [hmd1, if_pos rfl],
      fun _ h => h.elim, fun t _ => ?_, fun k hk => ?_⟩, fun _ _ _ => rfl⟩
    · rw [hms1 k, if_neg]
      rintro ⟨hij, rfl⟩
      have := hk hij
      rw [under_self] at this; cases this
    · rw [hmd1, if_neg (graft_ne _ t), hfresh.child_absent hwfd t]
    · rw [hmd1, if_neg]
      rintro rfl
      rw [under_self] at hk; cases hk
  obtain ⟨w', hrun, ⟨⟨ms', md', hi', hj', a, b, c, hsrc, hdD, hdst, hnot, hfr⟩, hoth⟩⟩ :=
    copyDirBody_run (mem_setting hs hwfs hnd sid did w1) hcd hse hsd (Wk.within_self S) hJ hfuel
  refine ⟨w', hrun, fun l h1 h2 => by rw [hoth l h1 h2, hoth1 l h1 h2], rfl, ms', md', hi', hj', a, b,
    c, hdD, fun t => ?_, hfr, hsrc⟩
  cases hf : ms.find? (S ++ '/' :: t) with
  | some e => rw [hdst t ⟨e, hf⟩, hf]
  | none => rw [hnot t (fun ⟨e, he⟩ => by rw [hf] at he; cases he)]; rfl

/-- `copy_dir` itself: the existence probe, then the body -/
theorem copyDir_tree {w : World} {i j : Nat} {ms md : FMap}
    (hi : MemLeafAt w i ms) (hj : MemLeafAt w j md) (sid did fuel : Nat) (S : Str) (bs : List Str)
    (hbs : ∀ c ∈ bs, '/' ∉ c) (hwfs : WF ms) (hwfd : WF md) (hnd : FMap.NodupKeys ms)
    (hdir : ∃ se, ms.find? S = some se ∧ se.ftype = .dir)
    (hcanon : ∀ k e, ms.find? k = some e → under S k = true → Canon k)
    (hfresh : FreshDest md (renderC bs)) (hout : i = j → under S (renderC bs) = false)
    (hfuel : (ms.keys.filter (below S)).length < fuel) :
    ∃ w', VPath.copyDir fuel { fs := leafFS i, fsId := sid, path := S }
            { fs := leafFS j, fsId := did, path := renderC bs } w =
          (.ok (ms.keys.filter (below S)).length, w') ∧
      TreeCopied i j ms md S (renderC bs) w w' (ms.keys.filter (below S)).length := by
  obtain ⟨w', hrun, hres⟩ := copyDirBody_tree hi hj sid did fuel S bs hbs hwfs hwfd hnd hdir hcanon
    hfresh hout hfuel
  exact ⟨w', VPath.copyDir_of_body (run_vexists_absent hj did _ hfresh.absent) hrun, hres⟩

/-! ### 6. `move_dir` -/

/-- What `move_dir S → D` leaves behind: the destination as after `copy_dir`, NO key at or below
`S`, everything else unchanged (access times aside). -/
structure TreeMoved (i j : Nat) (ms md : FMap) (S D : Str) (w w' : World) : Prop where
  others : ∀ l, l ≠ i → l ≠ j → w'.leaf? l = w.leaf? l
  leaves : ∃ ms' md', MemLeafAt w' i ms' ∧ MemLeafAt w' j md' ∧ WF ms' ∧ WF md' ∧
    FMap.NodupKeys ms' ∧
    -- no trace of the source
    (∀ k, under S k = true → ms'.find? k = none) ∧
    md'.find? D = some dirEntryNow ∧
    (∀ t, (md'.find? (D ++ '/' :: t)).map core = (ms.find? (S ++ '/' :: t)).map shape) ∧
    (∀ k, under D k = false → (i = j → under S k = false) →
      (md'.find? k).map stripAcc = (md.find? k).map stripAcc) ∧
    (∀ k, under S k = false → (i = j → under D k = false) →
      (ms'.find? k).map stripAcc = (ms.find? k).map stripAcc)

theorem moveDir_tree {w : World} {i j : Nat} {ms md : FMap}
    (hi : MemLeafAt w i ms) (hj : MemLeafAt w j md) (sid did fuel : Nat) (S : Str) (bs : List Str)
    (hbs : ∀ c ∈ bs, '/' ∉ c) (hwfs : WF ms) (hwfd : WF md) (hnd : FMap.NodupKeys ms)
    (hS : S ≠ []) (hdir : ∃ se, ms.find? S = some se ∧ se.ftype = .dir)
    (hcanon : ∀ k e, ms.find? k = some e → under S k = true → Canon k)
    (hfresh : FreshDest md (renderC bs)) (hout : i = j → under S (renderC bs) = false)
    (hfuel : (ms.keys.filter (below S)).length < fuel)
    (hb1 : ∀ k e, ms.find? k = some e → k.length < S.length + fuel)
    (hb2 : i = j → ∀ k e, ms.find? k = some e → under S k = true →
      (renderC bs).length + k.length < 2 * S.length + fuel) :
    ∃ w', VPath.moveDir fuel { fs := leafFS i, fsId := sid, path := S }
            { fs := leafFS j, fsId := did, path := renderC bs } w = (.ok (), w') ∧
      TreeMoved i j ms md S (renderC bs) w w' := by
  obtain ⟨se, hse, hsd⟩ := hdir
  have hs := setup_of hi hj hwfd S bs hbs se hse hcanon hfresh hout
  obtain ⟨w1, hrun1, hoth1, _, ms1, md1, hi1, hj1, hwf1, hwfd1, hnd1, hD1, hdst1, hfr1, hsrc1⟩ :=
    copyDirBody_tree hi hj sid did fuel S bs hbs hwfs hwfd hnd ⟨se, hse, hsd⟩ hcanon hfresh hout
      hfuel
  -- the source directory is still there
  obtain ⟨se1, hse1, hst1⟩ := opt_map_some (hsrc1 S (fun hij => hs.apart hij S (under_self S))).symm hse
  have hsd1 : se1.ftype = .dir := by rw [← ftype_of_stripAcc hst1]; exact hsd
  -- every key of the source leaf is short enough for the recursion depth available
  have hbound : ∀ k e', ms1.find? k = some e' → k.length < S.length + fuel := by
    intro k e' hk
    by_cases hu : i = j ∧ under (renderC bs) k = true
    · obtain ⟨hij, hu⟩ := hu
      have hmd : md1 = ms1 := by subst hij; exact hj1.unique hi1
      rcases (under_iff _ _).1 hu with rfl | ⟨t, rfl⟩
      · have := hb2 hij S se hse (under_self S)
        omega
      · have h1 := hdst1 t
        rw [hmd, hk] at h1
        obtain ⟨e0, hf, _⟩ := Option.map_eq_some_iff.1 h1.symm
        have := hb2 hij _ e0 hf (under_graft S t)
        simp only [List.length_append, List.length_cons] at this ⊢
        omega
    · have hk' : i = j → under (renderC bs) k = false := by
        intro hij
        cases hq : under (renderC bs) k with
        | false => rfl
        | true => exact absurd ⟨hij, hq⟩ hu
      obtain ⟨e0, he0, _⟩ := opt_map_some (hsrc1 k hk') hk
      exact hb1 k e0 he0
  obtain ⟨ms2, hrun2, hwf2, hnd2, hrem⟩ := rd_all i sid fuel w1 ms1 S se1 hi1 hwf1 hnd1 hS hse1 hsd1
    hbound
  refine ⟨w1.setLeafFiles i ms2, ?_, ?_, ?_⟩
  · exact VPath.moveDir_of_body (run_vexists_absent hj did _ hfresh.absent)
      (fun _ => ⟨none, run_moveDir_mem hi _ _⟩) hrun1 hrun2
  · intro l hl hl'
    rw [World.leaf?_setLeafFiles_ne _ _ _ _ (Ne.symm hl), hoth1 l hl hl']
  · have hgone : ∀ k, under S k = true → ms2.find? k = none := by
      intro k hk; rw [hrem k, hk]; rfl
    have hkeep : ∀ k, under S k = false → ms2.find? k = ms1.find? k := by
      intro k hk; rw [hrem k, hk]; rfl
    by_cases hij : i = j
    · subst hij
      have := hi1.unique hj1; subst this
      -- what lies at or below the destination is not at or below the source
      have hDS : ∀ k, under (renderC bs) k = true → under S k = false := by
        intro k hk
        cases hq : under S k with
        | false => rfl
        | true => rw [hs.apart rfl k hq] at hk; cases hk
      refine ⟨ms2, ms2, hi1.set ms2, hi1.set ms2, hwf2, hwf2, hnd2, hgone, ?_, ?_, ?_, ?_⟩
      · rw [hkeep _ (hDS _ (under_self _))]; exact hD1
      · intro t
        rw [hkeep _ (hDS _ (under_graft _ t))]; exact hdst1 t
      · intro k hk1 hk2
        rw [hkeep k (hk2 rfl)]; exact hfr1 k hk1
      · intro k hk1 hk2
        rw [hkeep k hk1]; exact hsrc1 k hk2
    · refine ⟨ms2, md1, hi1.set ms2, hj1.set_ne hij ms2, hwf2, hwfd1, hnd2, hgone, hD1, hdst1, ?_, ?_⟩
      · intro k hk1 _; exact hfr1 k hk1
      · intro k hk1 _
        rw [hkeep k hk1]; exact hsrc1 k (fun h => absurd h hij)

end Vfs.CD
