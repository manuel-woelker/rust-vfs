/-
  `remove_dir_all` through an overlay over n in-memory layers, behind
  `C11.overlay_removeDirAll_exact` (Props/C11Overlay.lean): the instance of the recursion
  `RemoveLoop.removeDirAll_run` for the tree the overlay shows at entry (its view cut down to the
  disciplined paths). The invariant `ORm` is the bundle `OSt`, the name discipline `NamesOK`, and
  `GoneP` against the view at entry; each of the five calls is one `o_*` step of
  Proofs/OverlayCompositeLemmas.lean. Hypotheses of the result `RDA`: `OpPath cs`, the path a
  directory of the view, and the depth bound `FuelOK`.
-/
import VfsModel.Proofs.OverlayCompositeLemmas
import VfsModel.Proofs.RemoveLoop
namespace Vfs.C11
open Vfs Vfs.Overlay Vfs.C02 Vfs.C01 Vfs.C09 Vfs.C05
open Vfs.RemoveLoop (Setting Fits Sub removeDirAll_run)

/-- the depth bound: every present disciplined path `cs ++ ts` has fewer than `fuel` components
below `cs` (so `fuel` exceeds the depth of the subtree; `ts = []`: `fuel ≥ 1`) -/
def FuelOK (v : View) (cs : List Str) (fuel : Nat) : Prop :=
  ∀ ts, OpPath (cs ++ ts) → v (renderC (cs ++ ts)) ≠ none → ts.length < fuel

theorem FuelOK.child {v : View} {cs : List Str} {n : Str} {fuel : Nat}
    (h : FuelOK v cs (fuel + 1)) : FuelOK v (cs ++ [n]) fuel := by
  intro ts hp hpres
  rw [List.append_assoc] at hp hpres
  have := h ([n] ++ ts) hp hpres
  simp at this
  omega

/-- a decidable sufficient check of the depth bound `FuelOK` on the keys of the layer maps: every
key below `renderC cs` is shorter than `|renderC cs| + 2 * fuel` (a component takes at least two
characters of the rendered string) -/
theorem fuelOK_of_keys {all : List FMap} {cs : List Str} {fuel : Nat} (hne : cs ≠ [])
    (hk : ∀ m ∈ all, ∀ k ∈ m.keys, (renderC cs).isPrefixOf k = true →
      k.length < (renderC cs).length + 2 * fuel) : FuelOK (oview all) cs fuel := by
  intro ts hp hpres
  have hne' : renderC (cs ++ ts) ≠ [] := renderC_ne_nil (by simp [hne])
  rw [oview_ne hne'] at hpres
  obtain ⟨m, hm, hkm⟩ := C05.viewN_some_key hpres
  have hpre : (renderC cs).isPrefixOf (renderC (cs ++ ts)) = true := by
    rw [List.isPrefixOf_iff_prefix, renderC_append]; exact List.prefix_append _ _
  have hlen := hk m hm _ hkm hpre
  have hts : ∀ l : List Str, (∀ c ∈ l, GoodComp c) → 2 * l.length ≤ (renderC l).length := by
    intro l
    induction l with
    | nil => intro _; simp
    | cons x l ih =>
      intro hg
      have hx : x ≠ [] := (hg x (by simp)).1
      have : 1 ≤ x.length := List.length_pos_iff.2 hx
      have := ih (fun c hc => hg c (by simp [hc]))
      rw [renderC_cons, List.length_append, List.length_cons, List.length_cons]
      omega
  have := hts ts (fun c hc => hp.good c (by simp [hc]))
  rw [renderC_append, List.length_append] at hlen
  omega

theorem FuelOK.mono {v : View} {cs : List Str} {a b : Nat} (h : FuelOK v cs a) (hab : a ≤ b) :
    FuelOK v cs b := fun ts hp hpres => Nat.lt_of_lt_of_le (h ts hp hpres) hab

section rda
variable (u idu : Nat) (is ids : List Nat) (ms : List FMap) (id : Nat)

def RDA (fuel : Nat) : Prop :=
  ∀ (w : World) (mu : FMap) (cs : List Str), OSt u idu is ids ms w mu → NamesOK (mu :: ms) →
    OpPath cs → VIsDir (oview (mu :: ms)) (renderC cs) → FuelOK (oview (mu :: ms)) cs fuel →
    ∃ mu', VPath.removeDirAll fuel
        ⟨Overlay.fs (layersN (u :: is) (idu :: ids)), id, renderC cs⟩ w
          = (.ok (), w.setLeafFiles u mu') ∧
      OSt u idu is ids ms (w.setLeafFiles u mu') mu' ∧ NamesOK (mu' :: ms) ∧
      GoneP (oview (mu :: ms)) (oview (mu' :: ms)) (InSub cs)

variable (w0 : World) (mu0 : FMap)

/-- the overlay's state, and its view against the view at entry: the removed keys are absent,
every other visible path keeps type and bytes -/
def ORm (w : World) (G : Str → Prop) : Prop :=
  ∃ mu, w = w0.setLeafFiles u mu ∧ OSt u idu is ids ms w mu ∧ NamesOK (mu :: ms) ∧
    (∀ q, G q → Vis q) ∧ GoneP (oview (mu0 :: ms)) (oview (mu :: ms)) G

variable {u idu is ids ms id w0 mu0} {m : FMap} (hm : m.find? = ovisView (mu0 :: ms))
include hm

/-- a non-root key of the tree that is not removed: a disciplined path, present in the current view
with the type the tree says -/
theorem live_key {G : Str → Prop} {mu : FMap}
    (hG : GoneP (oview (mu0 :: ms)) (oview (mu :: ms)) G)
    {x : Str} {e : Entry} (hx : m.find? x = some e) (hne : x ≠ []) (hGx : ¬ G x) :
    ∃ cs e1, OpPath cs ∧ x = renderC cs ∧ oview (mu :: ms) x = some e1 ∧ e1.ftype = e.ftype := by
  obtain ⟨hov, hxe⟩ := ovisView_some (by rw [← hm]; exact hx)
  rcases hov with rfl | ⟨cs, hcs, rfl⟩
  · exact absurd rfl hne
  · obtain ⟨e1, he1, hv⟩ := vcore_some (hG.2 _ hcs.vis hGx) hxe
    exact ⟨cs, e1, hcs, rfl, he1, ftype_of_vcore hv⟩

/-- a child in the tree is one more disciplined component -/
theorem child_cases {cs : List Str} (hp : OpPath cs) {c : Str}
    (hc : c ∈ Wk.children m (renderC cs)) : ∃ n, OpPath (cs ++ [n]) ∧ c = renderC (cs ++ [n]) := by
  obtain ⟨⟨ec, hec⟩, _, hpar⟩ := (Wk.mem_children m _ c).1 hc
  obtain ⟨hov, _⟩ := ovisView_some (by rw [← hm]; exact hec)
  rcases hov with rfl | ⟨cs', hcs', rfl⟩
  · exact absurd rfl (RemoveLoop.child_ne_nil hc)
  · obtain ⟨ds, n, rfl⟩ := hcs'.snoc_cases
    rw [hcs'.parent] at hpar
    have := C06.renderC_injective _ _ (good_noSlash hcs'.hds) (good_noSlash hp.good) hpar
    subst this
    exact ⟨n, hcs', rfl⟩

/-- the merged listing of a live directory, as full paths: its children in the tree that are not
removed -/
theorem listing_iff {G : Str → Prop} {w : World} {mu : FMap} (st : OSt u idu is ids ms w mu)
    (hn : NamesOK (mu :: ms)) (hG : GoneP (oview (mu0 :: ms)) (oview (mu :: ms)) G)
    {cs : List Str} (hp : OpPath cs) (k : Str) :
    k ∈ (pListingN (mu :: ms) (renderC cs)).map (fun n => renderC cs ++ '/' :: n) ↔
      (k ∈ Wk.children m (renderC cs) ∧ ¬ G k) := by
  rw [List.mem_map]
  constructor
  · rintro ⟨n, hmem, rfl⟩
    obtain ⟨hns, hpres⟩ := (o_listing_mem st hp n).1 hmem
    have hGk : ¬ G (renderC cs ++ '/' :: n) := fun h0 => hpres (hG.1 _ h0)
    have hpres' := hpres
    rw [oview_ne (by simp)] at hpres'
    obtain ⟨hgc, hw⟩ := hn cs n (Or.inr hp) hns hpres' (fun h0 => absurd h0 hp.ne)
    have hpn : OpPath (cs ++ [n]) := hp.child hgc hw
    rw [← renderC_snoc] at hpres hGk ⊢
    have h0 : oview (mu0 :: ms) (renderC (cs ++ [n])) ≠ none :=
      fun h0 => hpres ((none_of_vcore (hG.2 _ hpn.vis hGk)).2 h0)
    refine ⟨(Wk.mem_children m _ _).2 ⟨?_, by rw [renderC_snoc]; simp, hpn.parent⟩, hGk⟩
    rw [hm, ← ne_none_iff]
    exact ovisView_ne_none_iff.2 ⟨Or.inr ⟨_, hpn, rfl⟩, h0⟩
  · rintro ⟨hc, hGk⟩
    obtain ⟨n, hpn, rfl⟩ := child_cases hm hp hc
    obtain ⟨⟨ek, hek⟩, _⟩ := (Wk.mem_children m _ _).1 hc
    obtain ⟨_, hke⟩ := ovisView_some (by rw [← hm]; exact hek)
    refine ⟨n, (o_listing_mem st hp n).2 ⟨hpn.hn.noSlash, fun h0 => ?_⟩, (renderC_snoc cs n).symm⟩
    rw [← renderC_snoc] at h0
    rw [(none_of_vcore (hG.2 _ hpn.vis hGk)).1 h0] at hke
    cases hke

omit hm in
/-- after a successful `remove_file` / `remove_dir` of the live key `x` -/
theorem ORm.after {w : World} {G : Str → Prop} {mu mu' : FMap} {x : Str}
    (hw : w = w0.setLeafFiles u mu) (st' : OSt u idu is ids ms (w.setLeafFiles u mu') mu')
    (hn' : NamesOK (mu' :: ms)) (hgv : ∀ q, G q → Vis q)
    (hG : GoneP (oview (mu0 :: ms)) (oview (mu :: ms)) G) (hxv : Vis x)
    (habs : VAbsent (oview (mu' :: ms)) x) (hframe : VFrame (oview (mu :: ms)) (oview (mu' :: ms)) x) :
    ORm u idu is ids ms w0 mu0 (w.setLeafFiles u mu') (fun k => G k ∨ k = x) := by
  refine ⟨mu', by rw [hw, World.setLeafFiles_twice], st', hn',
    fun q hq => hq.elim (hgv q) (fun h0 => h0 ▸ hxv), fun q hq => ?_, fun q hv hq => ?_⟩
  · by_cases hqx : q = x
    · rw [hqx]; exact habs
    · have hGq : G q := hq.resolve_right hqx
      exact (none_of_vcore (hframe q (hgv q hGq) hqx)).2 (hG.1 q hGq)
  · exact (hframe q hv (fun h0 => hq (Or.inr h0))).trans (hG.2 q hv (fun h0 => hq (Or.inl h0)))

theorem o_setting (hwf : WF m) :
    Setting ⟨Overlay.fs (layersN (u :: is) (idu :: ids)), id, []⟩ m (ORm u idu is ids ms w0 mu0) where
  wf := hwf
  congr w G G' := fun ⟨mu, a, b, c, d, e⟩ hp =>
    ⟨mu, a, b, c, fun q hq => d q ((hp q).1 hq), fun q hq => e.1 q ((hp q).1 hq),
      fun q hv hq => e.2 q hv (fun h0 => hq ((hp q).2 h0))⟩
  exists_ w G x e := fun ⟨mu, _, st, _, _, hG⟩ hx hne hGx => by
    obtain ⟨cs, e1, hp, rfl, he1, _⟩ := live_key hm hG hx hne hGx
    have := o_exists st id hp
    rw [he1] at this
    exact this
  mdata w G x e := fun ⟨mu, _, st, _, _, hG⟩ hx hne hGx => by
    obtain ⟨cs, e1, hp, rfl, he1, hft⟩ := live_key hm hG hx hne hGx
    exact ⟨e1.meta, o_metadata st id hp he1, hft⟩
  listing w G d e := fun ⟨mu, _, st, hn, _, hG⟩ hd hdir hne hGd => by
    obtain ⟨cs, e1, hp, rfl, he1, hft⟩ := live_key hm hG hd hne hGd
    refine ⟨_, ?_, ?_, listing_iff hm st hn hG hp⟩
    · show VPath.readDir ⟨Overlay.fs (layersN (u :: is) (idu :: ids)), id, renderC cs⟩ w = _
      rw [o_readDir st id hp ⟨e1, he1, hft.trans hdir⟩, List.map_map]
      rfl
    · have := nodup_pListingN (mu :: ms) (renderC cs)
      unfold List.Nodup at *
      rw [List.pairwise_map]
      exact this.imp fun hab heq => hab (by simpa using List.append_cancel_left heq)
  rmFile w G x e := fun ⟨mu, hw, st, hn, hgv, hG⟩ hx hf hne hGx => by
    obtain ⟨cs, e1, hp, rfl, he1, hft⟩ := live_key hm hG hx hne hGx
    obtain ⟨mu', hrun, st', hn', habs, hframe⟩ := o_removeFile_step st id hp ⟨e1, he1, hft.trans hf⟩
    exact ⟨_, hrun, ORm.after hw st' (hn' hn) hgv hG hp.vis habs hframe⟩
  rmDir w G d e := fun ⟨mu, hw, st, hn, hgv, hG⟩ hd hdir hne hGd hall => by
    obtain ⟨cs, e1, hp, rfl, he1, hft⟩ := live_key hm hG hd hne hGd
    have hno : VNoChildren (oview (mu :: ms)) (renderC cs) := by
      intro n hns
      cases hv : oview (mu :: ms) (renderC cs ++ '/' :: n) with
      | none => rfl
      | some ev =>
        have hmem := (listing_iff hm st hn hG hp (renderC cs ++ '/' :: n)).1
          (List.mem_map.2 ⟨n, (o_listing_mem st hp n).2 ⟨hns, by rw [hv]; simp⟩, rfl⟩)
        exact absurd (hall _ hmem.1) hmem.2
    obtain ⟨mu', hrun, st', hn', habs, hframe⟩ :=
      o_removeDir_step st id hp ⟨e1, he1, hft.trans hdir⟩ hno
    exact ⟨_, hrun, ORm.after hw st' (hn' hn) hgv hG hp.vis habs hframe⟩

/-- the depth bound of the overlay theorem bounds the height of the tree -/
theorem fits_of_fuelOK : ∀ (fuel : Nat) (cs : List Str), OpPath cs →
    oview (mu0 :: ms) (renderC cs) ≠ none → FuelOK (oview (mu0 :: ms)) cs fuel →
    Fits m fuel (renderC cs) := by
  intro fuel
  induction fuel with
  | zero =>
    intro cs hp hpres hf
    have := hf [] (by rw [List.append_nil]; exact hp) (by rw [List.append_nil]; exact hpres)
    simp at this
  | succ fuel ih =>
    intro cs hp _ hf c hc ec hec _
    obtain ⟨n, hpn, rfl⟩ := child_cases hm hp hc
    obtain ⟨_, hce⟩ := ovisView_some (by rw [← hm]; exact hec)
    exact ih (cs ++ [n]) hpn (by rw [hce]; simp) hf.child

/-- the keys of the tree at or below `renderC cs`: the disciplined paths there that are present -/
theorem sub_iff {cs : List Str} (hp : OpPath cs) (q : Str) :
    Sub m (renderC cs) q ↔ (InSub cs q ∧ oview (mu0 :: ms) q ≠ none) := by
  unfold RemoveLoop.Sub
  rw [inSub_iff hp, hm, ← ne_none_iff, ovisView_ne_none_iff]
  constructor
  · rintro ⟨a, b, c⟩; exact ⟨⟨b, a⟩, c⟩
  · rintro ⟨⟨b, a⟩, c⟩; exact ⟨a, b, c⟩

omit hm

theorem rda_all (fuel : Nat) : RDA u idu is ids ms id fuel := by
  intro w mu cs st hn hp hd hfuel
  have tv := overlay_treeView st.own st.inv st.vwf hn
  obtain ⟨m, hm0, hwf, _⟩ := WkG.exists_map tv.finite tv.root tv.parent
  have hm : m.find? = ovisView (mu :: ms) := hm0.symm
  obtain ⟨e, he, hdir⟩ := hd
  have hx : m.find? (renderC cs) = some e := by
    rw [hm, ovisView_of_vis (Or.inr ⟨cs, hp, rfl⟩)]; exact he
  obtain ⟨w', hrun, mu', hw, st', hn', _, hg, hfr⟩ :=
    removeDirAll_run (o_setting (id := id) (w0 := w) hm hwf) fuel w (fun _ => False) (renderC cs) e
      ⟨mu, st.self_world.symm, st, hn, fun _ h => h.elim, fun _ h => h.elim, fun _ _ _ => rfl⟩
      hx hdir (renderC_ne_nil hp.ne) (fun _ _ h => h)
      (fits_of_fuelOK hm fuel cs hp (by rw [he]; simp) hfuel)
  rw [hw] at hrun st'
  refine ⟨mu', hrun, st', hn', fun q hq => ?_, fun q hv hq => ?_⟩
  · -- a disciplined path below `cs` that was absent at entry is outside the tree, and still absent
    by_cases hpres : oview (mu :: ms) q = none
    · exact (none_of_vcore (hfr q hq.vis
        (fun h0 => h0.elim False.elim fun hs => ((sub_iff hm hp q).1 hs).2 hpres))).2 hpres
    · exact hg q (Or.inr ((sub_iff hm hp q).2 ⟨hq, hpres⟩))
  · exact hfr q hv (fun h0 => h0.elim False.elim fun hs => hq ((sub_iff hm hp q).1 hs).1)

end rda

end Vfs.C11
