/-
  Naturality of the leaves' normal form. `MapHom T κ τ D Dp`: a transformation `T` of leaf maps that
  translates keys by `κ` and entries by `τ` (which keeps type and bytes), on the keys `D`; `Dp`: the
  keys whose parent is again in `D`. What an operation reads of `T m` at `q` is `τ` of what it reads
  of `m` at `κ q`, and a write to the slot `q` of `T m` is `T` of the write to the slot `κ q` of `m`;
  so an operation in normal form commutes with `T` as soon as its TABLE does with `τ`
  (`Natural`), which is a finite check. Instances: the sub-map below a prefix (`κ = (P ++ ·)`,
  `τ = id`; `homSub`, Proofs/SubtreeSim.lean), the erasure of time stamps (`κ = id`; `homErase`,
  Proofs/AsyncLemmas.lean).
  In this order: `MapHom` with what it gives for reading (`kids`, `par`) and
  `MapHom.natural`; the tables that are natural for every `τ`; whole operations (`readDir`,
  `ensureHasParent`, `appendFile`, `metadata`, `removeFile`, `removeDir`, the publication of a write
  handle); `natural_id`, the case `τ = id`, where the statement is about the operation itself.
-/
import VfsModel.Proofs.LeafSpec
namespace Vfs

def Write.map (τ : Entry → Entry) : Write → Write
  | .keep => .keep
  | .put e => .put (τ e)
  | .del => .del

theorem Write.map_id (wr : Write) : wr.map id = wr := by cases wr <;> rfl

structure MapHom (T : FMap → FMap) (κ : Str → Str) (τ : Entry → Entry) (D Dp : Str → Prop) :
    Prop where
  find : ∀ m q, D q → (T m).find? q = (m.find? (κ q)).map τ
  insert : ∀ m q v, D q → T (m.insert (κ q) v) = (T m).insert q (τ v)
  erase : ∀ m q, D q → T (m.erase (κ q)) = (T m).erase q
  children : ∀ m q, D q →
    (T m).keys.filterMap (childName q) = m.keys.filterMap (childName (κ q))
  ftype : ∀ e, (τ e).ftype = e.ftype
  content : ∀ e, (τ e).content = e.content
  parent : ∀ q, Dp q → D (parentInternal q) ∧ κ (parentInternal q) = parentInternal (κ q) ∧
    ('/' ∈ κ q ↔ '/' ∈ q)

/-- the table answers the same on translated entries, and writes the same up to `τ` -/
def Natural {α} (τ : Entry → Entry) (S : Option Entry → Res α × Write) : Prop :=
  ∀ tgt, (S (tgt.map τ)).1 = (S tgt).1 ∧ (S (tgt.map τ)).2.map τ = (S tgt).2.map τ

namespace MapHom
variable {T : FMap → FMap} {κ : Str → Str} {τ : Entry → Entry} {D Dp : Str → Prop}
  (H : MapHom T κ τ D Dp) (m : FMap) {q : Str}
include H

theorem app (hq : D q) (wr : Write) : (wr.map τ).app (T m) q = T (wr.app m (κ q)) := by
  cases wr with
  | keep => rfl
  | put e => exact (H.insert m q e hq).symm
  | del => exact (H.erase m q hq).symm

theorem kids (hq : D q) : Mem.kids (T m) q = Mem.kids m (κ q) := by
  unfold Mem.kids; rw [H.children m q hq]

theorem par (hq : Dp q) : Mem.par (T m) q = Mem.par m (κ q) := by
  obtain ⟨h1, h2, h3⟩ := H.parent q hq
  apply Bool.eq_iff_iff.2
  rw [Mem.par_iff, Mem.par_iff, H.find m _ h1, h2, h3]
  cases m.find? (parentInternal (κ q)) <;> simp [H.ftype]

/-- an operation whose table is natural: the table read at the slot `q` of `T m`, `τ` applied to
what it puts, the write applied to that slot — it answers as on `m` at `κ q` and leaves `T` of that
map. (A table with a `par` or `kids` argument: rewrite that first with `MapHom.par`, `MapHom.kids`.)
The left side is `Mem.op (T m) q` only for `τ = id` (`natural_id`). For another `τ` the operation
itself does not commute with `T`: on `T m` it puts the entry of its table (`dirEntryNow`), while
`T` of the result holds `τ` of it. What commutes is the operation that puts `τ` of the entry; for
the erasure of time stamps that is the method of the async memory filesystem, and
`AMem_createDir_eq`, `AMem_createFile_eq` (Props/C15Async.lean) are the equations that say so. -/
theorem natural {α} {S : Option Entry → Res α × Write} (hS : Natural τ S) (hq : D q) :
    onSlot (T m) q ((S ((T m).find? q)).1, (S ((T m).find? q)).2.map τ) =
      ((onSlot m (κ q) (S (m.find? (κ q)))).1, T (onSlot m (κ q) (S (m.find? (κ q)))).2) := by
  rw [H.find m q hq]
  simp only [onSlot, (hS _).1, (hS _).2, H.app m hq]

end MapHom

/-! ### the tables that are natural for every `τ` that keeps the type -/

namespace Mem
variable {τ : Entry → Entry} (hτ : ∀ e, (τ e).ftype = e.ftype) (par kids : Bool)
include hτ

theorem createDirS_natural : Natural τ (createDirS par) := by
  intro tgt; cases par <;> cases tgt <;> simp [createDirS, hτ]

theorem createFileS_natural : Natural τ (createFileS par) := by
  intro tgt; cases par <;> cases tgt <;> simp [createFileS, hτ] <;> split <;> simp

theorem removeFileS_natural : Natural τ removeFileS := by
  intro tgt; cases tgt <;> simp [removeFileS, hτ] <;> split <;> simp

theorem removeDirS_natural : Natural τ (removeDirS kids) := by
  intro tgt; cases tgt <;> simp [removeDirS, hτ] <;> split <;> simp

end Mem
/-! ### whole operations

Those that only read (`readDir`, `ensureHasParent`, `appendFile`, `metadata`) or only remove
(`removeFile`, `removeDir`: a removal puts nothing, so `τ` does not show), and the publication of a
write handle. -/

namespace MapHom
variable {T : FMap → FMap} {κ : Str → Str} {τ : Entry → Entry} {D Dp : Str → Prop}
  (H : MapHom T κ τ D Dp) (m : FMap) {q : Str}
include H

theorem readDir (hq : D q) : Mem.readDir (T m) q = Mem.readDir m (κ q) := by
  unfold Mem.readDir
  rw [H.find m q hq, H.children m q hq]
  cases m.find? (κ q) with
  | none => rfl
  | some e => simp only [Option.map_some, H.ftype]

theorem ensureHasParent (hq : Dp q) :
    Mem.ensureHasParent (T m) q = Mem.ensureHasParent m (κ q) := by
  rw [Mem.ensureHasParent_eq, Mem.ensureHasParent_eq, H.par m hq]

theorem appendFile (hq : D q) : Mem.appendFile (T m) q = Mem.appendFile m (κ q) := by
  unfold Mem.appendFile
  rw [H.find m q hq]
  cases m.find? (κ q) with
  | none => rfl
  | some e => simp only [Option.map_some, H.ftype, H.content]

/-- `μ`: what `τ` does to the metadata of an entry -/
theorem metadata (hq : D q) (μ : Meta → Meta) (hμ : ∀ e, (τ e).meta = μ e.meta) :
    Mem.metadata (T m) q = (Mem.metadata m (κ q)).map μ := by
  unfold Mem.metadata
  rw [H.find m q hq]
  cases m.find? (κ q) with
  | none => rfl
  | some e => simp only [Option.map_some, hμ, Res.map]

theorem removeFile (hq : D q) :
    Mem.removeFile (T m) q = ((Mem.removeFile m (κ q)).1, T (Mem.removeFile m (κ q)).2) := by
  have h := H.natural m (Mem.removeFileS_natural H.ftype) hq
  have hm : ∀ tgt, (Mem.removeFileS tgt).2.map τ = (Mem.removeFileS tgt).2 := fun tgt => by
    cases tgt with
    | none => rfl
    | some e => simp only [Mem.removeFileS]; split <;> rfl
  rw [hm] at h
  rw [Mem.removeFile_eq, Mem.removeFile_eq]; exact h

theorem removeDir (hq : D q) :
    Mem.removeDir (T m) q = ((Mem.removeDir m (κ q)).1, T (Mem.removeDir m (κ q)).2) := by
  have h := H.natural m (Mem.removeDirS_natural H.ftype (Mem.kids m (κ q))) hq
  have hm : ∀ tgt, (Mem.removeDirS (Mem.kids m (κ q)) tgt).2.map τ
      = (Mem.removeDirS (Mem.kids m (κ q)) tgt).2 := fun tgt => by
    cases tgt with
    | none => rfl
    | some e => simp only [Mem.removeDirS]; split <;> rfl
  rw [hm] at h
  rw [Mem.removeDir_eq, Mem.removeDir_eq, H.kids m hq]; exact h

/-- the publication of a write handle, followed by `τ` on what it puts -/
theorem publish (hq : D q) (buf : Bytes)
    (hs : ∀ tgt, (Mem.publishS buf (tgt.map τ)).map τ = (Mem.publishS buf tgt).map τ) :
    ((Mem.publishS buf ((T m).find? q)).map τ).app (T m) q = T (memPublish m (κ q) buf) := by
  rw [H.find m q hq, hs, H.app m hq, Mem.memPublish_eq]

end MapHom

/-! ### `τ = id` -/

/-- without a translation of entries every table is natural -/
theorem Natural.id {α} (S : Option Entry → Res α × Write) : Natural id S :=
  fun tgt => by cases tgt <;> exact ⟨rfl, rfl⟩

theorem MapHom.natural_id {T : FMap → FMap} {κ : Str → Str} {D Dp : Str → Prop}
    (H : MapHom T κ id D Dp) (m : FMap) {α} (S : Option Entry → Res α × Write) {q : Str}
    (hq : D q) :
    onSlot (T m) q (S ((T m).find? q)) =
      ((onSlot m (κ q) (S (m.find? (κ q)))).1, T (onSlot m (κ q) (S (m.find? (κ q)))).2) := by
  have := H.natural m (Natural.id S) hq
  rwa [Write.map_id] at this

end Vfs
