/-
A sub-directory of a `MemoryFS` is a `MemoryFS` (C07): the instance of the calculus of Proofs/Sim.lean
that re-roots memory leaf `i` at a directory `P`. `sub P m` is the map `m` restricted to the keys at
or below `P`, with `P` stripped; first what is known of it as a map: its lookups, keys and writes
(`find?_sub`, `keys_sub`, `sub_insert`, `sub_erase`), that it has unique keys and is a tree when `m` is
(`nodupKeys_sub`, `wf_sub`), what is asked of it (`Inv0`; `Inv0.of_check` for a concrete map).
`altroot_sim_leaf`: the `AltrootFS` rooted at `P` over the memory filesystem holding `m`, and the bare
memory filesystem holding `sub P m`, are related method by method (`SimFS`) at EQUAL canonical paths;
only the labels of errors may differ (`PRdrop`).

The idea: each function `F` of the memory leaf commutes with `sub P` at canonical `q`,
`F (sub P m) q = ((F m (P ++ q)).1, sub P (F m (P ++ q)).2)`, labels no error and changes at most
the key it is called at (`leaf_step`). Only that much is used of the world relation, so the
simulations are stated for every relation with the interface `SubRel`: `RSub spec` itself, or
`RSub spec` with an invariant of the left world that such a write keeps (`Frm.Outside`,
`Frm.subRel_outside`, last section: nothing outside `P` changes; for all re-rooted leaves at once
Proofs/OverlayFrameSub.lean).

A write that touches one key only (`Touch`, `touch_*`) leaves the proper ancestors of `P` directories
(`AncOK`, `AncOK.touch`): the relation carries that, for `create_dir_all` of Proofs/OverlayShift.lean.
`copy_file`: `MemoryFS` has none, the altroot forwards it to `VfsPath::copy_file`, so on both sides the
read/write route runs (`run_copy_mem`); it is related at the shifted paths (`sim_copyGeneric_shift`),
and the altroot's answer is final because that route never says `NotSupported` over a memory leaf
(`altroot_copyFileV`, from `C02.VPath.copyGeneric_ns` of Proofs/Tame.lean). `KindNot I k`, "preserves
`I` and never fails with kind `k`", is the specification `Spec.notKind` of Proofs/Hoare.lean
(`kindNot_iff`).

Left out: `create_dir("")` and `remove_dir("")` (`SimFS0` does not ask for them): on its root the
altroot answers `DirectoryExists` where `MemoryFS` answers `Other`, and `remove_dir("")` would remove
`P` itself. Physical leaves below an altroot are not treated.
-/
import VfsModel.Proofs.Sim
import VfsModel.Proofs.LeafNat
import VfsModel.Proofs.HandleLemmas
import VfsModel.Proofs.Tame
import VfsModel.Props.C07
namespace Vfs

def Rooted (q : Str) : Prop := q = [] ∨ q.head? = some '/'

theorem Canon.rooted {q : Str} (h : Canon q) : Rooted q := by
  obtain ⟨cs, _, rfl⟩ := h
  cases cs with
  | nil => left; rfl
  | cons c cs => right; simp

theorem Rooted.child {q : Str} (hq : Rooted q) (n : Str) : Rooted (q ++ '/' :: n) := by
  right
  rcases hq with rfl | hq
  · simp
  · cases q with
    | nil => simp
    | cons c t => simpa using hq

def stripP (P k : Str) : Option Str :=
  if k = P then some [] else if (P ++ ['/']).isPrefixOf k then some (k.drop P.length) else none

theorem stripP_append (P q : Str) (hq : Rooted q) : stripP P (P ++ q) = some q := by
  unfold stripP
  rcases hq with rfl | hq
  · simp
  · cases q with
    | nil => simp at hq
    | cons c t =>
      simp only [List.head?_cons, Option.some.injEq] at hq
      subst hq
      have hne : P ++ '/' :: t ≠ P := by
        intro h
        have := congrArg List.length h
        simp at this
      rw [if_neg hne]
      have hpre : (P ++ ['/']).isPrefixOf (P ++ '/' :: t) = true := by
        rw [List.isPrefixOf_iff_prefix]
        exact ⟨t, by simp⟩
      rw [if_pos hpre]
      simp

theorem stripP_some {P k q : Str} (h : stripP P k = some q) : k = P ++ q ∧ Rooted q := by
  unfold stripP at h
  split at h
  · rename_i hk
    injection h with h
    subst h
    exact ⟨by simp [hk], Or.inl rfl⟩
  · split at h
    · rename_i hpre
      injection h with h
      rw [List.isPrefixOf_iff_prefix] at hpre
      obtain ⟨t, ht⟩ := hpre
      subst ht
      subst h
      simp
      right; simp
    · cases h

def sub (P : Str) (m : FMap) : FMap :=
  m.filterMap fun kv => (stripP P kv.1).map fun q => (q, kv.2)

theorem sub_nil (P : Str) : sub P [] = [] := rfl

theorem sub_cons_some {P k q : Str} (v : Entry) (m : FMap) (h : stripP P k = some q) :
    sub P ((k, v) :: m) = (q, v) :: sub P m := by
  simp [sub, h]

theorem sub_cons_none {P k : Str} (v : Entry) (m : FMap) (h : stripP P k = none) :
    sub P ((k, v) :: m) = sub P m := by
  simp [sub, h]

theorem stripP_ne_of_none {P k q : Str} (h : stripP P k = none) (hq : Rooted q) : k ≠ P ++ q := by
  intro hk
  rw [hk, stripP_append P q hq] at h
  cases h

theorem find?_sub (P : Str) (m : FMap) (q : Str) (hq : Rooted q) :
    (sub P m).find? q = m.find? (P ++ q) := by
  induction m with
  | nil => rfl
  | cons kv rest ih =>
    obtain ⟨k, v⟩ := kv
    cases h : stripP P k with
    | none =>
      rw [sub_cons_none v rest h, FMap.find?_cons, if_neg (stripP_ne_of_none h hq), ih]
    | some q' =>
      obtain ⟨rfl, _⟩ := stripP_some h
      rw [sub_cons_some v rest h, FMap.find?_cons, FMap.find?_cons, ih]
      by_cases e : q' = q
      · subst e; simp
      · rw [if_neg e, if_neg (by intro h'; exact e (List.append_cancel_left h'))]

theorem contains_sub (P : Str) (m : FMap) (q : Str) (hq : Rooted q) :
    (sub P m).contains q = m.contains (P ++ q) :=
  contains_eq_of_find (find?_sub P m q hq)

theorem sub_erase (P : Str) (m : FMap) (q : Str) (hq : Rooted q) :
    sub P (m.erase (P ++ q)) = (sub P m).erase q := by
  induction m with
  | nil => rfl
  | cons kv rest ih =>
    obtain ⟨k, v⟩ := kv
    cases h : stripP P k with
    | none =>
      rw [FMap.erase_cons, if_neg (stripP_ne_of_none h hq), sub_cons_none v _ h,
        sub_cons_none v _ h, ih]
    | some q' =>
      obtain ⟨rfl, _⟩ := stripP_some h
      rw [FMap.erase_cons, sub_cons_some v rest h, FMap.erase_cons]
      by_cases e : q' = q
      · subst e; simp [ih]
      · rw [if_neg e, if_neg (by intro h'; exact e (List.append_cancel_left h')),
          sub_cons_some v _ h, ih]

theorem sub_insert (P : Str) (m : FMap) (q : Str) (v : Entry) (hq : Rooted q) :
    sub P (m.insert (P ++ q) v) = (sub P m).insert q v := by
  unfold FMap.insert
  rw [sub_cons_some v _ (stripP_append P q hq), sub_erase P m q hq]

theorem childName_mk (p n : Str) (hn : '/' ∉ n) : childName p (p ++ '/' :: n) = some n :=
  (childName_iff p _ n).2 ⟨by simp, parent_of_child p n hn, afterLast_append_delim '/' p n hn⟩

theorem childName_shift (P q q' : Str) : childName (P ++ q) (P ++ q') = childName q q' := by
  apply Option.ext
  intro n
  constructor
  · intro h
    obtain ⟨h1, h2⟩ := childName_some _ _ _ h
    rw [List.append_assoc] at h1
    rw [List.append_cancel_left h1]
    exact childName_mk q n h2
  · intro h
    obtain ⟨h1, h2⟩ := childName_some _ _ _ h
    rw [h1, ← List.append_assoc]
    exact childName_mk _ n h2

/-- the keys of the sub-map: those of `m` that `stripP P` accepts, stripped -/
theorem keys_sub (P : Str) (m : FMap) : (sub P m).keys = m.keys.filterMap (stripP P) := by
  unfold sub FMap.keys
  rw [List.map_filterMap, List.filterMap_map]
  congr 1; funext kv
  show ((stripP P kv.1).map _).map _ = stripP P kv.1
  cases stripP P kv.1 <;> rfl

theorem keys_sub_children (P : Str) (m : FMap) (q : Str) (hq : Rooted q) :
    (sub P m).keys.filterMap (childName q) = m.keys.filterMap (childName (P ++ q)) := by
  rw [keys_sub, List.filterMap_filterMap]
  congr 1; funext k
  cases h : stripP P k with
  | some q' => obtain ⟨rfl, _⟩ := stripP_some h; exact (childName_shift P q q').symm
  | none =>
    cases hc : childName (P ++ q) k with
    | none => rfl
    | some n =>
      obtain ⟨h1, _⟩ := childName_some _ _ _ hc
      rw [List.append_assoc] at h1
      exact absurd h1 (stripP_ne_of_none h (hq.child n))

/-- stripping `P` is injective on the keys it accepts -/
theorem nodupKeys_sub (P : Str) {m : FMap} (h : FMap.NodupKeys m) : FMap.NodupKeys (sub P m) := by
  unfold FMap.NodupKeys at h ⊢
  rw [keys_sub]
  exact h.filterMap _ fun k k' hne q hq q' hq' e =>
    hne (by rw [(stripP_some hq).1, (stripP_some hq').1, e])

/-! ## the memory leaf commutes with `sub` -/

/-- what is asked of a sub-map: its root is a directory and its keys are canonical (`KeysCanon`) -/
def Inv0 (m : FMap) : Prop :=
  (∃ e, m.find? [] = some e ∧ e.ftype = .dir) ∧ ∀ k ∈ m.keys, Canon k

def KeysCanon (m : FMap) : Prop := ∀ k ∈ m.keys, Canon k

theorem Inv0.keysCanon {m : FMap} (h : Inv0 m) : KeysCanon m := h.2

theorem KeysCanon.insert {m : FMap} (h : KeysCanon m) {q : Str} (hq : Canon q) (v : Entry) :
    KeysCanon (m.insert q v) := by
  intro k hk
  rw [FMap.mem_keys_iff] at hk
  obtain ⟨e, he⟩ := hk
  rw [FMap.find?_insert] at he
  split at he
  · rename_i h'; rw [h']; exact hq
  · exact h k ((FMap.mem_keys_iff m k).2 ⟨e, he⟩)

theorem KeysCanon.erase {m : FMap} (h : KeysCanon m) (q : Str) : KeysCanon (m.erase q) :=
  fun k hk => h k (FMap.keys_erase_subset m q k hk).1

theorem Write.keysCanon {q : Str} {m : FMap} (wr : Write) (hk : KeysCanon m) (hq : Canon q) :
    KeysCanon (wr.app m q) :=
  wr.app_closed hk (hk.insert hq) (hk.erase q)

theorem Inv0.insert {m : FMap} (h : Inv0 m) {q : Str} (hq : Canon q) (v : Entry)
    (hv : q = [] → v.ftype = .dir) : Inv0 (m.insert q v) := by
  refine ⟨?_, KeysCanon.insert h.2 hq v⟩
  rw [FMap.find?_insert]
  split
  · rename_i h'; exact ⟨v, rfl, hv h'.symm⟩
  · exact h.1

theorem Inv0.erase {m : FMap} (h : Inv0 m) {q : Str} (hq : q ≠ []) : Inv0 (m.erase q) := by
  refine ⟨?_, KeysCanon.erase h.2 q⟩
  rw [FMap.find?_erase, if_neg (fun e => hq e.symm)]
  exact h.1

theorem Inv0.root_dir {m : FMap} (h : Inv0 m) {e : Entry} (he : m.find? [] = some e) :
    e.ftype = .dir := by
  obtain ⟨e', he', hd⟩ := h.1
  rw [he] at he'; injection he' with he'; rw [he']; exact hd

/-- `Inv0` of a concrete map is a finite check (`canonB`, Proofs/PathLemmas.lean) -/
theorem Inv0.of_check {m : FMap}
    (h : ((m.find? []).any (fun e => decide (e.ftype = .dir)) && m.keys.all canonB) = true) :
    Inv0 m := by
  rw [Bool.and_eq_true, Option.any_eq_true, List.all_eq_true] at h
  obtain ⟨⟨e, he, hd⟩, hk⟩ := h
  exact ⟨⟨e, he, of_decide_eq_true hd⟩, fun k hk' => .of_check (hk k hk')⟩

theorem slash_mem_canon {q : Str} (hq : Canon q) (hne : q ≠ []) : '/' ∈ q := by
  obtain ⟨cs, _, rfl⟩ := hq
  exact slash_mem_renderC (by rintro rfl; exact hne rfl)

theorem parent_shift (P : Str) {q : Str} (hq : Canon q) (hne : q ≠ []) :
    parentInternal (P ++ q) = P ++ parentInternal q ∧ Rooted (parentInternal q) ∧ '/' ∈ q ∧
      '/' ∈ P ++ q :=
  ⟨parentInternal_append P hq hne, (C06.parent_canonical q hq).rooted, slash_mem_canon hq hne,
    List.mem_append_right P (slash_mem_canon hq hne)⟩

/-- the sub-map of a well-formed map is well-formed as soon as `P` is a directory of it and the keys
below `P` are canonical -/
theorem wf_sub {P : Str} {m : FMap} (hwf : WF m) (hinv : Inv0 (sub P m)) : WF (sub P m) := by
  refine ⟨hinv.1, ?_⟩
  intro k e he hne
  have hk : Canon k := hinv.2 k ((FMap.mem_keys_iff _ k).2 ⟨e, he⟩)
  obtain ⟨h1, h2, h3, h4⟩ := parent_shift P hk hne
  refine ⟨h3, ?_⟩
  rw [find?_sub P m k hk.rooted] at he
  have hne' : P ++ k ≠ [] := by
    intro h0; apply hne
    exact (List.append_eq_nil_iff.1 h0).2
  obtain ⟨_, pe, hpe, hpd⟩ := hwf.2 _ e he hne'
  rw [h1] at hpe
  exact ⟨pe, by rw [find?_sub P m _ h2]; exact hpe, hpd⟩

/-- `sub P` as a transformation under which the memory leaf is natural (Proofs/LeafNat.lean) -/
theorem homSub (P : Str) :
    MapHom (sub P) (P ++ ·) id Rooted (fun q => Canon q ∧ q ≠ []) where
  find m q hq := by rw [find?_sub P m q hq]; cases m.find? (P ++ q) <;> rfl
  insert m q v hq := sub_insert P m q v hq
  erase m q hq := sub_erase P m q hq
  children m q hq := keys_sub_children P m q hq
  ftype _ := rfl
  content _ := rfl
  parent q hq := by
    obtain ⟨h1, h2, h3, h4⟩ := parent_shift P hq.1 hq.2
    exact ⟨h2, h1.symm, ⟨fun _ => h3, fun _ => h4⟩⟩

variable (P : Str) (m : FMap)

theorem readDir_shift {q : Str} (hq : Rooted q) :
    Mem.readDir (sub P m) q = Mem.readDir m (P ++ q) := (homSub P).readDir m hq

theorem metadata_shift {q : Str} (hq : Rooted q) :
    Mem.metadata (sub P m) q = Mem.metadata m (P ++ q) := by
  rw [(homSub P).metadata m hq id fun _ => rfl]
  cases Mem.metadata m (P ++ q) <;> rfl

theorem appendFile_shift {q : Str} (hq : Rooted q) :
    Mem.appendFile (sub P m) q = Mem.appendFile m (P ++ q) := (homSub P).appendFile m hq

theorem createDir_shift {q : Str} (hq : Canon q) (hne : q ≠ []) :
    Mem.createDir (sub P m) q = ((Mem.createDir m (P ++ q)).1, sub P (Mem.createDir m (P ++ q)).2) := by
  rw [Mem.createDir_eq, Mem.createDir_eq, (homSub P).par m ⟨hq, hne⟩]
  exact (homSub P).natural_id m _ hq.rooted

theorem createFile_shift {q : Str} (hq : Canon q) (hne : q ≠ []) :
    Mem.createFile (sub P m) q
      = ((Mem.createFile m (P ++ q)).1, sub P (Mem.createFile m (P ++ q)).2) := by
  rw [Mem.createFile_eq, Mem.createFile_eq, (homSub P).par m ⟨hq, hne⟩]
  exact (homSub P).natural_id m _ hq.rooted

theorem removeFile_shift {q : Str} (hq : Rooted q) :
    Mem.removeFile (sub P m) q
      = ((Mem.removeFile m (P ++ q)).1, sub P (Mem.removeFile m (P ++ q)).2) :=
  (homSub P).removeFile m hq

theorem removeDir_shift {q : Str} (hq : Rooted q) :
    Mem.removeDir (sub P m) q
      = ((Mem.removeDir m (P ++ q)).1, sub P (Mem.removeDir m (P ++ q)).2) :=
  (homSub P).removeDir m hq

theorem openFile_shift {q : Str} (hq : Rooted q) :
    Mem.openFile (sub P m) q
      = ((Mem.openFile m (P ++ q)).1, sub P (Mem.openFile m (P ++ q)).2) := by
  rw [Mem.openFile_eq, Mem.openFile_eq]
  exact (homSub P).natural_id m _ hq

theorem memPublish_shift {q : Str} (hq : Rooted q) (buf : Bytes) :
    memPublish (sub P m) q buf = sub P (memPublish m (P ++ q) buf) := by
  have := (homSub P).publish m hq buf fun tgt => by cases tgt <;> rfl
  rwa [Write.map_id, ← Mem.memPublish_eq] at this

end Vfs

namespace Vfs

def NoPath {α : Type} (r : Res α) : Prop := ∀ k p, r = .err k p → p = none

theorem NoPath.ok {α : Type} (a : α) : NoPath (.ok a : Res α) := by intro k p h; cases h
theorem NoPath.fail {α : Type} (k : ErrKind) : NoPath (fail k : Res α) := by
  intro k' p h; unfold Vfs.fail at h; injection h with _ h; exact h.symm
theorem NoPath.panic {α : Type} : NoPath (.panic : Res α) := by intro k p h; cases h
theorem NoPath.map {α β : Type} {r : Res α} (h : NoPath r) (f : α → β) : NoPath (r.map f) := by
  intro k p he
  cases r with
  | ok a => cases he
  | err k' p' => simp only [Res.map] at he; injection he with h1 h2; subst h2; exact h k' p' rfl
  | panic => cases he

theorem noPath_readDir (m : FMap) (q : Str) : NoPath (Mem.readDir m q) := by
  unfold Mem.readDir
  split
  · exact NoPath.fail _
  · split
    · exact NoPath.fail _
    · exact NoPath.ok _

theorem noPath_metadata (m : FMap) (q : Str) : NoPath (Mem.metadata m q) := by
  unfold Mem.metadata
  split
  · exact NoPath.fail _
  · exact NoPath.ok _

theorem noPath_appendFile (m : FMap) (q : Str) : NoPath (Mem.appendFile m q) := by
  unfold Mem.appendFile
  split
  · exact NoPath.fail _
  · split
    · exact NoPath.fail _
    · exact NoPath.ok _

def Step (q : Str) (m m' : FMap) : Prop :=
  m' = m ∨ (∃ v, m' = m.insert q v ∧ (q = [] → v.ftype = .dir)) ∨ (q ≠ [] ∧ m' = m.erase q)

theorem Inv0.step {m m' : FMap} {q : Str} (h : Inv0 m) (hq : Canon q) (hs : Step q m m') :
    Inv0 m' := by
  rcases hs with rfl | ⟨v, rfl, hv⟩ | ⟨hne, rfl⟩
  · exact h
  · exact h.insert hq v hv
  · exact h.erase hne

/-- a write that fits (Proofs/LeafSpec.lean) is such a step of a map whose root is a directory. The
listing bit is forced at the root, where `remove_dir` of a childless root fits and is no step. -/
theorem Step.fits {m : FMap} (hi : Inv0 m) {q : Str} {wr : Write}
    (hf : wr.Fits (Mem.par m q) (Mem.kids m q || decide (q = [])) (m.find? q)) :
    Step q m (wr.app m q) := by
  cases wr with
  | keep => exact Or.inl rfl
  | put v =>
    refine Or.inr (Or.inl ⟨v, rfl, fun h0 => ?_⟩)
    subst h0
    obtain ⟨e, he, hd⟩ := hi.1
    simp only [Write.Fits, he] at hf
    rw [hf, hd]
  | del =>
    refine Or.inr (Or.inr ⟨fun h0 => ?_, rfl⟩)
    subst h0
    obtain ⟨e, he, hk⟩ := hf
    rw [hi.root_dir he] at hk
    simp at hk

theorem Step.fits_ne {m : FMap} (hi : Inv0 m) {q : Str} (hne : q ≠ []) {wr : Write}
    (hf : wr.Fits (Mem.par m q) (Mem.kids m q) (m.find? q)) : Step q m (wr.app m q) :=
  Step.fits hi (by rwa [decide_eq_false hne, Bool.or_false])

namespace Mem
variable (par kids : Bool) (tgt : Option Entry)

theorem createDirS_noPath : NoPath (createDirS par tgt).1 := by
  cases par <;> rcases tgt with _ | ⟨⟨_ | _, _, _, _, _⟩⟩ <;> simp [createDirS, NoPath, fail]

theorem createFileS_noPath : NoPath (createFileS par tgt).1 := by
  cases par <;> rcases tgt with _ | ⟨⟨_ | _, _, _, _, _⟩⟩ <;> simp [createFileS, NoPath, fail]

theorem removeFileS_noPath : NoPath (removeFileS tgt).1 := by
  rcases tgt with _ | ⟨⟨_ | _, _, _, _, _⟩⟩ <;> simp [removeFileS, NoPath, fail]

theorem removeDirS_noPath : NoPath (removeDirS kids tgt).1 := by
  cases kids <;> rcases tgt with _ | ⟨⟨_ | _, _, _, _, _⟩⟩ <;> simp [removeDirS, NoPath, fail]

theorem setS_noPath (upd : Entry → Entry) : NoPath (setS upd tgt).1 := by
  cases tgt <;> simp [setS, NoPath, fail]

theorem openFileS_noPath : NoPath (openFileS tgt).1 := by
  rcases tgt with _ | ⟨⟨_ | _, _, _, _, _⟩⟩ <;> simp [openFileS, NoPath, fail]

end Mem

/-! each mutating method labels no error and makes a `Step` at its key: read off its table -/

theorem createDir_step (m : FMap) (q : Str) (hi : Inv0 m) :
    NoPath (Mem.createDir m q).1 ∧ Step q m (Mem.createDir m q).2 := by
  rw [Mem.createDir_eq]
  exact ⟨Mem.createDirS_noPath _ _, Step.fits hi (Mem.createDirS_fits ..)⟩

theorem createFile_step (m : FMap) (q : Str) (hi : Inv0 m) :
    NoPath (Mem.createFile m q).1 ∧ Step q m (Mem.createFile m q).2 := by
  rw [Mem.createFile_eq]
  exact ⟨Mem.createFileS_noPath _ _, Step.fits hi (Mem.createFileS_fits ..)⟩

theorem setAccessed_step (m : FMap) (q : Str) (t : TS) (hi : Inv0 m) :
    NoPath (Mem.setAccessed m q t).1 ∧ Step q m (Mem.setAccessed m q t).2 := by
  rw [Mem.setAccessed_eq]
  exact ⟨Mem.setS_noPath _ _, Step.fits hi (Mem.setS_fits _ _ _ _ fun _ => rfl)⟩

theorem setModified_step (m : FMap) (q : Str) (t : TS) (hi : Inv0 m) :
    NoPath (Mem.setModified m q t).1 ∧ Step q m (Mem.setModified m q t).2 := by
  rw [Mem.setModified_eq]
  exact ⟨Mem.setS_noPath _ _, Step.fits hi (Mem.setS_fits _ _ _ _ fun _ => rfl)⟩

theorem setCreated_step (m : FMap) (q : Str) (t : TS) (hi : Inv0 m) :
    NoPath (Mem.setCreated m q t).1 ∧ Step q m (Mem.setCreated m q t).2 := by
  rw [Mem.setCreated_eq]
  exact ⟨Mem.setS_noPath _ _, Step.fits hi (Mem.setS_fits _ _ _ _ fun _ => rfl)⟩

theorem openFile_step (m : FMap) (q : Str) (hi : Inv0 m) :
    NoPath (Mem.openFile m q).1 ∧ Step q m (Mem.openFile m q).2 := by
  rw [Mem.openFile_eq]
  exact ⟨Mem.openFileS_noPath _, Step.fits hi (Mem.openFileS_fits ..)⟩

theorem removeFile_step (m : FMap) (q : Str) (hi : Inv0 m) :
    NoPath (Mem.removeFile m q).1 ∧ Step q m (Mem.removeFile m q).2 := by
  rw [Mem.removeFile_eq]
  exact ⟨Mem.removeFileS_noPath _, Step.fits hi (Mem.removeFileS_fits ..)⟩

theorem removeDir_step (m : FMap) (q : Str) (hne : q ≠ []) (hi : Inv0 m) :
    NoPath (Mem.removeDir m q).1 ∧ Step q m (Mem.removeDir m q).2 := by
  rw [Mem.removeDir_eq]
  exact ⟨Mem.removeDirS_noPath _ _, Step.fits_ne hi hne (Mem.removeDirS_fits ..)⟩

theorem memPublish_step (m : FMap) (q : Str) (buf : Bytes) (hi : Inv0 m) :
    Step q m (memPublish m q buf) := by
  rw [Mem.memPublish_eq]
  exact Step.fits hi (Mem.publishS_fits ..)

theorem readDir_names_good (m : FMap) (q : Str) (hk : KeysCanon m) (l : List Str)
    (h : Mem.readDir m q = .ok l) : ∀ n ∈ l, GoodComp n := by
  rw [Mem.readDir_ok h]
  intro n hn
  rw [List.mem_filterMap] at hn
  obtain ⟨k, hk', hc⟩ := hn
  obtain ⟨rfl, hns⟩ := childName_some _ _ _ hc
  obtain ⟨cs, hcs, hr⟩ := hk _ hk'
  rcases List.eq_nil_or_concat cs with rfl | ⟨l', c, rfl⟩
  · simp at hr
  · have h1 := filename_child q n hns
    rw [hr, List.concat_eq_append,
      filenameInternal_renderC_snoc l' c (hcs c (by simp)).noSlash] at h1
    rw [← h1]; exact hcs c (by simp)

/-- `create_file` on an existing directory: `Other`, whatever the parent is (row of `Mem.createFileS`) -/
theorem createFile_on_dir (m : FMap) (p : Str) (e : Entry) (he : m.find? p = some e)
    (hd : e.ftype = .dir) : Mem.createFile m p = (fail .other, m) := by
  rw [Mem.createFile_eq, he]
  cases Mem.par m p <;> simp [Mem.createFileS, hd, onSlot, Write.app]

/-! ## keys outside the subtree: the ancestors of `P` stay directories -/

def Touch (k : Str) (m m' : FMap) : Prop := ∀ k', k' ≠ k → m'.find? k' = m.find? k'

theorem Touch.refl (k : Str) (m : FMap) : Touch k m m := fun _ _ => rfl
theorem Touch.insert (k : Str) (m : FMap) (v : Entry) : Touch k m (m.insert k v) :=
  fun k' h => FMap.find?_insert_ne m k k' v h
theorem Touch.trans {k : Str} {a b c : FMap} (h1 : Touch k a b) (h2 : Touch k b c) : Touch k a c :=
  fun k' h => by rw [h2 k' h, h1 k' h]

theorem touch_onSlot {α} (m : FMap) (k : Str) (x : Res α × Write) : Touch k m (onSlot m k x).2 :=
  fun _ hk => Write.find?_app_ne m _ hk

theorem touch_createDir (m : FMap) (k : Str) : Touch k m (Mem.createDir m k).2 := by
  rw [Mem.createDir_eq]; exact touch_onSlot m k _
theorem touch_createFile (m : FMap) (k : Str) : Touch k m (Mem.createFile m k).2 := by
  rw [Mem.createFile_eq]; exact touch_onSlot m k _
theorem touch_setAccessed (m : FMap) (k : Str) (t : TS) : Touch k m (Mem.setAccessed m k t).2 := by
  rw [Mem.setAccessed_eq]; exact touch_onSlot m k _
theorem touch_setModified (m : FMap) (k : Str) (t : TS) : Touch k m (Mem.setModified m k t).2 := by
  rw [Mem.setModified_eq]; exact touch_onSlot m k _
theorem touch_setCreated (m : FMap) (k : Str) (t : TS) : Touch k m (Mem.setCreated m k t).2 := by
  rw [Mem.setCreated_eq]; exact touch_onSlot m k _
theorem touch_openFile (m : FMap) (k : Str) : Touch k m (Mem.openFile m k).2 := by
  rw [Mem.openFile_eq]; exact touch_onSlot m k _
theorem touch_removeFile (m : FMap) (k : Str) : Touch k m (Mem.removeFile m k).2 := by
  rw [Mem.removeFile_eq]; exact touch_onSlot m k _
theorem touch_removeDir (m : FMap) (k : Str) : Touch k m (Mem.removeDir m k).2 := by
  rw [Mem.removeDir_eq]; exact touch_onSlot m k _

/-- every proper ancestor of `P`, the root included, is a directory of `m`. Needed only where
`create_dir_all` runs on a `VfsPath` below `P` and so walks the prefixes of `P`
(Proofs/OverlayShift.lean). -/
def AncOK (P : Str) (m : FMap) : Prop :=
  ∀ ps : List Str, (∀ c ∈ ps, GoodComp c) → P = renderC ps → ∀ j, j < ps.length →
    ∃ e, m.find? (renderC (ps.take j)) = some e ∧ e.ftype = .dir

theorem renderC_take_length_lt (ps : List Str) (j : Nat) (hj : j < ps.length) :
    (renderC (ps.take j)).length < (renderC ps).length := by
  conv => rhs; rw [← List.take_append_drop j ps, renderC_append]
  have : ps.drop j ≠ [] := by
    intro h
    have := congrArg List.length h
    simp at this; omega
  cases hd : ps.drop j with
  | nil => exact absurd hd this
  | cons c cs => simp

theorem AncOK.touch {P q : Str} {m m' : FMap} (h : AncOK P m) (ht : Touch (P ++ q) m m') :
    AncOK P m' := by
  intro ps hps hP j hj
  obtain ⟨e, he, hd⟩ := h ps hps hP j hj
  refine ⟨e, ?_, hd⟩
  rw [ht _ ?_]
  · exact he
  · intro heq
    have h1 := renderC_take_length_lt ps j hj
    have h2 := congrArg List.length heq
    rw [hP] at h2
    simp only [List.length_append] at h2
    omega

/-- the part a leaf plays in the relation: `free`, the same on both sides (any kind of leaf), or
`sub P`, a MEMORY leaf re-rooted at its directory `P` -/
inductive Role where
  | free
  | sub (P : Str)

/-- `sub P`: memory leaves holding `m1` and `sub P m1`, with `Inv0` of the sub-map and the proper
ancestors of `P` directories of `m1` (`AncOK`) -/
def LeafRel : Role → Option Leaf → Option Leaf → Prop
  | .free, a, b => a = b
  | .sub P, a, b => ∃ m1 : FMap, a = some { kind := .mem, files := m1 } ∧
      b = some { kind := .mem, files := sub P m1 } ∧ Inv0 (sub P m1) ∧ AncOK P m1

/-- leaf `i` of the right world holds the sub-map below `P` of leaf `i` of the left world when
`spec i = .sub P` (`P` a directory with canonical keys below it, `Inv0`; its ancestors directories,
`AncOK`: `LeafRel`); the other leaves, the ghost log and the fault plan are equal -/
structure RSub (spec : Nat → Role) (w1 w2 : World) : Prop where
  log : w1.log = w2.log
  fault : w1.fault = w2.fault
  fired : w1.fired = w2.fired
  leaf : ∀ i, LeafRel (spec i) (w1.leaf? i) (w2.leaf? i)

/-- The altroot's errors carry the label `P ++ q` put by the inner `VfsPath`; those of the bare
`MemoryFS` carry none. -/
def PRdrop (a b : Option Str) : Prop := a = b ∨ b = none
instance : ReflPR PRdrop := ⟨fun _ => Or.inl rfl⟩

def KeyRel : Role → Str → Str → WKind → Prop
  | .free, k1, k2, _ => k1 = k2
  | .sub P, k1, k2, kind => k1 = P ++ k2 ∧ Canon k2 ∧ kind = .memFile

def HSub (spec : Nat → Role) (h1 h2 : WHandle) : Prop :=
  h1.leaf = h2.leaf ∧ h1.kind = h2.kind ∧ h1.buf = h2.buf ∧ h1.pos = h2.pos ∧
    KeyRel (spec h1.leaf) h1.key h2.key h1.kind

section rsub
variable {spec : Nat → Role} {w1 w2 : World}

theorem RSub.leafAt (hr : RSub spec w1 w2) {i : Nat} {P : Str} (hi : spec i = .sub P) :
    ∃ m1, MemLeafAt w1 i m1 ∧ MemLeafAt w2 i (sub P m1) ∧ Inv0 (sub P m1) := by
  have := hr.leaf i
  rw [hi] at this
  obtain ⟨m1, a, b, c, _⟩ := this
  exact ⟨m1, a, b, c⟩

theorem RSub.ancAt (hr : RSub spec w1 w2) {i : Nat} {P : Str} (hi : spec i = .sub P) {m1 : FMap}
    (h1 : MemLeafAt w1 i m1) : AncOK P m1 := by
  have := hr.leaf i
  rw [hi] at this
  obtain ⟨m1', a, _, _, d⟩ := this
  cases MemLeafAt.unique a h1
  exact d

theorem RSub.set (hr : RSub spec w1 w2) {i : Nat} {P : Str} (hi : spec i = .sub P)
    (m1' m2' : FMap) (h2 : m2' = sub P m1') (hinv : Inv0 m2') (hanc : AncOK P m1') :
    RSub spec (w1.setLeafFiles i m1') (w2.setLeafFiles i m2') := by
  refine ⟨hr.log, hr.fault, hr.fired, fun j => ?_⟩
  by_cases hij : i = j
  · subst hij
    obtain ⟨m1, a1, a2, _⟩ := hr.leafAt hi
    rw [hi]
    subst h2
    exact ⟨m1', a1.set _, a2.set _, hinv, hanc⟩
  · rw [World.leaf?_setLeafFiles_ne _ _ _ _ hij, World.leaf?_setLeafFiles_ne _ _ _ _ hij]
    exact hr.leaf j

theorem RSub.set_free (hr : RSub spec w1 w2) {j : Nat} (hj : spec j = .free) (f : FMap) :
    RSub spec (w1.setLeafFiles j f) (w2.setLeafFiles j f) := by
  refine ⟨hr.log, hr.fault, hr.fired, fun k => ?_⟩
  by_cases hjk : j = k
  · subst hjk
    have := hr.leaf j
    rw [hj] at this ⊢
    rw [World.leaf?_setLeafFiles, World.leaf?_setLeafFiles, if_pos rfl, if_pos rfl]
    show _ = _
    rw [show w1.leaf? j = w2.leaf? j from this]
  · rw [World.leaf?_setLeafFiles_ne _ _ _ _ hjk, World.leaf?_setLeafFiles_ne _ _ _ _ hjk]
    exact hr.leaf k

theorem RSub.free_eq (hr : RSub spec w1 w2) {j : Nat} (hj : spec j = .free) :
    w2.leaf? j = w1.leaf? j := by
  have := hr.leaf j
  rw [hj] at this
  exact this.symm

end rsub

/-- What the simulations below use of the world relation: it implies `RSub spec`, and it survives
the two ways a leaf changes, a write to a re-rooted leaf `i` that touches at most one key
`P ++ q` (and leaves `Inv0` of the sub-map intact), and any write to a free leaf done on both sides.
`RSub spec` is the least such relation (`subRel_rsub`); `SubRel.and` adds an invariant of the left
world that those writes keep. -/
structure SubRel (spec : Nat → Role) (R : World → World → Prop) : Prop where
  rsub : ∀ {w1 w2 : World}, R w1 w2 → RSub spec w1 w2
  step : ∀ {w1 w2 : World} {i : Nat} {P : Str} {m1 : FMap} {q : Str} {m1' : FMap}, R w1 w2 →
    spec i = .sub P → MemLeafAt w1 i m1 → Rooted q → Touch (P ++ q) m1 m1' → Inv0 (sub P m1') →
    R (w1.setLeafFiles i m1') (w2.setLeafFiles i (sub P m1'))
  free : ∀ {w1 w2 : World} {j : Nat}, R w1 w2 → spec j = .free → ∀ f : FMap,
    R (w1.setLeafFiles j f) (w2.setLeafFiles j f)

theorem subRel_rsub (spec : Nat → Role) : SubRel spec (RSub spec) where
  rsub h := h
  step hr hi h1 _ ht hinv := hr.set hi _ _ rfl hinv ((hr.ancAt hi h1).touch ht)
  free hr hj f := hr.set_free hj f

theorem SubRel.and {spec : Nat → Role} {R : World → World → Prop} (hR : SubRel spec R)
    {I : World → Prop}
    (hstep : ∀ {w : World} {i : Nat} {P : Str} {m1 : FMap} {q : Str} {m1' : FMap}, spec i = .sub P →
      MemLeafAt w i m1 → Rooted q → Touch (P ++ q) m1 m1' → I w → I (w.setLeafFiles i m1'))
    (hfree : ∀ {w : World} {j : Nat} (f : FMap), spec j = .free → I w → I (w.setLeafFiles j f)) :
    SubRel spec (fun a b => R a b ∧ I a) where
  rsub h := hR.rsub h.1
  step hr hi h1 hq ht hinv := ⟨hR.step hr.1 hi h1 hq ht hinv, hstep hi h1 hq ht hr.2⟩
  free hr hj f := ⟨hR.free hr.1 hj f, hfree f hj hr.2⟩

theorem rlog_rsub (spec : Nat → Role) : RLog (RSub spec) := by
  intro w1 w2 e hr
  exact ⟨by simp [hr.log], hr.fault, hr.fired, hr.leaf⟩

theorem rfault_rsub (spec : Nat → Role) : RFault (RSub spec) where
  same _ _ hr := hr.fault
  fire _ _ hr := ⟨hr.log, rfl, rfl, hr.leaf⟩
  tick _ _ _ hr := ⟨hr.log, rfl, hr.fired, hr.leaf⟩

theorem HSub.mk' {spec : Nat → Role} (leaf : Nat) (kind : WKind) (buf : Bytes) (pos : Nat)
    (k1 k2 : Str) (hk : KeyRel (spec leaf) k1 k2 kind) :
    HSub spec { leaf := leaf, key := k1, kind := kind, buf := buf, pos := pos }
      { leaf := leaf, key := k2, kind := kind, buf := buf, pos := pos } := ⟨rfl, rfl, rfl, rfl, hk⟩

theorem HSub.destruct {spec : Nat → Role} {h1 h2 : WHandle} (h : HSub spec h1 h2) :
    ∃ leaf kind buf pos k1 k2,
      h1 = { leaf := leaf, key := k1, kind := kind, buf := buf, pos := pos } ∧
      h2 = { leaf := leaf, key := k2, kind := kind, buf := buf, pos := pos } ∧
      KeyRel (spec leaf) k1 k2 kind := by
  obtain ⟨a, b, c, d, e⟩ := h
  cases h1; cases h2
  simp only at a b c d e
  subst a b c d
  exact ⟨_, _, _, _, _, _, rfl, rfl, e⟩

/-- a physical handle sits on a free leaf, under the same key on both sides -/
theorem KeyRel.of_phys {r : Role} {k1 k2 : Str} {kind : WKind} (h : KeyRel r k1 k2 kind)
    (hk : kind ≠ .memFile) : r = .free ∧ k1 = k2 := by
  cases r with
  | free => exact ⟨rfl, h⟩
  | sub P => exact absurd h.2.2 hk

/-- an in-memory handle writes and seeks in its buffer; its flush publishes into the leaf, which on
a sub-tree leaf is `memPublish_shift`. A physical handle acts on a free leaf, equal on both sides. -/
theorem simHandles_sub {spec : Nat → Role} {R : World → World → Prop} (hR : SubRel spec R)
    {PR : Option Str → Option Str → Prop} [ReflPR PR] :
    SimHandles R PR (HSub spec) where
  write h1 h2 bs h := by
    intro w1 w2 hr
    obtain ⟨leaf, kind, buf, pos, k1, k2, rfl, rfl, hk⟩ := h.destruct
    by_cases hm : kind = .memFile
    · rw [WHandle.write_mem _ hm, WHandle.write_mem _ hm]
      exact ⟨.ok ⟨rfl, HSub.mk' _ _ _ _ _ _ hk⟩, hr⟩
    · obtain ⟨hs, rfl⟩ := hk.of_phys hm
      unfold WHandle.write
      dsimp only
      rw [(hR.rsub hr).free_eq hs]
      cases kind with
      | memFile => exact absurd rfl hm
      | physCreate =>
        dsimp only
        cases w1.leaf? leaf with
        | none => exact ⟨.ok ⟨rfl, HSub.mk' _ _ _ _ _ _ hk⟩, hr⟩
        | some l =>
          dsimp only
          cases l.files.find? k1 with
          | none => exact ⟨.ok ⟨rfl, HSub.mk' _ _ _ _ _ _ hk⟩, hr⟩
          | some e => exact ⟨.ok ⟨rfl, HSub.mk' _ _ _ _ _ _ hk⟩, hR.free hr hs _⟩
      | physAppend =>
        dsimp only
        cases w1.leaf? leaf with
        | none => exact ⟨.ok ⟨rfl, HSub.mk' _ _ _ _ _ _ hk⟩, hr⟩
        | some l =>
          dsimp only
          cases l.files.find? k1 with
          | none => exact ⟨.ok ⟨rfl, HSub.mk' _ _ _ _ _ _ hk⟩, hr⟩
          | some e => exact ⟨.ok ⟨rfl, HSub.mk' _ _ _ _ _ _ hk⟩, hR.free hr hs _⟩
  flush h1 h2 h := by
    intro w1 w2 hr
    obtain ⟨leaf, kind, buf, pos, k1, k2, rfl, rfl, hk⟩ := h.destruct
    rw [WHandle.flush_eq, WHandle.flush_eq]
    by_cases hm : kind = .memFile
    · simp only [hm, if_true]
      refine ⟨.ok trivial, ?_⟩
      cases hs : spec leaf with
      | free =>
        rw [hs] at hk
        have hk' : k1 = k2 := hk
        subst hk'
        unfold World.publish
        rw [(hR.rsub hr).free_eq hs]
        cases w1.leaf? leaf with
        | none => exact hr
        | some l => exact hR.free hr hs _
      | sub P =>
        rw [hs] at hk
        obtain ⟨rfl, hcan, _⟩ := hk
        obtain ⟨m1, a1, a2, hinv⟩ := (hR.rsub hr).leafAt hs
        rw [World.publish_of_leaf _ _ _ _ a1, World.publish_of_leaf _ _ _ _ a2]
        have hinv' := hinv.step hcan (memPublish_step _ _ buf hinv)
        rw [memPublish_shift P m1 hcan.rooted] at hinv' ⊢
        exact hR.step hr hs a1 hcan.rooted (fun _ hk => find?_memPublish_ne m1 _ _ buf hk) hinv'
    · simp only [hm, if_false]
      exact ⟨.ok trivial, hr⟩
  seek h1 h2 s h := by
    intro w1 w2 hr
    obtain ⟨leaf, kind, buf, pos, k1, k2, rfl, rfl, hk⟩ := h.destruct
    have hlen : WHandle.fileLen ⟨leaf, k2, kind, buf, pos⟩ w2 = WHandle.fileLen ⟨leaf, k1, kind, buf, pos⟩ w1 := by
      by_cases hm : kind = .memFile
      · simp only [WHandle.fileLen, hm]
      · obtain ⟨hs, rfl⟩ := hk.of_phys hm
        unfold WHandle.fileLen
        rw [(hR.rsub hr).free_eq hs]
    rw [WHandle.seek_eq, WHandle.seek_eq, hlen]
    cases cursorSeek _ pos s with
    | ok n => exact ⟨.ok ⟨rfl, HSub.mk' _ _ _ _ _ _ hk⟩, hr⟩
    | err k p => exact ⟨.err (ReflPR.refl _), hr⟩
    | panic => exact ⟨.panic, hr⟩

/-! ## the leaf at `P ++ q` versus the sub-leaf at `q` -/

/-- the right error carries no label: the bare `MemoryFS` labels none (`NoPath`), whatever the left
side put. Every `leaf_*` below is stated with it; `toDrop` weakens it to `PRdrop`. -/
def PRn (_a b : Option Str) : Prop := b = none

theorem relres_n {α : Type} {r : Res α} (h : NoPath r) : RelRes PRn (· = ·) r r := by
  cases r with
  | ok a => exact .ok rfl
  | err k p => exact .err (h k p rfl)
  | panic => exact .panic

theorem relres_n_map {α β γ : Type} {Q : β → γ → Prop} {r : Res α} (h : NoPath r) (f : α → β)
    (g : α → γ) (hq : ∀ a, Q (f a) (g a)) : RelRes PRn Q (r.map f) (r.map g) := by
  cases r with
  | ok a => exact .ok (hq a)
  | err k p => exact .err (h k p rfl)
  | panic => exact .panic

theorem RelRes.ok_inv {α : Type} {PR : Option Str → Option Str → Prop} {r1 : Res α} {x : α}
    (h : RelRes PR (· = ·) r1 (.ok x)) : r1 = .ok x := by
  cases h with
  | ok hq => rw [hq]

theorem SimM.withPath_left {α β : Type} {R : World → World → Prop} {Q : α → β → Prop}
    {m1 : M α} {m2 : M β} (p : Str) (h : SimM R PRn Q m1 m2) : SimM R PRn Q (M.withPath p m1) m2 :=
  simM_iff.2 ((simM_iff.1 h).withPathL p fun he => ⟨he.1, he.2⟩)

theorem SimM.toDrop {α β : Type} {R : World → World → Prop} {Q : α → β → Prop}
    {m1 : M α} {m2 : M β} (h : SimM R PRn Q m1 m2) : SimM R PRdrop Q m1 m2 :=
  h.monoPR (fun _ _ hb => Or.inr hb)

section leaf
variable {spec : Nat → Role} {R : World → World → Prop} (hR : SubRel spec R) {i : Nat} {P : Str}
  (hi : spec i = .sub P)
include hR hi

theorem leaf_exists {q : Str} (hq : Canon q) :
    SimM R PRn (· = ·) ((leafFS i).exists_ (P ++ q)) ((leafFS i).exists_ q) := by
  intro w1 w2 hr
  obtain ⟨m1, h1, h2, _⟩ := (hR.rsub hr).leafAt hi
  rw [run_exists h1, run_exists h2, contains_sub P m1 q hq.rooted]
  exact ⟨.ok rfl, hr⟩

theorem leaf_metadata {q : Str} (hq : Canon q) :
    SimM R PRn (· = ·) ((leafFS i).metadata (P ++ q)) ((leafFS i).metadata q) := by
  intro w1 w2 hr
  obtain ⟨m1, h1, h2, _⟩ := (hR.rsub hr).leafAt hi
  rw [run_metadata h1, run_metadata h2, metadata_shift P m1 hq.rooted]
  exact ⟨relres_n (noPath_metadata _ _), hr⟩

theorem leaf_readDir {q : Str} (hq : Canon q) :
    SimM R PRn NamesRel ((leafFS i).readDir (P ++ q)) ((leafFS i).readDir q) := by
  intro w1 w2 hr
  obtain ⟨m1, h1, h2, hinv⟩ := (hR.rsub hr).leafAt hi
  have hg := readDir_names_good (sub P m1) q hinv.keysCanon
  rw [run_readDir h1, run_readDir h2]
  rw [readDir_shift P m1 hq.rooted] at hg ⊢
  refine ⟨?_, hr⟩
  have hn := noPath_readDir m1 (P ++ q)
  cases hres : Mem.readDir m1 (P ++ q) with
  | ok l => exact .ok ⟨rfl, hg l hres⟩
  | err k p => rw [hres] at hn; exact .err (hn k p rfl)
  | panic => exact .panic

/-- the shape the mutating methods share: the method `op` of the leaf runs a function `F` of the
memory map that commutes with `sub P`, labels no error and changes at most the key it is called at -/
theorem leaf_step {α : Type} (op : Str → M α) (F : FMap → Str → Res α × FMap) {q : Str}
    (hq : Canon q)
    (hrun : ∀ {w : World} {m : FMap} (k : Str), MemLeafAt w i m →
      op k w = ((F m k).1, w.setLeafFiles i (F m k).2))
    (hshift : ∀ m, F (sub P m) q = ((F m (P ++ q)).1, sub P (F m (P ++ q)).2))
    (hspec : ∀ m, Inv0 m → NoPath (F m q).1 ∧ Step q m (F m q).2)
    (htouch : ∀ m, Touch (P ++ q) m (F m (P ++ q)).2) :
    SimM R PRn (· = ·) (op (P ++ q)) (op q) := by
  intro w1 w2 hr
  obtain ⟨m1, h1, h2, hinv⟩ := (hR.rsub hr).leafAt hi
  obtain ⟨hn, hstep⟩ := hspec (sub P m1) hinv
  rw [hrun _ h1, hrun _ h2]
  rw [hshift m1] at hn hstep ⊢
  exact ⟨relres_n hn, hR.step hr hi h1 hq.rooted (htouch m1) (hinv.step hq hstep)⟩

theorem leaf_createDir {q : Str} (hq : Canon q) (hne : q ≠ []) :
    SimM R PRn (· = ·) ((leafFS i).createDir (P ++ q)) ((leafFS i).createDir q) :=
  leaf_step hR hi (leafFS i).createDir Mem.createDir hq (fun k h => run_createDir h k)
    (fun m => createDir_shift P m hq hne) (fun m => createDir_step m q)
    (fun m => touch_createDir m _)

theorem leaf_removeFile {q : Str} (hq : Canon q) :
    SimM R PRn (· = ·) ((leafFS i).removeFile (P ++ q)) ((leafFS i).removeFile q) :=
  leaf_step hR hi (leafFS i).removeFile Mem.removeFile hq (fun k h => run_removeFile h k)
    (fun m => removeFile_shift P m hq.rooted) (fun m => removeFile_step m q)
    (fun m => touch_removeFile m _)

theorem leaf_removeDir {q : Str} (hq : Canon q) (hne : q ≠ []) :
    SimM R PRn (· = ·) ((leafFS i).removeDir (P ++ q)) ((leafFS i).removeDir q) :=
  leaf_step hR hi (leafFS i).removeDir Mem.removeDir hq (fun k h => run_removeDir h k)
    (fun m => removeDir_shift P m hq.rooted) (fun m => removeDir_step m q hne)
    (fun m => touch_removeDir m _)

theorem leaf_openFile {q : Str} (hq : Canon q) :
    SimM R PRn (· = ·) ((leafFS i).openFile (P ++ q)) ((leafFS i).openFile q) :=
  leaf_step hR hi (leafFS i).openFile Mem.openFile hq (fun k h => run_openFile h k)
    (fun m => openFile_shift P m hq.rooted) (fun m => openFile_step m q)
    (fun m => touch_openFile m _)

theorem leaf_setAccessTime {q : Str} (hq : Canon q) (t : Int) :
    SimM R PRn (· = ·) ((leafFS i).setAccessTime (P ++ q) t)
      ((leafFS i).setAccessTime q t) :=
  leaf_step hR hi ((leafFS i).setAccessTime · t) (Mem.setAccessed · · (.at t)) hq
    (fun k h => run_setAccessTime h k t)
    (fun m => by rw [Mem.setAccessed_eq, Mem.setAccessed_eq]; exact (homSub P).natural_id m _ hq.rooted)
    (fun m => setAccessed_step m q _) (fun m => touch_setAccessed m _ _)

theorem leaf_setModificationTime {q : Str} (hq : Canon q) (t : Int) :
    SimM R PRn (· = ·) ((leafFS i).setModificationTime (P ++ q) t)
      ((leafFS i).setModificationTime q t) :=
  leaf_step hR hi ((leafFS i).setModificationTime · t) (Mem.setModified · · (.at t)) hq
    (fun k h => run_setModificationTime h k t)
    (fun m => by rw [Mem.setModified_eq, Mem.setModified_eq]; exact (homSub P).natural_id m _ hq.rooted)
    (fun m => setModified_step m q _) (fun m => touch_setModified m _ _)

theorem leaf_setCreationTime {q : Str} (hq : Canon q) (t : Int) :
    SimM R PRn (· = ·) ((leafFS i).setCreationTime (P ++ q) t)
      ((leafFS i).setCreationTime q t) :=
  leaf_step hR hi ((leafFS i).setCreationTime · t) (Mem.setCreated · · (.at t)) hq
    (fun k h => run_setCreationTime h k t)
    (fun m => by rw [Mem.setCreated_eq, Mem.setCreated_eq]; exact (homSub P).natural_id m _ hq.rooted)
    (fun m => setCreated_step m q _) (fun m => touch_setCreated m _ _)

omit hR in
theorem hsub_new {q : Str} (hq : Canon q) (buf : Bytes) (pos : Nat) :
    HSub spec { leaf := i, key := P ++ q, kind := .memFile, buf := buf, pos := pos }
      { leaf := i, key := q, kind := .memFile, buf := buf, pos := pos } :=
  HSub.mk' _ _ _ _ _ _ (by rw [hi]; exact ⟨rfl, hq, rfl⟩)

theorem leaf_appendFile {q : Str} (hq : Canon q) :
    SimM R PRn (HSub spec) ((leafFS i).appendFile (P ++ q)) ((leafFS i).appendFile q) := by
  intro w1 w2 hr
  obtain ⟨m1, h1, h2, _⟩ := (hR.rsub hr).leafAt hi
  rw [run_appendFile h1, run_appendFile h2, appendFile_shift P m1 hq.rooted]
  exact ⟨relres_n_map (noPath_appendFile _ _) _ _ (fun b => hsub_new hi hq b b.length), hr⟩

/-- on the re-rooted root itself (`q = ""`) both sides refuse: it is a directory -/
theorem leaf_createFile {q : Str} (hq : Canon q) :
    SimM R PRn (HSub spec) ((leafFS i).createFile (P ++ q)) ((leafFS i).createFile q) := by
  intro w1 w2 hr
  obtain ⟨m1, h1, h2, hinv⟩ := (hR.rsub hr).leafAt hi
  rw [run_createFile h1, run_createFile h2]
  by_cases hne : q = []
  · subst hne
    obtain ⟨e, he, hd⟩ := hinv.1
    have he1 := he
    rw [find?_sub P m1 [] (Or.inl rfl)] at he1
    rw [createFile_on_dir m1 _ e he1 hd, createFile_on_dir (sub P m1) [] e he hd]
    exact ⟨.err rfl, hR.step hr hi h1 (Or.inl rfl) (Touch.refl _ m1) hinv⟩
  · obtain ⟨hn, hstep⟩ := createFile_step (sub P m1) q hinv
    rw [createFile_shift P m1 hq hne] at hn hstep ⊢
    exact ⟨relres_n_map hn _ _ (fun _ => hsub_new hi hq [] 0),
      hR.step hr hi h1 hq.rooted (touch_createFile m1 (P ++ q)) (hinv.step hq hstep)⟩

end leaf
theorem SimM.map_left {α β γ : Type} {R : World → World → Prop}
    {PR : Option Str → Option Str → Prop} {Q : α → β → Prop} {Q' : γ → β → Prop}
    {m1 : M α} {m2 : M β} (hm : SimM R PR Q m1 m2) (f : α → γ) (hf : ∀ a b, Q a b → Q' (f a) b) :
    SimM R PR Q' (m1 >>= fun a => Pure.pure (f a)) m2 := by
  rw [← M.bind_pure m2]
  exact SimM.bind hm fun a b h => SimM.pure (hf a b h)

theorem relres_withPath_left {α β : Type} {Q : α → β → Prop} {r1 : Res α} {r2 : Res β} (p : Str)
    (h : RelRes PRn Q r1 r2) : RelRes PRdrop Q (r1.withPath p) r2 :=
  relRes_iff.2 ((relRes_iff.1 h).withPathL p fun he => ⟨he.1, Or.inr he.2⟩)

/-- the child paths `VfsPath::read_dir` builds from good names have these names as file names -/
theorem VPath.children_names (v : VPath) {l : List Str} (hg : ∀ n ∈ l, GoodComp n) :
    (l.map fun n => v.withStr (v.path ++ '/' :: n)).map nameOf = l := by
  rw [List.map_map]
  conv => rhs; rw [← List.map_id l]
  exact List.map_congr_left fun n hn => filename_child _ n (hg n hn).noSlash

section altroot
variable {spec : Nat → Role} {R : World → World → Prop} (hR : SubRel spec R) {i : Nat} {P : Str}
  (hi : spec i = .sub P) (hP : Canon P) (id : Nat)
include hR hi hP

omit hR hi in
/-- a method of the shape `self.path(q)?.m()` of the altroot at a canonical `q`, against anything:
related as soon as `m` at `P ++ q` of the leaf is -/
theorem altroot_method {α β : Type} {Q : α → β → Prop} {f : VPath → M α} {op2 : M β} {q : Str}
    (hq : Canon q)
    (h : SimM R PRdrop Q (f { fs := leafFS i, fsId := id, path := P ++ q }) op2) :
    SimM R PRdrop Q
      (M.ret (Altroot.path { fs := leafFS i, fsId := id, path := P } q) >>= f) op2 := by
  rw [Altroot.run_method _ q hP hq]
  exact h

omit hP in
theorem leaf_notSupported {w1 w2 : World} (hr : R w1 w2) (f : Leaf → Res Unit × FMap)
    (hf : ∀ m, f { kind := .mem, files := m } = (fail .notSupported, m)) :
    RelRes PRdrop (· = ·) ((M.failK .notSupported : M Unit) w1).1 (onLeaf i f w2).1 ∧
      R ((M.failK .notSupported : M Unit) w1).2 (onLeaf i f w2).2 := by
  obtain ⟨m1, _, h2, _⟩ := (hR.rsub hr).leafAt hi
  rw [onLeaf_run h2, hf]
  exact ⟨.err (Or.inl rfl), by rw [h2.same]; exact hr⟩

/-- `altroot_sim_leaf` without `copy_file`, which the altroot passes to the `VfsPath` layer
(`altroot_copyFileV`). -/
theorem altroot_sim_leaf0 :
    SimFS0 R PRdrop (HSub spec)
      (Altroot.fs { fs := leafFS i, fsId := id, path := P }) (leafFS i) where
  readDir q hq := altroot_method hP id hq (by
    show SimM _ _ _ (VPath.readDir _ >>= fun l => Pure.pure (l.map fun c => filenameInternal c.path)) _
    refine SimM.map_left (Q := fun (l1 : List VPath) (l2 : List Str) =>
      NamesRel (l1.map fun c => filenameInternal c.path) l2) ?_ _ (fun _ _ h => h)
    unfold VPath.readDir
    refine SimM.map_left (SimM.withPath_left _ (leaf_readDir hR hi hq)).toDrop _ ?_
    rintro n1 n2 ⟨rfl, hg⟩
    exact ⟨VPath.children_names _ hg, by rw [VPath.children_names _ hg]; exact hg⟩)
  createDir q hq hne := altroot_method hP id hq (by
    intro w1 w2 hr
    obtain ⟨m1, h1, _, hinv⟩ := (hR.rsub hr).leafAt hi
    show RelRes _ _ (VPath.createDir { fs := leafFS i, fsId := id, path := P ++ q } w1).1 _ ∧
      R (VPath.createDir { fs := leafFS i, fsId := id, path := P ++ q } w1).2 _
    rw [run_vcreateDir h1 id]
    obtain ⟨a, b⟩ := leaf_createDir hR hi hq hne w1 w2 hr
    exact ⟨relres_withPath_left _ a, b⟩)
  openFile q hq := altroot_method hP id hq (SimM.withPath_left _ (leaf_openFile hR hi hq)).toDrop
  createFile q hq := altroot_method hP id hq (by
    intro w1 w2 hr
    obtain ⟨m1, h1, _, hinv⟩ := (hR.rsub hr).leafAt hi
    show RelRes _ _ (VPath.createFile { fs := leafFS i, fsId := id, path := P ++ q } w1).1 _ ∧
      R (VPath.createFile { fs := leafFS i, fsId := id, path := P ++ q } w1).2 _
    rw [run_vcreateFile h1 id]
    obtain ⟨a, b⟩ := leaf_createFile hR hi hq w1 w2 hr
    exact ⟨relres_withPath_left _ a, b⟩)
  appendFile q hq := altroot_method hP id hq (SimM.withPath_left _ (leaf_appendFile hR hi hq)).toDrop
  metadata q hq := altroot_method hP id hq (SimM.withPath_left _ (leaf_metadata hR hi hq)).toDrop
  setCreationTime q t hq :=
    altroot_method hP id hq (SimM.withPath_left _ (leaf_setCreationTime hR hi hq t)).toDrop
  setModificationTime q t hq :=
    altroot_method hP id hq (SimM.withPath_left _ (leaf_setModificationTime hR hi hq t)).toDrop
  setAccessTime q t hq :=
    altroot_method hP id hq (SimM.withPath_left _ (leaf_setAccessTime hR hi hq t)).toDrop
  exists_ q hq := by
    simp only [Altroot.fs, Altroot.path_canon { fs := leafFS i, fsId := id, path := P } q hP hq]
    exact (leaf_exists hR hi hq).toDrop
  removeFile q hq := altroot_method hP id hq (SimM.withPath_left _ (leaf_removeFile hR hi hq)).toDrop
  removeDir q hq hne :=
    altroot_method hP id hq (SimM.withPath_left _ (leaf_removeDir hR hi hq hne)).toDrop
  moveFile s d _ _ := fun _ _ hr => leaf_notSupported hR hi hr _ fun _ => rfl
  moveDir s d _ _ := fun _ _ hr => leaf_notSupported hR hi hr _ fun _ => rfl

end altroot
/-- labels not compared: both sides label, with different strings (`P ++ q` and `q`) -/
abbrev PTrue : Option Str → Option Str → Prop := fun _ _ => True

def KindNot {α : Type} (I : World → Prop) (k : ErrKind) (m : M α) : Prop :=
  ∀ w, I w → (∀ k' p, (m w).1 = .err k' p → k' ≠ k) ∧ I (m w).2

namespace KindNot
variable {α : Type} {I : World → Prop} {k : ErrKind}

theorem pure (a : α) : KindNot I k (Pure.pure a : M α) :=
  fun _ hw => ⟨fun _ _ => nofun, hw⟩

end KindNot

/-- `KindNot` is the specification `Spec.notKind` of Proofs/Hoare.lean -/
theorem kindNot_iff {α : Type} {I : World → Prop} {k : ErrKind} {m : M α} :
    KindNot I k m ↔ (Spec.notKind I k).Sat m := by
  constructor
  · intro h
    refine ⟨fun w hw => ⟨(h w hw).2, fun e => ?_⟩⟩
    cases hr : (m w).1 with
    | ok a => rw [hr] at e; cases e
    | err k' p => rw [hr] at e; exact (h w hw).1 k' p hr (Spec.Out.err.inj e)
    | panic => rw [hr] at e; cases e
  · intro h w hw
    refine ⟨fun k' p he hk => (h.post w hw).2 ?_, (h.post w hw).1⟩
    rw [he, hk]
    rfl

theorem M.withPath_congr {α : Type} (p : Str) {m m' : M α} {w : World} (h : m w = m' w) :
    M.withPath p m w = M.withPath p m' w := by
  rw [M.withPath_run, M.withPath_run, h]

/-- `copy_file` between memory filesystems: the probe, then the read/write route -/
theorem run_copy_mem2 {w : World} {i j : Nat} {mi mj : FMap} (hi : MemLeafAt w i mi)
    (hj : MemLeafAt w j mj) (ida idc : Nat) (a c : Str) :
    VPath.copyFile { fs := leafFS i, fsId := ida, path := a } { fs := leafFS j, fsId := idc, path := c } w
      = M.withPath a (if mj.contains c = true then M.failAt .other a
          else VPath.copyGeneric { fs := leafFS i, fsId := ida, path := a }
            { fs := leafFS j, fsId := idc, path := c }) w := by
  have hex : VPath.exists_ { fs := leafFS j, fsId := idc, path := c } w = (.ok (mj.contains c), w) :=
    run_exists hj c
  rw [VPath.copyFile_eq]
  cases hc : mj.contains c with
  | true => rw [hc] at hex; rw [VPath.guarded_refused _ _ _ _ w hex]; rfl
  | false =>
    rw [hc] at hex
    rw [VPath.guarded_run _ _ _ _ w hex]
    exact M.withPath_congr a (VPath.fastOr_slow fun _ => ⟨none, run_copyFile_mem hi a c⟩)

theorem run_copy_mem {w : World} {i : Nat} {m : FMap} (h : MemLeafAt w i m) (id : Nat) (a b : Str)
    (hc : m.contains b = false) :
    VPath.copyFile { fs := leafFS i, fsId := id, path := a } { fs := leafFS i, fsId := id, path := b } w
      = M.withPath a (VPath.copyGeneric { fs := leafFS i, fsId := id, path := a }
          { fs := leafFS i, fsId := id, path := b }) w := by
  rw [run_copy_mem2 h h id id a b, hc]
  rfl

theorem SimM.withPath_lr_true {α β : Type} {R : World → World → Prop} {Q : α → β → Prop}
    {PR : Option Str → Option Str → Prop} {m1 : M α} {m2 : M β} (p1 p2 : Str)
    (h : SimM R PR Q m1 m2) : SimM R PTrue Q (M.withPath p1 m1) (M.withPath p2 m2) :=
  simM_iff.2 ((simM_iff.1 h).withPath2 p1 p2 fun he => ⟨he.1, trivial⟩)

theorem SimM.withPath_left_true {α β : Type} {R : World → World → Prop} {Q : α → β → Prop}
    {m1 : M α} {m2 : M β} (p1 : Str) (h : SimM R PTrue Q m1 m2) :
    SimM R PTrue Q (M.withPath p1 m1) m2 :=
  simM_iff.2 ((simM_iff.1 h).withPathL p1 fun he => ⟨he.1, trivial⟩)

theorem SimM.withPath_any {α β : Type} {R : World → World → Prop} {Q : α → β → Prop}
    {PR PR' : Option Str → Option Str → Prop} [ReflPR PR'] {m1 : M α} {m2 : M β} (p : Str)
    (h : SimM R PR Q m1 m2) : SimM R PR' Q (M.withPath p m1) (M.withPath p m2) :=
  simM_iff.2 ((simM_iff.1 h).withPath2 p p fun he => ⟨he.1, ReflPR.refl _⟩)

namespace C07

/-- the path `q` of the altroot filesystem rooted at the path `P` of leaf `i` (`id`: the `Arc`
identity of that path, `id'`: the one of the altroot filesystem) -/
abbrev apath (i id : Nat) (P : Str) (id' : Nat) (q : Str) : VPath :=
  { fs := Altroot.fs { fs := leafFS i, fsId := id, path := P }, fsId := id', path := q }
/-- the path `q` of the bare leaf it is compared with -/
abbrev spath (i id' : Nat) (q : Str) : VPath := { fs := leafFS i, fsId := id', path := q }

end C07

section copyShift
variable {spec : Nat → Role} {R : World → World → Prop} (hR : SubRel spec R)
include hR

omit hR in
theorem relres_true_withPath {α β : Type} {Q : α → β → Prop} {PR : Option Str → Option Str → Prop}
    {r1 : Res α} {r2 : Res β} (p1 p2 : Str) (h : RelRes PR Q r1 r2) :
    RelRes PTrue Q (r1.withPath p1) (r2.withPath p2) :=
  relRes_iff.2 ((relRes_iff.1 h).withPath2 p1 p2 fun he => ⟨he.1, trivial⟩)

theorem createFile_shift_v {i : Nat} {P q : Str} (hi : spec i = .sub P) (hq : Canon q)
    (ida idb : Nat) :
    SimM R PTrue (HSub spec)
      (VPath.createFile { fs := leafFS i, fsId := ida, path := P ++ q })
      (VPath.createFile { fs := leafFS i, fsId := idb, path := q }) := by
  intro w1 w2 hr
  obtain ⟨m1, h1, h2, _⟩ := (hR.rsub hr).leafAt hi
  rw [run_vcreateFile h1 ida, run_vcreateFile h2 idb]
  obtain ⟨a, b⟩ := leaf_createFile hR hi hq w1 w2 hr
  exact ⟨relres_true_withPath _ _ a, b⟩

theorem sim_copyGeneric_shift {i j : Nat} {Pi Pj s d : Str} (hi : spec i = .sub Pi) (hj : spec j = .sub Pj)
    (hs : Canon s) (hd : Canon d) (ida idc idb idd : Nat) :
    SimM R PTrue (· = ·)
      (VPath.copyGeneric { fs := leafFS i, fsId := ida, path := Pi ++ s }
        { fs := leafFS j, fsId := idc, path := Pj ++ d })
      (VPath.copyGeneric { fs := leafFS i, fsId := idb, path := s }
        { fs := leafFS j, fsId := idd, path := d }) := by
  unfold VPath.copyGeneric
  refine SimM.bind_eq (SimM.withPath_lr_true _ _ (leaf_openFile hR hi hs)) fun r => ?_
  refine SimM.bind (createFile_shift_v hR hj hd idc idd) fun w1 w2 hw => ?_
  unfold VPath.ioCopyAndDrop
  refine SimM.bind_eq (SimM.withPath_lr_true (PR := PTrue) _ _
    (SimM.ret_refl (fun _ => rfl) _)) fun bytes => ?_
  refine SimM.bind ((simHandles_sub hR).write w1 w2 bytes hw) fun r1 r2 hr => ?_
  obtain ⟨n1, h1'⟩ := r1
  obtain ⟨n2, h2'⟩ := r2
  exact (simHandles_sub hR).drop _ _ hr.2

end copyShift

section altrootCopy
variable {spec : Nat → Role} {R : World → World → Prop} (hR : SubRel spec R) {i : Nat} {P : Str}
  (hi : spec i = .sub P) (hP : Canon P)
include hR hi hP

/-- The `copy_file` field of `SimFS`. `AltrootFS::copy_file` calls `VfsPath::copy_file` of the
underlying filesystem; `MemoryFS` has no `copy_file` (`NotSupported`), so on both sides the read/write
route runs, on the left inside the altroot's method. Its answer is final because over a memory leaf
that route never fails with `NotSupported` (`C02.VPath.copyGeneric_ns`, Proofs/Tame.lean). -/
theorem altroot_copyFileV (id id' : Nat) {s d : Str} (hs : Canon s) (hd : Canon d) :
    SimM R PRdrop (· = ·)
      (VPath.copyFile (C07.apath i id P id' s) (C07.apath i id P id' d))
      (VPath.copyFile (C07.spath i id' s) (C07.spath i id' d)) := by
  intro w1 w2 hr
  obtain ⟨m1, h1, h2, hinv⟩ := (hR.rsub hr).leafAt hi
  have hcs : (sub P m1).contains d = m1.contains (P ++ d) := contains_sub P m1 d hd.rooted
  have hex1 : VPath.exists_ (C07.apath i id P id' d) w1 = (.ok (m1.contains (P ++ d)), w1) :=
    run_exists_altroot h1 (Altroot.path_canon _ d hP hd)
  have hex2 : VPath.exists_ { fs := leafFS i, fsId := id', path := d } w2 =
      (.ok (m1.contains (P ++ d)), w2) := hcs ▸ run_exists h2 d
  cases hc : m1.contains (P ++ d) with
  | true =>
    rw [hc] at hex1 hex2
    rw [VPath.copyFile_eq, VPath.copyFile_eq, VPath.guarded_refused _ _ _ _ w1 hex1,
      VPath.guarded_refused _ _ _ _ w2 hex2]
    exact ⟨.err (Or.inl rfl), hr⟩
  | false =>
    rw [hc] at hex1
    have hdn : d ≠ [] := by
      rintro rfl
      obtain ⟨e, he, _⟩ := hinv.1
      rw [hc] at hcs
      rw [contains_of_find he] at hcs
      cases hcs
    -- the altroot's `copy_file` runs the read/write route at the shifted paths
    have hA : (C07.apath i id P id' s).fs.copyFile s d w1 =
        M.withPath (P ++ s) (VPath.copyGeneric { fs := leafFS i, fsId := id, path := P ++ s }
          { fs := leafFS i, fsId := id, path := P ++ d }) w1 := by
      rw [C07.altroot_exact_copyFile _ s hP hs d hd hdn]
      exact run_copy_mem h1 id (P ++ s) (P ++ d) hc
    have hK : C02.NoNS (M.withPath (P ++ s)
        (VPath.copyGeneric { fs := leafFS i, fsId := id, path := P ++ s }
          { fs := leafFS i, fsId := id, path := P ++ d })) :=
      .of_sat (.withPath _ (C02.VPath.copyGeneric_ns (C02.leaf_tame i) (C02.leaf_tame i)).sat)
    rw [run_copy_mem h2 id' s d (by rw [hcs, hc]), VPath.copyFile_eq,
      VPath.guarded_run _ _ _ _ w1 hex1,
      M.withPath_congr s (VPath.fastOr_final rfl fun p h => hK w1 p (hA ▸ h)),
      M.withPath_congr s hA]
    exact SimM.withPath_any s
      (SimM.withPath_left_true (P ++ s) (sim_copyGeneric_shift hR hi hi hs hd id id id' id')) w1 w2 hr

/-- **C07, filesystem level.** `AltrootFS` rooted at the directory `P` of memory leaf `i`, on the
left world, versus the bare `MemoryFS` on the right world whose leaf `i` holds the sub-map below `P`. -/
theorem altroot_sim_leaf (id : Nat) :
    SimFS R PRdrop (HSub spec)
      (Altroot.fs { fs := leafFS i, fsId := id, path := P }) (leafFS i) where
  base := altroot_sim_leaf0 hR hi hP id
  copyFileV id' _ _ hs hd := altroot_copyFileV hR hi hP id id' hs hd

end altrootCopy
end Vfs

/-! ## the frame: a write below `P` moves nothing outside `P` -/

namespace Vfs.Frm
open Vfs

def Outside (i : Nat) (P : Str) (m0 : FMap) (w : World) : Prop :=
  ∃ l, w.leaf? i = some l ∧ l.kind = .mem ∧
    ∀ k, stripP P k = none → l.files.find? k = m0.find? k

section outside
variable {i : Nat} {P : Str} {m0 : FMap}

theorem Outside.init {w : World} {m : FMap} (h : MemLeafAt w i m) : Outside i P m w :=
  ⟨_, h, rfl, fun _ _ => rfl⟩

theorem Outside.leafAt {w : World} (h : Outside i P m0 w) :
    ∃ m', MemLeafAt w i m' ∧ ∀ k, stripP P k = none → m'.find? k = m0.find? k := by
  obtain ⟨l, h1, h2, h3⟩ := h
  refine ⟨l.files, ?_, h3⟩
  unfold MemLeafAt
  rw [h1]
  cases l with
  | mk kind files => simp at h2; subst h2; rfl

theorem Outside.set {w : World} (hw : Outside i P m0 w) (j : Nat) (f' : FMap)
    (hf : j = i → ∀ l, w.leaf? i = some l → ∀ k, stripP P k = none →
      f'.find? k = l.files.find? k) :
    Outside i P m0 (w.setLeafFiles j f') := by
  obtain ⟨l, h1, h2, h3⟩ := hw
  by_cases hj : j = i
  · subst hj
    refine ⟨{ l with files := f' }, World.setLeafFiles_same w j l f' h1, h2, fun k hk => ?_⟩
    show f'.find? k = _
    rw [hf rfl l h1 k hk]; exact h3 k hk
  · exact ⟨l, by rw [World.leaf?_setLeafFiles_ne w j i f' hj]; exact h1, h2, h3⟩

/-- a write at `P' ++ q` of leaf `j` (re-rooted at `P'`) moves no key that `stripP P` rejects -/
theorem Outside.step {w : World} (hw : Outside i P m0 w) {j : Nat} {P' : Str} {m1 : FMap} {q : Str}
    {m1' : FMap} (hP : j = i → P' = P) (h1 : MemLeafAt w j m1) (hq : Rooted q)
    (ht : Touch (P' ++ q) m1 m1') : Outside i P m0 (w.setLeafFiles j m1') :=
  hw.set j m1' fun hj l hl k hk => by
    subst hj
    cases hP rfl
    cases h1.symm.trans hl
    exact ht k (stripP_ne_of_none hk hq)

end outside

theorem Outside.ignores {i j : Nat} {P : Str} {m0 : FMap} (hij : j ≠ i) :
    IgnoresLeaf (Outside i P m0) j :=
  fun _ f hw => hw.set j f (fun h0 => absurd h0 hij)

section
variable {spec : Nat → Role}

theorem sub_inj {i : Nat} {P P' : Str} (hi : spec i = .sub P) (hj : spec i = .sub P') : P' = P := by
  rw [hi] at hj; injection hj with h; exact h.symm

/-- one re-rooted leaf -/
theorem subRel_outside {i : Nat} {P : Str} (hi : spec i = .sub P) (m0 : FMap) :
    SubRel spec (fun a b => RSub spec a b ∧ Outside i P m0 a) :=
  (subRel_rsub spec).and (fun hj h1 hq ht hw => hw.step (fun e => sub_inj hi (e ▸ hj)) h1 hq ht)
    (fun f hj hw => hw.set _ f fun e => by rw [e, hi] at hj; cases hj)

end

end Vfs.Frm
