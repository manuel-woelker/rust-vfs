/-
  The observers of an overlay over n ≥ 1 in-memory layers on the WORLD, by the overlay's view:
  `read_dir`, `metadata`, `open_file`, `exists` at the root and at disciplined paths (`OpPath`),
  under `OWN` and `OInv` (`ViewWF` where said). The statements of Props/C05Overlay.lean for one
  state; the history theorem, the examples and the audit are there. In front (namespace `Vfs.C03`):
  what `ViewWF` says spelled out, `viewWF_no_orphan` and `viewWF_ancestors`.
-/
import VfsModel.Proofs.OverlayContractLemmas
import VfsModel.Props.C09N
namespace Vfs.C03
open Vfs Vfs.Overlay Vfs.C09

/-! ### what `ViewWF` says -/

/-- **no orphan in the view**: a present canonical path outside ".whiteout" has a directory
parent in the view (the root for a top-level name) -/
theorem viewWF_no_orphan {v : View} (hv : ViewWF v) {cs : List Str} (hne : cs ≠ [])
    (hcs : ∀ c ∈ cs, GoodComp c) (hhead : cs.head? ≠ some woDir) (hpres : v (renderC cs) ≠ none) :
    VIsDir v (parentInternal (renderC cs)) := by
  rcases List.eq_nil_or_concat cs with rfl | ⟨ds, n, rfl⟩
  · exact absurd rfl hne
  · rw [List.concat_eq_append] at hcs hhead hpres ⊢
    obtain ⟨hds, hn⟩ := good_of_snoc hcs
    rw [parent_snoc ds n hds hn]
    exact hv.below_dir [n] (by simp) hcs hhead hpres

/-- … and every proper ancestor is a directory of the view -/
theorem viewWF_ancestors {v : View} (hv : ViewWF v) {cs : List Str}
    (hcs : ∀ c ∈ cs, GoodComp c) (hhead : cs.head? ≠ some woDir) (hpres : v (renderC cs) ≠ none)
    (j : Nat) (hj : j < cs.length) : VIsDir v (renderC (cs.take j)) := by
  have hdrop : cs.drop j ≠ [] := by
    intro h0
    have := congrArg List.length h0
    rw [List.length_drop, List.length_nil] at this; omega
  exact hv.below_dir (cs := cs.take j) (cs.drop j) hdrop
    (by rw [List.take_append_drop]; exact hcs) (by rw [List.take_append_drop]; exact hhead)
    (by rw [List.take_append_drop]; exact hpres)

end Vfs.C03

namespace Vfs.C05
open Vfs Vfs.Overlay Vfs.C09

section settingN
variable {w : World} {u idu : Nat} {mu : FMap} {is ids : List Nat} {ms : List FMap}
  (h : OWN w (u :: is) (idu :: ids) (mu :: ms)) (inv : OInv mu ms)
include h inv

/-- `read_dir` through the overlay, by the view's entry at the path (root included) -/
theorem overlay_readDir_spec (cs : List Str) (hcs : ∀ c ∈ cs, GoodComp c)
    (hnw : ∀ c ∈ cs, NoWo c) :
    (Overlay.fs (layersN (u :: is) (idu :: ids))).readDir (renderC cs) w =
      (match oview (mu :: ms) (renderC cs) with
       | none => .err .fileNotFound none
       | some e => if e.ftype = .dir then .ok (pListingN (mu :: ms) (renderC cs))
                   else .err .other none, w) := by
  show Overlay.readDir _ _ w = _
  rw [run_oreadDirN h cs hcs (inv.hwo hcs hnw)]
  rfl

set_option linter.unusedSectionVars false in
/-- membership in the listing the overlay computes -/
theorem mem_listing (cs : List Str) (n : Str) :
    n ∈ pListingN (mu :: ms) (renderC cs) ↔
      ('/' ∉ n ∧ (viewN (mu :: ms) (renderC cs ++ '/' :: n)).isSome = true ∧
        (renderC cs = [] → n ≠ woDir)) :=
  inv.mem_listing _ n

/-- **it is a directory iff it can be listed** (non-root path) — read off the view, off
`metadata`, and off `read_dir` -/
theorem overlay_isDir_iff_listable {cs : List Str} (hp : OpPath cs) :
    (VIsDir (oview (mu :: ms)) (renderC cs) ↔
      ((Overlay.fs (layersN (u :: is) (idu :: ids))).readDir (renderC cs) w).1.isOk = true) ∧
    ((∃ md, ((Overlay.fs (layersN (u :: is) (idu :: ids))).metadata (renderC cs) w).1 = .ok md ∧
        md.ftype = .dir) ↔
      ((Overlay.fs (layersN (u :: is) (idu :: ids))).readDir (renderC cs) w).1.isOk = true) := by
  rw [overlay_readDir_spec h inv cs hp.good hp.nowo, metadata_is_viewN h cs hp.ne hp.good]
  have hov : oview (mu :: ms) (renderC cs) = viewN (mu :: ms) (renderC cs) :=
    oview_ne (renderC_ne_nil hp.ne)
  unfold VIsDir
  rw [hov]
  cases hvw : viewN (mu :: ms) (renderC cs) with
  | none => simp [Res.isOk]
  | some e =>
    by_cases hd : e.ftype = .dir
    · simp [hd, Res.isOk, Entry.meta]
    · simp [hd, Res.isOk, Entry.meta]

/-- the root can always be listed, and `".whiteout"` is never among the names -/
theorem overlay_root_listable :
    ∃ lst, (Overlay.fs (layersN (u :: is) (idu :: ids))).readDir [] w = (.ok lst, w) ∧
      lst.Nodup ∧ woDir ∉ lst := by
  have := overlay_readDir_spec h inv [] (by simp) (by simp)
  obtain ⟨e, he, hd⟩ := rootIsDir (ms := ms) inv.root
  simp only [renderC_nil] at this
  rw [he] at this
  simp only [hd, if_true] at this
  exact ⟨_, this, nodup_pListingN _ _, woDir_not_listedN _⟩

set_option linter.unusedSectionVars false in
/-- **it is a file iff it can be opened for reading** — read off the view, off `metadata`, and
off `open_file` -/
theorem overlay_isFile_iff_readable {cs : List Str} (hne : cs ≠ []) (hcs : ∀ c ∈ cs, GoodComp c) :
    (VIsFile (oview (mu :: ms)) (renderC cs) ↔
      ((Overlay.fs (layersN (u :: is) (idu :: ids))).openFile (renderC cs) w).1.isOk = true) ∧
    ((∃ md, ((Overlay.fs (layersN (u :: is) (idu :: ids))).metadata (renderC cs) w).1 = .ok md ∧
        md.ftype = .file) ↔
      ((Overlay.fs (layersN (u :: is) (idu :: ids))).openFile (renderC cs) w).1.isOk = true) := by
  rw [metadata_is_viewN h cs hne hcs]
  have hov : oview (mu :: ms) (renderC cs) = viewN (mu :: ms) (renderC cs) :=
    oview_ne (renderC_ne_nil hne)
  unfold VIsFile
  rw [hov]
  cases hvw : viewN (mu :: ms) (renderC cs) with
  | none => rw [openFile_absentN h cs hne hcs hvw]; simp [Res.isOk]
  | some e =>
    cases hd : e.ftype with
    | dir =>
      rw [openFile_dirN h cs hne hcs e hvw hd]
      simp [hd, Res.isOk, Entry.meta]
    | file =>
      obtain ⟨k, i, m, w', _, _, _, hopen, _, _⟩ := openFile_serves_viewN h cs hne hcs e hvw hd
      rw [hopen]
      simp [hd, Res.isOk, Entry.meta]

omit inv in
/-- the handle holds exactly the bytes of the view, at position 0; the world afterwards is again
in the setting (only an access stamp in the serving layer changed) -/
theorem overlay_read_returns_content {cs : List Str} (hne : cs ≠ []) (hcs : ∀ c ∈ cs, GoodComp c)
    {bs : Bytes} (hf : VHasFile (oview (mu :: ms)) (renderC cs) bs) :
    ∃ w' all', (Overlay.fs (layersN (u :: is) (idu :: ids))).openFile (renderC cs) w
        = (.ok { content := bs, pos := 0 }, w') ∧
      OWN w' (u :: is) (idu :: ids) all' := by
  obtain ⟨e, he, hfile, hc⟩ := hf
  rw [oview_ne (renderC_ne_nil hne)] at he
  obtain ⟨k, i, m, w', _, _, _, hopen, _, hown⟩ := openFile_serves_viewN h cs hne hcs e he hfile
  exact ⟨w', _, by rw [hopen, hc], hown⟩

omit inv in
/-- **metadata succeeds iff the path exists** -/
theorem overlay_metadata_iff_exists {cs : List Str} (hne : cs ≠ []) (hcs : ∀ c ∈ cs, GoodComp c) :
    ((Overlay.fs (layersN (u :: is) (idu :: ids))).metadata (renderC cs) w).1.isOk = true ↔
      ((Overlay.fs (layersN (u :: is) (idu :: ids))).exists_ (renderC cs) w).1 = .ok true := by
  rw [metadata_is_viewN h cs hne hcs, exists_is_viewN h cs hne hcs]
  cases viewN (mu :: ms) (renderC cs) <;> simp [Res.isOk]

omit inv in
/-- … and reports the entry of the view (type, length, times) -/
theorem overlay_metadata_reports {cs : List Str} (hne : cs ≠ []) (hcs : ∀ c ∈ cs, GoodComp c)
    {e : Entry} (he : oview (mu :: ms) (renderC cs) = some e) :
    (Overlay.fs (layersN (u :: is) (idu :: ids))).metadata (renderC cs) w = (.ok e.meta, w) := by
  rw [oview_ne (renderC_ne_nil hne)] at he
  rw [metadata_is_viewN h cs hne hcs, he]

/-- **absent paths fail every observer with not-found**, and nothing changes -/
theorem overlay_absent_all_fail {cs : List Str} (hp : OpPath cs)
    (ha : oview (mu :: ms) (renderC cs) = none) :
    (Overlay.fs (layersN (u :: is) (idu :: ids))).exists_ (renderC cs) w = (.ok false, w) ∧
    (Overlay.fs (layersN (u :: is) (idu :: ids))).metadata (renderC cs) w
      = (.err .fileNotFound none, w) ∧
    (Overlay.fs (layersN (u :: is) (idu :: ids))).readDir (renderC cs) w
      = (.err .fileNotFound none, w) ∧
    (Overlay.fs (layersN (u :: is) (idu :: ids))).openFile (renderC cs) w
      = (.err .fileNotFound none, w) := by
  have ha' := ha
  rw [oview_ne (renderC_ne_nil hp.ne)] at ha'
  refine ⟨?_, ?_, ?_, openFile_absentN h cs hp.ne hp.good ha'⟩
  · rw [exists_is_viewN h cs hp.ne hp.good, ha']; rfl
  · rw [metadata_is_viewN h cs hp.ne hp.good, ha']
  · rw [overlay_readDir_spec h inv cs hp.good hp.nowo, ha]

/-- every listed name is a bare name of an entry of the view, listed once -/
theorem overlay_listed_names_bare (cs : List Str) (hcs : ∀ c ∈ cs, GoodComp c)
    (hnw : ∀ c ∈ cs, NoWo c) (lst : List Str) (w' : World)
    (hl : (Overlay.fs (layersN (u :: is) (idu :: ids))).readDir (renderC cs) w = (.ok lst, w')) :
    w' = w ∧ lst.Nodup ∧ ∀ n ∈ lst, '/' ∉ n ∧ oview (mu :: ms) (renderC cs ++ '/' :: n) ≠ none := by
  rw [overlay_readDir_spec h inv cs hcs hnw] at hl
  cases hvw : oview (mu :: ms) (renderC cs) with
  | none => rw [hvw] at hl; simp at hl
  | some e =>
    rw [hvw] at hl
    by_cases hd : e.ftype = .dir
    · simp only [hd, if_true, Prod.mk.injEq, Res.ok.injEq] at hl
      obtain ⟨hl1, hl2⟩ := hl
      subst hl1
      refine ⟨hl2.symm, nodup_pListingN _ _, fun n hn => ?_⟩
      obtain ⟨hns, hsome, _⟩ := (mem_listing h inv cs n).1 hn
      refine ⟨hns, ?_⟩
      rw [oview_ne (by simp)]
      intro h0; rw [h0] at hsome; cases hsome
    · simp [hd] at hl

/-- **a path exists iff its parent lists its name — exactly once.** For a disciplined path
`ds/n`: `exists` answers true iff `read_dir` of the parent succeeds with a listing in which `n`
occurs exactly once; and no listing of the parent contains any name twice. -/
theorem overlay_exists_iff_listed_once (hv : ViewWF (oview (mu :: ms))) {ds : List Str} {n : Str}
    (hp : OpPath (ds ++ [n])) :
    (((Overlay.fs (layersN (u :: is) (idu :: ids))).exists_ (renderC (ds ++ [n])) w).1 = .ok true ↔
      ∃ lst, (Overlay.fs (layersN (u :: is) (idu :: ids))).readDir (renderC ds) w = (.ok lst, w) ∧
        lst.count n = 1) ∧
    (∀ lst w', (Overlay.fs (layersN (u :: is) (idu :: ids))).readDir (renderC ds) w = (.ok lst, w') →
      lst.Nodup ∧ lst.count n ≤ 1) := by
  have hspec := overlay_readDir_spec h inv ds hp.hds hp.nwds
  have hroot : renderC ds = [] → n ≠ woDir := by
    intro h0 hn
    have hd : ds = [] := by
      cases ds with
      | nil => rfl
      | cons d ds => simp at h0
    subst hd hn
    exact hp.head rfl
  have hmem : n ∈ pListingN (mu :: ms) (renderC ds) ↔
      (viewN (mu :: ms) (renderC (ds ++ [n]))).isSome = true := by
    rw [mem_listing h inv ds n, renderC_snoc]
    exact ⟨fun h1 => h1.2.1, fun h1 => ⟨hp.hn.noSlash, h1, hroot⟩⟩
  have hnd : ∀ lst w', (Overlay.fs (layersN (u :: is) (idu :: ids))).readDir (renderC ds) w
      = (.ok lst, w') → lst = pListingN (mu :: ms) (renderC ds) ∧ w' = w := by
    intro lst w' hl
    rw [hspec] at hl
    cases hvw : oview (mu :: ms) (renderC ds) with
    | none => rw [hvw] at hl; simp at hl
    | some e =>
      rw [hvw] at hl
      by_cases hd : e.ftype = .dir
      · simp only [hd, if_true, Prod.mk.injEq, Res.ok.injEq] at hl
        exact ⟨hl.1.symm, hl.2.symm⟩
      · simp [hd] at hl
  refine ⟨?_, ?_⟩
  · rw [exists_is_viewN h _ hp.ne hp.good]
    constructor
    · intro hex
      have hsome : (viewN (mu :: ms) (renderC (ds ++ [n]))).isSome = true := by
        simpa using hex
      have hpres : oview (mu :: ms) (renderC (ds ++ [n])) ≠ none := by
        rw [oview_NR hp.nr]; intro h0; rw [h0] at hsome; cases hsome
      have hpar := C03.viewWF_no_orphan hv hp.ne hp.good hp.head hpres
      rw [hp.parent] at hpar
      obtain ⟨e, he, hd⟩ := hpar
      refine ⟨pListingN (mu :: ms) (renderC ds), ?_, ?_⟩
      · rw [hspec, he]; simp only [hd, if_true]
      · rw [List.Nodup.count (nodup_pListingN _ _), if_pos (hmem.2 hsome)]
    · rintro ⟨lst, hl, hc⟩
      obtain ⟨rfl, _⟩ := hnd lst w hl
      have : n ∈ pListingN (mu :: ms) (renderC ds) := List.count_pos_iff.1 (by omega)
      rw [hmem.1 this]
  · intro lst w' hl
    obtain ⟨rfl, _⟩ := hnd lst w' hl
    have hnodup := nodup_pListingN (mu :: ms) (renderC ds)
    refine ⟨hnodup, ?_⟩
    rw [List.Nodup.count hnodup]
    split <;> omega

end settingN

end Vfs.C05
