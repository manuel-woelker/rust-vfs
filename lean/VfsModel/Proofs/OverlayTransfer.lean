/-
  `copy_file` / `move_file` within one overlay over n in-memory layers: the end results
  `C11.overlay_copyFile_exact` / `overlay_moveFile_exact` (audited and exercised in
  Props/C11Overlay.lean) and what is behind them. The overlay's own
  `copy_file` / `move_file` answer NotSupported, so `VfsPath` takes the generic route: `exists` of
  the destination, `open_file`, `create_file`, copy, drop (and `remove_file` of the source for a
  move). Each of these is a step lemma on `OSt` states; `VPath.copyFile_of_calls` and
  `VPath.moveFile_of_calls` (Proofs/Routes.lean)
  evaluate the `VfsPath` code along them. `open_file` stamps an access time in the serving layer:
  `OInv`, the view (`VSame`) and `NamesOK` are insensitive to such stamps (`MapSame`, `LowerSame`).

  Last section, for `copy_dir` / `move_dir` with an overlay as the SOURCE (Props/C11OverlaySource.lean:
  into a memory leaf; Props/C11OverlayWithin.lean: into the same overlay): `SrcSt` (the layers are
  the original ones up to access stamps), a key of the disciplined view below the source read as
  components (`below_src`), its parent has been copied before it
  (`parent_copied`; `dst_parent_dir`: so the parent of the destination key is a directory),
  different relative parts give different destination keys (`ne_of_ts`), and
  `mapSame_trans`, `ft_of_vcore`, `vis_of_ovis`. What both instances of the loop of
  Proofs/CopyLoop.lean hand to it: the overlay's observers answer as any tree with the types of its
  visible view (`overlay_seesOn`), the relative part of a shown key joins onto the destination
  unchanged (`join_below_src`), a shown key below the source is a disciplined path
  (`opPath_of_shown`).
-/
import VfsModel.Proofs.OverlayCompositeLemmas
import VfsModel.Proofs.Routes
import VfsModel.Proofs.CopyLoop
namespace Vfs.C11
open Vfs Vfs.Overlay Vfs.C02 Vfs.C01 Vfs.C09 Vfs.C05

/-- the same map up to access times -/
def MapSame (m m' : FMap) : Prop := ∀ q, (m'.find? q).map stripAcc = (m.find? q).map stripAcc

theorem MapSame.refl (m : FMap) : MapSame m m := fun _ => rfl

theorem MapSame.contains {m m' : FMap} (h : MapSame m m') (k : Str) :
    m'.contains k = m.contains k := contains_of_stripAcc h k

theorem lowerSame_cons_inv {a : FMap} {as l : List FMap} (h : LowerSame (a :: as) l) :
    ∃ b bs, l = b :: bs ∧ MapSame a b ∧ LowerSame as bs := by
  cases h with
  | cons h1 h2 => exact ⟨_, _, rfl, h1, h2⟩

theorem _root_.Vfs.C09.OInv.mapSame {mu mu1 : FMap} {ms ms1 : List FMap} (inv : OInv mu ms)
    (hm : MapSame mu mu1) (hl : LowerSame ms ms1) : OInv mu1 ms1 :=
  inv.lowerSame_all (.cons hm hl)

theorem oview_mapSame {mu mu1 : FMap} {ms ms1 : List FMap} (hm : MapSame mu mu1)
    (hl : LowerSame ms ms1) : VSame (oview (mu :: ms)) (oview (mu1 :: ms1)) :=
  oview_lowerSame_all (.cons hm hl)

theorem namesOK_of_presence {all all' : List FMap}
    (h : ∀ q, Vis q → oview all' q ≠ none → oview all q ≠ none) (hn : NamesOK all) :
    NamesOK all' := by
  intro ds n hds hs hpres hroot
  have hnr := child_NR hds hs hroot
  have hq0 : renderC ds ++ '/' :: n ≠ [] := by simp
  apply hn ds n hds hs _ hroot
  rw [← oview_ne hq0] at hpres ⊢
  exact h _ (Or.inr hnr) hpres

theorem namesOK_of_vsame {all all' : List FMap} (hs : VSame (oview all) (oview all'))
    (hn : NamesOK all) : NamesOK all' :=
  namesOK_of_presence (fun q hq hp h0 => hp ((none_of_vcore (hs q hq)).2 h0)) hn

theorem namesOK_of_frame {all all' : List FMap} {ds : List Str} {n : Str} (hp : OpPath (ds ++ [n]))
    (hf : VFrame (oview all) (oview all') (renderC (ds ++ [n]))) (hn : NamesOK all) :
    NamesOK all' := by
  intro ds' n' hds hs hpres hroot
  have hnr := child_NR hds hs hroot
  have hq0 : renderC ds' ++ '/' :: n' ≠ [] := by simp
  by_cases hq : renderC ds' ++ '/' :: n' = renderC (ds ++ [n])
  · rw [renderC_snoc] at hq
    have := congrArg (afterLast '/') hq
    rw [afterLast_append_delim '/' _ n' hs, afterLast_append_delim '/' _ n hp.hn.noSlash] at this
    rw [this]
    exact ⟨hp.hn, hp.nowo n (by simp)⟩
  · have hiff := none_of_vcore (hf _ (Or.inr hnr) hq)
    rw [oview_ne hq0, oview_ne hq0] at hiff
    exact hn ds' n' hds hs (fun h0 => hpres (hiff.2 h0)) hroot

section steps
variable {u idu : Nat} {is ids : List Nat} {ms : List FMap} {w : World} {mu : FMap}
  (st : OSt u idu is ids ms w mu) (id : Nat)
include st

/-- `open_file` on a file of the view: the serving layer gets an access stamp (`MapSame` for the
upper map, `LowerSame` for the lower ones), so the view is unchanged and the invariants hold again -/
theorem o_openFile_step {cs : List Str} (hp : OpPath cs) {bs : Bytes}
    (hf : VHasFile (oview (mu :: ms)) (renderC cs) bs) :
    ∃ w1 mu1 ms1, VPath.openFile ⟨Overlay.fs (layersN (u :: is) (idu :: ids)), id, renderC cs⟩ w
        = (.ok { content := bs, pos := 0 }, w1) ∧
      OSt u idu is ids ms1 w1 mu1 ∧ MapSame mu mu1 ∧ LowerSame ms ms1 ∧
      VSame (oview (mu :: ms)) (oview (mu1 :: ms1)) ∧
      (NamesOK (mu :: ms) → NamesOK (mu1 :: ms1)) := by
  obtain ⟨e, he, hfile, hc⟩ := hf
  rw [oview_ne (renderC_ne_nil hp.ne)] at he
  obtain ⟨k, i, m, w1, hfa, _, hme, hopen, _, hown⟩ :=
    openFile_serves_viewN st.own cs hp.ne hp.good e he hfile
  have hls := LowerSame.set hfa.get (C04.insert_touch_same m (renderC cs) e hme)
  obtain ⟨mu1, ms1, hl, hm1, hl1⟩ := lowerSame_cons_inv hls
  rw [hl] at hown
  have hs := oview_mapSame hm1 hl1
  refine ⟨w1, mu1, ms1, ?_, ⟨hown, st.inv.mapSame hm1 hl1, st.vwf.same hs⟩, hm1, hl1, hs,
    namesOK_of_vsame hs⟩
  rw [← hc]
  exact VPath.openFile_of_call (p := ⟨_, id, _⟩) hopen

/-- `VfsPath::create_file` (parent probe, then the trait call): an empty file is at the path, in the
upper map and in the view, and the handle writes to the upper leaf -/
theorem o_createFile_step {ds : List Str} {n : Str} (hp : OpPath (ds ++ [n]))
    (hd : VIsDir (oview (mu :: ms)) (renderC ds))
    (hnd : ¬ VIsDir (oview (mu :: ms)) (renderC (ds ++ [n]))) :
    ∃ mu2, VPath.createFile
        ⟨Overlay.fs (layersN (u :: is) (idu :: ids)), id, renderC (ds ++ [n])⟩ w
        = (.ok { leaf := u, key := renderC (ds ++ [n]), kind := .memFile, buf := [], pos := 0 },
            w.setLeafFiles u mu2) ∧
      OSt u idu is ids ms (w.setLeafFiles u mu2) mu2 ∧
      (NamesOK (mu :: ms) → NamesOK (mu2 :: ms)) ∧
      mu2.find? (renderC (ds ++ [n])) = some fileEntryNow ∧
      oview (mu2 :: ms) (renderC (ds ++ [n])) = some fileEntryNow ∧
      VFrame (oview (mu :: ms)) (oview (mu2 :: ms)) (renderC (ds ++ [n])) := by
  have hg := run_getParent_overlay st.own st.inv hp id
  rw [if_pos ((pIsDirN_iff _ _).2 hd)] at hg
  obtain ⟨mu2, hpure, hfind, inv2, hself, hframe⟩ := pCreateFileN_ok st.inv st.vwf hp hd hnd
  have hv2 : ViewWF (oview (mu2 :: ms)) :=
    st.vwf.step hp (.write (renderC (ds ++ [n])) []) rfl ⟨by rw [hp.parent]; exact hd, hnd⟩
      ⟨⟨fileEntryNow, hself, rfl, rfl⟩, hframe⟩
  refine ⟨mu2, ?_, ⟨st.own.setHead mu2, inv2, hv2⟩, namesOK_of_frame hp hframe, hfind, hself,
    hframe⟩
  have hrun := run_ocreateFileN st.own _ hp.ne hp.good
  rw [hpure] at hrun
  exact VPath.createFile_of_calls (p := ⟨_, id, _⟩) hg hrun

theorem o_publish_step {ds : List Str} {n : Str} (hp : OpPath (ds ++ [n])) {e0 : Entry}
    (h0 : mu.find? (renderC (ds ++ [n])) = some e0) (hf0 : e0.ftype = .file) (buf : Bytes)
    (pos : Nat) :
    ∃ mu3, WHandle.drop
        { leaf := u, key := renderC (ds ++ [n]), kind := .memFile, buf := buf, pos := pos } w
        = (.ok (), w.setLeafFiles u mu3) ∧
      OSt u idu is ids ms (w.setLeafFiles u mu3) mu3 ∧
      (NamesOK (mu :: ms) → NamesOK (mu3 :: ms)) ∧
      VHasFile (oview (mu3 :: ms)) (renderC (ds ++ [n])) buf ∧
      VFrame (oview (mu :: ms)) (oview (mu3 :: ms)) (renderC (ds ++ [n])) := by
  obtain ⟨e3, hf3, hc3, inv3, _, hself, hfr⟩ := publish_spec st.inv hp h0 hf0 buf
  have hfile : VIsFile (oview (mu :: ms)) (renderC (ds ++ [n])) :=
    ⟨e0, by rw [oview_NR hp.nr]; exact upper_is_view st.inv hp h0, hf0⟩
  have hpar : VIsDir (oview (mu :: ms)) (renderC ds) := by
    have := C03.viewWF_no_orphan st.vwf hp.ne hp.good hp.head (not_absent_of_file hfile)
    rwa [hp.parent] at this
  have hframe := exact_frame hfr
  have hv3 : ViewWF (oview (memPublish mu (renderC (ds ++ [n])) buf :: ms)) :=
    st.vwf.step hp (.write (renderC (ds ++ [n])) buf) rfl
      ⟨by rw [hp.parent]; exact hpar, fun hd => not_file_and_dir hfile hd⟩
      ⟨⟨e3, hself, hf3, hc3⟩, hframe⟩
  refine ⟨memPublish mu (renderC (ds ++ [n])) buf, ?_, ⟨st.own.setHead _, inv3, hv3⟩,
    namesOK_of_frame hp hframe, ⟨e3, hself, hf3, hc3⟩, hframe⟩
  exact run_dropMem st.own.hu _ _ _

/-- `o_removeFile_step` with, in addition, the frame of the upper map: every key it held, other than
the path and its marker, keeps its entry -/
theorem o_removeFile_step' {cs : List Str} (hp : OpPath cs)
    (hf : VIsFile (oview (mu :: ms)) (renderC cs)) :
    ∃ mu', VPath.removeFile ⟨Overlay.fs (layersN (u :: is) (idu :: ids)), id, renderC cs⟩ w
        = (.ok (), w.setLeafFiles u mu') ∧
      OSt u idu is ids ms (w.setLeafFiles u mu') mu' ∧
      (NamesOK (mu :: ms) → NamesOK (mu' :: ms)) ∧
      VAbsent (oview (mu' :: ms)) (renderC cs) ∧
      VFrame (oview (mu :: ms)) (oview (mu' :: ms)) (renderC cs) ∧
      (∀ k, k ≠ renderC cs → k ≠ marker (renderC cs) → mu.contains k = true →
        mu'.find? k = mu.find? k) := by
  obtain ⟨mu', hrun, st', hn', habs, hframe⟩ := o_removeFile_step st id hp hf
  refine ⟨mu', hrun, st', hn', habs, hframe, ?_⟩
  have hrun2 : VPath.removeFile
      ⟨Overlay.fs (layersN (u :: is) (idu :: ids)), id, renderC cs⟩ w
      = ((pRemoveFileN mu ms cs).1.withPath (renderC cs),
          w.setLeafFiles u (pRemoveFileN mu ms cs).2) :=
    VPath.removeFile_of_call (p := ⟨_, id, _⟩) (run_oremoveFileN st.own cs hp.ne hp.good)
  rw [hrun] at hrun2
  have hw : w.setLeafFiles u mu' = w.setLeafFiles u (pRemoveFileN mu ms cs).2 :=
    congrArg Prod.snd hrun2
  have h1 := st'.own.hu
  have h2 := (st.own.setHead (pRemoveFileN mu ms cs).2).hu
  rw [← hw] at h2
  have hmu : mu' = (pRemoveFileN mu ms cs).2 := h1.unique h2
  have hpure : pRemoveFileN mu ms cs = (.ok (), mu') :=
    Prod.ext (Res.withPath_ok _ _ _ (congrArg Prod.fst hrun2).symm) hmu.symm
  exact (C10.onlyMarkerAdded_removeFile hp.good hpure).1

end steps

/-- the overlay has none of the three shortcuts: the generic routes run, whatever the `Arc`
identities -/
theorem overlay_noFast (layers : List VPath) (s d : Str) (w : World) :
    (∃ p, (Overlay.fs layers).copyFile s d w = (.err .notSupported p, w)) ∧
    (∃ p, (Overlay.fs layers).moveFile s d w = (.err .notSupported p, w)) ∧
    (∃ p, (Overlay.fs layers).moveDir s d w = (.err .notSupported p, w)) :=
  ⟨⟨none, rfl⟩, ⟨none, rfl⟩, ⟨none, rfl⟩⟩

theorem overlay_fast_moveDir (layers : List VPath) (a b : Nat) (s d : Str) (w : World) :
    (if a = b then M.attempt ((Overlay.fs layers).moveDir s d)
      else (pure (Res.err .notSupported none) : M (Res Unit))) w
      = (.ok (Res.err .notSupported none), w) := by
  split <;> rfl

section transfer
variable {w : World} {u idu : Nat} {mu : FMap} {is ids : List Nat} {ms : List FMap}
  (h : OWN w (u :: is) (idu :: ids) (mu :: ms)) (inv : OInv mu ms)
  (hv : ViewWF (oview (mu :: ms))) (id id' : Nat)
include h inv hv

/-- **copy_file within one overlay** (any `Arc` identities of the two paths; the generic route
runs because the overlay's `copy_file` answers NotSupported): source a file of the view holding
`bs`, destination absent below a directory of the view ⇒ Ok; the destination is a file of the
view holding exactly `bs`; the source still holds `bs`; every visible path other than the
destination keeps its type and bytes; the lower maps are unchanged up to the access stamp of the
source (`LowerSame`, from `open_file`); the invariants hold again. -/
theorem overlay_copyFile_exact {ss dd : List Str} {n : Str} (hs : OpPath ss)
    (hd : OpPath (dd ++ [n])) {bs : Bytes}
    (hsrc : VHasFile (oview (mu :: ms)) (renderC ss) bs)
    (hpar : VIsDir (oview (mu :: ms)) (renderC dd))
    (habs : VAbsent (oview (mu :: ms)) (renderC (dd ++ [n]))) :
    ∃ w' mu' ms', VPath.copyFile ⟨Overlay.fs (layersN (u :: is) (idu :: ids)), id, renderC ss⟩
        ⟨Overlay.fs (layersN (u :: is) (idu :: ids)), id', renderC (dd ++ [n])⟩ w = (.ok (), w') ∧
      OWN w' (u :: is) (idu :: ids) (mu' :: ms') ∧ LowerSame ms ms' ∧ OInv mu' ms' ∧
      ViewWF (oview (mu' :: ms')) ∧ (NamesOK (mu :: ms) → NamesOK (mu' :: ms')) ∧
      VHasFile (oview (mu' :: ms')) (renderC (dd ++ [n])) bs ∧
      VHasFile (oview (mu' :: ms')) (renderC ss) bs ∧
      VFrame (oview (mu :: ms)) (oview (mu' :: ms')) (renderC (dd ++ [n])) := by
  have st : OSt u idu is ids ms w mu := ⟨h, inv, hv⟩
  have hex := o_exists st id' hd
  rw [show oview (mu :: ms) (renderC (dd ++ [n])) = none from habs] at hex
  obtain ⟨w1, mu1, ms1, hopen, st1, hm1, hl1, hs1, hn1⟩ := o_openFile_step st id hs hsrc
  have hd1 : VIsDir (oview (mu1 :: ms1)) (renderC dd) := (isDir_of_vcore (hs1 _ hd.parentVis)).2 hpar
  have habs1 : VAbsent (oview (mu1 :: ms1)) (renderC (dd ++ [n])) :=
    (none_of_vcore (hs1 _ hd.vis)).2 habs
  obtain ⟨mu2, hcreate, st2, hn2, hfind2, hview2, hframe2⟩ := o_createFile_step st1 id' hd hd1
    (fun hdd => not_absent_of_dir hdd habs1)
  obtain ⟨mu3, hdrop, st3, hn3, hfile3, hframe3⟩ := o_publish_step st2 hd hfind2 rfl
    (cursorWrite [] 0 bs) (0 + bs.length)
  rw [World.setLeafFiles_twice] at hdrop st3
  rw [cursorWrite_nil] at hfile3
  have hwrite : (VPath.createFile
        ⟨Overlay.fs (layersN (u :: is) (idu :: ids)), id', renderC (dd ++ [n])⟩ >>=
      fun hd => hd.writeAllAndDrop bs) w1 = (.ok (), w1.setLeafFiles u mu3) := by
    simp only [bind, M.bind, hcreate, WHandle.writeAllAndDrop,
      WHandle.write_mem ⟨u, renderC (dd ++ [n]), .memFile, [], 0⟩ rfl]
    exact hdrop
  have hframe : VFrame (oview (mu :: ms)) (oview (mu3 :: ms1)) (renderC (dd ++ [n])) :=
    fun q hq hne => ((hframe3 q hq hne).trans (hframe2 q hq hne)).trans (hs1 q hq)
  have hne : renderC ss ≠ renderC (dd ++ [n]) := by
    intro h0
    obtain ⟨e, he, _⟩ := hsrc
    rw [h0, show oview (mu :: ms) (renderC (dd ++ [n])) = none from habs] at he
    cases he
  exact ⟨_, mu3, ms1,
    VPath.copyFile_of_calls _ _ w w1 _ bs hex (fun _ => (overlay_noFast _ _ _ w).1) hopen hwrite,
    st3.own, hl1, st3.inv, st3.vwf, fun hn => hn3 (hn2 (hn1 hn)), hfile3,
    (hasFile_of_vcore (hframe _ hs.vis hne)).2 hsrc, hframe⟩

/-- **move_file within one overlay**: as `copy_file`, and the source is absent afterwards; every
visible path other than source and destination keeps its type and bytes. (The model follows the
code: the destination handle is still open while the source is removed, and is published
afterwards.) -/
theorem overlay_moveFile_exact {ss dd : List Str} {n : Str} (hs : OpPath ss)
    (hd : OpPath (dd ++ [n])) {bs : Bytes}
    (hsrc : VHasFile (oview (mu :: ms)) (renderC ss) bs)
    (hpar : VIsDir (oview (mu :: ms)) (renderC dd))
    (habs : VAbsent (oview (mu :: ms)) (renderC (dd ++ [n]))) :
    ∃ w' mu' ms', VPath.moveFile ⟨Overlay.fs (layersN (u :: is) (idu :: ids)), id, renderC ss⟩
        ⟨Overlay.fs (layersN (u :: is) (idu :: ids)), id', renderC (dd ++ [n])⟩ w = (.ok (), w') ∧
      OWN w' (u :: is) (idu :: ids) (mu' :: ms') ∧ LowerSame ms ms' ∧ OInv mu' ms' ∧
      ViewWF (oview (mu' :: ms')) ∧ (NamesOK (mu :: ms) → NamesOK (mu' :: ms')) ∧
      VHasFile (oview (mu' :: ms')) (renderC (dd ++ [n])) bs ∧
      VAbsent (oview (mu' :: ms')) (renderC ss) ∧
      (∀ q, Vis q → q ≠ renderC (dd ++ [n]) → q ≠ renderC ss →
        (oview (mu' :: ms') q).map vcore = (oview (mu :: ms) q).map vcore) := by
  have st : OSt u idu is ids ms w mu := ⟨h, inv, hv⟩
  have hex := o_exists st id' hd
  rw [show oview (mu :: ms) (renderC (dd ++ [n])) = none from habs] at hex
  have hne : renderC ss ≠ renderC (dd ++ [n]) := by
    intro h0
    obtain ⟨e, he, _⟩ := hsrc
    rw [h0, show oview (mu :: ms) (renderC (dd ++ [n])) = none from habs] at he
    cases he
  obtain ⟨w1, mu1, ms1, hopen, st1, hm1, hl1, hs1, hn1⟩ := o_openFile_step st id hs hsrc
  have hd1 : VIsDir (oview (mu1 :: ms1)) (renderC dd) := (isDir_of_vcore (hs1 _ hd.parentVis)).2 hpar
  have habs1 : VAbsent (oview (mu1 :: ms1)) (renderC (dd ++ [n])) :=
    (none_of_vcore (hs1 _ hd.vis)).2 habs
  obtain ⟨mu2, hcreate, st2, hn2, hfind2, hview2, hframe2⟩ := o_createFile_step st1 id' hd hd1
    (fun hdd => not_absent_of_dir hdd habs1)
  have hsrc2 : VHasFile (oview (mu2 :: ms1)) (renderC ss) bs :=
    (hasFile_of_vcore ((hframe2 _ hs.vis hne).trans (hs1 _ hs.vis))).2 hsrc
  have hfile2 : VIsFile (oview (mu2 :: ms1)) (renderC ss) := by
    obtain ⟨e, he, hf, _⟩ := hsrc2; exact ⟨e, he, hf⟩
  obtain ⟨mu3, hrm, st3, hn3, habs3, hframe3, hold3⟩ := o_removeFile_step' st2 id hs hfile2
  rw [World.setLeafFiles_twice] at hrm st3
  have hsabs : (renderC ss).head? = some '/' := (NR_renderC hs.ne (good_noSlash hs.good) hs.head).1
  have hfind3 : mu3.find? (renderC (dd ++ [n])) = some fileEntryNow := by
    rw [hold3 _ (fun h0 => hne h0.symm) (hd.nr.ne_marker hsabs) (contains_of_find hfind2)]
    exact hfind2
  obtain ⟨mu4, hdrop, st4, hn4, hfile4, hframe4⟩ := o_publish_step st3 hd hfind3 rfl
    (cursorWrite [] 0 bs) (0 + bs.length)
  rw [World.setLeafFiles_twice] at hdrop st4
  rw [cursorWrite_nil] at hfile4
  have hwrite : WHandle.write
      { leaf := u, key := renderC (dd ++ [n]), kind := .memFile, buf := [], pos := 0 } bs
      (w1.setLeafFiles u mu2) = (.ok (bs.length,
        { leaf := u, key := renderC (dd ++ [n]), kind := .memFile, buf := cursorWrite [] 0 bs,
          pos := 0 + bs.length }), w1.setLeafFiles u mu2) := rfl
  refine ⟨_, mu4, ms1,
    VPath.moveFile_of_calls _ _ w w1 _ _ _ bs _ _ _ hex (fun _ => (overlay_noFast _ _ _ w).2.1) hopen
      hcreate hwrite hrm hdrop,
    st4.own, hl1, st4.inv, st4.vwf, fun hn => hn4 (hn3 (hn2 (hn1 hn))), hfile4, ?_, ?_⟩
  · exact (none_of_vcore (hframe4 _ hs.vis hne)).2 habs3
  · intro q hq h1 h2
    exact (((hframe4 q hq h1).trans (hframe3 q hq h2)).trans (hframe2 q hq h1)).trans (hs1 q hq)

end transfer

/-! ### the overlay as the SOURCE of a copy (Props/C11OverlaySource.lean, Props/C11OverlayWithin.lean) -/

theorem mapSame_trans {a b c : FMap} (h1 : MapSame a b) (h2 : MapSame b c) : MapSame a c :=
  fun q => (h2 q).trans (h1 q)

theorem ft_of_vcore {a b : Option Entry} (h : a.map vcore = b.map vcore) :
    a.map Entry.ftype = b.map Entry.ftype := by
  cases a <;> cases b <;> simp at h ⊢
  exact ftype_of_vcore h

theorem vis_of_ovis {k : Str} (h : OVis k) : Vis k := by
  rcases h with rfl | ⟨cs, hcs, rfl⟩
  · exact Or.inl rfl
  · exact hcs.vis

/-- two lists of layers whose views agree under `f` on the disciplined paths show trees that agree
under `f` everywhere (off those paths both show nothing) -/
theorem ovisView_map_congr {β : Type} {f : Entry → β} {a b : List FMap} {k : Str}
    (h : OVis k → (oview a k).map f = (oview b k).map f) :
    (ovisView a k).map f = (ovisView b k).map f := by
  unfold ovisView
  split
  · rename_i hv; exact h hv
  · rfl

/-! The source side: an overlay whose layers change by access stamps only. -/

/-- the world holds the overlay over the memory leaves `u :: is`, with maps that are the ORIGINAL
maps `mu0 :: ms0` up to access stamps; invariants and name discipline hold -/
def SrcSt (u idu : Nat) (is ids : List Nat) (mu0 : FMap) (ms0 : List FMap) (w : World) : Prop :=
  ∃ mu ms, OSt u idu is ids ms w mu ∧ MapSame mu0 mu ∧ LowerSame ms0 ms ∧ NamesOK (mu :: ms)

theorem ne_of_ts {dd ts1 ts2 : List Str} (hdd : ∀ c ∈ dd, GoodComp c) (h1 : ∀ c ∈ ts1, GoodComp c)
    (h2 : ∀ c ∈ ts2, GoodComp c) (hne : ts1 ≠ ts2) : renderC (dd ++ ts1) ≠ renderC (dd ++ ts2) := by
  intro h0
  have := C06.renderC_injective _ _ (good_noSlash (good_append hdd h1))
    (good_noSlash (good_append hdd h2)) h0
  exact hne (List.append_cancel_left this)

section below
open Vfs.Wk

/-- a key of the disciplined view strictly below `renderC ss`, read as components -/
theorem below_src {all : List FMap} {ss : List Str} (hss : OpPath ss) {t : Str} {e : Entry}
    (hx : ovisView all (renderC ss ++ '/' :: t) = some e) :
    ∃ ts, ts ≠ [] ∧ OpPath (ss ++ ts) ∧ renderC ts = '/' :: t ∧ oview all (renderC (ss ++ ts)) = some e := by
  obtain ⟨hov, hxe⟩ := ovisView_some hx
  obtain ⟨ts, hpt, hxeq⟩ := (inSub_iff hss _).2
    ⟨hov, by unfold within; rw [below_child]; simp⟩
  have hr : renderC ts = '/' :: t := by
    rw [renderC_append] at hxeq
    exact (List.append_cancel_left hxeq).symm
  exact ⟨ts, (fun h0 => by rw [h0] at hr; cases hr), hpt, hr, by rw [← hxeq]; exact hxe⟩

/-- the parent of a key two or more levels below the source is a present directory below the
source and an ancestor of the key: it has been copied -/
theorem parent_copied {m : FMap} (hwf : WF m) {ss ts' : List Str} {n : Str} {e : Entry}
    (hpt : OpPath (ss ++ (ts' ++ [n]))) (hts' : ts' ≠ [])
    (hx : m.find? (renderC (ss ++ (ts' ++ [n]))) = some e) {P : Str → Prop}
    (hanc : ∀ p, below (renderC ss) p = true → below p (renderC (ss ++ (ts' ++ [n]))) = true →
      (∃ e', m.find? p = some e') → P p) :
    OpPath (ss ++ ts') ∧ ∃ pe, m.find? (renderC (ss ++ ts')) = some pe ∧ pe.ftype = .dir ∧
      P (renderC (ss ++ ts')) := by
  have hpps : parentInternal (renderC (ss ++ (ts' ++ [n]))) = renderC (ss ++ ts') := by
    rw [← List.append_assoc, parentInternal_renderC _ (good_noSlash (by
      rw [List.append_assoc]; exact hpt.good)), List.dropLast_concat]
  obtain ⟨_, pe, hpe1, hpd⟩ := hwf.2 _ e hx (renderC_ne_nil (by simp))
  rw [hpps] at hpe1
  have hpp : OpPath (ss ++ ts') := by
    have : OpPath ((ss ++ ts') ++ [n]) := by rw [List.append_assoc]; exact hpt
    exact this.prefix (by simp [hts'])
  have hbelow : below (renderC (ss ++ ts')) (renderC (ss ++ (ts' ++ [n]))) = true := by
    rw [← hpps]; exact below_parent_self _ (slash_mem_renderC (by simp))
  exact ⟨hpp, pe, hpe1, hpd, hanc _ (below_of_ne ss hts') hbelow ⟨pe, hpe1⟩⟩

/-- the parent `dd/ts'` of the destination key of a round is a directory of the destination's view
`v`: the destination itself, or the copy of the source key's parent (`parent_copied`), which the
invariant's clause for the keys done (`hdone`) shows as what the original layers show there -/
theorem dst_parent_dir {all0 : List FMap} {m : FMap} (hwf : WF m) {ss dd ts' : List Str} {n : Str}
    {e : Entry}
    (hm : ∀ k, within (renderC ss) k = true →
      (m.find? k).map vcore = (ovisView all0 k).map vcore)
    (hpt : OpPath (ss ++ (ts' ++ [n]))) (hx : m.find? (renderC (ss ++ (ts' ++ [n]))) = some e)
    {P : Str → Prop}
    (hanc : ∀ p, below (renderC ss) p = true → below p (renderC (ss ++ (ts' ++ [n]))) = true →
      (∃ e', m.find? p = some e') → P p)
    {v : View} (htop : VIsDir v (renderC dd))
    (hdone : ∀ ts, ts ≠ [] → OpPath (ss ++ ts) → P (renderC (ss ++ ts)) →
      (v (renderC (dd ++ ts))).map vcore = (oview all0 (renderC (ss ++ ts))).map vcore) :
    VIsDir v (renderC (dd ++ ts')) := by
  by_cases hts' : ts' = []
  · subst hts'; rw [List.append_nil]; exact htop
  · obtain ⟨hpp, pe, hpe1, hpd1, hP⟩ := parent_copied hwf hpt hts' hx hanc
    have hd := hdone ts' hts' hpp hP
    obtain ⟨pe0, hpe0, hvp⟩ := vcore_some
      (hm _ (within_of_below (below_of_ne ss hts'))).symm hpe1
    rw [(ovisView_some hpe0).2] at hd
    obtain ⟨pe', hpe', hv'⟩ := vcore_some hd rfl
    exact ⟨pe', hpe', by rw [ftype_of_vcore hv', ftype_of_vcore hvp]; exact hpd1⟩

/-- the relative part of a shown key below the source joins onto a canonical destination unchanged -/
theorem join_below_src {all : List FMap} {ss dd : List Str} (hss : OpPath ss)
    (hdd : ∀ c ∈ dd, GoodComp c) {t : Str} {e : Entry}
    (hx : ovisView all (renderC ss ++ '/' :: t) = some e) :
    joinInternal (renderC dd) t = .ok (renderC dd ++ '/' :: t) := by
  obtain ⟨ts, _, hpt, hr, _⟩ := below_src hss hx
  exact joinInternal_tail dd ts (good_noSlash hdd) (fun c hc => hpt.good c (by simp [hc])) hr

/-- a shown key strictly below the source, given by canonical components, is a disciplined path -/
theorem opPath_of_shown {all : List FMap} {ss ts : List Str} (hss : ∀ c ∈ ss, GoodComp c)
    (hts : ts ≠ []) (hgt : ∀ c ∈ ts, GoodComp c) {e : Entry}
    (hq : ovisView all (renderC (ss ++ ts)) = some e) :
    OpPath (ss ++ ts) ∧ oview all (renderC (ss ++ ts)) = some e := by
  obtain ⟨hov, he⟩ := ovisView_some hq
  refine ⟨?_, he⟩
  rcases hov with h0 | ⟨cs, hcs, h0⟩
  · exact absurd h0 (renderC_ne_nil (by simp [hts]))
  · rw [C06.renderC_injective _ _ (good_noSlash (good_append hss hgt)) (good_noSlash hcs.good) h0]
    exact hcs

end below

/-- on a world holding the overlay, its observers answer on `Dom` as any tree that has the types of
the visible view there, and change nothing -/
theorem overlay_seesOn {u idu : Nat} {is ids : List Nat} {ms : List FMap} {w : World} {mu : FMap}
    (st : OSt u idu is ids ms w mu) (hn : NamesOK (mu :: ms)) (id : Nat) (p : Str) {m : FMap}
    {Dom : Str → Prop} (hdown : WkG.Down Dom)
    (hft : ∀ k, Dom k →
      (m.find? k).map Entry.ftype = (ovisView (mu :: ms) k).map Entry.ftype) :
    WkG.SeesOn ⟨Overlay.fs (layersN (u :: is) (idu :: ids)), id, p⟩ m Dom (· = w) := by
  have tv0 := overlay_treeView st.own st.inv st.vwf hn
  obtain ⟨mc, hmc, _, _⟩ := WkG.exists_map tv0.finite tv0.root tv0.parent
  exact (WkG.SeesOn.of_treeView (m := mc) (by rw [← hmc]; exact tv0) _).congr hdown
    fun k hk => by rw [hft k hk, ← hmc]

end Vfs.C11
