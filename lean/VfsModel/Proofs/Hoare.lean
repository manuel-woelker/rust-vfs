/-
  Invariant-preservation calculus for the state monad `M`: `Preserves I m` says that running
  `m` from a world satisfying `I` ends in a world satisfying `I` (whatever the outcome:
  success, error or panic). `Returns m Q` is a postcondition on the value. `Spec` is the common
  shape of `Preserves I`, of panic-freedom (Proofs/NoPanic.lean) and of fault-faithfulness
  (Proofs/Faithful.lean): the rules for the monad combinators are proved for it once. `Spec.SatQ`
  adds a guarantee on the value of a successful run; an outcome that was caught and is held as
  a value (`M.attempt`, an item of the walk) is described by `Spec.held`.

  A property of all operations and adapters is stated as a `Spec`, over `Spec.Sat`, `Spec.All`,
  `Spec.Obs`, `Spec.HandleOK`: Proofs/PreservesOps.lean then applies. `Preserves`, `HandleOK`,
  `FS.AllPreserve`, `FS.ObsPreserve` say the same at `Spec.preserves I`; the statements of C03, C07,
  C08 are written with them, and `.sat` / `.of_sat` convert.

  Also here, below the calculi because they need nothing else: the runs of `M.bind`, `M.ret`,
  `M.withPath` by outcome and the monad laws of `M` (`bind_run_of_ok`, `ok_of_bind_ok`: a sequence whose
  first step is known by its outcome alone); the primitives of `VfsPath` from the run of the calls of
  the filesystem each makes (`VPath.metadata_of_call` … `getParent_of_calls`, `getParent_of_entry`); what
  `write`, `seek`, `flush`, `drop` of a write handle answer and leave (`WHandle.*_ok`, `*_world`). The
  tactic `sat` takes an `S.Sat` goal apart along the combinators.
-/
import VfsModel.Adapters
import VfsModel.Leaf
namespace Vfs

structure Preserves {α} (I : World → Prop) (m : M α) : Prop where
  pres : ∀ w, I w → I (m w).2

/-- a state-independent postcondition on the value returned by a successful run -/
structure Returns {α} (m : M α) (Q : α → Prop) : Prop where
  post : ∀ w a, (m w).1 = .ok a → Q a

theorem Res.withPath_ok {α} (p : Str) (r : Res α) (a : α) (h : r.withPath p = .ok a) : r = .ok a := by
  cases r <;> simp [Res.withPath] at h ⊢
  exact h

/-- `with_path` relabels the outcome and leaves the world alone -/
theorem M.withPath_run {α} (p : Str) (m : M α) (w : World) :
    M.withPath p m w = ((m w).1.withPath p, (m w).2) := rfl

theorem M.withPath_ok_iff {α} (p : Str) (m : M α) (w w' : World) (a : α) :
    M.withPath p m w = (.ok a, w') ↔ m w = (.ok a, w') := by
  constructor
  · intro h
    have h1 : (m w).1 = .ok a := Res.withPath_ok p (m w).1 a (congrArg Prod.fst h)
    have h2 : (m w).2 = w' := congrArg Prod.snd h
    exact Prod.ext h1 h2
  · intro h; rw [M.withPath_run, h]; rfl

theorem M.bind_ok {α β} {m : M α} {f : α → M β} {w w' : World} {a : α} (h : m w = (.ok a, w')) :
    M.bind m f w = f a w' := by
  unfold M.bind; rw [h]

theorem M.bind_err {α β} {m : M α} {f : α → M β} {w w' : World} {k : ErrKind} {p : Option Str}
    (h : m w = (.err k p, w')) : M.bind m f w = (.err k p, w') := by
  unfold M.bind; rw [h]

theorem M.bind_panic {α β} {m : M α} {f : α → M β} {w w' : World} (h : m w = (.panic, w')) :
    M.bind m f w = (.panic, w') := by
  unfold M.bind; rw [h]

/-- a sequence that succeeds: its first step succeeded, and the rest ran from where it ended -/
theorem M.bind_ok_inv {α β : Type} {m : M α} {f : α → M β} {w w' : World} {b : β}
    (h : (m >>= f) w = (.ok b, w')) : ∃ a w1, m w = (.ok a, w1) ∧ f a w1 = (.ok b, w') := by
  change M.bind m f w = _ at h
  unfold M.bind at h
  rcases hm : m w with ⟨r, w1⟩
  rw [hm] at h
  cases r with
  | ok a => exact ⟨a, w1, rfl, h⟩
  | err k p => cases h
  | panic => cases h

theorem M.ret_ok_inv {α} {r : Res α} {a : α} {w w' : World} (h : M.ret r w = (.ok a, w')) :
    r = .ok a ∧ w' = w := by
  have h' : (r, w) = (Res.ok a, w') := h
  injection h' with h1 h2
  exact ⟨h1, h2.symm⟩

/-- `M.bind_ok`, `M.bind_err`, `M.bind_panic` with `>>=` as a `do` block elaborates it, the form
`rw` finds in a goal about a model function -/
theorem bind_run_ok {α β : Type} {m : M α} {f : α → M β} {w w' : World} {a : α}
    (h : m w = (.ok a, w')) : (m >>= f) w = f a w' := M.bind_ok h

/-- `bind_run_ok` and `M.bind_ok_inv` for a first step known by its outcome alone -/
theorem bind_run_of_ok {α β : Type} {m : M α} {f : α → M β} {w : World} {a : α}
    (h : (m w).1 = .ok a) : (m >>= f) w = f a (m w).2 := bind_run_ok (Prod.ext h rfl)

theorem ok_of_bind_ok {α β : Type} {m : M α} {f : α → M β} {w : World} {b : β}
    (h : ((m >>= f) w).1 = .ok b) : ∃ a, (m w).1 = .ok a := by
  obtain ⟨a, _, h1, _⟩ := M.bind_ok_inv (Prod.ext h rfl : (m >>= f) w = (.ok b, _))
  exact ⟨a, by rw [h1]⟩

/-- `>>=` run on a world, all three outcomes of the first step at once -/
theorem bind_eval {α β : Type} (m : M α) (f : α → M β) (w : World) :
    (m >>= f) w = match m w with
      | (.ok a, w') => f a w'
      | (.err k p, w') => (.err k p, w')
      | (.panic, w') => (.panic, w') := rfl

theorem bind_run_err {α β : Type} {m : M α} {f : α → M β} {w w' : World} {k : ErrKind}
    {p : Option Str} (h : m w = (.err k p, w')) : (m >>= f) w = (.err k p, w') := M.bind_err h

theorem bind_run_panic {α β : Type} {m : M α} {f : α → M β} {w w' : World}
    (h : m w = (.panic, w')) : (m >>= f) w = (.panic, w') := M.bind_panic h

/-- a session whose open is relabelled: when the body after a successful open cannot fail with
another label, the whole session is the unlabelled session, relabelled -/
theorem run_session_withPath {α β} (p : Str) (m : M α) (f : α → M β) (w : World)
    (hf : ∀ a w1, m w = (.ok a, w1) → ((f a w1).1).withPath p = (f a w1).1) :
    (M.withPath p m >>= f) w = (((m >>= f) w).1.withPath p, ((m >>= f) w).2) := by
  show M.bind (M.withPath p m) f w = ((M.bind m f w).1.withPath p, (M.bind m f w).2)
  unfold M.bind
  rw [M.withPath_run]
  rcases hm : m w with ⟨r, w1⟩
  cases r with
  | ok a =>
    show f a w1 = (((f a w1).1).withPath p, (f a w1).2)
    rw [hf a w1 hm]
  | err k pth => rfl
  | panic => rfl

/-! ### the primitives of `VfsPath` from the call of the filesystem each makes

`VPath.metadata`, `open_file`, `append_file`, `read_dir`, `remove_file`, `remove_dir` are one trait
method relabelled; `create_dir` and `create_file` ask `get_parent` first, which asks `exists` and
`metadata` of the parent. Whoever knows how the filesystem's method runs on a world (a leaf by
`LeafAt.*_eq`, an overlay by its own run lemmas, a recorded answer) gets the run of the `VfsPath`
operation from these. -/

namespace VPath
variable {p : VPath} {w w' : World}

theorem metadata_of_call {r : Res Meta} (h : p.fs.metadata p.path w = (r, w')) :
    p.metadata w = (r.withPath p.path, w') := by
  rw [metadata, M.withPath_run, h]

theorem openFile_of_call {r : Res RHandle} (h : p.fs.openFile p.path w = (r, w')) :
    p.openFile w = (r.withPath p.path, w') := by
  rw [openFile, M.withPath_run, h]

theorem appendFile_of_call {r : Res WHandle} (h : p.fs.appendFile p.path w = (r, w')) :
    p.appendFile w = (r.withPath p.path, w') := by
  rw [appendFile, M.withPath_run, h]

theorem readDir_of_call {r : Res (List Str)} (h : p.fs.readDir p.path w = (r, w')) :
    p.readDir w = ((r.withPath p.path).map fun names =>
      names.map fun n => p.withStr (p.path ++ '/' :: n), w') := by
  rw [readDir, bind_eval, M.withPath_run, h]
  cases r <;> rfl

theorem removeFile_of_call {r : Res Unit} (h : p.fs.removeFile p.path w = (r, w')) :
    p.removeFile w = (r.withPath p.path, w') := by
  rw [removeFile, M.withPath_run, h]

theorem removeDir_of_call {r : Res Unit} (h : p.fs.removeDir p.path w = (r, w')) :
    p.removeDir w = (r.withPath p.path, w') := by
  rw [removeDir, M.withPath_run, h]

theorem createDir_of_calls {w1 : World} {r : Res Unit} (hg : p.getParent w = (.ok (), w1))
    (h : p.fs.createDir p.path w1 = (r, w')) : p.createDir w = (r.withPath p.path, w') := by
  rw [createDir, bind_run_ok hg, M.withPath_run, h]

theorem createFile_of_calls {w1 : World} {r : Res WHandle} (hg : p.getParent w = (.ok (), w1))
    (h : p.fs.createFile p.path w1 = (r, w')) : p.createFile w = (r.withPath p.path, w') := by
  rw [createFile, bind_run_ok hg, M.withPath_run, h]

/-- `get_parent` (path.rs) from what `exists` and, where that says `true`, `metadata` answer at the
parent, both leaving the world as it is -/
theorem getParent_of_calls {b : Bool} {r : Res Meta} (he : p.parent.exists_ w = (.ok b, w))
    (hm : b = true → p.parent.metadata w = (r, w)) :
    p.getParent w =
      (if b = false then .err .other (some p.path)
       else match (generalizing := false) r with
        | .ok md => if md.ftype ≠ .dir then .err .other (some p.path) else .ok ()
        | .err k q => .err k q
        | .panic => .panic, w) := by
  rw [getParent, bind_run_ok he]
  cases b with
  | false => rfl
  | true =>
    simp only [Bool.not_true, Bool.false_eq_true, if_false]
    rw [bind_eval, hm rfl]
    cases r with
    | ok md => dsimp only; split <;> rfl
    | err k q => rfl
    | panic => rfl

/-- … in particular where the two answer as ONE entry `v` says — the parent's entry in a leaf's map,
in an overlay's merged view: the probe passes exactly when `v` is a directory -/
theorem getParent_of_entry {v : Option Entry} (he : p.parent.exists_ w = (.ok v.isSome, w))
    (hm : ∀ e, v = some e → p.parent.metadata w = (.ok e.meta, w)) :
    p.getParent w =
      (if (match (generalizing := false) v with
           | some e => decide (e.ftype = .dir)
           | none => false : Bool) = true then .ok ()
       else .err .other (some p.path), w) := by
  cases v with
  | none => rw [getParent_of_calls (r := .panic) he nofun]; rfl
  | some e =>
    rw [getParent_of_calls he fun _ => hm e rfl]
    by_cases hd : e.ftype = .dir <;> simp [hd, Entry.meta]

end VPath

/-! the monad laws of `M` -/

theorem M.bind_assoc {α β γ : Type} (m : M α) (f : α → M β) (g : β → M γ) :
    (m >>= f) >>= g = m >>= fun a => f a >>= g := by
  funext w
  show M.bind (M.bind m f) g w = M.bind m (fun a => M.bind (f a) g) w
  unfold M.bind
  rcases m w with ⟨r, w'⟩
  cases r <;> rfl

theorem M.pure_bind {α β : Type} (a : α) (f : α → M β) : (Pure.pure a : M α) >>= f = f a := rfl

theorem M.bind_pure {α : Type} (m : M α) : (m >>= fun a => (Pure.pure a : M α)) = m := by
  funext w
  show M.bind m _ w = m w
  unfold M.bind
  rcases m w with ⟨r, w'⟩
  cases r <;> rfl

theorem ret_ok_bind {α β} (x : α) (f : α → M β) : (M.ret (.ok x) >>= f) = f x := rfl

/-- dropping a write handle cannot fail -/
theorem WHandle.drop_ok (h : WHandle) (w : World) : (h.drop w).1 = .ok () := by
  unfold WHandle.drop WHandle.flush
  cases h.kind <;> dsimp only
  split <;> rfl

theorem WHandle.flush_ok (h : WHandle) (w : World) : (h.flush w).1 = .ok () := WHandle.drop_ok h w

/-- `Seek::seek` on a write handle in closed form: the cursor's answer over the length the handle
sees, the position moved on success, the world never touched -/
theorem WHandle.seek_eq (h : WHandle) (s : SeekFrom) (w : World) :
    h.seek s w = ((cursorSeek (h.fileLen w) h.pos s).map fun n => (n, { h with pos := n }), w) := by
  unfold WHandle.seek
  cases cursorSeek (h.fileLen w) h.pos s <;> rfl

theorem WHandle.seek_world (h : WHandle) (s : SeekFrom) (w : World) : (h.seek s w).2 = w := by
  rw [WHandle.seek_eq]

/-- `Write::write` always succeeds and reports the whole buffer written -/
theorem WHandle.write_ok (h : WHandle) (bs : Bytes) (w : World) :
    ∃ h', (h.write bs w).1 = .ok (bs.length, h') := by
  unfold WHandle.write
  cases h.kind <;> dsimp only
  · exact ⟨_, rfl⟩
  · split
    · split <;> exact ⟨_, rfl⟩
    · exact ⟨_, rfl⟩
  · split
    · split <;> exact ⟨_, rfl⟩
    · exact ⟨_, rfl⟩

/-- what `write` does to the world: nothing (always so for an in-memory handle, whose bytes stay in
the buffer), or the entry under the handle's key is replaced by one of the same type -/
theorem WHandle.write_world (h : WHandle) (bs : Bytes) (w : World) :
    (h.write bs w).2 = w ∨ ∃ l e e', w.leaf? h.leaf = some l ∧ l.files.find? h.key = some e ∧
      e'.ftype = e.ftype ∧ (h.write bs w).2 = w.setLeafFiles h.leaf (l.files.insert h.key e') := by
  unfold WHandle.write
  cases h.kind <;> dsimp only
  · exact Or.inl rfl
  · split
    · rename_i l hl
      split
      · rename_i e he
        exact Or.inr ⟨l, e, _, hl, he, by split <;> rfl, rfl⟩
      · exact Or.inl rfl
    · exact Or.inl rfl
  · split
    · rename_i l hl
      split
      · rename_i e he
        exact Or.inr
          ⟨l, e, { e with content := e.content ++ bs, modified := .now }, hl, he, rfl, rfl⟩
      · exact Or.inl rfl
    · exact Or.inl rfl

/-- what `flush` (and `drop`) does to the world: nothing, or the buffer of an in-memory handle is
published under its key -/
theorem WHandle.flush_world (h : WHandle) (w : World) :
    (h.flush w).2 = w ∨ ∃ l, w.leaf? h.leaf = some l ∧
      (h.flush w).2 = w.setLeafFiles h.leaf (memPublish l.files h.key h.buf) := by
  unfold WHandle.flush
  cases h.kind <;> dsimp only
  · split
    · rename_i l hl; exact Or.inr ⟨l, hl, rfl⟩
    · exact Or.inl rfl
  · exact Or.inl rfl
  · exact Or.inl rfl

theorem Returns.trivial {α} (m : M α) : Returns m (fun _ => True) := ⟨fun _ _ _ => True.intro⟩

theorem Returns.bindQ {α β} {m : M α} {f : α → M β} {P : α → Prop} {Q : β → Prop}
    (hm : Returns m P) (hf : ∀ a, P a → Returns (f a) Q) : Returns (m >>= f) Q := by
  refine ⟨fun w b => ?_⟩
  show ((M.bind m f) w).1 = .ok b → Q b
  unfold M.bind
  have := hm.post w
  split
  · rename_i a w' heq; rw [heq] at this; exact (hf a (this a rfl)).post w' b
  · intro h; cases h
  · intro h; cases h

theorem Returns.bind {α β} {m : M α} {f : α → M β} {Q : β → Prop}
    (hf : ∀ a, Returns (f a) Q) : Returns (m >>= f) Q :=
  Returns.bindQ (Returns.trivial m) (fun a _ => hf a)

theorem Returns.withPath {α} {m : M α} {Q : α → Prop} (p : Str) (h : Returns m Q) :
    Returns (M.withPath p m) Q := by
  refine ⟨fun w a heq => ?_⟩
  exact h.post w a (Res.withPath_ok p _ a heq)

theorem Returns.ret {α} {Q : α → Prop} (r : Res α) (h : ∀ a, r = .ok a → Q a) :
    Returns (M.ret r) Q := ⟨fun _ a he => h a he⟩

theorem Returns.pure {α} {Q : α → Prop} (a : α) (h : Q a) : Returns (Pure.pure a : M α) Q := by
  refine ⟨fun w b he => ?_⟩
  simp only [Pure.pure, M.pure, Res.ok.injEq] at he
  subst he; exact h

theorem Returns.failK {α} {Q : α → Prop} (k : ErrKind) : Returns (M.failK k : M α) Q := by
  refine ⟨fun w b he => ?_⟩; simp [M.failK, fail] at he

theorem Returns.failAt {α} {Q : α → Prop} (k : ErrKind) (p : Str) : Returns (M.failAt k p : M α) Q := by
  refine ⟨fun w b he => ?_⟩; simp [M.failAt] at he

theorem Returns.ite {α} {Q : α → Prop} {c : Prop} [Decidable c] {a b : M α}
    (ha : Returns a Q) (hb : Returns b Q) : Returns (if c then a else b) Q := by
  split <;> assumption

theorem Returns.and {α} {m : M α} {P Q : α → Prop} (hp : Returns m P) (hq : Returns m Q) :
    Returns m (fun a => P a ∧ Q a) := ⟨fun w a h => ⟨hp.post w a h, hq.post w a h⟩⟩

theorem Returns.mono {α} {m : M α} {P Q : α → Prop} (hp : Returns m P) (h : ∀ a, P a → Q a) :
    Returns m Q := ⟨fun w a he => h a (hp.post w a he)⟩

/-! ### specifications that compose along `bind`

`Preserves I`, the panic-freedom of C13 and the fault-faithfulness of C20 have one shape: an
assumption on the starting world and a guarantee on the final world that depends only on the
kind of outcome. The rules for the monad's combinators, and every operation that is built from
them, are proved once for that shape. -/

/-- an outcome with the value and the path forgotten -/
inductive Spec.Out where
  | ok
  | err (k : ErrKind)
  | panic

def Res.out {α} : Res α → Spec.Out
  | .ok _ => .ok
  | .err k _ => .err k
  | .panic => .panic

theorem Res.out_withPath {α} (p : Str) (r : Res α) : (r.withPath p).out = r.out := by
  cases r <;> rfl

theorem Res.out_map {α β} (f : α → β) (r : Res α) : (r.map f).out = r.out := by
  cases r <;> rfl

theorem Res.out_eq_panic {α} (r : Res α) : r.out = .panic ↔ r = .panic := by
  cases r <;> simp [Res.out]

/-- `pre`: what a computation may assume of the world it starts in; `post`: what it guarantees
of the world it ends in, by outcome; `may`: the outcomes that may arise wherever `pre` holds
(`ok` always; a kind of error that the specification rules out, or `.panic`, may not). After `ok`
the continuation runs, so `ok` re-establishes `pre`; an error may be caught by a caller that then
goes on, so it re-establishes `pre` too, except `.io`: that is the kind the fault wrapper injects
(`faultGate`), after which the world of `Spec.faithful` (Proofs/Faithful.lean) has `fired = true`
and no longer satisfies `pre`. No handler of the library swallows `.io`; code that catches EVERY
error (the walk iterator) is handled by `Spec.SatQ` below. -/
structure Spec where
  pre : World → Prop
  post : Spec.Out → World → Prop
  may : Spec.Out → Prop
  may_ok : may .ok
  post_of_pre : ∀ o w, may o → pre w → post o w
  pre_of_ok : ∀ w, post .ok w → pre w
  pre_of_err : ∀ k w, k ≠ .io → post (.err k) w → pre w

/-- `S` lets the outcome `o` arise wherever `pre` holds -/
class Spec.May (S : Spec) (o : Spec.Out) : Prop where
  out : S.may o

/-- `S` lets every kind of error be raised but `NotSupported`: the kind a specification rules out
to say that the same-filesystem shortcut of copy_file / move_file / move_dir was not the end of
the matter (Proofs/Tame.lean). The generic statements raise the other six kinds, never this one,
except where `S.May (.err .notSupported)` is asked for. -/
class Spec.Errs (S : Spec) : Prop where
  may : ∀ k, k ≠ .notSupported → S.may (.err k)

namespace Spec
variable (S : Spec)

instance [S.Errs] : S.May (.err .io) := ⟨Errs.may _ (by decide)⟩
instance [S.Errs] : S.May (.err .fileNotFound) := ⟨Errs.may _ (by decide)⟩
instance [S.Errs] : S.May (.err .invalidPath) := ⟨Errs.may _ (by decide)⟩
instance [S.Errs] : S.May (.err .other) := ⟨Errs.may _ (by decide)⟩
instance [S.Errs] : S.May (.err .dirExists) := ⟨Errs.may _ (by decide)⟩
instance [S.Errs] : S.May (.err .fileExists) := ⟨Errs.may _ (by decide)⟩

theorem ok_of_pre (w : World) (h : S.pre w) : S.post .ok w := S.post_of_pre .ok w S.may_ok h

theorem err_of_pre (k : ErrKind) [S.May (.err k)] (w : World) (h : S.pre w) : S.post (.err k) w :=
  S.post_of_pre _ w May.out h

/-- an outcome that is neither `.panic` nor `NotSupported` may arise -/
theorem may_out [S.Errs] {α} {r : Res α} (hp : r ≠ .panic) (hn : ∀ p, r ≠ .err .notSupported p) :
    S.may r.out := by
  cases r with
  | ok a => exact S.may_ok
  | err k p => exact Errs.may k (fun h => hn p (by rw [h]))
  | panic => exact absurd rfl hp

end Spec

/-- `m` meets the specification -/
structure Spec.Sat (S : Spec) {α} (m : M α) : Prop where
  post : ∀ w, S.pre w → S.post (m w).1.out (m w).2

/-- relative to the invariant `I`, an outcome in `bad` never arises: panic-freedom
(Proofs/NoPanic.lean) is `bad := (· = .panic)` -/
def Spec.never (I : World → Prop) (bad : Spec.Out → Prop) (hok : ¬ bad .ok) : Spec where
  pre := I
  post o w := I w ∧ ¬ bad o
  may o := ¬ bad o
  may_ok := hok
  post_of_pre _ _ hm hw := ⟨hw, hm⟩
  pre_of_ok _ h := h.1
  pre_of_err _ _ _ h := h.1

/-- relative to `I`, never an error of kind `k` -/
abbrev Spec.notKind (I : World → Prop) (k : ErrKind) : Spec := .never I (· = .err k) nofun

instance (I : World → Prop) : (Spec.notKind I .notSupported).Errs :=
  ⟨fun _ hk h => hk (Spec.Out.err.inj h)⟩

/-- `Preserves I` as a specification -/
def Spec.preserves (I : World → Prop) : Spec where
  pre := I
  post _ w := I w
  may _ := True
  may_ok := trivial
  post_of_pre _ _ _ h := h
  pre_of_ok _ h := h
  pre_of_err _ _ _ h := h

instance (I : World → Prop) (o : Spec.Out) : (Spec.preserves I).May o := ⟨trivial⟩
instance (I : World → Prop) : (Spec.preserves I).Errs := ⟨fun _ _ => trivial⟩

theorem Preserves.sat {α} {I : World → Prop} {m : M α} (h : Preserves I m) :
    (Spec.preserves I).Sat m := ⟨h.pres⟩

theorem Preserves.of_sat {α} {I : World → Prop} {m : M α} (h : (Spec.preserves I).Sat m) :
    Preserves I m := ⟨h.post⟩

/-! An outcome may be caught and held as a value (`M.attempt`; an item of the walk, which turns
the error of a listing into the item it yields). What is then known of the world is `post` for
the outcome held, not `pre`: `SatQ` lets a successful run guarantee something of its value and
world in place of `pre`. -/

/-- the guarantee by outcome, with `Q` of value and world in place of `pre` after `ok` -/
def Spec.postQ (S : Spec) {α} (Q : α → World → Prop) : Res α → World → Prop
  | .ok a, w => Q a w
  | .err k _, w => S.post (.err k) w
  | .panic, w => S.post .panic w

/-- `m` meets `S`, and a successful run ends with `Q` of its value and world -/
structure Spec.SatQ (S : Spec) {α} (m : M α) (Q : α → World → Prop) : Prop where
  post : ∀ w, S.pre w → S.postQ Q (m w).1 (m w).2

/-- what is known of the world in which an outcome is held as a value -/
def Spec.held (S : Spec) {α} (r : Res α) (w : World) : Prop := S.post r.out w

/-- what is known after a step of an iterator: no item and `pre`, or an item held -/
def Spec.heldItem (S : Spec) {β σ} (x : Option (Res β) × σ) (w : World) : Prop :=
  match x.1 with
  | none => S.pre w
  | some r => S.post r.out w

namespace Spec.SatQ
variable {S : Spec}

theorem postQ_pre {α} (r : Res α) (w : World) : S.postQ (fun _ => S.pre) r w ↔ S.post r.out w := by
  cases r with
  | ok a => exact ⟨S.ok_of_pre w, S.pre_of_ok w⟩
  | err k p => exact Iff.rfl
  | panic => exact Iff.rfl

theorem of_sat {α} {m : M α} (h : S.Sat m) : S.SatQ m (fun _ => S.pre) :=
  ⟨fun w hw => (postQ_pre _ _).2 (h.post w hw)⟩

theorem sat {α} {m : M α} (h : S.SatQ m (fun _ => S.pre)) : S.Sat m :=
  ⟨fun w hw => (postQ_pre _ _).1 (h.post w hw)⟩

theorem pure {α} {Q : α → World → Prop} (a : α) (h : ∀ w, S.pre w → Q a w) :
    S.SatQ (Pure.pure a : M α) Q := ⟨h⟩

theorem mono {α} {m : M α} {Q Q' : α → World → Prop} (h : S.SatQ m Q)
    (hq : ∀ a w, Q a w → Q' a w) : S.SatQ m Q' := by
  refine ⟨fun w hw => ?_⟩
  have h1 := h.post w hw
  cases hr : (m w).1 with
  | ok a => rw [hr] at h1; exact hq a _ h1
  | err k p => rw [hr] at h1; exact h1
  | panic => rw [hr] at h1; exact h1

/-- the continuation starts from what `m` guarantees of its value -/
theorem bind {α β} {m : M α} {f : α → M β} {Q : α → World → Prop} {R : β → World → Prop}
    (hm : S.SatQ m Q) (hf : ∀ a w, Q a w → S.postQ R (f a w).1 (f a w).2) :
    S.SatQ (m >>= f) R := by
  refine ⟨fun w hw => ?_⟩
  show S.postQ R (M.bind m f w).1 (M.bind m f w).2
  have h1 := hm.post w hw
  unfold M.bind
  cases hres : m w with
  | mk r w' =>
    rw [hres] at h1
    cases r with
    | ok a => exact hf a w' h1
    | err k p => exact h1
    | panic => exact h1

theorem bind_sat {α β} {m : M α} {f : α → M β} {Q : α → World → Prop}
    (hm : S.SatQ m Q) (hf : ∀ a w, Q a w → S.post (f a w).1.out (f a w).2) : S.Sat (m >>= f) :=
  sat (bind hm (fun a w h => (postQ_pre _ _).2 (hf a w h)))

/-- `M.attempt` holds the outcome of `m` as a value -/
theorem attempt {α} {m : M α} (hm : S.Sat m) : S.SatQ (M.attempt m) S.held := ⟨hm.post⟩

end Spec.SatQ

/-- the specification that asks nothing; a postcondition on the value alone is `SatQ` at it -/
def Spec.top : Spec where
  pre _ := True
  post _ _ := True
  may _ := True
  may_ok := trivial
  post_of_pre _ _ _ _ := trivial
  pre_of_ok _ _ := trivial
  pre_of_err _ _ _ _ := trivial

instance (o : Spec.Out) : Spec.top.May o := ⟨trivial⟩
instance : Spec.top.Errs := ⟨fun _ _ => trivial⟩

theorem Returns.of_satQ {α} {m : M α} {Q : α → Prop} (h : Spec.top.SatQ m (fun a _ => Q a)) :
    Returns m Q := by
  refine ⟨fun w a he => ?_⟩
  have := h.post w True.intro
  rw [he] at this
  exact this

namespace Spec.Sat
variable {S : Spec}

/-- an outcome that may arise may be returned -/
theorem ret {α} (r : Res α) (h : S.may r.out) : S.Sat (M.ret r) :=
  ⟨fun w hw => S.post_of_pre _ w h hw⟩

/-- the fuel sentinel of the recursive functions, where `S` lets `.panic` arise -/
theorem sentinel {α} [S.May .panic] : S.Sat (M.ret .panic : M α) := ret _ (May.out (o := .panic))

theorem pure {α} (a : α) : S.Sat (Pure.pure a : M α) := ⟨S.ok_of_pre⟩
theorem failK {α} (k : ErrKind) [S.May (.err k)] : S.Sat (M.failK k : M α) := ⟨S.err_of_pre k⟩
theorem failAt {α} (k : ErrKind) [S.May (.err k)] (p : Str) : S.Sat (M.failAt k p : M α) :=
  ⟨S.err_of_pre k⟩

/-- the rule for `match call { … }`: the handler `k` receives the outcome of `m` in a world of
which `post` holds for that outcome -/
theorem attempt_bind {α β} {m : M α} {k : Res α → M β} (hm : S.Sat m)
    (hk : ∀ r w, S.post r.out w → S.post (k r w).1.out (k r w).2) :
    S.Sat (M.attempt m >>= k) :=
  (SatQ.attempt hm).bind_sat hk

/-- `bind` with a postcondition on the value -/
theorem bindQ {α β} {m : M α} {f : α → M β} (Q : α → Prop) (hm : S.Sat m) (hq : Returns m Q)
    (hf : ∀ a, Q a → S.Sat (f a)) : S.Sat (m >>= f) := by
  refine ⟨fun w hw => ?_⟩
  show S.post (M.bind m f w).1.out (M.bind m f w).2
  have h1 := hm.post w hw
  have h2 := hq.post w
  unfold M.bind
  cases hres : m w with
  | mk r w' =>
    rw [hres] at h1 h2
    cases r with
    | ok a => exact (hf a (h2 a rfl)).post w' (S.pre_of_ok w' h1)
    | err k p => exact h1
    | panic => exact h1

theorem bind {α β} {m : M α} {f : α → M β} (hm : S.Sat m) (hf : ∀ a, S.Sat (f a)) :
    S.Sat (m >>= f) :=
  bindQ (fun _ => True) hm (Returns.trivial m) (fun a _ => hf a)

theorem withPath {α} (p : Str) {m : M α} (hm : S.Sat m) : S.Sat (M.withPath p m) := by
  refine ⟨fun w hw => ?_⟩
  show S.post ((m w).1.withPath p).out (m w).2
  rw [Res.out_withPath]
  exact hm.post w hw

end Spec.Sat

/-- `sat` takes an `S.Sat m` goal apart along `pure`, `failK`, `failAt`, `>>=`, `M.withPath`, `if`
and `match`, and closes a leaf that is a call with a hypothesis of the local context (any name):
the facts about the calls `m` makes must be there before it runs (`have h1 := …`). It does not
fail: goals it cannot close (a call without its fact, a handler written as `fun w => match …`)
are left. -/
macro "sat_step" : tactic => `(tactic| first
  | with_reducible exact Spec.Sat.pure _
  | with_reducible exact Spec.Sat.failK _ | with_reducible exact Spec.Sat.failAt _ _
  | with_reducible apply Spec.Sat.bind
  | with_reducible apply Spec.Sat.withPath
  | dsimp only
  | intro _ | split
  | (apply_assumption; done))
macro "sat" : tactic => `(tactic| (repeat (any_goals sat_step)))

namespace Preserves
variable {I : World → Prop}

theorem pure {α} (a : α) : Preserves I (Pure.pure a : M α) := ⟨fun _ h => h⟩
theorem ret {α} (r : Res α) : Preserves I (M.ret r) := ⟨fun _ h => h⟩
theorem failK {α} (k : ErrKind) : Preserves I (M.failK k : M α) := ⟨fun _ h => h⟩
theorem failAt {α} (k : ErrKind) (p : Str) : Preserves I (M.failAt k p : M α) := ⟨fun _ h => h⟩

theorem bindQ {α β} {m : M α} {f : α → M β} (Q : α → Prop)
    (hm : Preserves I m) (hq : Returns m Q) (hf : ∀ a, Q a → Preserves I (f a)) :
    Preserves I (m >>= f) :=
  of_sat (.bindQ Q hm.sat hq (fun a ha => (hf a ha).sat))

theorem bind {α β} {m : M α} {f : α → M β} (hm : Preserves I m) (hf : ∀ a, Preserves I (f a)) :
    Preserves I (m >>= f) :=
  bindQ (fun _ => True) hm (Returns.trivial m) (fun a _ => hf a)

theorem mbind {α β} {m : M α} {f : α → M β} (hm : Preserves I m) (hf : ∀ a, Preserves I (f a)) :
    Preserves I (M.bind m f) := bind hm hf

theorem withPath {α} (p : Str) {m : M α} (hm : Preserves I m) : Preserves I (M.withPath p m) :=
  of_sat (.withPath p hm.sat)

theorem attempt {α} {m : M α} (hm : Preserves I m) : Preserves I (M.attempt m) := by
  refine ⟨fun w hw => ?_⟩
  unfold M.attempt
  exact hm.pres w hw

theorem ite {α} {c : Prop} [Decidable c] {a b : M α} (ha : Preserves I a) (hb : Preserves I b) :
    Preserves I (if c then a else b) := by
  split <;> assumption

theorem seq_unit {β} {m : M Unit} {f : M β} (hm : Preserves I m) (hf : Preserves I f) :
    Preserves I (do m; f) := bind hm (fun _ => hf)

end Preserves

theorem WHandle.seek_pres {I : World → Prop} (h : WHandle) (s : SeekFrom) : Preserves I (h.seek s) :=
  ⟨fun w hw => by rw [seek_world]; exact hw⟩

/-- a call whose value is forgotten -/
theorem pres_discard {α} {I : World → Prop} {m : M α} (hm : Preserves I m) :
    Preserves I (do let _ ← m; pure ()) :=
  Preserves.bind hm (fun _ => Preserves.pure _)

/-- what a write handle may touch, independent of its buffer and position -/
def HandleOK (I : World → Prop) (h : WHandle) : Prop :=
  ∀ buf pos, (∀ bs, Preserves I (({ h with buf := buf, pos := pos } : WHandle).write bs)) ∧
    Preserves I (({ h with buf := buf, pos := pos } : WHandle).flush)

/-- the write handle returned by `write` differs only in buffer and position -/
theorem WHandle.write_same (h : WHandle) (bs : Bytes) (w : World) (n : Nat) (h' : WHandle)
    (he : (h.write bs w).1 = .ok (n, h')) :
    ∃ buf pos, h' = { h with buf := buf, pos := pos } := by
  unfold WHandle.write at he
  cases hk : h.kind <;> simp only [hk] at he
  · simp only [Res.ok.injEq, Prod.mk.injEq] at he
    exact ⟨_, _, he.2.symm⟩
  · split at he
    · split at he <;>
        (simp only [Res.ok.injEq, Prod.mk.injEq] at he; exact ⟨h.buf, _, he.2.symm⟩)
    · simp only [Res.ok.injEq, Prod.mk.injEq] at he
      exact ⟨h.buf, h.pos, by rw [← he.2]; cases h; simp_all⟩
  · split at he
    · split at he
      · simp only [Res.ok.injEq, Prod.mk.injEq] at he; exact ⟨h.buf, _, he.2.symm⟩
      · simp only [Res.ok.injEq, Prod.mk.injEq] at he; exact ⟨h.buf, h.pos, by rw [← he.2]; cases h; simp_all⟩
    · simp only [Res.ok.injEq, Prod.mk.injEq] at he; exact ⟨h.buf, h.pos, by rw [← he.2]; cases h; simp_all⟩

theorem HandleOK.of_same {I : World → Prop} {h : WHandle} (hk : HandleOK I h) (buf : Bytes) (pos : Nat) :
    HandleOK I { h with buf := buf, pos := pos } := by
  intro b p
  exact hk b p

theorem HandleOK.write {I : World → Prop} {h : WHandle} (hk : HandleOK I h) (bs : Bytes) :
    Preserves I (h.write bs) := by
  have := (hk h.buf h.pos).1 bs
  simpa using this

theorem HandleOK.flush {I : World → Prop} {h : WHandle} (hk : HandleOK I h) :
    Preserves I h.flush := by
  have := (hk h.buf h.pos).2
  simpa using this

theorem HandleOK.drop {I : World → Prop} {h : WHandle} (hk : HandleOK I h) :
    Preserves I h.drop := hk.flush

theorem HandleOK.writeAllAndDrop {I : World → Prop} {h : WHandle} (hk : HandleOK I h) (bs : Bytes) :
    Preserves I (h.writeAllAndDrop bs) := by
  unfold WHandle.writeAllAndDrop
  apply Preserves.bindQ (fun r => HandleOK I r.2) (hk.write bs)
  · refine ⟨fun w r he => ?_⟩
    obtain ⟨n, h'⟩ := r
    obtain ⟨buf, pos, rfl⟩ := WHandle.write_same h bs w n h' he
    exact hk.of_same buf pos
  · intro r hr
    exact hr.drop

/-- what a write handle may do, independent of its buffer and position -/
def Spec.HandleOK (S : Spec) (h : WHandle) : Prop :=
  ∀ buf pos, (∀ bs, S.Sat (({ h with buf := buf, pos := pos } : WHandle).write bs)) ∧
    S.Sat (({ h with buf := buf, pos := pos } : WHandle).flush)

namespace Spec.HandleOK
variable {S : Spec} {h : WHandle}

theorem write (hk : S.HandleOK h) (bs : Bytes) : S.Sat (h.write bs) := by
  have := (hk h.buf h.pos).1 bs
  simpa using this

theorem flush (hk : S.HandleOK h) : S.Sat h.flush := by
  have := (hk h.buf h.pos).2
  simpa using this

theorem drop (hk : S.HandleOK h) : S.Sat h.drop := hk.flush

theorem write_ret (hk : S.HandleOK h) (bs : Bytes) :
    Returns (h.write bs) (fun r => S.HandleOK r.2) := by
  refine ⟨fun w r he => ?_⟩
  obtain ⟨n, h'⟩ := r
  obtain ⟨buf, pos, rfl⟩ := WHandle.write_same h bs w n h' he
  exact fun b p => hk b p

end Spec.HandleOK

/-- "the world is `w`" -/
abbrev Spec.fixedAt (w : World) : Spec := .preserves (· = w)

theorem HandleOK.sat {I : World → Prop} {h : WHandle} (hk : HandleOK I h) :
    (Spec.preserves I).HandleOK h :=
  fun b p => ⟨fun bs => ((hk b p).1 bs).sat, (hk b p).2.sat⟩

theorem HandleOK.of_sat {I : World → Prop} {h : WHandle} (hk : (Spec.preserves I).HandleOK h) :
    HandleOK I h :=
  fun b p => ⟨fun bs => .of_sat ((hk b p).1 bs), .of_sat (hk b p).2⟩

/-- what `write` returns is again a handle that preserves `I` -/
theorem HandleOK.write_ret {I : World → Prop} {h : WHandle} (hk : HandleOK I h) (bs : Bytes) :
    Returns (h.write bs) (fun r => HandleOK I r.2) :=
  (hk.sat.write_ret bs).mono (fun _ => .of_sat)

/-- the write handle returned by `seek` differs only in its position -/
theorem WHandle.seek_same (h : WHandle) (s : SeekFrom) (w : World) (n : Nat) (h' : WHandle)
    (he : (h.seek s w).1 = .ok (n, h')) : ∃ buf pos, h' = { h with buf := buf, pos := pos } := by
  rw [WHandle.seek_eq] at he
  cases hc : cursorSeek (h.fileLen w) h.pos s <;> rw [hc] at he <;> simp only [Res.map] at he
  · exact ⟨h.buf, _, (Prod.mk.inj (Res.ok.inj he)).2.symm⟩
  · cases he
  · cases he

/-- what `seek` returns is again a handle that preserves `I` -/
theorem HandleOK.seek_ret {I : World → Prop} {h : WHandle} (hk : HandleOK I h) (s : SeekFrom) :
    Returns (h.seek s) (fun r => HandleOK I r.2) := by
  refine ⟨fun w r he => ?_⟩
  obtain ⟨n, h'⟩ := r
  obtain ⟨buf, pos, rfl⟩ := WHandle.seek_same h s w n h' he
  exact hk.of_same buf pos

/-- every method of the filesystem preserves `I`, and so do the handles it hands out -/
structure FS.AllPreserve (I : World → Prop) (fs : FS) : Prop where
  readDir : ∀ p, Preserves I (fs.readDir p)
  createDir : ∀ p, Preserves I (fs.createDir p)
  openFile : ∀ p, Preserves I (fs.openFile p)
  createFile : ∀ p, Preserves I (fs.createFile p)
  appendFile : ∀ p, Preserves I (fs.appendFile p)
  metadata : ∀ p, Preserves I (fs.metadata p)
  setCreationTime : ∀ p t, Preserves I (fs.setCreationTime p t)
  setModificationTime : ∀ p t, Preserves I (fs.setModificationTime p t)
  setAccessTime : ∀ p t, Preserves I (fs.setAccessTime p t)
  exists_ : ∀ p, Preserves I (fs.exists_ p)
  removeFile : ∀ p, Preserves I (fs.removeFile p)
  removeDir : ∀ p, Preserves I (fs.removeDir p)
  copyFile : ∀ s d, Preserves I (fs.copyFile s d)
  moveFile : ∀ s d, Preserves I (fs.moveFile s d)
  moveDir : ∀ s d, Preserves I (fs.moveDir s d)
  createHandle : ∀ p, Returns (fs.createFile p) (HandleOK I)
  appendHandle : ∀ p, Returns (fs.appendFile p) (HandleOK I)

/-- the four observers of the filesystem preserve `I` -/
structure FS.ObsPreserve (I : World → Prop) (fs : FS) : Prop where
  readDir : ∀ p, Preserves I (fs.readDir p)
  openFile : ∀ p, Preserves I (fs.openFile p)
  metadata : ∀ p, Preserves I (fs.metadata p)
  exists_ : ∀ p, Preserves I (fs.exists_ p)

theorem FS.AllPreserve.obs {I : World → Prop} {fs : FS} (h : fs.AllPreserve I) : fs.ObsPreserve I :=
  ⟨h.readDir, h.openFile, h.metadata, h.exists_⟩

/-- every method of the filesystem meets `S`, and so do the handles it hands out -/
structure Spec.All (S : Spec) (fs : FS) : Prop where
  readDir : ∀ p, S.Sat (fs.readDir p)
  createDir : ∀ p, S.Sat (fs.createDir p)
  openFile : ∀ p, S.Sat (fs.openFile p)
  createFile : ∀ p, S.Sat (fs.createFile p)
  appendFile : ∀ p, S.Sat (fs.appendFile p)
  metadata : ∀ p, S.Sat (fs.metadata p)
  setCreationTime : ∀ p t, S.Sat (fs.setCreationTime p t)
  setModificationTime : ∀ p t, S.Sat (fs.setModificationTime p t)
  setAccessTime : ∀ p t, S.Sat (fs.setAccessTime p t)
  exists_ : ∀ p, S.Sat (fs.exists_ p)
  removeFile : ∀ p, S.Sat (fs.removeFile p)
  removeDir : ∀ p, S.Sat (fs.removeDir p)
  copyFile : ∀ s d, S.Sat (fs.copyFile s d)
  moveFile : ∀ s d, S.Sat (fs.moveFile s d)
  moveDir : ∀ s d, S.Sat (fs.moveDir s d)
  createHandle : ∀ p, Returns (fs.createFile p) S.HandleOK
  appendHandle : ∀ p, Returns (fs.appendFile p) S.HandleOK

/-- the four observers of the filesystem meet `S` -/
structure Spec.Obs (S : Spec) (fs : FS) : Prop where
  readDir : ∀ p, S.Sat (fs.readDir p)
  openFile : ∀ p, S.Sat (fs.openFile p)
  metadata : ∀ p, S.Sat (fs.metadata p)
  exists_ : ∀ p, S.Sat (fs.exists_ p)

theorem Spec.All.obs {S : Spec} {fs : FS} (h : S.All fs) : S.Obs fs :=
  ⟨h.readDir, h.openFile, h.metadata, h.exists_⟩

/-- the placeholder filesystem (every method `NotSupported`) -/
theorem Spec.All.default {S : Spec} [S.May (.err .notSupported)] : S.All (default : FS) where
  readDir _ := .failK _
  createDir _ := .failK _
  openFile _ := .failK _
  createFile _ := .failK _
  appendFile _ := .failK _
  metadata _ := .failK _
  setCreationTime _ _ := .failK _
  setModificationTime _ _ := .failK _
  setAccessTime _ _ := .failK _
  exists_ _ := .failK _
  removeFile _ := .failK _
  removeDir _ := .failK _
  copyFile _ _ := .failK _
  moveFile _ _ := .failK _
  moveDir _ _ := .failK _
  createHandle _ := Returns.failK _
  appendHandle _ := Returns.failK _

theorem FS.ObsPreserve.sat {I : World → Prop} {fs : FS} (h : fs.ObsPreserve I) :
    (Spec.preserves I).Obs fs :=
  ⟨fun p => (h.readDir p).sat, fun p => (h.openFile p).sat, fun p => (h.metadata p).sat,
   fun p => (h.exists_ p).sat⟩

theorem FS.ObsPreserve.of_sat {I : World → Prop} {fs : FS} (h : (Spec.preserves I).Obs fs) :
    fs.ObsPreserve I :=
  ⟨fun p => .of_sat (h.readDir p), fun p => .of_sat (h.openFile p), fun p => .of_sat (h.metadata p),
   fun p => .of_sat (h.exists_ p)⟩

theorem FS.AllPreserve.sat {I : World → Prop} {fs : FS} (h : fs.AllPreserve I) :
    (Spec.preserves I).All fs where
  readDir p := (h.readDir p).sat
  createDir p := (h.createDir p).sat
  openFile p := (h.openFile p).sat
  createFile p := (h.createFile p).sat
  appendFile p := (h.appendFile p).sat
  metadata p := (h.metadata p).sat
  setCreationTime p t := (h.setCreationTime p t).sat
  setModificationTime p t := (h.setModificationTime p t).sat
  setAccessTime p t := (h.setAccessTime p t).sat
  exists_ p := (h.exists_ p).sat
  removeFile p := (h.removeFile p).sat
  removeDir p := (h.removeDir p).sat
  copyFile s d := (h.copyFile s d).sat
  moveFile s d := (h.moveFile s d).sat
  moveDir s d := (h.moveDir s d).sat
  createHandle p := (h.createHandle p).mono (fun _ => HandleOK.sat)
  appendHandle p := (h.appendHandle p).mono (fun _ => HandleOK.sat)

theorem FS.AllPreserve.of_sat {I : World → Prop} {fs : FS} (h : (Spec.preserves I).All fs) :
    fs.AllPreserve I where
  readDir p := .of_sat (h.readDir p)
  createDir p := .of_sat (h.createDir p)
  openFile p := .of_sat (h.openFile p)
  createFile p := .of_sat (h.createFile p)
  appendFile p := .of_sat (h.appendFile p)
  metadata p := .of_sat (h.metadata p)
  setCreationTime p t := .of_sat (h.setCreationTime p t)
  setModificationTime p t := .of_sat (h.setModificationTime p t)
  setAccessTime p t := .of_sat (h.setAccessTime p t)
  exists_ p := .of_sat (h.exists_ p)
  removeFile p := .of_sat (h.removeFile p)
  removeDir p := .of_sat (h.removeDir p)
  copyFile s d := .of_sat (h.copyFile s d)
  moveFile s d := .of_sat (h.moveFile s d)
  moveDir s d := .of_sat (h.moveDir s d)
  createHandle p := (h.createHandle p).mono (fun _ => HandleOK.of_sat)
  appendHandle p := (h.appendHandle p).mono (fun _ => HandleOK.of_sat)

end Vfs
