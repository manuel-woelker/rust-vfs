/-
  Confinement as a frame for overlays over re-rooted memory leaves: the simulations of
  Props/C07Subtree.lean (altroot layers) and Props/C09Subdir.lean (sub-directory layers used
  directly) for the relation `RFA spec m0`, i.e. `RSub spec` together with the invariant
  `OutsideAll spec m0 w` of the left world: for every leaf `i` with `spec i = .sub P`, leaf `i` of `w`
  is a memory leaf that agrees with `m0 i` on every key that is not at or below `P`
  (`stripP P k = none`). `Outside` (Proofs/SubtreeSim.lean) is the invariant for one leaf; an overlay
  with several layers needs all re-rooted leaves at once.

  The sub-tree simulation holds for every relation that survives a write touching one key `P ++ q`
  of a re-rooted leaf (`SubRel`, Proofs/SubtreeSim.lean); such a write keeps every key that
  `stripP P` rejects (`Outside.step`), so `RFA spec m0` is one (`subRel_outsideAll`), and every run
  of every method (and, by Proofs/Sim.lean, of every `VfsPath` operation) keeps all keys outside the
  `P_k` in every layer leaf. `outsideAll_init`: the invariant holds initially with
  `m0 := filesOf w1`. Hypotheses: `SubSpec`; for altroot layers pairwise distinct layer identities.
  Not proved: physical leaves.
-/
import VfsModel.Props.C09Subdir
namespace Vfs.Frm
open Vfs

def OutsideAll (spec : Nat → Role) (m0 : Nat → FMap) (w : World) : Prop :=
  ∀ i P, spec i = .sub P → Outside i P (m0 i) w

section all
variable {spec : Nat → Role} {m0 : Nat → FMap}

def filesOf (w : World) : Nat → FMap := fun i => ((w.leaf? i).map (·.files)).getD []

theorem outsideAll_init {w1 w2 : World} (hr : RSub spec w1 w2) :
    OutsideAll spec (filesOf w1) w1 := by
  intro i P hi
  obtain ⟨m1, a1, _, _⟩ := hr.leafAt hi
  have : filesOf w1 i = m1 := by
    unfold filesOf; unfold MemLeafAt at a1; rw [a1]; rfl
  rw [this]
  exact Outside.init a1

def RFA (spec : Nat → Role) (m0 : Nat → FMap) (w1 w2 : World) : Prop :=
  RSub spec w1 w2 ∧ OutsideAll spec m0 w1

variable (spec m0) in
/-- all re-rooted leaves at once -/
theorem subRel_outsideAll : SubRel spec (RFA spec m0) :=
  (subRel_rsub spec).and
    (fun hj h1 hq ht hw i P hi => (hw i P hi).step (fun e => sub_inj hi (e ▸ hj)) h1 hq ht)
    (fun f hj hw i P hi => (hw i P hi).set _ f fun e => by rw [e, hi] at hj; cases hj)

variable (spec m0) in
theorem simHandles_frameAll {PR : Option Str → Option Str → Prop} [ReflPR PR] :
    SimHandles (RFA spec m0) PR (HSub spec) :=
  simHandles_sub (subRel_outsideAll spec m0)

open Vfs.C07 Vfs.C09 in
/-- `C07.overlay_over_subtrees` with the frame -/
theorem overlay_over_subtrees_frame {is idrs ids : List Nat} {Ps : List Str}
    (h : SubSpec spec is idrs ids Ps) (hne : is ≠ []) (hn : ids.Nodup) :
    SimFS (RFA spec m0) PRdrop (HSub spec) (Overlay.fs (altLayers is idrs ids Ps))
      (Overlay.fs (layersN is ids)) :=
  overlay_over_subtrees_of (subRel_outsideAll spec m0) h hne hn

open Vfs.C07 Vfs.C09 in
/-- `C09.overlay_over_subdirs` with the frame -/
theorem overlay_over_subdirs_frame {is idrs ids : List Nat} {Ps : List Str}
    (h : SubSpec spec is idrs ids Ps) (hne : is ≠ []) :
    SimFS (RFA spec m0) PTrue (HSub spec) (Overlay.fs (subLayers is ids Ps))
      (Overlay.fs (layersN is ids)) :=
  overlay_over_subdirs_of (subRel_outsideAll spec m0) h hne

end all

end Vfs.Frm
