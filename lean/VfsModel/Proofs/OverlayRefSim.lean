/-
  The refinement of Props/C09Refine.lean packaged as a two-world simulation, for
  Props/C11OverlayTree.lean.

  `RO u idu is ids r mu ms a w1 w2`: world `w1` holds an overlay over n ≥ 1 in-memory layers (`OSt`:
  `OWN w1 (u :: is) (idu :: ids) (mu :: ms)`, `OInv`, `ViewWF`), world `w2` holds one memory leaf `r`
  with the map `a`, and `a` is a reference tree of the overlay's view (`C09.Refines`: well-formed,
  canonical keys outside ".whiteout", same type and bytes as the view on every visible path). The
  overlay is `Overlay.fs (layersN (u :: is) (idu :: ids))`, the reference filesystem `leafFS r`;
  `id`, `id'` are arbitrary `Arc` identities. Paths obey `OpPath` / `OpOK`, and `remove_file` is not
  called on a directory of the view (`O3Free`: finding O3).

  Not compared: timestamps, the order of listings, and for the mutators anything beyond success /
  failure and the file-exists / dir-exists answers of `create_dir` (the overlay answers `Other`
  where the leaf may answer differently). Not covered: `open_file` / bare `create_file` handles
  across calls (only closed sessions); paths outside the discipline (".whiteout", "..").
-/
import VfsModel.Props.C01Overlay
import VfsModel.Proofs.OverlayCompositeLemmas
namespace Vfs.C11
open Vfs Vfs.Overlay Vfs.C02 Vfs.C01 Vfs.C09 Vfs.C05

structure RO (u idu : Nat) (is ids : List Nat) (r : Nat) (mu : FMap) (ms : List FMap) (a : FMap)
    (w1 w2 : World) : Prop where
  st : OSt u idu is ids ms w1 mu
  leaf : MemLeafAt w2 r a
  ref : Refines (oview (mu :: ms)) a

theorem vcore_congr_core {e1 e2 : Entry} (h : core e1 = core e2) : vcore e1 = vcore e2 := by
  have hft : e1.ftype = e2.ftype := congrArg Prod.fst h
  by_cases hd : e1.ftype = .dir
  · rw [vcore_dir hd, vcore_dir (hft ▸ hd)]
  · have hf1 : e1.ftype = .file := by
      cases hx : e1.ftype with
      | file => rfl
      | dir => exact absurd hx hd
    have hf2 : e2.ftype = .file := hft ▸ hf1
    rw [vcore_file hf1, vcore_file hf2]
    have hc : e1.content = e2.content := congrArg Prod.snd h
    rw [hc]

theorem _root_.Vfs.C09.Refines.of_coreEq {v : View} {a b : FMap} (hb : Refines v b) (hc : CoreEq a b) (ha : WF a) :
    Refines v a := by
  refine ⟨ha, ?_, ?_⟩
  · intro k e hk
    have h := hc k
    rw [hk] at h
    cases hbk : b.find? k with
    | none => rw [hbk] at h; cases h
    | some e' => exact hb.keys k e' hbk
  · intro q hq
    rw [hb.same q hq]
    show (b.find? q).map vcore = (a.find? q).map vcore
    have h := hc q
    cases h1 : a.find? q <;> cases h2 : b.find? q <;> rw [h1, h2] at h <;>
      simp only [Option.map_some, Option.map_none, Option.some.injEq, reduceCtorEq] at h ⊢
    exact (vcore_congr_core h).symm

/-- what is present in a reference tree is what the view shows (at a visible path) -/
theorem _root_.Vfs.C09.Refines.contains {v : View} {a : FMap} (h : Refines v a) {q : Str}
    (hq : Vis q) : a.contains q = (v q).isSome := by
  have := congrArg Option.isSome (h.same q hq)
  rw [Option.isSome_map, Option.isSome_map] at this
  exact this.symm

section observers
variable {u idu : Nat} {is ids : List Nat} {r : Nat} {mu : FMap} {ms : List FMap} {a : FMap}
  {w1 w2 : World} (ro : RO u idu is ids r mu ms a w1 w2) (id id' : Nat)
include ro

/-- `exists`: the same answer, both worlds unchanged -/
theorem ro_exists {cs : List Str} (hp : OpPath cs) :
    ∃ b, VPath.exists_ ⟨Overlay.fs (layersN (u :: is) (idu :: ids)), id, renderC cs⟩ w1 = (.ok b, w1) ∧
      VPath.exists_ ⟨leafFS r, id', renderC cs⟩ w2 = (.ok b, w2) := by
  refine ⟨(oview (mu :: ms) (renderC cs)).isSome, o_exists ro.st id hp, ?_⟩
  rw [← ro.ref.contains hp.vis]
  exact run_vexists ro.leaf id' _

/-- two `metadata` answers up to timestamps -/
def MetaSame : Res Meta → Res Meta → Prop
  | .ok m1, .ok m2 => m1.ftype = m2.ftype ∧ (m1.ftype = .file → m1.len = m2.len)
  | .err k1 _, .err k2 _ => k1 = k2
  | _, _ => False

/-- `metadata`: same type, same length for files, or the same error kind; worlds unchanged -/
theorem ro_metadata {cs : List Str} (hp : OpPath cs) :
    ∃ r1 r2, VPath.metadata ⟨Overlay.fs (layersN (u :: is) (idu :: ids)), id, renderC cs⟩ w1 = (r1, w1) ∧
      VPath.metadata ⟨leafFS r, id', renderC cs⟩ w2 = (r2, w2) ∧ MetaSame r1 r2 := by
  have h := ro.ref.same _ hp.vis
  simp only [mview_apply] at h
  have hleaf : VPath.metadata ⟨leafFS r, id', renderC cs⟩ w2
      = ((Mem.metadata a (renderC cs)).withPath (renderC cs), w2) := run_vmetadata ro.leaf _ rfl
  cases h1 : oview (mu :: ms) (renderC cs) with
  | none =>
    cases h2 : a.find? (renderC cs) with
    | some e2 => rw [h1, h2] at h; cases h
    | none =>
      refine ⟨_, _, o_metadata_absent ro.st id hp h1, hleaf, ?_⟩
      simp [Mem.metadata, h2, fail, Res.withPath, MetaSame]
  | some e1 =>
    cases h2 : a.find? (renderC cs) with
    | none => rw [h1, h2] at h; cases h
    | some e2 =>
      rw [h1, h2] at h
      simp only [Option.map_some, Option.some.injEq] at h
      refine ⟨_, _, o_metadata ro.st id hp h1, hleaf, ?_⟩
      have hft : e1.ftype = e2.ftype := ftype_of_vcore h
      simp only [Mem.metadata, h2, Res.withPath, MetaSame, Entry.meta]
      exact ⟨hft, fun hf => congrArg List.length (content_of_vcore h (hft ▸ hf))⟩

/-- `read_dir` on a directory of the view: both succeed; the listings have the same members (the
order is not compared); the children are `p/n` on both sides; worlds unchanged -/
theorem ro_readDir {cs : List Str} (hp : OpPath cs)
    (hd : VIsDir (oview (mu :: ms)) (renderC cs)) :
    ∃ l1 l2 : List Str,
      VPath.readDir ⟨Overlay.fs (layersN (u :: is) (idu :: ids)), id, renderC cs⟩ w1
        = (.ok (l1.map fun n => (⟨Overlay.fs (layersN (u :: is) (idu :: ids)), id,
            renderC cs ++ '/' :: n⟩ : VPath)), w1) ∧
      VPath.readDir ⟨leafFS r, id', renderC cs⟩ w2
        = (.ok (l2.map fun n => (⟨leafFS r, id', renderC cs ++ '/' :: n⟩ : VPath)), w2) ∧
      (∀ n, n ∈ l1 ↔ n ∈ l2) ∧
      (∀ n, n ∈ l1 ↔ ('/' ∉ n ∧ oview (mu :: ms) (renderC cs ++ '/' :: n) ≠ none)) := by
  have hda : VIsDir (mview a) (renderC cs) := (isDir_of_vcore (ro.ref.same _ hp.vis)).1 hd
  obtain ⟨e, he, hdir⟩ := hda
  simp only [mview_apply] at he
  refine ⟨pListingN (mu :: ms) (renderC cs), a.keys.filterMap (childName (renderC cs)),
    o_readDir ro.st id hp hd, ?_, ?_, fun n => o_listing_mem ro.st hp n⟩
  · exact run_vreadDir_dir ro.leaf id' _ e he hdir
  · intro n
    have hvis : Vis (renderC cs ++ '/' :: n) :=
      Or.inr (NR_child hp.ne (good_noSlash hp.good) hp.head n)
    rw [o_listing_mem ro.st hp n, mem_children, ro.ref.contains hvis, Option.ne_none_iff_isSome]

end observers

theorem vstep_leaf {w : World} {r : Nat} {a : FMap} (h : MemLeafAt w r a) (id : Nat) (op : Mut) :
    vstep (leafFS r) id op w = ((stepMem a op).1, w.setLeafFiles r (stepMem a op).2) := by
  cases op with
  | createDir p => exact run_pCreateDir h id p
  | write p bs => exact run_pWrite h id p bs
  | append p bs => exact run_pAppend h id p bs
  | removeFile p => exact run_pRemoveFile h id p
  | removeDir p => exact run_pRemoveDir h id p

section mutators
variable {u idu : Nat} {is ids : List Nat} {r : Nat} {mu : FMap} {ms : List FMap} {a : FMap}
  {w1 w2 : World} (ro : RO u idu is ids r mu ms a w1 w2) (id id' : Nat)
include ro

/-- one call of `create_dir`, write session, append session, `remove_file` or `remove_dir` at the
`VfsPath` level (`C01.vstep`) on both sides: same success / failure, no panic, the reference leaf
now holds `stepMem a op`, and the two worlds are related again -/
theorem ro_step (op : Mut) (hop : OpOK op) (hd3 : O3Free (oview (mu :: ms)) op) :
    ∃ mu' ms',
      RO u idu is ids r mu' ms' (stepMem a op).2
        (vstep (Overlay.fs (layersN (u :: is) (idu :: ids))) id op w1).2
        (vstep (leafFS r) id' op w2).2 ∧
      LowerSame ms ms' ∧
      SameOutcome (vstep (Overlay.fs (layersN (u :: is) (idu :: ids))) id op w1).1
        (vstep (leafFS r) id' op w2).1 ∧
      VContract (oview (mu :: ms)) op
        (vstep (Overlay.fs (layersN (u :: is) (idu :: ids))) id op w1).1 (oview (mu' :: ms')) ∧
      vstep (leafFS r) id' op w2 = ((stepMem a op).1, w2.setLeafFiles r (stepMem a op).2) := by
  obtain ⟨r1, w1', mu', ms', hrun, hown, hls, _, inv', hv', hc, _, _⟩ :=
    vpath_overlay_contractN ro.st.own ro.st.inv ro.st.vwf id op hop hd3
  obtain ⟨hso, _, _, href'⟩ := refines_step ro.ref hop hc
  obtain ⟨hmp, hce, hwf⟩ := step_agree ro.ref.wf (CoreEq.refl a) op (opOK_abs hop)
  have hleaf := vstep_leaf ro.leaf id' op
  refine ⟨mu', ms', ?_, hls, ?_, ?_, hleaf⟩
  · rw [hrun, hleaf]
    exact ⟨⟨hown, inv', hv'⟩, ro.leaf.set _, href'.of_coreEq hce hwf⟩
  · rw [hrun, hleaf]
    exact ⟨hso.1.trans hmp.1.symm, hso.2.1, hmp.2.1⟩
  · rw [hrun]; exact hc

/-- `create_dir` on an occupied path (parent a directory): the same named error on both sides,
file-exists over a file, dir-exists over a directory -/
theorem ro_createDir_kinds (q : Str) (hop : OpOK (.createDir q))
    (hpar : IsDir a (parentInternal q)) :
    (IsFile a q →
      (vstep (Overlay.fs (layersN (u :: is) (idu :: ids))) id (.createDir q) w1).1.kind?
          = some .fileExists ∧
        (vstep (leafFS r) id' (.createDir q) w2).1.kind? = some .fileExists) ∧
    (IsDir a q →
      (vstep (Overlay.fs (layersN (u :: is) (idu :: ids))) id (.createDir q) w1).1.kind?
          = some .dirExists ∧
        (vstep (leafFS r) id' (.createDir q) w2).1.kind? = some .dirExists) := by
  obtain ⟨r1, w1', mu', ms', hrun, _, _, _, _, _, hc, _, _⟩ :=
    vpath_overlay_contractN ro.st.own ro.st.inv ro.st.vwf id (.createDir q) hop
      (by intro p hp; cases hp)
  obtain ⟨_, _, hocc, _⟩ := refines_step ro.ref hop hc
  have hnamed : SameNamedClass (stepMem a (.createDir q)).1 (stepPhys a (.createDir q)).1 :=
    (createDir_agree ro.ref.wf (CoreEq.refl a) q (opOK_abs hop)).2.1
  have hleaf := vstep_leaf ro.leaf id' (.createDir q)
  rw [hrun, hleaf]
  obtain ⟨hf, hd⟩ := hocc q rfl hpar
  exact ⟨fun h => ⟨(hf h).1, hnamed _ (hf h).2 (Or.inr (Or.inl rfl))⟩,
    fun h => ⟨(hd h).1, hnamed _ (hd h).2 (Or.inr (Or.inr rfl))⟩⟩

end mutators

/-- the O3 discipline along a history, read off the reference leaf's own run (`stepMem`) -/
def MemO3Free : List Mut → FMap → Prop
  | [], _ => True
  | op :: rest, m => o3ok m op ∧ MemO3Free rest (stepMem m op).2

instance : (ops : List Mut) → (m : FMap) → Decidable (MemO3Free ops m)
  | [], _ => isTrue trivial
  | op :: rest, m =>
    have := instDecidableMemO3Free rest (stepMem m op).2
    by unfold MemO3Free; exact inferInstance

def runMem : List Mut → FMap → List (Res Unit) × FMap
  | [], m => ([], m)
  | op :: rest, m =>
    ((stepMem m op).1 :: (runMem rest (stepMem m op).2).1, (runMem rest (stepMem m op).2).2)

/-- every finite history of such calls (`C01.runV`) on both sides: call by call the same success /
failure, no panic on either side, the worlds related at the end; the reference leaf holds
`runMem ops a` -/
theorem ro_history (ops : List Mut) (hops : ∀ op ∈ ops, OpOK op)
    {u idu : Nat} {is ids : List Nat} {r : Nat} {mu : FMap} {ms : List FMap} {a : FMap}
    {w1 w2 : World} (ro : RO u idu is ids r mu ms a w1 w2) (id id' : Nat)
    (hdisc : MemO3Free ops a) :
    ∃ mu' ms',
      RO u idu is ids r mu' ms' (runMem ops a).2
        (runV (Overlay.fs (layersN (u :: is) (idu :: ids))) id ops w1).2
        (runV (leafFS r) id' ops w2).2 ∧
      LowerSame ms ms' ∧
      (runV (Overlay.fs (layersN (u :: is) (idu :: ids))) id ops w1).1.map Res.isOk
        = (runV (leafFS r) id' ops w2).1.map Res.isOk ∧
      (∀ x ∈ (runV (Overlay.fs (layersN (u :: is) (idu :: ids))) id ops w1).1, x ≠ .panic) ∧
      (∀ x ∈ (runV (leafFS r) id' ops w2).1, x ≠ .panic) ∧
      (runV (leafFS r) id' ops w2).1 = (runMem ops a).1 := by
  induction ops generalizing w1 w2 mu ms a with
  | nil =>
    exact ⟨mu, ms, ro, LowerSame.refl ms, rfl, by simp [runV], by simp [runV], rfl⟩
  | cons op rest ih =>
    have hop := hops op (by simp)
    have hd3 : O3Free (oview (mu :: ms)) op := by
      intro p hp hd
      subst hp
      exact hdisc.1 ((isDir_of_vcore (ro.ref.same _ (opOK_vis hop))).1 hd)
    obtain ⟨mu1, ms1, ro1, hls1, hso, _, hleaf⟩ := ro_step ro id id' op hop hd3
    obtain ⟨mu', ms', ro', hls', hoks, hnp1, hnp2, hmem⟩ :=
      ih (fun o ho => hops o (by simp [ho])) ro1 hdisc.2
    have hl1 : (vstep (leafFS r) id' op w2).1 = (stepMem a op).1 := by rw [hleaf]
    simp only [runV, runMem]
    refine ⟨mu', ms', ro', hls1.trans hls', ?_, ?_, ?_, ?_⟩
    · simp only [List.map_cons, hso.1, hoks]
    · intro x hx
      rcases List.mem_cons.1 hx with rfl | hx
      · exact hso.2.1
      · exact hnp1 x hx
    · intro x hx
      rcases List.mem_cons.1 hx with rfl | hx
      · exact hso.2.2
      · exact hnp2 x hx
    · rw [hl1, hmem]

end Vfs.C11

section audit
open Vfs.C11
#print axioms ro_exists
#print axioms ro_metadata
#print axioms ro_readDir
#print axioms ro_step
#print axioms ro_createDir_kinds
#print axioms ro_history
end audit
