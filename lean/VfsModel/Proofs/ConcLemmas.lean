/-
  Helper lemmas about the concurrency model VfsModel/Conc.lean (used by Props/C16, Props/C17):
  * `regionFiles` — the map after one lock region, as an explicit function of the program point;
  * `region_wf`: every region keeps the invariant `WF` (`Mem.createDir` / `Mem.createFile` check
    the parent inside the region: `WF.createDir_any`, `WF.createFile_any` in Proofs/MemPath);
    `region_closed`: every region keeps what every state change of a memory leaf keeps
    (`Stk.MemClosed`, Proofs/StackLemmas);
  * `stepThread_induction`: the four moves a scheduled thread is made of (a call begins, a call
    without a region completes at once, a region continues its call, a region completes it);
  * `callAtomic` (a whole call run atomically) one region at a time (`go_inl`, `go_inr`), and the
    `get_parent` probe in front of `create_dir` / `create_file`: with the parent a directory
    (`ParentDir`) both probes pass and change nothing (`gp_ok`, `atomic_gp_ok`), without one the
    probe, the atomic call and the last region all fail (`gp_fail`, `atomic_gp_fail`,
    `region_create_noparent`);
  * bookkeeping of `step` / `run` on the thread list;
  * `stepThread_keeps`, `step_keeps`, `run_keeps`: what every region keeps at admissible points, a
    scheduled thread, a step of the system and every schedule keep; `run_closed`: what is
    `Stk.MemClosed` holds of the shared map under every schedule.
-/
import VfsModel.Conc
import VfsModel.Proofs.StackLemmas
namespace Vfs.Conc
open Vfs

/-- the shared map after the region at program point `pt` has run on `m` -/
def regionFiles (m : FMap) : Pt → FMap
  | .cdCreate p => (Mem.createDir m p).2
  | .cfCreate p _ => (Mem.createFile m p).2
  | .flush h => memPublish m h.key h.buf
  | .rmFile p => (Mem.removeFile m p).2
  | .rmDir p => (Mem.removeDir m p).2
  | .obsOpen p => (Mem.openFile m p).2
  | .cdaLoop (d :: _) => (Mem.createDir m d).2
  | _ => m

theorem region_files (m : FMap) (pt : Pt) : (region m pt).files = regionFiles m pt := by
  cases pt with
  | cdaLoop l =>
    cases l with
    | nil => rfl
    | cons d rest => simp only [region, regionFiles]; split <;> simp only [*]
  | gpExists p f s => simp only [region, regionFiles]; split <;> rfl
  | gpMeta p f s =>
    simp only [region, regionFiles]
    split
    · split <;> rfl
    · rfl
  | cfCreate p s =>
    simp only [region, regionFiles]
    split
    · split <;> simp only [*]
    · simp only [*]
  | apOpen p s =>
    simp only [region, regionFiles]
    split
    · split <;> rfl
    · rfl
  | obsMeta p => simp only [region, regionFiles]; split <;> rfl
  | obsReadDir p => simp only [region, regionFiles]; split <;> rfl
  | flush h => rfl
  | obsExists p => rfl
  | cdCreate p => simp only [region, regionFiles]; split <;> simp only [*]
  | rmFile p => simp only [region, regionFiles]; split <;> simp only [*]
  | rmDir p => simp only [region, regionFiles]; split <;> simp only [*]
  | obsOpen p => simp only [region, regionFiles]; split <;> simp only [*]

/-- program points other than "remove_dir of the root" -/
def PtOk : Pt → Prop
  | .rmDir p => p ≠ []
  | _ => True

/-- every region keeps the tree well-formed (removal of the root itself aside) -/
theorem region_wf {m : FMap} (h : WF m) (pt : Pt) (hpt : PtOk pt) : WF (region m pt).files := by
  rw [region_files]
  cases pt with
  | cdaLoop l =>
    cases l with
    | nil => exact h
    | cons d rest => exact h.createDir_any d
  | cdCreate p => exact h.createDir_any p
  | cfCreate p s => exact h.createFile_any p
  | flush wh => exact h.memPublish_any wh.key wh.buf
  | rmFile p => exact h.pRemoveFile p
  | rmDir p => exact h.pRemoveDir p hpt
  | obsOpen p => exact h.openFile p
  | gpExists p f s => exact h
  | gpMeta p f s => exact h
  | apOpen p s => exact h
  | obsExists p => exact h
  | obsMeta p => exact h
  | obsReadDir p => exact h

/-- A region is one state change of a memory leaf (a raw method of MemoryFS or the publication of a
write buffer) or none, so what all of those keep (`Stk.MemClosed`: "well-formed or emptied",
"stays empty", …) every region keeps, `remove_dir` of the root included. -/
theorem region_closed {P : Nat → FMap → Prop} (hP : Stk.MemClosed P) (i : Nat) {m : FMap}
    (h : P i m) (pt : Pt) : P i (region m pt).files := by
  rw [region_files]
  cases pt with
  | cdaLoop l =>
    cases l with
    | nil => exact h
    | cons d rest => exact hP.createDir i m d h
  | cdCreate p => exact hP.createDir i m p h
  | cfCreate p s => exact hP.createFile i m p h
  | flush wh => exact hP.memPublish i m wh.key wh.buf h
  | rmFile p => exact hP.removeFile i m p h
  | rmDir p => exact hP.removeDir i m p h
  | obsOpen p => exact hP.openFile i m p h
  | _ => exact h

/-- the regions that continue their call, and the point at which they continue it -/
theorem region_next_inl (m : FMap) (pt pt' : Pt) (h : (region m pt).next = .inl pt') :
    (∃ p f s, pt = .gpExists p f s ∧ pt' = .gpMeta p f s) ∨
    (∃ p f s, pt = .gpMeta p f s ∧ pt' = if f then .cfCreate p s else .cdCreate p) ∨
    (∃ p bs wh, pt = .cfCreate p (some bs) ∧ pt' = .flush wh) ∨
    (∃ p bs wh, pt = .apOpen p (some bs) ∧ pt' = .flush wh) ∨
    (∃ d rest, pt = .cdaLoop (d :: rest) ∧ pt' = .cdaLoop rest) := by
  cases pt with
  | cdaLoop l =>
    cases l with
    | nil => simp [region, okUnit] at h
    | cons d rest =>
      simp only [region] at h
      split at h <;> (try split at h) <;>
        first | (injection h with h; subst h; simp) | (simp [okUnit] at h)
  | _ =>
    simp only [region] at h
    repeat' split at h
    all_goals first | (injection h with h; subst h; simp [*]) | (simp [okUnit] at h)

/-- install the handle slot written by a region -/
def withHandle (t : Thread) : Option (Option WH) → Thread
  | some h => { t with handle := h }
  | none => t

@[simp] theorem withHandle_calls (t : Thread) (h) : (withHandle t h).calls = t.calls := by
  cases h <;> rfl
@[simp] theorem withHandle_cur (t : Thread) (h) : (withHandle t h).cur = t.cur := by
  cases h <;> rfl
@[simp] theorem withHandle_results (t : Thread) (h) : (withHandle t h).results = t.results := by
  cases h <;> rfl
@[simp] theorem withHandle_labels (t : Thread) (h) : (withHandle t h).labels = t.labels := by
  cases h <;> rfl

/-- the thread after its region at `pt` has run, before the outcome is looked at -/
def afterRegion (m : FMap) (t0 : Thread) (pt : Pt) : Thread :=
  withHandle { t0 with labels := t0.labels ++ [pt.label] } (region m pt).handle

@[simp] theorem afterRegion_calls (m t0 pt) : (afterRegion m t0 pt).calls = t0.calls := by
  simp [afterRegion]
@[simp] theorem afterRegion_results (m t0 pt) : (afterRegion m t0 pt).results = t0.results := by
  simp [afterRegion]

/-- what holds of a thread and is kept by the two moves of `settle` (starting a call that has a
region; completing at once a call that has none) holds of the settled thread -/
theorem settle_induction {P : Thread → Prop}
    (hstart : ∀ t c rest pt, P t → t.cur = none → t.calls = c :: rest →
      start t.handle c = .inl pt → P { t with calls := rest, cur := some pt })
    (hskip : ∀ t c rest r, P t → t.cur = none → t.calls = c :: rest →
      start t.handle c = .inr r → P { t with calls := rest, results := t.results ++ [r] })
    (fuel : Nat) (t : Thread) (h : P t) : P (settle fuel t) := by
  induction fuel generalizing t with
  | zero => exact h
  | succ n ih =>
    unfold settle
    split
    · exact h
    · rename_i hcur
      split
      · exact h
      · rename_i c rest hcalls
        split
        · rename_i pt hs; exact hstart t c rest pt h hcur hcalls hs
        · rename_i r hs; exact ih _ (hskip t c rest r h hcur hcalls hs)

theorem stepThread_idle (m : FMap) (t : Thread)
    (h : (settle (t.calls.length + 1) t).cur = none) :
    stepThread m t = (m, settle (t.calls.length + 1) t) := by
  unfold stepThread
  simp only [h]

theorem stepThread_inl (m : FMap) (t : Thread) (pt pt' : Pt)
    (h : (settle (t.calls.length + 1) t).cur = some pt) (hn : (region m pt).next = .inl pt') :
    stepThread m t = ((region m pt).files,
      { afterRegion m (settle (t.calls.length + 1) t) pt with cur := some pt' }) := by
  unfold stepThread
  simp only [h, hn, afterRegion]
  cases (region m pt).handle <;> rfl

theorem stepThread_inr (m : FMap) (t : Thread) (pt : Pt) (r : CRes)
    (h : (settle (t.calls.length + 1) t).cur = some pt) (hn : (region m pt).next = .inr r) :
    stepThread m t = ((region m pt).files,
      settle ((afterRegion m (settle (t.calls.length + 1) t) pt).calls.length + 1)
        { afterRegion m (settle (t.calls.length + 1) t) pt with
          cur := none
          results := (afterRegion m (settle (t.calls.length + 1) t) pt).results ++ [r] }) := by
  unfold stepThread
  simp only [h, hn, afterRegion]
  cases (region m pt).handle <;> rfl

/-- the three ways a scheduled thread can move: nothing left to do; a region that continues the
call; a region that completes the call (then the thread is brought to its next acquisition) -/
theorem stepThread_cases (m : FMap) (t : Thread) :
    ((settle (t.calls.length + 1) t).cur = none ∧
      stepThread m t = (m, settle (t.calls.length + 1) t)) ∨
    (∃ pt, (settle (t.calls.length + 1) t).cur = some pt ∧
      ((∃ pt', (region m pt).next = .inl pt' ∧
          stepThread m t = ((region m pt).files,
            { afterRegion m (settle (t.calls.length + 1) t) pt with cur := some pt' })) ∨
       (∃ r, (region m pt).next = .inr r ∧
          stepThread m t = ((region m pt).files,
            settle ((afterRegion m (settle (t.calls.length + 1) t) pt).calls.length + 1)
              { afterRegion m (settle (t.calls.length + 1) t) pt with
                cur := none
                results := (afterRegion m (settle (t.calls.length + 1) t) pt).results ++ [r] })))) := by
  cases hc : (settle (t.calls.length + 1) t).cur with
  | none => left; exact ⟨rfl, stepThread_idle m t hc⟩
  | some pt =>
    right
    refine ⟨pt, rfl, ?_⟩
    cases hn : (region m pt).next with
    | inl pt' => left; exact ⟨pt', rfl, stepThread_inl m t pt pt' hc hn⟩
    | inr r => right; exact ⟨r, rfl, stepThread_inr m t pt r hc hn⟩

/-- A scheduled thread is made of four moves: a call with a region begins (`hstart`), a call
without any region completes at once (`hskip`), a region continues its call (`hcont`), a region
completes it (`hdone`).  What every move keeps, `stepThread` keeps.  The first two happen before the
region (on `m`) and after it (on the new map), hence for every map. -/
theorem stepThread_induction {P : FMap → Thread → Prop}
    (hstart : ∀ m t c rest pt, P m t → t.cur = none → t.calls = c :: rest →
      start t.handle c = .inl pt → P m { t with calls := rest, cur := some pt })
    (hskip : ∀ m t c rest r, P m t → t.cur = none → t.calls = c :: rest →
      start t.handle c = .inr r → P m { t with calls := rest, results := t.results ++ [r] })
    (hcont : ∀ m t pt pt', P m t → t.cur = some pt → (region m pt).next = .inl pt' →
      P (region m pt).files { afterRegion m t pt with cur := some pt' })
    (hdone : ∀ m t pt r, P m t → t.cur = some pt → (region m pt).next = .inr r →
      P (region m pt).files
        { afterRegion m t pt with cur := none, results := (afterRegion m t pt).results ++ [r] })
    (m : FMap) (t : Thread) (h : P m t) : P (stepThread m t).1 (stepThread m t).2 := by
  have hs : ∀ m fuel t, P m t → P m (settle fuel t) := fun m fuel t h =>
    settle_induction (hstart m) (hskip m) fuel t h
  have h0 := hs m (t.calls.length + 1) t h
  rcases stepThread_cases m t with ⟨_, heq⟩ | ⟨pt, hcur, ⟨pt', hn, heq⟩ | ⟨r, hn, heq⟩⟩
  · rw [heq]; exact h0
  · rw [heq]; exact hcont m _ pt pt' h0 hcur hn
  · rw [heq]; exact hs _ _ _ (hdone m _ pt r h0 hcur hn)

/-- the handle slot after a region -/
def newHandle (h : Option WH) : Option (Option WH) → Option WH
  | some x => x
  | none => h

theorem withHandle_handle (t : Thread) (o : Option (Option WH)) :
    (withHandle t o).handle = newHandle t.handle o := by
  cases o <;> rfl

theorem afterRegion_handle (m : FMap) (t0 : Thread) (pt : Pt) :
    (afterRegion m t0 pt).handle = newHandle t0.handle (region m pt).handle := by
  simp [afterRegion, withHandle_handle]

theorem go_inr (fuel : Nat) (m : FMap) (h : Option WH) (pt : Pt) (r : CRes)
    (hn : (region m pt).next = .inr r) :
    callAtomic.go (fuel + 1) m h pt =
      ((region m pt).files, newHandle h (region m pt).handle, r) := by
  simp only [callAtomic.go, hn, newHandle]
  cases (region m pt).handle <;> rfl

theorem go_inl (fuel : Nat) (m : FMap) (h : Option WH) (pt pt' : Pt)
    (hn : (region m pt).next = .inl pt') :
    callAtomic.go (fuel + 1) m h pt =
      callAtomic.go fuel (region m pt).files (newHandle h (region m pt).handle) pt' := by
  simp only [callAtomic.go, hn, newHandle]
  cases (region m pt).handle <;> rfl

theorem callAtomic_inl (fuel : Nat) (m : FMap) (h : Option WH) (c : COp) (pt : Pt)
    (hs : start h c = .inl pt) : callAtomic fuel m h c = callAtomic.go fuel m h pt := by
  simp only [callAtomic, hs]

theorem callAtomic_inr (fuel : Nat) (m : FMap) (h : Option WH) (c : COp) (r : CRes)
    (hs : start h c = .inr r) : callAtomic fuel m h c = (m, h, r) := by
  simp only [callAtomic, hs]

/-- a `Res Unit` as a call result -/
def toC : Res Unit → CRes
  | .ok _ => .ok .unit
  | _ => .err

/-- the parent of `p` is an existing directory: what `get_parent` probes in two regions and
`ensure_has_parent` checks again inside the region of the update -/
def ParentDir (m : FMap) (p : Str) : Prop :=
  ∃ pe, m.find? (parentInternal p) = some pe ∧ pe.ftype = .dir

theorem region_cdCreate (m : FMap) (p : Str) :
    region m (.cdCreate p) =
      { files := (Mem.createDir m p).2, next := .inr (toC (Mem.createDir m p).1) } := by
  cases hc : Mem.createDir m p with
  | mk r m' => cases r <;> simp [region, hc, toC, okUnit]

/-- the handle slot written by `create_file`: a fresh write handle on success -/
def cfHandle (p : Str) : Res Unit → Option (Option WH)
  | .ok _ => some (some { key := p, buf := [], pos := 0 })
  | _ => none

theorem region_cfCreate_none (m : FMap) (p : Str) :
    region m (.cfCreate p none) =
      { files := (Mem.createFile m p).2, next := .inr (toC (Mem.createFile m p).1),
        handle := cfHandle p (Mem.createFile m p).1 } := by
  cases hc : Mem.createFile m p with
  | mk r m' => cases r <;> simp [region, hc, toC, okUnit, cfHandle]

/-- without a parent directory the last region of `create_dir` (`f = false`) / `create_file`
(`f = true`) fails and changes nothing: `ensure_has_parent` is evaluated inside it -/
theorem region_create_noparent (m : FMap) (p : Str) (f : Bool) (h : ¬ ParentDir m p) :
    region m (if f then .cfCreate p none else .cdCreate p) = { files := m, next := .inr .err } := by
  have hp : Mem.par m p = false := Bool.eq_false_iff.2 fun hp => h ((Mem.par_iff m p).1 hp).2
  cases f
  · show region m (.cdCreate p) = _
    rw [region_cdCreate, Mem.createDir_eq, hp]; rfl
  · show region m (.cfCreate p none) = _
    rw [region_cfCreate_none, Mem.createFile_eq, hp]; rfl

/-- the parent is a directory: both probes of `get_parent` pass, nothing changes -/
theorem gp_ok (m : FMap) (p : Str) (f : Bool) (s : Option Bytes) (h : ParentDir m p) :
    region m (.gpExists p f s) = { files := m, next := .inl (.gpMeta p f s) } ∧
    region m (.gpMeta p f s) =
      { files := m, next := .inl (if f then .cfCreate p s else .cdCreate p) } := by
  obtain ⟨pe, hpe, hpd⟩ := h
  simp [region, FMap.contains, hpe, Mem.metadata, Entry.meta, hpd]

/-- the parent is not a directory: the second probe fails (the first one fails if the parent
does not exist at all), nothing changes -/
theorem gp_fail (m : FMap) (p : Str) (f : Bool) (s : Option Bytes) (h : ¬ ParentDir m p) :
    (region m (.gpExists p f s) = { files := m, next := .inr .err } ∨
     region m (.gpExists p f s) = { files := m, next := .inl (.gpMeta p f s) }) ∧
    region m (.gpMeta p f s) = { files := m, next := .inr .err } := by
  cases hf : m.find? (parentInternal p) with
  | none => simp [region, FMap.contains, hf, Mem.metadata, fail]
  | some e =>
    have : ¬ e.ftype = .dir := fun hd => h ⟨e, hf, hd⟩
    simp [region, FMap.contains, hf, Mem.metadata, Entry.meta, this]

theorem atomic_gp_ok (n : Nat) (m : FMap) (h : Option WH) (p : Str) (f : Bool) (s : Option Bytes)
    (hp : ParentDir m p) :
    callAtomic.go (n + 2) m h (.gpExists p f s) =
      callAtomic.go n m h (if f then .cfCreate p s else .cdCreate p) := by
  obtain ⟨h1, h2⟩ := gp_ok m p f s hp
  rw [go_inl (n + 1) m h _ (.gpMeta p f s) (by rw [h1]), h1]
  simp only [newHandle]
  rw [go_inl n m h _ _ (by rw [h2]), h2]
  simp only [newHandle]

theorem atomic_gp_fail (n : Nat) (m : FMap) (h : Option WH) (p : Str) (f : Bool) (s : Option Bytes)
    (hp : ¬ ParentDir m p) :
    callAtomic.go (n + 2) m h (.gpExists p f s) = (m, h, .err) ∧
    callAtomic.go (n + 1) m h (.gpMeta p f s) = (m, h, .err) := by
  obtain ⟨h1, h2⟩ := gp_fail m p f s hp
  have hmeta : ∀ k, callAtomic.go (k + 1) m h (.gpMeta p f s) = (m, h, .err) := by
    intro k
    rw [go_inr k m h _ .err (by rw [h2]), h2]
    simp only [newHandle]
  refine ⟨?_, hmeta n⟩
  rcases h1 with h1 | h1
  · rw [go_inr (n + 1) m h _ .err (by rw [h1]), h1]
    simp only [newHandle]
  · rw [go_inl (n + 1) m h _ (.gpMeta p f s) (by rw [h1]), h1]
    simp only [newHandle]
    exact hmeta n

theorem step_of_none (s : Sys) (tid : Nat) (h : s.threads[tid]? = none) : step s tid = s := by
  simp [step, h]

theorem step_of_some (s : Sys) (tid : Nat) (t : Thread) (h : s.threads[tid]? = some t) :
    step s tid = { files := (stepThread s.files t).1,
                   threads := s.threads.set tid (stepThread s.files t).2 } := by
  simp [step, h]

@[simp] theorem run_nil (s : Sys) : run s [] = s := rfl
@[simp] theorem run_cons (s : Sys) (tid : Nat) (rest : List Nat) :
    run s (tid :: rest) = run (step s tid) rest := rfl
theorem run_append (s : Sys) (a b : List Nat) : run s (a ++ b) = run (run s a) b := by
  simp [run, List.foldl_append]

/-- an invariant of `step` is an invariant of `run` -/
theorem run_invariant (P : Sys → Prop) (hstep : ∀ s tid, P s → P (step s tid)) (s : Sys)
    (h : P s) (schedule : List Nat) : P (run s schedule) := by
  induction schedule generalizing s with
  | nil => exact h
  | cons tid rest ih => exact ih (step s tid) (hstep s tid h)

/-! ### what every region keeps

A predicate `I` on maps that every region at an admissible point keeps is kept by a scheduled thread,
by every step of the system and under every schedule.  The admissible points `A` contain the first
point of every admissible call (`C`) and are closed under continuation; the threads stay within `C`
and `A`. -/

section keeps
variable (I : FMap → Prop) (C : COp → Prop) (A : Pt → Prop)
  (hstart : ∀ h c pt, C c → start h c = .inl pt → A pt)
  (hnext : ∀ m pt pt', A pt → (region m pt).next = .inl pt' → A pt')
  (hreg : ∀ m pt, I m → A pt → I (region m pt).files)
include hstart hnext hreg

theorem stepThread_keeps (m : FMap) (t : Thread) (hm : I m)
    (ht : (∀ c ∈ t.calls, C c) ∧ ∀ pt, t.cur = some pt → A pt) :
    I (stepThread m t).1 ∧ (∀ c ∈ (stepThread m t).2.calls, C c) ∧
      ∀ pt, (stepThread m t).2.cur = some pt → A pt := by
  refine stepThread_induction
    (P := fun m t => I m ∧ (∀ c ∈ t.calls, C c) ∧ ∀ pt, t.cur = some pt → A pt) ?_ ?_ ?_ ?_ m t ⟨hm, ht⟩
  · rintro m t c rest pt ⟨hi, hc, _⟩ _ hcalls hs
    obtain ⟨h1, h2⟩ := List.forall_mem_cons.1 (hcalls ▸ hc)
    exact ⟨hi, h2, fun pt' e => by cases e; exact hstart _ _ _ h1 hs⟩
  · rintro m t c rest r ⟨hi, hc, hp⟩ _ hcalls _
    exact ⟨hi, (List.forall_mem_cons.1 (hcalls ▸ hc)).2, hp⟩
  · rintro m t pt pt' ⟨hi, hc, hp⟩ hcur hn
    exact ⟨hreg m pt hi (hp pt hcur), by simpa using hc,
      fun p e => by cases e; exact hnext m pt _ (hp pt hcur) hn⟩
  · rintro m t pt r ⟨hi, hc, hp⟩ hcur _
    exact ⟨hreg m pt hi (hp pt hcur), by simpa using hc, fun p e => by cases e⟩

theorem step_keeps (s : Sys) (tid : Nat)
    (h : I s.files ∧ ∀ t ∈ s.threads, (∀ c ∈ t.calls, C c) ∧ ∀ pt, t.cur = some pt → A pt) :
    I (step s tid).files ∧
      ∀ t ∈ (step s tid).threads, (∀ c ∈ t.calls, C c) ∧ ∀ pt, t.cur = some pt → A pt := by
  cases hg : s.threads[tid]? with
  | none => rw [step_of_none s tid hg]; exact h
  | some t =>
    rw [step_of_some s tid t hg]
    obtain ⟨h1, h2⟩ := stepThread_keeps I C A hstart hnext hreg s.files t h.1
      (h.2 t (List.mem_of_getElem? hg))
    refine ⟨h1, fun t' ht' => ?_⟩
    rcases List.mem_or_eq_of_mem_set ht' with ht' | rfl
    · exact h.2 t' ht'
    · exact h2

theorem run_keeps (s : Sys) (schedule : List Nat)
    (h : I s.files ∧ ∀ t ∈ s.threads, (∀ c ∈ t.calls, C c) ∧ ∀ pt, t.cur = some pt → A pt) :
    I (run s schedule).files ∧
      ∀ t ∈ (run s schedule).threads, (∀ c ∈ t.calls, C c) ∧ ∀ pt, t.cur = some pt → A pt :=
  run_invariant _ (fun s tid h => step_keeps I C A hstart hnext hreg s tid h) s h schedule

end keeps

/-- What every state change of a memory leaf keeps (`region_closed`) holds of the shared map under
every schedule, whatever the programs: the concurrent form of `C03.stack_history_presP`. -/
theorem run_closed {P : Nat → FMap → Prop} (hP : Stk.MemClosed P) (i : Nat) (s : Sys)
    (schedule : List Nat) (h : P i s.files) : P i (run s schedule).files :=
  (run_keeps (P i) (fun _ => True) (fun _ => True) (fun _ _ _ _ _ => trivial)
    (fun _ _ _ _ _ => trivial) (fun _ pt h _ => region_closed hP i h pt) s schedule
    ⟨h, fun _ _ => ⟨fun _ _ => trivial, fun _ _ => trivial⟩⟩).1

end Vfs.Conc
