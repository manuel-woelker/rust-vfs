/-
The overlay adapter is parametric in the class calculus of Proofs/ClassSim.lean: the instance
`layerCore_simVC` of the overlay core of Proofs/RelOverlay.lean, plus the closed sessions. `Overlay.simC`: for
layer lists `l1`, `l2` that are pointwise `SimVC`-related and whose write layers (heads) are
`SimVW`-related (a leaf or altroots over a leaf), the two overlays are `SimC`-related: the observers,
`create_dir`, `remove_file`, `remove_dir` with their whiteout bookkeeping, `create_file` alone and
the closed write session.

Not here: `append_file` of an overlay (its copy-up is a `copy_file`): Proofs/ClassSimIter.lean. An
overlay is shown `SimC`, not `SimW`, i.e. not shown usable as the WRITE layer of another overlay
(`overlayW_stmt`, Props/C02Iter.lean); as a lower layer it is.
-/
import VfsModel.Proofs.ClassSim
namespace Vfs.C02

theorem namesCong_namesSet : NamesCong NamesSet where
  nil := ⟨fun _ => Iff.rfl, by simp⟩
  mem h := h.1
  dedup ha hn :=
    ⟨fun n => by rw [C05.merge_mem, C05.merge_mem, ha.1 n, hn.1 n],
      Vfs.Overlay.foldl_names_good _ _ hn.2 ha.2⟩
  filter h hP :=
    ⟨fun n => by simp only [List.mem_filter, h.1 n, hP n], fun n hn => h.2 n (List.mem_filter.1 hn).1⟩

/-- layer paths with the same canonical string, of `SimC`-related filesystems -/
theorem layerCore_simVC (R : World → World → Prop) :
    LayerCore R (clsK (· = ·)) (clsK KRel) NamesSet MetaRel (SimVC R) NonRoot where
  notFound h := by cases h; exact Iff.rfl
  join := by
    intro a b arg h ha
    obtain ⟨r, e, hc, hn⟩ := a.join_goodArg h.canon ha
    have e2 : b.join arg = .ok (b.withStr r) := by
      unfold Vfs.VPath.join at e ⊢
      rw [h.path]
      cases hj : joinInternal a.path arg with
      | ok r' => rw [hj] at e; cases e; rfl
      | err k p => rw [hj] at e; cases e
      | panic => rw [hj] at e; cases e
    rw [e, e2]
    exact .ok ⟨h.withStr r hc, hn⟩
  exists_ h := cSim_iff.1 (VPath.sim_exists h)
  sub h := Or.inl h
  dirExists h := (KRel.exact h).2.1
  names := namesCong_namesSet
  ftype h := h.1
  parent h _ := h.parent
  metadata h := cSim_iff.1 (VPath.sim_metadata h)
  readNames h := cSim_iff.1 (VPath.sim_readNames h)
  createDirAll h := cSim_iff.1 (VPath.sim_createDirAll h)
  createDir h hn := cSim_iff.1 (VPath.sim_createDir h hn)
  removeFile h := cSim_iff.1 (VPath.sim_removeFile h)
  removeDir h hn := cSim_iff.1 (VPath.sim_removeDir h hn)

namespace Overlay
open Vfs.Overlay

section overlay
variable {R : World → World → Prop} {l1 l2 : List VPath}
variable (hL : ListRel (SimVC R) l1 l2) (hW : SimVW R (writeLayer l1) (writeLayer l2))
include hL hW

omit hL in
theorem sim_whiteoutPath (p : Str) :
    CRes (· = ·) (SimVW R) (whiteoutPath l1 p) (whiteoutPath l2 p) := by
  by_cases h : p = []
  · subst h; rw [whiteoutPath_nil, whiteoutPath_nil]; exact hW.join _
  · rw [whiteoutPath_of_ne l1 h, whiteoutPath_of_ne l2 h]; exact hW.join _

omit hL in
theorem sim_writePath (p : Str) : CRes (· = ·) (SimVW R) (writePath l1 p) (writePath l2 p) := by
  by_cases h : p = []
  · subst h; rw [writePath_nil, writePath_nil]; exact .ok hW
  · rw [writePath_of_ne l1 h, writePath_of_ne l2 h]; exact hW.join _

theorem sim_readPath {p : Str} (hp : Canon p) :
    CSim R (· = ·) (SimVC R) (readPath l1 p) (readPath l2 p) :=
  cSim_iff.2 (abs_readPath (layerCore_simVC R).1 hL hW.toC hp)

theorem sim_ensureHasParent {p : Str} (hp : Canon p) :
    CSim R KRel (· = ·) (ensureHasParent l1 p) (ensureHasParent l2 p) :=
  cSim_iff.2 (abs_ensureHasParent (layerCore_simVC R) hL hW.toC hp)

omit hL in
/-- `clear_whiteout` as `create_dir` calls it (finding O11, DESIGN.md): the probe and the tolerant
removal are one field (`clearT`) of the write layer's interface -/
theorem sim_clearWhiteoutT (p : Str) :
    CSim R KRel (· = ·) (clearWhiteoutT l1 p) (clearWhiteoutT l2 p) := by
  rw [clearWhiteoutT_eq, clearWhiteoutT_eq]
  refine CSim.bind (CSim.ret (sim_whiteoutPath hW p)).ofEq fun wo1 wo2 hwo => ?_
  exact VPath.sim_clearVT hwo

omit hL in
theorem sim_addWhiteout (p : Str) :
    CSim R KRel (· = ·) (addWhiteout l1 p) (addWhiteout l2 p) := by
  unfold addWhiteout
  refine CSim.bind (CSim.ret (sim_whiteoutPath hW p)).ofEq fun wo1 wo2 hwo => ?_
  refine CSim.bind_eq (VPath.sim_createDirAll hwo.toC.parent) fun _ => ?_
  exact VPath.sim_createSession hwo.toC []

theorem sim_refuseDir {p : Str} (hp : Canon p) :
    CSim R KRel (· = ·) (refuseDir l1 p) (refuseDir l2 p) :=
  cSim_iff.2 (abs_refuseDir (layerCore_simVC R) hL hW.toC hp)

omit hL in
theorem sim_clearWhiteout {p : Str} (hp : Canon p) :
    CSim R KRel (· = ·) (clearWhiteout l1 p) (clearWhiteout l2 p) :=
  cSim_iff.2 (abs_clearWhiteout (layerCore_simVC R) hW.toC hp)

theorem sim_createOnly {p : Str} (hp : Canon p) :
    CSim R KRel (fun _ _ => True) (createFile l1 p) (createFile l2 p) := by
  unfold createFile
  refine CSim.bind_eq (sim_ensureHasParent hL hW hp) fun _ => ?_
  refine CSim.bind_eq (sim_refuseDir hL hW hp) fun _ => ?_
  refine CSim.bind (CSim.ret (sim_writePath hW p)).ofEq fun wp1 wp2 hwp => ?_
  refine CSim.bind (VPath.sim_createOnly hwp.toC) fun h1 h2 _ => ?_
  exact CSim.bind_eq (sim_clearWhiteout hW hp) fun _ => CSim.pure trivial

omit hL hW in
theorem createSession_eq (l : List VPath) (p : Str) (s : List Bytes) :
    createSession (fs l) p s =
      (ensureHasParent l p >>= fun _ => refuseDir l p >>= fun _ =>
        M.ret (writePath l p) >>= fun wp =>
          wp.createFile >>= fun h => clearWhiteout l p >>= fun _ => finish h s) := by
  show (createFile l p >>= fun h => finish h s) = _
  unfold createFile
  simp only [M.bind_assoc]
  rfl

omit hL hW in
theorem join_fs {v1 v2 : VPath} (h : SimVW R v1 v2) (arg : Str) :
    CRes KRel (fun a b => SimVW R a b ∧ a.fs = v1.fs ∧ b.fs = v2.fs) (v1.join arg) (v2.join arg) := by
  unfold VPath.join
  rw [h.path]
  cases hj : joinInternal v1.path arg with
  | ok r => exact .ok ⟨h.withStr r (C06.join_canonical _ _ _ h.canon hj), rfl, rfl⟩
  | err k p => exact .err (Or.inl rfl)
  | panic => exact .panic

omit hL in
theorem sim_whiteoutPath_fs (p : Str) :
    CRes KRel (fun a b => SimVW R a b ∧ a.fs = (writeLayer l1).fs ∧ b.fs = (writeLayer l2).fs)
      (whiteoutPath l1 p) (whiteoutPath l2 p) := by
  by_cases h : p = []
  · subst h; rw [whiteoutPath_nil, whiteoutPath_nil]; exact join_fs hW _
  · rw [whiteoutPath_of_ne l1 h, whiteoutPath_of_ne l2 h]; exact join_fs hW _

omit hL in
theorem sim_writePath_fs (p : Str) :
    CRes KRel (fun a b => SimVW R a b ∧ a.fs = (writeLayer l1).fs ∧ b.fs = (writeLayer l2).fs)
      (writePath l1 p) (writePath l2 p) := by
  by_cases h : p = []
  · subst h; rw [writePath_nil, writePath_nil]; exact .ok ⟨hW, rfl, rfl⟩
  · rw [writePath_of_ne l1 h, writePath_of_ne l2 h]; exact join_fs hW _

theorem sim_createSession {p : Str} (hp : Canon p) (s : List Bytes) :
    CSim R KRel (· = ·) (createSession (fs l1) p s) (createSession (fs l2) p s) := by
  rw [createSession_eq, createSession_eq]
  refine CSim.bind_eq (sim_ensureHasParent hL hW hp) fun _ => ?_
  refine CSim.bind_eq (sim_refuseDir hL hW hp) fun _ => ?_
  refine CSim.bind (CSim.ret (sim_writePath_fs hW p)) fun wp1 wp2 hwp => ?_
  have hwo := sim_whiteoutPath_fs hW p
  unfold clearWhiteout
  generalize whiteoutPath l1 p = r1 at hwo ⊢
  generalize whiteoutPath l2 p = r2 at hwo ⊢
  cases hwo with
  | @ok wo1 wo2 hwo =>
    exact VPath.sim_createClear (p1 := wp1) (p2 := wp2) (q1 := wo1) (q2 := wo2)
      hwp.1 hwo.1.path hwo.1.canon (by rw [hwo.2.1, hwp.2.1]) (by rw [hwo.2.2, hwp.2.2]) s
  | err hk =>
    refine CSim.bind (VPath.sim_createOnly hwp.1.toC) fun _ _ _ => ?_
    exact CSim.ret (.err hk)
  | panic =>
    refine CSim.bind (VPath.sim_createOnly hwp.1.toC) fun _ _ _ => ?_
    exact CSim.panic

theorem simC : SimC R (fs l1) (fs l2) := by
  have c := layerCore_simVC R
  have hw := hW.toC
  exact {
    exists_ := fun p hp => cSim_iff.2 (abs_exists c.1 hL hw hp)
    metadata := fun p hp => cSim_iff.2 (abs_metadata c hL hw hp)
    readDir := fun p hp => cSim_iff.2 (abs_readDir c hL hw hp)
    readAll := fun p hp => by
      show CSim R KRel (· = ·) ((readPath l1 p >>= fun q => q.openFile) >>= _)
        ((readPath l2 p >>= fun q => q.openFile) >>= _)
      rw [M.bind_assoc, M.bind_assoc]
      exact CSim.bind (sim_readPath hL hW hp).ofEq fun q1 q2 hq => VPath.sim_readAll hq
    createDir := fun p hp hpn => cSim_iff.2
      (abs_createDir c hL hw (cSim_iff.1 (sim_clearWhiteoutT hW p)) hp hpn)
    removeFile := fun p hp => cSim_iff.2
      (abs_removeFile c hL hw hp (cSim_iff.1 (sim_addWhiteout hW p)))
    removeDir := fun p hp hpn => cSim_iff.2
      (abs_removeDir c hL hw hp hpn (cSim_iff.1 (sim_addWhiteout hW p)))
    createOnly := fun p hp => sim_createOnly hL hW hp
    createSession := fun p s hp => sim_createSession hL hW hp s }

end overlay
end Overlay
end Vfs.C02
