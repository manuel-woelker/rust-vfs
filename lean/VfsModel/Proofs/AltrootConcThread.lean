/-
  `create_dir_all` on a path of an `AltrootFS` whose root is a directory `/p1/…/pn` of ONE
  in-memory filesystem, as a small-step program of VfsModel/OverlayConc.lean, and ONE thread of it
  under interference.

  `altMk root d` is `AltrootFS::create_dir(d)` (`self.path(d)?.create_dir()`, Adapters.lean
  `(Altroot.fs root).createDir`) written in `Prog`; `altCreateDirAll root p` is
  `VfsPath::create_dir_all` over it.  `altMk`, `altCreateDirAll`, `altInitSys` here (namespace
  `Vfs.AConc`) are second copies of `OConc.altMk`, `OConc.altCreateDirAll`, `OConc.initSysAlt` of
  the model file VfsModel/AltrootConc.lean, which the driver runs; the programs are identified by
  `rfl` in Props/C17AltrootTie.lean (`driver_altMk_eq`, `driver_altCreateDirAll_eq`).
  `run_altCreateDirAll`: all calls one after the other are the
  shallow definitions (arbitrary `root`, no hypothesis).
  `GrowA ps paths mu mu'` (rely = guarantee of every thread): every entry of the leaf's map
  persists unchanged, new entries are directories at leaf keys `/p1/…/pn/c1/…/cj` (j ≥ 1) of
  requested prefixes (`ReqA`), well-formedness is kept.  `GIA`: no file at a `ReqA` key (stable).
  `sp_altCreateDirAll`: the thread specification in the calculus of Proofs/OverlayConcCalc.lean,
  instantiated with no lower layers.  Nothing here is about more than one leaf.
-/
import VfsModel.Proofs.OverlayConcThread
namespace Vfs.AConc
open Vfs Vfs.OConc Vfs.OConc.Prog

/-- `AltrootFS::create_dir(d)`: `self.path(d)?.create_dir()` (altroot.rs; Adapters.lean
`(Altroot.fs root).createDir`), the inner `VfsPath::create_dir` in small steps -/
def altMk (root : VPath) (d : Str) : Prog Unit := do
  let q ← Prog.ret (Altroot.path root d)
  vCreateDir q

/-- `VfsPath::create_dir_all` on the path `p` of `AltrootFS::new(root)` -/
def altCreateDirAll (root : VPath) (p : Str) : Prog Unit := cdaWith (altMk root) p

theorem run_altMk (root : VPath) (d : Str) :
    (altMk root d).run = (Altroot.fs root).createDir d := by
  unfold altMk
  rw [Prog.run_bind, Prog.run_ret]
  show _ = (M.ret (Altroot.path root d) >>= fun q => q.createDir)
  exact mbind_congr _ fun q => run_vCreateDir q

theorem run_altCreateDirAll (root : VPath) (id : Nat) (p : Str) :
    (altCreateDirAll root p).run
      = VPath.createDirAll { fs := Altroot.fs root, fsId := id, path := p } :=
  run_cdaWith (altMk root) { fs := Altroot.fs root, fsId := id, path := p }
    (fun d => run_altMk root d)

def altInitSys (root : VPath) (w : World) (paths : List Str) : Sys :=
  { world := w, threads := paths.map (altCreateDirAll root) }

def ReqA (ps : List Str) (paths : List (List Str)) (k : Str) : Prop :=
  ∃ cs ∈ paths, ∃ j, 1 ≤ j ∧ j ≤ cs.length ∧ k = renderC (ps ++ cs.take j)

structure GrowA (ps : List Str) (paths : List (List Str)) (mu mu' : FMap) : Prop where
  keeps : ∀ k e, mu.find? k = some e → mu'.find? k = some e
  news : ∀ k e, mu'.find? k = some e → mu.find? k = some e ∨ (e.ftype = .dir ∧ ReqA ps paths k)
  wf : WF mu → WF mu'

section grow
variable {ps : List Str} {paths : List (List Str)}

theorem GrowA.refl (mu : FMap) : GrowA ps paths mu mu :=
  ⟨fun _ _ h => h, fun _ _ h => Or.inl h, id⟩

theorem GrowA.trans {a b c : FMap} (h1 : GrowA ps paths a b) (h2 : GrowA ps paths b c) :
    GrowA ps paths a c := by
  refine ⟨fun k e he => h2.keeps k e (h1.keeps k e he), ?_, fun h => h2.wf (h1.wf h)⟩
  intro k e he
  rcases h2.news k e he with hb | hb
  · exact h1.news k e hb
  · exact Or.inr hb

theorem gR : ∀ m, GrowA ps paths m m := GrowA.refl
theorem gT : ∀ a b c, GrowA ps paths a b → GrowA ps paths b c → GrowA ps paths a c :=
  fun _ _ _ => GrowA.trans

theorem _root_.Vfs.OConc.IsDirU.grow {k : Str} {mu mu' : FMap} (hd : IsDirU mu k) (h : GrowA ps paths mu mu') :
    IsDirU mu' k := by
  obtain ⟨e, he, hd⟩ := hd
  exact ⟨e, h.keeps k e he, hd⟩

theorem growA_createDir (mu : FMap) {q : Str} (hq : ReqA ps paths q) :
    GrowA ps paths mu (Mem.createDir mu q).2 :=
  ⟨fun k e => (Mem.createDir_find mu q k e).1, fun k e h =>
    ((Mem.createDir_find mu q k e).2 h).imp_right fun h => by rw [h.1, h.2]; exact ⟨rfl, hq⟩,
    fun h => h.createDir_any q⟩

def GIA (ps : List Str) (paths : List (List Str)) (mu : FMap) : Prop :=
  ∀ q, ReqA ps paths q → ∀ e, mu.find? q = some e → e.ftype = .dir

theorem GIA.grow {mu mu' : FMap} (g : GIA ps paths mu) (h : GrowA ps paths mu mu') :
    GIA ps paths mu' := by
  intro q hq e he
  rcases h.news q e he with h0 | ⟨hd, _⟩
  · exact g q hq e h0
  · exact hd

end grow

section thread
variable {u idu : Nat} {ps : List Str} {paths : List (List Str)}

abbrev WA (u idu : Nat) (ps : List Str) (paths : List (List Str)) {α}
    (t : Prog α) (Q : Res α → FMap → Prop) (mu : FMap) : Prop :=
  WP u idu [] [] [] (GrowA ps paths) t Q mu

variable (idr : Nat) (hps : ∀ c ∈ ps, GoodComp c)
  (hpaths : ∀ cs ∈ paths, ∀ c ∈ cs, GoodComp c)

def DirUpTo (ps cs : List Str) (k : Nat) (mu : FMap) : Prop :=
  ∀ j, j ≤ k → IsDirU mu (renderC (ps ++ cs.take j))

include hps hpaths in
theorem altMk_prefix (cs : List Str) (hcs : cs ∈ paths) (k : Nat) (hlt : k < cs.length) :
    altMk { fs := leafFS u, fsId := idr, path := renderC ps } (renderC (cs.take k ++ [cs[k]]))
      = vCreateDir { fs := leafFS u, fsId := idr, path := renderC ((ps ++ cs.take k) ++ [cs[k]]) } := by
  have hgood := hpaths cs hcs
  have hg' : ∀ c ∈ cs.take k ++ [cs[k]], GoodComp c :=
    good_snoc (fun c hc => hgood c (List.mem_of_mem_take hc)) (hgood _ (List.getElem_mem hlt))
  unfold altMk
  rw [Altroot.path_renderC _ ps _ rfl hps hg', OConc.ret_ok_bind]
  simp only [VPath.withStr, List.append_assoc]

include hps hpaths in
theorem sp_altCreateDirAll (cs : List Str) (hcs : cs ∈ paths) (mu : FMap) (g : GIA ps paths mu)
    (hroot : IsDirU mu (renderC ps)) :
    WA u idu ps paths
      (altCreateDirAll { fs := leafFS u, fsId := idr, path := renderC ps } (renderC cs))
      (fun r mu' => r = .ok () ∧ DirUpTo ps cs cs.length mu') mu := by
  have hgood := hpaths cs hcs
  unfold altCreateDirAll
  refine WP_cdaWith_prefixes gR gT _ cs (GIA ps paths) (fun j m => IsDirU m (renderC (ps ++ cs.take j)))
    (fun _ _ h g => g.grow h) (fun _ _ _ _ h d => d.grow h) ?_ (good_noSlash hgood) mu g
    (by simpa using hroot)
  rintro k hlt m gm dm
  have htk := take_succ_snoc cs k hlt
  rw [altMk_prefix idr hps hpaths cs hcs k hlt]
  have hq : ReqA ps paths (renderC ((ps ++ cs.take k) ++ [cs[k]])) :=
    ⟨cs, hcs, k + 1, by omega, by omega, by rw [htk, List.append_assoc]⟩
  refine WP_mono _ _ _ _ (fun r m1 h => ⟨h.1, by rw [htk, ← List.append_assoc]; exact h.2⟩)
    (WP_vCreateDir gR gT idr (ps ++ cs.take k) cs[k]
      (good_append hps (fun c hc => hgood c (List.mem_of_mem_take hc)))
      (hgood _ (List.getElem_mem hlt)) (fun _ _ h d => d.grow h) (fun _ _ h d => d.grow h)
      (fun m' => growA_createDir m' hq) m (fun _ h => (gm.grow h) _ hq) (dm k (Nat.le_refl _)))

end thread
end Vfs.AConc
