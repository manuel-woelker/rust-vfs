/-
  A leaf of EITHER kind on a well-formed map.

  `LeafAt w i k m` (Proofs/MemRun.lean) says that leaf `i` is of kind `k` and holds `m`, and gives
  each trait method of `leafFS i` as the pure function of its kind. On a well-formed map the two
  kinds answer alike wherever the path is present: the host's path resolution (`Phys.lookup`) finds
  every ancestor of a present path a directory (`WF.lookup_present`). What the recursive operations
  of `VfsPath` need of a leaf (`exists`, `metadata`, `read_dir`, `remove_file`, `remove_dir` at a
  present path) is stated here once for both kinds, at the trait level and through `VfsPath`.
-/
import VfsModel.Proofs.MemRun
import VfsModel.Proofs.PhysLemmas
namespace Vfs

namespace LeafAt
variable {w : World} {i : Nat} {k : LeafKind} {m : FMap} (h : LeafAt w i k m)
include h

/-! on a well-formed map, at a present path, both kinds answer by the map -/

theorem exists_present (hwf : WF m) {p : Str} {e : Entry} (hp : m.find? p = some e) :
    (leafFS i).exists_ p w = (.ok true, w) := by
  rw [h.exists_eq]
  cases k
  · simp [(FMap.contains_iff m p).2 ⟨e, hp⟩]
  · simp [Phys.exists_, hwf.lookup_present p e hp]

/-- an absent path does not exist, on any map (below a file the host answers an error, which
`Path::exists` turns into `false`) -/
theorem exists_absent {p : Str} (hp : m.find? p = none) :
    (leafFS i).exists_ p w = (.ok false, w) := by
  rw [h.exists_eq]
  cases k
  · simp [contains_of_none hp]
  · unfold Phys.exists_
    rcases Phys.lookup_cases m p with hl | ⟨k', hl, _⟩
    · simp [hl, hp]
    · simp [hl]

theorem metadata_present (hwf : WF m) {p : Str} {e : Entry} (hp : m.find? p = some e) :
    ∃ md, (leafFS i).metadata p w = (.ok md, w) ∧ md.ftype = e.ftype := by
  rw [h.metadata_eq]
  cases k
  · exact ⟨e.meta, by simp [Mem.metadata, hp], rfl⟩
  · exact ⟨{ e.meta with len := if e.ftype = .dir then 0 else e.content.length },
      by simp [Phys.metadata, hwf.lookup_present p e hp], rfl⟩

theorem readDir_dir (hwf : WF m) {p : Str} {e : Entry} (hp : m.find? p = some e)
    (hd : e.ftype = .dir) :
    (leafFS i).readDir p w = (.ok (m.keys.filterMap (childName p)), w) := by
  rw [h.readDir_eq]
  cases k
  · simp [Mem.readDir, hp, hd]
  · simp [Phys.readDir, hwf.lookup_present p e hp, hd, Phys.children]

/-- `read_dir` of anything but a directory is an error (which one depends on the kind) -/
theorem readDir_not_dir (hwf : WF m) {p : Str} (hnd : ∀ e, m.find? p = some e → e.ftype ≠ .dir) :
    ∃ k' pth, (leafFS i).readDir p w = (.err k' pth, w) := by
  rw [h.readDir_eq]
  have hfile : ∀ e, m.find? p = some e → e.ftype = .file := fun e he => by
    cases hf : e.ftype with
    | file => rfl
    | dir => exact absurd hf (hnd e he)
  cases k
  · cases hp : m.find? p with
    | none => exact ⟨.fileNotFound, none, by simp [Mem.readDir, hp, fail]⟩
    | some e => exact ⟨.other, none, by simp [Mem.readDir, hp, hfile e hp, fail]⟩
  · cases hp : m.find? p with
    | some e =>
      exact ⟨.io, none, by simp [Phys.readDir, hwf.lookup_present p e hp, hfile e hp, fail]⟩
    | none =>
      -- absent: not-found, or an I/O error below a file
      rcases Phys.lookup_cases m p with hl | ⟨k', hl, _⟩
      · exact ⟨.fileNotFound, none, by simp [Phys.readDir, hl, hp, fail]⟩
      · exact ⟨k', none, by simp [Phys.readDir, hl]⟩

theorem removeFile_file (hwf : WF m) {p : Str} {e : Entry} (hp : m.find? p = some e)
    (hf : e.ftype = .file) :
    (leafFS i).removeFile p w = (.ok (), w.setLeafFiles i (m.erase p)) := by
  rw [h.removeFile_eq]
  cases k
  · simp [Mem.removeFile_file m p e hp hf]
  · simp [Phys.removeFile_file hwf p e hp hf]

theorem removeDir_empty (hwf : WF m) {p : Str} {e : Entry} (hp : m.find? p = some e)
    (hd : e.ftype = .dir) (hempty : m.keys.filterMap (childName p) = []) :
    (leafFS i).removeDir p w = (.ok (), w.setLeafFiles i (m.erase p)) := by
  rw [h.removeDir_eq]
  cases k
  · simp [Mem.removeDir, Mem.readDir, hp, hd, hempty, (FMap.contains_iff m p).2 ⟨e, hp⟩]
  · simp [Phys.removeDir_empty hwf p e hp hd hempty]

/-! the same through `VfsPath` -/

theorem vexists_present (id : Nat) (hwf : WF m) {p : Str} {e : Entry} (hp : m.find? p = some e) :
    VPath.exists_ { fs := leafFS i, fsId := id, path := p } w = (.ok true, w) :=
  h.exists_present hwf hp

theorem vexists_absent (id : Nat) {p : Str} (hp : m.find? p = none) :
    VPath.exists_ { fs := leafFS i, fsId := id, path := p } w = (.ok false, w) :=
  h.exists_absent hp

theorem vmetadata_present (id : Nat) (hwf : WF m) {p : Str} {e : Entry} (hp : m.find? p = some e) :
    ∃ md, VPath.metadata { fs := leafFS i, fsId := id, path := p } w = (.ok md, w) ∧
      md.ftype = e.ftype := by
  obtain ⟨md, h1, h2⟩ := h.metadata_present hwf hp
  exact ⟨md, VPath.metadata_of_call (p := ⟨leafFS i, id, p⟩) h1, h2⟩

theorem vreadDir_dir (id : Nat) (hwf : WF m) {p : Str} {e : Entry} (hp : m.find? p = some e)
    (hd : e.ftype = .dir) :
    VPath.readDir { fs := leafFS i, fsId := id, path := p } w =
      (.ok ((m.keys.filterMap (childName p)).map fun n =>
        ({ fs := leafFS i, fsId := id, path := p ++ '/' :: n } : VPath)), w) := by
  rw [VPath.readDir_of_call (p := ⟨leafFS i, id, p⟩) (h.readDir_dir hwf hp hd)]
  rfl

theorem vremoveFile_file (id : Nat) (hwf : WF m) {p : Str} {e : Entry} (hp : m.find? p = some e)
    (hf : e.ftype = .file) :
    VPath.removeFile { fs := leafFS i, fsId := id, path := p } w =
      (.ok (), w.setLeafFiles i (m.erase p)) :=
  VPath.removeFile_of_call (p := ⟨leafFS i, id, p⟩) (h.removeFile_file hwf hp hf)

theorem vremoveDir_empty (id : Nat) (hwf : WF m) {p : Str} {e : Entry} (hp : m.find? p = some e)
    (hd : e.ftype = .dir) (hempty : m.keys.filterMap (childName p) = []) :
    VPath.removeDir { fs := leafFS i, fsId := id, path := p } w =
      (.ok (), w.setLeafFiles i (m.erase p)) :=
  VPath.removeDir_of_call (p := ⟨leafFS i, id, p⟩) (h.removeDir_empty hwf hp hd hempty)

end LeafAt
end Vfs
