/-
What Props/C11Altroot.lean and Props/C13Altroot.lean need of the sub-tree simulation, stated over the
definitions of Proofs/SimT.lean / Proofs/SubtreeSimT.lean (namespace `Vfs.T`), in which they are
written.

* The simulations of Props/C07Subtree.lean (the altroot over a directory `P` of a memory leaf is
  simulated by the bare memory leaf holding `sub P m`: at the filesystem level, spelled out for each
  `VfsPath` operation as `altroot_*`, and `rsub_of_leaf`). Each `altroot_*` is the theorem of the same
  name of Props/C07Subtree.lean, rewritten with the equations between the two sets of definitions.
* Confinement as a frame, through every `VfsPath` operation: the same simulation for the relation
  that also carries the invariant `Frm.Outside i P m0 w` of Proofs/SubtreeSim.lean: leaf `i` of `w` is
  a memory leaf that agrees with `m0` on EVERY key that is not at or below `P`
  (`stripP P k = none`). `RSub spec` speaks about the sub-map only;
  `RF spec i P m0 w1 w2 := RSub spec w1 w2 ∧ Outside i P m0 w1` additionally fixes the rest of the
  leaf. The simulation holds for it as for `RSub spec` (`Frm.subRel_outside`: a write at `P ++ q`
  moves no key outside `P`), so the parametricity theorems of Proofs/SimT.lean carry the invariant
  through ALL operations of the `VfsPath` layer, recursive ones included. Nothing is assumed about
  the keys outside `P`. Not covered: raw trait calls with non-canonical paths; they can escape
  (`C07.raw_call_escapes`).
* A PLAIN memory filesystem inside the sub-map relation: a leaf whose role is `.sub ""` (re-rooted
  at its own root: nothing is cut off when its keys are rooted, `sub_nil_eq`) is `SimFS`-related to
  itself (`leafFS_sim_root`; `copy_file`, `move_file`, `move_dir` are `NotSupported` on both sides).
  This is what lets a `VfsPath` operation with TWO filesystems, an altroot over leaf `i` and a plain
  memory filesystem on leaf `j` (`T.specTwo`, `T.rsub_two`), be transferred along the simulation
  (Props/C11Altroot.lean: copy_dir / move_dir from an altroot to another filesystem).
-/
import VfsModel.Proofs.SubtreeSimT
import VfsModel.Props.C07Subtree
namespace Vfs.T.C07
open Vfs Vfs.T

theorem altroot_is_subtree_fs {spec : Nat → Role} {i : Nat} {P : Str} (hi : spec i = .sub P)
    (hP : Canon P) (id : Nat) :
    SimFS (RSub spec) PRdrop (HSub spec)
      (Altroot.fs { fs := leafFS i, fsId := id, path := P }) (leafFS i) :=
  altroot_sim_leaf hi hP id

theorem subtree_handles (spec : Nat → Role) : SimHandles (RSub spec) PRdrop (HSub spec) :=
  simHandles_sub spec

theorem altroot_is_subtree_vpath {spec : Nat → Role} {i : Nat} {P : Str} (hi : spec i = .sub P)
    (hP : Canon P) (id id' : Nat) {q : Str} (hq : Canon q) :
    SimVPath (RSub spec) PRdrop (HSub spec)
      { fs := Altroot.fs { fs := leafFS i, fsId := id, path := P }, fsId := id', path := q }
      { fs := leafFS i, fsId := id', path := q } :=
  ⟨altroot_is_subtree_fs hi hP id, rfl, rfl, hq⟩

section ops
variable {spec : Nat → Role} {i : Nat} {P : Str} (hi : spec i = .sub P) (hP : Canon P)
  (id id' : Nat)
include hi hP

abbrev apath (i id : Nat) (P : Str) (id' : Nat) (q : Str) : VPath :=
  { fs := Altroot.fs { fs := leafFS i, fsId := id, path := P }, fsId := id', path := q }
abbrev spath (i id' : Nat) (q : Str) : VPath := { fs := leafFS i, fsId := id', path := q }

theorem altroot_exists {q : Str} (hq : Canon q) :
    SimM (RSub spec) PRdrop (· = ·) (apath i id P id' q).exists_ (spath i id' q).exists_ := by
  rw [simM_eq, rSub_eq]
  exact Vfs.C07.altroot_exists (Role.toV_sub hi) hP id id' hq
theorem altroot_metadata {q : Str} (hq : Canon q) :
    SimM (RSub spec) PRdrop (· = ·) (apath i id P id' q).metadata (spath i id' q).metadata := by
  rw [simM_eq, rSub_eq]
  exact Vfs.C07.altroot_metadata (Role.toV_sub hi) hP id id' hq
theorem altroot_read_dir {q : Str} (hq : Canon q) :
    SimM (RSub spec) PRdrop
      (ListRel (SimVP (RSub spec) PRdrop (HSub spec) (fun _ _ => True)))
      (apath i id P id' q).readDir (spath i id' q).readDir := by
  rw [simM_eq, listRel_eq, simVP_eq, rSub_eq, hSub_eq]
  exact Vfs.C07.altroot_read_dir (Role.toV_sub hi) hP id id' hq
theorem altroot_create_dir {q : Str} (hq : Canon q) (hne : q ≠ []) :
    SimM (RSub spec) PRdrop (· = ·) (apath i id P id' q).createDir (spath i id' q).createDir := by
  rw [simM_eq, rSub_eq]
  exact Vfs.C07.altroot_create_dir (Role.toV_sub hi) hP id id' hq hne
theorem altroot_create_dir_all {q : Str} (hq : Canon q) :
    SimM (RSub spec) PRdrop (· = ·) (apath i id P id' q).createDirAll
      (spath i id' q).createDirAll := by
  rw [simM_eq, rSub_eq]
  exact Vfs.C07.altroot_create_dir_all (Role.toV_sub hi) hP id id' hq
theorem altroot_create_file {q : Str} (hq : Canon q) :
    SimM (RSub spec) PRdrop (HSub spec) (apath i id P id' q).createFile
      (spath i id' q).createFile := by
  rw [simM_eq, rSub_eq, hSub_eq]
  exact Vfs.C07.altroot_create_file (Role.toV_sub hi) hP id id' hq
theorem altroot_open_file {q : Str} (hq : Canon q) :
    SimM (RSub spec) PRdrop (· = ·) (apath i id P id' q).openFile (spath i id' q).openFile := by
  rw [simM_eq, rSub_eq]
  exact Vfs.C07.altroot_open_file (Role.toV_sub hi) hP id id' hq
theorem altroot_append_file {q : Str} (hq : Canon q) :
    SimM (RSub spec) PRdrop (HSub spec) (apath i id P id' q).appendFile
      (spath i id' q).appendFile := by
  rw [simM_eq, rSub_eq, hSub_eq]
  exact Vfs.C07.altroot_append_file (Role.toV_sub hi) hP id id' hq
theorem altroot_remove_file {q : Str} (hq : Canon q) :
    SimM (RSub spec) PRdrop (· = ·) (apath i id P id' q).removeFile (spath i id' q).removeFile := by
  rw [simM_eq, rSub_eq]
  exact Vfs.C07.altroot_remove_file (Role.toV_sub hi) hP id id' hq
theorem altroot_remove_dir {q : Str} (hq : Canon q) (hne : q ≠ []) :
    SimM (RSub spec) PRdrop (· = ·) (apath i id P id' q).removeDir (spath i id' q).removeDir := by
  rw [simM_eq, rSub_eq]
  exact Vfs.C07.altroot_remove_dir (Role.toV_sub hi) hP id id' hq hne
theorem altroot_remove_dir_all (fuel : Nat) {q : Str} (hq : Canon q) (hne : q ≠ []) :
    SimM (RSub spec) PRdrop (· = ·) (VPath.removeDirAll fuel (apath i id P id' q))
      (VPath.removeDirAll fuel (spath i id' q)) := by
  rw [simM_eq, rSub_eq]
  exact Vfs.C07.altroot_remove_dir_all (Role.toV_sub hi) hP id id' fuel hq hne
theorem altroot_read_to_end {q : Str} (hq : Canon q) :
    SimM (RSub spec) PRdrop (· = ·) (apath i id P id' q).readToEndChecked
      (spath i id' q).readToEndChecked := by
  rw [simM_eq, rSub_eq]
  exact Vfs.C07.altroot_read_to_end (Role.toV_sub hi) hP id id' hq
theorem altroot_write_session {q : Str} (hq : Canon q) (bs : Bytes) :
    SimM (RSub spec) PRdrop (· = ·)
      (do let hd ← (apath i id P id' q).createFile; hd.writeAllAndDrop bs : M Unit)
      (do let hd ← (spath i id' q).createFile; hd.writeAllAndDrop bs : M Unit) := by
  rw [simM_eq, rSub_eq]
  exact Vfs.C07.altroot_write_session (Role.toV_sub hi) hP id id' hq bs
theorem altroot_append_session {q : Str} (hq : Canon q) (bs : Bytes) :
    SimM (RSub spec) PRdrop (· = ·)
      (do let hd ← (apath i id P id' q).appendFile; hd.writeAllAndDrop bs : M Unit)
      (do let hd ← (spath i id' q).appendFile; hd.writeAllAndDrop bs : M Unit) := by
  rw [simM_eq, rSub_eq]
  exact Vfs.C07.altroot_append_session (Role.toV_sub hi) hP id id' hq bs
theorem altroot_copy_file {s d : Str} (hs : Canon s) (hd : Canon d) :
    SimM (RSub spec) PRdrop (· = ·) ((apath i id P id' s).copyFile (apath i id P id' d))
      ((spath i id' s).copyFile (spath i id' d)) := by
  rw [simM_eq, rSub_eq]
  exact Vfs.C07.altroot_copy_file (Role.toV_sub hi) hP id id' hs hd
theorem altroot_move_file {s d : Str} (hs : Canon s) (hd : Canon d) :
    SimM (RSub spec) PRdrop (· = ·) ((apath i id P id' s).moveFile (apath i id P id' d))
      ((spath i id' s).moveFile (spath i id' d)) := by
  rw [simM_eq, rSub_eq]
  exact Vfs.C07.altroot_move_file (Role.toV_sub hi) hP id id' hs hd
theorem altroot_copy_dir (fuel : Nat) {s d : Str} (hs : Canon s) (hd : Canon d) (hne : d ≠ []) :
    SimM (RSub spec) PRdrop (· = ·)
      (VPath.copyDir fuel (apath i id P id' s) (apath i id P id' d))
      (VPath.copyDir fuel (spath i id' s) (spath i id' d)) := by
  rw [simM_eq, rSub_eq]
  exact Vfs.C07.altroot_copy_dir (Role.toV_sub hi) hP id id' fuel hs hd hne
theorem altroot_move_dir (fuel : Nat) {s d : Str} (hs : Canon s) (hd : Canon d) (hns : s ≠ [])
    (hne : d ≠ []) :
    SimM (RSub spec) PRdrop (· = ·)
      (VPath.moveDir fuel (apath i id P id' s) (apath i id P id' d))
      (VPath.moveDir fuel (spath i id' s) (spath i id' d)) := by
  rw [simM_eq, rSub_eq]
  exact Vfs.C07.altroot_move_dir (Role.toV_sub hi) hP id id' fuel hs hd hns hne
theorem altroot_walk (fuel : Nat) {q : Str} (hq : Canon q) :
    SimM (RSub spec) PRdrop
      (ListRel (RelRes PRdrop (SimVP (RSub spec) PRdrop (HSub spec) (fun _ _ => True))))
      (do let s ← (apath i id P id' q).walkDir; VPath.walkAll fuel s)
      (do let s ← (spath i id' q).walkDir; VPath.walkAll fuel s) := by
  rw [simM_eq, listRel_eq, relRes_eq, simVP_eq, rSub_eq, hSub_eq]
  exact Vfs.C07.altroot_walk (Role.toV_sub hi) hP id id' fuel hq

end ops

def specOne (i : Nat) (P : Str) : Nat → Role := fun j => if j = i then .sub P else .free

theorem rsub_of_leaf (w : World) (i : Nat) (P : Str) (m : FMap) (h : MemLeafAt w i m)
    (hinv : Inv0 (sub P m)) (hanc : AncOK P m) :
    RSub (specOne i P) w (w.setLeafFiles i (sub P m)) := by
  refine ⟨rfl, rfl, rfl, fun j => ?_⟩
  unfold specOne
  by_cases hj : j = i
  · subst hj
    rw [if_pos rfl]
    exact ⟨m, h, h.set _, hinv, hanc⟩
  · rw [if_neg hj, World.leaf?_setLeafFiles_ne _ _ _ _ (fun e => hj e.symm)]
    rfl

end Vfs.T.C07

namespace Vfs.T
open Vfs Vfs.Frm

theorem stripP_none_iff_under (P k : Str) : stripP P k = none ↔ under P k = false := by
  unfold stripP under
  by_cases h1 : k = P
  · simp [h1]
  · by_cases h2 : (P ++ ['/']).isPrefixOf k = true
    · simp [h1, h2]
    · simp [h1, h2]

def RF (spec : Nat → Role) (i : Nat) (P : Str) (m0 : FMap) (w1 w2 : World) : Prop :=
  RSub spec w1 w2 ∧ Outside i P m0 w1

theorem rf_eq (spec : Nat → Role) (i : Nat) (P : Str) (m0 : FMap) :
    RF spec i P m0 = fun a b => Vfs.RSub (fun j => (spec j).toV) a b ∧ Outside i P m0 a := by
  funext a b; unfold RF; rw [rSub_eq]

theorem simHandles_frame {spec : Nat → Role} {i : Nat} {P : Str} (hi : spec i = .sub P)
    (m0 : FMap) : SimHandles (RF spec i P m0) PRdrop (HSub spec) := by
  rw [simHandles_eq, rf_eq, hSub_eq]
  exact Vfs.simHandles_sub (PR := Vfs.PRdrop) (subRel_outside (Role.toV_sub hi) m0)

theorem altroot_sim_frame {spec : Nat → Role} {i : Nat} {P : Str} (hi : spec i = .sub P)
    (hP : Canon P) (id : Nat) (m0 : FMap) :
    SimFS (RF spec i P m0) PRdrop (HSub spec)
      (Altroot.fs { fs := leafFS i, fsId := id, path := P }) (leafFS i) := by
  rw [simFS_eq, rf_eq, hSub_eq]
  exact Vfs.altroot_sim_leaf (subRel_outside (Role.toV_sub hi) m0) (Role.toV_sub hi) hP id

end Vfs.T

namespace Vfs

theorem sub_nil_eq (m : FMap) (h : ∀ k ∈ m.keys, Rooted k) : sub [] m = m := by
  induction m with
  | nil => rfl
  | cons kv rest ih =>
    obtain ⟨k, v⟩ := kv
    have hk : Rooted k := h k (by simp [FMap.keys])
    have hs : stripP [] k = some k := stripP_append [] k hk
    rw [sub_cons_some v rest hs, ih (fun k' hk' => h k' (by simp [FMap.keys] at hk' ⊢; exact Or.inr hk'))]

theorem ancOK_nil (m : FMap) : AncOK [] m := by
  intro ps hps hP j hj
  have : ps = [] := by
    cases ps with
    | nil => rfl
    | cons c cs => simp at hP
  subst this
  simp at hj

section root
variable {spec : Nat → Role} {j : Nat} (hj : spec j = .sub [])
include hj

theorem leaf_notSupported2 {w1 w2 : World} (hr : RSub spec w1 w2) (f : Leaf → Res Unit × FMap)
    (hf : ∀ m, f { kind := .mem, files := m } = (fail .notSupported, m)) :
    RelRes PRdrop (· = ·) (onLeaf j f w1).1 (onLeaf j f w2).1 ∧
      RSub spec (onLeaf j f w1).2 (onLeaf j f w2).2 := by
  obtain ⟨m1, h1, h2, _⟩ := hr.leafAt hj
  rw [onLeaf_run h1, onLeaf_run h2, hf, hf, h1.same, h2.same]
  exact ⟨.err (Or.inl rfl), hr⟩

theorem leafFS_sim_root0 : SimFS0 (RSub spec) PRdrop (HSub spec) (leafFS j) (leafFS j) :=
  have hR := subRel_rsub spec
  { readDir := fun _ hq => (leaf_readDir hR hj hq).toDrop
    createDir := fun _ hq hne => (leaf_createDir hR hj hq hne).toDrop
    openFile := fun _ hq => (leaf_openFile hR hj hq).toDrop
    createFile := fun _ hq => (leaf_createFile hR hj hq).toDrop
    appendFile := fun _ hq => (leaf_appendFile hR hj hq).toDrop
    metadata := fun _ hq => (leaf_metadata hR hj hq).toDrop
    setCreationTime := fun _ t hq => (leaf_setCreationTime hR hj hq t).toDrop
    setModificationTime := fun _ t hq => (leaf_setModificationTime hR hj hq t).toDrop
    setAccessTime := fun _ t hq => (leaf_setAccessTime hR hj hq t).toDrop
    exists_ := fun _ hq => (leaf_exists hR hj hq).toDrop
    removeFile := fun _ hq => (leaf_removeFile hR hj hq).toDrop
    removeDir := fun _ hq hne => (leaf_removeDir hR hj hq hne).toDrop
    moveFile := fun _ _ _ _ _ _ hr => leaf_notSupported2 hj hr _ fun _ => rfl
    moveDir := fun _ _ _ _ _ _ hr => leaf_notSupported2 hj hr _ fun _ => rfl }

theorem leafFS_sim_root : SimFS (RSub spec) PRdrop (HSub spec) (leafFS j) (leafFS j) :=
  SimFS.of_strong (simHandles_sub (subRel_rsub spec)) (leafFS_sim_root0 hj)
    fun _ _ _ _ _ _ hr => leaf_notSupported2 hj hr _ fun _ => rfl

end root
end Vfs

namespace Vfs.T
open Vfs Vfs.T.C07

theorem leafFS_sim_root {spec : Nat → Role} {j : Nat} (hj : spec j = .sub []) :
    SimFS (RSub spec) PRdrop (HSub spec) (leafFS j) (leafFS j) := by
  rw [simFS_eq, rSub_eq, hSub_eq]
  exact Vfs.leafFS_sim_root (Role.toV_sub hj)

def specTwo (i : Nat) (P : Str) (j : Nat) : Nat → Role :=
  fun l => if l = i then .sub P else if l = j then .sub [] else .free

theorem specTwo_i (i : Nat) (P : Str) (j : Nat) : specTwo i P j i = .sub P := by
  unfold specTwo; rw [if_pos rfl]

theorem specTwo_j {i j : Nat} (P : Str) (h : j ≠ i) : specTwo i P j j = .sub [] := by
  unfold specTwo; rw [if_neg h, if_pos rfl]

theorem specTwo_other {i j l : Nat} (P : Str) (h1 : l ≠ i) (h2 : l ≠ j) :
    specTwo i P j l = .free := by
  unfold specTwo; rw [if_neg h1, if_neg h2]

theorem rsub_two (w : World) (i : Nat) (P : Str) (m : FMap) (h : MemLeafAt w i m)
    (hinv : Inv0 (sub P m)) (hanc : AncOK P m) (j : Nat) (hji : j ≠ i) (md : FMap)
    (hj : MemLeafAt w j md) (hroot : ∃ e, md.find? [] = some e ∧ e.ftype = .dir)
    (hcan : ∀ k ∈ md.keys, Canon k) :
    RSub (specTwo i P j) w (w.setLeafFiles i (sub P m)) := by
  have hsub : sub [] md = md := sub_nil_eq md (fun k hk => (hcan k hk).rootedT)
  refine ⟨rfl, rfl, rfl, fun l => ?_⟩
  by_cases hl : l = i
  · subst hl
    rw [specTwo_i]
    exact ⟨m, h, h.set _, hinv, hanc⟩
  · rw [World.leaf?_setLeafFiles_ne _ _ _ _ (fun e => hl e.symm)]
    by_cases hl2 : l = j
    · subst hl2
      rw [specTwo_j P hji]
      exact ⟨md, hj, by rw [hsub]; exact hj, by rw [hsub]; exact ⟨hroot, hcan⟩, ancOK_nil md⟩
    · rw [specTwo_other P hl hl2]
      rfl

end Vfs.T
