/-
  Every operation of the `VfsPath` layer, and every method of AltrootFS, OverlayFS and EmbeddedFS,
  meets a specification `S` (Proofs/Hoare.lean) as soon as the methods of the underlying filesystem
  it calls do. Observers need only the four observer methods; `exists` and `read_path` of an
  adapter only `exists`. The fuel-taking recursions are stated one unfolding at a time
  (`…_step`, `…_of`) for every `S`, and as a whole for those `S` that allow the fuel sentinel. The
  statements for `Preserves I` are the instances at `Spec.preserves I`. The wrappers of the harness
  (`recordFS`, `faultFS`) forward `S` as soon as the one step each adds (`logCall`, `faultGate`) does;
  for `Preserves I`: a recorder keeps what its log entries keep, the fault gate what does not look at
  the fault plan (`FaultFree`).
-/
import VfsModel.Proofs.Hoare
import VfsModel.Proofs.Routes
import VfsModel.Proofs.PathLemmas
import VfsModel.Embedded
namespace Vfs

theorem RHandle.readToEnd_ne_panic (r : RHandle) : r.readToEnd.1 ≠ .panic := by
  unfold RHandle.readToEnd
  split <;> simp [fail]

theorem RHandle.readToEnd_ns (r : RHandle) (p : Option Str) :
    r.readToEnd.1 ≠ .err .notSupported p := by
  unfold RHandle.readToEnd
  split <;> simp [fail]

namespace VPath
variable {S : Spec}

@[simp] theorem withStr_fs (p : VPath) (s : Str) : (p.withStr s).fs = p.fs := rfl
@[simp] theorem parent_fs (p : VPath) : p.parent.fs = p.fs := rfl

theorem join_fs (p q : VPath) (arg : Str) (h : p.join arg = .ok q) : q.fs = p.fs ∧ q.fsId = p.fsId := by
  unfold join at h
  cases hj : joinInternal p.path arg <;> simp [hj, Res.map] at h
  subst h; exact ⟨rfl, rfl⟩

/-- `VfsPath::join` never panics, for any two strings -/
theorem join_ne_panic (p : VPath) (arg : Str) : p.join arg ≠ .panic := by
  unfold join
  rw [Ne, ← Res.out_eq_panic, Res.out_map, Res.out_eq_panic]
  exact joinInternal_ne_panic p.path arg

theorem join_ok_or_invalid (p : VPath) (arg : Str) :
    (∃ q, p.join arg = .ok q) ∨ p.join arg = .err .invalidPath (some arg) := by
  unfold join joinInternal
  split
  · exact Or.inl ⟨_, rfl⟩
  · split
    · exact Or.inr rfl
    · exact Or.inl ⟨_, rfl⟩

/-- the only failure of `join` is `InvalidPath` -/
theorem join_ns (p : VPath) (arg : Str) (q : Option Str) : p.join arg ≠ .err .notSupported q := by
  unfold join
  cases h : joinInternal p.path arg with
  | ok s => exact nofun
  | err k l => cases joinInternal_err_kind h; exact nofun
  | panic => exact nofun

theorem sat_exists (p : VPath) (h : S.Obs p.fs) : S.Sat p.exists_ := h.exists_ _
theorem sat_metadata (p : VPath) (h : S.Obs p.fs) : S.Sat p.metadata :=
  .withPath _ (h.metadata _)
theorem sat_openFile (p : VPath) (h : S.Obs p.fs) : S.Sat p.openFile :=
  .withPath _ (h.openFile _)

/-- the statements `…_of` assume only the calls that the operation makes -/
theorem sat_readDir_of (p : VPath) (h : S.Sat (p.fs.readDir p.path)) : S.Sat p.readDir := by
  unfold readDir
  sat

theorem sat_readDir (p : VPath) (h : S.Obs p.fs) : S.Sat p.readDir :=
  sat_readDir_of p (h.readDir _)

theorem readDir_fs (p : VPath) : Returns p.readDir (fun l => ∀ c ∈ l, c.fs = p.fs ∧ c.fsId = p.fsId) := by
  unfold readDir
  apply Returns.bind
  intro names
  apply Returns.pure
  intro c hc
  simp only [List.mem_map] at hc
  obtain ⟨n, _, rfl⟩ := hc
  exact ⟨rfl, rfl⟩

theorem sat_isFile_of (p : VPath) (h1 : S.Sat p.exists_) (h2 : S.Sat p.metadata) :
    S.Sat p.isFile := by
  unfold isFile
  sat

theorem sat_isFile (p : VPath) (h : S.Obs p.fs) : S.Sat p.isFile :=
  sat_isFile_of p (sat_exists p h) (sat_metadata p h)

theorem sat_isDir_of (p : VPath) (h1 : S.Sat p.exists_) (h2 : S.Sat p.metadata) :
    S.Sat p.isDir := by
  unfold isDir
  sat

theorem sat_isDir (p : VPath) (h : S.Obs p.fs) : S.Sat p.isDir :=
  sat_isDir_of p (sat_exists p h) (sat_metadata p h)

theorem sat_createDir_of (p : VPath) (h1 : S.Sat p.getParent) (h2 : S.Sat (p.fs.createDir p.path)) :
    S.Sat p.createDir := by
  unfold createDir
  sat

/-- `create_dir_all` catches `DirectoryExists` only; the loop is structural on the list of
prefixes -/
theorem sat_createDirAllLoop_of (p : VPath) (l : List Str) (h : ∀ d ∈ l, S.Sat (p.fs.createDir d)) :
    S.Sat (createDirAllLoop p l) := by
  induction l with
  | nil => exact .pure _
  | cons d rest ih =>
    have ih := ih fun x hx => h x (List.mem_cons_of_mem _ hx)
    refine ⟨fun w hw => ?_⟩
    have h1 := (h d List.mem_cons_self).post w hw
    rw [createDirAllLoop_cons]
    cases hres : p.fs.createDir d w with
    | mk r w' =>
      rw [hres] at h1
      cases r with
      | ok a => exact ih.post w' (S.pre_of_ok w' h1)
      | err k pth =>
        cases k
        case dirExists => exact ih.post w' (S.pre_of_err _ w' (by decide) h1)
        all_goals exact h1
      | panic => exact h1

theorem sat_createDirAll_of (p : VPath) (h : ∀ d, S.Sat (p.fs.createDir d)) : S.Sat p.createDirAll := by
  unfold createDirAll
  split
  · exact .pure _
  · exact sat_createDirAllLoop_of p _ fun d _ => h d

theorem sat_createDirAll (p : VPath) (h : S.All p.fs) : S.Sat p.createDirAll :=
  sat_createDirAll_of p h.createDir

theorem sat_createFile_of (p : VPath) (h1 : S.Sat p.getParent) (h2 : S.Sat (p.fs.createFile p.path)) :
    S.Sat p.createFile := by
  unfold createFile
  sat

theorem createFile_handle_of (p : VPath) (h : Returns (p.fs.createFile p.path) S.HandleOK) :
    Returns p.createFile S.HandleOK := by
  unfold createFile
  apply Returns.bind
  intro _
  exact Returns.withPath _ h

theorem sat_createFile_handle (p : VPath) (h : S.All p.fs) : Returns p.createFile S.HandleOK :=
  createFile_handle_of p (h.createHandle _)

theorem sat_appendFile (p : VPath) (h : S.All p.fs) : S.Sat p.appendFile :=
  .withPath _ (h.appendFile _)
theorem sat_appendFile_handle (p : VPath) (h : S.All p.fs) : Returns p.appendFile S.HandleOK :=
  Returns.withPath _ (h.appendHandle _)
theorem sat_removeFile (p : VPath) (h : S.All p.fs) : S.Sat p.removeFile :=
  .withPath _ (h.removeFile _)
theorem sat_removeDir (p : VPath) (h : S.All p.fs) : S.Sat p.removeDir :=
  .withPath _ (h.removeDir _)
theorem sat_setCreationTime (p : VPath) (t : Int) (h : S.All p.fs) :
    S.Sat (p.setCreationTime t) := .withPath _ (h.setCreationTime _ _)
theorem sat_setModificationTime (p : VPath) (t : Int) (h : S.All p.fs) :
    S.Sat (p.setModificationTime t) := .withPath _ (h.setModificationTime _ _)
theorem sat_setAccessTime (p : VPath) (t : Int) (h : S.All p.fs) :
    S.Sat (p.setAccessTime t) := .withPath _ (h.setAccessTime _ _)

/-! #### `remove_dir_all` -/

/-- the methods that `remove_dir_all` calls: the observers, `remove_file`, `remove_dir` -/
structure _root_.Vfs.Spec.Rm (S : Spec) (fs : FS) : Prop where
  obs : S.Obs fs
  removeFile : ∀ p, S.Sat (fs.removeFile p)
  removeDir : ∀ p, S.Sat (fs.removeDir p)

theorem _root_.Vfs.Spec.All.rm {fs : FS} (h : S.All fs) : S.Rm fs := ⟨h.obs, h.removeFile, h.removeDir⟩

/-- the loop over the children, given the recursive calls on the children -/
theorem sat_removeChildren_of (fuel : Nat) (l : List VPath) (h : ∀ c ∈ l, S.Rm c.fs)
    (hrec : ∀ c ∈ l, S.Sat (removeDirAll fuel c)) : S.Sat (removeChildren fuel l) := by
  induction l with
  | nil => rw [removeChildren_nil]; exact .pure _
  | cons c rest ih =>
    rw [removeChildren_cons]
    have hc := h c (by simp)
    apply Spec.Sat.bind (sat_metadata c hc.obs)
    intro md
    dsimp only
    have hrest := ih (fun x hx => h x (by simp [hx])) (fun x hx => hrec x (by simp [hx]))
    split
    · exact .bind (.withPath _ (hc.removeFile _)) (fun _ => hrest)
    · exact .bind (hrec c (by simp)) (fun _ => hrest)

/-- one unfolding of `remove_dir_all`, given the recursive calls (on paths of the same
filesystem, with the remaining fuel) -/
theorem sat_removeDirAll_step (fuel : Nat) (p : VPath) (h : S.Rm p.fs)
    (hrec : ∀ c : VPath, c.fs = p.fs → S.Sat (removeDirAll fuel c)) :
    S.Sat (removeDirAll (fuel + 1) p) := by
  rw [removeDirAll_succ]
  apply Spec.Sat.bind (sat_exists p h.obs)
  intro b
  split
  · exact .pure _
  · apply Spec.Sat.bindQ _ (sat_readDir p h.obs) (readDir_fs p)
    intro children hc
    apply Spec.Sat.bind
    · exact sat_removeChildren_of fuel children (fun c hm => by rw [(hc c hm).1]; exact h)
        (fun c hm => hrec c (hc c hm).1)
    · intro _; exact .withPath _ (h.removeDir _)

/-- for a specification that allows the fuel sentinel -/
theorem sat_removeDirAll [S.May .panic] (fuel : Nat) (p : VPath)
    (h : S.Rm p.fs) : S.Sat (removeDirAll fuel p) := by
  induction fuel generalizing p with
  | zero => rw [removeDirAll_zero]; exact .sentinel
  | succ fuel ih => exact sat_removeDirAll_step fuel p h (fun c hc => ih c (by rw [hc]; exact h))

/-! #### walk -/

theorem sat_walkDir (p : VPath) (h : S.Obs p.fs) : S.Sat p.walkDir := by
  have h1 := sat_readDir p h
  unfold walkDir
  sat

/-- all paths held by a walk state belong to one filesystem -/
def Walk.On (s : Walk) (fs : FS) : Prop := (∀ c ∈ s.inner, c.fs = fs) ∧ (∀ c ∈ s.todo, c.fs = fs)

/-! #### what a walk holds and yields, for any property of paths that `read_dir` keeps

`WalkClosed G E`: `read_dir` keeps the property `G` of paths, and `E` is what `read_dir` and
`metadata` of a `G`-path answer when they fail. A step of the iterator over `G`-paths, under any
specification `S` that `read_dir` and `metadata` of `G`-paths meet (`satq_walkFind`,
`satq_walkNext`): the item it yields is held (`S.heldItem`: an error of the listing has become the
item), it is a `G`-path or an `E`-error, and the state is again over `G`-paths. At `Spec.top` this
is the invariant alone (`walkNext_inv`). `Walk.On fs`, `Walk.Below base` and `Walk.From src`, in
which C13 and C20 are stated, are `WalkP` at "same filesystem", "below `base`" and both
(`Walk.from_iff`); `VPath.walkNext_on`, `walkNext_below`, `walkNext_from` are `walkNext_inv` there. A
further invariant needs no vocabulary of its own: `WalkP G` with a `WalkClosed G E` (as in
Props/C12Stack.lean, "at or below the walked root"). -/

/-- an item of a walk over `G`-paths: a `G`-path, or an error satisfying `E` -/
def ItemP (G : VPath → Prop) (E : ErrKind → Option Str → Prop) : Res VPath → Prop
  | .ok x => G x
  | .err k p => E k p
  | .panic => False

/-- all paths held by a walk state satisfy `G` -/
def WalkP (G : VPath → Prop) (s : Walk) : Prop := (∀ c ∈ s.inner, G c) ∧ (∀ c ∈ s.todo, G c)

/-- what a step over `G`-paths returns -/
def StepP (G : VPath → Prop) (E : ErrKind → Option Str → Prop) (r : Option (Res VPath) × Walk) :
    Prop := (∀ it, r.1 = some it → ItemP G E it) ∧ WalkP G r.2

/-- `read_dir` of a `G`-path lists `G`-paths, and what `read_dir` and `metadata` of a `G`-path
answer when they fail satisfies `E` -/
structure WalkClosed (G : VPath → Prop) (E : ErrKind → Option Str → Prop) : Prop where
  children : ∀ d, G d → Returns d.readDir (fun l => ∀ c ∈ l, G c)
  readDirE : ∀ d w k p, G d → (d.readDir w).1 = .err k p → E k p
  metadataE : ∀ x w k p, G x → (x.metadata w).1 = .err k p → E k p

/-- a property that every listing hands down to the children, whatever the errors are -/
theorem WalkClosed.of_children {G : VPath → Prop}
    (h : ∀ d, G d → Returns d.readDir (fun l => ∀ c ∈ l, G c)) : WalkClosed G (fun _ _ => True) :=
  ⟨h, fun _ _ _ _ _ _ => trivial, fun _ _ _ _ _ _ => trivial⟩

/-- an item that is held and is not `.panic` leaves `pre`, where every error may be caught -/
theorem heldItem_pre {G : VPath → Prop} {E : ErrKind → Option Str → Prop}
    (hall : ∀ k w, S.post (.err k) w → S.pre w) (r : Option (Res VPath) × Walk) (w : World)
    (h : S.heldItem r w) (hr : StepP G E r) : S.pre w := by
  obtain ⟨item, s⟩ := r
  cases item with
  | none => exact h
  | some it =>
    cases it with
    | ok a => exact S.pre_of_ok w h
    | err k p => exact hall k w h
    | panic => exact (hr.1 _ rfl).elim

section walkStep
variable {G : VPath → Prop} {E : ErrKind → Option Str → Prop} (hc : WalkClosed G E)
  (hrd : ∀ d, G d → S.Sat d.readDir)
include hc hrd

/-- the search loop of `WalkDirIterator::next` (structural on the stack of directories) -/
theorem satq_walkFind (inner todo : List VPath) (hi : ∀ c ∈ inner, G c) (ht : ∀ c ∈ todo, G c) :
    S.SatQ (walkFind inner todo) (fun r w => S.heldItem r w ∧ StepP G E r) := by
  cases inner with
  | cons x inner =>
    unfold walkFind
    exact .pure _ fun w hw => ⟨S.ok_of_pre w hw, fun it h => by cases h; exact hi x (by simp),
      fun c hc' => hi c (by simp [hc']), ht⟩
  | nil =>
    induction todo with
    | nil => unfold walkFind; exact .pure _ fun w hw => ⟨hw, nofun, by simp [WalkP]⟩
    | cons d todo ih =>
      refine ⟨fun w hw => ?_⟩
      have hd := ht d (by simp)
      have htl : ∀ c ∈ todo, G c := fun c hc' => ht c (by simp [hc'])
      have h1 := (hrd d hd).post w hw
      have hch := (hc.children d hd).post w
      have herr := hc.readDirE d w
      unfold walkFind
      rcases hres : d.readDir w with ⟨res, w'⟩
      rw [hres] at h1 hch herr
      cases res with
      | ok l =>
        have hl := hch l rfl
        cases l with
        | nil => exact (ih htl).post w' (S.pre_of_ok w' h1)
        | cons x inner =>
          exact ⟨h1, fun it h => by cases h; exact hl x (by simp), fun c hc' => hl c (by simp [hc']), htl⟩
      | err k p => exact ⟨h1, fun it h => by cases h; exact herr k p hd rfl, by simp, htl⟩
      | panic => exact h1

/-- **`WalkDirIterator::next`** -/
theorem satq_walkNext (hmd : ∀ x, G x → S.Sat x.metadata) (s : Walk) (hs : WalkP G s) :
    S.SatQ (walkNext s) (fun r w => S.heldItem r w ∧ StepP G E r) := by
  unfold walkNext
  refine (satq_walkFind hc hrd s.inner s.todo hs.1 hs.2).bind ?_
  rintro ⟨item, s'⟩ w ⟨hw, hr⟩
  cases item with
  | none => exact ⟨hw, hr⟩
  | some r =>
    cases r with
    | err k pth => exact ⟨hw, hr⟩
    | panic => exact (hr.1 _ rfl).elim
    | ok x =>
      have hx : G x := hr.1 _ rfl
      have h1 := (hmd x hx).post w (S.pre_of_ok w hw)
      have herr := hc.metadataE x w
      dsimp only
      rcases hres : x.metadata w with ⟨res, w'⟩
      rw [hres] at h1 herr
      cases res with
      | ok md =>
        dsimp only
        split
        · refine ⟨h1, fun it h => by cases h; exact hx, hr.2.1, fun c hc' => ?_⟩
          rcases List.mem_cons.1 hc' with rfl | hc'
          · exact hx
          · exact hr.2.2 c hc'
        · exact ⟨h1, fun it h => by cases h; exact hx, hr.2⟩
      | err k p => exact ⟨h1, fun it h => by cases h; exact herr k p hx rfl, hr.2⟩
      | panic => exact h1

end walkStep

section walkInv
variable {G : VPath → Prop} {E : ErrKind → Option Str → Prop} (hc : WalkClosed G E)
include hc

theorem walkDir_inv (p : VPath) (hp : G p) : Returns p.walkDir (WalkP G) := by
  unfold walkDir
  exact Returns.bindQ (hc.children p hp) fun l hl => Returns.pure _ ⟨hl, by simp⟩

theorem walkNext_inv (s : Walk) (hs : WalkP G s) : Returns (walkNext s) (StepP G E) :=
  .of_satQ ((satq_walkNext (S := .top) hc (fun _ _ => ⟨fun _ _ => trivial⟩)
    (fun _ _ => ⟨fun _ _ => trivial⟩) s hs).mono fun _ _ h => h.2)

/-- the whole walk (`walk_dir().collect()`) -/
theorem walkAll_inv (fuel : Nat) (s : Walk) (hs : WalkP G s) :
    Returns (walkAll fuel s) (fun l => ∀ it ∈ l, ItemP G E it) := by
  induction fuel generalizing s with
  | zero => rw [walkAll_zero]; exact Returns.ret _ nofun
  | succ fuel ih =>
    rw [walkAll_succ]
    refine Returns.bindQ (walkNext_inv hc s hs) fun r hr => ?_
    obtain ⟨item, s'⟩ := r
    dsimp only
    split
    · exact Returns.pure _ (by simp)
    · rename_i it
      refine Returns.bindQ (ih s' hr.2) fun rest hrest => Returns.pure _ fun x hx => ?_
      rcases List.mem_cons.1 hx with rfl | hx
      · exact hr.1 _ rfl
      · exact hrest x hx

end walkInv

theorem readDir_on (fs : FS) (d : VPath) (hd : d.fs = fs) :
    Returns d.readDir (fun l => ∀ c ∈ l, c.fs = fs) :=
  (readDir_fs d).mono (fun _ h c hc => by rw [(h c hc).1, hd])

theorem readDir_hands (P : FS → Prop) (d : VPath) (hd : P d.fs) :
    Returns d.readDir (fun l => ∀ c ∈ l, P c.fs) :=
  (readDir_fs d).mono (fun _ h c hc => by rw [(h c hc).1]; exact hd)

theorem walkDir_hands (P : FS → Prop) (p : VPath) (h : P p.fs) :
    Returns p.walkDir (fun s => (∀ c ∈ s.inner, P c.fs) ∧ ∀ c ∈ s.todo, P c.fs) :=
  walkDir_inv (.of_children (readDir_hands P)) p h

theorem walkDir_on (p : VPath) : Returns p.walkDir (fun s => s.On p.fs) :=
  walkDir_inv (.of_children (readDir_on p.fs)) p rfl

theorem walkNext_on (fs : FS) (s : Walk) (hs : s.On fs) :
    Returns (walkNext s) (fun r => (∀ x, r.1 = some (.ok x) → x.fs = fs) ∧ r.2.On fs) :=
  (walkNext_inv (.of_children (readDir_on fs)) s hs).mono (fun _ h => ⟨fun _ hx => h.1 _ hx, h.2⟩)

/-- the item yielded by `next` is a path or an error, never `some .panic` -/
theorem walkNext_item (s : Walk) : Returns (walkNext s) (fun r => r.1 ≠ some .panic) :=
  (walkNext_inv (G := fun _ => True) (.of_children fun _ _ => ⟨fun _ _ _ _ _ => trivial⟩) s
    ⟨fun _ _ => trivial, fun _ _ => trivial⟩).mono fun _ h he => h.1 _ he

/-- `WalkDirIterator::next` over paths whose filesystems meet `S`, which may differ -/
theorem satq_walkNext_obs (s : Walk) (hi : ∀ c ∈ s.inner, S.Obs c.fs) (ht : ∀ c ∈ s.todo, S.Obs c.fs) :
    S.SatQ (walkNext s) (fun r w => S.heldItem r w ∧ StepP (fun c => S.Obs c.fs) (fun _ _ => True) r) :=
  satq_walkNext (.of_children (readDir_hands S.Obs)) (fun c h => sat_readDir c h)
    (fun c h => sat_metadata c h) s ⟨hi, ht⟩

/-- Where every error may be caught, the step as a whole meets `S`. `hall` is `Spec.pre_of_err`
without its exception for `.io`: it holds of `Spec.preserves`, `Spec.noPanic`, not of
`Spec.faithful`, for which `satq_walkNext_obs` (the error item is HELD) is the statement to use. -/
theorem sat_walkNext (hall : ∀ k w, S.post (.err k) w → S.pre w) (s : Walk)
    (hi : ∀ c ∈ s.inner, S.Obs c.fs) (ht : ∀ c ∈ s.todo, S.Obs c.fs) : S.Sat (walkNext s) :=
  Spec.SatQ.sat ((satq_walkNext_obs s hi ht).mono fun r w h => heldItem_pre hall r w h.1 h.2)

theorem sat_walkAll_step {G : VPath → Prop} {E : ErrKind → Option Str → Prop}
    (hall : ∀ k w, S.post (.err k) w → S.pre w) (hc : WalkClosed G E)
    (hG : ∀ c, G c → S.Obs c.fs) (fuel : Nat) (s : Walk) (hs : WalkP G s)
    (hrec : ∀ s' : Walk, WalkP G s' → S.Sat (walkAll fuel s')) : S.Sat (walkAll (fuel + 1) s) := by
  rw [walkAll_succ]
  refine (satq_walkNext hc (fun c h => sat_readDir c (hG c h)) (fun c h => sat_metadata c (hG c h))
    s hs).bind_sat ?_
  rintro ⟨item, s'⟩ w ⟨hw, hr⟩
  cases item with
  | none => exact S.ok_of_pre w hw
  | some it =>
    exact (Spec.Sat.bind (hrec s' hr.2) (fun _ => .pure _)).post w (heldItem_pre hall _ w hw hr)

theorem sat_walkAll (hall : ∀ k w, S.post (.err k) w → S.pre w)
    [S.May .panic] (fuel : Nat) (s : Walk)
    (hi : ∀ c ∈ s.inner, S.Obs c.fs) (ht : ∀ c ∈ s.todo, S.Obs c.fs) :
    S.Sat (walkAll fuel s) := by
  induction fuel generalizing s with
  | zero => rw [walkAll_zero]; exact .sentinel
  | succ fuel ih =>
    exact sat_walkAll_step hall (.of_children (readDir_hands S.Obs)) (fun _ h => h) fuel s ⟨hi, ht⟩
      (fun s' h => ih s' h.1 h.2)

/-! #### the slice `&src_path.as_str()[prefix_len + 1..]` of copy_dir / move_dir

Every path that a walk started at `base` holds or yields has the form `base ++ "/" ++ t`, so
the slice from `base.len() + 1` is in range. -/

/-- `x` lies strictly below `base`: its path string extends `base ++ "/"` -/
def Below (base : Str) (x : VPath) : Prop := ∃ t, x.path = base ++ '/' :: t

/-- all paths held by a walk state lie below `base` -/
def Walk.Below (s : Walk) (base : Str) : Prop :=
  (∀ c ∈ s.inner, VPath.Below base c) ∧ (∀ c ∈ s.todo, VPath.Below base c)

/-- what a walk step below `base` returns -/
def WalkRetB (base : Str) (r : Option (Res VPath) × Walk) : Prop :=
  (∀ x, r.1 = some (.ok x) → Below base x) ∧ r.2.Below base

theorem Below.length {base : Str} {x : VPath} (h : Below base x) :
    base.length + 1 ≤ x.path.length := by
  obtain ⟨t, ht⟩ := h
  rw [ht]; simp

/-- the children listed by `read_dir` are `p.path ++ "/" ++ name` -/
theorem readDir_children (p : VPath) :
    Returns p.readDir (fun l => ∀ c ∈ l, ∃ n, c.path = p.path ++ '/' :: n) := by
  unfold readDir
  apply Returns.bind
  intro names
  apply Returns.pure
  intro c hc
  simp only [List.mem_map] at hc
  obtain ⟨n, _, rfl⟩ := hc
  exact ⟨n, rfl⟩

theorem readDir_below_self (p : VPath) : Returns p.readDir (fun l => ∀ c ∈ l, Below p.path c) :=
  (readDir_children p).mono (fun _ h c hc => h c hc)

theorem readDir_below (base : Str) (d : VPath) (hd : Below base d) :
    Returns d.readDir (fun l => ∀ c ∈ l, Below base c) := by
  apply (readDir_children d).mono
  intro l h c hc
  obtain ⟨n, hn⟩ := h c hc
  obtain ⟨t, ht⟩ := hd
  exact ⟨t ++ '/' :: n, by rw [hn, ht]; simp⟩

theorem walkDir_below (p : VPath) : Returns p.walkDir (fun s => s.Below p.path) := by
  unfold walkDir
  apply Returns.bindQ (readDir_below_self p)
  intro l hl
  apply Returns.pure
  exact ⟨hl, fun c hc => (by cases hc)⟩

/-- **the invariant of the walk**: `next` keeps every held path below `base`, and the item it
yields lies below `base` -/
theorem walkNext_below (base : Str) (s : Walk) (hs : s.Below base) :
    Returns (walkNext s) (WalkRetB base) :=
  (walkNext_inv (.of_children (readDir_below base)) s hs).mono
    (fun _ h => ⟨fun _ hx => h.1 _ hx, h.2⟩)

/-- **the slice of `relJoin` is in range** for every path below the source: the outcome is the
outcome of `join` (a path, or `InvalidPath`), never the out-of-range panic -/
theorem relJoin_eq_join (dst : VPath) (base : Str) (x : VPath) (hx : Below base x) :
    relJoin dst base.length x = dst.join (x.path.drop (base.length + 1)) := by
  have := hx.length
  unfold relJoin
  rw [if_neg (by omega)]

theorem relJoin_ne_panic (dst : VPath) (base : Str) (x : VPath) (hx : Below base x) :
    relJoin dst base.length x ≠ .panic := by
  rw [relJoin_eq_join dst base x hx]
  exact join_ne_panic _ _

theorem sat_relJoin [S.Errs] (dst : VPath) (base : Str) (x : VPath) (hx : Below base x) :
    S.Sat (M.ret (relJoin dst base.length x)) := by
  rw [relJoin_eq_join dst base x hx]
  exact .ret _ (S.may_out (join_ne_panic _ _) (join_ns _ _))

/-- the relative part handed to `join` is exactly what follows `base ++ "/"` -/
theorem relJoin_arg (base t : Str) : (base ++ '/' :: t).drop (base.length + 1) = t := by
  rw [show base ++ '/' :: t = (base ++ ['/']) ++ t by simp]
  rw [List.drop_append_of_le_length (by simp)]
  simp

/-- conversely the site is a real one: on a path that is *not* longer than the prefix the
model panics (this is why the invariant is needed) -/
theorem relJoin_panics (dst : VPath) (n : Nat) (x : VPath) (h : x.path.length < n + 1) :
    relJoin dst n x = .panic := by
  unfold relJoin; rw [if_pos h]

/-- the walk state of copy_dir / move_dir: over the source filesystem and below the source -/
def Walk.From (s : Walk) (src : VPath) : Prop := s.On src.fs ∧ s.Below src.path

theorem walkDir_from (src : VPath) : Returns src.walkDir (fun s => s.From src) :=
  (walkDir_on src).and (walkDir_below src)

/-- `Walk.From` as a property of the paths held -/
def FromP (src x : VPath) : Prop := x.fs = src.fs ∧ Below src.path x

theorem fromP_walkClosed (src : VPath) : WalkClosed (FromP src) (fun _ _ => True) :=
  .of_children fun d hd =>
    ((readDir_on src.fs d hd.1).and (readDir_below src.path d hd.2)).mono
      fun _ h c hc => ⟨h.1 c hc, h.2 c hc⟩

theorem Walk.from_iff (src : VPath) (s : Walk) : s.From src ↔ WalkP (FromP src) s :=
  ⟨fun h => ⟨fun c hc => ⟨h.1.1 c hc, h.2.1 c hc⟩, fun c hc => ⟨h.1.2 c hc, h.2.2 c hc⟩⟩,
   fun h => ⟨⟨fun c hc => (h.1 c hc).1, fun c hc => (h.2 c hc).1⟩,
     ⟨fun c hc => (h.1 c hc).2, fun c hc => (h.2 c hc).2⟩⟩⟩

/-- what `next` returns on such a state -/
theorem walkNext_from (src : VPath) (s : Walk) (hs : s.From src) :
    Returns (walkNext s) (fun r => (∀ x, r.1 = some (.ok x) → x.fs = src.fs ∧ Below src.path x) ∧
      r.1 ≠ some .panic ∧ r.2.From src) :=
  (walkNext_inv (fromP_walkClosed src) s ((Walk.from_iff src s).1 hs)).mono fun r h =>
    ⟨fun _ hx => h.1 _ hx, fun he => h.1 _ he, (Walk.from_iff src r.2).2 h.2⟩

variable [S.Errs]

/-- `get_parent`, also on the root (whose parent is the root) -/
theorem sat_getParent_of (p : VPath) (h1 : S.Sat p.parent.exists_) (h2 : S.Sat p.parent.metadata) :
    S.Sat p.getParent := by
  unfold getParent
  sat

theorem sat_getParent (p : VPath) (h : S.Obs p.fs) : S.Sat p.getParent :=
  sat_getParent_of p (sat_exists p.parent h) (sat_metadata p.parent h)

theorem sat_createDir (p : VPath) (h : S.All p.fs) : S.Sat p.createDir :=
  sat_createDir_of p (sat_getParent p h.obs) (h.createDir _)

theorem sat_createFile (p : VPath) (h : S.All p.fs) : S.Sat p.createFile :=
  sat_createFile_of p (sat_getParent p h.obs) (h.createFile _)

theorem sat_readToEndChecked (p : VPath) (h : S.Obs p.fs) : S.Sat p.readToEndChecked := by
  unfold readToEndChecked
  apply Spec.Sat.bind (sat_metadata p h)
  intro md
  split
  · exact .failAt _ _
  · apply Spec.Sat.bind (sat_openFile p h)
    intro r
    exact .withPath _ (.ret _ (S.may_out r.readToEnd_ne_panic r.readToEnd_ns))

/-! #### transfers -/

theorem sat_ioCopyAndDrop (r : RHandle) (h : WHandle) (sp : Str) (hk : S.HandleOK h) :
    S.Sat (ioCopyAndDrop r h sp) := by
  unfold ioCopyAndDrop
  apply Spec.Sat.bind (.withPath _ (.ret _ (S.may_out r.readToEnd_ne_panic r.readToEnd_ns)))
  intro bytes
  apply Spec.Sat.bindQ _ (hk.write bytes) (hk.write_ret bytes)
  intro x hx
  exact hx.drop

omit [S.Errs] in
/-- the same-filesystem shortcut: `ok` and every error but `NotSupported` of the filesystem's own
method are returned, `NotSupported` leads to `slow` -/
theorem sat_fastOr {c : Prop} [Decidable c] {m slow : M Unit} (hm : c → S.Sat m)
    (hs : S.Sat slow) : S.Sat (fastOr c m slow) := by
  unfold fastOr
  split
  · rename_i hc
    refine Spec.Sat.attempt_bind (hm hc) (fun r w hr => ?_)
    cases r with
    | ok a => exact hr
    | panic => exact hr
    | err k p =>
      dsimp only
      split
      · exact hr
      · rename_i hk
        have : k = .notSupported := Classical.not_not.1 hk
        subst this
        exact hs.post w (S.pre_of_err _ w (by decide) hr)
  · exact hs

/-- the probe of the destination in front of a transfer -/
theorem sat_guarded {α} (src dst : VPath) (lbl : Str) {body : M α} (hex : S.Sat dst.exists_)
    (hb : S.Sat body) : S.Sat (guarded src dst lbl body) := by
  unfold guarded
  sat

/-- `copy_file`, from the calls it makes -/
theorem sat_copyFile_of (src dst : VPath) (hex : S.Sat dst.exists_)
    (hfast : src.fsId = dst.fsId → S.Sat (src.fs.copyFile src.path dst.path))
    (hop : S.Sat src.openFile) (hcr : S.Sat dst.createFile)
    (hh : Returns dst.createFile S.HandleOK) : S.Sat (src.copyFile dst) :=
  sat_guarded src dst _ hex (sat_fastOr hfast
    (.bind hop fun r => .bindQ _ hcr hh fun wh hwh => sat_ioCopyAndDrop r wh _ hwh))

/-- `copy_file`: the source is only observed, unless source and destination are the same
filesystem value (then its own `copy_file` may be used) -/
theorem sat_copyFile (src dst : VPath) (hs : S.Obs src.fs) (hd : S.All dst.fs)
    (hsame : src.fsId = dst.fsId → S.All src.fs) : S.Sat (src.copyFile dst) :=
  sat_copyFile_of src dst (sat_exists dst hd.obs) (fun heq => (hsame heq).copyFile _ _)
    (sat_openFile src hs) (sat_createFile dst hd) (sat_createFile_handle dst hd)

/-- `move_file`: the removal of the source is attempted, the destination handle is dropped
(which cannot fail, and keeps what the removal established: `hdrop`), and the outcome of the
removal is returned. `hdrop` does not follow from `S.HandleOK h`: that gives `S.Sat h.drop`, which
starts from `pre`, and after a removal that failed with `.io` only `post (.err .io)` is known. -/
theorem sat_moveFile (src dst : VPath) (hs : S.All src.fs) (hd : S.All dst.fs)
    (hdrop : ∀ (h : WHandle) o w, S.HandleOK h → S.post o w → S.post o (h.drop w).2) :
    S.Sat (src.moveFile dst) := by
  rw [moveFile_eq]
  refine sat_guarded src dst _ (sat_exists dst hd.obs) (sat_fastOr (fun _ => hs.moveFile _ _) ?_)
  · apply Spec.Sat.bind (sat_openFile src hs.obs)
    intro r
    apply Spec.Sat.bindQ _ (sat_createFile dst hd) (sat_createFile_handle dst hd)
    intro wh hwh
    unfold moveTail
    apply Spec.Sat.bind (.withPath _ (.ret _ (S.may_out r.readToEnd_ne_panic r.readToEnd_ns)))
    intro bytes
    apply Spec.Sat.bindQ _ (hwh.write bytes) (hwh.write_ret bytes)
    intro x hx
    refine Spec.Sat.attempt_bind (sat_removeFile src hs) (fun res w hr => ?_)
    show S.post (M.bind x.2.drop (fun _ => M.ret res) w).1.out (M.bind x.2.drop (fun _ => M.ret res) w).2
    have h1 := hdrop x.2 res.out w hx hr
    have h2 := WHandle.drop_ok x.2 w
    cases hdw : x.2.drop w with
    | mk r' w' =>
      rw [hdw] at h1 h2
      have h3 : r' = .ok () := h2
      subst h3
      rw [M.bind_ok hdw]
      exact h1


/-! #### the loops over a walk

One unfolding each, given the recursive call (`…_step`, `…_of`), for every specification; the
loops themselves for specifications that let the fuel sentinel arise (`S.May .panic`). The
collected walk keeps
an error item and goes on, so it is stated where every error may be caught (`hall`); the loop of
copy_dir / move_dir returns an error item (`file?`), so it needs no such hypothesis. -/

theorem relJoin_fs (dst : VPath) (n : Nat) (x : VPath) :
    Returns (M.ret (relJoin dst n x)) (fun d => d.fs = dst.fs ∧ d.fsId = dst.fsId) := by
  apply Returns.ret
  intro d h
  unfold relJoin at h
  split at h
  · cases h
  · exact join_fs _ _ _ h

/-- one unfolding of the loop of copy_dir / move_dir, over a walk that holds `G`-paths: the items
are observed, the destination is written to; the own `copy_file` of an item's filesystem is used
only if it is the destination's -/
theorem sat_copyItems_step_of {G : VPath → Prop} {E : ErrKind → Option Str → Prop}
    (hc : WalkClosed G E) (src dst : VPath) (ho : ∀ x, G x → S.Obs x.fs)
    (hj : ∀ x, G x → S.Sat (M.ret (relJoin dst src.path.length x)))
    (hsame : ∀ x, G x → x.fsId = dst.fsId → S.All x.fs) (hd : S.All dst.fs)
    (fuel : Nat) (s : Walk) (hs : WalkP G s) (count : Nat)
    (hrec : ∀ (s' : Walk) (c : Nat), WalkP G s' → S.Sat (copyItems fuel src dst s' c)) :
    S.Sat (copyItems (fuel + 1) src dst s count) := by
  unfold copyItems
  refine (satq_walkNext hc (fun c h => sat_readDir c (ho c h)) (fun c h => sat_metadata c (ho c h))
    s hs).bind_sat ?_
  rintro ⟨item, s'⟩ w ⟨hw, hx, hs'⟩
  cases item with
  | none => exact S.ok_of_pre w hw
  | some r =>
    cases r with
    | err k pth => exact hw
    | panic => exact hw
    | ok x =>
      have hgx : G x := hx _ rfl
      have hnext := hrec s' (count + 1) hs'
      refine Spec.Sat.post ?_ w (S.pre_of_ok w hw)
      dsimp only
      apply Spec.Sat.bindQ _ (hj x hgx) (relJoin_fs dst src.path.length x)
      intro d hdd
      have hdf : S.All d.fs := by rw [hdd.1]; exact hd
      apply Spec.Sat.bind (sat_metadata x (ho x hgx))
      intro md
      split
      · exact .bind (sat_createDir d hdf) (fun _ => hnext)
      · exact .bind (sat_copyFile x d (ho x hgx) hdf (fun h => hsame x hgx (h.trans hdd.2)))
          (fun _ => hnext)

/-- the same over a walk that holds paths of the source filesystem below the source: the slice of
`relJoin` is in range -/
theorem sat_copyItems_step (fuel : Nat) (src dst : VPath) (hs : S.All src.fs) (hd : S.All dst.fs)
    (s : Walk) (hfrom : s.From src) (count : Nat)
    (hrec : ∀ (s' : Walk) (c : Nat), s'.From src → S.Sat (copyItems fuel src dst s' c)) :
    S.Sat (copyItems (fuel + 1) src dst s count) :=
  have hfs : ∀ x, FromP src x → S.All x.fs := fun x hx => by rw [hx.1]; exact hs
  sat_copyItems_step_of (fromP_walkClosed src) src dst (fun x hx => (hfs x hx).obs)
    (fun x hx => sat_relJoin dst src.path x hx.2) (fun x hx _ => hfs x hx) hd fuel s
    ((Walk.from_iff src s).1 hfrom) count (fun s' c h => hrec s' c ((Walk.from_iff src s').2 h))

theorem sat_copyItems [S.May .panic] (fuel : Nat) (src dst : VPath)
    (hs : S.All src.fs) (hd : S.All dst.fs) (s : Walk) (hfrom : s.From src) (count : Nat) :
    S.Sat (copyItems fuel src dst s count) := by
  induction fuel generalizing s count with
  | zero => unfold copyItems; exact .sentinel
  | succ fuel ih => exact sat_copyItems_step fuel src dst hs hd s hfrom count (fun s' c h => ih s' h c)

/-- `copy_dir`, given its loop -/
theorem sat_copyDir_of (fuel : Nat) (src dst : VPath) (hs : S.All src.fs) (hd : S.All dst.fs)
    (hrec : ∀ s : Walk, s.From src → S.Sat (copyItems fuel src dst s 0)) :
    S.Sat (src.copyDir fuel dst) :=
  sat_guarded src dst _ (sat_exists dst hd.obs)
    (.bind (sat_createDir dst hd) fun _ => .bindQ _ (sat_walkDir src hs.obs) (walkDir_from src) hrec)

theorem sat_copyDir [S.May .panic] (fuel : Nat) (src dst : VPath)
    (hs : S.All src.fs) (hd : S.All dst.fs) : S.Sat (src.copyDir fuel dst) :=
  sat_copyDir_of fuel src dst hs hd (fun s h => sat_copyItems fuel src dst hs hd s h 0)

/-- `move_dir`, given its loop and the final `remove_dir_all` -/
theorem sat_moveDir_of (fuel : Nat) (src dst : VPath) (hs : S.All src.fs) (hd : S.All dst.fs)
    (hrec1 : ∀ s : Walk, s.From src → S.Sat (copyItems fuel src dst s 0))
    (hrec2 : S.Sat (removeDirAll fuel src)) : S.Sat (src.moveDir fuel dst) :=
  sat_guarded src dst _ (sat_exists dst hd.obs) (sat_fastOr (fun _ => hs.moveDir _ _)
    (.bind (sat_createDir dst hd) fun _ => .bindQ _ (sat_walkDir src hs.obs) (walkDir_from src)
      fun s h => .bind (hrec1 s h) fun _ => hrec2))

theorem sat_moveDir [S.May .panic] (fuel : Nat) (src dst : VPath)
    (hs : S.All src.fs) (hd : S.All dst.fs) : S.Sat (src.moveDir fuel dst) :=
  sat_moveDir_of fuel src dst hs hd (fun s h => sat_copyItems fuel src dst hs hd s h 0)
    (sat_removeDirAll fuel src hs.rm)

/-! #### the instances for `Preserves I` -/
variable {I : World → Prop}

theorem pres_exists (p : VPath) (h : p.fs.ObsPreserve I) : Preserves I p.exists_ := h.exists_ _
theorem pres_metadata (p : VPath) (h : p.fs.ObsPreserve I) : Preserves I p.metadata :=
  Preserves.withPath _ (h.metadata _)
theorem pres_openFile (p : VPath) (h : p.fs.ObsPreserve I) : Preserves I p.openFile :=
  Preserves.withPath _ (h.openFile _)
theorem pres_readDir (p : VPath) (h : p.fs.ObsPreserve I) : Preserves I p.readDir :=
  .of_sat (sat_readDir p h.sat)
theorem pres_isFile (p : VPath) (h : p.fs.ObsPreserve I) : Preserves I p.isFile :=
  .of_sat (sat_isFile p h.sat)
theorem pres_isDir (p : VPath) (h : p.fs.ObsPreserve I) : Preserves I p.isDir :=
  .of_sat (sat_isDir p h.sat)
theorem pres_getParent (p : VPath) (h : p.fs.ObsPreserve I) : Preserves I p.getParent :=
  .of_sat (sat_getParent p h.sat)
theorem pres_createDir (p : VPath) (h : p.fs.AllPreserve I) : Preserves I p.createDir :=
  .of_sat (sat_createDir p h.sat)
theorem pres_createDirAll (p : VPath) (h : p.fs.AllPreserve I) : Preserves I p.createDirAll :=
  .of_sat (sat_createDirAll p h.sat)
theorem pres_createFile (p : VPath) (h : p.fs.AllPreserve I) : Preserves I p.createFile :=
  .of_sat (sat_createFile p h.sat)
theorem createFile_handle (p : VPath) (h : p.fs.AllPreserve I) : Returns p.createFile (HandleOK I) :=
  (sat_createFile_handle p h.sat).mono (fun _ => .of_sat)
theorem pres_appendFile (p : VPath) (h : p.fs.AllPreserve I) : Preserves I p.appendFile :=
  Preserves.withPath _ (h.appendFile _)
theorem appendFile_handle (p : VPath) (h : p.fs.AllPreserve I) : Returns p.appendFile (HandleOK I) :=
  Returns.withPath _ (h.appendHandle _)
theorem pres_removeFile (p : VPath) (h : p.fs.AllPreserve I) : Preserves I p.removeFile :=
  Preserves.withPath _ (h.removeFile _)
theorem pres_removeDir (p : VPath) (h : p.fs.AllPreserve I) : Preserves I p.removeDir :=
  Preserves.withPath _ (h.removeDir _)
theorem pres_setCreationTime (p : VPath) (t : Int) (h : p.fs.AllPreserve I) :
    Preserves I (p.setCreationTime t) := Preserves.withPath _ (h.setCreationTime _ _)
theorem pres_setModificationTime (p : VPath) (t : Int) (h : p.fs.AllPreserve I) :
    Preserves I (p.setModificationTime t) := Preserves.withPath _ (h.setModificationTime _ _)
theorem pres_setAccessTime (p : VPath) (t : Int) (h : p.fs.AllPreserve I) :
    Preserves I (p.setAccessTime t) := Preserves.withPath _ (h.setAccessTime _ _)
theorem pres_removeDirAll (fuel : Nat) (p : VPath) (h : p.fs.AllPreserve I) :
    Preserves I (removeDirAll fuel p) := .of_sat (sat_removeDirAll fuel p h.sat.rm)
theorem pres_removeChildren (fuel : Nat) (l : List VPath) (h : ∀ c ∈ l, c.fs.AllPreserve I) :
    Preserves I (removeChildren fuel l) :=
  .of_sat (sat_removeChildren_of fuel l (fun c hc => (h c hc).sat.rm)
    (fun c hc => (pres_removeDirAll fuel c (h c hc)).sat))
theorem pres_walkDir (p : VPath) (h : p.fs.ObsPreserve I) : Preserves I p.walkDir :=
  .of_sat (sat_walkDir p h.sat)
theorem pres_copyFile (src dst : VPath) (hs : src.fs.ObsPreserve I) (hd : dst.fs.AllPreserve I)
    (hsame : src.fsId = dst.fsId → src.fs.AllPreserve I) : Preserves I (src.copyFile dst) :=
  .of_sat (sat_copyFile src dst hs.sat hd.sat (fun h => (hsame h).sat))

end VPath

/-! ### AltrootFS: a path computation (a `join`, total) followed by one operation of the
`VfsPath` layer on the root's filesystem -/
namespace Altroot
variable {S : Spec} [S.Errs] {I : World → Prop}

theorem path_fs (root : VPath) (p : Str) :
    Returns (M.ret (path root p)) (fun q => q.fs = root.fs ∧ q.fsId = root.fsId) := by
  apply Returns.ret
  intro q h
  unfold path at h
  split at h
  · injection h with h; subst h; exact ⟨rfl, rfl⟩
  · split at h <;> exact VPath.join_fs _ _ _ h

/-- `AltrootFS::path` never panics: `&path[1..]` is taken only when the path starts with '/' -/
theorem path_ne_panic (root : VPath) (p : Str) : path root p ≠ .panic := by
  unfold path
  split
  · exact fun h => nomatch h
  · split <;> exact VPath.join_ne_panic _ _

theorem path_ns (root : VPath) (p : Str) (q : Option Str) : path root p ≠ .err .notSupported q := by
  unfold path
  split
  · exact nofun
  · split <;> exact VPath.join_ns _ _ _

theorem sat_path (root : VPath) (p : Str) : S.Sat (M.ret (path root p)) :=
  .ret _ (S.may_out (path_ne_panic root p) (path_ns root p))

/-- a method that computes the path and calls one operation on it -/
theorem sat_at (root : VPath) (p : Str) {P : FS → Prop} (h : P root.fs) {α} {f : VPath → M α}
    (hf : ∀ q : VPath, P q.fs → S.Sat (f q)) : S.Sat (M.ret (path root p) >>= f) :=
  .bindQ _ (sat_path root p) (path_fs root p) (fun q hq => hf q (by rw [hq.1]; exact h))

omit [S.Errs] in
/-- `exists` makes one call, `exists` of the root's filesystem; when `path` fails, `false` is
returned without any call -/
theorem sat_exists_of (root : VPath) (h : ∀ q, S.Sat (root.fs.exists_ q)) (p : Str) :
    S.Sat ((fs root).exists_ p) := by
  simp only [fs]
  have := (path_fs root p).post
  split
  · rename_i q heq
    have hq := this default q (by simp [M.ret, heq])
    unfold VPath.exists_
    rw [hq.1]
    exact h _
  · exact .pure _

theorem sat_metadata_of (root : VPath) (h : ∀ q, S.Sat (root.fs.metadata q)) (p : Str) :
    S.Sat ((fs root).metadata p) :=
  sat_at root p (P := fun fs => ∀ q, S.Sat (fs.metadata q)) h (fun _ hq => .withPath _ (hq _))

theorem sat_obs (root : VPath) (h : S.Obs root.fs) : S.Obs (fs root) where
  readDir p := sat_at root p h (fun q hq => .bind (VPath.sat_readDir q hq) (fun _ => .pure _))
  openFile p := sat_at root p h (fun q hq => VPath.sat_openFile q hq)
  metadata := sat_metadata_of root h.metadata
  exists_ := sat_exists_of root h.exists_

theorem sat_all [S.May (.err .notSupported)] (root : VPath) (h : S.All root.fs) : S.All (fs root) where
  readDir := (sat_obs root h.obs).readDir
  openFile := (sat_obs root h.obs).openFile
  metadata := (sat_obs root h.obs).metadata
  exists_ := (sat_obs root h.obs).exists_
  createDir p := sat_at root p h (fun q hq => VPath.sat_createDir q hq)
  createFile p := sat_at root p h (fun q hq => VPath.sat_createFile q hq)
  appendFile p := sat_at root p h (fun q hq => VPath.sat_appendFile q hq)
  setCreationTime p t := sat_at root p h (fun q hq => VPath.sat_setCreationTime q t hq)
  setModificationTime p t := sat_at root p h (fun q hq => VPath.sat_setModificationTime q t hq)
  setAccessTime p t := sat_at root p h (fun q hq => VPath.sat_setAccessTime q t hq)
  removeFile p := sat_at root p h (fun q hq => VPath.sat_removeFile q hq)
  removeDir p := sat_at root p h (fun q hq => VPath.sat_removeDir q hq)
  copyFile s d := by
    simp only [fs]
    split
    · exact .failK _
    · exact sat_at root s h (fun sp hsp => sat_at root d h (fun dp hdp =>
        VPath.sat_copyFile sp dp hsp.obs hdp (fun _ => hsp)))
  moveFile _ _ := .failK _
  moveDir _ _ := .failK _
  createHandle p := Returns.bindQ (path_fs root p)
    (fun q hq => VPath.sat_createFile_handle q (by rw [hq.1]; exact h))
  appendHandle p := Returns.bindQ (path_fs root p)
    (fun q hq => VPath.sat_appendFile_handle q (by rw [hq.1]; exact h))

/-- AltrootFS forwards: it preserves whatever the filesystem of its root preserves -/
theorem obs_preserve (root : VPath) (h : root.fs.ObsPreserve I) : (fs root).ObsPreserve I :=
  .of_sat (sat_obs root h.sat)

theorem all_preserve (root : VPath) (h : root.fs.AllPreserve I) : (fs root).AllPreserve I :=
  .of_sat (sat_all root h.sat)

end Altroot

/-! ### OverlayFS

Stated in three strengths, by what is asked of the layers: from the bare calls an operation makes
(`…_of`; `read_path` and `exists` call nothing but `exists` of the layers), from `Probes` / `Writes`
(`…_p` and the creating and removing operations: `exists` and `metadata` of every layer, the
writing methods of the write layer), and from `S.Obs` of the layers / `Layers` (no suffix; all
fifteen methods, `sat_obs`, `sat_all`). Each is the one above it with a larger hypothesis. -/
namespace Overlay
open VPath
variable {S : Spec} [S.Errs]

/-- all mutations go through the write layer: the other layers are only observed, except that
`copy_file` of the copy-up may use the own `copy_file` of a layer that is the same filesystem
value as the write layer -/
structure Layers (S : Spec) (layers : List VPath) : Prop where
  obs : ∀ l ∈ layers, S.Obs l.fs
  upper : S.All (writeLayer layers).fs
  same : ∀ l ∈ layers, l.fsId = (writeLayer layers).fsId → S.All l.fs

/-- (`writeLayer []` is the placeholder filesystem, so no non-emptiness hypothesis is needed) -/
theorem writeLayer_of (P : FS → Prop) (hd : P default) (layers : List VPath)
    (hl : ∀ l ∈ layers, P l.fs) : P (writeLayer layers).fs := by
  cases layers with
  | nil => exact hd
  | cons a t => exact hl a (by simp)

omit [S.Errs] in
/-- the observers of the write layer, from those of the layers -/
theorem obs_upper [S.May (.err .notSupported)] {layers : List VPath} (ho : ∀ l ∈ layers, S.Obs l.fs) :
    S.Obs (writeLayer layers).fs :=
  writeLayer_of S.Obs Spec.All.default.obs layers ho

omit [S.Errs] in
theorem Layers.of_all [S.May (.err .notSupported)] {layers : List VPath} (h : ∀ l ∈ layers, S.All l.fs) :
    Layers S layers :=
  ⟨fun l hl => (h l hl).obs, writeLayer_of S.All Spec.All.default layers h, fun l hl _ => h l hl⟩

/-- a path of the write layer -/
def InUpper (layers : List VPath) (q : VPath) : Prop :=
  q.fs = (writeLayer layers).fs ∧ q.fsId = (writeLayer layers).fsId

/-- a path of one of the layers, or of the write layer -/
def InLayers (layers : List VPath) (q : VPath) : Prop :=
  ∃ l ∈ writeLayer layers :: layers, q.fs = l.fs ∧ q.fsId = l.fsId

theorem sat_join (l : VPath) (arg : Str) : S.Sat (M.ret (l.join arg)) :=
  .ret _ (S.may_out (join_ne_panic l arg) (join_ns l arg))

theorem join_layer (l : VPath) (arg : Str) :
    Returns (M.ret (l.join arg)) (fun q => q.fs = l.fs ∧ q.fsId = l.fsId) :=
  Returns.ret _ (fun _ h => join_fs _ _ _ h)

theorem sat_whiteoutPath (layers : List VPath) (p : Str) : S.Sat (M.ret (whiteoutPath layers p)) := by
  obtain ⟨arg, h⟩ := whiteoutPath_join layers p
  rw [h]; exact sat_join _ _

theorem sat_writePath (layers : List VPath) (p : Str) : S.Sat (M.ret (writePath layers p)) := by
  rcases writePath_cases layers p with h | h <;> rw [h]
  · exact .pure _
  · exact sat_join _ _

theorem whiteoutPath_inUpper (layers : List VPath) (p : Str) :
    Returns (M.ret (whiteoutPath layers p)) (InUpper layers) := by
  obtain ⟨arg, h⟩ := whiteoutPath_join layers p
  rw [h]; exact join_layer _ _

theorem writePath_inUpper (layers : List VPath) (p : Str) :
    Returns (M.ret (writePath layers p)) (InUpper layers) := by
  rcases writePath_cases layers p with h | h <;> rw [h]
  · exact Returns.ret _ (fun q h => by injection h with h; subst h; exact ⟨rfl, rfl⟩)
  · exact join_layer _ _

/-- what `firstExisting` finds is a path of one of the layers it was given -/
theorem firstExisting_layer (p : Str) (ls : List VPath) :
    Returns (firstExisting p ls)
      (fun o => ∀ q, o = some q → ∃ l ∈ ls, q.fs = l.fs ∧ q.fsId = l.fsId) := by
  induction ls with
  | nil =>
    rw [firstExisting_nil]
    exact Returns.pure _ (by simp)
  | cons l rest ih =>
    rw [firstExisting_cons]
    apply Returns.bindQ (join_layer l _)
    intro lp hlp
    apply Returns.bind
    intro b
    split
    · apply Returns.pure
      intro q hq; injection hq with hq; subst hq
      exact ⟨l, by simp, hlp⟩
    · exact ih.mono (fun _ h q hq => (h q hq).imp (fun _ hx => ⟨by simp [hx.1], hx.2⟩))

/-- **`read_path` returns a path of one of the layers** (of the write layer, if the list is
empty) -/
theorem readPath_layer (layers : List VPath) (p : Str) :
    Returns (readPath layers p) (InLayers layers) := by
  unfold readPath
  split
  · exact Returns.pure _ ⟨_, by simp, rfl, rfl⟩
  · apply Returns.bind; intro wo
    apply Returns.bind; intro b
    split
    · exact Returns.failK _
    · apply Returns.bindQ (firstExisting_layer p layers)
      intro o ho
      split
      · rename_i lp
        exact Returns.pure _ ((ho lp rfl).imp (fun _ hx => ⟨by simp [hx.1], hx.2⟩))
      · apply Returns.bindQ (join_layer (writeLayer layers) _)
        intro rp hrp
        apply Returns.bind; intro b
        split
        · exact Returns.failK _
        · exact Returns.pure _ ⟨_, by simp, hrp⟩

/-! #### `read_path` and `exists` of the overlay call nothing but `exists` of the layers -/
section existsOnly
variable {layers : List VPath} (he : ∀ l ∈ layers, ∀ p, S.Sat (l.fs.exists_ p))
  (hw : ∀ p, S.Sat ((writeLayer layers).fs.exists_ p))
include he hw

omit he [S.Errs] in
theorem InUpper.sat_exists {q : VPath} (h : InUpper layers q) : S.Sat q.exists_ := by
  unfold VPath.exists_
  rw [h.1]
  exact hw _

omit [S.Errs] in
theorem InLayers.sat_exists {q : VPath} (h : InLayers layers q) : S.Sat q.exists_ := by
  obtain ⟨l, hm, hfs, hid⟩ := h
  rcases List.mem_cons.1 hm with rfl | hm
  · exact InUpper.sat_exists hw ⟨hfs, hid⟩
  · unfold VPath.exists_; rw [hfs]; exact he l hm _

theorem sat_firstExisting_of (p : Str) (ls : List VPath) (hs : ∀ l ∈ ls, l ∈ layers) :
    S.Sat (firstExisting p ls) := by
  induction ls with
  | nil => rw [firstExisting_nil]; exact .pure _
  | cons l rest ih =>
    rw [firstExisting_cons]
    apply Spec.Sat.bindQ _ (sat_join l _) (join_layer l _)
    intro lp hlp
    apply Spec.Sat.bind (InLayers.sat_exists he hw ⟨l, by simp [hs l (by simp)], hlp⟩)
    intro b; split
    · exact .pure _
    · exact ih (fun x hx => hs x (by simp [hx]))

theorem sat_readPath_of (p : Str) : S.Sat (readPath layers p) := by
  unfold readPath
  split
  · exact .pure _
  · apply Spec.Sat.bindQ _ (sat_whiteoutPath layers p) (whiteoutPath_inUpper layers p)
    intro wo hwo
    apply Spec.Sat.bind (hwo.sat_exists hw)
    intro b; split
    · exact .failK _
    · apply Spec.Sat.bind (sat_firstExisting_of he hw p layers (fun _ h => h))
      intro o
      split
      · exact .pure _
      · apply Spec.Sat.bindQ _ (sat_join _ _) (join_layer (writeLayer layers) _)
        intro rp hrp
        apply Spec.Sat.bind (InUpper.sat_exists hw hrp)
        intro b; split
        · exact .failK _
        · exact .pure _

/-- **`OverlayFS::exists`**: of the errors of `read_path` only `FileNotFound` is turned into
`false` -/
theorem sat_exists_of (p : Str) : S.Sat (Overlay.exists_ layers p) := by
  unfold Overlay.exists_
  apply Spec.Sat.bindQ _ (sat_whiteoutPath layers p) (whiteoutPath_inUpper layers p)
  intro wo hwo
  apply Spec.Sat.bind (hwo.sat_exists hw)
  intro b; split
  · exact .pure _
  · refine ⟨fun w hw' => ?_⟩
    have h1 := (sat_readPath_of he hw p).post w hw'
    have h2 := (readPath_layer layers p).post w
    cases hres : readPath layers p w with
    | mk r w' =>
      rw [hres] at h1 h2
      cases r with
      | ok q => exact ((h2 q rfl).sat_exists he hw).post w' (S.pre_of_ok w' h1)
      | err k pth =>
        cases k
        case fileNotFound => exact S.ok_of_pre w' (S.pre_of_err _ w' (by decide) h1)
        all_goals exact h1
      | panic => exact h1

/-- `open_file` of the overlay: `read_path`, then `open_file` of the layer it found -/
theorem sat_openFile_of (ho : ∀ q, InLayers layers q → S.Sat q.openFile) (p : Str) :
    S.Sat ((Overlay.fs layers).openFile p) :=
  .bindQ _ (sat_readPath_of he hw p) (readPath_layer layers p) (fun q hq => ho q hq)

end existsOnly

/-! #### the observers of the overlay: only the observers of the layers are called -/
section observers
variable {layers : List VPath} (ho : ∀ l ∈ layers, S.Obs l.fs) (hu : S.Obs (writeLayer layers).fs)
include ho hu

omit ho [S.Errs] in
theorem InUpper.obs {q : VPath} (h : InUpper layers q) : S.Obs q.fs := by
  rw [h.1]; exact hu

omit [S.Errs] in
theorem InLayers.obs {q : VPath} (h : InLayers layers q) : S.Obs q.fs := by
  obtain ⟨l, hm, hfs, hid⟩ := h
  rcases List.mem_cons.1 hm with rfl | hm
  · exact InUpper.obs hu ⟨hfs, hid⟩
  · rw [hfs]; exact ho l hm

theorem sat_readPath (p : Str) : S.Sat (readPath layers p) :=
  sat_readPath_of (fun l hl => (ho l hl).exists_) hu.exists_ p

theorem sat_exists (p : Str) : S.Sat (Overlay.exists_ layers p) :=
  sat_exists_of (fun l hl => (ho l hl).exists_) hu.exists_ p

omit hu in
theorem sat_mergeListings (actual : Str) (ls : List VPath) (hs : ∀ l ∈ ls, l ∈ layers)
    (acc : List Str) : S.Sat (mergeListings actual ls acc) := by
  induction ls generalizing acc with
  | nil => unfold mergeListings; exact .pure _
  | cons l rest ih =>
    unfold mergeListings
    apply Spec.Sat.bindQ _ (sat_join l _) (join_layer l _)
    intro lp hlp
    have hlo : S.Obs lp.fs := by rw [hlp.1]; exact ho l (hs l (by simp))
    apply Spec.Sat.bind (sat_isDir lp hlo)
    intro b; split
    · apply Spec.Sat.bind (VPath.sat_readDir lp hlo)
      intro cs
      exact ih (fun x hx => hs x (by simp [hx])) _
    · exact ih (fun x hx => hs x (by simp [hx])) _

theorem sat_readDir (p : Str) : S.Sat (Overlay.readDir layers p) := by
  unfold Overlay.readDir
  apply Spec.Sat.bindQ _ (sat_readPath ho hu p) (readPath_layer layers p)
  intro rp hrp
  apply Spec.Sat.bind (VPath.sat_exists rp (hrp.obs ho hu))
  intro b; split
  · exact .failK _
  · apply Spec.Sat.bind (sat_isDir rp (hrp.obs ho hu))
    intro b2; split
    · exact .failK _
    · apply Spec.Sat.bind (sat_mergeListings ho _ layers (fun _ h => h) [])
      intro entries
      apply Spec.Sat.bindQ _ (sat_join _ _) (join_layer (writeLayer layers) _)
      intro wp hwp
      apply Spec.Sat.bind (VPath.sat_exists wp (InUpper.obs hu hwp))
      intro b3; split
      · apply Spec.Sat.bind (VPath.sat_readDir wp (InUpper.obs hu hwp))
        intro marks; exact .pure _
      · exact .pure _

/-- **the observers of the overlay call no mutating method of any layer**, the first included -/
theorem sat_obs : S.Obs (Overlay.fs layers) where
  readDir p := sat_readDir ho hu p
  openFile p := .bindQ _ (sat_readPath ho hu p) (readPath_layer layers p)
    (fun q hq => sat_openFile q (hq.obs ho hu))
  metadata p := .bindQ _ (sat_readPath ho hu p) (readPath_layer layers p)
    (fun q hq => sat_metadata q (hq.obs ho hu))
  exists_ p := sat_exists ho hu p

end observers

/-! #### what the overlay asks of its layers when it creates and removes

The layers are probed with `exists` and `metadata` only (`Probes`); `create_dir`, `create_file` and
`remove_file` of the overlay write to the write layer with `create_dir`, `create_file` (whose
handle the bookkeeping drops) and `remove_file` (`Writes`). -/

structure Probes (S : Spec) (layers : List VPath) : Prop where
  ex : ∀ l ∈ layers, ∀ p, S.Sat (l.fs.exists_ p)
  md : ∀ l ∈ layers, ∀ p, S.Sat (l.fs.metadata p)
  upperEx : ∀ p, S.Sat ((writeLayer layers).fs.exists_ p)
  upperMd : ∀ p, S.Sat ((writeLayer layers).fs.metadata p)

structure Writes (S : Spec) (layers : List VPath) : Prop extends Probes S layers where
  createDir : ∀ p, S.Sat ((writeLayer layers).fs.createDir p)
  createFile : ∀ p, S.Sat ((writeLayer layers).fs.createFile p)
  createHandle : ∀ p, Returns ((writeLayer layers).fs.createFile p) S.HandleOK
  removeFile : ∀ p, S.Sat ((writeLayer layers).fs.removeFile p)

section probes
variable {layers : List VPath} (hp : Probes S layers)
include hp

omit [S.Errs] in
theorem InUpper.sat_metadata {q : VPath} (h : InUpper layers q) : S.Sat q.metadata := by
  unfold VPath.metadata
  rw [h.1]
  exact .withPath _ (hp.upperMd _)

omit [S.Errs] in
theorem InLayers.sat_metadata {q : VPath} (h : InLayers layers q) : S.Sat q.metadata := by
  obtain ⟨l, hm, hfs, hid⟩ := h
  rcases List.mem_cons.1 hm with rfl | hm
  · exact InUpper.sat_metadata hp ⟨hfs, hid⟩
  · unfold VPath.metadata; rw [hfs]; exact .withPath _ (hp.md l hm _)

theorem sat_readPath_p (p : Str) : S.Sat (readPath layers p) := sat_readPath_of hp.ex hp.upperEx p
theorem sat_exists_p (p : Str) : S.Sat (Overlay.exists_ layers p) := sat_exists_of hp.ex hp.upperEx p

theorem sat_metadata_of (p : Str) : S.Sat ((Overlay.fs layers).metadata p) :=
  .bindQ _ (sat_readPath_p hp p) (readPath_layer layers p) (fun _ hq => hq.sat_metadata hp)

theorem sat_refuseDir (p : Str) : S.Sat (refuseDir layers p) := by
  unfold refuseDir
  apply Spec.Sat.bind (sat_exists_p hp p)
  intro b; split
  · apply Spec.Sat.bindQ _ (sat_readPath_p hp p) (readPath_layer layers p)
    intro q hq
    apply Spec.Sat.bind (hq.sat_metadata hp)
    intro md; split
    · exact .failK _
    · exact .pure _
  · exact .pure _

theorem InUpper.sat_getParent {q : VPath} (h : InUpper layers q) : S.Sat q.getParent :=
  have hpar : InUpper layers q.parent := h
  sat_getParent_of q (hpar.sat_exists hp.upperEx) (hpar.sat_metadata hp)

end probes

section writes
variable {layers : List VPath} (hw : Writes S layers)
include hw

omit [S.Errs] in
theorem InUpper.sat_createDirAll {q : VPath} (h : InUpper layers q) : S.Sat q.createDirAll :=
  sat_createDirAll_of q (by rw [h.1]; exact hw.createDir)

theorem InUpper.sat_createDir {q : VPath} (h : InUpper layers q) : S.Sat q.createDir :=
  sat_createDir_of q (h.sat_getParent hw.toProbes) (by rw [h.1]; exact hw.createDir _)

theorem InUpper.sat_createFile {q : VPath} (h : InUpper layers q) : S.Sat q.createFile :=
  sat_createFile_of q (h.sat_getParent hw.toProbes) (by rw [h.1]; exact hw.createFile _)

omit [S.Errs] in
theorem InUpper.createFile_handle {q : VPath} (h : InUpper layers q) :
    Returns q.createFile S.HandleOK :=
  createFile_handle_of q (by rw [h.1]; exact hw.createHandle _)

omit [S.Errs] in
theorem InUpper.sat_removeFile {q : VPath} (h : InUpper layers q) : S.Sat q.removeFile := by
  unfold VPath.removeFile
  rw [h.1]
  exact .withPath _ (hw.removeFile _)

theorem sat_ensureHasParent (p : Str) : S.Sat (ensureHasParent layers p) := by
  unfold ensureHasParent
  split
  · apply Spec.Sat.bind (sat_exists_p hw.toProbes _)
    intro b; split
    · apply Spec.Sat.bindQ _ (sat_readPath_p hw.toProbes _) (readPath_layer layers _)
      intro rp hrp
      apply Spec.Sat.bind (sat_isDir_of rp (hrp.sat_exists hw.ex hw.upperEx) (hrp.sat_metadata hw.toProbes))
      intro isd; split
      · apply Spec.Sat.bindQ _ (sat_writePath layers _) (writePath_inUpper layers _)
        intro wp hwp
        exact hwp.sat_createDirAll hw
      · exact .failK _
    · exact .failK _
  · exact .failK _

theorem sat_clearWhiteout (p : Str) : S.Sat (clearWhiteout layers p) := by
  unfold clearWhiteout
  apply Spec.Sat.bindQ _ (sat_whiteoutPath layers p) (whiteoutPath_inUpper layers p)
  intro wo hwo
  apply Spec.Sat.bind (hwo.sat_exists hw.upperEx)
  intro b; split
  · exact hwo.sat_removeFile hw
  · exact .pure _

/-- the `clear_whiteout` of `create_dir` tolerates a marker that vanished between probe and removal
(finding O11, DESIGN.md §I.4): only `FileNotFound` of the removal is caught -/
theorem sat_clearWhiteoutT (p : Str) : S.Sat (clearWhiteoutT layers p) := by
  unfold clearWhiteoutT
  apply Spec.Sat.bindQ _ (sat_whiteoutPath layers p) (whiteoutPath_inUpper layers p)
  intro wo hwo
  apply Spec.Sat.bind (hwo.sat_exists hw.upperEx)
  intro b; split
  · refine ⟨fun w hw' => ?_⟩
    have h1 := (hwo.sat_removeFile hw).post w hw'
    cases hres : wo.removeFile w with
    | mk r w' =>
      rw [hres] at h1
      cases r with
      | ok u => exact h1
      | err k pth =>
        cases k
        case fileNotFound => exact S.ok_of_pre w' (S.pre_of_err _ w' (by decide) h1)
        all_goals exact h1
      | panic => exact h1
  · exact .pure _

theorem sat_addWhiteout (p : Str) : S.Sat (addWhiteout layers p) := by
  unfold addWhiteout
  apply Spec.Sat.bindQ _ (sat_whiteoutPath layers p) (whiteoutPath_inUpper layers p)
  intro wo hwo
  have hpar : InUpper layers wo.parent := hwo
  apply Spec.Sat.bind (hpar.sat_createDirAll hw)
  intro _
  apply Spec.Sat.bindQ _ (hwo.sat_createFile hw) (hwo.createFile_handle hw)
  intro h hh
  exact hh.drop

theorem sat_createDir (p : Str) : S.Sat (Overlay.createDir layers p) := by
  unfold Overlay.createDir
  apply Spec.Sat.bind (sat_ensureHasParent hw p)
  intro _
  apply Spec.Sat.bind (sat_exists_p hw.toProbes p)
  intro b; split
  · apply Spec.Sat.bindQ _ (sat_readPath_p hw.toProbes p) (readPath_layer layers p)
    intro q hq
    apply Spec.Sat.bind (hq.sat_metadata hw.toProbes)
    intro md; split <;> exact .failK _
  · apply Spec.Sat.bindQ _ (sat_writePath layers p) (writePath_inUpper layers p)
    intro wp hwp
    -- the write layer's answer is inspected: `ok` and `DirectoryExists` are followed by the
    -- tolerant clearing of the whiteout, every other outcome is passed through
    refine ⟨fun w hw' => ?_⟩
    have h1 := (hwp.sat_createDir hw).post w hw'
    have hc := (sat_clearWhiteoutT hw p).post
    cases hres : wp.createDir w with
    | mk r w' =>
      rw [hres] at h1
      cases r with
      | ok u => cases u; exact hc w' (S.pre_of_ok w' h1)
      | err k pth =>
        cases k
        case dirExists =>
          have h2 := hc w' (S.pre_of_err _ w' (by decide) h1)
          dsimp only
          cases hres2 : clearWhiteoutT layers p w' with
          | mk r2 w2 =>
            rw [hres2] at h2
            cases r2 with
            | ok u => cases u; exact S.err_of_pre _ w2 (S.pre_of_ok w2 h2)
            | err k2 pth2 => exact h2
            | panic => exact h2
        all_goals exact h1
      | panic => exact h1

theorem sat_createFile (p : Str) : S.Sat (Overlay.createFile layers p) := by
  unfold Overlay.createFile
  apply Spec.Sat.bind (sat_ensureHasParent hw p)
  intro _
  apply Spec.Sat.bind (sat_refuseDir hw.toProbes p)
  intro _
  apply Spec.Sat.bindQ _ (sat_writePath layers p) (writePath_inUpper layers p)
  intro wp hwp
  apply Spec.Sat.bind (hwp.sat_createFile hw)
  intro h
  apply Spec.Sat.bind (sat_clearWhiteout hw p)
  intro _; exact .pure _

omit [S.Errs] in
theorem createFile_handle (p : Str) : Returns (Overlay.createFile layers p) S.HandleOK := by
  unfold Overlay.createFile
  apply Returns.bind; intro _
  apply Returns.bind; intro _
  apply Returns.bindQ (writePath_inUpper layers p)
  intro wp hwp
  apply Returns.bindQ (hwp.createFile_handle hw)
  intro h hh
  apply Returns.bind; intro _
  exact Returns.pure _ hh

theorem sat_removeFile (p : Str) : S.Sat (Overlay.removeFile layers p) := by
  unfold Overlay.removeFile
  apply Spec.Sat.bind (sat_readPath_p hw.toProbes p)
  intro _
  apply Spec.Sat.bindQ _ (sat_writePath layers p) (writePath_inUpper layers p)
  intro wp hwp
  apply Spec.Sat.bind (hwp.sat_exists hw.upperEx)
  intro b
  apply Spec.Sat.bind
  · split
    · exact hwp.sat_removeFile hw
    · exact .pure _
  · intro _; exact sat_addWhiteout hw p

end writes

/-! #### the mutators of the overlay: all mutations go through the write layer -/
section mutators
variable {layers : List VPath} (hl : Layers S layers)
include hl

omit [S.Errs] in
theorem InUpper.all {q : VPath} (h : InUpper layers q) : S.All q.fs := by
  rw [h.1]; exact hl.upper

omit [S.Errs] in
theorem Layers.writes : Writes S layers where
  ex l hm := (hl.obs l hm).exists_
  md l hm := (hl.obs l hm).metadata
  upperEx := hl.upper.exists_
  upperMd := hl.upper.metadata
  createDir := hl.upper.createDir
  createFile := hl.upper.createFile
  createHandle := hl.upper.createHandle
  removeFile := hl.upper.removeFile

/-- the copy-up reads through the merged view and writes to the write layer; the fast path of
`copy_file` is taken only if the source lies in a layer that is the write layer's filesystem
value -/
theorem sat_copyUp (p : Str) (wp : VPath) (hwp : InUpper layers wp) :
    S.Sat (copyUp layers p wp) := by
  unfold copyUp
  apply Spec.Sat.bind (VPath.sat_exists wp (hwp.all hl).obs)
  intro b; split
  · apply Spec.Sat.bind (sat_ensureHasParent hl.writes p)
    intro _
    apply Spec.Sat.bindQ _ (sat_readPath hl.obs hl.upper.obs p) (readPath_layer layers p)
    intro rp hrp
    apply Spec.Sat.bind (sat_isFile rp (hrp.obs hl.obs hl.upper.obs))
    intro b2; split
    · exact .failK _
    · refine sat_copyFile rp wp (hrp.obs hl.obs hl.upper.obs) (hwp.all hl) (fun hid => ?_)
      obtain ⟨l, hm, hfs, hfid⟩ := hrp
      rw [hfs]
      rcases List.mem_cons.1 hm with rfl | hm
      · exact hl.upper
      · exact hl.same l hm (by rw [← hfid, hid, hwp.2])
  · exact .pure _

theorem sat_appendFile (p : Str) : S.Sat (Overlay.appendFile layers p) := by
  unfold Overlay.appendFile
  apply Spec.Sat.bindQ _ (sat_writePath layers p) (writePath_inUpper layers p)
  intro wp hwp
  apply Spec.Sat.bind (sat_copyUp hl p wp hwp)
  intro _; exact VPath.sat_appendFile wp (hwp.all hl)

omit [S.Errs] in
theorem appendFile_handle (p : Str) : Returns (Overlay.appendFile layers p) S.HandleOK := by
  unfold Overlay.appendFile
  apply Returns.bindQ (writePath_inUpper layers p)
  intro wp hwp
  apply Returns.bind; intro _
  exact sat_appendFile_handle wp (hwp.all hl)

theorem sat_removeDir (p : Str) : S.Sat (Overlay.removeDir layers p) := by
  unfold Overlay.removeDir
  apply Spec.Sat.bind (sat_readPath hl.obs hl.upper.obs p)
  intro _
  apply Spec.Sat.bind (sat_readDir hl.obs hl.upper.obs p)
  intro l; split
  · exact .failK _
  · apply Spec.Sat.bindQ _ (sat_writePath layers p) (writePath_inUpper layers p)
    intro wp hwp
    apply Spec.Sat.bind (VPath.sat_exists wp (hwp.all hl).obs)
    intro b
    apply Spec.Sat.bind
    · split
      · exact VPath.sat_removeDir wp (hwp.all hl)
      · exact .pure _
    · intro _; exact sat_addWhiteout hl.writes p

/-- every method of the overlay (any number of layers — the empty list included —, nested
adapters) -/
theorem sat_all [S.May (.err .notSupported)] : S.All (Overlay.fs layers) where
  readDir := (sat_obs hl.obs hl.upper.obs).readDir
  createDir p := sat_createDir hl.writes p
  openFile := (sat_obs hl.obs hl.upper.obs).openFile
  createFile p := sat_createFile hl.writes p
  appendFile p := sat_appendFile hl p
  metadata := (sat_obs hl.obs hl.upper.obs).metadata
  setCreationTime p t := .bindQ _ (sat_writePath layers p) (writePath_inUpper layers p)
    (fun q hq => sat_setCreationTime q t (hq.all hl))
  setModificationTime p t := .bindQ _ (sat_writePath layers p) (writePath_inUpper layers p)
    (fun q hq => sat_setModificationTime q t (hq.all hl))
  setAccessTime p t := .bindQ _ (sat_writePath layers p) (writePath_inUpper layers p)
    (fun q hq => sat_setAccessTime q t (hq.all hl))
  exists_ := (sat_obs hl.obs hl.upper.obs).exists_
  removeFile p := sat_removeFile hl.writes p
  removeDir p := sat_removeDir hl p
  copyFile _ _ := .failK _
  moveFile _ _ := .failK _
  moveDir _ _ := .failK _
  createHandle p := createFile_handle hl.writes p
  appendHandle p := appendFile_handle hl p

end mutators

end Overlay

/-! ### the harness-side wrappers: what each call keeps, the record keeps -/
section wrappers
variable {S : Spec} {inner : FS}

theorem faultGate_ret {α} {m : M α} {Q : α → Prop} (hm : Returns m Q) : Returns (faultGate m) Q := by
  refine ⟨fun w a he => ?_⟩
  unfold faultGate at he
  split at he
  · simp [fail] at he
  · exact hm.post _ a he
  · exact hm.post _ a he

theorem faultFS_obs_sat (hg : ∀ {α} {m : M α}, S.Sat m → S.Sat (faultGate m)) (h : S.Obs inner) :
    S.Obs (faultFS inner) where
  readDir p := hg (h.readDir p)
  openFile p := hg (h.openFile p)
  metadata p := hg (h.metadata p)
  exists_ p := hg (h.exists_ p)

theorem faultFS_sat (hg : ∀ {α} {m : M α}, S.Sat m → S.Sat (faultGate m)) (h : S.All inner) :
    S.All (faultFS inner) where
  readDir p := hg (h.readDir p)
  createDir p := hg (h.createDir p)
  openFile p := hg (h.openFile p)
  createFile p := hg (h.createFile p)
  appendFile p := hg (h.appendFile p)
  metadata p := hg (h.metadata p)
  setCreationTime p t := hg (h.setCreationTime p t)
  setModificationTime p t := hg (h.setModificationTime p t)
  setAccessTime p t := hg (h.setAccessTime p t)
  exists_ p := hg (h.exists_ p)
  removeFile p := hg (h.removeFile p)
  removeDir p := hg (h.removeDir p)
  copyFile s d := hg (h.copyFile s d)
  moveFile s d := hg (h.moveFile s d)
  moveDir s d := hg (h.moveDir s d)
  createHandle p := faultGate_ret (h.createHandle p)
  appendHandle p := faultGate_ret (h.appendHandle p)

theorem recordFS_obs_sat (tag : Nat)
    (hl : ∀ m p p2, m.mutating = false → S.Sat (logCall tag m p p2)) (h : S.Obs inner) :
    S.Obs (recordFS tag inner) where
  readDir p := .bind (hl _ p [] rfl) (fun _ => h.readDir p)
  openFile p := .bind (hl _ p [] rfl) (fun _ => h.openFile p)
  metadata p := .bind (hl _ p [] rfl) (fun _ => h.metadata p)
  exists_ p := .bind (hl _ p [] rfl) (fun _ => h.exists_ p)

theorem recordFS_sat (tag : Nat) (hl : ∀ m p p2, S.Sat (logCall tag m p p2)) (h : S.All inner) :
    S.All (recordFS tag inner) where
  readDir p := .bind (hl _ p []) (fun _ => h.readDir p)
  createDir p := .bind (hl _ p []) (fun _ => h.createDir p)
  openFile p := .bind (hl _ p []) (fun _ => h.openFile p)
  createFile p := .bind (hl _ p []) (fun _ => h.createFile p)
  appendFile p := .bind (hl _ p []) (fun _ => h.appendFile p)
  metadata p := .bind (hl _ p []) (fun _ => h.metadata p)
  setCreationTime p t := .bind (hl _ p []) (fun _ => h.setCreationTime p t)
  setModificationTime p t := .bind (hl _ p []) (fun _ => h.setModificationTime p t)
  setAccessTime p t := .bind (hl _ p []) (fun _ => h.setAccessTime p t)
  exists_ p := .bind (hl _ p []) (fun _ => h.exists_ p)
  removeFile p := .bind (hl _ p []) (fun _ => h.removeFile p)
  removeDir p := .bind (hl _ p []) (fun _ => h.removeDir p)
  copyFile s d := .bind (hl _ s d) (fun _ => h.copyFile s d)
  moveFile s d := .bind (hl _ s d) (fun _ => h.moveFile s d)
  moveDir s d := .bind (hl _ s d) (fun _ => h.moveDir s d)
  createHandle p := Returns.bind (fun _ => h.createHandle p)
  appendHandle p := Returns.bind (fun _ => h.appendHandle p)

/-! the wrappers under `Preserves I`: a recorder keeps what its log entries keep, the fault gate what
does not look at the fault plan -/

variable {I : World → Prop}

/-- `I` does not look at the fault plan -/
def FaultFree (I : World → Prop) : Prop := ∀ (w : World) f b, I w → I { w with fault := f, fired := b }

theorem faultGate_pres {α} (hI : FaultFree I) {m : M α} (hm : Preserves I m) :
    Preserves I (faultGate m) := by
  refine ⟨fun w hw => ?_⟩
  unfold faultGate
  split
  · exact hI w _ _ hw
  · exact hm.pres _ (hI w _ w.fired hw)
  · exact hm.pres w hw

theorem faultFS_all_preserve (hI : FaultFree I) (inner : FS) (hi : inner.AllPreserve I) :
    (faultFS inner).AllPreserve I :=
  .of_sat (faultFS_sat (fun hm => (faultGate_pres hI (.of_sat hm)).sat) hi.sat)

theorem faultFS_obs_preserve (hI : FaultFree I) (inner : FS) (hi : inner.ObsPreserve I) :
    (faultFS inner).ObsPreserve I :=
  .of_sat (faultFS_obs_sat (fun hm => (faultGate_pres hI (.of_sat hm)).sat) hi.sat)

theorem recordFS_all_preserve (tag : Nat) (inner : FS)
    (hlog : ∀ m p p2, Preserves I (logCall tag m p p2)) (hi : inner.AllPreserve I) :
    (recordFS tag inner).AllPreserve I :=
  .of_sat (recordFS_sat tag (fun m p p2 => (hlog m p p2).sat) hi.sat)

/-- the observers of a recorder log observer calls only -/
theorem recordFS_obs_preserve (tag : Nat) (inner : FS)
    (hlog : ∀ m p p2, m.mutating = false → Preserves I (logCall tag m p p2))
    (hi : inner.ObsPreserve I) : (recordFS tag inner).ObsPreserve I :=
  .of_sat (recordFS_obs_sat tag (fun m p p2 hm => (hlog m p p2 hm).sat) hi.sat)

end wrappers
/-! ### EmbeddedFS: read-only maps, every method is a total function of the state -/
namespace Embedded

theorem readDir_ne_panic (s : State) (p : Str) : readDir s p ≠ .panic := by
  unfold readDir
  split
  · simp
  · split <;> simp [fail]

/-- `open_file` normalises the path (`normalize_path`), so the root `""` is an ordinary lookup -/
theorem openFile_ne_panic (s : State) (p : Str) : openFile s p ≠ .panic := by
  unfold openFile
  split <;> simp [fail]

theorem metadata_ne_panic (s : State) (p : Str) : metadata s p ≠ .panic := by
  unfold metadata
  split
  · simp
  · split <;> simp [fail]

theorem readDir_ns (s : State) (p : Str) (q : Option Str) : readDir s p ≠ .err .notSupported q := by
  unfold readDir
  split
  · simp
  · split <;> simp [fail]

theorem openFile_ns (s : State) (p : Str) (q : Option Str) :
    openFile s p ≠ .err .notSupported q := by
  unfold openFile
  split <;> simp [fail]

theorem metadata_ns (s : State) (p : Str) (q : Option Str) :
    metadata s p ≠ .err .notSupported q := by
  unfold metadata
  split
  · simp
  · split <;> simp [fail]

/-- the embedded filesystem holds no state of the world and never panics: it meets every
specification that lets its answers arise -/
theorem sat_all {S : Spec} [S.Errs] [S.May (.err .notSupported)] (s : State) : S.All (fs s) where
  readDir p := .ret _ (S.may_out (readDir_ne_panic s p) (readDir_ns s p))
  createDir _ := .failK _
  openFile p := .ret _ (S.may_out (openFile_ne_panic s p) (openFile_ns s p))
  createFile _ := .failK _
  appendFile _ := .failK _
  metadata p := .ret _ (S.may_out (metadata_ne_panic s p) (metadata_ns s p))
  setCreationTime _ _ := .failK _
  setModificationTime _ _ := .failK _
  setAccessTime _ _ := .failK _
  exists_ _ := .pure _
  removeFile _ := .failK _
  removeDir _ := .failK _
  copyFile _ _ := .failK _
  moveFile _ _ := .failK _
  moveDir _ _ := .failK _
  createHandle _ := Returns.failK _
  appendHandle _ := Returns.failK _

end Embedded
end Vfs
