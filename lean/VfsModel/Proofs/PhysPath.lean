/-
  The path-layer primitives on the physical model (what `VfsPath` over `PhysicalFS` computes,
  given the host answers of Leaf.lean), content-level equality of maps (`CoreEq`, with what it
  preserves: directories, keys, listings), the write and the append session in normal form
  (`Phys.pWrite_eq`, `Phys.pAppend_eq`), and the agreement of the in-memory and physical lookups on
  well-formed maps (`lookRel`).
-/
import VfsModel.Proofs.PhysLemmas
namespace Vfs
namespace Phys

/-- `get_parent` over PhysicalFS: `exists` then `metadata` of the parent -/
def parentOk (m : FMap) (p : Str) : Bool :=
  exists_ m (parentInternal p) &&
    (match metadata m (parentInternal p) with
     | .ok md => decide (md.ftype = .dir)
     | _ => false)

def pCreateDir (m : FMap) (p : Str) : Res Unit × FMap :=
  if parentOk m p then ((createDir m p).1.withPath p, (createDir m p).2)
  else (.err .other (some p), m)

/-- `write_all(bs)` on a `File::create` handle positioned at 0 -/
def writeAt0 (m : FMap) (p : Str) (bs : Bytes) : FMap :=
  match m.find? p with
  | some e => if bs = [] then m else m.insert p { e with content := cursorWrite e.content 0 bs, modified := .now }
  | none => m

def pWrite (m : FMap) (p : Str) (bs : Bytes) : Res Unit × FMap :=
  if parentOk m p then
    match createFile m p with
    | (.ok _, m') => (.ok (), writeAt0 m' p bs)
    | (.err k pth, m') => ((Res.err k pth : Res Unit).withPath p, m')
    | (.panic, m') => (.panic, m')
  else (.err .other (some p), m)

/-- `write_all(bs)` on an `O_APPEND` handle -/
def appendAt (m : FMap) (p : Str) (bs : Bytes) : FMap :=
  match m.find? p with
  | some e => m.insert p { e with content := e.content ++ bs, modified := .now }
  | none => m

def pAppend (m : FMap) (p : Str) (bs : Bytes) : Res Unit × FMap :=
  match appendFile m p with
  | .ok _ => (.ok (), appendAt m p bs)
  | .err k pth => ((Res.err k pth : Res Unit).withPath p, m)
  | .panic => (.panic, m)

def pRemoveFile (m : FMap) (p : Str) : Res Unit × FMap :=
  ((removeFile m p).1.withPath p, (removeFile m p).2)

def pRemoveDir (m : FMap) (p : Str) : Res Unit × FMap :=
  ((removeDir m p).1.withPath p, (removeDir m p).2)

end Phys

/-- what the properties compare: type and bytes (timestamps aside) -/
def core (e : Entry) : FType × Bytes := (e.ftype, e.content)

/-- same entries up to timestamps (and storage order) -/
def CoreEq (a b : FMap) : Prop := ∀ k, (a.find? k).map core = (b.find? k).map core

theorem CoreEq.refl (a : FMap) : CoreEq a a := fun _ => rfl

theorem CoreEq.none_iff {a b : FMap} (h : CoreEq a b) (k : Str) :
    a.find? k = none ↔ b.find? k = none := by
  have := h k
  cases ha : a.find? k <;> cases hb : b.find? k <;> simp [ha, hb] at this ⊢

theorem CoreEq.some {a b : FMap} (h : CoreEq a b) (k : Str) (e : Entry) (he : a.find? k = some e) :
    ∃ e', b.find? k = some e' ∧ e'.ftype = e.ftype ∧ e'.content = e.content := by
  have := h k
  rw [he] at this
  cases hb : b.find? k with
  | none => simp [hb] at this
  | some e' =>
    simp [hb, core] at this
    exact ⟨e', rfl, this.1.symm, this.2.symm⟩

theorem CoreEq.symm {a b : FMap} (h : CoreEq a b) : CoreEq b a := fun k => (h k).symm

theorem CoreEq.dir_iff {a b : FMap} (hc : CoreEq a b) (p : Str) :
    (∃ e, a.find? p = Option.some e ∧ e.ftype = .dir) ↔ ∃ e, b.find? p = Option.some e ∧ e.ftype = .dir :=
  ⟨fun ⟨e, he, hd⟩ => (hc.some p e he).elim fun e' h => ⟨e', h.1, h.2.1.trans hd⟩,
    fun ⟨e, he, hd⟩ => (hc.symm.some p e he).elim fun e' h => ⟨e', h.1, h.2.1.trans hd⟩⟩

theorem CoreEq.present_iff {a b : FMap} (hc : CoreEq a b) (k : Str) :
    (∃ e, a.find? k = Option.some e) ↔ ∃ e, b.find? k = Option.some e :=
  ⟨fun ⟨e, he⟩ => (hc.some k e he).elim fun e' h => ⟨e', h.1⟩,
    fun ⟨e, he⟩ => (hc.symm.some k e he).elim fun e' h => ⟨e', h.1⟩⟩

theorem CoreEq.mem_keys {a b : FMap} (hc : CoreEq a b) (k : Str) : k ∈ a.keys ↔ k ∈ b.keys := by
  rw [FMap.mem_keys_iff, FMap.mem_keys_iff]; exact hc.present_iff k

theorem CoreEq.insert {a b : FMap} (h : CoreEq a b) (p : Str) (v v' : Entry) (hv : core v = core v') :
    CoreEq (a.insert p v) (b.insert p v') := by
  intro k
  rw [FMap.find?_insert, FMap.find?_insert]
  split
  · simp [hv]
  · exact h k

theorem CoreEq.erase {a b : FMap} (h : CoreEq a b) (p : Str) : CoreEq (a.erase p) (b.erase p) := by
  intro k
  rw [FMap.find?_erase, FMap.find?_erase]
  split
  · rfl
  · exact h k

/-- the two fresh filesystems hold the same: a root directory -/
theorem CoreEq.init : CoreEq Mem.init Phys.init := by
  intro k
  simp only [Mem.init, Phys.init, FMap.find?_cons]
  split <;> rfl

theorem WF.of_coreEq {a b : FMap} (h : WF a) (hc : CoreEq a b) : WF b :=
  ⟨(hc.dir_iff []).1 h.1, fun k e hk hne => by
    obtain ⟨e0, he0⟩ := (hc.present_iff k).2 ⟨e, hk⟩
    exact ⟨(h.2 k e0 he0 hne).1, (hc.dir_iff _).1 (h.2 k e0 he0 hne).2⟩⟩

theorem CoreEq.mem_children {a b : FMap} (hc : CoreEq a b) (p n : Str) :
    n ∈ a.keys.filterMap (childName p) ↔ n ∈ b.keys.filterMap (childName p) := by
  rw [mem_filterMap_childName, mem_filterMap_childName]
  exact ⟨fun ⟨k, x, hk, r⟩ => (hc.some k x hk).elim fun x' h => ⟨k, x', h.1, r⟩,
    fun ⟨k, x, hk, r⟩ => (hc.symm.some k x hk).elim fun x' h => ⟨k, x', h.1, r⟩⟩

/-- what `remove_dir` reads besides the entry: whether the directory has children -/
theorem CoreEq.kids_eq {a b : FMap} (hc : CoreEq a b) (p : Str) :
    decide (Phys.children b p ≠ []) = Mem.kids a p := by
  unfold Mem.kids Phys.children
  simp only [ne_eq, List.eq_nil_iff_forall_not_mem, hc.mem_children p]

theorem Phys.exists_absent (b : FMap) (q : Str) (h : b.find? q = none) : Phys.exists_ b q = false := by
  unfold Phys.exists_ Phys.lookup
  cases Phys.resolveParent b q <;> simp [h]

theorem parentOk_agree {a b : FMap} (hb : WF b) (hc : CoreEq a b) (p : Str) :
    Phys.parentOk b p = Mem.parentOk a p := by
  unfold Phys.parentOk Mem.parentOk
  cases ha : a.find? (parentInternal p) with
  | none =>
    have hbn := (hc.none_iff _).1 ha
    rw [Phys.exists_absent b _ hbn]; rfl
  | some e =>
    obtain ⟨e', he', ht, _⟩ := hc.some _ e ha
    unfold Phys.exists_ Phys.metadata
    rw [hb.lookup_present _ e' he']
    simp [Entry.meta, ht]

/-! ### the two sessions in normal form

`Phys.pWrite` and `Phys.pAppend` as tables over the host's lookup (and, for the write session, the
answer of the `get_parent` probe), like `Mem.pWrite_eq`, `Mem.pAppend_eq` (Proofs/MemPath.lean): the
physical handle writes through, so the table puts the entry the writes leave. -/

namespace Phys

/-- what `write_all(bs)` through a `File::create` handle positioned at 0 makes of the entry `v` (a
zero-length `write(2)` changes nothing, not even the modification time) -/
def wrote0 (v : Entry) (bs : Bytes) : Entry :=
  if bs = [] then v else { v with content := cursorWrite v.content 0 bs, modified := .now }

theorem wrote0_ftype (v : Entry) (bs : Bytes) : (wrote0 v bs).ftype = v.ftype := by
  unfold wrote0; split <;> rfl

theorem wrote0_content {v : Entry} (hv : v.content = []) (bs : Bytes) : (wrote0 v bs).content = bs := by
  unfold wrote0
  split
  · rename_i h; rw [hv, h]
  · simp [hv, cursorWrite_nil]

theorem writeAt0_insert (m : FMap) (p : Str) (v : Entry) (bs : Bytes) :
    writeAt0 (m.insert p v) p bs = m.insert p (wrote0 v bs) := by
  unfold writeAt0 wrote0
  simp only [FMap.find?_insert_self]
  split
  · rfl
  · exact FMap.insert_insert m p v _

/-- the session `create_file`, `write_all(bs)`, drop: `par` the answer of the parent probe -/
def writeS (bs : Bytes) (par : Bool) (lk : Res (Option Entry)) : Res Unit × Write :=
  if par then
    match createFileS lk with
    | (.ok _, .put v) => (.ok (), .put (wrote0 v bs))
    | x => x
  else (fail .other, .keep)

/-- the session `append_file`, `write_all(bs)`, drop -/
def appendS (bs : Bytes) : Res (Option Entry) → Res Unit × Write
  | .ok none => (fail .fileNotFound, .keep)
  | .ok (some e) =>
    if e.ftype = .dir then (fail .io, .keep)
    else (.ok (), .put { e with content := e.content ++ bs, modified := .now })
  | .err k p => (.err k p, .keep)
  | .panic => (.panic, .keep)

theorem pWrite_eq (m : FMap) (p : Str) (bs : Bytes) :
    pWrite m p bs =
      ((writeS bs (parentOk m p) (lookup m p)).1.withPath p,
        (writeS bs (parentOk m p) (lookup m p)).2.app m p) := by
  unfold pWrite writeS
  cases parentOk m p
  · rfl
  · rw [createFile_eq]
    rcases lookup m p with (_ | ⟨⟨_ | _, c, cr, mo, ac⟩⟩) | _ | _ <;>
      simp [createFileS, onSlot, Write.app, writeAt0_insert, fail, Res.withPath]

theorem pAppend_eq (m : FMap) (p : Str) (bs : Bytes) :
    pAppend m p bs = ((appendS bs (lookup m p)).1.withPath p, (appendS bs (lookup m p)).2.app m p) := by
  unfold pAppend appendFile appendAt
  rcases lookup_cases m p with hl | ⟨k, hl, _⟩ <;> rw [hl]
  · rcases m.find? p with _ | ⟨⟨_ | _, c, cr, mo, ac⟩⟩ <;> simp [appendS, fail, Res.withPath, Write.app]
  · rfl

end Phys

/-! ### the two leaves side by side -/

/-- `'/' ∈ p`: what MemoryFS reads of `p` in a well-formed map (`pr`: the parent check, `tg`: the
entry), against the host's lookup `lk` of `p` in a map with the same content, and the entry `tb`
there. Parameters, not indices: `cases` leaves the equations to rewrite with. -/
inductive LookRel (pr : Bool) (tg tb : Option Entry) (lk : Res (Option Entry)) : Prop
  | present (e e' : Entry) : tg = some e → tb = some e' → pr = true → lk = .ok (some e') →
      e'.ftype = e.ftype → e'.content = e.content → LookRel pr tg tb lk
  | absent : tg = none → tb = none → pr = true → lk = .ok none → LookRel pr tg tb lk
  | blocked (k : ErrKind) : tg = none → tb = none → pr = false → lk = .err k none →
      k = .io ∨ k = .fileNotFound → LookRel pr tg tb lk

theorem lookRel {a b : FMap} (ha : WF a) (hc : CoreEq a b) {p : Str} (hs : '/' ∈ p) :
    LookRel (Mem.par a p) (a.find? p) (b.find? p) (Phys.lookup b p) := by
  have hb := ha.of_coreEq hc
  cases hf : a.find? p with
  | some e =>
    obtain ⟨e', he', ht, hcn⟩ := hc.some p e hf
    exact .present e e' rfl he'
      ((Mem.par_iff a p).2 ⟨hs, (ha.2 p e hf (by rintro rfl; simp at hs)).2⟩)
      (hb.lookup_present p e' he') ht hcn
  | none =>
    have hfb := (hc.none_iff p).1 hf
    cases hp : Mem.par a p with
    | true =>
      obtain ⟨_, pe, hpe, hd⟩ := (Mem.par_iff a p).1 hp
      obtain ⟨pe', hpe', ht, _⟩ := hc.some _ pe hpe
      exact .absent rfl hfb rfl (by rw [hb.lookup_child p hs pe' hpe' (by rw [ht]; exact hd), hfb])
    | false =>
      have hbad : ∀ pe, b.find? (parentInternal p) = some pe → pe.ftype = .file := by
        intro pe' hpe'
        obtain ⟨pe, hpe, ht, _⟩ := hc.symm.some _ pe' hpe'
        cases hty : pe'.ftype with
        | file => rfl
        | dir =>
          have : Mem.par a p = true := (Mem.par_iff a p).2 ⟨hs, pe, hpe, by rw [ht, hty]⟩
          rw [hp] at this; cases this
      rcases Phys.resolveParent_cases b p with h | ⟨k, h, hk⟩
      · exact absurd h (resolve_bad_parent b p hs hbad)
      · exact .blocked k rfl hfb rfl (Phys.lookup_of_err h) hk

/-- the host's `get_parent` probe answers as MemoryFS's parent check -/
theorem Phys.parentOk_eq_par {a b : FMap} (ha : WF a) (hc : CoreEq a b) {p : Str} (hs : '/' ∈ p) :
    Phys.parentOk b p = Mem.par a p := by
  rw [parentOk_agree (ha.of_coreEq hc) hc]
  cases hp : Mem.par a p with
  | true => exact Mem.parentOk_of_par hp
  | false =>
    exact Bool.eq_false_iff.2 fun hpo => by
      rw [Mem.par_of_dir hs (Mem.parentOk_spec a p hpo)] at hp; cases hp

/-- rewriting the same slot of two maps with the same content, by entries with the same content -/
theorem CoreEq.app {a b : FMap} (hc : CoreEq a b) {p : Str} {wa wb : Write}
    (hs : (wa.slot (a.find? p)).map core = (wb.slot (b.find? p)).map core) :
    CoreEq (wa.app a p) (wb.app b p) := by
  intro k
  rw [Write.find?_app, Write.find?_app]
  split
  · exact hs
  · exact hc k

namespace C02

def coreEqB (a b : FMap) : Bool :=
  (a.keys ++ b.keys).all fun k => (a.find? k).map core == (b.find? k).map core

theorem coreEq_of_coreEqB {a b : FMap} (h : coreEqB a b = true) : CoreEq a b := by
  intro k
  unfold coreEqB at h
  rw [List.all_eq_true] at h
  by_cases hk : k ∈ a.keys ++ b.keys
  · simpa using h k hk
  · rw [List.mem_append, not_or] at hk
    have h1 : a.find? k = none := by
      cases hf : a.find? k with
      | none => rfl
      | some e => exact absurd ((FMap.mem_keys_iff a k).2 ⟨e, hf⟩) hk.1
    have h2 : b.find? k = none := by
      cases hf : b.find? k with
      | none => rfl
      | some e => exact absurd ((FMap.mem_keys_iff b k).2 ⟨e, hf⟩) hk.2
    rw [h1, h2]

end C02

end Vfs
