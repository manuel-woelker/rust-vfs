/-
  `create_dir_all` through an overlay over n in-memory layers, behind
  `C11.overlay_createDirAll_exact` / `overlay_createDirAll_file_prefix` (Props/C11Overlay.lean). The
  loop of `VfsPath::create_dir_all` issues one trait-level `create_dir` per prefix and swallows
  `DirectoryExists`: `o_createDir_trait` is that call, by the cases absent / directory / file;
  `cda_loop` is the loop when no prefix is a file of the view, `cdf_loop` when the prefix
  `pre ++ a ++ [c]` is one.
-/
import VfsModel.Proofs.OverlayCompositeLemmas
namespace Vfs.C11
open Vfs Vfs.Overlay Vfs.C02 Vfs.C01 Vfs.C09 Vfs.C05

theorem kind_eq {r : Res Unit} {k : ErrKind} (h : r.kind? = some k) : ∃ pth, r = .err k pth := by
  cases r with
  | ok a => cases h
  | err k' p =>
    simp only [Res.kind?, Option.some.injEq] at h
    subst h; exact ⟨p, rfl⟩
  | panic => cases h

theorem renderC_longer_ne {cs ts : List Str} (hts : ts ≠ []) : renderC (cs ++ ts) ≠ renderC cs := by
  intro h
  have := congrArg List.length h
  rw [renderC_append, List.length_append] at this
  have h0 : (renderC ts).length = 0 := by omega
  exact renderC_ne_nil hts (List.eq_nil_of_length_eq_zero h0)

section steps
variable {u idu : Nat} {is ids : List Nat} {ms : List FMap} {w : World} {mu : FMap}
  (st : OSt u idu is ids ms w mu)
include st

theorem o_createDir_trait {cs : List Str} (hp : OpPath cs)
    (hpar : VIsDir (oview (mu :: ms)) (parentInternal (renderC cs))) :
    ∃ r mu', (Overlay.fs (layersN (u :: is) (idu :: ids))).createDir (renderC cs) w
        = (r, w.setLeafFiles u mu') ∧
      OSt u idu is ids ms (w.setLeafFiles u mu') mu' ∧
      (NamesOK (mu :: ms) → NamesOK (mu' :: ms)) ∧
      (VAbsent (oview (mu :: ms)) (renderC cs) →
        r = .ok () ∧ VIsDir (oview (mu' :: ms)) (renderC cs) ∧
        VNoChildren (oview (mu' :: ms)) (renderC cs) ∧
        VFrame (oview (mu :: ms)) (oview (mu' :: ms)) (renderC cs)) ∧
      (VIsDir (oview (mu :: ms)) (renderC cs) →
        (∃ pth, r = .err .dirExists pth) ∧ VSame (oview (mu :: ms)) (oview (mu' :: ms))) ∧
      (VIsFile (oview (mu :: ms)) (renderC cs) →
        (∃ pth, r = .err .fileExists pth) ∧ VSame (oview (mu :: ms)) (oview (mu' :: ms))) := by
  obtain ⟨ds, n, rfl⟩ := hp.snoc_cases
  obtain ⟨r, mu', hrun, hown, inv', hc⟩ := overlay_createDir_contractN st.own st.inv st.vwf hp
  have hop : OpOK (.createDir (renderC (ds ++ [n]))) := ⟨ds, n, hp, rfl⟩
  refine ⟨r, mu', hrun, ⟨hown, inv', viewWF_of_contract st.vwf hop hc⟩,
    fun hn => namesOK_step hn hop hc, ?_, ?_, ?_⟩
  · intro ha
    obtain ⟨hr, ⟨h1, h2⟩, h3⟩ := hc.of_pre ⟨hpar, ha⟩
    exact ⟨hr, h1, h2, h3⟩
  · intro hd
    obtain ⟨pth, hr⟩ := kind_eq ((hc.occupied _ rfl hpar).2 hd)
    subst hr
    exact ⟨⟨pth, rfl⟩, hc.unchanged rfl⟩
  · intro hf
    obtain ⟨pth, hr⟩ := kind_eq ((hc.occupied _ rfl hpar).1 hf)
    subst hr
    exact ⟨⟨pth, rfl⟩, hc.unchanged rfl⟩

end steps

def Made (v v' : View) (pre ts : List Str) : Prop :=
  (∀ j, 1 ≤ j → j ≤ ts.length → VIsDir v' (renderC (pre ++ ts.take j))) ∧
  (∀ q, Vis q → (∀ j, 1 ≤ j → j ≤ ts.length → q ≠ renderC (pre ++ ts.take j)) →
    (v' q).map vcore = (v q).map vcore)

section loops
variable {u idu : Nat} {is ids : List Nat} {ms : List FMap} (P : VPath)
  (hP : P.fs = Overlay.fs (layersN (u :: is) (idu :: ids)))
include hP

theorem cda_loop : ∀ (ts pre : List Str) (w : World) (mu : FMap), OSt u idu is ids ms w mu →
    VIsDir (oview (mu :: ms)) (renderC pre) → (ts ≠ [] → OpPath (pre ++ ts)) →
    (∀ j, 1 ≤ j → j ≤ ts.length → ¬ VIsFile (oview (mu :: ms)) (renderC (pre ++ ts.take j))) →
    ∃ mu', VPath.createDirAllLoop P (chain pre ts) w = (.ok (), w.setLeafFiles u mu') ∧
      OSt u idu is ids ms (w.setLeafFiles u mu') mu' ∧
      (NamesOK (mu :: ms) → NamesOK (mu' :: ms)) ∧
      Made (oview (mu :: ms)) (oview (mu' :: ms)) pre ts := by
  intro ts
  induction ts with
  | nil =>
    intro pre w mu st _ _ _
    refine ⟨mu, ?_, ?_, fun h => h, ?_, ?_⟩
    · rw [st.self_world]; rfl
    · rw [st.self_world]; exact st
    · intro j h1 h2; simp at h2; omega
    · intro q _ _; rfl
  | cons c ts ih =>
    intro pre w mu st hpar hp hnf
    have hpall : OpPath (pre ++ [c] ++ ts) := by rw [← List.append_cons]; exact hp (by simp)
    have hpc : OpPath (pre ++ [c]) := hpall.prefix (by simp)
    obtain ⟨r, mu1, hrun, st1, hn1, hA, hD, _⟩ :=
      o_createDir_trait st hpc (by rw [hpc.parent]; exact hpar)
    have hnf1 : ¬ VIsFile (oview (mu :: ms)) (renderC (pre ++ [c])) := by
      have := hnf 1 (by omega) (by simp)
      simpa using this
    have key : (r = .ok () ∨ ∃ pth, r = .err .dirExists pth) ∧
        VIsDir (oview (mu1 :: ms)) (renderC (pre ++ [c])) ∧
        VFrame (oview (mu :: ms)) (oview (mu1 :: ms)) (renderC (pre ++ [c])) := by
      cases hv : oview (mu :: ms) (renderC (pre ++ [c])) with
      | none =>
        obtain ⟨a, b, _, d⟩ := hA hv
        exact ⟨Or.inl a, b, d⟩
      | some e =>
        cases hft : e.ftype with
        | file => exact absurd ⟨e, hv, hft⟩ hnf1
        | dir =>
          obtain ⟨a, b⟩ := hD ⟨e, hv, hft⟩
          exact ⟨Or.inr a, (isDir_of_vcore (b _ hpc.vis)).2 ⟨e, hv, hft⟩, b.frame _⟩
    obtain ⟨hr, hd1, hfr1⟩ := key
    have hnf' : ∀ j, 1 ≤ j → j ≤ ts.length →
        ¬ VIsFile (oview (mu1 :: ms)) (renderC (pre ++ [c] ++ ts.take j)) := by
      intro j h1 h2 hf
      have hne : ts.take j ≠ [] := by
        intro h0
        have := congrArg List.length h0
        rw [List.length_take, List.length_nil] at this; omega
      have hpj : OpPath (pre ++ [c] ++ ts.take j) := by
        have : OpPath ((pre ++ [c] ++ ts.take j) ++ ts.drop j) := by
          rw [List.append_assoc, List.take_append_drop]; exact hpall
        exact this.prefix (by simp)
      have hsame := hfr1 _ hpj.vis (renderC_longer_ne hne)
      have := (isFile_of_vcore hsame).1 hf
      apply hnf (j + 1) (by omega) (by simp; omega)
      rw [List.take_succ_cons, List.append_cons]
      exact this
    obtain ⟨mu2, hrun2, st2, hn2, hM⟩ := ih (pre ++ [c]) (w.setLeafFiles u mu1) mu1 st1 hd1
      (fun _ => hpall) hnf'
    rw [World.setLeafFiles_twice] at hrun2 st2
    refine ⟨mu2, ?_, st2, fun h => hn2 (hn1 h), ?_, ?_⟩
    · show VPath.createDirAllLoop P (renderC (pre ++ [c]) :: chain (pre ++ [c]) ts) w = _
      rw [VPath.createDirAllLoop_cons]
      rw [hP, hrun]
      rcases hr with hr | ⟨pth, hr⟩
      · subst hr; exact hrun2
      · subst hr; exact hrun2
    · intro j h1 h2
      obtain ⟨i, rfl⟩ : ∃ i, j = i + 1 := ⟨j - 1, by omega⟩
      rw [List.take_succ_cons, List.append_cons]
      by_cases hi : i = 0
      · subst hi
        rw [List.take_zero, List.append_nil]
        refine (isDir_of_vcore (hM.2 _ hpc.vis ?_)).2 hd1
        intro j' h1' h2' h0
        have hne : ts.take j' ≠ [] := by
          intro h00
          have := congrArg List.length h00
          rw [List.length_take, List.length_nil] at this; omega
        exact renderC_longer_ne hne h0.symm
      · exact hM.1 i (by omega) (by simpa using h2)
    · intro q hq hne
      have h1 : q ≠ renderC (pre ++ [c]) := by
        have := hne 1 (by omega) (by simp)
        simpa using this
      have h2 : ∀ j, 1 ≤ j → j ≤ ts.length → q ≠ renderC (pre ++ [c] ++ ts.take j) := by
        intro j hj1 hj2
        have := hne (j + 1) (by omega) (by simp; omega)
        rw [List.take_succ_cons, List.append_cons] at this
        exact this
      exact (hM.2 q hq h2).trans (hfr1 q hq h1)

/-- the directories before the file `pre ++ a ++ [c]` exist already (the view is well-formed), so the
loop reaches it and stops with `FileExists` labelled with that prefix -/
theorem cdf_loop (c : Str) (b : List Str) : ∀ (a pre : List Str) (w : World) (mu : FMap),
    OSt u idu is ids ms w mu →
    VIsDir (oview (mu :: ms)) (renderC pre) → OpPath (pre ++ a ++ c :: b) →
    VIsFile (oview (mu :: ms)) (renderC (pre ++ a ++ [c])) →
    ∃ mu', VPath.createDirAllLoop P (chain pre (a ++ c :: b)) w
        = (.err .fileExists (some (renderC (pre ++ a ++ [c]))), w.setLeafFiles u mu') ∧
      OSt u idu is ids ms (w.setLeafFiles u mu') mu' ∧
      (NamesOK (mu :: ms) → NamesOK (mu' :: ms)) ∧
      VSame (oview (mu :: ms)) (oview (mu' :: ms)) := by
  intro a
  induction a with
  | nil =>
    intro pre w mu st hpar hp hf
    rw [List.append_nil] at hp hf
    have hpall : OpPath (pre ++ [c] ++ b) := by rw [← List.append_cons]; exact hp
    have hpc : OpPath (pre ++ [c]) := hpall.prefix (by simp)
    obtain ⟨r, mu1, hrun, st1, hn1, _, _, hF⟩ :=
      o_createDir_trait st hpc (by rw [hpc.parent]; exact hpar)
    obtain ⟨⟨pth, hr⟩, hs⟩ := hF hf
    subst hr
    refine ⟨mu1, ?_, st1, hn1, hs⟩
    show VPath.createDirAllLoop P (renderC (pre ++ [c]) :: chain (pre ++ [c]) b) w = _
    rw [VPath.createDirAllLoop_cons]
    rw [hP, hrun, List.append_nil]
  | cons x a ih =>
    intro pre w mu st hpar hp hf
    have e1 : pre ++ (x :: a) ++ c :: b = pre ++ [x] ++ a ++ c :: b := by simp
    have e2 : pre ++ (x :: a) ++ [c] = pre ++ [x] ++ a ++ [c] := by simp
    rw [e1] at hp
    rw [e2] at hf ⊢
    have hpx : OpPath (pre ++ [x]) := by
      have : OpPath ((pre ++ [x]) ++ (a ++ c :: b)) := by rw [← List.append_assoc]; exact hp
      exact this.prefix (by simp)
    have hpf : OpPath ((pre ++ [x]) ++ (a ++ [c])) := by
      have : OpPath (((pre ++ [x]) ++ (a ++ [c])) ++ b) := by
        have e3 : pre ++ [x] ++ (a ++ [c]) ++ b = pre ++ [x] ++ a ++ c :: b := by simp
        rw [e3]; exact hp
      exact this.prefix (by simp)
    have hdx : VIsDir (oview (mu :: ms)) (renderC (pre ++ [x])) :=
      present_below_dir st.vwf (by simp) (a ++ [c]) (by simp) hpf
        (by rw [← List.append_assoc]; exact not_absent_of_file hf)
    obtain ⟨r, mu1, hrun, st1, hn1, _, hD, _⟩ :=
      o_createDir_trait st hpx (by rw [hpx.parent]; exact hpar)
    obtain ⟨⟨pth, hr⟩, hs⟩ := hD hdx
    subst hr
    have hd1 : VIsDir (oview (mu1 :: ms)) (renderC (pre ++ [x])) :=
      (isDir_of_vcore (hs _ hpx.vis)).2 hdx
    have hf1 : VIsFile (oview (mu1 :: ms)) (renderC (pre ++ [x] ++ a ++ [c])) := by
      have hv : Vis (renderC (pre ++ [x] ++ a ++ [c])) := by
        rw [List.append_assoc]; exact hpf.vis
      exact (isFile_of_vcore (hs _ hv)).2 hf
    obtain ⟨mu2, hrun2, st2, hn2, hs2⟩ := ih (pre ++ [x]) (w.setLeafFiles u mu1) mu1 st1 hd1 hp hf1
    rw [World.setLeafFiles_twice] at hrun2 st2
    refine ⟨mu2, ?_, st2, fun h => hn2 (hn1 h), hs.trans hs2⟩
    show VPath.createDirAllLoop P (renderC (pre ++ [x]) :: chain (pre ++ [x]) (a ++ c :: b)) w = _
    rw [VPath.createDirAllLoop_cons]
    rw [hP, hrun]
    exact hrun2

end loops

end Vfs.C11
