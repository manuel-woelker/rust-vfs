/-
  What every stacking of adapters keeps of the memory leaves, for Props/C03Stack.lean (which states
  it), Props/C12Stack.lean and Props/C08History.lean.

  * `LeafOK m`  — the flat map of a memory leaf is well-formed (`WF`), or it is the empty map
                  (the only way to leave `WF`: `remove_dir` on the leaf's OWN root while the tree
                  is the bare root; the map is then `[]` and stays `[]` for ever).
  * `InvP P w`  — every memory leaf `i` of the world holds a map satisfying `P i`;
    `Inv := InvP (fun _ => LeafOK)`.
  * `MemClosed P` — `P` is kept by every RAW trait method of MemoryFS (no path-layer guard in
    front of it) on every path string, by buffer publication and by same-type replacement.
    Instances: `leafOK_closed` (well-formed or empty), `emptyAt_closed` (emptiness is absorbing).
  * `handleOK_any`        — EVERY write handle whatsoever (any leaf index, key, kind, buffer,
                            position; fresh, stale, or made up) keeps `InvP P` under write /
                            flush / drop.
  * `leafFS_all_preserveP`, `leafFS_all_preserve` — `(leafFS i).AllPreserve Inv` for every `i`
                            (memory leaf, physical leaf, or no such leaf).
  * `LeavesOnly I`        — `I` reads only the leaves of the world: the log entries of a recorder
                            keep it (`logCall_pres`) and it does not look at the fault plan
                            (`LeavesOnly.faultFree`), which is what the harness wrappers ask
                            (`recordFS_all_preserve`, `faultFS_all_preserve`, Proofs/PreservesOps.lean);
    `embedded_all_preserve` — EmbeddedFS touches nothing.
  * for an ARBITRARY invariant `I`: `move_file`, the walk (`walkNext`, `walkAll`), `copy_dir`,
    `move_dir`, `read_to_string` preserve `I` as soon as the filesystems of the paths involved
    do (`Good`, `GoodWalk`) — the instances at `Spec.preserves I` of Proofs/PreservesOps.lean.
  * namespace `Vfs.ObsWalk` (end of the file): the walk under the OBSERVERS of the walked filesystem
    alone (`GoodO`, `GoodWalkO`, `pres_walkAllO`, `pres_walkCollect`), for C08History.
-/
import VfsModel.Proofs.PreservesOps
import VfsModel.Proofs.LeafFrame
import VfsModel.Proofs.MemRun
import VfsModel.Embedded
namespace Vfs.Stk

/-! ### the invariant -/

/-- well-formed, or empty (after the removal of the bare root of the leaf itself) -/
def LeafOK (m : FMap) : Prop := WF m ∨ m = []

theorem LeafOK.wf_of_ne {m : FMap} (h : LeafOK m) (hne : m ≠ []) : WF m := by
  rcases h with h | h
  · exact h
  · exact absurd h hne

theorem LeafOK.wf_of_root {m : FMap} (h : LeafOK m) (e : Entry) (he : m.find? [] = some e) : WF m := by
  apply h.wf_of_ne
  intro hm; subst hm; cases he

/-- a map without keys is the empty list (for `remove_dir` on the leaf's own bare root) -/
theorem eq_nil_of_find_none (m : FMap) (h : ∀ k, m.find? k = none) : m = [] := by
  cases m with
  | nil => rfl
  | cons kv rest =>
    have := h kv.1
    simp [FMap.find?] at this

/-! ### predicates on the maps of the memory leaves that every raw MemoryFS step keeps -/

/-- `P i m` (a predicate on the map `m` of memory leaf `i`) is kept by every state change a
memory leaf can undergo: the eight mutating raw trait methods of MemoryFS on any path, the
publication of a write buffer under any key, and the replacement of an entry by one of the same
type (a direct write through a handle of the physical kind, should one point at a memory
leaf) -/
structure MemClosed (P : Nat → FMap → Prop) : Prop where
  createDir : ∀ i m p, P i m → P i (Mem.createDir m p).2
  createFile : ∀ i m p, P i m → P i (Mem.createFile m p).2
  openFile : ∀ i m p, P i m → P i (Mem.openFile m p).2
  setCreated : ∀ i m p t, P i m → P i (Mem.setCreated m p t).2
  setModified : ∀ i m p t, P i m → P i (Mem.setModified m p t).2
  setAccessed : ∀ i m p t, P i m → P i (Mem.setAccessed m p t).2
  removeFile : ∀ i m p, P i m → P i (Mem.removeFile m p).2
  removeDir : ∀ i m p, P i m → P i (Mem.removeDir m p).2
  memPublish : ∀ i m k buf, P i m → P i (memPublish m k buf)
  insert_same : ∀ i m k (e e' : Entry), P i m → m.find? k = some e → e'.ftype = e.ftype →
    P i (m.insert k e')

/-- the ten state changes are writes that fit (Proofs/LeafSpec.lean): a predicate kept by those is
kept by everything a memory leaf can undergo -/
theorem MemClosed.of_fits {P : Nat → FMap → Prop}
    (h : ∀ i m p (wr : Write), wr.Fits (Mem.par m p) (Mem.kids m p) (m.find? p) → P i m →
      P i (wr.app m p)) : MemClosed P where
  createDir i m p := by rw [Mem.createDir_eq]; exact h i m p _ (Mem.createDirS_fits ..)
  createFile i m p := by rw [Mem.createFile_eq]; exact h i m p _ (Mem.createFileS_fits ..)
  openFile i m p := by rw [Mem.openFile_eq]; exact h i m p _ (Mem.openFileS_fits ..)
  setCreated i m p t := by rw [Mem.setCreated_eq]; exact h i m p _ (Mem.setS_fits _ _ _ _ fun _ => rfl)
  setModified i m p t := by rw [Mem.setModified_eq]; exact h i m p _ (Mem.setS_fits _ _ _ _ fun _ => rfl)
  setAccessed i m p t := by rw [Mem.setAccessed_eq]; exact h i m p _ (Mem.setS_fits _ _ _ _ fun _ => rfl)
  removeFile i m p := by rw [Mem.removeFile_eq]; exact h i m p _ (Mem.removeFileS_fits ..)
  removeDir i m p := by rw [Mem.removeDir_eq]; exact h i m p _ (Mem.removeDirS_fits ..)
  memPublish i m k buf := by rw [Mem.memPublish_eq]; exact h i m k _ (Mem.publishS_fits ..)
  insert_same i m k e e' hm he ht := h i m k (.put e') (by simp only [Write.Fits, he]; exact ht) hm

/-- nothing fits the empty map but `keep`: there is no parent and nothing to replace or delete -/
theorem app_nil_of_fits {p : Str} {kids : Bool} {wr : Write}
    (h : wr.Fits (Mem.par [] p) kids (FMap.find? [] p)) : wr.app [] p = [] := by
  cases wr with
  | keep => rfl
  | put v =>
    have : Mem.par [] p = false := Bool.eq_false_iff.2 fun hp => by
      obtain ⟨_, pe, hpe, _⟩ := (Mem.par_iff [] p).1 hp; cases hpe
    simp [Write.Fits, this] at h
  | del => rfl

/-- **well-formed-or-empty is kept by every raw MemoryFS step**, on every path string: the one
fitting write that breaks the tree, `remove_dir` of a childless root, leaves the empty map -/
theorem leafOK_closed : MemClosed (fun _ => LeafOK) :=
  .of_fits fun i m p wr hf hm => by
    rcases hm with hwf | rfl
    · by_cases hdel : p = [] ∧ wr.slot (m.find? p) = none
      · obtain ⟨rfl, hs⟩ := hdel
        obtain ⟨r, hr, _⟩ := hwf.1
        cases wr with
        | del =>
          obtain ⟨e, he, hk | hk⟩ := hf
          · exact Or.inl (hwf.app (hwf.legal_del_file he hk))
          · right
            apply eq_nil_of_find_none
            intro k
            by_cases hk' : k = []
            · subst hk'; exact FMap.find?_erase_self m []
            · rw [show Write.del.app m [] = m.erase [] from rfl, FMap.find?_erase_ne m [] k hk']
              exact WF.only_root hwf (by simpa [Mem.kids] using hk) k hk'
        | keep => exact Or.inl hwf
        | put v => cases hs
      · refine Or.inl (hwf.fits ?_)
        cases wr with
        | del =>
          obtain ⟨e, he, hk | hk⟩ := hf
          · exact ⟨e, he, Or.inl hk⟩
          · refine ⟨e, he, Or.inr ?_⟩
            have : p ≠ [] := fun hp => hdel ⟨hp, rfl⟩
            simpa [this] using hk
        | keep => trivial
        | put v => exact hf
    · exact Or.inr (app_nil_of_fits hf)

/-- **emptiness is absorbing**: once the map of memory leaf `i0` is empty (its own root was
removed) no call can put anything into it again -/
theorem emptyAt_closed (i0 : Nat) : MemClosed (fun i m => i = i0 → m = []) :=
  .of_fits fun i m p wr hf hm hi => by
    have := hm hi; subst this; exact app_nil_of_fits hf

/-! ### the world -/

/-- every memory leaf `i` of the world holds a map satisfying `P i` -/
def InvP (P : Nat → FMap → Prop) (w : World) : Prop :=
  ∀ i l, w.leaf? i = some l → l.kind = .mem → P i l.files

/-- every memory leaf of the world holds a well-formed (or emptied) map -/
abbrev Inv : World → Prop := InvP (fun _ => LeafOK)

section world
variable {P : Nat → FMap → Prop}

theorem setLeafFiles_inv {w : World} {i : Nat} {l : Leaf} (hl : w.leaf? i = some l) (f : FMap)
    (hw : InvP P w) (hf : l.kind = .mem → P i f) : InvP P (w.setLeafFiles i f) := by
  intro j l' hj hk
  by_cases hij : i = j
  · subst hij
    rw [World.setLeafFiles_same w i l f hl] at hj
    injection hj with hj; subst hj
    exact hf hk
  · rw [World.leaf?_setLeafFiles_ne w i j f hij] at hj
    exact hw j l' hj hk

/-- an `onLeaf` action whose pure function keeps `P i` on memory leaves keeps `InvP P` -/
theorem onLeaf_inv {α} (i : Nat) (f : Leaf → Res α × FMap)
    (hf : ∀ l, l.kind = .mem → P i l.files → P i (f l).2) : Preserves (InvP P) (onLeaf i f) := by
  refine ⟨fun w hw => ?_⟩
  unfold onLeaf
  split
  · exact hw
  · rename_i l hl
    exact setLeafFiles_inv hl _ hw fun hk => hf l hk (hw i l hl hk)

/-- `InvP P` reads only the leaves of the world -/
theorem InvP.of_leaves {w w' : World} (h : w'.leaves = w.leaves) (hw : InvP P w) : InvP P w' := by
  intro i l hl hk
  exact hw i l (by rw [← World.leaf?_of_leaves h]; exact hl) hk

/-! ### every write handle keeps the invariant -/

/-- **every write handle whatsoever** — whatever leaf, key, kind, buffer and position it
carries, whether the file it was opened on still exists, was removed, or was replaced by a
directory — keeps `InvP P` under `write`, `flush` and `drop` -/
theorem handleOK_any (hP : MemClosed P) (h : WHandle) : HandleOK (InvP P) h := by
  intro buf pos
  constructor
  · intro bs
    refine ⟨fun w hw => ?_⟩
    rcases WHandle.write_world { h with buf := buf, pos := pos } bs w with e |
      ⟨l, e0, e', hl, he, ht, e⟩
    · rw [e]; exact hw
    · rw [e]
      exact setLeafFiles_inv hl _ hw fun hk => hP.insert_same _ _ _ e0 e' (hw _ l hl hk) he ht
  · refine ⟨fun w hw => ?_⟩
    rcases WHandle.flush_world { h with buf := buf, pos := pos } w with e | ⟨l, hl, e⟩
    · rw [e]; exact hw
    · rw [e]
      exact setLeafFiles_inv hl _ hw fun hk => hP.memPublish _ _ _ _ (hw _ l hl hk)

theorem returns_handleOK (hP : MemClosed P) {m : M WHandle} : Returns m (HandleOK (InvP P)) :=
  ⟨fun _ h _ => handleOK_any hP h⟩

/-! ### the leaf filesystems -/

/-- **every method of every leaf filesystem keeps the invariant of every memory leaf**: leaf `i`
may be a memory leaf, a physical leaf, or absent; the 15 trait methods are the RAW ones (no
path-layer guard in front), on every path string, successful or failed -/
theorem leafFS_all_preserveP (hP : MemClosed P) (i : Nat) : (leafFS i).AllPreserve (InvP P) where
  readDir p := onLeaf_inv i _ (fun l hk h => by simp only [hk]; exact h)
  createDir p := onLeaf_inv i _ (fun l hk h => by simp only [hk]; exact hP.createDir _ _ p h)
  openFile p := onLeaf_inv i _ (fun l hk h => by simp only [hk]; exact hP.openFile _ _ p h)
  createFile p := onLeaf_inv i _ (fun l hk h => by simp only [hk]; exact hP.createFile _ _ p h)
  appendFile p := onLeaf_inv i _ (fun l hk h => by simp only [hk]; exact h)
  metadata p := onLeaf_inv i _ (fun l hk h => by simp only [hk]; exact h)
  setCreationTime p t := onLeaf_inv i _ (fun l hk h => by simp only [hk]; exact hP.setCreated _ _ p _ h)
  setModificationTime p t := onLeaf_inv i _ (fun l hk h => by simp only [hk]; exact hP.setModified _ _ p _ h)
  setAccessTime p t := onLeaf_inv i _ (fun l hk h => by simp only [hk]; exact hP.setAccessed _ _ p _ h)
  exists_ p := onLeaf_inv i _ (fun l hk h => by simp only [hk]; exact h)
  removeFile p := onLeaf_inv i _ (fun l hk h => by simp only [hk]; exact hP.removeFile _ _ p h)
  removeDir p := onLeaf_inv i _ (fun l hk h => by simp only [hk]; exact hP.removeDir _ _ p h)
  copyFile s d := onLeaf_inv i _ (fun l hk h => by simp only [hk]; exact h)
  moveFile s d := onLeaf_inv i _ (fun l hk h => by simp only [hk]; exact h)
  moveDir s d := onLeaf_inv i _ (fun l hk h => by simp only [hk]; exact h)
  createHandle _ := returns_handleOK hP
  appendHandle _ := returns_handleOK hP

end world

/-- every leaf filesystem keeps every memory leaf well-formed (or emptied by the removal of its
own bare root) -/
theorem leafFS_all_preserve (i : Nat) : (leafFS i).AllPreserve Inv :=
  leafFS_all_preserveP leafOK_closed i

/-! ### the harness wrappers (`RecordingFs`, `FaultFs`) -/

/-- `I` reads only the leaves of the world (not the ghost log, not the fault plan) -/
def LeavesOnly (I : World → Prop) : Prop := ∀ w w' : World, w'.leaves = w.leaves → I w → I w'

theorem invP_leavesOnly (P : Nat → FMap → Prop) : LeavesOnly (InvP P) := fun _ _ h hw => InvP.of_leaves h hw

section wrappers
variable {I : World → Prop}

theorem logCall_pres (hI : LeavesOnly I) (tag : Nat) (m : Method) (p p2 : Str) :
    Preserves I (logCall tag m p p2) :=
  ⟨fun w hw => hI w _ rfl hw⟩

theorem LeavesOnly.faultFree (hI : LeavesOnly I) : FaultFree I := fun w _ _ hw => hI w _ rfl hw

/-- EmbeddedFS holds no state of the world: its methods preserve every invariant -/
theorem embedded_all_preserve (s : Embedded.State) : (Embedded.fs s).AllPreserve I :=
  .of_sat (Embedded.sat_all s)

end wrappers

/-! ### composite path operations, for an arbitrary invariant

Instances at `Spec.preserves I` of the statements of Proofs/PreservesOps.lean, for paths that may
belong to different filesystems. -/

section composite
open Vfs.VPath
variable {I : World → Prop}

/-- every method of the path's filesystem (and the handles it returns) preserves `I` -/
def Good (I : World → Prop) (c : VPath) : Prop := c.fs.AllPreserve I

/-- all paths held by a walk state are `Good` -/
def GoodWalk (I : World → Prop) : Walk → Prop := WalkP (Good I)

theorem good_walkClosed : WalkClosed (Good I) (fun _ _ => True) :=
  .of_children (readDir_hands (FS.AllPreserve I))

theorem walkDir_good (p : VPath) (h : Good I p) : Returns p.walkDir (GoodWalk I) :=
  walkDir_inv good_walkClosed p h

theorem pres_moveFile (src dst : VPath) (hs : Good I src) (hd : Good I dst) :
    Preserves I (src.moveFile dst) :=
  .of_sat (sat_moveFile src dst hs.sat hd.sat (fun _ _ w hk hp => hk.drop.post w hp))

theorem pres_readToEndChecked (p : VPath) (h : p.fs.ObsPreserve I) : Preserves I p.readToEndChecked :=
  .of_sat (sat_readToEndChecked p h.sat)

theorem pres_walkNext (s : Walk) (hs : GoodWalk I s) : Preserves I (walkNext s) :=
  .of_sat (sat_walkNext (S := .preserves I) (fun _ _ h => h) s
    (fun c hc => (hs.1 c hc).sat.obs) (fun c hc => (hs.2 c hc).sat.obs))

/-- the whole walk (`walk_dir().collect()`) -/
theorem pres_walkAll (fuel : Nat) (s : Walk) (hs : GoodWalk I s) : Preserves I (walkAll fuel s) :=
  .of_sat (sat_walkAll (S := .preserves I) (fun _ _ h => h) fuel s
    (fun c hc => (hs.1 c hc).sat.obs) (fun c hc => (hs.2 c hc).sat.obs))

theorem pres_copyDir (fuel : Nat) (src dst : VPath) (hs : Good I src) (hd : Good I dst) :
    Preserves I (copyDir fuel src dst) :=
  .of_sat (sat_copyDir (S := .preserves I) fuel src dst hs.sat hd.sat)

theorem pres_moveDir (fuel : Nat) (src dst : VPath) (hs : Good I src) (hd : Good I dst) :
    Preserves I (moveDir fuel src dst) :=
  .of_sat (sat_moveDir (S := .preserves I) fuel src dst hs.sat hd.sat)

end composite

end Vfs.Stk

/-! ### the walk under the observers alone

`Good`, `GoodWalk`, `pres_walkNext`, `pres_walkAll` above ask `AllPreserve I` of the filesystems of
the paths; here nothing is assumed about the mutating methods (`GoodO`, `GoodWalkO`,
`pres_walkAllO`): the walk iterator preserves every invariant that the four
OBSERVER methods of the walked filesystem preserve. Both are instances of `sat_walkNext` /
`sat_walkAll` (Proofs/PreservesOps.lean). Used by Props/C08History.lean for "observers modify
nothing". Nothing is said of what the walk returns. -/

namespace Vfs.ObsWalk
open Vfs.VPath
variable {I : World → Prop}

/-- the observers of the path's filesystem preserve `I` -/
def GoodO (I : World → Prop) (c : VPath) : Prop := c.fs.ObsPreserve I

/-- all paths held by a walk state are `GoodO` -/
def GoodWalkO (I : World → Prop) (s : Walk) : Prop :=
  (∀ c ∈ s.inner, GoodO I c) ∧ (∀ c ∈ s.todo, GoodO I c)

/-- the whole walk (`walk_dir().collect()`), observers only -/
theorem pres_walkAllO (fuel : Nat) (s : Walk) (hs : GoodWalkO I s) :
    Preserves I (walkAll fuel s) :=
  .of_sat (sat_walkAll (S := .preserves I) (fun _ _ h => h) fuel s
    (fun c hc => (hs.1 c hc).sat) (fun c hc => (hs.2 c hc).sat))

/-- `walk_dir` collected: only the observers of the filesystem are involved -/
theorem pres_walkCollect (fuel : Nat) (p : VPath) (h : p.fs.ObsPreserve I) :
    Preserves I (do let s ← p.walkDir; let _ ← walkAll fuel s; pure ()) := by
  apply Preserves.bindQ _ (pres_walkDir p h) (walkDir_hands (FS.ObsPreserve I) p h)
  intro s hs
  exact pres_discard (pres_walkAllO fuel s hs)

end Vfs.ObsWalk
