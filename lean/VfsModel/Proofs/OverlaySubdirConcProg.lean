/-
  The small-step program `OConc.createDirAll` over layers at SUB-DIRECTORY paths of memory leaves
  refines (`Ref`, Proofs/OverlaySubdirConcRef.lean) the same program over the ROOTS of the leaves,
  for canonical overlay paths: one lemma per function of VfsModel/OverlayConc.lean
  (`ref_vExists … ref_createDirAll`).  The only place where the two programs differ in their calls
  is `VfsPath::create_dir_all` on the write path (`ref_vCreateDirAll`): over a sub-directory layer it
  first walks the prefixes of the layer's base (`ref_baseWalk`: stutter steps).
-/
import VfsModel.Proofs.OverlaySubdirConcRef
namespace Vfs.SConc
open Vfs Vfs.Overlay Vfs.OConc Vfs.OConc.Prog

theorem join_sub (i id : Nat) (b : List Str) (hb : ∀ c ∈ b, GoodComp c) (cs : List Str)
    (hne : cs ≠ []) (hcs : ∀ c ∈ cs, GoodComp c) :
    ({ fs := leafFS i, fsId := id, path := renderC b } : VPath).join (tail1 (renderC cs))
      = .ok { fs := leafFS i, fsId := id, path := renderC b ++ renderC cs } :=
  join_tail1_base _ b rfl (good_noSlash hb) cs hne hcs

/-- the key of the marker of `renderC ds` below the write layer (the root marker for `ds = []`) -/
def wkey (ds : List Str) : Str := if ds = [] then rootMarker else marker (renderC ds)

theorem wkey_rooted (ds : List Str) : Rooted (wkey ds) := by
  unfold wkey
  split
  · right; rfl
  · right; rfl

theorem whiteout_sub (u id : Nat) (b : List Str) (hb : ∀ c ∈ b, GoodComp c) (Lr : List VPath)
    (ds : List Str) (hds : ∀ c ∈ ds, GoodComp c) :
    whiteoutPath ({ fs := leafFS u, fsId := id, path := renderC b } :: Lr) (renderC ds)
      = .ok { fs := leafFS u, fsId := id, path := renderC b ++ wkey ds } := by
  rcases List.eq_nil_or_concat ds with rfl | ⟨l, n, rfl⟩
  · exact whiteoutPath_root_base _ b rfl (good_noSlash hb)
  · rw [List.concat_eq_append] at hds ⊢
    obtain ⟨hl, hn⟩ := good_of_snoc hds
    rw [whiteoutPath_base _ b rfl (good_noSlash hb) l n hl hn, wkey, if_neg (by simp)]
    rfl

theorem whiteout_root (u id : Nat) (Lr : List VPath) (ds : List Str) (hds : ∀ c ∈ ds, GoodComp c) :
    whiteoutPath ({ fs := leafFS u, fsId := id, path := [] } :: Lr) (renderC ds)
      = .ok { fs := leafFS u, fsId := id, path := wkey ds } :=
  whiteout_sub u id [] (by simp) Lr ds hds

theorem writePath_sub (u id : Nat) (b : List Str) (hb : ∀ c ∈ b, GoodComp c) (Lr : List VPath)
    (ds : List Str) (hds : ∀ c ∈ ds, GoodComp c) :
    writePath ({ fs := leafFS u, fsId := id, path := renderC b } :: Lr) (renderC ds)
      = .ok { fs := leafFS u, fsId := id, path := renderC b ++ renderC ds } := by
  by_cases hne : ds = []
  · subst hne
    simp [writePath, writeLayer]
  · exact writePath_base _ b rfl (good_noSlash hb) ds hne hds

theorem writePath_root' (u id : Nat) (Lr : List VPath) (ds : List Str)
    (hds : ∀ c ∈ ds, GoodComp c) :
    writePath ({ fs := leafFS u, fsId := id, path := [] } :: Lr) (renderC ds)
      = .ok { fs := leafFS u, fsId := id, path := renderC ds } :=
  writePath_sub u id [] (by simp) Lr ds hds

section prog
variable {spec : Nat → Option Str} {ls : List Nat} {u : Nat} {bu : List Str}

/-- a layer path below a base and the same path below the leaf root -/
def PRel (spec : Nat → Option Str) (ls : List Nat) (lp lp' : VPath) : Prop :=
  ∃ i id P k, i ∈ ls ∧ spec i = some P ∧ Rooted k ∧
    lp = { fs := leafFS i, fsId := id, path := P ++ k } ∧ lp' = { fs := leafFS i, fsId := id, path := k }

def ORel (spec : Nat → Option Str) (ls : List Nat) : Option VPath → Option VPath → Prop
  | none, none => True
  | some a, some b => PRel spec ls a b
  | _, _ => False

theorem RR_withPath {α} (r : Res α) (p p' : Str) : RR EqV (r.withPath p) (r.withPath p') := by
  cases r <;> simp [Res.withPath, RR, EqV]

theorem ref_vExists {lp lp' : VPath} (h : PRel spec ls lp lp') :
    Ref spec ls u bu EqV (vExists lp) (vExists lp') := by
  obtain ⟨i, id, P, k, hi, hs, hk, rfl, rfl⟩ := h
  exact .exists_ hi hs hk (fun r => .done (RR.eq_refl r))

theorem ref_vMetadata {lp lp' : VPath} (h : PRel spec ls lp lp') :
    Ref spec ls u bu EqV (vMetadata lp) (vMetadata lp') := by
  obtain ⟨i, id, P, k, hi, hs, hk, rfl, rfl⟩ := h
  exact .metadata hi hs hk (fun r => .done (RR_withPath r _ _))

theorem ref_vIsDir {lp lp' : VPath} (h : PRel spec ls lp lp') :
    Ref spec ls u bu EqV (vIsDir lp) (vIsDir lp') := by
  unfold vIsDir
  refine Ref.bind (ref_vExists h) ?_
  rintro a _ rfl
  cases a
  · exact Ref.pure EqV.rfl
  · exact Ref.bind (ref_vMetadata h) (fun md _ hmd => by subst hmd; exact Ref.pure EqV.rfl)

variable (hu : u ∈ ls) (hspecu : spec u = some (renderC bu))

include hu hspecu in
theorem prel_u (id : Nat) {k : Str} (hk : Rooted k) :
    PRel spec ls { fs := leafFS u, fsId := id, path := renderC bu ++ k }
      { fs := leafFS u, fsId := id, path := k } :=
  ⟨u, id, _, k, hu, hspecu, hk, rfl, rfl⟩

theorem ref_vRemoveFile (id : Nat) {k : Str} (hk : Rooted k) :
    Ref spec ls u bu EqV
      (vRemoveFile { fs := leafFS u, fsId := id, path := renderC bu ++ k })
      (vRemoveFile { fs := leafFS u, fsId := id, path := k }) :=
  .removeFile hk (fun r => .done (RR_withPath r _ _))

include hu hspecu in
theorem ref_vCreateDir (id : Nat) {k : Str} (hk : Canon k) (hne : k ≠ []) :
    Ref spec ls u bu EqV
      (vCreateDir { fs := leafFS u, fsId := id, path := renderC bu ++ k })
      (vCreateDir { fs := leafFS u, fsId := id, path := k }) := by
  obtain ⟨h1, h2, _, _⟩ := parent_shift (renderC bu) hk hne
  have hpar := prel_u (ls := ls) hu hspecu id h2
  unfold vCreateDir
  refine Ref.bind (V := EqV) ?_
    (fun _ _ _ => .createDir hk hne (fun r => .done (RR_withPath r _ _)))
  unfold vGetParent
  simp only [VPath.parent, VPath.withStr, h1]
  refine Ref.bind (ref_vExists hpar) ?_
  rintro a _ rfl
  cases a
  · exact .done (by simp [RR])
  · refine Ref.bind (ref_vMetadata hpar) ?_
    rintro md _ rfl
    by_cases hmd : md.ftype = .dir
    · simp only [hmd, ne_eq, not_true_eq_false, ↓reduceIte]
      exact Ref.pure EqV.rfl
    · simp only [hmd, ne_eq, not_false_eq_true, ↓reduceIte]
      exact .done (by simp [RR])

abbrev mkU (u : Nat) : Str → Prog Unit := fun d => Prog.createDir (leafFS u) d Prog.done

/-- the walk over the prefixes of the base: each `create_dir` is a stutter step -/
theorem ref_baseWalk (rest : List Str) (t' : Prog Unit)
    (h : Ref spec ls u bu EqV (cdaLoop (mkU u) rest) t') :
    ∀ n j, bu.length - j = n → j ≤ bu.length →
      Ref spec ls u bu EqV (cdaLoop (mkU u) (chain (bu.take j) (bu.drop j) ++ rest)) t' := by
  intro n
  induction n with
  | zero =>
    intro j hn hj
    have : j = bu.length := by omega
    subst this
    simpa [chain] using h
  | succ n ih =>
    intro j hn hj
    have hlt : j < bu.length := by omega
    rw [List.drop_eq_getElem_cons hlt]
    simp only [chain, List.cons_append, cdaLoop]
    rw [← take_succ_snoc bu j hlt]
    show Ref spec ls u bu EqV (Prog.createDir (leafFS u) (renderC (bu.take (j + 1))) _) t'
    refine .stutter (by omega) (by omega) ?_
    exact ih (j + 1) (by omega) (by omega)

theorem ref_writeLoop : ∀ (ds pre : List Str), (∀ c ∈ pre ++ ds, GoodComp c) →
    Ref spec ls u bu EqV (cdaLoop (mkU u) (chain (bu ++ pre) ds))
      (cdaLoop (mkU u) (chain pre ds)) := by
  intro ds
  induction ds with
  | nil => intro pre _; exact Ref.pure EqV.rfl
  | cons c cs ih =>
    intro pre hg
    simp only [chain, cdaLoop]
    have e : renderC ((bu ++ pre) ++ [c]) = renderC bu ++ renderC (pre ++ [c]) := by
      rw [List.append_assoc, renderC_append]
    rw [e]
    have hg1 : ∀ x ∈ pre ++ [c], GoodComp x := fun x hx => hg x (by
      simp only [List.mem_append, List.mem_cons, List.not_mem_nil, or_false] at hx ⊢
      rcases hx with hx | hx
      · exact Or.inl hx
      · exact Or.inr (Or.inl hx))
    have hnext := ih (pre ++ [c]) (fun x hx => hg x (by simpa [List.append_assoc] using hx))
    rw [← List.append_assoc] at hnext
    show Ref spec ls u bu EqV
      (Prog.createDir (leafFS u) (renderC bu ++ renderC (pre ++ [c])) _)
      (Prog.createDir (leafFS u) (renderC (pre ++ [c])) _)
    refine .createDir ⟨pre ++ [c], hg1, rfl⟩ (renderC_ne_nil (by simp)) (fun r => ?_)
    cases r with
    | ok a => exact hnext
    | err k p => cases k <;> first | exact hnext | exact .done (by simp [RR])
    | panic => exact .done (by simp [RR])

theorem ref_vCreateDirAll (hbu : ∀ c ∈ bu, GoodComp c) (id : Nat) (ds : List Str)
    (hds : ∀ c ∈ ds, GoodComp c) :
    Ref spec ls u bu EqV
      (vCreateDirAll { fs := leafFS u, fsId := id, path := renderC bu ++ renderC ds })
      (vCreateDirAll { fs := leafFS u, fsId := id, path := renderC ds }) := by
  unfold vCreateDirAll cdaWith
  simp only
  rw [← renderC_append, dirPrefixes_renderC (bu ++ ds) (good_noSlash (good_append hbu hds)),
    chain_append [] bu ds, List.nil_append]
  have hwalk : ∀ rest t', Ref spec ls u bu EqV (cdaLoop (mkU u) rest) t' →
      Ref spec ls u bu EqV (cdaLoop (mkU u) (chain [] bu ++ rest)) t' := by
    intro rest t' h
    have := ref_baseWalk rest t' h bu.length 0 rfl (by omega)
    simpa using this
  by_cases hds0 : ds = []
  · subst hds0
    simp only [renderC_nil, ↓reduceIte, List.append_nil, chain]
    by_cases hb : bu = []
    · subst hb
      simp only [renderC_nil, ↓reduceIte]
      exact Ref.pure EqV.rfl
    · rw [if_neg (renderC_ne_nil hb)]
      have := hwalk [] (pure ()) (Ref.pure EqV.rfl)
      simpa using this
  · rw [if_neg (renderC_ne_nil (by simp [hds0])), if_neg (renderC_ne_nil hds0),
      dirPrefixes_renderC ds (good_noSlash hds)]
    have := ref_writeLoop (spec := spec) (ls := ls) (u := u) (bu := bu) ds [] (by simpa using hds)
    rw [List.append_nil] at this
    exact hwalk _ _ this

/-- the lower layers: base `b_i` of leaf `i` versus the root of leaf `i` -/
inductive LRel (spec : Nat → Option Str) (ls : List Nat) : List VPath → List VPath → Prop
  | nil : LRel spec ls [] []
  | cons {i id : Nat} {b : List Str} {L L' : List VPath} : i ∈ ls → spec i = some (renderC b) →
      (∀ c ∈ b, GoodComp c) → LRel spec ls L L' →
      LRel spec ls ({ fs := leafFS i, fsId := id, path := renderC b } :: L)
        ({ fs := leafFS i, fsId := id, path := [] } :: L')

theorem ref_firstExisting (cs : List Str) (hne : cs ≠ []) (hcs : ∀ c ∈ cs, GoodComp c)
    {L L' : List VPath} (h : LRel spec ls L L') :
    Ref spec ls u bu (ORel spec ls) (OConc.firstExisting (renderC cs) L)
      (OConc.firstExisting (renderC cs) L') := by
  induction h with
  | nil => exact Ref.pure (by simp [ORel])
  | @cons i id b L L' hi hs hb _ ih =>
    unfold OConc.firstExisting
    rw [join_sub i id b hb cs hne hcs, join_leafRoot i id cs hne hcs, OConc.ret_ok_bind,
      OConc.ret_ok_bind]
    have hp : PRel spec ls { fs := leafFS i, fsId := id, path := renderC b ++ renderC cs }
        { fs := leafFS i, fsId := id, path := renderC cs } :=
      ⟨i, id, _, _, hi, hs, Canon.rooted ⟨cs, hcs, rfl⟩, rfl, rfl⟩
    refine Ref.bind (ref_vExists hp) ?_
    rintro a _ rfl
    cases a
    · exact ih
    · exact Ref.pure (by simpa [ORel] using hp)

variable {idu : Nat} {Lr Lr' : List VPath} (hbu : ∀ c ∈ bu, GoodComp c)
  (hL : LRel spec ls Lr Lr')

/-- the layers over sub-directories / over roots -/
abbrev LS (u idu : Nat) (bu : List Str) (Lr : List VPath) : List VPath :=
  { fs := leafFS u, fsId := idu, path := renderC bu } :: Lr
abbrev LN (u idu : Nat) (Lr' : List VPath) : List VPath :=
  { fs := leafFS u, fsId := idu, path := [] } :: Lr'

include hu hspecu hbu hL in
theorem ref_readPath (ds : List Str) (hds : ∀ c ∈ ds, GoodComp c) :
    Ref spec ls u bu (PRel spec ls) (OConc.readPath (LS u idu bu Lr) (renderC ds))
      (OConc.readPath (LN u idu Lr') (renderC ds)) := by
  have hLL : LRel spec ls (LS u idu bu Lr) (LN u idu Lr') := .cons hu hspecu hbu hL
  unfold OConc.readPath
  by_cases hne : ds = []
  · subst hne
    simp only [renderC_nil, ↓reduceIte]
    refine Ref.pure ?_
    have := prel_u (ls := ls) hu hspecu idu (k := []) (Or.inl rfl)
    simpa [writeLayer] using this
  · rw [if_neg (renderC_ne_nil hne), if_neg (renderC_ne_nil hne),
      whiteout_sub u idu bu hbu Lr ds hds, whiteout_root u idu Lr' ds hds,
      OConc.ret_ok_bind, OConc.ret_ok_bind]
    refine Ref.bind (ref_vExists (prel_u hu hspecu idu (wkey_rooted ds))) ?_
    rintro marked _ rfl
    cases marked
    · simp only [Bool.false_eq_true, ↓reduceIte]
      refine Ref.bind (ref_firstExisting ds hne hds hLL) ?_
      intro found found' hf
      cases found <;> cases found' <;> simp only [ORel] at hf
      · show Ref spec ls u bu (PRel spec ls) (Prog.ret _ >>= _) (Prog.ret _ >>= _)
        have hj : writeLayer (LS u idu bu Lr) = { fs := leafFS u, fsId := idu, path := renderC bu } := rfl
        have hj' : writeLayer (LN u idu Lr') = { fs := leafFS u, fsId := idu, path := [] } := rfl
        rw [hj, hj', join_sub u idu bu hbu ds hne hds, join_leafRoot u idu ds hne hds,
          OConc.ret_ok_bind, OConc.ret_ok_bind]
        have hp := prel_u (ls := ls) hu hspecu idu (Canon.rooted ⟨ds, hds, rfl⟩)
        refine Ref.bind (ref_vExists hp) ?_
        rintro ex _ rfl
        cases ex
        · exact Ref.failK _
        · exact Ref.pure hp
      · exact Ref.pure hf
    · exact Ref.failK _

include hu hspecu hbu hL in
theorem ref_oexists (ds : List Str) (hds : ∀ c ∈ ds, GoodComp c) :
    Ref spec ls u bu EqV (OConc.oexists (LS u idu bu Lr) (renderC ds))
      (OConc.oexists (LN u idu Lr') (renderC ds)) := by
  unfold OConc.oexists
  rw [whiteout_sub u idu bu hbu Lr ds hds, whiteout_root u idu Lr' ds hds,
    OConc.ret_ok_bind, OConc.ret_ok_bind]
  refine Ref.bind (ref_vExists (prel_u hu hspecu idu (wkey_rooted ds))) ?_
  rintro marked _ rfl
  cases marked
  · simp only [Bool.false_eq_true, ↓reduceIte]
    refine Ref.bindR (ref_readPath hu hspecu hbu hL ds hds) ?_
    intro r r' hrr
    cases r <;> cases r' <;> simp only [RR] at hrr
    · exact ref_vExists hrr
    · subst hrr
      rename_i k _ _
      cases k <;> exact .done (by simp [RR, EqV])
    · exact .done (by simp [RR])
  · exact Ref.pure EqV.rfl

include hu hspecu hbu hL in
theorem ref_ensureHasParent (ds : List Str) (n : Str) (hds : ∀ c ∈ ds, GoodComp c)
    (hn : GoodComp n) :
    Ref spec ls u bu EqV (OConc.ensureHasParent (LS u idu bu Lr) (renderC (ds ++ [n])))
      (OConc.ensureHasParent (LN u idu Lr') (renderC (ds ++ [n]))) := by
  unfold OConc.ensureHasParent
  rw [if_pos (slash_mem_renderC (by simp)), if_pos (slash_mem_renderC (by simp)),
    parent_snoc ds n hds hn]
  refine Ref.bind (ref_oexists hu hspecu hbu hL ds hds) ?_
  rintro ex _ rfl
  cases ex
  · exact Ref.failK _
  · simp only [↓reduceIte]
    refine Ref.bind (ref_readPath hu hspecu hbu hL ds hds) ?_
    intro rp rp' hrp
    refine Ref.bind (ref_vIsDir hrp) ?_
    rintro isd _ rfl
    cases isd
    · exact Ref.failK _
    · simp only [↓reduceIte]
      rw [writePath_sub u idu bu hbu Lr ds hds, writePath_root' u idu Lr' ds hds,
        OConc.ret_ok_bind, OConc.ret_ok_bind]
      exact ref_vCreateDirAll hbu idu ds hds

include hu hspecu hbu in
theorem ref_clearWhiteoutT (cs : List Str) (hcs : ∀ c ∈ cs, GoodComp c) :
    Ref spec ls u bu EqV (OConc.clearWhiteoutT (LS u idu bu Lr) (renderC cs))
      (OConc.clearWhiteoutT (LN u idu Lr') (renderC cs)) := by
  unfold OConc.clearWhiteoutT
  rw [whiteout_sub u idu bu hbu Lr cs hcs, whiteout_root u idu Lr' cs hcs,
    OConc.ret_ok_bind, OConc.ret_ok_bind]
  refine Ref.bind (ref_vExists (prel_u hu hspecu idu (wkey_rooted cs))) ?_
  rintro ex _ rfl
  cases ex
  · exact Ref.pure EqV.rfl
  · simp only [↓reduceIte]
    refine Ref.bindR (ref_vRemoveFile idu (wkey_rooted cs)) ?_
    intro r r' hrr
    cases r <;> cases r' <;> simp only [RR] at hrr
    · exact .done (by simp [RR, EqV])
    · subst hrr
      rename_i k _ _
      cases k <;> exact .done (by simp [RR, EqV])
    · exact .done (by simp [RR])

include hu hspecu hbu hL in
theorem ref_createDir (ds : List Str) (n : Str) (hds : ∀ c ∈ ds, GoodComp c) (hn : GoodComp n) :
    Ref spec ls u bu EqV (OConc.createDir (LS u idu bu Lr) (renderC (ds ++ [n])))
      (OConc.createDir (LN u idu Lr') (renderC (ds ++ [n]))) := by
  have hcs := good_snoc hds hn
  have hne : ds ++ [n] ≠ [] := by simp
  unfold OConc.createDir OConc.createDirHead
  refine Ref.bind (ref_ensureHasParent hu hspecu hbu hL ds n hds hn) ?_
  rintro _ _ _
  refine Ref.bind (ref_oexists hu hspecu hbu hL _ hcs) ?_
  rintro ex _ rfl
  cases ex
  · simp only [Bool.false_eq_true, ↓reduceIte]
    rw [writePath_sub u idu bu hbu Lr _ hcs, writePath_root' u idu Lr' _ hcs,
      OConc.ret_ok_bind, OConc.ret_ok_bind]
    refine Ref.bindR (ref_vCreateDir hu hspecu idu ⟨_, hcs, rfl⟩ (renderC_ne_nil hne)) ?_
    intro r r' hrr
    have hclr := ref_clearWhiteoutT (Lr := Lr) (Lr' := Lr') hu hspecu hbu (idu := idu) _ hcs
    cases r <;> cases r' <;> simp only [RR] at hrr
    · exact hclr
    · subst hrr
      rename_i k _ _
      cases k <;> first
        | exact .done (by simp [RR])
        | (refine Ref.bindR hclr ?_
           intro r2 r2' h2
           cases r2 <;> cases r2' <;> simp only [RR] at h2
           · exact .done (by simp [RR])
           · exact .done (by simpa [RR, EqV] using h2)
           · exact .done (by simp [RR]))
    · exact .done (by simp [RR])
  · simp only [↓reduceIte]
    refine Ref.bind (ref_readPath hu hspecu hbu hL _ hcs) ?_
    intro q q' hq
    refine Ref.bind (ref_vMetadata hq) ?_
    rintro md _ rfl
    exact Ref.failK _

/-- the loop of `create_dir_all` with the SAME prefixes on both sides -/
theorem ref_cdaLoop_same (mk mk' : Str → Prog Unit) (ds : List Str)
    (h : ∀ d ∈ ds, Ref spec ls u bu EqV (mk d) (mk' d)) :
    Ref spec ls u bu EqV (cdaLoop mk ds) (cdaLoop mk' ds) := by
  induction ds with
  | nil => exact Ref.pure EqV.rfl
  | cons d rest ih =>
    have hrest := ih (fun x hx => h x (by simp [hx]))
    unfold cdaLoop
    refine Ref.bindR (h d (by simp)) ?_
    intro r r' hrr
    cases r <;> cases r' <;> simp only [RR] at hrr
    · exact hrest
    · subst hrr
      rename_i k _ _
      cases k <;> first | exact hrest | exact .done (by simp [RR])
    · exact .done (by simp [RR])

include hu hspecu hbu hL in
theorem ref_createDirAll (cs : List Str) (hcs : ∀ c ∈ cs, GoodComp c) :
    Ref spec ls u bu EqV (OConc.createDirAll (LS u idu bu Lr) (renderC cs))
      (OConc.createDirAll (LN u idu Lr') (renderC cs)) := by
  unfold OConc.createDirAll cdaWith
  by_cases hne : cs = []
  · subst hne
    simp only [renderC_nil, ↓reduceIte]
    exact Ref.pure EqV.rfl
  · rw [if_neg (renderC_ne_nil hne), if_neg (renderC_ne_nil hne),
      dirPrefixes_renderC cs (good_noSlash hcs)]
    refine ref_cdaLoop_same _ _ _ ?_
    intro d hd
    obtain ⟨j, h1, h2, rfl⟩ := (mem_chain [] cs d).1 hd
    simp only [List.nil_append]
    have hlt : j - 1 < cs.length := by omega
    have htk : cs.take j = cs.take (j - 1) ++ [cs[j - 1]] := by
      have := take_succ_snoc cs (j - 1) hlt
      rwa [Nat.sub_add_cancel h1] at this
    rw [htk]
    exact ref_createDir hu hspecu hbu hL _ _
      (fun c hc => hcs c (List.mem_of_mem_take hc)) (hcs _ (List.getElem_mem hlt))

end prog
end Vfs.SConc
