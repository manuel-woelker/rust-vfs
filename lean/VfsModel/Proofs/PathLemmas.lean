/-
  Helper lemmas about the path algebra: rendered component lists (with `canonB`, the Boolean check of
  `Canon`: `Canon.of_check`), `parentInternal`, the stack machine behind `join`, the chain of ancestors of a canonical path (`chain`, `ancChain`) and the
  prefixes of a string that end at a '/' (`cuts`); before the chains, three facts about lists that
  the files that import this one share (`snoc_induction`, `take_succ_snoc`, and
  `forall_getElem?_set` for the thread lists of the concurrent models).
  Ancestors: `chain pre cs` is the form to state things over: the paths from `pre` (excluded) down
  to `pre ++ cs` (included), by recursion along the path, with `chain_append` (it splits along `++`) and
  `mem_chain`; a whole path is `chain [] cs`. `ancChain cs` is the same list (`ancChain_eq_chain`)
  written as a `map` over positions, the form in which `dirPrefixes (renderC cs)` comes out
  (`dirPrefixes_renderC_ancChain`, Proofs/MemPath.lean); `mem_ancChain` is `mem_chain` with the
  positions counted from 0.
-/
import VfsModel.Path
namespace Vfs

/-- a canonical component: non-empty, no '/', not "." and not ".." -/
def GoodComp (c : Str) : Prop := c ≠ [] ∧ '/' ∉ c ∧ c ≠ ['.'] ∧ c ≠ ['.', '.']

instance (c : Str) : Decidable (GoodComp c) := by unfold GoodComp; exact inferInstance

/-- canonical path strings: `""` or `/c1/c2/…` with canonical components -/
def Canon (p : Str) : Prop := ∃ cs : List Str, (∀ c ∈ cs, GoodComp c) ∧ p = renderC cs

theorem GoodComp.noSlash {c : Str} (h : GoodComp c) : '/' ∉ c := h.2.1

theorem good_noSlash {cs : List Str} (h : ∀ c ∈ cs, GoodComp c) : ∀ c ∈ cs, '/' ∉ c :=
  fun c hc => (h c hc).noSlash

/-- the `/`-separated pieces of a path string -/
def canonComps (k : Str) : List Str := if k = [] then [] else splitSlash (k.drop 1)

/-- `Canon k`, decided: `k` is what its own pieces render to, and these are good components -/
def canonB (k : Str) : Bool :=
  decide (k = renderC (canonComps k) ∧ ∀ c ∈ canonComps k, GoodComp c)

theorem Canon.of_check {k : Str} (h : canonB k = true) : Canon k :=
  ⟨_, (of_decide_eq_true h).2, (of_decide_eq_true h).1⟩

theorem splitOnC_ne_nil (d : Char) (s : Str) : splitOnC d s ≠ [] := by
  induction s with
  | nil => simp [splitOnC]
  | cons c cs ih =>
    unfold splitOnC
    split
    · simp
    · split <;> simp

theorem splitOnC_no_delim (d : Char) (s : Str) : ∀ c ∈ splitOnC d s, d ∉ c := by
  induction s with
  | nil => simp [splitOnC]
  | cons c cs ih =>
    unfold splitOnC
    split
    · intro x hx
      simp at hx
      rcases hx with rfl | hx
      · simp
      · exact ih x hx
    · rename_i hne
      split
      · intro x hx; simp at hx; subst hx; simp; exact fun h => hne h.symm
      · rename_i h t heq
        intro x hx
        simp at hx
        rcases hx with rfl | hx
        · have := ih h (by rw [heq]; simp)
          simp; exact ⟨fun h' => hne h'.symm, this⟩
        · exact ih x (by rw [heq]; simp [hx])

@[simp] theorem renderC_nil : renderC [] = [] := rfl
@[simp] theorem renderC_cons (c : Str) (cs : List Str) : renderC (c :: cs) = '/' :: c ++ renderC cs := by
  simp [renderC]
@[simp] theorem renderC_append (a b : List Str) : renderC (a ++ b) = renderC a ++ renderC b := by
  simp [renderC]

theorem slash_mem_renderC {cs : List Str} (h : cs ≠ []) : '/' ∈ renderC cs := by
  cases cs with
  | nil => exact absurd rfl h
  | cons c cs => simp

theorem beforeLast_append_delim (d : Char) (a b : Str) (hb : d ∉ b) :
    beforeLast d (a ++ d :: b) = a := by
  induction a with
  | nil => simp [beforeLast, hb]
  | cons c cs ih => simp [beforeLast, ih]

theorem afterLast_append_delim (d : Char) (a b : Str) (hb : d ∉ b) :
    afterLast d (a ++ d :: b) = b := by
  induction a with
  | nil => simp [afterLast, hb]
  | cons c cs ih => simp [afterLast, ih]

/-- a string that contains `d` splits at its last `d` -/
theorem split_last (d : Char) (k : Str) (h : d ∈ k) :
    k = beforeLast d k ++ d :: afterLast d k ∧ d ∉ afterLast d k := by
  induction k with
  | nil => simp at h
  | cons c cs ih =>
    by_cases hcs : d ∈ cs
    · obtain ⟨h1, h2⟩ := ih hcs
      simp only [beforeLast, afterLast, if_pos hcs]
      exact ⟨by rw [List.cons_append, ← h1], h2⟩
    · have hc : c = d := by
        simp only [List.mem_cons] at h
        rcases h with h | h
        · exact h.symm
        · exact absurd h hcs
      simp only [beforeLast, afterLast, if_neg hcs, if_pos hc, List.nil_append]
      exact ⟨by rw [hc], hcs⟩

/-- a path with a '/' is its parent, a '/', and its last component -/
theorem parentInternal_split (k : Str) (h : '/' ∈ k) :
    k = parentInternal k ++ '/' :: afterLast '/' k := (split_last '/' k h).1

theorem beforeLast_no_delim (d : Char) (s : Str) (h : d ∉ s) : beforeLast d s = [] := by
  cases s with
  | nil => rfl
  | cons c cs => simp at h; simp [beforeLast, h.2]

theorem afterLast_no_delim (d : Char) (s : Str) (h : d ∉ s) : afterLast d s = s := by
  cases s with
  | nil => rfl
  | cons c cs =>
    simp at h
    simp [afterLast, h.2]
    intro hc; exact absurd hc.symm h.1

theorem getLast?_append_ne_nil {α} (a : List α) {b : List α} (hb : b ≠ []) :
    (a ++ b).getLast? = b.getLast? := by
  rw [List.getLast?_append]
  cases h : b.getLast? with
  | none => exact absurd (List.getLast?_eq_none_iff.1 h) hb
  | some y => rfl

theorem renderC_snoc (cs : List Str) (c : Str) : renderC (cs ++ [c]) = renderC cs ++ '/' :: c := by
  simp

theorem renderC_take_length_le (cs : List Str) (k : Nat) :
    (renderC (cs.take k)).length ≤ (renderC cs).length := by
  conv => rhs; rw [← List.take_append_drop k cs, renderC_append]
  simp [List.length_append]

/-- key lemma: the parent of a rendered component list is the rendered list without its last
component (components must be slash-free). -/
theorem parentInternal_renderC (cs : List Str) (h : ∀ c ∈ cs, '/' ∉ c) :
    parentInternal (renderC cs) = renderC cs.dropLast := by
  rcases List.eq_nil_or_concat cs with rfl | ⟨l, c, rfl⟩
  · rfl
  · simp only [List.concat_eq_append] at h ⊢
    rw [List.dropLast_concat, parentInternal, renderC_snoc]
    exact beforeLast_append_delim _ _ _ (h c (by simp))

theorem filenameInternal_renderC_snoc (cs : List Str) (c : Str) (h : '/' ∉ c) :
    filenameInternal (renderC (cs ++ [c])) = c := by
  rw [filenameInternal, renderC_snoc]
  exact afterLast_append_delim _ _ _ h

/-- the stack machine: "" and "." are skipped, ".." pops (or stays at the root),
anything else is pushed -/
def resolve (stack : List Str) : List Str → List Str
  | [] => stack
  | comp :: rest =>
    if comp = ['.'] ∨ comp = [] then resolve stack rest
    else if comp = ['.', '.'] then resolve stack.dropLast rest
    else resolve (stack ++ [comp]) rest

theorem resolve_append (s : List Str) (a b : List Str) :
    resolve s (a ++ b) = resolve (resolve s a) b := by
  induction a generalizing s with
  | nil => rfl
  | cons c cs ih =>
    simp only [List.cons_append, resolve]
    split
    · exact ih _
    · split <;> exact ih _

/-- the loop of join_internal computes `resolve`, whenever the base is a rendered list -/
theorem joinLoop_resolve (bs new comps : List Str) (hbs : ∀ c ∈ bs, '/' ∉ c) :
    (joinLoop (renderC bs) new comps).1 ++ renderC (joinLoop (renderC bs) new comps).2
      = renderC (resolve (bs ++ new) comps) := by
  induction comps generalizing bs new with
  | nil => exact (renderC_append bs new).symm
  | cons comp rest ih =>
    simp only [joinLoop, resolve]
    split
    · exact ih bs new hbs
    · split
      · split
        · rename_i hne
          rw [ih bs new.dropLast hbs, List.dropLast_append_of_ne_nil hne]
        · rename_i hne
          have hnil : new = [] := Decidable.not_not.1 hne
          subst hnil
          rw [parentInternal_renderC bs hbs,
            ih bs.dropLast [] (fun c hc => hbs c (List.dropLast_subset _ hc)),
            List.append_nil, List.append_nil]
      · rw [ih bs (new ++ [comp]) hbs, List.append_assoc]

theorem resolve_good (stack comps : List Str) (hs : ∀ c ∈ stack, GoodComp c)
    (hc : ∀ c ∈ comps, '/' ∉ c) : ∀ c ∈ resolve stack comps, GoodComp c := by
  induction comps generalizing stack with
  | nil => exact hs
  | cons comp rest ih =>
    have hrest : ∀ c ∈ rest, '/' ∉ c := fun c h => hc c (by simp [h])
    simp only [resolve]
    split
    · exact ih stack hs hrest
    · rename_i h1
      split
      · exact ih _ (fun c h => hs c (List.dropLast_subset _ h)) hrest
      · rename_i h2
        refine ih _ ?_ hrest
        intro c hcm
        simp at hcm
        rcases hcm with hcm | rfl
        · exact hs c hcm
        · simp at h1
          exact ⟨h1.2, hc c (by simp), h1.1, h2⟩

/-- slash-free heads of two equal strings whose tails start with '/' (or are empty) agree -/
theorem slashfree_split : ∀ (x y s t : Str), '/' ∉ x → '/' ∉ y →
    (s = [] ∨ s.head? = some '/') → (t = [] ∨ t.head? = some '/') →
    x ++ s = y ++ t → x = y ∧ s = t := by
  intro x
  induction x with
  | nil =>
    intro y s t _ hy hs ht he
    cases y with
    | nil => exact ⟨rfl, by simpa using he⟩
    | cons c cs =>
      simp at he hy
      rcases hs with rfl | hs
      · simp at he
      · subst he; simp at hs; exact absurd hs.symm hy.1
  | cons c cs ihx =>
    intro y s t hx hy hs ht he
    cases y with
    | nil =>
      simp at he hx
      rcases ht with rfl | ht
      · simp at he
      · rw [← he] at ht; simp at ht; exact absurd ht.symm hx.1
    | cons d ds =>
      simp at he hx hy
      obtain ⟨rfl, he⟩ := he
      obtain ⟨h1, h2⟩ := ihx ds s t hx.2 hy.2 hs ht he
      exact ⟨by rw [h1], h2⟩

/-! ### three facts about lists -/

/-- induction from the right on lists -/
theorem snoc_induction {α} {P : List α → Prop} (hnil : P [])
    (hsnoc : ∀ l a, P l → P (l ++ [a])) : ∀ l, P l := by
  intro l
  have : ∀ n (l : List α), l.length = n → P l := by
    intro n
    induction n with
    | zero => intro l hl; rw [List.eq_nil_of_length_eq_zero hl]; exact hnil
    | succ n ih =>
      intro l hl
      rcases List.eq_nil_or_concat l with rfl | ⟨l', a, rfl⟩
      · exact hnil
      · rw [List.concat_eq_append] at hl ⊢
        exact hsnoc l' a (ih l' (by simp at hl; exact hl))
  exact this l.length l rfl

/-- a property of the members of a list by position survives the replacement of member `tid`: the
new member is checked at `tid`, the others are carried over -/
theorem forall_getElem?_set {τ : Type} {F F' : Nat → τ → Prop} {ts : List τ} {tid : Nat} {t' : τ}
    (h : ∀ i t, ts[i]? = some t → F i t) (hmono : ∀ i t, i ≠ tid → F i t → F' i t)
    (hnew : F' tid t') : ∀ i t, (ts.set tid t')[i]? = some t → F' i t := by
  intro i t ht
  rw [List.getElem?_set] at ht
  split at ht
  · rename_i hi
    subst hi
    split at ht
    · cases ht; exact hnew
    · cases ht
  · rename_i hi
    exact hmono i t (fun e => hi e.symm) (h i t ht)

theorem take_succ_snoc {α} (cs : List α) (k : Nat) (hk : k < cs.length) :
    cs.take (k + 1) = cs.take k ++ [cs[k]] := by
  rw [List.take_add_one, List.getElem?_eq_getElem hk]; rfl

/-! ### the ancestors of a rendered component list -/

/-- the ancestors chain: `pre/c1`, `pre/c1/c2`, … -/
def chain (pre : List Str) : List Str → List Str
  | [] => []
  | c :: cs => renderC (pre ++ [c]) :: chain (pre ++ [c]) cs

theorem chain_eq_map (pre cs : List Str) :
    chain pre cs = (List.range cs.length).map (fun k => renderC (pre ++ cs.take (k + 1))) := by
  induction cs generalizing pre with
  | nil => rfl
  | cons c cs ih =>
    rw [chain, ih, List.length_cons, List.range_succ_eq_map, List.map_cons, List.map_map]
    simp [List.append_assoc]

theorem chain_append (pre xs ys : List Str) :
    chain pre (xs ++ ys) = chain pre xs ++ chain (pre ++ xs) ys := by
  induction xs generalizing pre with
  | nil => simp [chain]
  | cons x xs ih => simp [chain, ih, List.append_assoc]

theorem mem_chain (pre cs : List Str) (k : Str) :
    k ∈ chain pre cs ↔ ∃ j, 1 ≤ j ∧ j ≤ cs.length ∧ k = renderC (pre ++ cs.take j) := by
  simp only [chain_eq_map, List.mem_map, List.mem_range]
  constructor
  · rintro ⟨i, hi, rfl⟩; exact ⟨i + 1, by omega, by omega, rfl⟩
  · rintro ⟨j, h1, h2, rfl⟩
    obtain ⟨i, rfl⟩ : ∃ i, j = i + 1 := ⟨j - 1, by omega⟩
    exact ⟨i, by omega, rfl⟩

/-- the ancestor chain of `/c1/…/cn`: `/c1`, `/c1/c2`, …, `/c1/…/cn` -/
def ancChain (cs : List Str) : List Str := (List.range cs.length).map (fun k => renderC (cs.take (k + 1)))

@[simp] theorem ancChain_nil : ancChain [] = [] := rfl

theorem ancChain_eq_chain (cs : List Str) : ancChain cs = chain [] cs := (chain_eq_map [] cs).symm

theorem ancChain_snoc (cs : List Str) (c : Str) : ancChain (cs ++ [c]) = ancChain cs ++ [renderC (cs ++ [c])] := by
  unfold ancChain
  rw [List.length_append, List.length_singleton, List.range_succ, List.map_append]
  congr 1
  · apply List.map_congr_left
    intro k hk
    rw [List.mem_range] at hk
    rw [List.take_append_of_le_length (by omega)]
  · have : List.take (cs.length + 1) (cs ++ [c]) = cs ++ [c] :=
      List.take_of_length_le (by simp)
    simp [this]

theorem mem_ancChain (cs : List Str) (q : Str) :
    q ∈ ancChain cs ↔ ∃ k, k < cs.length ∧ q = renderC (cs.take (k + 1)) := by
  unfold ancChain
  simp only [List.mem_map, List.mem_range]
  constructor
  · rintro ⟨k, hk, rfl⟩; exact ⟨k, hk, rfl⟩
  · rintro ⟨k, hk, rfl⟩; exact ⟨k, hk, rfl⟩

/-! ### where the '/' are: the prefixes of a string that end at a '/' or at the end -/

/-- all prefixes ending at the end of the string or just before a '/' (the empty one included) -/
def cuts (s : Str) : List Str :=
  ((List.range (s.length + 1)).filter
      (fun e => decide (e = s.length ∨ s[e]? = some '/'))).map (fun e => s.take e)

theorem range_filter_map_succ {β} (n : Nat) (P : Nat → Bool) (f : Nat → β) :
    ((List.range (n + 1)).filter P).map f
      = (if P 0 then [f 0] else []) ++
        ((List.range n).filter (fun e => P (e + 1))).map (fun e => f (e + 1)) := by
  rw [List.range_succ_eq_map]
  simp only [List.filter_cons, List.filter_map]
  split <;> simp [Function.comp_def]

theorem cuts_cons (y : Char) (s : Str) :
    cuts (y :: s) = (if y = '/' then [[]] else []) ++ (cuts s).map (y :: ·) := by
  unfold cuts
  rw [List.length_cons, range_filter_map_succ]
  congr 1
  · by_cases hy : y = '/' <;> simp [hy]
  · rw [List.map_map]
    have hf : (List.range (s.length + 1)).filter
          (fun e => decide (e + 1 = s.length + 1 ∨ (y :: s)[e + 1]? = some '/'))
        = (List.range (s.length + 1)).filter
          (fun e => decide (e = s.length ∨ s[e]? = some '/')) := by
      apply List.filter_congr
      intro e _
      simp
    rw [hf]
    apply List.map_congr_left
    intro e _
    simp

theorem cuts_noSlash (c : Str) (hc : '/' ∉ c) : cuts c = [c] := by
  induction c with
  | nil => rfl
  | cons y c ih =>
    simp at hc
    rw [cuts_cons, if_neg (fun h => hc.1 h.symm), ih hc.2]
    rfl

/-- appending one slash-free component adds exactly one cut: the whole string -/
theorem cuts_snoc (s c : Str) (hc : '/' ∉ c) :
    cuts (s ++ '/' :: c) = cuts s ++ [s ++ '/' :: c] := by
  induction s with
  | nil => rw [List.nil_append, cuts_cons, if_pos rfl, cuts_noSlash c hc]; rfl
  | cons y s ih =>
    rw [List.cons_append, cuts_cons, ih, cuts_cons, List.map_append, List.append_assoc]
    rfl

/-- `join` has no panic outcome -/
theorem joinInternal_ne_panic (base arg : Str) : joinInternal base arg ≠ .panic := by
  unfold joinInternal
  split
  · simp
  · split <;> simp

/-- the only failure of `join` is `InvalidPath` -/
theorem joinInternal_err_kind {base arg : Str} {k : ErrKind} {p : Option Str}
    (h : joinInternal base arg = .err k p) : k = .invalidPath := by
  unfold joinInternal at h
  split at h
  · cases h
  · split at h
    · cases h; rfl
    · cases h

end Vfs
