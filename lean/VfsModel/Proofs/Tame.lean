/-
What the transfers need to know of ONE filesystem value, no relation involved. `MPure m`: `m` keeps
the world; `NoNS m`: `m` never answers `NotSupported`, the kind on which `copy_file` branches
(`VPath.fastOr`). `Tame fs` asks both only of the methods that `copy_file` calls, `create_file` of an
overlay (which creates directories and clears a whiteout) included: `exists` and
`metadata` keep the world (the probes in front of the copy; `open_file` of a memory leaf stamps the
access time and is not among them), and `exists`, `metadata`, `open_file`, `create_file`,
`create_dir`, `remove_file` never answer `NotSupported`. Nothing is said of the other methods
(`set_creation_time` of a physical leaf does answer `NotSupported`). Leaves (`leaf_tame`), and
altroots and overlays over tame filesystems (`Altroot.tame`, `Overlay.tame`), are tame. Hence the
read/write route of `copy_file` between tame filesystems never answers `NotSupported`
(`VPath.copyGeneric_ns`), and neither does `copy_file` (`VPath.copyFile_ns`).

Used where a simulation has to know which way `copy_file` goes: Proofs/SubtreeSim.lean (C07, the
altroot's `copy_file` over a memory leaf) and Proofs/ClassSimIter.lean (C02, memory against physical
leaves). The declarations are in `namespace Vfs.C02`, where C02's statements name `MPure`, `NoNS`,
`Tame`; inside it `VPath`, `Altroot`, `Overlay` open `Vfs.C02.VPath` …, so the lemmas of
Proofs/PreservesOps.lean are written `Vfs.VPath.sat_…` in full.
-/
import VfsModel.Proofs.PreservesOps
import VfsModel.Proofs.PhysLemmas
import VfsModel.Proofs.MemRun
namespace Vfs.C02

def MPure {α : Type} (m : M α) : Prop := ∀ w, (m w).2 = w

def NoNS {α : Type} (m : M α) : Prop := ∀ w p, (m w).1 ≠ .err .notSupported p

namespace MPure
variable {α : Type}

theorem ret (r : Res α) : MPure (M.ret r) := fun _ => rfl
theorem failAt (k : ErrKind) (p : Str) : MPure (M.failAt k p : M α) := fun _ => rfl

end MPure

/-! Both are specifications in the sense of Proofs/Hoare.lean: `MPure m` is `Preserves` of "the
world is `w`" for every `w`, and `NoNS m` is `Spec.notKind (fun _ => True) .notSupported`. What the
`VfsPath` layer and the adapters do with them is then an instance of Proofs/PreservesOps.lean. -/

theorem MPure.sat {α : Type} {m : M α} (h : MPure m) (w : World) : (Spec.fixedAt w).Sat m :=
  ⟨fun w' hw' => by subst hw'; exact h _⟩

theorem MPure.of_sat {α : Type} {m : M α} (h : ∀ w, (Spec.fixedAt w).Sat m) : MPure m :=
  fun w => (h w).post w rfl

abbrev noNS : Spec := .notKind (fun _ => True) .notSupported

theorem NoNS.sat {α : Type} {m : M α} (h : NoNS m) : noNS.Sat m := by
  refine ⟨fun w _ => ⟨trivial, fun e => ?_⟩⟩
  cases hr : (m w).1 with
  | ok a => rw [hr] at e; cases e
  | err k p => rw [hr] at e; cases Spec.Out.err.inj e; exact h w p hr
  | panic => rw [hr] at e; cases e

theorem NoNS.of_sat {α : Type} {m : M α} (h : noNS.Sat m) : NoNS m :=
  fun w p he => (h.post w trivial).2 (by rw [he]; rfl)

/-- `exists` and `metadata` keep the world, so a precondition on the world survives these probes;
the six methods listed never answer `NotSupported`, on which `copy_file` branches -/
structure Tame (fs : FS) : Prop where
  existsP : ∀ p, MPure (fs.exists_ p)
  metadataP : ∀ p, MPure (fs.metadata p)
  existsN : ∀ p, NoNS (fs.exists_ p)
  metadataN : ∀ p, NoNS (fs.metadata p)
  openN : ∀ p, NoNS (fs.openFile p)
  createFileN : ∀ p, NoNS (fs.createFile p)
  createDirN : ∀ p, NoNS (fs.createDir p)
  removeFileN : ∀ p, NoNS (fs.removeFile p)

theorem onLeaf_pure {α : Type} (i : Nat) (f : Leaf → Res α × FMap) (hf : ∀ l, (f l).2 = l.files) :
    MPure (onLeaf i f) := by
  intro w
  unfold onLeaf
  cases e : w.leaf? i with
  | none => rfl
  | some l =>
    simp only
    rw [hf l]
    exact World.setLeafFiles_self w i l e

theorem onLeaf_noNS {α : Type} (i : Nat) (f : Leaf → Res α × FMap)
    (hf : ∀ l p, (f l).1 ≠ .err .notSupported p) : NoNS (onLeaf i f) := by
  intro w p
  unfold onLeaf
  cases e : w.leaf? i with
  | none => intro h; cases h
  | some l => exact hf l p

theorem _root_.Vfs.Mem.ensureHasParent_ns (m : FMap) (p : Str) (q : Option Str) :
    Mem.ensureHasParent m p ≠ .err .notSupported q := by
  unfold Mem.ensureHasParent
  intro h
  split at h
  · split at h
    · split at h <;> simp [fail] at h
    · simp [fail] at h
  · simp [fail] at h

theorem leaf_tame (i : Nat) : Tame (leafFS i) where
  existsP p := onLeaf_pure i _ (fun l => by cases l.kind <;> rfl)
  metadataP p := onLeaf_pure i _ (fun l => by cases l.kind <;> rfl)
  existsN p := onLeaf_noNS i _ (fun l q => by cases l.kind <;> (intro h; cases h))
  metadataN p := onLeaf_noNS i _ (fun l q => by
    cases hk : l.kind
    · simp only [Mem.metadata]
      split <;> simp [fail]
    · simp only [Phys.metadata]
      have := Phys.lookup_ns l.files p
      split <;> simp_all [fail])
  openN p := onLeaf_noNS i _ (fun l q => by
    cases hk : l.kind
    · simp only [Mem.openFile, Mem.setAccessed]
      cases hf : l.files.find? p with
      | none => simp [fail]
      | some e =>
        simp only [FMap.find?_insert_self]
        split <;> simp [fail]
    · simp only [Phys.openFile]
      have := Phys.lookup_ns l.files p
      split <;> (try split) <;> simp_all [fail])
  createFileN p := onLeaf_noNS i _ (fun l q => by
    cases hk : l.kind
    · simp only [Mem.createFile]
      have := Mem.ensureHasParent_ns l.files p
      split
      · split
        · split <;> simp [fail, Res.map]
        · simp [Res.map]
      · rename_i k' p' he
        simp only [Res.map]
        intro h
        simp only [Res.err.injEq] at h
        exact this p' (by rw [he, h.1])
      · simp [Res.map]
    · simp only [Phys.createFile]
      have := Phys.lookup_ns l.files p
      split <;> (try split) <;> simp_all [fail, Res.map])
  createDirN p := onLeaf_noNS i _ (fun l q => by
    cases hk : l.kind
    · simp only [Mem.createDir]
      have := Mem.ensureHasParent_ns l.files p
      split
      · split
        · split <;> simp [fail]
        · simp
      · rename_i k' p' he
        intro h
        simp only [Res.err.injEq] at h
        exact this p' (by rw [he, h.1])
      · simp
    · simp only [Phys.createDir]
      have := Phys.lookup_ns l.files p
      split <;> (try split) <;> simp_all [fail])
  removeFileN p := onLeaf_noNS i _ (fun l q => by
    cases hk : l.kind
    · simp only [Mem.removeFile]
      split
      · simp [fail]
      · split <;> simp [fail]
    · simp only [Phys.removeFile]
      have := Phys.lookup_ns l.files p
      split <;> (try split) <;> simp_all [fail])

namespace VPath
variable {v : VPath} (ht : Tame v.fs)
include ht

theorem exists_pure : MPure v.exists_ := ht.existsP _

theorem sat_existsP (w : World) : (Spec.fixedAt w).Sat v.exists_ := (ht.existsP _).sat w
theorem sat_metadataP (w : World) : (Spec.fixedAt w).Sat v.metadata := .withPath _ ((ht.metadataP _).sat w)
theorem sat_existsN : noNS.Sat v.exists_ := (ht.existsN _).sat
theorem sat_metadataN : noNS.Sat v.metadata := .withPath _ (ht.metadataN _).sat
theorem sat_openFileN : noNS.Sat v.openFile := .withPath _ (ht.openN _).sat
theorem sat_removeFileN : noNS.Sat v.removeFile := .withPath _ (ht.removeFileN _).sat

theorem sat_getParentN : noNS.Sat v.getParent :=
  Vfs.VPath.sat_getParent_of v (sat_existsN (v := v.parent) ht) (sat_metadataN (v := v.parent) ht)

theorem sat_createDirN : noNS.Sat v.createDir :=
  Vfs.VPath.sat_createDir_of v (sat_getParentN ht) (ht.createDirN _).sat

theorem sat_createFileN : noNS.Sat v.createFile :=
  Vfs.VPath.sat_createFile_of v (sat_getParentN ht) (ht.createFileN _).sat

theorem isDir_pure : MPure v.isDir :=
  .of_sat fun w => Vfs.VPath.sat_isDir_of v (sat_existsP ht w) (sat_metadataP ht w)

theorem isFile_pure : MPure v.isFile :=
  .of_sat fun w => Vfs.VPath.sat_isFile_of v (sat_existsP ht w) (sat_metadataP ht w)

theorem isFile_ns : NoNS v.isFile :=
  .of_sat (Vfs.VPath.sat_isFile_of v (sat_existsN ht) (sat_metadataN ht))

end VPath

theorem tame_withStr {v : VPath} (ht : Tame v.fs) (s : Str) : Tame (v.withStr s).fs := ht

/-- a write handle never answers `NotSupported`: `write` always succeeds, `flush` publishes or does
nothing -/
theorem handleOK_ns (h : WHandle) : noNS.HandleOK h := by
  intro buf pos
  refine ⟨fun bs => NoNS.sat fun w p => ?_, NoNS.sat fun w p => ?_⟩
  · obtain ⟨h', e⟩ := WHandle.write_ok { h with buf := buf, pos := pos } bs w
    rw [e]
    exact nofun
  · rw [WHandle.flush_ok]
    exact nofun

theorem returns_handleOK_ns {m : M WHandle} : Returns m noNS.HandleOK :=
  ⟨fun _ h _ => handleOK_ns h⟩

namespace Altroot
open Vfs.Altroot

theorem tame {root : VPath} (ht : Tame root.fs) : Tame (fs root) where
  existsP p := .of_sat fun w => sat_exists_of root (fun q => (ht.existsP q).sat w) p
  metadataP p := .of_sat fun w => sat_metadata_of root (fun q => (ht.metadataP q).sat w) p
  existsN p := .of_sat (sat_exists_of root (fun q => (ht.existsN q).sat) p)
  metadataN p := .of_sat (sat_metadata_of root (fun q => (ht.metadataN q).sat) p)
  openN p := .of_sat (sat_at root p (P := Tame) ht fun _ hq => VPath.sat_openFileN hq)
  createFileN p := .of_sat (sat_at root p (P := Tame) ht fun _ hq => VPath.sat_createFileN hq)
  createDirN p := .of_sat (sat_at root p (P := Tame) ht fun _ hq => VPath.sat_createDirN hq)
  removeFileN p := .of_sat (sat_at root p (P := Tame) ht fun _ hq => VPath.sat_removeFileN hq)

end Altroot

namespace Overlay
open Vfs.Overlay

section tame
variable {layers : List VPath} (hL : ∀ l ∈ layers, Tame l.fs) (hW : Tame (writeLayer layers).fs)
include hL hW

theorem probesP (w : World) : Probes (Spec.fixedAt w) layers :=
  ⟨fun l hl q => ((hL l hl).existsP q).sat w, fun l hl q => ((hL l hl).metadataP q).sat w,
   fun q => (hW.existsP q).sat w, fun q => (hW.metadataP q).sat w⟩

theorem writesN : Writes noNS layers where
  ex l hl q := ((hL l hl).existsN q).sat
  md l hl q := ((hL l hl).metadataN q).sat
  upperEx q := (hW.existsN q).sat
  upperMd q := (hW.metadataN q).sat
  createDir q := (hW.createDirN q).sat
  createFile q := (hW.createFileN q).sat
  createHandle _ := returns_handleOK_ns
  removeFile q := (hW.removeFileN q).sat

theorem tame_inLayers {q : VPath} (h : InLayers layers q) : Tame q.fs := by
  obtain ⟨l, hm, hfs, _⟩ := h
  rw [hfs]
  rcases List.mem_cons.1 hm with rfl | hm
  · exact hW
  · exact hL l hm

theorem tame : Tame (fs layers) where
  existsP p := .of_sat fun w => sat_exists_p (probesP hL hW w) p
  metadataP p := .of_sat fun w => sat_metadata_of (probesP hL hW w) p
  existsN p := .of_sat (sat_exists_p (writesN hL hW).toProbes p)
  metadataN p := .of_sat (sat_metadata_of (writesN hL hW).toProbes p)
  openN p := .of_sat (sat_openFile_of (writesN hL hW).ex (writesN hL hW).upperEx
    (fun _ hq => VPath.sat_openFileN (tame_inLayers hL hW hq)) p)
  createFileN p := .of_sat (sat_createFile (writesN hL hW) p)
  createDirN p := .of_sat (sat_createDir (writesN hL hW) p)
  removeFileN p := .of_sat (sat_removeFile (writesN hL hW) p)

end tame
end Overlay

namespace VPath

theorem copyGeneric_ns {s d : VPath} (hs : Tame s.fs) (hd : Tame d.fs) : NoNS (s.copyGeneric d) := by
  unfold Vfs.VPath.copyGeneric
  exact .of_sat (.bind (sat_openFileN hs) fun r => .bindQ _ (sat_createFileN hd) returns_handleOK_ns
    fun wh hwh => Vfs.VPath.sat_ioCopyAndDrop r wh _ hwh)

/-- whatever the shortcut answers: `NotSupported` leads to the generic route, every other answer is
final -/
theorem fastOr_ns {c : Prop} [Decidable c] {fast slow : M Unit} (hs : NoNS slow) :
    NoNS (Vfs.VPath.fastOr c fast slow) := by
  intro w p
  by_cases hc : c
  · simp only [Vfs.VPath.fastOr, bind, M.bind, hc, if_true, M.attempt]
    rcases fast w with ⟨r, w'⟩
    cases r with
    | ok a => intro h; cases h
    | panic => intro h; cases h
    | err k q =>
      dsimp only
      by_cases hk : k ≠ .notSupported
      · rw [if_pos hk]; intro h; cases h; exact hk rfl
      · rw [if_neg hk]; exact hs w' p
  · rw [Vfs.VPath.fastOr_slow fun h => absurd h hc]; exact hs w p

theorem copyFile_ns {s d : VPath} (hs : Tame s.fs) (hd : Tame d.fs) : NoNS (s.copyFile d) := by
  rw [Vfs.VPath.copyFile_eq]
  exact .of_sat (Vfs.VPath.sat_guarded s d _ (sat_existsN hd) (fastOr_ns (copyGeneric_ns hs hd)).sat)

end VPath

end Vfs.C02
