/-
  Overlays whose layers are sub-directory paths of memory filesystems, used directly
  (`OverlayFS::new(&[root_a.join("up")?, root_b.join("lo")?])`), versus overlays over the roots of
  memory filesystems holding the sub-maps: the instance `VShift spec a b` of the layer interface
  `LayerOps` (Proofs/Sim.lean: the overlay over abstractly related layers, `Overlay.sim_fs_abs`).
  `a = ⟨leafFS i, _, P ++ q⟩`, `b = ⟨leafFS i, _, q⟩` with `spec i = .sub P`, `q` canonical
  (`layerOps_shift`, `overlay_subdir_sim`; for every world relation with the interface `SubRel`).
  The `create_dir_all` case is where the invariant `AncOK` of Proofs/SubtreeSim.lean (the ancestors
  of `P` are directories) is used: on the left `create_dir_all` first walks the prefixes of `P`,
  each answering `DirectoryExists`.

  Error-path labels are not related (`PTrue`): the two sides label errors with different strings
  (`P ++ q` versus `q`). Not proved here: layers on physical leaves; sub-directory layers of nested
  overlays / altroots.
-/
import VfsModel.Proofs.SubtreeSim
namespace Vfs

theorem SimM.withPath_right_true {α β : Type} {R : World → World → Prop} {Q : α → β → Prop}
    {PR : Option Str → Option Str → Prop} {m1 : M α} {m2 : M β} (p2 : Str)
    (h : SimM R PR Q m1 m2) : SimM R PTrue Q m1 (M.withPath p2 m2) :=
  simM_iff.2 ((simM_iff.1 h).withPathR p2 fun he => ⟨he.1, trivial⟩)

theorem SimM.toTrue {α β : Type} {R : World → World → Prop} {Q : α → β → Prop}
    {PR : Option Str → Option Str → Prop} {m1 : M α} {m2 : M β} (h : SimM R PR Q m1 m2) :
    SimM R PTrue Q m1 m2 := h.monoPR (fun _ _ _ => trivial)

/-- `a` is the path `P ++ q` of memory leaf `i`, `b` the path `q` of the same leaf index, where the
relation re-roots leaf `i` at `P` -/
inductive VShift (spec : Nat → Role) : VPath → VPath → Prop
  | mk {i : Nat} {P q : Str} (hi : spec i = .sub P) (hP : Canon P) (hq : Canon q) (ida idb : Nat) :
    VShift spec { fs := leafFS i, fsId := ida, path := P ++ q }
      { fs := leafFS i, fsId := idb, path := q }

/-- not the re-rooted root itself -/
def NRShift (_a b : VPath) : Prop := b.path ≠ []

theorem chain_shift (ps pre cs : List Str) :
    chain (ps ++ pre) cs = (chain pre cs).map (renderC ps ++ ·) := by
  induction cs generalizing pre with
  | nil => rfl
  | cons c cs ih =>
    simp only [chain, List.map_cons]
    rw [List.append_assoc, ih (pre ++ [c])]
    simp

theorem createDirAllLoop_skip (a : VPath) (l rest : List Str) (w : World)
    (h : ∀ d ∈ l, ∃ x, a.fs.createDir d w = (.err .dirExists x, w)) :
    VPath.createDirAllLoop a (l ++ rest) w = VPath.createDirAllLoop a rest w := by
  induction l with
  | nil => rfl
  | cons d l ih =>
    obtain ⟨x, hx⟩ := h d (by simp)
    rw [List.cons_append]
    have : VPath.createDirAllLoop a (d :: (l ++ rest)) w = VPath.createDirAllLoop a (l ++ rest) w := by
      conv => lhs; unfold VPath.createDirAllLoop
      simp only [hx]
    rw [this]
    exact ih (fun d' hd' => h d' (by simp [hd']))

section shift
variable {spec : Nat → Role} {R : World → World → Prop} (hR : SubRel spec R)
include hR

theorem createDirAllLoop_shift {i : Nat} {P : Str} (hi : spec i = .sub P) (a b : VPath) (ha : a.fs = leafFS i)
    (hb : b.fs = leafFS i) (l : List Str) (hl : ∀ d ∈ l, Canon d ∧ d ≠ []) :
    SimM R PTrue (· = ·) (VPath.createDirAllLoop a (l.map (P ++ ·)))
      (VPath.createDirAllLoop b l) :=
  simM_iff.2 (gsim_createDirAllLoop (eqK_resp PRn _) (ListRel.map_left l _ fun d hd =>
    ⟨by rw [ha, hb]; exact simM_iff.1 (leaf_createDir hR hi (hl d hd).1 (hl d hd).2),
      fun he => ⟨he.1, trivial⟩⟩))

omit hR in
/-- at `P ++ q` of a re-rooted memory leaf the prefixes of `P` answer `DirectoryExists` and change
nothing (`AncOK`, from the relation): what remains is the loop over the prefixes of `q`, shifted -/
theorem createDirAll_below {i : Nat} {ps qs : List Str} (hi : spec i = .sub (renderC ps))
    (hps : ∀ c ∈ ps, GoodComp c) (hqs : ∀ c ∈ qs, GoodComp c) (ida : Nat) {w1 w2 : World}
    (hr : RSub spec w1 w2) :
    VPath.createDirAll { fs := leafFS i, fsId := ida, path := renderC ps ++ renderC qs } w1 =
      VPath.createDirAllLoop { fs := leafFS i, fsId := ida, path := renderC ps ++ renderC qs }
        ((chain [] qs).map (renderC ps ++ ·)) w1 := by
  obtain ⟨m1, h1, h2, hinv⟩ := hr.leafAt hi
  have hanc := hr.ancAt hi h1
  have hskip : ∀ d ∈ chain [] ps, ∃ x, (leafFS i).createDir d w1 = (.err .dirExists x, w1) := by
    intro d hd
    rw [mem_chain] at hd
    obtain ⟨j, hj1, hj2, rfl⟩ := hd
    simp only [List.nil_append]
    obtain ⟨j', rfl⟩ : ∃ j', j = j' + 1 := ⟨j - 1, by omega⟩
    have hpar : parentInternal (renderC (ps.take (j' + 1))) = renderC (ps.take j') := by
      have e : (ps.take (j' + 1)).dropLast = ps.take j' := by
        rw [List.take_add_one, List.getElem?_eq_getElem (by omega : j' < ps.length)]
        show (List.take j' ps ++ [ps[j']]).dropLast = _
        exact List.dropLast_concat
      rw [parentInternal_renderC _ (fun c hc => (hps c (List.take_subset _ _ hc)).noSlash), e]
    obtain ⟨ep, hep, hepd⟩ := hanc ps hps rfl j' (by omega)
    have hself : ∃ e, m1.find? (renderC (ps.take (j' + 1))) = some e ∧ e.ftype = .dir := by
      by_cases hlt : j' + 1 < ps.length
      · exact hanc ps hps rfl (j' + 1) hlt
      · have : ps.take (j' + 1) = ps := List.take_of_length_le (by omega)
        rw [this]
        obtain ⟨e, he, hd⟩ := hinv.1
        rw [find?_sub _ m1 [] (Or.inl rfl), List.append_nil] at he
        exact ⟨e, he, hd⟩
    obtain ⟨e, he, hed⟩ := hself
    have hsl : '/' ∈ renderC (ps.take (j' + 1)) := by
      apply slash_mem_renderC
      intro h
      have := congrArg List.length h
      rw [List.length_take] at this
      simp only [List.length_nil] at this
      omega
    refine ⟨none, ?_⟩
    rw [run_createDir h1, createDir_existing_dir m1 _ hsl ep e (by rw [hpar]; exact hep) hepd he hed,
      h1.same]
    rfl
  have hsh := chain_shift ps [] qs
  rw [List.append_nil] at hsh
  rw [VPath.createDirAll_canon _ (good_append hps hqs) (renderC_append ps qs).symm, chain_append,
    List.nil_append, hsh]
  exact createDirAllLoop_skip _ _ _ w1 hskip

theorem createDirAll_shift {i : Nat} {P q : Str} (hi : spec i = .sub P) (hP : Canon P)
    (hq : Canon q) (ida idb : Nat) :
    SimM R PTrue (· = ·)
      (VPath.createDirAll { fs := leafFS i, fsId := ida, path := P ++ q })
      (VPath.createDirAll { fs := leafFS i, fsId := idb, path := q }) := by
  intro w1 w2 hr
  obtain ⟨ps, hps, rfl⟩ := hP
  obtain ⟨qs, hqs, rfl⟩ := hq
  rw [createDirAll_below hi hps hqs ida (hR.rsub hr), VPath.createDirAll_canon _ hqs rfl]
  refine createDirAllLoop_shift hR hi _ _ rfl rfl (chain [] qs) (fun d hd => ?_) w1 w2 hr
  exact VPath.dirPrefixes_canon (p := renderC qs) ⟨qs, hqs, rfl⟩
    (by rw [dirPrefixes_renderC _ (good_noSlash hqs)]; exact hd)

theorem createDir_shift_v {i : Nat} {P q : Str} (hi : spec i = .sub P) (hq : Canon q)
    (hne : q ≠ []) (ida idb : Nat) :
    SimM R PTrue (· = ·)
      (VPath.createDir { fs := leafFS i, fsId := ida, path := P ++ q })
      (VPath.createDir { fs := leafFS i, fsId := idb, path := q }) := by
  intro w1 w2 hr
  obtain ⟨m1, h1, h2, _⟩ := (hR.rsub hr).leafAt hi
  rw [run_vcreateDir h1 ida, run_vcreateDir h2 idb]
  obtain ⟨a, b⟩ := leaf_createDir hR hi hq hne w1 w2 hr
  exact ⟨relres_true_withPath _ _ a, b⟩

theorem copyFile_shift {i j : Nat} {Pi Pj s d : Str} (hi : spec i = .sub Pi) (hj : spec j = .sub Pj)
    (hs : Canon s) (hd : Canon d) (ida idc idb idd : Nat) :
    SimM R PTrue (· = ·)
      (VPath.copyFile { fs := leafFS i, fsId := ida, path := Pi ++ s }
        { fs := leafFS j, fsId := idc, path := Pj ++ d })
      (VPath.copyFile { fs := leafFS i, fsId := idb, path := s }
        { fs := leafFS j, fsId := idd, path := d }) := by
  intro w1 w2 hr
  obtain ⟨mi, hi1, hi2, _⟩ := (hR.rsub hr).leafAt hi
  obtain ⟨mj, hj1, hj2, _⟩ := (hR.rsub hr).leafAt hj
  rw [run_copy_mem2 hi1 hj1, run_copy_mem2 hi2 hj2, contains_sub Pj mj d hd.rooted]
  have key : SimM R PTrue (· = ·)
      (if mj.contains (Pj ++ d) = true then M.failAt .other (Pi ++ s)
        else VPath.copyGeneric { fs := leafFS i, fsId := ida, path := Pi ++ s }
          { fs := leafFS j, fsId := idc, path := Pj ++ d })
      (if mj.contains (Pj ++ d) = true then M.failAt .other s
        else VPath.copyGeneric { fs := leafFS i, fsId := idb, path := s }
          { fs := leafFS j, fsId := idd, path := d }) := by
    by_cases hc : mj.contains (Pj ++ d) = true
    · rw [if_pos hc, if_pos hc]
      exact fun _ _ hr' => ⟨.err trivial, hr'⟩
    · rw [if_neg hc, if_neg hc]
      exact sim_copyGeneric_shift hR hi hj hs hd ida idc idb idd
  exact (SimM.withPath_lr_true _ _ key) w1 w2 hr

omit hR in
/-- from a simulation of the trait-level listings (same names) to `VfsPath::read_dir` followed by a
continuation that only looks at the names: the two sides build different child paths, with the same
file names -/
theorem readDirK_of_names {R : World → World → Prop} {a b : VPath}
    (hrd : SimM R PTrue NamesRel (M.withPath a.path (a.fs.readDir a.path))
      (M.withPath b.path (b.fs.readDir b.path)))
    {γ δ : Type} (Q' : γ → δ → Prop) (F : List Str → M γ) (G : List Str → M δ)
    (hFG : ∀ n, (∀ x ∈ n, GoodComp x) → SimM R PTrue Q' (F n) (G n)) :
    SimM R PTrue Q' (a.readDir >>= fun cs => F (cs.map nameOf))
      (b.readDir >>= fun cs => G (cs.map nameOf)) := by
  unfold VPath.readDir
  rw [M.bind_assoc, M.bind_assoc]
  refine SimM.bind hrd fun n1 n2 hn => ?_
  obtain ⟨rfl, hg⟩ := hn
  rw [M.pure_bind, M.pure_bind, VPath.children_names a hg, VPath.children_names b hg]
  exact hFG n1 hg

theorem layerOps_shift :
    LayerOps R PTrue (HSub spec) (VShift spec) NRShift where
  join := by
    rintro _ _ arg ⟨hi, ⟨ps, hps, rfl⟩, ⟨qs, hqs, rfl⟩, ida, idb⟩ ⟨c, cs, hc, hcs, rfl⟩
    unfold VPath.join
    dsimp only
    rw [← renderC_append,
      joinInternal_good (ps ++ qs) c cs (good_noSlash (good_append hps hqs)) hc hcs,
      joinInternal_good qs c cs (good_noSlash hqs) hc hcs]
    have hq' : Canon (renderC (qs ++ c :: cs)) :=
      ⟨_, good_append hqs (fun x hx => by
        rcases List.mem_cons.1 hx with rfl | hx
        · exact hc
        · exact hcs x hx), rfl⟩
    refine .ok ⟨?_, ?_⟩
    · have := VShift.mk hi ⟨ps, hps, rfl⟩ hq' ida idb
      simp only [VPath.withStr]
      rw [List.append_assoc, renderC_append]
      exact this
    · show renderC (qs ++ c :: cs) ≠ []
      simp
  parent := by
    rintro _ _ ⟨hi, hP, hq, ida, idb⟩ hnr
    obtain ⟨e1, _, _, _⟩ := parent_shift _ hq hnr
    unfold VPath.parent VPath.withStr
    dsimp only
    rw [e1]
    exact .mk hi hP (C06.parent_canonical _ hq) ida idb
  exists_ := fun ⟨hi, _, hq, _, _⟩ => (leaf_exists hR hi hq).toTrue
  metadata := fun ⟨hi, _, hq, _, _⟩ => SimM.withPath_lr_true _ _ (leaf_metadata hR hi hq)
  openFile := fun ⟨hi, _, hq, _, _⟩ => SimM.withPath_lr_true _ _ (leaf_openFile hR hi hq)
  readDirK := fun ⟨hi, _, hq, _, _⟩ _ _ Q' F G hFG =>
    readDirK_of_names (SimM.withPath_lr_true _ _ (leaf_readDir hR hi hq)) Q' F G hFG
  createDirAll := fun ⟨hi, hP, hq, ida, idb⟩ => createDirAll_shift hR hi hP hq ida idb
  createDir := fun ⟨hi, _, hq, ida, idb⟩ hnr => createDir_shift_v hR hi hq hnr ida idb
  createFile := fun ⟨hi, _, hq, ida, idb⟩ => createFile_shift_v hR hi hq ida idb
  appendFile := fun ⟨hi, _, hq, _, _⟩ => SimM.withPath_lr_true _ _ (leaf_appendFile hR hi hq)
  removeFile := fun ⟨hi, _, hq, _, _⟩ => SimM.withPath_lr_true _ _ (leaf_removeFile hR hi hq)
  removeDir := fun ⟨hi, _, hq, _, _⟩ hnr => SimM.withPath_lr_true _ _ (leaf_removeDir hR hi hq hnr)
  setCreationTime := fun ⟨hi, _, hq, _, _⟩ t =>
    SimM.withPath_lr_true _ _ (leaf_setCreationTime hR hi hq t)
  setModificationTime := fun ⟨hi, _, hq, _, _⟩ t =>
    SimM.withPath_lr_true _ _ (leaf_setModificationTime hR hi hq t)
  setAccessTime := fun ⟨hi, _, hq, _, _⟩ t =>
    SimM.withPath_lr_true _ _ (leaf_setAccessTime hR hi hq t)
  copyFile := fun ⟨hi, _, hs, ida, idb⟩ ⟨hj, _, ht, idc, idd⟩ =>
    copyFile_shift hR hi hj hs ht ida idc idb idd

/-- `l1` : layer paths `⟨leafFS i_k, _, P_k ++ q_k⟩` on the left world; `l2` : the paths
`⟨leafFS i_k, _, q_k⟩` on the right world, where leaf `i_k` holds the sub-map below `P_k` (`VShift`;
the layers of an overlay over sub-directories are the case `q_k = ""`). The two overlays are related
filesystems: every trait method, called with the same canonical path (`create_dir` / `remove_dir`:
not ""), has the same outcome (same error kind) and related effects. -/
theorem overlay_subdir_sim {l1 l2 : List VPath} (hL : ListRel (VShift spec) l1 l2) (hne : l1 ≠ []) :
    SimFS R PTrue (HSub spec) (Overlay.fs l1) (Overlay.fs l2) :=
  Overlay.sim_fs_abs (layerOps_shift hR) hL hne (simHandles_sub hR)

end shift
end Vfs
