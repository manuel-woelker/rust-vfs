/-
  `World` carries no decidable equality (its ghost fields are not compared anywhere in the model),
  so the complete result of a concrete run is compared field by field: one closed evaluation
  proves `m w = (r, w')` for written-out `r`, `w'`, and every observation of that run is then read
  off the written-out world (`runFields`, `run_eq_of_fields`). `chars`: the path strings of such
  written-out worlds. `C10.world3`, `C10.world4`, `C10.mapsOfN`, `C10.writeSession`: the vocabulary
  of the overlay scenarios (a world of three / four memory leaves, the maps of given leaves, one
  write session).
-/
import VfsModel.PathOps
namespace Vfs

/-- the characters of an ASCII literal. Equal to `String.toList` there, and much cheaper for the
kernel to evaluate (`toList` decodes UTF-8 through the validity proofs): used for the paths of
written-out worlds, which every observation of a run has to evaluate again. -/
def chars (s : String) : Str := s.toByteArray.data.toList.map fun b => Char.ofNat b.toNat

/-- the fields of an outcome/world pair, as a tuple of types with decidable equality -/
def runFields {ρ} (p : ρ × World) : ρ × List Leaf × List LogEntry × Option Nat × Bool :=
  match p with
  | (r, w) => (r, w.leaves, w.log, w.fault, w.fired)

theorem run_eq_of_fields {ρ} {p q : ρ × World} (h : runFields p = runFields q) : p = q := by
  obtain ⟨r, l, g, f, d⟩ := p
  obtain ⟨r', l', g', f', d'⟩ := q
  simp only [runFields, Prod.mk.injEq] at h
  obtain ⟨rfl, rfl, rfl, rfl, rfl⟩ := h
  rfl

end Vfs

namespace Vfs.C10

def mapsOfN (w : World) (is : List Nat) : List FMap :=
  is.filterMap fun i => (w.leaf? i).map (·.files)

def writeSession (fs : FS) (p : String) (bs : Bytes) : M Unit := do
  let hd ← fs.createFile p.toList
  hd.writeAllAndDrop bs

def world3 (a b c : FMap) : World :=
  { leaves := [{ kind := .mem, files := a }, { kind := .mem, files := b },
               { kind := .mem, files := c }] }

def world4 (a b c d : FMap) : World :=
  { leaves := [{ kind := .mem, files := a }, { kind := .mem, files := b },
               { kind := .mem, files := c }, { kind := .mem, files := d }] }

end Vfs.C10
