/-
One relational calculus for the state monad `M`.

`ORel E Q` relates two outcomes: both ok with `Q`-related values, both failures related by `E` (a
relation on KIND AND LABEL of both sides), or both panics. `GSim R E Q m1 m2`: from `R`-related worlds
the two computations end in `R`-related worlds with `ORel E Q`-related outcomes. What the code of
PathOps.lean / Adapters.lean asks of `E` is named: `ERel.Good` (the same failure raised on both sides
is related; a class, found by instance search), `ERel.Resp k` (related failures are of kind `k`
together: asked for the kinds the code matches on, `DirectoryExists`, `NotSupported`, `FileNotFound`;
a plain hypothesis, since an instance meets it for some kinds only), and at each `with_path` what the
new labels must satisfy (`withPath2/L/R`).

The vocabularies of Proofs/Sim.lean (`RelRes PR`, `SimM`: equal kinds, `PR`-related labels) and of
Proofs/ClassSim.lean (`CRes KR`, `CSim`: `KR`-related kinds, labels ignored) are the instances
`eqK PR` and `clsK KR` (`relRes_iff`, `cRes_iff`, Proofs/Sim.lean and Proofs/ClassSim.lean).

Also here: the handlers of the code (`GSim.tolerate`, the loop of `create_dir_all`,
`gsim_createDirAllLoop`), and world relations given leaf by leaf (`Leafwise R L`: a trait method of a
leaf is related on both sides as soon as the two leaf functions are, `Leafwise.onLeaf`).
-/
import VfsModel.Proofs.LeafFrame
import VfsModel.Proofs.Routes
namespace Vfs

inductive ListRel {α β : Type} (Rel : α → β → Prop) : List α → List β → Prop
  | nil : ListRel Rel [] []
  | cons {a : α} {b : β} {l1 : List α} {l2 : List β} :
      Rel a b → ListRel Rel l1 l2 → ListRel Rel (a :: l1) (b :: l2)

def OptRel {α β : Type} (Q : α → β → Prop) : Option α → Option β → Prop
  | none, none => True
  | some a, some b => Q a b
  | _, _ => False

theorem OptRel.cases {α β : Type} {Q : α → β → Prop} {o1 : Option α} {o2 : Option β}
    (h : OptRel Q o1 o2) : (o1 = none ∧ o2 = none) ∨ ∃ a b, o1 = some a ∧ o2 = some b ∧ Q a b := by
  cases o1 with
  | none =>
    cases o2 with
    | none => exact Or.inl ⟨rfl, rfl⟩
    | some _ => exact absurd h id
  | some a =>
    cases o2 with
    | none => exact absurd h id
    | some b => exact Or.inr ⟨a, b, rfl, rfl, h⟩

theorem ListRel.diag {α : Type} {Rel : α → α → Prop} (l : List α) (h : ∀ a ∈ l, Rel a a) :
    ListRel Rel l l := by
  induction l with
  | nil => exact .nil
  | cons a l ih => exact .cons (h a (by simp)) (ih fun x hx => h x (by simp [hx]))

theorem ListRel.map_left {α β : Type} {Rel : β → α → Prop} (l : List α) (f : α → β)
    (h : ∀ a ∈ l, Rel (f a) a) : ListRel Rel (l.map f) l := by
  induction l with
  | nil => exact .nil
  | cons a l ih => exact .cons (h a (by simp)) (ih fun x hx => h x (by simp [hx]))

theorem ListRel.left {α β : Type} {Rel : α → β → Prop} {a : List α} {b : List β}
    (h : ListRel Rel a b) : ∀ x ∈ a, ∃ y ∈ b, Rel x y := by
  induction h with
  | nil => intro x hx; cases hx
  | cons hxy _ ih =>
    intro x hx
    rcases List.mem_cons.1 hx with rfl | hx
    · exact ⟨_, List.mem_cons_self, hxy⟩
    · obtain ⟨y, hy, hr⟩ := ih x hx
      exact ⟨y, List.mem_cons_of_mem _ hy, hr⟩

/-- a relation on the items may be strengthened by what is known of the members of the two lists -/
theorem ListRel.mono {α β : Type} {Rel Rel' : α → β → Prop} {a : List α} {b : List β}
    (h : ListRel Rel a b) (hm : ∀ x ∈ a, ∀ y ∈ b, Rel x y → Rel' x y) : ListRel Rel' a b := by
  induction h with
  | nil => exact .nil
  | cons hxy _ ih =>
    exact .cons (hm _ List.mem_cons_self _ List.mem_cons_self hxy)
      (ih fun x hx y hy => hm x (List.mem_cons_of_mem _ hx) y (List.mem_cons_of_mem _ hy))

abbrev ERel := ErrKind → Option Str → ErrKind → Option Str → Prop

inductive ORel {α β : Type} (E : ERel) (Q : α → β → Prop) : Res α → Res β → Prop
  | ok {a : α} {b : β} : Q a b → ORel E Q (.ok a) (.ok b)
  | err {k1 k2 : ErrKind} {p1 p2 : Option Str} : E k1 p1 k2 p2 → ORel E Q (.err k1 p1) (.err k2 p2)
  | panic : ORel E Q .panic .panic

def GSim {α β : Type} (R : World → World → Prop) (E : ERel) (Q : α → β → Prop) (m1 : M α)
    (m2 : M β) : Prop :=
  ∀ w1 w2, R w1 w2 → ORel E Q (m1 w1).1 (m2 w2).1 ∧ R (m1 w1).2 (m2 w2).2

/-- equal kinds, labels related by `PR` -/
def eqK (PR : Option Str → Option Str → Prop) : ERel := fun k1 p1 k2 p2 => k1 = k2 ∧ PR p1 p2

/-- kinds related by `KR`, labels ignored -/
def clsK (KR : ErrKind → ErrKind → Prop) : ERel := fun k1 _ k2 _ => KR k1 k2

/-- related failures are of kind `k` together -/
def ERel.Resp (E : ERel) (k : ErrKind) : Prop := ∀ {k1 p1 k2 p2}, E k1 p1 k2 p2 → (k1 = k ↔ k2 = k)

class ERel.Good (E : ERel) : Prop where
  refl : ∀ k p, E k p k p

theorem eqK_resp (PR : Option Str → Option Str → Prop) (k : ErrKind) : (eqK PR).Resp k :=
  fun h => by rw [h.1]

namespace ORel
variable {α β γ δ : Type} {E E' : ERel} {Q : α → β → Prop}

theorem mono {Q' : α → β → Prop} {r1 : Res α} {r2 : Res β} (h : ORel E Q r1 r2)
    (hq : ∀ a b, Q a b → Q' a b) : ORel E Q' r1 r2 := by
  cases h with
  | ok h => exact .ok (hq _ _ h)
  | err h => exact .err h
  | panic => exact .panic

theorem monoE {r1 : Res α} {r2 : Res β} (h : ORel E Q r1 r2)
    (he : ∀ {k1 p1 k2 p2}, E k1 p1 k2 p2 → E' k1 p1 k2 p2) : ORel E' Q r1 r2 := by
  cases h with
  | ok h => exact .ok h
  | err h => exact .err (he h)
  | panic => exact .panic

/-- `with_path` on both sides; `withPathL`, `withPathR`: on one side only. `E'` after relabelling. -/
theorem withPath2 {r1 : Res α} {r2 : Res β} (p q : Str) (h : ORel E Q r1 r2)
    (he : ∀ {k1 p1 k2 p2}, E k1 p1 k2 p2 → E' k1 (some p) k2 (some q)) :
    ORel E' Q (r1.withPath p) (r2.withPath q) := by
  cases h with
  | ok h => exact .ok h
  | err h => exact .err (he h)
  | panic => exact .panic

theorem withPathL {r1 : Res α} {r2 : Res β} (p : Str) (h : ORel E Q r1 r2)
    (he : ∀ {k1 p1 k2 p2}, E k1 p1 k2 p2 → E' k1 (some p) k2 p2) : ORel E' Q (r1.withPath p) r2 := by
  cases h with
  | ok h => exact .ok h
  | err h => exact .err (he h)
  | panic => exact .panic

theorem withPathR {r1 : Res α} {r2 : Res β} (q : Str) (h : ORel E Q r1 r2)
    (he : ∀ {k1 p1 k2 p2}, E k1 p1 k2 p2 → E' k1 p1 k2 (some q)) : ORel E' Q r1 (r2.withPath q) := by
  cases h with
  | ok h => exact .ok h
  | err h => exact .err (he h)
  | panic => exact .panic

end ORel

namespace GSim
variable {α β γ δ : Type} {R : World → World → Prop} {E E' : ERel} {Q : α → β → Prop}

theorem pure {a : α} {b : β} (h : Q a b) : GSim R E Q (Pure.pure a : M α) (Pure.pure b : M β) :=
  fun _ _ hr => ⟨.ok h, hr⟩

theorem ret {r1 : Res α} {r2 : Res β} (h : ORel E Q r1 r2) : GSim R E Q (M.ret r1) (M.ret r2) :=
  fun _ _ hr => ⟨h, hr⟩

theorem failK [E.Good] (k : ErrKind) : GSim R E Q (M.failK k : M α) (M.failK k : M β) :=
  fun _ _ hr => ⟨.err (ERel.Good.refl _ _), hr⟩

theorem failAt {k1 k2 : ErrKind} {p1 p2 : Str} (h : E k1 (some p1) k2 (some p2)) :
    GSim R E Q (M.failAt k1 p1 : M α) (M.failAt k2 p2 : M β) :=
  fun _ _ hr => ⟨.err h, hr⟩

/-- the outcome held as a value (`match result { … }`) -/
theorem attempt {m1 : M α} {m2 : M β} (h : GSim R E Q m1 m2) :
    GSim R E (ORel E Q) (M.attempt m1) (M.attempt m2) :=
  fun w1 w2 hr => ⟨.ok (h w1 w2 hr).1, (h w1 w2 hr).2⟩

/-- the elimination form for code written as `fun w => match m w with …` -/
theorem run {m1 : M α} {m2 : M β} (h : GSim R E Q m1 m2) {w1 w2 : World} (hr : R w1 w2)
    {r1 : Res α} {w1' : World} {r2 : Res β} {w2' : World}
    (h1 : m1 w1 = (r1, w1')) (h2 : m2 w2 = (r2, w2')) : ORel E Q r1 r2 ∧ R w1' w2' := by
  have := h w1 w2 hr
  rw [h1, h2] at this
  exact this

theorem bind {Q' : γ → δ → Prop} {m1 : M α} {m2 : M β} {f : α → M γ} {g : β → M δ}
    (hm : GSim R E Q m1 m2) (hf : ∀ a b, Q a b → GSim R E Q' (f a) (g b)) :
    GSim R E Q' (m1 >>= f) (m2 >>= g) := by
  intro w1 w2 hr
  show ORel E Q' (M.bind m1 f w1).1 (M.bind m2 g w2).1 ∧ R (M.bind m1 f w1).2 (M.bind m2 g w2).2
  unfold M.bind
  rcases hm1 : m1 w1 with ⟨r1, w1'⟩
  rcases hm2 : m2 w2 with ⟨r2, w2'⟩
  obtain ⟨h1, h2⟩ := hm.run hr hm1 hm2
  cases h1 with
  | ok hq => exact hf _ _ hq w1' w2' h2
  | err hp => exact ⟨.err hp, h2⟩
  | panic => exact ⟨.panic, h2⟩

theorem bind_eq {Q' : γ → δ → Prop} {m1 m2 : M α} {f : α → M γ} {g : α → M δ}
    (hm : GSim R E (· = ·) m1 m2) (hf : ∀ a, GSim R E Q' (f a) (g a)) :
    GSim R E Q' (m1 >>= f) (m2 >>= g) :=
  bind hm (fun a b hab => by cases hab; exact hf a)

theorem mono {Q' : α → β → Prop} {m1 : M α} {m2 : M β} (h : GSim R E Q m1 m2)
    (hq : ∀ a b, Q a b → Q' a b) : GSim R E Q' m1 m2 :=
  fun w1 w2 hr => ⟨(h w1 w2 hr).1.mono hq, (h w1 w2 hr).2⟩

theorem monoE {m1 : M α} {m2 : M β} (h : GSim R E Q m1 m2)
    (he : ∀ {k1 p1 k2 p2}, E k1 p1 k2 p2 → E' k1 p1 k2 p2) : GSim R E' Q m1 m2 :=
  fun w1 w2 hr => ⟨(h w1 w2 hr).1.monoE he, (h w1 w2 hr).2⟩

theorem withPath2 (p q : Str) {m1 : M α} {m2 : M β} (h : GSim R E Q m1 m2)
    (he : ∀ {k1 p1 k2 p2}, E k1 p1 k2 p2 → E' k1 (some p) k2 (some q)) :
    GSim R E' Q (M.withPath p m1) (M.withPath q m2) :=
  fun w1 w2 hr => ⟨(h w1 w2 hr).1.withPath2 p q he, (h w1 w2 hr).2⟩

theorem withPathL (p : Str) {m1 : M α} {m2 : M β} (h : GSim R E Q m1 m2)
    (he : ∀ {k1 p1 k2 p2}, E k1 p1 k2 p2 → E' k1 (some p) k2 p2) :
    GSim R E' Q (M.withPath p m1) m2 :=
  fun w1 w2 hr => ⟨(h w1 w2 hr).1.withPathL p he, (h w1 w2 hr).2⟩

theorem withPathR (q : Str) {m1 : M α} {m2 : M β} (h : GSim R E Q m1 m2)
    (he : ∀ {k1 p1 k2 p2}, E k1 p1 k2 p2 → E' k1 p1 k2 (some q)) :
    GSim R E' Q m1 (M.withPath q m2) :=
  fun w1 w2 hr => ⟨(h w1 w2 hr).1.withPathR q he, (h w1 w2 hr).2⟩

theorem ite {c : Prop} [Decidable c] {a1 b1 : M α} {a2 b2 : M β}
    (ha : c → GSim R E Q a1 a2) (hb : ¬c → GSim R E Q b1 b2) :
    GSim R E Q (if c then a1 else b1) (if c then a2 else b2) := by
  by_cases hc : c
  · rw [if_pos hc, if_pos hc]; exact ha hc
  · rw [if_neg hc, if_neg hc]; exact hb hc

end GSim

/-! ### the handlers of PathOps.lean / Adapters.lean -/

/-- swallow a `FileNotFound`: the handler of `clear_whiteout` in overlay.rs
(`Overlay.clearWhiteoutT_eq`, Proofs/RelOverlay.lean) -/
def C02.tolerate (m : M Unit) : M Unit := fun w =>
  match m w with
  | (.err .fileNotFound _, w') => (.ok (), w')
  | r => r

section handlers
variable {α β : Type} {R : World → World → Prop} {E E' : ERel}

theorem GSim.tolerate {m1 m2 : M Unit} (h : GSim R E (· = ·) m1 m2) (hE : E.Resp .fileNotFound) :
    GSim R E (· = ·) (C02.tolerate m1) (C02.tolerate m2) := by
  intro w1 w2 hr
  unfold C02.tolerate
  rcases e1 : m1 w1 with ⟨r1, w1'⟩
  rcases e2 : m2 w2 with ⟨r2, w2'⟩
  obtain ⟨hres, hr'⟩ := h.run hr e1 e2
  cases hres with
  | ok hq => exact ⟨.ok hq, hr'⟩
  | panic => exact ⟨.panic, hr'⟩
  | @err k1 k2 p1 p2 he =>
    by_cases hk : k1 = .fileNotFound
    · have hk2 := (hE he).1 hk
      subst hk hk2
      exact ⟨.ok rfl, hr'⟩
    · have hk2 : k2 ≠ .fileNotFound := fun h2 => hk ((hE he).2 h2)
      have t1 : ∀ (k : ErrKind) (p : Option Str) (w : World), k ≠ .fileNotFound →
          (match ((Res.err k p : Res Unit), w) with
            | (.err .fileNotFound _, w') => (Res.ok (), w')
            | r => r) = (.err k p, w) := by
        intro k p w hk; cases k <;> first | exact absurd rfl hk | rfl
      rw [t1 k1 p1 w1' hk, t1 k2 p2 w2' hk2]
      exact ⟨.err he, hr'⟩

/-- the loop of `create_dir_all`: the lists of prefixes may differ (one side may be shifted), the
calls at corresponding prefixes are related. A failure other than `DirectoryExists` is relabelled
with the prefix, hence `E'`. -/
theorem gsim_createDirAllLoop {v1 v2 : VPath} (hE : E.Resp .dirExists) {l1 l2 : List Str}
    (hl : ListRel (fun d1 d2 => GSim R E (· = ·) (v1.fs.createDir d1) (v2.fs.createDir d2) ∧
      ∀ {k1 p1 k2 p2}, E k1 p1 k2 p2 → E' k1 (some d1) k2 (some d2)) l1 l2) :
    GSim R E' (· = ·) (VPath.createDirAllLoop v1 l1) (VPath.createDirAllLoop v2 l2) := by
  induction hl with
  | nil => rw [VPath.createDirAllLoop_nil, VPath.createDirAllLoop_nil]; exact GSim.pure rfl
  | @cons d1 d2 l1 l2 hd _ ih =>
    intro w1 w2 hr
    have step : ∀ (v : VPath) (d : Str) (l : List Str) (w w' : World) (k : ErrKind)
        (q : Option Str), v.fs.createDir d w = (.err k q, w') → k ≠ .dirExists →
        VPath.createDirAllLoop v (d :: l) w = (.err k (some d), w') := by
      intro v d l w w' k q h hk
      rw [VPath.createDirAllLoop_cons]
      rw [h]
      cases k <;> first | exact absurd rfl hk | rfl
    rcases e1 : v1.fs.createDir d1 w1 with ⟨r1, w1'⟩
    rcases e2 : v2.fs.createDir d2 w2 with ⟨r2, w2'⟩
    obtain ⟨hres, hr'⟩ := hd.1.run hr e1 e2
    cases hres with
    | ok _ => rw [VPath.createDirAllLoop_cons, VPath.createDirAllLoop_cons]; rw [e1, e2]; exact ih w1' w2' hr'
    | panic => rw [VPath.createDirAllLoop_cons, VPath.createDirAllLoop_cons]; rw [e1, e2]; exact ⟨.panic, hr'⟩
    | @err k1 k2 p1 p2 he =>
      by_cases h1 : k1 = .dirExists
      · have h2 := (hE he).1 h1
        subst h1 h2
        rw [VPath.createDirAllLoop_cons, VPath.createDirAllLoop_cons]
        rw [e1, e2]
        exact ih w1' w2' hr'
      · rw [step _ _ _ _ _ _ _ e1 h1, step _ _ _ _ _ _ _ e2 (fun h2 => h1 ((hE he).2 h2))]
        exact ⟨.err (hd.2 he), hr'⟩

end handlers

/-! ### world relations given leaf by leaf -/

/-- at every index the two leaves are both absent or both present and `L`-related; new files that
keep `L` keep `R` -/
structure Leafwise (R : World → World → Prop) (L : Leaf → Leaf → Prop) : Prop where
  look : ∀ {w1 w2 : World}, R w1 w2 → ∀ i, (w1.leaf? i = none ∧ w2.leaf? i = none) ∨
    ∃ l1 l2, w1.leaf? i = some l1 ∧ w2.leaf? i = some l2 ∧ L l1 l2
  set : ∀ {w1 w2 : World} {i : Nat} {l1 l2 : Leaf} {f1 f2 : FMap}, R w1 w2 → w1.leaf? i = some l1 →
    w2.leaf? i = some l2 → L { l1 with files := f1 } { l2 with files := f2 } →
    R (w1.setLeafFiles i f1) (w2.setLeafFiles i f2)

/-- a trait method of a leaf on both sides: related as soon as the two leaf functions are, on
`L`-related leaves -/
theorem Leafwise.onLeaf {α β : Type} {R : World → World → Prop} {L : Leaf → Leaf → Prop} {E : ERel}
    {Q : α → β → Prop} (hR : Leafwise R L) (i : Nat) (f1 : Leaf → Res α × FMap)
    (f2 : Leaf → Res β × FMap)
    (h : ∀ l1 l2, L l1 l2 → ORel E Q (f1 l1).1 (f2 l2).1 ∧
      L { l1 with files := (f1 l1).2 } { l2 with files := (f2 l2).2 }) :
    GSim R E Q (Vfs.onLeaf i f1) (Vfs.onLeaf i f2) := by
  intro w1 w2 hr
  rcases hR.look hr i with ⟨e1, e2⟩ | ⟨l1, l2, e1, e2, hl⟩
  · rw [onLeaf_none e1, onLeaf_none e2]; exact ⟨.panic, hr⟩
  · rw [onLeaf_run e1, onLeaf_run e2]
    exact ⟨(h l1 l2 hl).1, hR.set hr e1 e2 (h l1 l2 hl).2⟩

end Vfs
