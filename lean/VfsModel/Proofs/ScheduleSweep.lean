/-
  Checking a predicate after every schedule of a family, by kernel evaluation, for the systems of
  VfsModel/OverlayConc.lean (overlay, sub-directory layers and altroot alike).

  The idea.  The kernel evaluates lazily and remembers what a term reduced to only while the very
  same term comes back as the subject of a `match`.  A state reached by `step` is a tower of
  suspended updates that records the whole schedule, so two schedules that lead to the same
  state never meet.  Here every step is followed by `norm`, the identity on systems written in
  continuation-passing style: to reduce `norm s` the kernel has to reduce the world of `s`, the
  spine of every file map and every thread down to constructors, and the value is rebuilt from
  them.  States are then plain data (up to the closures inside the threads, which are determined
  by the worlds the thread has seen), equal states are equal terms, and a step taken from a state
  that was met before is looked up instead of run again (`after`: the normalised successor is a
  closed term in the state and the thread only; `memo`, a `match`, does the same for the rest of
  a run in `runRep` and `sweepInter`): two calls that do not see each other's writes commute, so
  most of the states met by a family of schedules coincide.
  `preemptOnce`, `interleavings`, `interleavingsF` are the families of VfsModel/OverlayConc.lean.
  Their sizes (`length_preemptOnce`; `length_interleavings`: the binomial coefficient `binom`) and
  the membership of a single schedule in `preemptOnce` (`mem_preemptOnce_01`, `_10`) are proved by
  argument, not evaluated.
-/
import VfsModel.OverlayConc
namespace Vfs.OConc
open Vfs

theorem run_append (s : Sys) (a b : List Nat) : run s (a ++ b) = run (run s a) b :=
  List.foldl_append ..

theorem run_replicate_succ (s : Sys) (t n : Nat) (sc : List Nat) :
    run s (List.replicate (n + 1) t ++ sc) = run (step s t) (List.replicate n t ++ sc) := rfl

theorem length_flatMap_const {α β} (l : List α) (f : α → List β) (c : Nat)
    (h : ∀ x, (f x).length = c) : (l.flatMap f).length = l.length * c := by
  induction l with
  | nil => exact (Nat.zero_mul c).symm
  | cons a l ih =>
    rw [List.flatMap_cons, List.length_append, h, ih, List.length_cons, Nat.succ_mul, Nat.add_comm]

theorem length_preemptOnce (a b : Nat) : (preemptOnce a b).length = (a + 1) * ((b + 1) * 2) := by
  rw [preemptOnce, length_flatMap_const _ _ ((b + 1) * 2), List.length_range]
  intro i
  rw [length_flatMap_const _ _ 2, List.length_range]
  intro j
  rfl

/-- the binomial coefficient, by Pascal's rule -/
def binom : Nat → Nat → Nat
  | _, 0 => 1
  | 0, _ + 1 => 0
  | n + 1, k + 1 => binom n k + binom n (k + 1)

theorem binom_eq_zero : ∀ {n k : Nat}, n < k → binom n k = 0
  | _, 0, h => absurd h (Nat.not_lt_zero _)
  | 0, _ + 1, _ => rfl
  | n + 1, k + 1, h => by
    rw [binom, binom_eq_zero (Nat.lt_of_succ_lt_succ h), binom_eq_zero (Nat.lt_of_succ_lt h)]

theorem binom_self : ∀ n, binom n n = 1
  | 0 => rfl
  | n + 1 => by rw [binom, binom_self n, binom_eq_zero (Nat.lt_succ_self n)]

/-- a schedule starts with a step of thread 0 or of thread 1: Pascal's rule -/
theorem length_interleavingsF : ∀ f a b, a + b < f →
    (interleavingsF f a b).length = binom (a + b) a
  | 0, _, _, h => absurd h (Nat.not_lt_zero _)
  | _ + 1, 0, b, _ => by rw [interleavingsF, binom]; rfl
  | _ + 1, a + 1, 0, _ => by rw [interleavingsF, Nat.add_zero, binom_self]; rfl
  | f + 1, a + 1, b + 1, h => by
    rw [interleavingsF, List.length_append, List.length_map, List.length_map,
      length_interleavingsF f a (b + 1) (by omega), length_interleavingsF f (a + 1) b (by omega),
      show a + 1 + (b + 1) = a + (b + 1) + 1 by omega, show a + 1 + b = a + (b + 1) by omega, binom]

theorem length_interleavings (a b : Nat) : (interleavings a b).length = binom (a + b) a :=
  length_interleavingsF _ a b (Nat.lt_succ_self _)

theorem mem_preemptOnce_01 {a b i j : Nat} (hi : i ≤ a) (hj : j ≤ b) :
    List.replicate i 0 ++ List.replicate j 1 ++ List.replicate (a - i) 0 ++ List.replicate (b - j) 1
      ∈ preemptOnce a b :=
  List.mem_flatMap.2 ⟨i, List.mem_range.2 (Nat.lt_succ_of_le hi),
    List.mem_flatMap.2 ⟨j, List.mem_range.2 (Nat.lt_succ_of_le hj), List.mem_cons_self ..⟩⟩

theorem mem_preemptOnce_10 {a b i j : Nat} (hi : i ≤ a) (hj : j ≤ b) :
    List.replicate j 1 ++ List.replicate i 0 ++ List.replicate (b - j) 1 ++ List.replicate (a - i) 0
      ∈ preemptOnce a b :=
  List.mem_flatMap.2 ⟨i, List.mem_range.2 (Nat.lt_succ_of_le hi),
    List.mem_flatMap.2 ⟨j, List.mem_range.2 (Nat.lt_succ_of_le hj),
      List.mem_cons_of_mem _ (List.mem_cons_self ..)⟩⟩

/-! ### the identity, evaluated strictly -/

noncomputable section

/-- the identity in continuation-passing style, with answers in `Sys`.  The forcers are written with
the recursors themselves: the kernel reduces a recursor applied to a constructor in one step, a
definition by pattern matching through `brecOn` and a matcher, several times dearer.  The price is
that they are not compiled; they are only ever run by the kernel. -/
abbrev Forcer (α : Type) := α → (α → Sys) → Sys

def fId {α} : Forcer α := fun a K => K a
def fBool : Forcer Bool := fun b K => Bool.rec (K false) (K true) b
def fOpt {α} : Forcer (Option α) := fun o K => Option.rec (K none) (fun a => K (some a)) o
def fKind : Forcer LeafKind := fun k K => LeafKind.rec (K .mem) (K .phys) k
def fList {α} (f : Forcer α) : Forcer (List α) := fun l =>
  List.rec (motive := fun _ => (List α → Sys) → Sys) (fun K => K [])
    (fun a _ ih K => f a fun a' => ih fun as' => K (a' :: as')) l
def fLeaf : Forcer Leaf := fun l K => fKind l.kind fun k' => fList fId l.files fun m' => K ⟨k', m'⟩
def fWorld : Forcer World := fun w K =>
  fList fLeaf w.leaves fun ls' => fList fId w.log fun log' => fOpt w.fault fun fault' =>
    fBool w.fired fun fired' => K ⟨ls', log', fault', fired'⟩
def fProg : Forcer (Prog Unit) := fun t K =>
  Prog.rec (motive := fun _ => Sys) (fun r => K (.done r)) (fun fs p k _ => K (.exists_ fs p k))
    (fun fs p k _ => K (.metadata fs p k)) (fun fs p k _ => K (.createDir fs p k))
    (fun fs p k _ => K (.removeFile fs p k)) t

/-- `s`, rebuilt from constructors: world, spines of the file maps, heads of the threads -/
def norm (s : Sys) : Sys := fWorld s.world fun w' => fList fProg s.threads fun ts' => ⟨w', ts'⟩

theorem fBool_eq (b : Bool) (K : Bool → Sys) : fBool b K = K b := by cases b <;> rfl
theorem fOpt_eq {α} (o : Option α) (K : Option α → Sys) : fOpt o K = K o := by cases o <;> rfl
theorem fKind_eq (k : LeafKind) (K : LeafKind → Sys) : fKind k K = K k := by cases k <;> rfl
theorem fList_eq {α} {f : Forcer α} (hf : ∀ a K, f a K = K a) (l : List α) (K : List α → Sys) :
    fList f l K = K l := by
  induction l generalizing K with
  | nil => rfl
  | cons a as ih => exact (hf a _).trans (ih _)
theorem fLeaf_eq (l : Leaf) (K : Leaf → Sys) : fLeaf l K = K l := by
  simp only [fLeaf, fKind_eq, fList_eq (f := fId) fun _ _ => rfl]
theorem fWorld_eq (w : World) (K : World → Sys) : fWorld w K = K w := by
  simp only [fWorld, fList_eq fLeaf_eq, fList_eq (f := fId) fun _ _ => rfl, fOpt_eq, fBool_eq]
theorem fProg_eq (t : Prog Unit) (K : Prog Unit → Sys) : fProg t K = K t := by cases t <;> rfl
theorem norm_eq (s : Sys) : norm s = s := by
  simp only [norm, fWorld_eq, fList_eq fProg_eq]

/-- `K (step s t)`, the state handed over as plain data.  `norm (step s t)` is the term the
recursor (a `match`) has to reduce, and it mentions nothing but `s` and `t`: the kernel, which
remembers what a term reduced to, takes each step of each state once, whatever is done afterwards. -/
def after (s : Sys) (t : Nat) (K : Sys → Bool) : Bool :=
  Sys.rec (fun w ts => K ⟨w, ts⟩) (norm (step s t))

theorem after_eq (s : Sys) (t : Nat) (K : Sys → Bool) : after s t K = K (step s t) := by
  rw [after, norm_eq]

/-- the identity on `Bool`; its argument is what a recursor has to reduce, which is where the kernel
consults its table of terms already reduced -/
def memo (b : Bool) : Bool := Bool.rec false true b

theorem memo_eq (b : Bool) : memo b = b := by cases b <;> rfl

/-! ### runs -/

/-- `K (run s (replicate n t))` -/
def runRep (t : Nat) : Nat → Sys → (Sys → Bool) → Bool
  | 0, s, K => K s
  | n + 1, s, K => after s t fun s' => memo (runRep t n s' K)

theorem runRep_eq (t n : Nat) (s : Sys) (K : Sys → Bool) :
    runRep t n s K = K (run s (List.replicate n t)) := by
  induction n generalizing s with
  | zero => rfl
  | succ n ih => rw [runRep, after_eq, memo_eq, ih]; rfl

/-! ### each thread preempted at most once -/

/-- `good` after each of `y^j x^m y^(n-j)`, `j ≤ n`; the accumulator is the state after `y^j` -/
def sweepIn (good : Sys → Bool) (x y m : Nat) : Nat → Sys → Bool
  | 0, s => runRep x m s good
  | n + 1, s =>
    runRep x m s (fun s' => runRep y (n + 1) s' good) && after s y (sweepIn good x y m n)

/-- `good` after each of `x^i y^j x^(m-i) y^(b-j)`, `i ≤ m`, `j ≤ b`; the accumulator is the state
after `x^i` -/
def sweepOut (good : Sys → Bool) (x y b : Nat) : Nat → Sys → Bool
  | 0, s => sweepIn good x y 0 b s
  | m + 1, s => sweepIn good x y (m + 1) b s && after s x (sweepOut good x y b m)

theorem sweepIn_spec {good : Sys → Bool} {x y m n : Nat} {s : Sys}
    (h : sweepIn good x y m n s = true) {j : Nat} (hj : j ≤ n) :
    good (run s (List.replicate j y ++ List.replicate m x ++ List.replicate (n - j) y)) = true := by
  induction n generalizing s j with
  | zero =>
    obtain rfl : j = 0 := Nat.le_zero.1 hj
    rw [sweepIn, runRep_eq] at h
    simpa using h
  | succ n ih =>
    rw [sweepIn, Bool.and_eq_true, runRep_eq, runRep_eq, after_eq, ← run_append] at h
    cases j with
    | zero => exact h.1
    | succ j =>
      rw [Nat.succ_sub_succ, List.append_assoc, run_replicate_succ, ← List.append_assoc]
      exact ih h.2 (Nat.le_of_succ_le_succ hj)

theorem sweepOut_spec {good : Sys → Bool} {x y b m : Nat} {s : Sys}
    (h : sweepOut good x y b m s = true) {i j : Nat} (hi : i ≤ m) (hj : j ≤ b) :
    good (run s (List.replicate i x ++ List.replicate j y ++ List.replicate (m - i) x
      ++ List.replicate (b - j) y)) = true := by
  induction m generalizing s i with
  | zero =>
    obtain rfl : i = 0 := Nat.le_zero.1 hi
    exact sweepIn_spec (m := 0) h hj
  | succ m ih =>
    rw [sweepOut, Bool.and_eq_true, after_eq] at h
    cases i with
    | zero => exact sweepIn_spec h.1 hj
    | succ i =>
      rw [Nat.succ_sub_succ, List.append_assoc, List.append_assoc, run_replicate_succ,
        ← List.append_assoc, ← List.append_assoc]
      exact ih h.2 (Nat.le_of_succ_le_succ hi)

/-- `good` after every schedule of `preemptOnce a b` -/
def sweepOnce (good : Sys → Bool) (s : Sys) (a b : Nat) : Bool :=
  sweepOut good 0 1 b a s && sweepOut good 1 0 a b s

theorem sweepOnce_spec {good : Sys → Bool} {s : Sys} {a b : Nat}
    (h : sweepOnce good s a b = true) : ∀ sc ∈ preemptOnce a b, good (run s sc) = true := by
  rw [sweepOnce, Bool.and_eq_true] at h
  intro sc hsc
  simp only [preemptOnce, List.mem_flatMap, List.mem_range, List.mem_cons, List.not_mem_nil,
    or_false] at hsc
  obtain ⟨i, hi, j, hj, rfl | rfl⟩ := hsc
  · exact sweepOut_spec h.1 (Nat.le_of_lt_succ hi) (Nat.le_of_lt_succ hj)
  · exact sweepOut_spec h.2 (Nat.le_of_lt_succ hj) (Nat.le_of_lt_succ hi)

/-! ### all interleavings of a window -/

/-- `fin` after every schedule of `interleavingsF f a b` -/
def sweepInter (fin : Sys → Bool) : Nat → Nat → Nat → Sys → Bool
  | 0, _, _, _ => true
  | _ + 1, 0, b, s => runRep 1 b s fin
  | _ + 1, a + 1, 0, s => runRep 0 (a + 1) s fin
  | f + 1, a + 1, b + 1, s =>
    (after s 0 fun s' => memo (sweepInter fin f a (b + 1) s')) &&
    (after s 1 fun s' => memo (sweepInter fin f (a + 1) b s'))

theorem sweepInter_spec {fin : Sys → Bool} {f a b : Nat} {s : Sys}
    (h : sweepInter fin f a b s = true) : ∀ sc ∈ interleavingsF f a b, fin (run s sc) = true := by
  induction f generalizing a b s with
  | zero => intro sc hsc; cases hsc
  | succ f ih =>
    intro sc hsc
    cases a with
    | zero =>
      rw [sweepInter, runRep_eq] at h
      obtain rfl := List.mem_singleton.1 hsc
      exact h
    | succ a =>
      cases b with
      | zero =>
        rw [sweepInter, runRep_eq] at h
        obtain rfl := List.mem_singleton.1 hsc
        exact h
      | succ b =>
        rw [sweepInter, Bool.and_eq_true, after_eq, after_eq, memo_eq, memo_eq] at h
        simp only [interleavingsF, List.mem_append, List.mem_map] at hsc
        obtain ⟨sc, hsc, rfl⟩ | ⟨sc, hsc, rfl⟩ := hsc
        · exact ih h.1 sc hsc
        · exact ih h.2 sc hsc

/-- `good` after `0^p 1^q`, then any interleaving of `a` and `b` further steps, then `0^m 1^n` -/
def sweepWindow (good : Sys → Bool) (s : Sys) (p q a b m n : Nat) : Bool :=
  runRep 0 p s fun s => runRep 1 q s
    (sweepInter (fun s => runRep 0 m s fun s => runRep 1 n s good) (a + b + 1) a b)

theorem sweepWindow_spec {good : Sys → Bool} {s : Sys} {p q a b m n : Nat}
    (h : sweepWindow good s p q a b m n = true) :
    ((interleavings a b).map fun mid => List.replicate p 0 ++ List.replicate q 1 ++ mid ++
      List.replicate m 0 ++ List.replicate n 1).all (fun sc => good (run s sc)) = true := by
  rw [sweepWindow, runRep_eq, runRep_eq] at h
  rw [List.all_eq_true]
  intro sc hsc
  obtain ⟨mid, hmid, rfl⟩ := List.mem_map.1 hsc
  have := sweepInter_spec h mid hmid
  rw [runRep_eq, runRep_eq] at this
  rw [run_append, run_append, run_append, run_append]
  exact this

end

end Vfs.OConc
