/-
  The leaves in normal form. A method of `MemoryFS` reads the entry at its path (the creating ones
  also whether the parent is a directory, `remove_dir` whether the path has children) and rewrites
  at most the slot of its path: `Mem.op m p = onSlot m p (opS …)` (`Mem.createDir_eq` …), where `opS`
  is a table that does not mention the map, a pair of a result and a `Write`, and `onSlot m p`
  applies the write to the slot `p` of `m`. What a property needs of an operation is then a fact
  about its table (no map in sight) and one general fact about `Write.app`.
  Well-formedness is had this way: `Write.Legal` says which writes keep a tree a tree (`WF.app`),
  `Write.Fits` is the form of it that a table can be checked against (`WF.fits`, with `*_fits`,
  `*_np`, `*_atomic`, `*_ok` per table). Writes to different slots commute unless both put
  (`Write.app_comm`). At the end four mutators of the physical leaf (`Phys.createDirS` … with
  `Phys.*_eq`, `Phys.*S_np`): tables of the same kind over the host's `lookup`, and `copy_file`
  (`Phys.copyFileS`): one over the lookups of both paths.
-/
import VfsModel.Proofs.MemInv
namespace Vfs

/-- what an operation does to the map: nothing, or it rewrites the slot of its path -/
inductive Write where
  | keep
  | put (e : Entry)
  | del

namespace FMap

theorem erase_erase (m : FMap) (k : Str) : erase (erase m k) k = erase m k := by
  induction m with
  | nil => rfl
  | cons kv rest ih =>
    obtain ⟨k', v⟩ := kv
    by_cases h : k' = k <;> simp [erase_cons, h, ih]

theorem erase_comm (m : FMap) (a b : Str) : erase (erase m a) b = erase (erase m b) a := by
  induction m with
  | nil => rfl
  | cons kv rest ih =>
    obtain ⟨k', v⟩ := kv
    rw [erase_cons, erase_cons]
    by_cases ha : k' = a
    · by_cases hb : k' = b
      · rw [if_pos ha, if_pos hb, ih]
      · rw [if_pos ha, if_neg hb, erase_cons, if_pos ha, ih]
    · by_cases hb : k' = b
      · rw [if_neg ha, if_pos hb, erase_cons, if_pos hb, ih]
      · rw [if_neg ha, if_neg hb, erase_cons, erase_cons, if_neg hb, if_neg ha, ih]

theorem erase_absent (m : FMap) (k : Str) (h : m.find? k = none) : erase m k = m := by
  induction m with
  | nil => rfl
  | cons kv rest ih =>
    obtain ⟨k1, v⟩ := kv
    rw [find?_cons] at h
    by_cases h1 : k1 = k
    · simp [h1] at h
    · rw [if_neg h1] at h
      rw [erase_cons, if_neg h1, ih h]

theorem insert_insert (m : FMap) (k : Str) (v v' : Entry) :
    insert (insert m k v) k v' = insert m k v' := by
  simp only [insert, erase_cons, if_true, erase_erase]

theorem erase_insert_self (m : FMap) (k : Str) (v : Entry) :
    (m.insert k v).erase k = m.erase k := by
  simp [FMap.insert, erase_cons, erase_erase]

theorem erase_insert_ne (m : FMap) (k p : Str) (v : Entry) (h : k ≠ p) :
    (m.insert k v).erase p = (m.erase p).insert k v := by
  simp [FMap.insert, erase_cons, h, erase_comm]

end FMap

namespace Write

def app (m : FMap) (p : Str) : Write → FMap
  | keep => m
  | put e => m.insert p e
  | del => m.erase p

/-- what the write makes of the slot -/
def slot (old : Option Entry) : Write → Option Entry
  | keep => old
  | put e => some e
  | del => none

theorem find?_app (m : FMap) (p : Str) (wr : Write) (k : Str) :
    (wr.app m p).find? k = if k = p then wr.slot (m.find? p) else m.find? k := by
  cases wr with
  | keep => simp only [app, slot]; split <;> simp [*]
  | put e => exact FMap.find?_insert m p k e
  | del => exact FMap.find?_erase m p k

theorem find?_app_ne (m : FMap) {p k : Str} (wr : Write) (h : k ≠ p) :
    (wr.app m p).find? k = m.find? k := by rw [find?_app, if_neg h]

theorem find?_app_self (m : FMap) (p : Str) (wr : Write) :
    (wr.app m p).find? p = wr.slot (m.find? p) := by rw [find?_app, if_pos rfl]

/-- writes to different slots commute unless both put: `insert` moves its key to the front of the
association list, so two puts end in different orders -/
theorem app_comm (m : FMap) {p q : Str} (h : p ≠ q) (a b : Write) (ha : ∀ e, a ≠ .put e) :
    b.app (a.app m p) q = a.app (b.app m q) p := by
  cases a with
  | keep => rfl
  | put e => exact absurd rfl (ha e)
  | del =>
    cases b with
    | keep => rfl
    | put e => exact (FMap.erase_insert_ne m q p e fun e0 => h e0.symm).symm
    | del => exact FMap.erase_comm m p q

theorem contains_app (m : FMap) (p : Str) (wr : Write) (k : Str) :
    (wr.app m p).contains k = if k = p then (wr.slot (m.find? p)).isSome else m.contains k := by
  unfold FMap.contains; rw [find?_app]; split <;> rfl

theorem find?_app_sub {m : FMap} {p k : Str} {wr : Write} {e : Entry} (hw : ∀ v, wr ≠ .put v)
    (h : (wr.app m p).find? k = some e) : m.find? k = some e := by
  cases wr with
  | keep => exact h
  | put v => exact absurd rfl (hw v)
  | del =>
    rw [app, FMap.find?_erase] at h
    split at h
    · cases h
    · exact h

/-- a property of maps kept by an insertion at `p` and by the erasure of `p` is kept by a write to
the slot `p` (key uniqueness, canonical keys, …) -/
theorem app_closed {P : FMap → Prop} {m : FMap} {p : Str} (wr : Write) (hm : P m)
    (hi : ∀ e, P (m.insert p e)) (he : P (m.erase p)) : P (wr.app m p) := by
  cases wr with
  | keep => exact hm
  | put e => exact hi e
  | del => exact he

theorem nodup_app {m : FMap} (h : FMap.NodupKeys m) (p : Str) (wr : Write) :
    FMap.NodupKeys (wr.app m p) := by
  cases wr with
  | keep => exact h
  | put e => exact FMap.nodup_insert m p e h
  | del => exact FMap.nodup_erase m p h

end Write

/-- a table entry applied to the map -/
def onSlot {α} (m : FMap) (p : Str) (x : Res α × Write) : Res α × FMap := (x.1, x.2.app m p)

theorem onSlot_eq {α} {m m' : FMap} {p : Str} {x : Res α × Write} {r : Res α}
    (h : onSlot m p x = (r, m')) : x.1 = r ∧ x.2.app m p = m' :=
  ⟨congrArg Prod.fst h, congrArg Prod.snd h⟩

/-! ### well-formedness: which writes keep a tree a tree -/

/-- the rewrite of slot `p` keeps the tree shape: a directory stays a directory, a new entry comes
under an existing directory, and only a childless non-root entry goes -/
def Write.Legal (m : FMap) (p : Str) : Write → Prop
  | .keep => True
  | .put v =>
    (∀ e, m.find? p = some e → e.ftype = .dir → v.ftype = .dir) ∧
    (m.find? p = none → '/' ∈ p ∧ ∃ pe, m.find? (parentInternal p) = some pe ∧ pe.ftype = .dir)
  | .del => p ≠ [] ∧ ∀ k e, m.find? k = some e → k ≠ [] → parentInternal k ≠ p

theorem WF.app {m : FMap} (h : WF m) {p : Str} {wr : Write} (hl : wr.Legal m p) : WF (wr.app m p) := by
  cases wr with
  | keep => exact h
  | put v => exact h.insert p v hl.1 hl.2
  | del => exact h.erase_childless p hl.1 hl.2

/-- the root of a well-formed map is a directory, so a file sits at a non-root key, and nothing sits
below it -/
theorem WF.legal_del_file {m : FMap} (h : WF m) {p : Str} {e : Entry} (he : m.find? p = some e)
    (hf : e.ftype = .file) : Write.del.Legal m p := by
  refine ⟨?_, fun k e' hk hne => h.no_child_of_nondir p (fun e'' h'' => ?_) k e' hk hne⟩
  · rintro rfl
    obtain ⟨r, hr, hd⟩ := h.1
    rw [he] at hr; cases hr; rw [hf] at hd; cases hd
  · rw [he] at h''; cases h''; exact hf

theorem WF.legal_del_childless {m : FMap} (h : WF m) {p : Str} (hp : p ≠ [])
    (hk : m.keys.filterMap (childName p) = []) : Write.del.Legal m p := by
  refine ⟨hp, fun k e he hne heq => ?_⟩
  have : afterLast '/' k ∈ m.keys.filterMap (childName p) :=
    (mem_filterMap_childName m p _).2 ⟨k, e, he, (h.2 k e he hne).1, heq, rfl⟩
  rw [hk] at this; cases this

/-- replacing an entry by one of its own type -/
theorem Write.legal_put_same {m : FMap} {p : Str} {e v : Entry} (he : m.find? p = some e)
    (ht : v.ftype = e.ftype) : (Write.put v).Legal m p :=
  ⟨fun e' h' hd => by rw [he] at h'; cases h'; rw [ht]; exact hd, fun hn => by rw [he] at hn; cases hn⟩

namespace Mem

/-! ### what the methods read besides the entry -/

/-- `ensure_has_parent` answers `Ok` -/
def par (m : FMap) (p : Str) : Bool := (ensureHasParent m p).isOk

/-- the path has children in the map -/
def kids (m : FMap) (p : Str) : Bool := decide (m.keys.filterMap (childName p) ≠ [])

theorem ensureHasParent_eq (m : FMap) (p : Str) :
    ensureHasParent m p = if par m p then .ok () else fail .other := by
  unfold par ensureHasParent
  split
  · split
    · split <;> rfl
    · rfl
  · rfl

theorem par_iff (m : FMap) (p : Str) :
    par m p = true ↔ '/' ∈ p ∧ ∃ pe, m.find? (parentInternal p) = some pe ∧ pe.ftype = .dir := by
  unfold par ensureHasParent
  by_cases hs : '/' ∈ p
  · cases hf : m.find? (parentInternal p) with
    | none => simp [hs, fail, Res.isOk]
    | some e => by_cases hd : e.ftype = .dir <;> simp [hs, hd, fail, Res.isOk]
  · simp [hs, fail, Res.isOk]

end Mem

/-! the write cursor at the two positions the write sessions use (`writeS`, `appendS` below) -/

theorem cursorWrite_nil (bs : Bytes) : cursorWrite [] 0 bs = bs := by
  simp [cursorWrite, padTo]

theorem cursorWrite_end (b bs : Bytes) : cursorWrite b b.length bs = b ++ bs := by
  simp [cursorWrite, padTo]

namespace Mem

/-! ### the tables -/

def createDirS (par : Bool) (tgt : Option Entry) : Res Unit × Write :=
  if par then
    match tgt with
    | some e => (if e.ftype = .file then fail .fileExists else fail .dirExists, .keep)
    | none => (.ok (), .put dirEntryNow)
  else (fail .other, .keep)

def createFileS (par : Bool) (tgt : Option Entry) : Res Unit × Write :=
  if par then
    match tgt with
    | some e => if e.ftype = .dir then (fail .other, .keep) else (.ok (), .put fileEntryNow)
    | none => (.ok (), .put fileEntryNow)
  else (fail .other, .keep)

def removeFileS : Option Entry → Res Unit × Write
  | none => (fail .fileNotFound, .keep)
  | some e => if e.ftype ≠ .file then (fail .other, .keep) else (.ok (), .del)

def removeDirS (kids : Bool) : Option Entry → Res Unit × Write
  | none => (fail .fileNotFound, .keep)
  | some e => if e.ftype = .file ∨ kids then (fail .other, .keep) else (.ok (), .del)

/-- the three setters, and the stamp of `open_file` -/
def setS (upd : Entry → Entry) : Option Entry → Res Unit × Write
  | none => (fail .fileNotFound, .keep)
  | some e => (.ok (), .put (upd e))

def openFileS : Option Entry → Res RHandle × Write
  | none => (fail .fileNotFound, .keep)
  | some e => (if e.ftype ≠ .file then fail .other else .ok { content := e.content, pos := 0 },
      .put { e with accessed := .now })

/-- flush / drop of a `WritableFile` -/
def publishS (buf : Bytes) : Option Entry → Write
  | some e =>
    if e.ftype = .file then
      .put { ftype := .file, content := buf, created := e.created, modified := .now,
             accessed := e.accessed }
    else .keep
  | none => .keep

/-- the session `create_file`, `write_all(bs)`, drop. (This and `appendS` are tables of the sessions
`Mem.pWrite`, `Mem.pAppend` of Proofs/MemPath.lean, not of a method: their equations are
`Mem.pWrite_eq`, `Mem.pAppend_eq` there.) -/
def writeS (bs : Bytes) (par : Bool) (tgt : Option Entry) : Res Unit × Write :=
  match createFileS par tgt with
  | (.ok _, _) => (.ok (), .put { fileEntryNow with content := bs })
  | (r, _) => (r, .keep)

/-- the session `append_file`, `write_all(bs)`, drop -/
def appendS (bs : Bytes) : Option Entry → Res Unit × Write
  | none => (fail .fileNotFound, .keep)
  | some e =>
    if e.ftype ≠ .file then (fail .other, .keep)
    else (.ok (), publishS (e.content ++ bs) (some e))

/-! ### the methods are their tables -/

theorem createDir_eq (m : FMap) (p : Str) :
    createDir m p = onSlot m p (createDirS (par m p) (m.find? p)) := by
  unfold createDir createDirS onSlot
  rw [ensureHasParent_eq]
  cases par m p <;> cases m.find? p <;> rfl

theorem createFile_eq (m : FMap) (p : Str) :
    createFile m p = onSlot m p (createFileS (par m p) (m.find? p)) := by
  unfold createFile createFileS onSlot
  rw [ensureHasParent_eq]
  cases par m p
  · rfl
  · cases m.find? p with
    | none => rfl
    | some e => simp only [if_true]; split <;> rfl

theorem removeFile_eq (m : FMap) (p : Str) : removeFile m p = onSlot m p (removeFileS (m.find? p)) := by
  unfold removeFile removeFileS onSlot
  cases m.find? p with
  | none => rfl
  | some e => simp only; split <;> rfl

theorem readDir_eq (m : FMap) (p : Str) :
    readDir m p = match m.find? p with
      | none => fail .fileNotFound
      | some e => if e.ftype = .file then fail .other else .ok (m.keys.filterMap (childName p)) := rfl

/-- a successful listing is the prefix scan over all keys -/
theorem readDir_ok {m : FMap} {p : Str} {l : List Str} (h : readDir m p = .ok l) :
    l = m.keys.filterMap (childName p) := by
  rw [readDir_eq] at h
  rcases hf : m.find? p with _ | ⟨⟨_ | _, c, cr, mo, ac⟩⟩ <;> rw [hf] at h <;> simp [fail] at h
  exact h.symm

/-! the two observers that answer with a `Res` never panic -/

theorem readDir_np (m : FMap) (p : Str) : readDir m p ≠ .panic := by
  rw [readDir_eq]; rcases m.find? p with _ | ⟨⟨_ | _, _, _, _, _⟩⟩ <;> simp [fail]

theorem metadata_np (m : FMap) (p : Str) : metadata m p ≠ .panic := by
  unfold metadata; split <;> simp [fail]

/-- `append_file` answers with the bytes of the file at the path -/
theorem appendFile_ok {m : FMap} {p : Str} {b : Bytes} (h : appendFile m p = .ok b) :
    ∃ e, m.find? p = some e ∧ e.ftype = .file ∧ b = e.content := by
  unfold appendFile at h
  rcases hf : m.find? p with _ | ⟨⟨_ | _, c, cr, mo, ac⟩⟩ <;> rw [hf] at h <;> simp [fail] at h
  exact ⟨_, rfl, rfl, h.symm⟩

theorem removeDir_eq (m : FMap) (p : Str) :
    removeDir m p = onSlot m p (removeDirS (kids m p) (m.find? p)) := by
  unfold removeDir removeDirS onSlot kids readDir
  cases hf : m.find? p with
  | none => rfl
  | some e =>
    by_cases hd : e.ftype = .file
    · simp [hd, fail, Write.app]
    · by_cases hk : m.keys.filterMap (childName p) = [] <;>
        simp [hd, hk, FMap.contains, hf, Write.app]

theorem setCreated_eq (m : FMap) (p : Str) (t : TS) :
    setCreated m p t = onSlot m p (setS (fun e => { e with created := t }) (m.find? p)) := by
  unfold setCreated setS onSlot; cases m.find? p <;> rfl

theorem setModified_eq (m : FMap) (p : Str) (t : TS) :
    setModified m p t = onSlot m p (setS (fun e => { e with modified := t }) (m.find? p)) := by
  unfold setModified setS onSlot; cases m.find? p <;> rfl

theorem setAccessed_eq (m : FMap) (p : Str) (t : TS) :
    setAccessed m p t = onSlot m p (setS (fun e => { e with accessed := t }) (m.find? p)) := by
  unfold setAccessed setS onSlot; cases m.find? p <;> rfl

theorem openFile_eq (m : FMap) (p : Str) : openFile m p = onSlot m p (openFileS (m.find? p)) := by
  unfold openFile setAccessed openFileS onSlot
  cases m.find? p with
  | none => rfl
  | some e => simp only [FMap.find?_insert_self]; split <;> rfl

theorem memPublish_eq (m : FMap) (p : Str) (buf : Bytes) :
    memPublish m p buf = (publishS buf (m.find? p)).app m p := by
  unfold memPublish publishS
  cases m.find? p with
  | none => rfl
  | some e => simp only; split <;> rfl

end Mem

/-! ### what every table has in common

A table entry never is the panic outcome, and its write *fits*: an existing entry is replaced by
one of its own type, a new one comes only where `ensure_has_parent` answered `Ok`, and only a file
or a childless directory goes. Whatever is to be shown of all methods of `MemoryFS` (well-formedness, closure
properties of the maps of a stack, …) is shown of the writes that fit. -/

def Write.Fits (par kids : Bool) (tgt : Option Entry) : Write → Prop
  | .keep => True
  | .put v => match tgt with
    | some e => v.ftype = e.ftype
    | none => par = true
  | .del => ∃ e, tgt = some e ∧ (e.ftype = .file ∨ kids = false)

/-- a write that fits keeps the tree well-formed; at the root only a file may go (there is none
in a well-formed map: `remove_dir` of a childless root is the one fitting write that breaks the tree) -/
theorem WF.fits {m : FMap} (h : WF m) {p : Str} {wr : Write}
    (hf : wr.Fits (Mem.par m p) (Mem.kids m p || decide (p = [])) (m.find? p)) : WF (wr.app m p) := by
  apply h.app
  cases wr with
  | keep => trivial
  | put v =>
    cases he : m.find? p with
    | some e => simp only [Write.Fits, he] at hf; exact Write.legal_put_same he hf
    | none =>
      simp only [Write.Fits, he] at hf
      exact ⟨fun e h' => (by rw [he] at h'; cases h'), fun _ => (Mem.par_iff m p).1 hf⟩
  | del =>
    obtain ⟨e, he, hk | hk⟩ := hf
    · exact h.legal_del_file he hk
    · simp only [Bool.or_eq_false_iff, decide_eq_false_iff_not] at hk
      exact h.legal_del_childless hk.2 (by simpa [Mem.kids] using hk.1)

namespace Mem
variable (par kids : Bool) (tgt : Option Entry)

theorem createDirS_fits : (createDirS par tgt).2.Fits par kids tgt := by
  cases par <;> cases tgt <;> simp [createDirS, Write.Fits]

theorem createFileS_fits : (createFileS par tgt).2.Fits par kids tgt := by
  cases par <;> rcases tgt with _ | ⟨⟨_ | _, _, _, _, _⟩⟩ <;> simp [createFileS, Write.Fits, fileEntryNow]

theorem removeFileS_fits : (removeFileS tgt).2.Fits par kids tgt := by
  rcases tgt with _ | ⟨⟨_ | _, _, _, _, _⟩⟩ <;> simp [removeFileS, Write.Fits]

theorem removeDirS_fits : (removeDirS kids tgt).2.Fits par kids tgt := by
  cases kids <;> rcases tgt with _ | ⟨⟨_ | _, _, _, _, _⟩⟩ <;> simp [removeDirS, Write.Fits]

theorem setS_fits (upd : Entry → Entry) (hu : ∀ e, (upd e).ftype = e.ftype) :
    (setS upd tgt).2.Fits par kids tgt := by
  cases tgt <;> simp [setS, Write.Fits, hu]

theorem openFileS_fits : (openFileS tgt).2.Fits par kids tgt := by
  cases tgt <;> simp [openFileS, Write.Fits]

theorem publishS_fits (buf : Bytes) : (publishS buf tgt).Fits par kids tgt := by
  rcases tgt with _ | ⟨⟨_ | _, _, _, _, _⟩⟩ <;> simp [publishS, Write.Fits]

theorem writeS_fits (bs : Bytes) : (writeS bs par tgt).2.Fits par kids tgt := by
  cases par <;> rcases tgt with _ | ⟨⟨_ | _, _, _, _, _⟩⟩ <;>
    simp [writeS, createFileS, Write.Fits, fileEntryNow, fail]

theorem appendS_fits (bs : Bytes) : (appendS bs tgt).2.Fits par kids tgt := by
  rcases tgt with _ | ⟨⟨_ | _, _, _, _, _⟩⟩ <;> simp [appendS, publishS, Write.Fits]

theorem createDirS_np : (createDirS par tgt).1 ≠ .panic := by
  cases par <;> rcases tgt with _ | ⟨⟨_ | _, _, _, _, _⟩⟩ <;> simp [createDirS, fail]

theorem createFileS_np : (createFileS par tgt).1 ≠ .panic := by
  cases par <;> rcases tgt with _ | ⟨⟨_ | _, _, _, _, _⟩⟩ <;> simp [createFileS, fail]

theorem removeFileS_np : (removeFileS tgt).1 ≠ .panic := by
  rcases tgt with _ | ⟨⟨_ | _, _, _, _, _⟩⟩ <;> simp [removeFileS, fail]

theorem removeDirS_np : (removeDirS kids tgt).1 ≠ .panic := by
  cases kids <;> rcases tgt with _ | ⟨⟨_ | _, _, _, _, _⟩⟩ <;> simp [removeDirS, fail]

theorem setS_np (upd : Entry → Entry) : (setS upd tgt).1 ≠ .panic := by
  cases tgt <;> simp [setS, fail]

theorem openFileS_np : (openFileS tgt).1 ≠ .panic := by
  rcases tgt with _ | ⟨⟨_ | _, _, _, _, _⟩⟩ <;> simp [openFileS, fail]

/-! a call that fails writes nothing — of every table but `openFileS` (`open_file` stamps the access
time before it checks the type); stated for the tables a client asks it of -/

theorem createDirS_atomic (h : (createDirS par tgt).1.isOk = false) : (createDirS par tgt).2 = .keep := by
  cases par <;> cases tgt <;> simp_all [createDirS, Res.isOk]

theorem writeS_atomic (bs : Bytes) (h : (writeS bs par tgt).1.isOk = false) :
    (writeS bs par tgt).2 = .keep := by
  cases par <;> rcases tgt with _ | ⟨⟨_ | _, _, _, _, _⟩⟩ <;> simp_all [writeS, createFileS, Res.isOk, fail]

theorem appendS_atomic (bs : Bytes) (h : (appendS bs tgt).1.isOk = false) : (appendS bs tgt).2 = .keep := by
  rcases tgt with _ | ⟨⟨_ | _, _, _, _, _⟩⟩ <;> simp_all [appendS, Res.isOk, fail]

theorem removeFileS_atomic (h : (removeFileS tgt).1.isOk = false) : (removeFileS tgt).2 = .keep := by
  rcases tgt with _ | ⟨⟨_ | _, _, _, _, _⟩⟩ <;> simp_all [removeFileS, Res.isOk, fail]

theorem removeDirS_atomic (h : (removeDirS kids tgt).1.isOk = false) : (removeDirS kids tgt).2 = .keep := by
  cases kids <;> rcases tgt with _ | ⟨⟨_ | _, _, _, _, _⟩⟩ <;> simp_all [removeDirS, Res.isOk, fail]

/-! what a successful call found and wrote (of a removal: `Mem.removeFile_file`, `Mem.Erasing` in
Proofs/MemPath.lean) -/

theorem createDirS_ok {u : Unit} (h : (createDirS par tgt).1 = .ok u) :
    par = true ∧ tgt = none ∧ (createDirS par tgt).2 = .put dirEntryNow := by
  cases par <;> rcases tgt with _ | ⟨⟨_ | _, _, _, _, _⟩⟩ <;> simp_all [createDirS, fail]

theorem createFileS_ok {u : Unit} (h : (createFileS par tgt).1 = .ok u) :
    par = true ∧ (∀ e, tgt = some e → e.ftype = .file) ∧ (createFileS par tgt).2 = .put fileEntryNow := by
  cases par <;> rcases tgt with _ | ⟨⟨_ | _, _, _, _, _⟩⟩ <;> simp_all [createFileS, fail]

theorem openFileS_ok {r : RHandle} (h : (openFileS tgt).1 = .ok r) :
    ∃ e, tgt = some e ∧ e.ftype = .file ∧ r = { content := e.content, pos := 0 } ∧
      (openFileS tgt).2 = .put { e with accessed := .now } := by
  rcases tgt with _ | ⟨⟨_ | _, c, cr, mo, ac⟩⟩ <;> simp_all [openFileS, fail]

end Mem

/-- the label `with_path` puts on an error does not change whether the call succeeded (for the
`*_atomic` facts about the path-layer primitives, which relabel) -/
theorem Res.isOk_withPath {α} (p : Str) (r : Res α) : (r.withPath p).isOk = r.isOk := by
  cases r <;> rfl

theorem Res.withPath_panic {α} (p : Str) (r : Res α) : r.withPath p = .panic ↔ r = .panic := by
  cases r <;> simp [Res.withPath]

/-! ### the physical leaf

`Phys.createDir`, `createFile`, `removeFile`, `removeDir` are tables over the host's `lookup`
already; written with `Write` the map they return is `wr.app m p`, so that frame, key uniqueness and
the comparison with MemoryFS come from `Write.find?_app`; `copy_file` is a table over the lookups
of both paths, written to the slot of the destination. (The setters and `rename` of the physical
leaf have no table here, and there is no `Fits` for the physical tables: the tree of the physical
leaf is compared with the memory map through `lookRel`, Proofs/PhysPath.lean; what a successful
create needs is `WF.insert_resolved`, Proofs/PhysLemmas.lean.) -/

namespace Phys

def createDirS : Res (Option Entry) → Res Unit × Write
  | .ok none => (.ok (), .put dirEntryNow)
  | .ok (some e) => (if e.ftype = .file then fail .fileExists else fail .dirExists, .keep)
  | .err k p => (.err k p, .keep)
  | .panic => (.panic, .keep)

def createFileS : Res (Option Entry) → Res Unit × Write
  | .ok none => (.ok (), .put fileEntryNow)
  | .ok (some e) =>
    if e.ftype = .dir then (fail .io, .keep) else (.ok (), .put { e with content := [], modified := .now })
  | .err k p => (.err k p, .keep)
  | .panic => (.panic, .keep)

def removeFileS : Res (Option Entry) → Res Unit × Write
  | .ok none => (fail .fileNotFound, .keep)
  | .ok (some e) => if e.ftype = .dir then (fail .io, .keep) else (.ok (), .del)
  | .err k p => (.err k p, .keep)
  | .panic => (.panic, .keep)

def removeDirS (kids : Bool) : Res (Option Entry) → Res Unit × Write
  | .ok none => (fail .fileNotFound, .keep)
  | .ok (some e) => if e.ftype = .file ∨ kids then (fail .io, .keep) else (.ok (), .del)
  | .err k p => (.err k p, .keep)
  | .panic => (.panic, .keep)

/-- `std::fs::copy`: `ls` the lookup of the source, `ld` that of the destination -/
def copyFileS : Res (Option Entry) → Res (Option Entry) → Res Unit × Write
  | .ok none, _ => (fail .fileNotFound, .keep)
  | .ok (some e), ld =>
    if e.ftype = .dir then (fail .io, .keep)
    else match ld with
      | .ok none => (.ok (), .put { fileEntryNow with content := e.content })
      | .ok (some d) =>
        if d.ftype = .dir then (fail .io, .keep)
        else (.ok (), .put { d with content := e.content, modified := .now })
      | .err k p => (.err k p, .keep)
      | .panic => (.panic, .keep)
  | .err k p, _ => (.err k p, .keep)
  | .panic, _ => (.panic, .keep)

theorem copyFile_eq (m : FMap) (s d : Str) :
    copyFile m s d = onSlot m d (copyFileS (lookup m s) (lookup m d)) := by
  unfold copyFile copyFileS onSlot
  rcases lookup m s with (_ | e) | _ | _
  · rfl
  · simp only
    split
    · rfl
    · rcases lookup m d with (_ | e') | _ | _
      · rfl
      · simp only; split <;> rfl
      · rfl
      · rfl
  · rfl
  · rfl

theorem createDir_eq (m : FMap) (p : Str) : createDir m p = onSlot m p (createDirS (lookup m p)) := by
  unfold createDir createDirS onSlot
  rcases lookup m p with (_ | e) | _ | _ <;> rfl

theorem createFile_eq (m : FMap) (p : Str) : createFile m p = onSlot m p (createFileS (lookup m p)) := by
  unfold createFile createFileS onSlot
  rcases lookup m p with (_ | e) | _ | _
  · rfl
  · simp only; split <;> rfl
  · rfl
  · rfl

theorem removeFile_eq (m : FMap) (p : Str) : removeFile m p = onSlot m p (removeFileS (lookup m p)) := by
  unfold removeFile removeFileS onSlot
  rcases lookup m p with (_ | e) | _ | _
  · rfl
  · simp only; split <;> rfl
  · rfl
  · rfl

theorem removeDir_eq (m : FMap) (p : Str) :
    removeDir m p = onSlot m p (removeDirS (decide (children m p ≠ [])) (lookup m p)) := by
  unfold removeDir removeDirS onSlot
  rcases lookup m p with (_ | e) | _ | _
  · rfl
  · by_cases hf : e.ftype = .file <;> by_cases hk : children m p = [] <;> simp [hf, hk, Write.app]
  · rfl
  · rfl

theorem copyFileS_np {ls ld : Res (Option Entry)} (h1 : ls ≠ .panic) (h2 : ld ≠ .panic) :
    (copyFileS ls ld).1 ≠ .panic := by
  rcases ls with (_ | ⟨⟨_ | _, _, _, _, _⟩⟩) | _ | _ <;>
    rcases ld with (_ | ⟨⟨_ | _, _, _, _, _⟩⟩) | _ | _ <;> simp [copyFileS, fail] at h1 h2 ⊢

/-- `std::fs::copy` fails with what the two lookups fail with, `EISDIR` or `ENOENT` -/
theorem copyFileS_ns {ls ld : Res (Option Entry)} (h1 : ∀ q, ls ≠ .err .notSupported q)
    (h2 : ∀ q, ld ≠ .err .notSupported q) (q : Option Str) :
    (copyFileS ls ld).1 ≠ .err .notSupported q := by
  rcases ls with (_ | ⟨⟨_ | _, _, _, _, _⟩⟩) | _ | _ <;>
    rcases ld with (_ | ⟨⟨_ | _, _, _, _, _⟩⟩) | _ | _ <;> simp_all [copyFileS, fail]

/-- a successful copy found the destination resolvable, absent or not a directory, and put an
entry there -/
theorem copyFileS_ok {ls ld : Res (Option Entry)} {u : Unit} (h : (copyFileS ls ld).1 = .ok u) :
    (ld = .ok none ∨ ∃ d, ld = .ok (some d)) ∧ ∃ v, (copyFileS ls ld).2 = .put v := by
  rcases ls with (_ | ⟨⟨_ | _, _, _, _, _⟩⟩) | _ | _ <;>
    rcases ld with (_ | ⟨⟨_ | _, _, _, _, _⟩⟩) | _ | _ <;> simp_all [copyFileS, fail]

/-- a successful `create_dir` found the path resolvable and absent -/
theorem createDirS_ok {lk : Res (Option Entry)} {u : Unit} (h : (createDirS lk).1 = .ok u) :
    lk = .ok none ∧ (createDirS lk).2 = .put dirEntryNow := by
  rcases lk with (_ | ⟨⟨_ | _, _, _, _, _⟩⟩) | _ | _ <;> simp_all [createDirS, fail]

theorem removeFileS_noput (lk : Res (Option Entry)) (v : Entry) : (removeFileS lk).2 ≠ .put v := by
  rcases lk with (_ | ⟨⟨_ | _, _, _, _, _⟩⟩) | _ | _ <;> simp [removeFileS]

theorem removeDirS_noput (kids : Bool) (lk : Res (Option Entry)) (v : Entry) :
    (removeDirS kids lk).2 ≠ .put v := by
  cases kids <;> rcases lk with (_ | ⟨⟨_ | _, _, _, _, _⟩⟩) | _ | _ <;> simp [removeDirS]

theorem createDirS_np {lk : Res (Option Entry)} (h : lk ≠ .panic) : (createDirS lk).1 ≠ .panic := by
  rcases lk with (_ | ⟨⟨_ | _, _, _, _, _⟩⟩) | _ | _ <;> simp [createDirS, fail] at h ⊢

theorem createFileS_np {lk : Res (Option Entry)} (h : lk ≠ .panic) : (createFileS lk).1 ≠ .panic := by
  rcases lk with (_ | ⟨⟨_ | _, _, _, _, _⟩⟩) | _ | _ <;> simp [createFileS, fail] at h ⊢

theorem removeFileS_np {lk : Res (Option Entry)} (h : lk ≠ .panic) : (removeFileS lk).1 ≠ .panic := by
  rcases lk with (_ | ⟨⟨_ | _, _, _, _, _⟩⟩) | _ | _ <;> simp [removeFileS, fail] at h ⊢

theorem removeDirS_np (kids : Bool) {lk : Res (Option Entry)} (h : lk ≠ .panic) :
    (removeDirS kids lk).1 ≠ .panic := by
  cases kids <;> rcases lk with (_ | ⟨⟨_ | _, _, _, _, _⟩⟩) | _ | _ <;> simp [removeDirS, fail] at h ⊢

end Phys
end Vfs
