/-
  The loop of `VfsPath::copy_dir` / `move_dir` (`VPath.copyItems`, VfsModel/PathOps.lean) once, for
  any source and any destination.

  SOURCE: a well-formed tree `m` such that, in every world the loop passes through, the two
  observers the iterator calls (`metadata`, `read_dir`) answer on the keys AT OR BELOW the source
  directory as `m` says and change nothing (`WkG.SeesOn` over the one world). Only presence and
  types matter (`SeesOn.congr`), and nothing is asked about keys elsewhere: the destination may
  lie on the same filesystem, and a file that is read may get an access stamp.
  DESTINATION: whatever the caller's invariant `J w P` says (`w` the world, `P` the set of source
  keys copied so far). The caller shows ONE round (`Setting.step`): with `S/t` a present key that is
  not yet copied, all of whose present ancestors below `S` are copied, the action on the item
  (`create_dir` of `D/t`, or `copy_file S/t → D/t`) succeeds and gives `J` for `P ∪ {S/t}`.
  `copyItems_run` is the loop from any iterator state, `copyBody_run` adds `walk_dir`,
  `copyDirBody_run` the `create_dir` of the destination.
-/
import VfsModel.Proofs.WalkGeneric
import VfsModel.Proofs.Routes
namespace Vfs.CopyLoop
open Vfs.Wk Vfs.WkG

/-- the tree may be replaced by one with the same presence and types on the domain -/
theorem _root_.Vfs.WkG.SeesOn.congr {P : VPath} {m m' : FMap} {Dom : Str → Prop} {S : World → Prop}
    (h : SeesOn P m Dom S) (hdown : Down Dom)
    (hft : ∀ k, Dom k → (m'.find? k).map Entry.ftype = (m.find? k).map Entry.ftype) :
    SeesOn P m' Dom S := by
  have some_of : ∀ {k e'}, Dom k → m'.find? k = some e' →
      ∃ e, m.find? k = some e ∧ e.ftype = e'.ftype := by
    intro k e' hk he'
    have := hft k hk
    rw [he'] at this
    cases hm : m.find? k with
    | none => rw [hm] at this; cases this
    | some e => rw [hm] at this; exact ⟨e, rfl, by simpa using this.symm⟩
  refine ⟨fun w hw x e' hx he' => ?_, fun w hw d e' hd he' hdir => ?_⟩
  · obtain ⟨e, he, hte⟩ := some_of hx he'
    obtain ⟨md, w', hS, hrun, hmd⟩ := h.mdata w hw x e hx he
    exact ⟨md, w', hS, hrun, hmd.trans hte⟩
  · obtain ⟨e, he, hte⟩ := some_of hd he'
    obtain ⟨l, w', hS, hl, hrun⟩ := h.listing w hw d e hd he (hte.trans hdir)
    refine ⟨l, w', hS, ⟨hl.1, fun k => ?_⟩, hrun⟩
    rw [hl.2 k, Wk.mem_children, Wk.mem_children]
    constructor
    · rintro ⟨⟨ek, hek⟩, hs, hp⟩
      have hkw : Dom k := hdown d k hd (by rw [← hp]; exact below_parent_self k hs)
      have := hft k hkw
      rw [hek] at this
      cases hm : m'.find? k with
      | none => rw [hm] at this; cases this
      | some ek' => exact ⟨⟨ek', rfl⟩, hs, hp⟩
    · rintro ⟨⟨ek', hek'⟩, hs, hp⟩
      have hkw : Dom k := hdown d k hd (by rw [← hp]; exact below_parent_self k hs)
      obtain ⟨ek, hek, _⟩ := some_of hkw hek'
      exact ⟨⟨ek, hek⟩, hs, hp⟩

/-- what the caller of the loop theorem supplies; `Dom` is where the source is looked at: the keys at
or below the source (`fun k => within src.path k = true`) when the view changes elsewhere during
the loop, all keys when it does not -/
structure Setting (src dst : VPath) (m : FMap) (Dom : Str → Prop)
    (J : World → (Str → Prop) → Prop) : Prop where
  wf : WF m
  nodup : FMap.NodupKeys m
  down : Down Dom
  /-- the relative part of a source key is joined onto the destination unchanged -/
  join : ∀ t e, m.find? (src.path ++ '/' :: t) = some e →
    joinInternal dst.path t = .ok (dst.path ++ '/' :: t)
  sees : ∀ w P, J w P → SeesOn src m Dom (· = w)
  /-- the invariant looks at `P` only below the source -/
  congr : ∀ w P P', J w P → (∀ k, below src.path k = true → (P' k ↔ P k)) → J w P'
  /-- one round: a present key that is not yet copied, its present ancestors below the source all
  copied -/
  step : ∀ w P t e, J w P → m.find? (src.path ++ '/' :: t) = some e → ¬ P (src.path ++ '/' :: t) →
    (∀ p, below src.path p = true → below p (src.path ++ '/' :: t) = true →
      (∃ e', m.find? p = some e') → P p) →
    ∃ w', VPath.copyItem e.ftype (src.withStr (src.path ++ '/' :: t))
        (dst.withStr (dst.path ++ '/' :: t)) w = (.ok (), w') ∧
      J w' (fun k => P k ∨ k = src.path ++ '/' :: t)

section loop
variable {src dst : VPath} {m : FMap} {Dom : Str → Prop} {J : World → (Str → Prop) → Prop}
  (h : Setting src dst m Dom J)
include h

/-- the loop from a good iterator state in the domain whose pending present keys lie below the
source, with more fuel than there are of them: `Ok` with that many more items, and everything
present below the source is copied -/
theorem copyItems_run : ∀ (fuel : Nat) (inner todo : List Str) (count : Nat) (w : World),
    Good m inner todo → In Dom inner todo →
    (∀ k, (∃ e, m.find? k = some e) → pending inner todo k = true → below src.path k = true) →
    J w (fun k => (∃ e, m.find? k = some e) ∧ pending inner todo k = false) →
    (m.keys.filter (pending inner todo)).length < fuel →
    ∃ w', VPath.copyItems fuel src dst (st src inner todo) count w
        = (.ok (count + (m.keys.filter (pending inner todo)).length), w') ∧
      J w' (fun k => ∃ e, m.find? k = some e) := by
  intro fuel
  induction fuel with
  | zero => intro inner todo count w _ _ _ _ hf; omega
  | succ fuel ih =>
    intro inner todo count w hg hl hbel hJ hf
    rcases walkNext_sees h.wf h.down (h.sees w _ hJ) todo inner w rfl hg hl with
      ⟨w', hw', h1, h2⟩ |
      ⟨x, inner', todo', w', hw', h1, hg', hl', hxD, ⟨e, hx⟩, hgone, hrest, hanc, -⟩
    · subst w'
      have hnil : m.keys.filter (pending inner todo) = [] :=
        List.filter_eq_nil_iff.2 fun k hk => by rw [h2 k ((FMap.mem_keys_iff m k).1 hk)]; simp
      refine ⟨w, by rw [VPath.copyItems_none fuel src dst _ _ count w h1, hnil]; rfl,
        h.congr w _ _ hJ fun k _ => ⟨fun hk => ⟨hk, h2 k hk⟩, fun hk => hk.1⟩⟩
    · subst w'
      have hpx : pending inner todo x = true := by rw [hrest x ⟨e, hx⟩]; simp
      obtain ⟨t, rfl⟩ := (below_iff src.path x).1 (hbel x ⟨e, hx⟩ hpx)
      obtain ⟨md, w0, hw0, hmeta, hmd⟩ := (h.sees w _ hJ).mdata w rfl _ e hxD hx
      rw [hw0] at hmeta
      have hrel := VPath.relJoin_below dst src.path t (src.withStr (src.path ++ '/' :: t)) rfl
        (h.join t e hx)
      obtain ⟨w1, hitem, hJ1⟩ := h.step w _ t e hJ hx (fun hp => by rw [hpx] at hp; cases hp.2)
        (fun p _ hpx' hpres => ⟨hpres, by
          have hne : p ≠ src.path ++ '/' :: t := by
            rintro rfl
            rw [below_irrefl] at hpx'; cases hpx'
          rw [hrest p hpres, decide_eq_false hne, Bool.false_or]
          cases hq : pending inner' todo' p with
          | false => rfl
          | true => rw [hanc p hq] at hpx'; cases hpx'⟩)
      have hJ1' : J w1 (fun k => (∃ e, m.find? k = some e) ∧ pending inner' todo' k = false) := by
        refine h.congr w1 _ _ hJ1 fun k _ => ?_
        constructor
        · rintro ⟨hk, hp'⟩
          by_cases hkx : k = src.path ++ '/' :: t
          · exact Or.inr hkx
          · exact Or.inl ⟨hk, by rw [hrest k hk, hp', decide_eq_false hkx]; rfl⟩
        · rintro (⟨hk, hp⟩ | rfl)
          · rw [hrest k hk] at hp
            exact ⟨hk, (Bool.or_eq_false_iff.1 hp).2⟩
          · exact ⟨⟨e, hx⟩, hgone⟩
      have hlen : (m.keys.filter (pending inner todo)).length
          = (m.keys.filter (pending inner' todo')).length + 1 :=
        filter_length_succ m.keys h.nodup _ _ _ ((FMap.mem_keys_iff m _).2 ⟨e, hx⟩) hpx hgone
          fun k hk hne => by
            rw [hrest k ((FMap.mem_keys_iff m k).1 hk), decide_eq_false hne]; rfl
      obtain ⟨w', hrun, hJ'⟩ := ih inner' todo' (count + 1) w1 hg' hl'
        (fun k hk hp => hbel k hk (by rw [hrest k hk, hp]; simp)) hJ1' (by omega)
      refine ⟨w', ?_, hJ'⟩
      rw [VPath.copyItems_some fuel src dst _ _ _ _ count w md h1 hrel hmeta, hmd]
      simp only [M.bind, hitem, hrun]
      congr 2; omega

/-- `walk_dir` of the source, then the loop: `Ok` with the number of keys strictly below the source -/
theorem copyBody_run {w : World} {e : Entry} (hS : m.find? src.path = some e)
    (hd : e.ftype = .dir) (hdom : Dom src.path) (hJ : J w (fun _ => False)) {fuel : Nat}
    (hfuel : (m.keys.filter (below src.path)).length < fuel) :
    ∃ w', (do let s ← src.walkDir; VPath.copyItems fuel src dst s 0 : M Nat) w
        = (.ok (m.keys.filter (below src.path)).length, w') ∧
      J w' (fun k => ∃ e, m.find? k = some e) := by
  obtain ⟨l, w0, hw0, hl, hrd⟩ := (h.sees w _ hJ).listing w rfl src.path e hdom hS hd
  rw [hw0] at hrd
  obtain ⟨hg, hpend⟩ := start_good' h.wf src.path e hS hd hl
  have hfilt : m.keys.filter (pending l []) = m.keys.filter (below src.path) :=
    List.filter_congr fun k hk => hpend k ((FMap.mem_keys_iff m k).1 hk)
  obtain ⟨w', hrun, hJ'⟩ := copyItems_run h fuel l [] 0 w hg
    ⟨fun x hx => h.down _ x hdom (child_below ((hl.2 x).1 hx)), fun d hd => nomatch hd⟩
    (fun k hk hp => by rw [← hpend k hk]; exact hp)
    (h.congr w _ _ hJ fun k hk =>
      ⟨fun ⟨hp, hq⟩ => (by rw [hpend k hp, hk] at hq; cases hq), False.elim⟩)
    (by rw [hfilt]; exact hfuel)
  refine ⟨w', ?_, hJ'⟩
  have hwd : src.walkDir w = (.ok (st src l []), w) := walkDir_of (P := src) hrd
  simp only [bind, M.bind, hwd]
  rw [hrun, hfilt, Nat.zero_add]

/-- the body of `copy_dir` / the copy phase of `move_dir`, given the `create_dir` of the destination -/
theorem copyDirBody_run {w w1 : World} {e : Entry} (hcd : dst.createDir w = (.ok (), w1))
    (hS : m.find? src.path = some e) (hd : e.ftype = .dir) (hdom : Dom src.path)
    (hJ : J w1 (fun _ => False)) {fuel : Nat}
    (hfuel : (m.keys.filter (below src.path)).length < fuel) :
    ∃ w', src.copyDirBody fuel dst w = (.ok (m.keys.filter (below src.path)).length, w') ∧
      J w' (fun k => ∃ e, m.find? k = some e) := by
  obtain ⟨w', hrun, hJ'⟩ := copyBody_run h hS hd hdom hJ hfuel
  refine ⟨w', ?_, hJ'⟩
  simp only [bind, M.bind] at hrun
  simp only [VPath.copyDirBody, bind, M.bind, hcd, hrun]

end loop

end Vfs.CopyLoop
