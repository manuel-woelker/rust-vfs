/-
  Transfer of rely-guarantee specifications (`wpR`, Proofs/OverlayConcCalc.lean) from programs over
  the ROOTS of re-rooted memory leaves to programs over SUB-DIRECTORY paths of the real leaves.

  * `absW spec w`: the world in which every leaf `i` with `spec i = some P` holds the sub-map
    `sub P m` (Proofs/SubtreeSim.lean) of its map `m`;
  * `Ref spec ls u bu V t t'`: the program `t` (concrete: calls at keys `P ++ k`) refines `t'`
    (abstract: the same calls at keys `k`), call for call, except that `t` may in addition call
    `create_dir` of the write leaf `u` at a non-empty prefix of the write base `bu` (`stutter`:
    answered `DirectoryExists`, nothing changes); outcomes are related by `RR V` (same constructor,
    same error kind, error-path labels ignored, values related by `V`);
  * `RC`: the concrete rely/guarantee — only leaf `u` changes, its sub-map below the base by
    `Evolve`, nothing outside the base's subtree (`Out`); `CInv`: the ancestors of the base and the
    base are directories;
  * `transfer`: `Ref t t'` and `wpR RelW t' Q' (absW w)` give `wpR RC t (∃ r', RR r r' ∧ Q' r' ∘ absW) w`.
-/
import VfsModel.Proofs.SubtreeSim
import VfsModel.Proofs.OverlayConcThread
namespace Vfs.SConc
open Vfs Vfs.Overlay Vfs.OConc Vfs.OConc.Prog

def absLeaf (spec : Nat → Option Str) (i : Nat) (l : Leaf) : Leaf :=
  match spec i with
  | some P => { l with files := sub P l.files }
  | none => l

def absW (spec : Nat → Option Str) (w : World) : World :=
  { w with leaves := w.leaves.mapIdx (absLeaf spec) }

theorem absW_leaf (spec : Nat → Option Str) (w : World) (i : Nat) :
    (absW spec w).leaf? i = (w.leaf? i).map (absLeaf spec i) := by
  simp [absW, World.leaf?, List.getElem?_mapIdx]

theorem absW_mem {spec : Nat → Option Str} {w : World} {i : Nat} {M : FMap} {P : Str}
    (h : MemLeafAt w i M) (hs : spec i = some P) : MemLeafAt (absW spec w) i (sub P M) := by
  unfold MemLeafAt at *
  rw [absW_leaf, h]
  simp [absLeaf, hs]

theorem absW_set {spec : Nat → Option Str} (w : World) {i : Nat} {P : Str} (M' : FMap)
    (hs : spec i = some P) :
    absW spec (w.setLeafFiles i M') = (absW spec w).setLeafFiles i (sub P M') := by
  unfold absW World.setLeafFiles
  simp only
  congr 1
  apply List.ext_getElem?
  intro j
  simp only [List.getElem?_mapIdx, List.getElem?_modify]
  by_cases hij : i = j
  · subst hij
    cases w.leaves[i]? <;> simp [absLeaf, hs]
  · cases w.leaves[j]? <;> simp [hij]

def subMs (bs : List (List Str)) (Ms : List FMap) : List FMap :=
  List.zipWith (fun b M => sub (renderC b) M) bs Ms

/-- `spec` sends the leaves `is` to the bases `bs` -/
inductive SpecFor (spec : Nat → Option Str) : List Nat → List (List Str) → Prop
  | nil : SpecFor spec [] []
  | cons {i : Nat} {b : List Str} {is : List Nat} {bs : List (List Str)} :
      spec i = some (renderC b) → SpecFor spec is bs → SpecFor spec (i :: is) (b :: bs)

theorem absW_own {spec : Nat → Option Str} {w : World} :
    ∀ {is ids : List Nat} {Ms : List FMap} {bs : List (List Str)}, OWN w is ids Ms →
      SpecFor spec is bs → OWN (absW spec w) is ids (subMs bs Ms) := by
  intro is ids Ms bs h
  induction h generalizing bs with
  | nil =>
    intro hs
    cases hs
    exact .nil
  | cons h0 hni _ ih =>
    intro hs
    cases hs with
    | cons hb hrest => exact .cons (absW_mem h0 hb) hni (ih hrest)

theorem own_mem {w : World} : ∀ {is ids : List Nat} {ms : List FMap}, OWN w is ids ms →
    ∀ i ∈ is, ∃ m, MemLeafAt w i m := by
  intro is ids ms h
  induction h with
  | nil => intro i hi; cases hi
  | cons h0 _ _ ih =>
    intro i hi
    rcases List.mem_cons.1 hi with rfl | hi
    · exact ⟨_, h0⟩
    · exact ih i hi

def RR {α} (V : α → α → Prop) : Res α → Res α → Prop
  | .ok a, .ok a' => V a a'
  | .err k _, .err k' _ => k = k'
  | .panic, .panic => True
  | _, _ => False

/-- equality, as a named relation (kept opaque to `simp`) -/
def EqV {α : Type} : α → α → Prop := fun a b => a = b

theorem EqV.rfl {α : Type} {a : α} : EqV a a := Eq.refl a

theorem RR.eq_refl {α} (r : Res α) : RR EqV r r := by
  cases r <;> simp [RR, EqV]

/-- `t` (calls at `P ++ k`) refines `t'` (calls at `k`) -/
inductive Ref (spec : Nat → Option Str) (ls : List Nat) (u : Nat) (bu : List Str) {α : Type}
    (V : α → α → Prop) : Prog α → Prog α → Prop
  | done {r r' : Res α} : RR V r r' → Ref spec ls u bu V (.done r) (.done r')
  | exists_ {i : Nat} {P k : Str} {K K' : Res Bool → Prog α} : i ∈ ls → spec i = some P → Rooted k →
      (∀ r, Ref spec ls u bu V (K r) (K' r)) →
      Ref spec ls u bu V (.exists_ (leafFS i) (P ++ k) K) (.exists_ (leafFS i) k K')
  | metadata {i : Nat} {P k : Str} {K K' : Res Meta → Prog α} : i ∈ ls → spec i = some P → Rooted k →
      (∀ r, Ref spec ls u bu V (K r) (K' r)) →
      Ref spec ls u bu V (.metadata (leafFS i) (P ++ k) K) (.metadata (leafFS i) k K')
  | createDir {k : Str} {K K' : Res Unit → Prog α} : Canon k → k ≠ [] →
      (∀ r, Ref spec ls u bu V (K r) (K' r)) →
      Ref spec ls u bu V (.createDir (leafFS u) (renderC bu ++ k) K) (.createDir (leafFS u) k K')
  | removeFile {k : Str} {K K' : Res Unit → Prog α} : Rooted k →
      (∀ r, Ref spec ls u bu V (K r) (K' r)) →
      Ref spec ls u bu V (.removeFile (leafFS u) (renderC bu ++ k) K) (.removeFile (leafFS u) k K')
  | stutter {j : Nat} {K : Res Unit → Prog α} {t' : Prog α} : 1 ≤ j → j ≤ bu.length →
      Ref spec ls u bu V (K (.err .dirExists none)) t' →
      Ref spec ls u bu V (.createDir (leafFS u) (renderC (bu.take j)) K) t'

section ref
variable {spec : Nat → Option Str} {ls : List Nat} {u : Nat} {bu : List Str}

theorem Ref.bindR {α β} {V : α → α → Prop} {W : β → β → Prop} {m m' : Prog α}
    {f f' : Res α → Prog β} (hm : Ref spec ls u bu V m m')
    (hf : ∀ r r', RR V r r' → Ref spec ls u bu W (f r) (f' r')) :
    Ref spec ls u bu W (m.bindR f) (m'.bindR f') := by
  induction hm with
  | done h => exact hf _ _ h
  | exists_ hi hs hk _ ih => exact .exists_ hi hs hk ih
  | metadata hi hs hk _ ih => exact .metadata hi hs hk ih
  | createDir hk hne _ ih => exact .createDir hk hne ih
  | removeFile hk _ ih => exact .removeFile hk ih
  | stutter h1 h2 _ ih => exact .stutter h1 h2 ih

theorem Ref.lift {α β} {V : α → α → Prop} {W : β → β → Prop} {f f' : α → Prog β}
    (hf : ∀ a a', V a a' → Ref spec ls u bu W (f a) (f' a')) (r r' : Res α) (h : RR V r r') :
    Ref spec ls u bu W (Prog.lift f r) (Prog.lift f' r') := by
  cases r <;> cases r' <;> simp only [RR] at h
  · exact hf _ _ h
  · exact .done (by simpa [RR] using h)
  · exact .done (by simp [RR])

theorem Ref.bind {α β} {V : α → α → Prop} {W : β → β → Prop} {m m' : Prog α}
    {f f' : α → Prog β} (hm : Ref spec ls u bu V m m')
    (hf : ∀ a a', V a a' → Ref spec ls u bu W (f a) (f' a')) :
    Ref spec ls u bu W (m >>= f) (m' >>= f') :=
  Ref.bindR hm (Ref.lift hf)

theorem Ref.pure {α} {V : α → α → Prop} {a a' : α} (h : V a a') :
    Ref spec ls u bu V (pure a) (pure a') := .done (by simpa [RR] using h)

theorem Ref.failK {α} {V : α → α → Prop} (k : ErrKind) :
    Ref spec ls u bu V (Prog.failK k) (Prog.failK k) := .done (by simp [RR, fail])

end ref

def CInv (bu : List Str) (Mu : FMap) : Prop := AncOK (renderC bu) Mu ∧ IsDirU Mu (renderC bu)

def Out (bu : List Str) (Mu Mu' : FMap) : Prop :=
  ∀ k, stripP (renderC bu) k = none → Mu'.find? k = Mu.find? k

section rc
variable (u idu : Nat) (is ids : List Nat) (Ms : List FMap) (bu : List Str)
  (paths : List (List Str))

def RC (w w' : World) : Prop :=
  ∀ Mu, OWN w (u :: is) (idu :: ids) (Mu :: Ms) →
    ∃ Mu', w' = w.setLeafFiles u Mu' ∧
      Evolve paths (sub (renderC bu) Mu) (sub (renderC bu) Mu') ∧ Out bu Mu Mu'

variable {u idu is ids Ms bu paths}

theorem RC.refl (w : World) : RC u idu is ids Ms bu paths w w :=
  fun Mu h => ⟨Mu, (OWN.hu h).same.symm, Evolve.refl _, fun _ _ => rfl⟩

theorem RC.trans (hp : PathsOK paths) (a b c : World) (h1 : RC u idu is ids Ms bu paths a b)
    (h2 : RC u idu is ids Ms bu paths b c) : RC u idu is ids Ms bu paths a c := by
  intro Mu hown
  obtain ⟨M1, rfl, he1, ho1⟩ := h1 Mu hown
  obtain ⟨M2, rfl, he2, ho2⟩ := h2 M1 (hown.setHead M1)
  exact ⟨M2, World.setLeafFiles_twice _ _ _ _, he1.trans hp he2,
    fun k hk => (ho2 k hk).trans (ho1 k hk)⟩

theorem stripP_anc_none (ps : List Str) (j : Nat) (hj : j < ps.length) :
    stripP (renderC ps) (renderC (ps.take j)) = none := by
  cases h : stripP (renderC ps) (renderC (ps.take j)) with
  | none => rfl
  | some q =>
    exfalso
    obtain ⟨h1, _⟩ := stripP_some h
    have h2 := renderC_take_length_lt ps j hj
    have h3 := congrArg List.length h1
    simp only [List.length_append] at h3
    omega

theorem find?_sub_nil (P : Str) (m : FMap) : (sub P m).find? [] = m.find? P := by
  rw [find?_sub P m [] (Or.inl rfl), List.append_nil]

theorem CInv.step {Mu Mu' : FMap} (h : CInv bu Mu)
    (he : Evolve paths (sub (renderC bu) Mu) (sub (renderC bu) Mu')) (ho : Out bu Mu Mu') :
    CInv bu Mu' := by
  refine ⟨?_, ?_⟩
  · intro ps hps hP j hj
    obtain ⟨e, he', hd⟩ := h.1 ps hps hP j hj
    refine ⟨e, ?_, hd⟩
    rw [ho _ (by rw [hP]; exact stripP_anc_none ps j hj)]
    exact he'
  · have h0 : IsDirU (sub (renderC bu) Mu) [] := by
      obtain ⟨e, he', hd⟩ := h.2
      exact ⟨e, by rw [find?_sub_nil]; exact he', hd⟩
    obtain ⟨e, he', hd⟩ := h0.evolve NotMk.root he
    exact ⟨e, by rw [← find?_sub_nil]; exact he', hd⟩

/-- `create_dir` at a non-empty prefix of the base: `DirectoryExists`, nothing changes -/
theorem createDir_base {Mu : FMap} (hbu : ∀ c ∈ bu, GoodComp c) (h : CInv bu Mu) (j : Nat)
    (h1 : 1 ≤ j) (h2 : j ≤ bu.length) :
    Mem.createDir Mu (renderC (bu.take j)) = (.err .dirExists none, Mu) := by
  have hself : IsDirU Mu (renderC (bu.take j)) := by
    by_cases hj : j = bu.length
    · rw [hj, List.take_length]; exact h.2
    · exact h.1 bu hbu rfl j (by omega)
  have hne : bu.take j ≠ [] := take_ne_nil h1 h2
  have hpar : parentInternal (renderC (bu.take j)) = renderC (bu.take (j - 1)) := by
    rw [parentInternal_renderC _ (good_noSlash (fun c hc => hbu c (List.mem_of_mem_take hc))),
      List.dropLast_eq_take, List.length_take, List.take_take]
    congr 2
    omega
  obtain ⟨pe, hpe, hpd⟩ : IsDirU Mu (renderC (bu.take (j - 1))) :=
    h.1 bu hbu rfl (j - 1) (by omega)
  obtain ⟨e, he, hd⟩ := hself
  exact createDir_existing_dir Mu _ (slash_mem_renderC hne) pe e (hpar ▸ hpe) hpd he hd

end rc

section transfer
variable {spec : Nat → Option Str} {u idu : Nat} {is ids : List Nat} {Ms : List FMap}
  {bu : List Str} {bs : List (List Str)} {paths : List (List Str)}

abbrev RA (u idu : Nat) (is ids : List Nat) (Ms : List FMap) (bs : List (List Str))
    (paths : List (List Str)) : World → World → Prop :=
  RelW u idu is ids (subMs bs Ms) (Evolve paths)

variable (hspecu : spec u = some (renderC bu)) (hspec : SpecFor spec is bs)

include hspecu hspec in
theorem abs_st {w : World} {Mu : FMap} (h : OWN w (u :: is) (idu :: ids) (Mu :: Ms)) :
    St u idu is ids (subMs bs Ms) (absW spec w) (sub (renderC bu) Mu) := by
  have := absW_own (spec := spec) (bs := bu :: bs) h (SpecFor.cons hspecu hspec)
  simpa [subMs, St] using this

include hspecu hspec in
theorem RC.abs {w w1 : World} {Mu : FMap} (hown : OWN w (u :: is) (idu :: ids) (Mu :: Ms))
    (h : RC u idu is ids Ms bu paths w w1) :
    RA u idu is ids Ms bs paths (absW spec w) (absW spec w1) := by
  intro mu hst
  have := St.unique hst (abs_st hspecu hspec hown)
  subst this
  obtain ⟨M1, rfl, he, _⟩ := h Mu hown
  exact ⟨_, absW_set w M1 hspecu, he⟩

include hspecu hspec in
theorem abs_evolve {w1 : World} {M1 M2 : FMap} (hown : OWN w1 (u :: is) (idu :: ids) (M1 :: Ms))
    (h : RA u idu is ids Ms bs paths (absW spec w1) (absW spec (w1.setLeafFiles u M2))) :
    Evolve paths (sub (renderC bu) M1) (sub (renderC bu) M2) := by
  obtain ⟨mu', hw, he⟩ := h _ (abs_st hspecu hspec hown)
  have h2 : St u idu is ids (subMs bs Ms) (absW spec (w1.setLeafFiles u M2)) (sub (renderC bu) M2) :=
    abs_st hspecu hspec (hown.setHead M2)
  have h3 : St u idu is ids (subMs bs Ms) (absW spec (w1.setLeafFiles u M2)) mu' := by
    rw [hw]; exact (abs_st hspecu hspec hown).set mu'
  rw [St.unique h2 h3]
  exact he

include hspecu hspec in
theorem RC.of_abs {w1 : World} {M1 M2 : FMap} (hown : OWN w1 (u :: is) (idu :: ids) (M1 :: Ms))
    (ho : Out bu M1 M2)
    (h : RA u idu is ids Ms bs paths (absW spec w1) (absW spec (w1.setLeafFiles u M2))) :
    RC u idu is ids Ms bu paths w1 (w1.setLeafFiles u M2) := by
  intro Mu hown'
  have := St.unique hown hown'
  subst this
  exact ⟨M2, rfl, abs_evolve hspecu hspec hown h, ho⟩

include hspecu hspec in
theorem transfer (hp : PathsOK paths) (hbu : ∀ c ∈ bu, GoodComp c) {α} {V : α → α → Prop}
    {t t' : Prog α} (h : Ref spec (u :: is) u bu V t t') (Q' : Res α → World → Prop) :
    ∀ (w : World) (Mu : FMap), OWN w (u :: is) (idu :: ids) (Mu :: Ms) → CInv bu Mu →
      wpR (RA u idu is ids Ms bs paths) t' Q' (absW spec w) →
      wpR (RC u idu is ids Ms bu paths) t
        (fun r w1 => ∃ r', RR V r r' ∧ Q' r' (absW spec w1)) w := by
  have hT : ∀ a b c, RA u idu is ids Ms bs paths a b → RA u idu is ids Ms bs paths b c →
      RA u idu is ids Ms bs paths a c := RelW_trans (fun _ _ _ => Evolve.trans hp)
  induction h with
  | done hrr =>
    intro w Mu hown _ habs w1 hRC
    exact ⟨_, hrr, habs _ (RC.abs hspecu hspec hown hRC)⟩
  | @exists_ i P k K K' hi hs hk _ ih =>
    intro w Mu hown hinv habs w1 hRC
    obtain ⟨M1, rfl, he, ho⟩ := hRC Mu hown
    have hown1 := hown.setHead M1
    have hinv1 := hinv.step he ho
    obtain ⟨Mi, hMi⟩ := own_mem hown1 i hi
    have ha := habs _ (RC.abs hspecu hspec hown hRC)
    rw [run_exists (absW_mem hMi hs) k, contains_sub P Mi k hk] at ha
    rw [run_exists hMi (P ++ k)]
    exact ⟨RC.refl _, ih _ _ M1 hown1 hinv1 ha.2⟩
  | @metadata i P k K K' hi hs hk _ ih =>
    intro w Mu hown hinv habs w1 hRC
    obtain ⟨M1, rfl, he, ho⟩ := hRC Mu hown
    have hown1 := hown.setHead M1
    have hinv1 := hinv.step he ho
    obtain ⟨Mi, hMi⟩ := own_mem hown1 i hi
    have ha := habs _ (RC.abs hspecu hspec hown hRC)
    rw [run_metadata (absW_mem hMi hs) k, metadata_shift P Mi hk] at ha
    rw [run_metadata hMi (P ++ k)]
    exact ⟨RC.refl _, ih _ _ M1 hown1 hinv1 ha.2⟩
  | @createDir k K K' hk hne _ ih =>
    intro w Mu hown hinv habs w1 hRC
    obtain ⟨M1, rfl, he, ho⟩ := hRC Mu hown
    have hown1 := hown.setHead M1
    have hinv1 := hinv.step he ho
    have ha := habs _ (RC.abs hspecu hspec hown hRC)
    rw [Vfs.run_createDir (absW_mem (OWN.hu hown1) hspecu) k,
      createDir_shift (renderC bu) M1 hk hne] at ha
    simp only at ha
    rw [← absW_set _ _ hspecu] at ha
    rw [Vfs.run_createDir (OWN.hu hown1) (renderC bu ++ k)]
    have ho2 : Out bu M1 (Mem.createDir M1 (renderC bu ++ k)).2 := by
      intro k' hk'
      exact touch_createDir M1 _ k' (by
        intro h'; rw [h', stripP_append _ _ hk.rooted] at hk'; cases hk')
    have hstep := RC.of_abs hspecu hspec hown1 ho2 ha.1
    have he2 := abs_evolve hspecu hspec hown1 ha.1
    exact ⟨hstep, ih _ _ _ (hown1.setHead _) (hinv1.step he2 ho2) ha.2⟩
  | @removeFile k K K' hk _ ih =>
    intro w Mu hown hinv habs w1 hRC
    obtain ⟨M1, rfl, he, ho⟩ := hRC Mu hown
    have hown1 := hown.setHead M1
    have hinv1 := hinv.step he ho
    have ha := habs _ (RC.abs hspecu hspec hown hRC)
    rw [Vfs.run_removeFile (absW_mem (OWN.hu hown1) hspecu) k,
      removeFile_shift (renderC bu) M1 hk] at ha
    simp only at ha
    rw [← absW_set _ _ hspecu] at ha
    rw [Vfs.run_removeFile (OWN.hu hown1) (renderC bu ++ k)]
    have ho2 : Out bu M1 (Mem.removeFile M1 (renderC bu ++ k)).2 := by
      intro k' hk'
      exact touch_removeFile M1 _ k' (by
        intro h'; rw [h', stripP_append _ _ hk] at hk'; cases hk')
    have hstep := RC.of_abs hspecu hspec hown1 ho2 ha.1
    have he2 := abs_evolve hspecu hspec hown1 ha.1
    exact ⟨hstep, ih _ _ _ (hown1.setHead _) (hinv1.step he2 ho2) ha.2⟩
  | @stutter j K t' h1 h2 _ ih =>
    intro w Mu hown hinv habs w1 hRC
    obtain ⟨M1, rfl, he, ho⟩ := hRC Mu hown
    have hown1 := hown.setHead M1
    have hinv1 := hinv.step he ho
    have hR' := RC.abs hspecu hspec hown hRC
    rw [Vfs.run_createDir (OWN.hu hown1) (renderC (bu.take j)), createDir_base hbu hinv1 j h1 h2]
    simp only
    rw [(OWN.hu hown1).same]
    exact ⟨RC.refl _, ih _ M1 hown1 hinv1 (wpR_stable hT _ _ _ _ habs hR')⟩

end transfer
end Vfs.SConc
