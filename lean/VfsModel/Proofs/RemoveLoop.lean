/-
  The recursion of `VfsPath::remove_dir_all` (`VPath.removeDirAll` / `removeChildren`,
  VfsModel/PathOps.lean) over any filesystem. The caller brings the tree `m` the filesystem showed
  at the start, an invariant `J w G` (`G`: the keys removed so far) and what the five calls do at a
  key of `m` outside `G` (`Setting`); `removeDirAll_run` then removes exactly the keys of `m` at or
  below a directory. `leaf_removeDirAll` is the instance of a memory or physical leaf (`LeafAt`).
-/
import VfsModel.Proofs.WalkLemmas
import VfsModel.Proofs.LeafRun
namespace Vfs.RemoveLoop
open Vfs.Wk

/-- `fuel` exceeds the height of the tree of DIRECTORIES at `x` -/
def Fits (m : FMap) : Nat → Str → Prop
  | 0, _ => False
  | n + 1, x => ∀ c ∈ children m x, ∀ e, m.find? c = some e → e.ftype = .dir → Fits m n c

/-- the present keys at or below `x` -/
def Sub (m : FMap) (x k : Str) : Prop := within x k = true ∧ ∃ e, m.find? k = some e

theorem sub_file {m : FMap} (hwf : WF m) {x : Str} {e : Entry} (hx : m.find? x = some e)
    (hf : e.ftype = .file) (k : Str) : Sub m x k ↔ k = x := by
  constructor
  · rintro ⟨hw, hk⟩
    rcases (within_iff x k).1 hw with h | h
    · exact h
    · rw [nothing_below_file hwf hx (by rw [hf]; decide) hk] at h; cases h
  · rintro rfl; exact ⟨within_self _, e, hx⟩

theorem sub_children {m : FMap} (hwf : WF m) (d k : Str) :
    (∃ c ∈ children m d, Sub m c k) ↔ (below d k = true ∧ ∃ e, m.find? k = some e) := by
  constructor
  · rintro ⟨c, hc, hcw, hk⟩
    exact ⟨below_of_below_within (child_below hc) hcw, hk⟩
  · rintro ⟨hb, hk⟩
    obtain ⟨c, hc, hcw⟩ := below_via_child hwf d k.length k (Nat.le_refl _) hk hb
    exact ⟨c, hc, hcw, hk⟩

theorem sub_dir {m : FMap} (hwf : WF m) {x : Str} {e : Entry} (hx : m.find? x = some e) (k : Str) :
    Sub m x k ↔ (k = x ∨ ∃ c ∈ children m x, Sub m c k) := by
  rw [sub_children hwf]
  constructor
  · rintro ⟨hw, hk⟩
    exact ((within_iff x k).1 hw).imp id fun h => ⟨h, hk⟩
  · rintro (rfl | ⟨hb, hk⟩)
    · exact ⟨within_self _, e, hx⟩
    · exact ⟨within_of_below hb, hk⟩

/-- The root is never asked about (`x ≠ []`): on a memory leaf `remove_dir` of the root succeeds
and leaves a map that is not well-formed, which no invariant survives. -/
structure Setting (P : VPath) (m : FMap) (J : World → (Str → Prop) → Prop) : Prop where
  wf : WF m
  congr : ∀ w G G', J w G → (∀ k, G' k ↔ G k) → J w G'
  exists_ : ∀ w G x e, J w G → m.find? x = some e → x ≠ [] → ¬ G x →
    (P.withStr x).exists_ w = (.ok true, w)
  mdata : ∀ w G x e, J w G → m.find? x = some e → x ≠ [] → ¬ G x →
    ∃ md, (P.withStr x).metadata w = (.ok md, w) ∧ md.ftype = e.ftype
  listing : ∀ w G d e, J w G → m.find? d = some e → e.ftype = .dir → d ≠ [] → ¬ G d →
    ∃ l : List Str, (P.withStr d).readDir w = (.ok (l.map P.withStr), w) ∧ l.Nodup ∧
      ∀ k, k ∈ l ↔ (k ∈ children m d ∧ ¬ G k)
  rmFile : ∀ w G x e, J w G → m.find? x = some e → e.ftype = .file → x ≠ [] → ¬ G x →
    ∃ w', (P.withStr x).removeFile w = (.ok (), w') ∧ J w' (fun k => G k ∨ k = x)
  rmDir : ∀ w G d e, J w G → m.find? d = some e → e.ftype = .dir → d ≠ [] → ¬ G d →
    (∀ c ∈ children m d, G c) →
    ∃ w', (P.withStr d).removeDir w = (.ok (), w') ∧ J w' (fun k => G k ∨ k = d)

/-- what `remove_dir_all fuel` does on a directory none of whose keys is removed yet -/
def RDA (P : VPath) (m : FMap) (J : World → (Str → Prop) → Prop) (fuel : Nat) : Prop :=
  ∀ (w : World) (G : Str → Prop) (x : Str) (e : Entry), J w G → m.find? x = some e →
    e.ftype = .dir → x ≠ [] → (∀ k, Sub m x k → ¬ G k) → Fits m fuel x →
    ∃ w', VPath.removeDirAll fuel (P.withStr x) w = (.ok (), w') ∧ J w' (fun k => G k ∨ Sub m x k)

theorem child_ne_nil {m : FMap} {d c : Str} (hc : c ∈ children m d) : c ≠ [] := by
  rintro rfl
  have := ((Wk.mem_children m d []).1 hc).2.1
  cases this

theorem removeChildren_file {fuel : Nat} {c : VPath} {w w1 : World} {md : Meta}
    (hmd : c.metadata w = (.ok md, w)) (hft : md.ftype = .file)
    (hrun : c.removeFile w = (.ok (), w1)) (rest : List VPath) :
    VPath.removeChildren fuel (c :: rest) w = VPath.removeChildren fuel rest w1 := by
  rw [VPath.removeChildren.eq_2]
  simp only [bind, M.bind, hmd, hft, hrun]

theorem removeChildren_dir {fuel : Nat} {c : VPath} {w w1 : World} {md : Meta}
    (hmd : c.metadata w = (.ok md, w)) (hft : md.ftype = .dir)
    (hrun : VPath.removeDirAll fuel c w = (.ok (), w1)) (rest : List VPath) :
    VPath.removeChildren fuel (c :: rest) w = VPath.removeChildren fuel rest w1 := by
  rw [VPath.removeChildren.eq_2]
  simp only [bind, M.bind, hmd, hft, hrun]

section rule
variable {P : VPath} {m : FMap} {J : World → (Str → Prop) → Prop} (h : Setting P m J)
include h

/-- the loop over listed children, given the recursion with the same fuel -/
theorem removeChildren_run (fuel : Nat) (hR : RDA P m J fuel) (d : Str) :
    ∀ (l : List Str) (w : World) (G : Str → Prop), J w G → l.Nodup →
      (∀ c ∈ l, c ∈ children m d) → (∀ c ∈ l, ∀ k, Sub m c k → ¬ G k) →
      (∀ c ∈ l, ∀ e, m.find? c = some e → e.ftype = .dir → Fits m fuel c) →
      ∃ w', VPath.removeChildren fuel (l.map P.withStr) w = (.ok (), w') ∧
        J w' (fun k => G k ∨ ∃ c ∈ l, Sub m c k) := by
  intro l
  induction l with
  | nil =>
    intro w G hJ _ _ _ _
    exact ⟨w, by rw [List.map_nil, VPath.removeChildren.eq_1]; rfl,
      h.congr w _ _ hJ fun k => ⟨fun hk => hk.elim id (fun ⟨c, hc, _⟩ => nomatch hc), Or.inl⟩⟩
  | cons c rest ih =>
    intro w G hJ hnd hch hlive hfit
    obtain ⟨hcn, hndr⟩ := List.nodup_cons.1 hnd
    have hcc := hch c (by simp)
    obtain ⟨ec, hec⟩ := ((Wk.mem_children m d c).1 hcc).1
    have hGc : ¬ G c := hlive c (by simp) c ⟨within_self c, ec, hec⟩
    obtain ⟨md, hmd, hft⟩ := h.mdata w G c ec hJ hec (child_ne_nil hcc) hGc
    -- the first child's subtree goes …
    obtain ⟨w1, hrun1, hJ1⟩ : ∃ w1, (∀ l, VPath.removeChildren fuel (P.withStr c :: l) w =
          VPath.removeChildren fuel l w1) ∧ J w1 (fun k => G k ∨ Sub m c k) := by
      cases hfe : ec.ftype with
      | file =>
        obtain ⟨w1, hr, hJ1⟩ := h.rmFile w G c ec hJ hec hfe (child_ne_nil hcc) hGc
        exact ⟨w1, removeChildren_file hmd (hft.trans hfe) hr,
          h.congr w1 _ _ hJ1 fun k => by rw [sub_file h.wf hec hfe k]⟩
      | dir =>
        obtain ⟨w1, hr, hJ1⟩ := hR w G c ec hJ hec hfe (child_ne_nil hcc) (hlive c (by simp))
          (hfit c (by simp) ec hec hfe)
        exact ⟨w1, removeChildren_dir hmd (hft.trans hfe) hr, hJ1⟩
    -- … then the rest, whose subtrees are apart from it
    obtain ⟨w2, hrun2, hJ2⟩ := ih w1 _ hJ1 hndr (fun c' hc' => hch c' (by simp [hc']))
      (fun c' hc' k hk => by
        rintro (hg | hs)
        · exact hlive c' (by simp [hc']) k hk hg
        · have hne : c ≠ c' := fun h0 => hcn (h0 ▸ hc')
          rcases within_comparable hs.1 hk.1 with h0 | h0
          · rw [siblings_apart hcc (hch c' (by simp [hc'])) hne] at h0; cases h0
          · rw [siblings_apart (hch c' (by simp [hc'])) hcc (Ne.symm hne)] at h0; cases h0)
      (fun c' hc' => hfit c' (by simp [hc']))
    refine ⟨w2, ?_, h.congr w2 _ _ hJ2 fun k => ?_⟩
    · rw [List.map_cons, hrun1]
      exact hrun2
    · simp only [List.mem_cons, or_and_right, exists_or, exists_eq_left, or_assoc]

theorem rda_succ (fuel : Nat) (hR : RDA P m J fuel) : RDA P m J (fuel + 1) := by
  intro w G x e hJ hx hd hne hlive hfit
  have hGx : ¬ G x := hlive x ⟨within_self x, e, hx⟩
  obtain ⟨l, hrd, hnd, hmem⟩ := h.listing w G x e hJ hx hd hne hGx
  have hch : ∀ c ∈ l, c ∈ children m x := fun c hc => ((hmem c).1 hc).1
  have hsub : ∀ c ∈ children m x, ∀ k, Sub m c k → Sub m x k := fun c hc k hk =>
    (sub_dir h.wf hx k).2 (Or.inr ⟨c, hc, hk⟩)
  obtain ⟨w1, hrun1, hJ1⟩ := removeChildren_run h fuel hR x l w G hJ hnd hch
    (fun c hc k hk => hlive k (hsub c (hch c hc) k hk)) (fun c hc => hfit c (hch c hc))
  have hall : ∀ c ∈ children m x, c ∈ l := fun c hc => (hmem c).2
    ⟨hc, hlive c (hsub c hc c ⟨within_self c, ((Wk.mem_children m x c).1 hc).1⟩)⟩
  obtain ⟨w2, hrun2, hJ2⟩ := h.rmDir w1 _ x e hJ1 hx hd hne
    (by
      rintro (hg | ⟨c, hc, hs, _⟩)
      · exact hGx hg
      · have := within_length hs
        have := below_length (child_below (hch c hc))
        omega)
    (fun c hc => Or.inr ⟨c, hall c hc, within_self c, ((Wk.mem_children m x c).1 hc).1⟩)
  refine ⟨w2, ?_, h.congr w2 _ _ hJ2 fun k => ?_⟩
  · rw [VPath.removeDirAll.eq_2]
    simp only [bind, M.bind, h.exists_ w G x e hJ hx hne hGx, Bool.not_true, Bool.false_eq_true,
      if_false, hrd, hrun1, hrun2]
  · rw [sub_dir h.wf hx k]
    constructor
    · rintro (hg | rfl | ⟨c, hc, hs⟩)
      · exact Or.inl (Or.inl hg)
      · exact Or.inr rfl
      · exact Or.inl (Or.inr ⟨c, hall c hc, hs⟩)
    · rintro ((hg | ⟨c, hc, hs⟩) | rfl)
      · exact Or.inl hg
      · exact Or.inr (Or.inr ⟨c, hch c hc, hs⟩)
      · exact Or.inr (Or.inl rfl)

theorem removeDirAll_run : ∀ fuel, RDA P m J fuel := by
  intro fuel
  induction fuel with
  | zero => intro _ _ _ _ _ _ _ _ _ hf; exact hf.elim
  | succ fuel ih => exact rda_succ h fuel ih

end rule

/-- a bound on the length of the keys is a bound on the height -/
theorem fits_of_length {m : FMap} : ∀ (fuel : Nat) (x : Str), (∃ e, m.find? x = some e) →
    (∀ k e, m.find? k = some e → k.length < x.length + fuel) → Fits m fuel x := by
  intro fuel
  induction fuel with
  | zero => intro x ⟨e, hx⟩ hb; have := hb x e hx; omega
  | succ fuel ih =>
    intro x _ hb c hc ec hec _
    refine ih c ⟨ec, hec⟩ fun k e hk => ?_
    have := hb k e hk
    have := below_length (child_below hc)
    omega

/-! ### a leaf of either kind -/

section leaf
variable (i id : Nat) (kd : LeafKind) (w0 : World) (m : FMap)

/-- leaf `i` holds `m` without the removed keys, the rest of the world is as in `w0` -/
def LeafRm (w : World) (G : Str → Prop) : Prop :=
  ∃ mc, w = w0.setLeafFiles i mc ∧ LeafAt w i kd mc ∧ WF mc ∧ FMap.NodupKeys mc ∧
    (∀ k, G k → mc.find? k = none) ∧ ∀ k, ¬ G k → mc.find? k = m.find? k

/-- erasing a key that has no child left -/
theorem LeafRm.erase {w : World} {G : Str → Prop} {mc : FMap} (x : Str)
    (hw : w = w0.setLeafFiles i mc) (hl : LeafAt w i kd mc) (hwf : WF mc)
    (hnd : FMap.NodupKeys mc) (hg : ∀ k, G k → mc.find? k = none)
    (hs : ∀ k, ¬ G k → mc.find? k = m.find? k) (hx : x ≠ [])
    (hc : ∀ k e, mc.find? k = some e → k ≠ [] → parentInternal k ≠ x) :
    LeafRm i kd w0 m (w.setLeafFiles i (mc.erase x)) (fun k => G k ∨ k = x) := by
  refine ⟨mc.erase x, by rw [hw, World.setLeafFiles_twice], hl.set _,
    hwf.erase_childless x hx hc, FMap.nodup_erase _ _ hnd, fun k hk => ?_, fun k hk => ?_⟩
  · rw [FMap.find?_erase]
    split
    · rfl
    · exact hg k (hk.resolve_right ‹_›)
  · rw [FMap.find?_erase, if_neg (fun h0 => hk (Or.inr h0))]
    exact hs k (fun h0 => hk (Or.inl h0))

variable {i kd}

theorem vreadDir_children {w : World} {mc : FMap} (hl : LeafAt w i kd mc) (hwf : WF mc) {d : Str}
    {e : Entry} (hd : mc.find? d = some e) (hdir : e.ftype = .dir) :
    (mk i id d).readDir w = (.ok ((children mc d).map (mk i id)), w) := by
  rw [mk, hl.vreadDir_dir id hwf hd hdir, children, List.map_map]
  rfl

variable {id w0 m}

theorem leaf_setting (hwf : WF m) : Setting (mk i id []) m (LeafRm i kd w0 m) where
  wf := hwf
  congr w G G' := fun ⟨mc, a, b, c, d, e, f⟩ hp =>
    ⟨mc, a, b, c, d, fun k hk => e k ((hp k).1 hk), fun k hk => f k (fun h0 => hk ((hp k).2 h0))⟩
  exists_ w G x e := fun ⟨mc, _, hl, hwfc, _, _, hs⟩ hx _ hG =>
    hl.vexists_present id hwfc ((hs x hG).trans hx)
  mdata w G x e := fun ⟨mc, _, hl, hwfc, _, _, hs⟩ hx _ hG =>
    hl.vmetadata_present id hwfc ((hs x hG).trans hx)
  listing w G d e := fun ⟨mc, _, hl, hwfc, hnd, hg, hs⟩ hd hdir _ hG => by
    refine ⟨children mc d, vreadDir_children id hl hwfc ((hs d hG).trans hd) hdir,
      children_nodup mc hnd d, fun k => ?_⟩
    rw [Wk.mem_children, Wk.mem_children]
    constructor
    · rintro ⟨⟨ek, hek⟩, h2⟩
      have hGk : ¬ G k := fun h0 => by rw [hg k h0] at hek; cases hek
      exact ⟨⟨⟨ek, (hs k hGk).symm.trans hek⟩, h2⟩, hGk⟩
    · rintro ⟨⟨⟨ek, hek⟩, h2⟩, hGk⟩
      exact ⟨⟨ek, (hs k hGk).trans hek⟩, h2⟩
  rmFile w G x e := fun ⟨mc, hw, hl, hwfc, hnd, hg, hs⟩ hx hf hne hG => by
    have hxc : mc.find? x = some e := (hs x hG).trans hx
    refine ⟨_, hl.vremoveFile_file id hwfc hxc hf, LeafRm.erase i kd w0 m x hw hl hwfc hnd hg hs hne ?_⟩
    exact hwfc.no_child_of_nondir x fun e' he' => by
      rw [hxc] at he'; cases he'; exact hf
  rmDir w G d e := fun ⟨mc, hw, hl, hwfc, hnd, hg, hs⟩ hd hdir hne hG hall => by
    -- a child of `d` still present would be a child in `m` that is not removed
    have hno : ∀ k ek, mc.find? k = some ek → k ≠ [] → parentInternal k ≠ d := by
      intro k ek hek hk hpar
      have hGk : ¬ G k := fun h0 => by rw [hg k h0] at hek; cases hek
      exact hGk (hall k ((Wk.mem_children m d k).2
        ⟨⟨ek, (hs k hGk).symm.trans hek⟩, (hwfc.2 k ek hek hk).1, hpar⟩))
    have hempty : children mc d = [] := by
      apply List.eq_nil_iff_forall_not_mem.2
      intro k hk
      obtain ⟨⟨ek, hek⟩, _, hpar⟩ := (Wk.mem_children mc d k).1 hk
      exact hno k ek hek (child_ne_nil hk) hpar
    exact ⟨_, hl.vremoveDir_empty id hwfc ((hs d hG).trans hd) hdir (List.map_eq_nil_iff.1 hempty),
      LeafRm.erase i kd w0 m d hw hl hwfc hnd hg hs hne hno⟩

/-- the map a removal leaves, when the keys gone are the present keys of a set `D` -/
theorem find_of_gone {m mc : FMap} {G : Str → Prop} {D : Str → Bool}
    (hg : ∀ k, G k → mc.find? k = none) (hs : ∀ k, ¬ G k → mc.find? k = m.find? k)
    (hG : ∀ k, G k ↔ (D k = true ∧ ∃ e, m.find? k = some e)) (k : Str) :
    mc.find? k = if D k then none else m.find? k := by
  cases hD : D k with
  | false => exact hs k fun h0 => by rw [((hG k).1 h0).1] at hD; cases hD
  | true =>
    rw [if_pos rfl]
    cases hf : m.find? k with
    | some e => exact hg k ((hG k).2 ⟨hD, e, hf⟩)
    | none =>
      rw [hs k fun h0 => by obtain ⟨_, e, he⟩ := (hG k).1 h0; rw [hf] at he; cases he]
      exact hf

variable (id)

/-- `remove_dir_all` of a directory `x` of a leaf: the map without the keys at or below `x` -/
theorem leaf_removeDirAll (fuel : Nat) {x : Str} {e : Entry} (hl : LeafAt w0 i kd m) (hwf : WF m)
    (hnd : FMap.NodupKeys m) (hx : x ≠ []) (he : m.find? x = some e) (hd : e.ftype = .dir)
    (hb : ∀ k e', m.find? k = some e' → k.length < x.length + fuel) :
    ∃ m', VPath.removeDirAll fuel (mk i id x) w0 = (.ok (), w0.setLeafFiles i m') ∧ WF m' ∧
      FMap.NodupKeys m' ∧ ∀ k, m'.find? k = if within x k then none else m.find? k := by
  obtain ⟨w', hrun, mc, hw, _, hwf', hnd', hg, hs⟩ :=
    removeDirAll_run (leaf_setting (id := id) (w0 := w0) hwf) fuel w0 (fun _ => False) x e
      ⟨m, hl.same.symm, hl, hwf, hnd, fun _ h => h.elim, fun _ _ => rfl⟩ he hd hx
      (fun _ _ h => h) (fits_of_length fuel x ⟨e, he⟩ hb)
  exact ⟨mc, hw ▸ hrun, hwf', hnd',
    find_of_gone hg hs fun k => ⟨fun h0 => h0.elim False.elim fun h => h, Or.inr⟩⟩

/-- the loop of `remove_dir_all` over the listing of `d`, the root included: the map without the
keys strictly below `d` -/
theorem leaf_removeChildren (fuel : Nat) {d : Str} (hl : LeafAt w0 i kd m) (hwf : WF m)
    (hnd : FMap.NodupKeys m) (hb : ∀ k e', m.find? k = some e' → k.length < d.length + 1 + fuel) :
    ∃ m', VPath.removeChildren fuel ((children m d).map (mk i id)) w0 =
        (.ok (), w0.setLeafFiles i m') ∧ WF m' ∧ FMap.NodupKeys m' ∧
      ∀ k, m'.find? k = if below d k then none else m.find? k := by
  have hS := leaf_setting (i := i) (id := id) (kd := kd) (w0 := w0) hwf
  obtain ⟨w', hrun, mc, hw, _, hwf', hnd', hg, hs⟩ :=
    removeChildren_run hS fuel (removeDirAll_run hS fuel) d (children m d) w0 (fun _ => False)
      ⟨m, hl.same.symm, hl, hwf, hnd, fun _ h => h.elim, fun _ _ => rfl⟩
      (children_nodup m hnd d) (fun _ hc => hc) (fun _ _ _ _ h => h)
      (fun c hc ec hec _ => fits_of_length fuel c ⟨ec, hec⟩ fun k e' hk => by
        have := hb k e' hk
        have := below_length (child_below hc)
        omega)
  exact ⟨mc, hw ▸ hrun, hwf', hnd', find_of_gone hg hs fun k =>
    ⟨fun h0 => h0.elim False.elim (sub_children hwf d k).1,
      fun h0 => Or.inr ((sub_children hwf d k).2 h0)⟩⟩

end leaf

end Vfs.RemoveLoop
