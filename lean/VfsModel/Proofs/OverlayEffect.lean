/-
  What a mutator of the overlay does to the UPPER map (setting and pure functions `pEnsureN`, `pClear`,
  `pAddWhiteout`, `pCreateDirN`, `pCreateFileN`, `pRemoveFileN`, `pRemoveDirN`, `pAppendN`:
  Proofs/OverlayLemmas.lean, OverlayNLemmas.lean, OverlayNRemoveLemmas.lean, which also relate them to
  the code, `run_*N`). For every one of these functions, five kinds of statement; the theorems about
  the overlay (C09N, C10N, the contract, C17Overlay, C19History*) go through these and do not unfold
  the functions:

  * BRANCHES AND REFUSALS: the function under the hypothesis that selects a branch —
    `pEnsureN_absent/_notDir/_dir/_cases` (Proofs/OverlayNLemmas.lean), `pClear_unmarked`,
    `pClear_of_marked` (Proofs/OverlayLemmas.lean), next to the definitions;
    `pCreateDirN_no_parent/_occupied/_free` (+ `pCreateTail_dirExists`),
    `pCreateFileN_no_parent/_refused`; `pRemoveFileN_absent`, `pRemoveDirN_absent/_file/_nonempty`,
    `pRemoveTail_refused`; `pAppendN_upper/_no_parent/_absent/_notFile`, `pAppendN_copyUp`;
  * SUCCEEDS-IF, as a term: `pRemoveTail_of_step` (the marker written into what the memory layer
    left; `pRemoveTail_ok_of`, `pRemoveTail_upper`, `C10.pRemoveFileN_ok_of`), `pCreateDirN_eq_clear` /
    `pCreateFileN_eq_clear` (`clear_whiteout` of the map with the entry put in; `eq_clear_ok`,
    `pCreateFileN_unmarked`, `C10.pClear_marked`, `C10.pCreate*N_marked`). The local
    conditions are the root of the upper map in order (`RootOk`), the ancestors directories of the
    view (`AncDirsN`), and no file where the bookkeeping needs a directory; they are taken one by one
    because a creation needs only the first two and a removal only the first and the third.
    `C10.DirInv` names the three together for the composed theorem of Props/C10N.lean, which has
    all of them;
  * CLOSED FORM (`*_ok_find`): the upper map after a successful run, key by key —
    `pRemoveTail_ok_find` (both removals: `p` out, "/.whiteout/<ancestors>" filled in, an empty file
    as the marker; `C10.OnlyMarkerAdded`, `C10.tail_result`, `C10.pRemoveFileN_result`,
    `C10.pRemoveDirN_result` are its readings), `pCreateDirN_ok_find`, `pCreateFileN_ok_find`
    (ancestors filled in, the fresh entry at `p`, the marker gone);
  * KEEPS (`*_keeps`): whatever the outcome, which keys of the upper map survive (with the
    two-layer `pRemoveFile` / `pRemoveDir` as instances, and `run_oremoveDirN_any`: the same for
    `remove_dir` on the world);
  * WELL-FORMED (`C09.wf_p*N`): whatever the outcome, the upper map stays `WF`.

  Namespaces, in this order in the file: `Vfs.C10` — facts about keys (which rendered paths differ, which
  lie in a chain of ancestors) and `DirInv`; `Vfs` — everything listed above without a prefix;
  `Vfs.C10` again — `OnlyMarkerAdded` and the results stated with it, the `_marked` forms; `Vfs.C09` —
  the `wf_` family. The facts about the path layer of one memory map (`Mem.pRemoveFile_file`,
  `Mem.pCreateDir_fresh`, `Mem.pOpenW_fresh`, `Mem.pRemoveDir_childless`, the graphs) are in
  Proofs/OverlayLemmas.lean.
-/
import VfsModel.Proofs.OverlayNRemoveLemmas
namespace Vfs.C10
open Vfs Vfs.Overlay

/-- a canonical path among the ancestors-or-self of `renderC ds` is a nonempty prefix of `ds` -/
theorem take_of_mem_chain {xs ds : List Str} (hx : ∀ c ∈ xs, '/' ∉ c) (hds : ∀ c ∈ ds, '/' ∉ c)
    (h : renderC xs ∈ chain [] ds) : ∃ j, 1 ≤ j ∧ j ≤ ds.length ∧ xs = ds.take j := by
  obtain ⟨j, h1, h2, he⟩ := (mem_chain [] ds _).1 h
  simp only [List.nil_append] at he
  exact ⟨j, h1, h2, C06.renderC_injective xs (ds.take j) hx
    (fun c hc => hds c (List.mem_of_mem_take hc)) he⟩

theorem noSlash_wo {ds : List Str} (hds : ∀ c ∈ ds, '/' ∉ c) : ∀ c ∈ woDir :: ds, '/' ∉ c :=
  List.forall_mem_cons.2 ⟨goodComp_woDir.noSlash, hds⟩

/-- `read_dir` on a non-root directory of the view returns the merged listing -/
theorem pReadDirN_dir {all : List FMap} {p : Str} {e : Entry} (hp : p ≠ [])
    (hv : viewN all p = some e) (hd : e.ftype = .dir) :
    pReadDirN all p = .ok (pListingN all p) := by
  unfold pReadDirN dirEntryN
  rw [if_neg hp, hv]
  exact if_pos hd

theorem renderC_not_in_chain (xs ds : List Str) (hx : ∀ c ∈ xs, '/' ∉ c)
    (hds : ∀ c ∈ ds, '/' ∉ c) (hlen : ds.length < xs.length) : renderC xs ∉ chain [] ds := by
  intro hk
  obtain ⟨j, _, h2, he⟩ := take_of_mem_chain hx hds hk
  have hl := congrArg List.length he
  simp at hl
  omega

/-- `add_whiteout(p)` as a term. It is `create_dir_all` of the bookkeeping directories, then
`create_file(marker p)` whose handle is dropped at once: `create_file` puts in `fileEntryNow`
(`insert`), and the drop publishes the handle's empty buffer over it (`memPublish … []`), which only
stamps `modified`. Hence the shape `memPublish (….insert mk fileEntryNow) mk []` wherever the upper
map after a removal is written as a term. -/
theorem pAddWhiteout_result (m : FMap) (ds : List Str) (n : Str)
    (hds : ∀ c ∈ ds, GoodComp c) (hn : GoodComp n)
    (hrootdir : ∃ e, m.find? [] = some e ∧ e.ftype = .dir)
    (hdirs : ∀ k ∈ chain [] (woDir :: ds), ∀ e, m.find? k = some e → e.ftype = .dir)
    (hnm : m.find? (marker (renderC (ds ++ [n]))) = none) :
    pAddWhiteout m (ds ++ [n]) =
      (.ok (), memPublish ((fillDirs m (chain [] (woDir :: ds))).insert
        (marker (renderC (ds ++ [n]))) fileEntryNow) (marker (renderC (ds ++ [n]))) []) := by
  have hds' : ∀ c ∈ woDir :: ds, GoodComp c := List.forall_mem_cons.2 ⟨goodComp_woDir, hds⟩
  have hn' := goodComp_wo hn
  obtain ⟨e0, he0, hd0⟩ := hrootdir
  have hmk := mkdirs_chain m [] (woDir :: ds) (by simp) (good_noSlash hds')
    ⟨e0, he0, hd0⟩ hdirs
  have hmr : marker (renderC (ds ++ [n])) = renderC ((woDir :: ds) ++ [n ++ woSuffix]) :=
    marker_renderC ds n
  have hpar := parentOk_fillDirs_gen (n := n ++ woSuffix) ⟨e0, he0, hd0⟩ hds' hn' hdirs
  have hfind := find?_snoc_fillDirs (mu := m) hds' hn' [] (Or.inl rfl)
  simp only [List.append_nil] at hfind
  rw [← hmr] at hpar hfind
  have hcreate := Mem.createFile_fresh (fillDirs m (chain [] (woDir :: ds)))
    (marker (renderC (ds ++ [n]))) (by rw [hmr]; exact slash_mem_renderC (by simp))
    hpar (by rw [hfind]; exact hnm)
  unfold pAddWhiteout
  rw [List.dropLast_concat, hmk]
  simp only [andThen, Mem.pTouch, hpar, if_true, hcreate]

theorem chain_wo_head (xs ds : List Str) (hx : ∀ c ∈ xs, '/' ∉ c) (hds : ∀ c ∈ ds, '/' ∉ c)
    (h : renderC xs ∈ chain [] (woDir :: ds)) : xs.head? = some woDir := by
  obtain ⟨i, h1, _, he⟩ := take_of_mem_chain hx (noSlash_wo hds) h
  obtain ⟨i', rfl⟩ : ∃ i', i = i' + 1 := ⟨i - 1, by omega⟩
  rw [he]; simp

theorem marker_prefix_not_in_chain (ds : List Str) (hds : ∀ c ∈ ds, GoodComp c) (j : Nat)
    (h1 : 1 ≤ j) (h2 : j ≤ ds.length) :
    marker (renderC (ds.take j)) ∉ chain [] (woDir :: ds) := by
  intro hk
  rcases List.eq_nil_or_concat (ds.take j) with hnil | ⟨ys, y, hy⟩
  · have := congrArg List.length hnil
    rw [List.length_take, List.length_nil] at this; omega
  · rw [List.concat_eq_append] at hy
    have hgood : ∀ c ∈ ys ++ [y], GoodComp c := by
      intro c hc; rw [← hy] at hc; exact hds c (List.mem_of_mem_take hc)
    obtain ⟨hys, hyg⟩ := good_of_snoc hgood
    rw [hy, marker_renderC] at hk
    obtain ⟨i, hi1, hi2, heq⟩ := take_of_mem_chain (good_noSlash (good_markerComps hys hyg))
      (noSlash_wo (good_noSlash hds)) hk
    obtain ⟨i', rfl⟩ : ∃ i', i = i' + 1 := ⟨i - 1, by omega⟩
    simp only [List.take_succ_cons, List.cons.injEq, true_and] at heq
    -- two prefixes of `ds` of the same length
    have hp1 : ys ++ [y ++ woSuffix] <+: ds := by rw [heq]; exact List.take_prefix _ _
    have hp2 : ys ++ [y] <+: ds := by rw [← hy]; exact List.take_prefix _ _
    have hle : (ys ++ [y ++ woSuffix]).length ≤ (ys ++ [y]).length := by simp
    have hpp := List.prefix_of_prefix_length_le hp1 hp2 hle
    have := hpp.eq_of_length (by simp)
    have h3 := List.append_cancel_left this
    simp at h3
    have := congrArg List.length h3
    simp [woSuffix] at this

theorem marker_ne_self (ds : List Str) (n : Str) :
    marker (renderC (ds ++ [n])) ≠ renderC (ds ++ [n]) := marker_ne _

theorem head_ne_of_snoc {ds : List Str} {n c : Str} (h : (ds ++ [n]).head? ≠ some c) :
    ds.head? ≠ some c := by
  cases ds with
  | nil => simp
  | cons d ds => simpa using h

theorem take_head_ne {ds : List Str} {j : Nat} (h1 : 1 ≤ j) (hd : ds.head? ≠ some woDir) :
    (ds.take j).head? ≠ some woDir := by
  cases ds with
  | nil => simp
  | cons d ds =>
    obtain ⟨i, rfl⟩ : ∃ i, j = i + 1 := ⟨j - 1, by omega⟩
    simpa using hd


theorem viewN_congr_upper {mu mu1 : FMap} {ms : List FMap} {q : Str}
    (h1 : mu1.find? q = mu.find? q) (h2 : mu1.find? (marker q) = mu.find? (marker q)) :
    viewN (mu1 :: ms) q = viewN (mu :: ms) q := by
  rw [viewN_cons, viewN_cons, contains_eq_of_find h2]
  simp only [firstN, h1]

theorem self_not_in_wo_chain {cs : List Str} (hcs : ∀ c ∈ cs, GoodComp c)
    (hhead : cs.head? ≠ some woDir) : renderC cs ∉ chain [] (woDir :: cs.dropLast) := fun hk =>
  hhead (chain_wo_head _ _ (good_noSlash hcs)
    (fun c hc => (hcs c (List.dropLast_subset _ hc)).noSlash) hk)

/-- a removal at `ds/n` leaves the root of the upper map in order. `hsuf` excludes a first
component named "_wo": the bookkeeping directory of a top-level directory "/_wo" is
"/.whiteout/_wo", which is also the marker of the root (`rootMarker`), so a removal below "/_wo"
fills in a directory at the root's marker position. -/
theorem rootOk_of_frame {mu mu1 : FMap} {ds : List Str} {n : Str} (hds : ∀ c ∈ ds, GoodComp c)
    (hn : GoodComp n) (hroot : RootOk mu)
    (hhead : (ds ++ [n]).head? ≠ some woDir) (hsuf : ds.head? ≠ some woSuffix)
    (hframe : ∀ k, k ≠ renderC (ds ++ [n]) → k ≠ marker (renderC (ds ++ [n])) →
      k ∉ chain [] (woDir :: ds) → mu1.find? k = mu.find? k) : RootOk mu1 := by
  have hcs := good_snoc hds hn
  have hne : ds ++ [n] ≠ [] := by simp
  have hns := good_noSlash hcs
  have hdns := good_noSlash hds
  obtain ⟨e0, he0, hd0⟩ := hroot.root
  have hpne : renderC (ds ++ [n]) ≠ [] := renderC_ne_nil hne
  constructor
  · refine ⟨e0, ?_, hd0⟩
    rw [hframe [] (fun h' => hpne h'.symm) (by simp [marker])
      (fun hk => by
        obtain ⟨i, h1, _, he⟩ := (mem_chain [] (woDir :: ds) _).1 hk
        obtain ⟨i', rfl⟩ : ∃ i', i = i' + 1 := ⟨i - 1, by omega⟩
        simp at he)]
    exact he0
  · have hrm : rootMarker = renderC [woDir, woSuffix] := by simp [rootMarker]
    have hrns : ∀ c ∈ [woDir, woSuffix], '/' ∉ c := by decide
    rw [contains_eq_of_find (hframe rootMarker ?_ ?_ ?_)]
    · exact hroot.noMark
    · rw [hrm]; intro heq
      have := C06.renderC_injective _ _ hrns hns heq
      apply hhead; rw [← this]; rfl
    · rw [hrm, marker_renderC]; intro heq
      have := C06.renderC_injective _ _ hrns (good_noSlash (good_markerComps hds hn)) heq
      simp only [List.cons.injEq, true_and] at this
      cases ds with
      | nil =>
        exact hn.1 (by simpa using this)
      | cons d ds =>
        have hl := congrArg List.length this
        simp at hl
    · rw [hrm]; intro hk
      obtain ⟨i, hi1, _, this⟩ := take_of_mem_chain hrns (noSlash_wo hdns) hk
      obtain ⟨i', rfl⟩ : ∃ i', i = i' + 1 := ⟨i - 1, by omega⟩
      simp only [List.take_succ_cons, List.cons.injEq, true_and] at this
      apply hsuf
      cases ds with
      | nil => simp at this
      | cons d ds =>
        cases i' with
        | zero => simp at this
        | succ i'' => simp at this; simp [this.1]


/-- the local precondition of an operation on a path below the directory with components `qs`:
the root of the upper map is in order, `qs` and its ancestors are directories of the n-layer view,
and the bookkeeping area "/.whiteout/<qs>" holds no file where a directory is needed -/
structure DirInv (mu : FMap) (ms : List FMap) (qs : List Str) : Prop where
  root : RootOk mu
  anc : AncDirsN (mu :: ms) qs
  woarea : ∀ k ∈ chain [] (woDir :: qs), ∀ e, mu.find? k = some e → e.ftype = .dir

end Vfs.C10

namespace Vfs
open Overlay

/-! ### `add_whiteout`, and the common tail of `remove_file` / `remove_dir` -/

/-- the upper map after a successful `add_whiteout(p)`: the bookkeeping directories are filled in,
and an empty file is the marker -/
theorem pAddWhiteout_ok_find {m m' : FMap} {cs : List Str} (h : pAddWhiteout m cs = (.ok (), m')) :
    ∃ em, em.ftype = .file ∧ em.content = [] ∧ ∀ x, m'.find? x =
      if x = marker (renderC cs) then some em
      else (fillDirs m (chain [] (woDir :: cs.dropLast))).find? x := by
  unfold pAddWhiteout at h
  obtain ⟨_, m1, h1, h2⟩ := andThen_ok h
  rw [mkdirs_ok_eq h1] at h2
  rcases Mem.pTouch_graph (fillDirs m (chain [] (woDir :: cs.dropLast))) (marker (renderC cs)) with
    ⟨em, hf, hc, _, hfind⟩ | ⟨_, hne⟩
  · rw [h2] at hfind; exact ⟨em, hf, hc, hfind⟩
  · rw [h2] at hne; exact absurd rfl hne

/-- the first half of the tail: afterwards the upper map is `mu` without `p` -/
theorem erase_step {f : FMap → Str → Res Unit × FMap} (hf : Mem.Erasing f) {mu m1 : FMap} {p : Str}
    {a : Unit} (h : (if mu.contains p then f mu p else (.ok (), mu)) = (.ok a, m1)) (y : Str) :
    m1.find? y = (mu.erase p).find? y := by
  split at h
  · rcases hf mu p with ⟨_, h0⟩ | ⟨hne, _⟩
    · rw [h] at h0; rw [← h0]
    · rw [h] at hne; exact absurd rfl hne
  · rename_i hc0
    simp only [Prod.mk.injEq, true_and] at h
    rw [← h, FMap.find?_erase]
    split
    · rename_i hy; rw [hy]; exact find?_none_of_not_contains hc0
    · rfl

/-- **the upper map after a successful removal through the overlay**: `p` is out, the bookkeeping
directories "/.whiteout/<ancestors of p>" are filled in, an empty file is the marker of `p` -/
theorem pRemoveTail_ok_find {f : FMap → Str → Res Unit × FMap} (hf : Mem.Erasing f) {mu mu' : FMap}
    {cs : List Str} (h : pRemoveTail f mu cs = (.ok (), mu')) :
    ∃ em, em.ftype = .file ∧ em.content = [] ∧ ∀ x, mu'.find? x =
      if x = marker (renderC cs) then some em
      else (fillDirs (mu.erase (renderC cs)) (chain [] (woDir :: cs.dropLast))).find? x := by
  unfold pRemoveTail at h
  obtain ⟨_, m1, h1, h2⟩ := andThen_ok h
  obtain ⟨em, hft, hc, hfind⟩ := pAddWhiteout_ok_find h2
  refine ⟨em, hft, hc, fun x => ?_⟩
  rw [hfind x, find?_fillDirs, find?_fillDirs, erase_step hf h1]


/-- whatever its outcome, the tail keeps every key of the upper map except `p` -/
theorem pRemoveTail_keeps {f : FMap → Str → Res Unit × FMap} (hf : Mem.Erasing f) {mu : FMap}
    {k : Str} (cs : List Str) (hne : k ≠ renderC cs) (h : mu.contains k = true) :
    (pRemoveTail f mu cs).2.contains k = true := by
  unfold pRemoveTail
  apply andThen_keeps
  · split
    · exact hf.keeps _ hne h
    · exact h
  · intro _ m hm; exact pAddWhiteout_keeps _ hm

/-- a successful `remove_file` ran the tail, on a path of the view -/
theorem pRemoveFileN_ok_tail {mu mu' : FMap} {ms : List FMap} {cs : List Str}
    (h : pRemoveFileN mu ms cs = (.ok (), mu')) :
    (∃ e, viewN (mu :: ms) (renderC cs) = some e) ∧
      pRemoveTail Mem.pRemoveFile mu cs = (.ok (), mu') := by
  rw [pRemoveFileN_eq] at h
  split at h
  · cases h
  · rename_i e he; exact ⟨⟨e, he⟩, h⟩

/-- a successful `remove_dir` ran the tail, on a path of the view whose listing is empty -/
theorem pRemoveDirN_ok_tail {mu mu' : FMap} {ms : List FMap} {cs : List Str}
    (h : pRemoveDirN mu ms cs = (.ok (), mu')) :
    (∃ e, viewN (mu :: ms) (renderC cs) = some e) ∧ pReadDirN (mu :: ms) (renderC cs) = .ok [] ∧
      pRemoveTail Mem.pRemoveDir mu cs = (.ok (), mu') := by
  rw [pRemoveDirN_eq] at h
  split at h
  · cases h
  · rename_i e he
    split at h
    · rename_i l hl
      split at h
      · cases h
      · rename_i hnil; exact ⟨⟨e, he⟩, by rw [hl, Classical.not_not.1 hnil], h⟩
    · cases h
    · cases h

/-- the tail once the memory layer has taken `p` out, or had nothing to take out (`m1` is what it
left): when the root of the upper map is in order, no file sits where the bookkeeping needs a
directory and `p` is not marked yet, the marker is written into `m1` with the bookkeeping
directories filled in -/
theorem pRemoveTail_of_step {f : FMap → Str → Res Unit × FMap} (hf : Mem.Erasing f) {mu m1 : FMap}
    (ds : List Str) (n : Str) (hds : ∀ c ∈ ds, GoodComp c) (hn : GoodComp n) (hroot : RootOk mu)
    (hwoarea : ∀ k ∈ chain [] (woDir :: ds), ∀ e, mu.find? k = some e → e.ftype = .dir)
    (hnm : mu.find? (marker (renderC (ds ++ [n]))) = none)
    (hstep : (if mu.contains (renderC (ds ++ [n])) then f mu (renderC (ds ++ [n]))
      else (.ok (), mu)) = (.ok (), m1)) :
    pRemoveTail f mu (ds ++ [n]) =
      (.ok (), memPublish ((fillDirs m1 (chain [] (woDir :: ds))).insert
        (marker (renderC (ds ++ [n]))) fileEntryNow) (marker (renderC (ds ++ [n]))) []) := by
  have hm1 := erase_step hf hstep
  have hpne : renderC (ds ++ [n]) ≠ [] := renderC_ne_nil (by simp)
  have hres := C10.pAddWhiteout_result m1 ds n hds hn
    (by obtain ⟨e0, he0, hd0⟩ := hroot.root
        exact ⟨e0, by rw [hm1, FMap.find?_erase_ne _ _ _ (Ne.symm hpne)]; exact he0, hd0⟩)
    (by intro k hk e' he'
        rw [hm1, FMap.find?_erase] at he'
        split at he'
        · cases he'
        · exact hwoarea k hk e' he')
    (by rw [hm1, FMap.find?_erase_ne _ _ _ (C10.marker_ne_self ds n)]; exact hnm)
  unfold pRemoveTail; rw [hstep]; exact hres

/-- the tail succeeds under those conditions when the memory layer can take `p` out -/
theorem pRemoveTail_ok_of {f : FMap → Str → Res Unit × FMap} (hf : Mem.Erasing f) {mu : FMap}
    (ds : List Str) (n : Str) (hds : ∀ c ∈ ds, GoodComp c) (hn : GoodComp n) (hroot : RootOk mu)
    (hwoarea : ∀ k ∈ chain [] (woDir :: ds), ∀ e, mu.find? k = some e → e.ftype = .dir)
    (hnm : mu.find? (marker (renderC (ds ++ [n]))) = none)
    (hok : mu.contains (renderC (ds ++ [n])) = true → (f mu (renderC (ds ++ [n]))).1 = .ok ()) :
    ∃ mu', pRemoveTail f mu (ds ++ [n]) = (.ok (), mu') := by
  obtain ⟨m1, hstep⟩ : ∃ m1, (if mu.contains (renderC (ds ++ [n])) then f mu (renderC (ds ++ [n]))
      else (.ok (), mu)) = (.ok (), m1) := by
    split
    · rename_i hc; exact ⟨_, Prod.ext (hok hc) rfl⟩
    · exact ⟨mu, rfl⟩
  exact ⟨_, pRemoveTail_of_step hf ds n hds hn hroot hwoarea hnm hstep⟩

/-- the tail on a path the upper map holds and the memory layer takes out: the new upper map, as a
term -/
theorem pRemoveTail_upper {f : FMap → Str → Res Unit × FMap} (hf : Mem.Erasing f) {mu : FMap}
    (ds : List Str) (n : Str) (hds : ∀ c ∈ ds, GoodComp c) (hn : GoodComp n) (hroot : RootOk mu)
    (hwoarea : ∀ k ∈ chain [] (woDir :: ds), ∀ e, mu.find? k = some e → e.ftype = .dir)
    (hnm : mu.find? (marker (renderC (ds ++ [n]))) = none)
    (hc : mu.contains (renderC (ds ++ [n])) = true)
    (hok : (f mu (renderC (ds ++ [n]))).1 = .ok ()) :
    pRemoveTail f mu (ds ++ [n]) =
      (.ok (), memPublish ((fillDirs (mu.erase (renderC (ds ++ [n]))) (chain [] (woDir :: ds))).insert
        (marker (renderC (ds ++ [n]))) fileEntryNow) (marker (renderC (ds ++ [n]))) []) := by
  refine pRemoveTail_of_step hf ds n hds hn hroot hwoarea hnm ?_
  rw [if_pos hc]
  rcases hf mu (renderC (ds ++ [n])) with ⟨_, h0⟩ | ⟨hne, _⟩
  · exact Prod.ext hok h0
  · exact absurd hok hne

/-- the tail on a path the upper map holds and the memory layer refuses to take out: its refusal,
nothing changed -/
theorem pRemoveTail_refused {f : FMap → Str → Res Unit × FMap} {mu : FMap} {cs : List Str}
    (hc : mu.contains (renderC cs) = true) (hne : (f mu (renderC cs)).1 ≠ .ok ()) :
    pRemoveTail f mu cs = f mu (renderC cs) := by
  unfold pRemoveTail
  rw [if_pos hc]
  rcases hx : f mu (renderC cs) with ⟨r, m⟩
  rw [hx] at hne
  cases r with
  | ok a => exact absurd rfl hne
  | err k q => rfl
  | panic => rfl


/-! ### what the pure functions over n layers keep, whatever their outcome -/

/-- `remove_file(q)` keeps every key of the upper layer except `q` -/
theorem pRemoveFileN_keeps {mu : FMap} {ms : List FMap} {k : Str} (cs : List Str)
    (hne : k ≠ renderC cs) (h : mu.contains k = true) :
    (pRemoveFileN mu ms cs).2.contains k = true := by
  rw [pRemoveFileN_eq]
  split
  · exact h
  · exact pRemoveTail_keeps Mem.erasing_removeFile cs hne h

/-- `remove_dir(q)` keeps every key of the upper layer except `q` -/
theorem pRemoveDirN_keeps {mu : FMap} {ms : List FMap} {k : Str} (cs : List Str)
    (hne : k ≠ renderC cs) (h : mu.contains k = true) :
    (pRemoveDirN mu ms cs).2.contains k = true := by
  rw [pRemoveDirN_eq]
  split
  · exact h
  · split
    · split
      · exact h
      · exact pRemoveTail_keeps Mem.erasing_removeDir cs hne h
    · exact h
    · exact h

theorem pEnsureN_keeps {mu : FMap} {ms : List FMap} {k : Str} (ds : List Str)
    (h : mu.contains k = true) : (pEnsureN (mu :: ms) ds).2.contains k = true := by
  rcases pEnsureN_cases (mu :: ms) ds with he | he <;> rw [he]
  · exact mkdirs_keeps _ h
  · exact h

/-- `create_dir(q)` keeps every key of the upper layer except `marker q` -/
theorem pCreateDirN_keeps {mu : FMap} {ms : List FMap} {k : Str} (cs : List Str)
    (hne : k ≠ marker (renderC cs)) (h : mu.contains k = true) :
    (pCreateDirN mu ms cs).2.contains k = true := by
  unfold pCreateDirN
  apply andThen_keeps _ _ (pEnsureN_keeps _ h)
  intro _ m hm
  split
  · exact hm
  · exact pCreateTail_keeps _ hne hm

/-- `create_file(q)` keeps every key of the upper layer except `marker q` -/
theorem pCreateFileN_keeps {mu : FMap} {ms : List FMap} {k : Str} (cs : List Str)
    (hne : k ≠ marker (renderC cs)) (h : mu.contains k = true) :
    (pCreateFileN mu ms cs).2.contains k = true := by
  unfold pCreateFileN
  apply andThen_keeps _ _ (pEnsureN_keeps _ h)
  intro _ m hm
  apply andThen_keeps _ _ hm
  intro _ _ _
  exact andThen_keeps _ _ (Mem.pOpenW_keeps _ hm) (fun _ m2 hm2 => pClear_keeps _ hne hm2)

theorem Mem.openFile_keeps {m : FMap} {k : Str} (p : Str) (hc : m.contains k = true) :
    (Mem.openFile m p).2.contains k = true := by
  rcases Option.eq_none_or_eq_some (m.find? p) with hf | ⟨e, hf⟩
  · rw [Mem.openFile_none m _ hf]; exact hc
  · rw [Mem.openFile_some m _ e hf]; exact contains_insert_of_contains hc

theorem Mem.pWrite_keeps {m : FMap} {k : Str} (p : Str) (bs : Bytes) (h : m.contains k = true) :
    (Mem.pWrite m p bs).2.contains k = true := by
  unfold Mem.pWrite
  split
  · have := Mem.createFile_keeps p h
    rcases hc : Mem.createFile m p with ⟨r, m'⟩
    rw [hc] at this
    cases r with
    | ok a => exact memPublish_keeps _ _ this
    | err e pth => exact this
    | panic => exact this
  · exact h

/-- `append_file` (copy-up included) keeps every key of the upper map -/
theorem pAppendN_keeps {mu : FMap} {ms : List FMap} {k : Str} (cs : List Str)
    (h : mu.contains k = true) : (pAppendN mu ms cs).2.1.contains k = true := by
  unfold pAppendN
  split
  · exact h
  · have h1 := pEnsureN_keeps (ms := ms) cs.dropLast h
    rcases hE : pEnsureN (mu :: ms) cs.dropLast with ⟨r, mu1⟩
    rw [hE] at h1
    cases r with
    | ok a =>
      dsimp only
      split
      · exact h1
      · split
        · exact Mem.pWrite_keeps _ _ h1
        · exact h1
    | err e q => exact h1
    | panic => exact h1

/-- the copy-up case of `append_file`: the upper map lacks `p`, the view (after
`ensure_has_parent`) shows a file served by a lower layer. The upper map gets one write session
with the served bytes, the serving entry its access stamp, and the handle starts with those bytes -/
theorem pAppendN_copyUp {mu mu1 : FMap} {ms : List FMap} {cs : List Str} {e : Entry} (hne : cs ≠ [])
    (hE : pEnsureN (mu :: ms) cs.dropLast = (.ok (), mu1)) (hup : mu.find? (renderC cs) = none)
    (hv : viewN (mu1 :: ms) (renderC cs) = some e) (hfile : e.ftype = .file)
    (hf1 : mu1.find? (renderC cs) = none) (hpar : Mem.parentOk mu1 (renderC cs) = true) :
    pAppendN mu ms cs = (.ok e.content,
      memPublish (mu1.insert (renderC cs) fileEntryNow) (renderC cs) e.content,
      stampFirst ms (renderC cs)) := by
  have hW : Mem.pWrite mu1 (renderC cs) e.content =
      (.ok (), memPublish (mu1.insert (renderC cs) fileEntryNow) (renderC cs) e.content) := by
    unfold Mem.pWrite
    rw [if_pos hpar, Mem.createFile_fresh mu1 _ (slash_mem_renderC hne) hpar hf1, cursorWrite_nil]
  obtain ⟨e2, he2, hft, hct⟩ := find?_memPublish_self (mu1.insert (renderC cs) fileEntryNow)
    (renderC cs) e.content fileEntryNow (FMap.find?_insert_self _ _ _) rfl
  unfold pAppendN
  rw [if_neg (by rw [contains_of_none hup]; simp), hE]
  simp only [hv]
  rw [if_pos hfile, hW]
  simp only [Res.withPath, thenR, Mem.appendFile, he2, hft, hct, ne_eq, not_true_eq_false, if_false]

/-- a successful `remove_file(p)` only happens on a path of the view -/
theorem pRemoveFileN_ok_view {mu m' : FMap} {ms : List FMap} {cs : List Str}
    (h : pRemoveFileN mu ms cs = (.ok (), m')) : ∃ e, viewN (mu :: ms) (renderC cs) = some e :=
  (pRemoveFileN_ok_tail h).1

/-! what the two-layer `pRemoveFile` / `pRemoveDir` keep and leave, as instances of the above -/

theorem pRemoveFile_keeps {mu ml : FMap} {k : Str} (cs : List Str) (hne : k ≠ renderC cs)
    (h : mu.contains k = true) : (pRemoveFile mu ml cs).2.contains k = true := by
  rw [← pRemoveFileN_two]; exact pRemoveFileN_keeps cs hne h

theorem pRemoveDir_keeps {mu ml : FMap} {k : Str} (cs : List Str) (hne : k ≠ renderC cs)
    (h : mu.contains k = true) : (pRemoveDir mu ml cs).2.contains k = true := by
  rw [← pRemoveDirN_two]; exact pRemoveDirN_keeps cs hne h

/-- a successful `remove_file` leaves the marker, an empty file -/
theorem pRemoveFile_ok {mu ml m' : FMap} {cs : List Str}
    (h : pRemoveFile mu ml cs = (.ok (), m')) :
    ∃ e, m'.find? (marker (renderC cs)) = some e ∧ e.ftype = .file ∧ e.content = [] := by
  rw [← pRemoveFileN_two] at h
  obtain ⟨em, hft, hc, hfind⟩ := pRemoveTail_ok_find Mem.erasing_removeFile (pRemoveFileN_ok_tail h).2
  exact ⟨em, by rw [hfind, if_pos rfl], hft, hc⟩

theorem pRemoveDir_ok {mu ml m' : FMap} {cs : List Str}
    (h : pRemoveDir mu ml cs = (.ok (), m')) :
    ∃ e, m'.find? (marker (renderC cs)) = some e ∧ e.ftype = .file ∧ e.content = [] := by
  rw [← pRemoveDirN_two] at h
  obtain ⟨em, hft, hc, hfind⟩ := pRemoveTail_ok_find Mem.erasing_removeDir (pRemoveDirN_ok_tail h).2.2
  exact ⟨em, by rw [hfind, if_pos rfl], hft, hc⟩

/-! `remove_dir` on the WORLD with no hypothesis on "/.whiteout" (`run_oremoveDirN_any`): the
upper leaf alone changes and the keys survive -/

section runAny
variable {w : World} {u idu : Nat} {mu : FMap} {is ids : List Nat} {ms : List FMap}
  (h : OWN w (u :: is) (idu :: ids) (mu :: ms))
include h

/-- `remove_dir` with no hypothesis on "/.whiteout": it changes the upper leaf only, and keeps
every key of the upper map except the removed path -/
theorem run_oremoveDirN_any (cs : List Str) (hne : cs ≠ []) (hcs : ∀ c ∈ cs, GoodComp c) :
    ∃ r mu', Overlay.removeDir (layersN (u :: is) (idu :: ids)) (renderC cs) w =
        (r, w.setLeafFiles u mu') ∧
      ∀ k, k ≠ renderC cs → mu.contains k = true → mu'.contains k = true := by
  by_cases hwo : ∀ e, mu.find? (woDirOf (renderC cs)) = some e → e.ftype = .dir
  · exact ⟨_, _, run_oremoveDirN h cs hne hcs hwo, fun k hk hc => pRemoveDirN_keeps cs hk hc⟩
  · -- the listing fails, nothing changes
    obtain ⟨e, he, hfl⟩ := woDir_file_of_not _ hwo
    obtain ⟨hw, hnok⟩ := run_oreadDirN_woFile h cs hcs e he hfl
    suffices hs : (Overlay.removeDir (layersN (u :: is) (idu :: ids)) (renderC cs) w).2 = w from
      ⟨_, mu, Prod.ext rfl (by rw [h.hu.same]; exact hs), fun k _ hc => hc⟩
    unfold Overlay.removeDir
    rw [run_readPath_thenN h cs hne hcs]
    cases viewN (mu :: ms) (renderC cs) with
    | none => rfl
    | some _ =>
      simp only [bind, M.bind]
      cases hr : Overlay.readDir (layersN (u :: is) (idu :: ids)) (renderC cs) w with
      | mk r w1 =>
        rw [hr] at hw hnok
        cases r with
        | ok a => cases hnok
        | err k pth => exact hw
        | panic => exact hw

end runAny

/-! ### `ensure_has_parent`, `clear_whiteout`, `create_dir`, `create_file` -/

/-- a successful `ensure_has_parent` has filled in the ancestors, nothing else -/
theorem pEnsureN_ok_eq {mu mu1 : FMap} {ms : List FMap} {ds : List Str}
    (h : pEnsureN (mu :: ms) ds = (.ok (), mu1)) : mu1 = fillDirs mu (chain [] ds) := by
  rcases pEnsureN_cases (mu :: ms) ds with he | he <;> rw [he] at h
  · exact mkdirs_ok_eq h
  · cases h

/-- after a successful `clear_whiteout(p)` the marker of `p` is gone and nothing else changed -/
theorem pClear_ok_find {m m' : FMap} {p : Str} (h : pClear m p = (.ok (), m')) (x : Str) :
    m'.find? x = if x = marker p then none else m.find? x := by
  cases hc : m.contains (marker p)
  · rw [pClear_unmarked hc] at h
    simp only [Prod.mk.injEq, true_and] at h
    rw [← h]
    split
    · rename_i hx; rw [hx]; exact find?_none_of_not_contains (by rw [hc]; simp)
    · rfl
  · rw [pClear_of_marked hc] at h
    rcases Mem.erasing_removeFile m (marker p) with ⟨_, h0⟩ | ⟨hne, _⟩
    · rw [h] at h0; rw [show m' = _ from h0, FMap.find?_erase]
    · rw [h] at hne; exact absurd rfl hne

/-- `clear_whiteout(p)` succeeds unless a directory sits at the marker position -/
theorem pClear_ok_of {m : FMap} {p : Str}
    (hmk : ∀ em, m.find? (marker p) = some em → em.ftype = .file) : ∃ m', pClear m p = (.ok (), m') := by
  cases hc : m.contains (marker p)
  · exact ⟨_, pClear_unmarked hc⟩
  · obtain ⟨em, hem⟩ := (FMap.contains_iff _ _).1 hc
    exact ⟨_, (pClear_of_marked hc).trans (Mem.pRemoveFile_file _ _ em hem (hmk em hem))⟩

/-- "put `a` at `p`, then clear the marker of `p`", read in either order -/
theorem put_clear {p : Str} {a b : Option Entry} (x : Str) :
    (if x = marker p then none else if x = p then a else b) =
      if x = p then a else if x = marker p then none else b := by
  by_cases h1 : x = p
  · rw [if_neg (by rw [h1]; exact (marker_ne p).symm), if_pos h1, if_pos h1]
  · rw [if_neg h1, if_neg h1]

/-- **the upper map after a successful `create_dir(p)` through the overlay**: the ancestors are
filled in, a fresh directory sits at `p`, the marker of `p` is gone; and the view had nothing at `p` -/
theorem pCreateDirN_ok_find {mu mu' : FMap} {ms : List FMap} {cs : List Str}
    (h : pCreateDirN mu ms cs = (.ok (), mu')) :
    viewN (fillDirs mu (chain [] cs.dropLast) :: ms) (renderC cs) = none ∧
    ∀ x, mu'.find? x = if x = renderC cs then some dirEntryNow
      else if x = marker (renderC cs) then none
      else (fillDirs mu (chain [] cs.dropLast)).find? x := by
  unfold pCreateDirN at h
  obtain ⟨_, mu1, hE, h2⟩ := andThen_ok h
  have := pEnsureN_ok_eq hE; subst this
  split at h2
  · cases h2
  · rename_i hv
    refine ⟨hv, fun x => ?_⟩
    unfold pCreateTail at h2
    rcases hc : Mem.pCreateDir (fillDirs mu (chain [] cs.dropLast)) (renderC cs) with ⟨r, mu2⟩
    rw [hc] at h2
    cases r with
    | ok u => rw [pClear_ok_find h2 x, Mem.pCreateDir_ok_eq hc, FMap.find?_insert]; exact put_clear x
    | err k q =>
      cases k <;> first | cases h2 | skip
      dsimp only at h2
      rcases hP : pClear mu2 (renderC cs) with ⟨r3, mu3⟩
      rw [hP] at h2
      cases r3 <;> cases h2
    | panic => cases h2

/-- **the upper map after a successful `create_file(p)` through the overlay** (before the handle
is written to): as for `create_dir`, with a fresh empty file; and `p` was no directory of the view -/
theorem pCreateFileN_ok_find {mu mu' : FMap} {ms : List FMap} {cs : List Str}
    (h : pCreateFileN mu ms cs = (.ok (), mu')) :
    pRefuseN (fillDirs mu (chain [] cs.dropLast) :: ms) (renderC cs) = .ok () ∧
    ∀ x, mu'.find? x = if x = renderC cs then some fileEntryNow
      else if x = marker (renderC cs) then none
      else (fillDirs mu (chain [] cs.dropLast)).find? x := by
  unfold pCreateFileN at h
  obtain ⟨_, mu1, hE, h2⟩ := andThen_ok h
  have := pEnsureN_ok_eq hE; subst this
  obtain ⟨_, _, hR, h3⟩ := andThen_ok h2
  obtain ⟨_, mu2, hO, h4⟩ := andThen_ok h3
  simp only [Prod.mk.injEq] at hR
  refine ⟨hR.1, fun x => ?_⟩
  rw [pClear_ok_find h4 x, Mem.pOpenW_ok_eq hO, FMap.find?_insert]
  exact put_clear x

/-! ### the refusals, and the branch a call takes

Each pure function as the branch it takes under the hypothesis that selects it, so that a proof
about the overlay names the branch and does not go through the definition. -/

/-- a refusal of `ensure_has_parent` is the outcome of `create_dir` -/
theorem pCreateDirN_no_parent {mu mu1 : FMap} {ms : List FMap} {cs : List Str} {k : ErrKind}
    {q : Option Str} (hE : pEnsureN (mu :: ms) cs.dropLast = (.err k q, mu1)) :
    pCreateDirN mu ms cs = (.err k q, mu1) := by
  unfold pCreateDirN; rw [hE]; rfl

/-- … of `create_file` -/
theorem pCreateFileN_no_parent {mu mu1 : FMap} {ms : List FMap} {cs : List Str} {k : ErrKind}
    {q : Option Str} (hE : pEnsureN (mu :: ms) cs.dropLast = (.err k q, mu1)) :
    pCreateFileN mu ms cs = (.err k q, mu1) := by
  unfold pCreateFileN; rw [hE]; rfl

/-- … and of `append_file` on a path the upper map lacks -/
theorem pAppendN_no_parent {mu mu1 : FMap} {ms : List FMap} {cs : List Str} {k : ErrKind}
    {q : Option Str} (hnc : mu.contains (renderC cs) = false)
    (hE : pEnsureN (mu :: ms) cs.dropLast = (.err k q, mu1)) :
    pAppendN mu ms cs = (.err k q, mu1, ms) := by
  unfold pAppendN; rw [if_neg (by rw [hnc]; simp), hE]

/-- `create_dir(p)` on a path the view shows is refused with the kind of what is there -/
theorem pCreateDirN_occupied {mu mu1 : FMap} {ms : List FMap} {cs : List Str} {e : Entry}
    (hE : pEnsureN (mu :: ms) cs.dropLast = (.ok (), mu1))
    (hv : viewN (mu1 :: ms) (renderC cs) = some e) :
    pCreateDirN mu ms cs = (.err (if e.ftype = .file then .fileExists else .dirExists) none, mu1) := by
  unfold pCreateDirN; rw [hE]; simp only [andThen, hv]

/-- `create_dir(p)` where the view shows nothing is the write layer's `create_dir` followed by the
clearing of the marker (`pCreateTail`) -/
theorem pCreateDirN_free {mu mu1 : FMap} {ms : List FMap} {cs : List Str}
    (hE : pEnsureN (mu :: ms) cs.dropLast = (.ok (), mu1))
    (hv : viewN (mu1 :: ms) (renderC cs) = none) :
    pCreateDirN mu ms cs = pCreateTail mu1 (renderC cs) := by
  unfold pCreateDirN; rw [hE]; simp only [andThen, hv]

/-- the write layer answers `DirectoryExists` (it holds a directory the marker hid): the marker is
cleared and the answer handed on -/
theorem pCreateTail_dirExists {mu1 mu2 mu3 : FMap} {p : Str} {q : Option Str}
    (hd : Mem.pCreateDir mu1 p = (.err .dirExists q, mu2)) (hc : pClear mu2 p = (.ok (), mu3)) :
    pCreateTail mu1 p = (.err .dirExists q, mu3) := by
  unfold pCreateTail; rw [hd]; simp only [hc]

/-- `create_file(p)` on a directory of the view is refused -/
theorem pCreateFileN_refused {mu mu1 : FMap} {ms : List FMap} {cs : List Str} {e : Entry}
    (hE : pEnsureN (mu :: ms) cs.dropLast = (.ok (), mu1))
    (hv : viewN (mu1 :: ms) (renderC cs) = some e) (hd : e.ftype = .dir) :
    pCreateFileN mu ms cs = (.err .other none, mu1) := by
  unfold pCreateFileN pRefuseN; rw [hE]; simp only [andThen, hv, hd, if_true]

theorem pRemoveFileN_absent {mu : FMap} {ms : List FMap} {cs : List Str}
    (hv : viewN (mu :: ms) (renderC cs) = none) :
    pRemoveFileN mu ms cs = (.err .fileNotFound none, mu) := by
  unfold pRemoveFileN; simp only [hv]

theorem pRemoveDirN_absent {mu : FMap} {ms : List FMap} {cs : List Str}
    (hv : viewN (mu :: ms) (renderC cs) = none) :
    pRemoveDirN mu ms cs = (.err .fileNotFound none, mu) := by
  unfold pRemoveDirN; simp only [hv]

/-- `remove_dir(p)` on a file of the view: its `read_dir` refuses -/
theorem pRemoveDirN_file {mu : FMap} {ms : List FMap} {cs : List Str} {e : Entry}
    (hne : renderC cs ≠ []) (hv : viewN (mu :: ms) (renderC cs) = some e) (hf : e.ftype = .file) :
    pRemoveDirN mu ms cs = (.err .other none, mu) := by
  have hread : pReadDirN (mu :: ms) (renderC cs) = .err .other none := by
    unfold pReadDirN dirEntryN; rw [if_neg hne, hv]; simp [hf]
  unfold pRemoveDirN; simp only [hv, hread]

/-- `remove_dir(p)` on a directory whose merged listing is not empty -/
theorem pRemoveDirN_nonempty {mu : FMap} {ms : List FMap} {cs : List Str} {e : Entry}
    (hne : renderC cs ≠ []) (hv : viewN (mu :: ms) (renderC cs) = some e) (hd : e.ftype = .dir)
    (hl : pListingN (mu :: ms) (renderC cs) ≠ []) :
    pRemoveDirN mu ms cs = (.err .other none, mu) := by
  unfold pRemoveDirN
  simp only [hv, C10.pReadDirN_dir hne hv hd, ne_eq, hl, not_false_eq_true, if_true]

/-- `append_file(p)` on a path the upper map holds is the upper layer's `append_file` -/
theorem pAppendN_upper {mu : FMap} {ms : List FMap} {cs : List Str}
    (hc : mu.contains (renderC cs) = true) :
    pAppendN mu ms cs = ((Mem.appendFile mu (renderC cs)).withPath (renderC cs), mu, ms) := by
  unfold pAppendN; rw [if_pos hc]

/-- `append_file(p)` on a path that neither the upper map nor, after `ensure_has_parent`, the view
has -/
theorem pAppendN_absent {mu mu1 : FMap} {ms : List FMap} {cs : List Str}
    (hnc : mu.contains (renderC cs) = false)
    (hE : pEnsureN (mu :: ms) cs.dropLast = (.ok (), mu1))
    (hv : viewN (mu1 :: ms) (renderC cs) = none) :
    pAppendN mu ms cs = (.err .fileNotFound none, mu1, ms) := by
  unfold pAppendN; rw [if_neg (by rw [hnc]; simp), hE]; simp only [hv]

/-- `append_file(p)` on a path that only lower layers serve, as something that is no file -/
theorem pAppendN_notFile {mu mu1 : FMap} {ms : List FMap} {cs : List Str} {e : Entry}
    (hnc : mu.contains (renderC cs) = false)
    (hE : pEnsureN (mu :: ms) cs.dropLast = (.ok (), mu1))
    (hv : viewN (mu1 :: ms) (renderC cs) = some e) (hf : ¬ e.ftype = .file) :
    pAppendN mu ms cs = (.err .other none, mu1, ms) := by
  unfold pAppendN; rw [if_neg (by rw [hnc]; simp), hE]; simp only [hv]; rw [if_neg hf]

/-! ### the creations that go through -/

/-- `create_dir(p)` when the ancestors are directories of the view, nothing is visible at `p` and
the upper map has nothing there: what `clear_whiteout(p)` makes of the upper map with the ancestors
filled in and the directory put in -/
theorem pCreateDirN_eq_clear {mu : FMap} {ms : List FMap} {ds : List Str} {n : Str}
    (hds : ∀ c ∈ ds, GoodComp c) (hn : GoodComp n) (hroot : RootOk mu)
    (hanc : AncDirsN (mu :: ms) ds)
    (hv : viewN (fillDirs mu (chain [] ds) :: ms) (renderC (ds ++ [n])) = none)
    (hup : mu.find? (renderC (ds ++ [n])) = none) :
    pCreateDirN mu ms (ds ++ [n]) =
      pClear ((fillDirs mu (chain [] ds)).insert (renderC (ds ++ [n])) dirEntryNow)
        (renderC (ds ++ [n])) := by
  have hp0 := find?_snoc_fillDirs (mu := mu) hds hn [] (Or.inl rfl)
  simp only [List.append_nil] at hp0
  have hmkdir := Mem.pCreateDir_fresh _ _
    (parentOk_fillDirs_gen (n := n) hroot.root hds hn (chain_dirs_of_ancN hanc))
    (slash_mem_renderC (cs := ds ++ [n]) (by simp)) (by rw [hp0]; exact hup)
  unfold pCreateDirN
  rw [List.dropLast_concat, pEnsureN_ok hroot hds hanc]
  simp only [andThen, hv, pCreateTail, hmkdir]

/-- `create_file(p)` when the ancestors are directories of the view and `p` is no directory of the
view nor of the upper map: what `clear_whiteout(p)` makes of the upper map with the ancestors
filled in and a fresh empty file put in -/
theorem pCreateFileN_eq_clear {mu : FMap} {ms : List FMap} {ds : List Str} {n : Str}
    (hds : ∀ c ∈ ds, GoodComp c) (hn : GoodComp n) (hroot : RootOk mu)
    (hanc : AncDirsN (mu :: ms) ds)
    (hv : pRefuseN (fillDirs mu (chain [] ds) :: ms) (renderC (ds ++ [n])) = .ok ())
    (hup : ∀ e, mu.find? (renderC (ds ++ [n])) = some e → e.ftype = .file) :
    pCreateFileN mu ms (ds ++ [n]) =
      pClear ((fillDirs mu (chain [] ds)).insert (renderC (ds ++ [n])) fileEntryNow)
        (renderC (ds ++ [n])) := by
  have hp0 := find?_snoc_fillDirs (mu := mu) hds hn [] (Or.inl rfl)
  simp only [List.append_nil] at hp0
  have hpok := parentOk_fillDirs_gen (n := n) hroot.root hds hn (chain_dirs_of_ancN hanc)
  have hopen : Mem.pOpenW (fillDirs mu (chain [] ds)) (renderC (ds ++ [n])) =
      (.ok (), (fillDirs mu (chain [] ds)).insert (renderC (ds ++ [n])) fileEntryNow) := by
    rcases Mem.createFile_graph (fillDirs mu (chain [] ds)) (renderC (ds ++ [n])) with hg | ⟨_, hne⟩
    · unfold Mem.pOpenW; rw [if_pos hpok, hg]; rfl
    · exfalso; apply hne
      obtain ⟨pe, hpe, hpd⟩ := Mem.parentOk_spec _ _ hpok
      unfold Mem.createFile
      rw [Mem.ensureHasParent_dir _ _ (slash_mem_renderC (cs := ds ++ [n]) (by simp)) ⟨pe, hpe, hpd⟩, hp0]
      cases hf : mu.find? (renderC (ds ++ [n])) with
      | none => rfl
      | some e => simp [hup e hf]
  unfold pCreateFileN
  rw [List.dropLast_concat, pEnsureN_ok hroot hds hanc]
  simp only [andThen, hv, hopen]

/-- such a call succeeds when what sits at the marker position of `p` (if anything) is a file -/
theorem eq_clear_ok {x : Res Unit × FMap} {m : FMap} {p : Str} {e : Entry}
    (heq : x = pClear (m.insert p e) p)
    (hmk : ∀ em, m.find? (marker p) = some em → em.ftype = .file) : ∃ mu', x = (.ok (), mu') := by
  obtain ⟨mu', hclear⟩ := pClear_ok_of (m := m.insert p e) (p := p) (fun em hem => hmk em (by
    rw [FMap.find?_insert_ne _ _ _ _ (marker_ne _)] at hem; exact hem))
  exact ⟨mu', heq.trans hclear⟩

/-- `create_file(p)` on a path that is not marked: the fresh empty file is put in, nothing else -/
theorem pCreateFileN_unmarked {mu : FMap} {ms : List FMap} {ds : List Str} {n : Str}
    (hds : ∀ c ∈ ds, GoodComp c) (hn : GoodComp n) (hroot : RootOk mu)
    (hanc : AncDirsN (mu :: ms) ds)
    (hv : pRefuseN (fillDirs mu (chain [] ds) :: ms) (renderC (ds ++ [n])) = .ok ())
    (hup : ∀ e, mu.find? (renderC (ds ++ [n])) = some e → e.ftype = .file)
    (hm : (fillDirs mu (chain [] ds)).contains (marker (renderC (ds ++ [n]))) = false) :
    pCreateFileN mu ms (ds ++ [n]) =
      (.ok (), (fillDirs mu (chain [] ds)).insert (renderC (ds ++ [n])) fileEntryNow) := by
  rw [pCreateFileN_eq_clear hds hn hroot hanc hv hup]
  apply pClear_unmarked
  rw [contains_eq_of_find (FMap.find?_insert_ne _ _ _ _ (marker_ne _))]; exact hm

end Vfs

namespace Vfs.C10
open Vfs Vfs.Overlay

/-- what a removal through the overlay does to the upper map `mu` (result `mu'`), `p = renderC cs`:
every entry that existed, `p` and its marker aside, is unchanged; outside the directories
"/.whiteout/<ancestors of p>" nothing appears; those directories are fresh where they were
absent; and the upper map has nothing at `p` (for `p` outside ".whiteout") -/
def OnlyMarkerAdded (mu mu' : FMap) (cs : List Str) : Prop :=
  (∀ k, k ≠ renderC cs → k ≠ marker (renderC cs) → mu.contains k = true →
    mu'.find? k = mu.find? k) ∧
  (∀ k, k ≠ renderC cs → k ≠ marker (renderC cs) → k ∉ chain [] (woDir :: cs.dropLast) →
    mu'.find? k = mu.find? k) ∧
  (∀ k ∈ chain [] (woDir :: cs.dropLast), k ≠ renderC cs → k ≠ marker (renderC cs) →
    mu.find? k = none → mu'.find? k = some dirEntryNow) ∧
  (cs.head? ≠ some woDir → mu'.find? (renderC cs) = none)

theorem onlyMarkerAdded_of_tail {f : FMap → Str → Res Unit × FMap} (hf : Mem.Erasing f)
    {mu mu' : FMap} {cs : List Str} (hcs : ∀ c ∈ cs, GoodComp c)
    (h : pRemoveTail f mu cs = (.ok (), mu')) : OnlyMarkerAdded mu mu' cs := by
  obtain ⟨em, _, _, hfind⟩ := pRemoveTail_ok_find hf h
  refine ⟨fun k h1 h2 hc => ?_, fun k h1 h2 h3 => ?_, fun k hk h1 h2 h0 => ?_, fun hhead => ?_⟩
  · rw [hfind, if_neg h2, find?_fillDirs, FMap.find?_erase_ne _ _ _ h1, or_eq_of_contains hc]
  · rw [hfind, if_neg h2, find?_fillDirs_not_mem _ _ _ h3, FMap.find?_erase_ne _ _ _ h1]
  · rw [hfind, if_neg h2, find?_fillDirs, FMap.find?_erase_ne _ _ _ h1, h0, if_pos hk]; rfl
  · rw [hfind, if_neg (marker_ne _).symm,
      find?_fillDirs_not_mem _ _ _ (self_not_in_wo_chain hcs hhead), FMap.find?_erase_self]

theorem onlyMarkerAdded_removeFile {mu mu' : FMap} {ms : List FMap} {cs : List Str}
    (hcs : ∀ c ∈ cs, GoodComp c) (h : pRemoveFileN mu ms cs = (.ok (), mu')) :
    OnlyMarkerAdded mu mu' cs :=
  onlyMarkerAdded_of_tail Mem.erasing_removeFile hcs (pRemoveFileN_ok_tail h).2

theorem onlyMarkerAdded_removeDir {mu mu' : FMap} {ms : List FMap} {cs : List Str}
    (hcs : ∀ c ∈ cs, GoodComp c) (h : pRemoveDirN mu ms cs = (.ok (), mu')) :
    OnlyMarkerAdded mu mu' cs :=
  onlyMarkerAdded_of_tail Mem.erasing_removeDir hcs (pRemoveDirN_ok_tail h).2.2

/-- what a successful tail leaves at the marker, at `p`, and away from both and from the
bookkeeping directories -/
theorem tail_result {f : FMap → Str → Res Unit × FMap} (hf : Mem.Erasing f) {mu mu' : FMap}
    {ds : List Str} {n : Str} (hds : ∀ c ∈ ds, GoodComp c) (hn : GoodComp n)
    (h : pRemoveTail f mu (ds ++ [n]) = (.ok (), mu')) :
    (∃ em, mu'.find? (marker (renderC (ds ++ [n]))) = some em ∧ em.ftype = .file) ∧
      ((ds ++ [n]).head? ≠ some woDir → mu'.find? (renderC (ds ++ [n])) = none) ∧
      ∀ k, k ≠ renderC (ds ++ [n]) → k ≠ marker (renderC (ds ++ [n])) →
        k ∉ chain [] (woDir :: ds) → mu'.find? k = mu.find? k := by
  obtain ⟨_, h2, _, h4⟩ := onlyMarkerAdded_of_tail hf (good_snoc hds hn) h
  obtain ⟨em, hft, _, hfind⟩ := pRemoveTail_ok_find hf h
  rw [List.dropLast_concat] at h2
  exact ⟨⟨em, by rw [hfind, if_pos rfl], hft⟩, h4, h2⟩

/-- `remove_file` on a file of the view runs its tail successfully -/
theorem pRemoveFileN_ok_of {mu : FMap} {ms : List FMap} (ds : List Str) (n : Str)
    (hds : ∀ c ∈ ds, GoodComp c) (hn : GoodComp n) (hroot : RootOk mu)
    (hwoarea : ∀ k ∈ chain [] (woDir :: ds), ∀ e, mu.find? k = some e → e.ftype = .dir)
    (e : Entry) (hv : viewN (mu :: ms) (renderC (ds ++ [n])) = some e) (hfile : e.ftype = .file) :
    ∃ mu', pRemoveTail Mem.pRemoveFile mu (ds ++ [n]) = (.ok (), mu') ∧
      pRemoveFileN mu ms (ds ++ [n]) = (.ok (), mu') := by
  obtain ⟨hm, _⟩ := viewN_some_cases hv
  obtain ⟨mu', ht⟩ := pRemoveTail_ok_of Mem.erasing_removeFile ds n hds hn hroot hwoarea
    (find?_none_of_not_contains (by rw [hm]; simp))
    (fun hc => by
      obtain ⟨e', he'⟩ := (FMap.contains_iff _ _).1 hc
      rw [viewN_upper hm he'] at hv; injection hv with hv; subst hv
      rw [Mem.pRemoveFile_file mu _ e' he' hfile])
  exact ⟨mu', ht, by rw [pRemoveFileN_eq, hv]; exact ht⟩

theorem pRemoveFileN_result (mu : FMap) (ms : List FMap) (ds : List Str) (n : Str)
    (hds : ∀ c ∈ ds, GoodComp c)
    (hn : GoodComp n) (hroot : RootOk mu)
    (hwoarea : ∀ k ∈ chain [] (woDir :: ds), ∀ e, mu.find? k = some e → e.ftype = .dir)
    (hhead : (ds ++ [n]).head? ≠ some woDir)
    (e : Entry) (hv : viewN (mu :: ms) (renderC (ds ++ [n])) = some e) (hfile : e.ftype = .file) :
    ∃ mu', pRemoveFileN mu ms (ds ++ [n]) = (.ok (), mu') ∧
      (∃ em, mu'.find? (marker (renderC (ds ++ [n]))) = some em ∧ em.ftype = .file) ∧
      mu'.find? (renderC (ds ++ [n])) = none ∧
      ∀ k, k ≠ renderC (ds ++ [n]) → k ≠ marker (renderC (ds ++ [n])) →
        k ∉ chain [] (woDir :: ds) → mu'.find? k = mu.find? k := by
  obtain ⟨mu', ht, hpure⟩ := pRemoveFileN_ok_of ds n hds hn hroot hwoarea e hv hfile
  obtain ⟨h2, h3, h4⟩ := tail_result Mem.erasing_removeFile hds hn ht
  exact ⟨mu', hpure, h2, h3 hhead, h4⟩

theorem pRemoveDirN_result (mu : FMap) (ms : List FMap) (ds : List Str) (n : Str)
    (hds : ∀ c ∈ ds, GoodComp c) (hn : GoodComp n) (hroot : RootOk mu)
    (hwoarea : ∀ k ∈ chain [] (woDir :: ds), ∀ e, mu.find? k = some e → e.ftype = .dir)
    (hhead : (ds ++ [n]).head? ≠ some woDir)
    (e : Entry) (hv : viewN (mu :: ms) (renderC (ds ++ [n])) = some e) (hdir : e.ftype = .dir)
    (hlist : pListingN (mu :: ms) (renderC (ds ++ [n])) = [])
    (hno : ∀ y, '/' ∉ y → mu.find? (renderC (ds ++ [n]) ++ '/' :: y) = none) :
    ∃ mu', pRemoveDirN mu ms (ds ++ [n]) = (.ok (), mu') ∧
      (∃ em, mu'.find? (marker (renderC (ds ++ [n]))) = some em ∧ em.ftype = .file) ∧
      mu'.find? (renderC (ds ++ [n])) = none ∧
      ∀ k, k ≠ renderC (ds ++ [n]) → k ≠ marker (renderC (ds ++ [n])) →
        k ∉ chain [] (woDir :: ds) → mu'.find? k = mu.find? k := by
  obtain ⟨hm, _⟩ := viewN_some_cases hv
  obtain ⟨mu', ht⟩ := pRemoveTail_ok_of Mem.erasing_removeDir ds n hds hn hroot hwoarea
    (find?_none_of_not_contains (by rw [hm]; simp))
    (fun hc => by
      obtain ⟨e', he'⟩ := (FMap.contains_iff _ _).1 hc
      rw [viewN_upper hm he'] at hv; injection hv with hv; subst hv
      rw [Mem.pRemoveDir_childless mu _ e' he' hdir hno])
  obtain ⟨h2, h3, h4⟩ := tail_result Mem.erasing_removeDir hds hn ht
  refine ⟨mu', ?_, h2, h3 hhead, h4⟩
  rw [pRemoveDirN_eq, hv, pReadDirN_dir (renderC_ne_nil (by simp)) hv hdir, hlist]
  exact ht

/-! `create_file` / `create_dir` on a path that is marked as deleted -/

theorem pClear_marked {m : FMap} {p : Str} {em : Entry} (hm : m.find? (marker p) = some em)
    (hf : em.ftype = .file) : pClear m p = (.ok (), m.erase (marker p)) := by
  rw [pClear_of_marked (contains_of_find hm), Mem.pRemoveFile_file _ _ em hm hf]

theorem pCreateFileN_marked {mu : FMap} {ms : List FMap} {ds : List Str} {n : Str}
    (hds : ∀ c ∈ ds, GoodComp c) (hn : GoodComp n) (hroot : RootOk mu)
    (hanc : AncDirsN (mu :: ms) ds) {em : Entry}
    (hmk : mu.find? (marker (renderC (ds ++ [n]))) = some em) (hmf : em.ftype = .file)
    (hup : mu.find? (renderC (ds ++ [n])) = none) :
    pCreateFileN mu ms (ds ++ [n]) =
      (.ok (), ((fillDirs mu (chain [] ds)).insert (renderC (ds ++ [n])) fileEntryNow).erase
        (marker (renderC (ds ++ [n])))) := by
  have hm1 : (fillDirs mu (chain [] ds)).find? (marker (renderC (ds ++ [n]))) = some em := by
    rw [find?_fillDirs, hmk]; rfl
  rw [pCreateFileN_eq_clear (ms := ms) hds hn hroot hanc
    (by unfold pRefuseN; rw [viewN_marked (contains_of_find hm1)])
    (fun e he => by rw [hup] at he; cases he)]
  exact pClear_marked (by rw [FMap.find?_insert_ne _ _ _ _ (marker_ne _)]; exact hm1) hmf

theorem pCreateDirN_marked {mu : FMap} {ms : List FMap} {ds : List Str} {n : Str}
    (hds : ∀ c ∈ ds, GoodComp c) (hn : GoodComp n) (hroot : RootOk mu)
    (hanc : AncDirsN (mu :: ms) ds) {em : Entry}
    (hmk : mu.find? (marker (renderC (ds ++ [n]))) = some em) (hmf : em.ftype = .file)
    (hup : mu.find? (renderC (ds ++ [n])) = none) :
    pCreateDirN mu ms (ds ++ [n]) =
      (.ok (), ((fillDirs mu (chain [] ds)).insert (renderC (ds ++ [n])) dirEntryNow).erase
        (marker (renderC (ds ++ [n])))) := by
  have hm1 : (fillDirs mu (chain [] ds)).find? (marker (renderC (ds ++ [n]))) = some em := by
    rw [find?_fillDirs, hmk]; rfl
  rw [pCreateDirN_eq_clear (ms := ms) hds hn hroot hanc (viewN_marked (contains_of_find hm1)) hup]
  exact pClear_marked (by rw [FMap.find?_insert_ne _ _ _ _ (marker_ne _)]; exact hm1) hmf

end Vfs.C10

namespace Vfs.C09
open Vfs Vfs.Overlay

/-! ### every building block keeps the upper map well-formed, whatever its outcome -/

theorem wf_andThen {α β} {x : Res α × FMap} {f : α → FMap → Res β × FMap} (hx : WF x.2)
    (hf : ∀ a m, WF m → WF (f a m).2) : WF (andThen x f).2 := by
  obtain ⟨r, m⟩ := x
  cases r with
  | ok a => exact hf a m hx
  | err e pth => exact hx
  | panic => exact hx

theorem wf_pTouch {m : FMap} (h : WF m) (k : Str) : WF (Mem.pTouch m k).2 := by
  rw [Mem.pTouch_eq]; exact h.pWrite k []

theorem wf_pOpenW {m : FMap} (h : WF m) (k : Str) : WF (Mem.pOpenW m k).2 := by
  unfold Mem.pOpenW
  split
  · exact h.createFile_any k
  · exact h

theorem wf_pClear {m : FMap} (h : WF m) (p : Str) : WF (pClear m p).2 := by
  cases hc : m.contains (marker p)
  · rw [pClear_unmarked hc]; exact h
  · rw [pClear_of_marked hc]; exact h.pRemoveFile _

theorem wf_pEnsureN {mu : FMap} {ms : List FMap} (h : WF mu) (ds : List Str) :
    WF (pEnsureN (mu :: ms) ds).2 := by
  rcases pEnsureN_cases (mu :: ms) ds with he | he <;> rw [he]
  · exact wf_mkdirs h _
  · exact h

theorem wf_pAddWhiteout {m : FMap} (h : WF m) (cs : List Str) : WF (pAddWhiteout m cs).2 := by
  unfold pAddWhiteout
  exact wf_andThen (wf_mkdirs h _) (fun _ m1 h1 => wf_pTouch h1 _)

theorem wf_pCreateDirN {mu : FMap} {ms : List FMap} (h : WF mu) (cs : List Str) :
    WF (pCreateDirN mu ms cs).2 := by
  unfold pCreateDirN
  apply wf_andThen (wf_pEnsureN h _)
  intro _ m1 h1
  split
  · exact h1
  · rcases pCreateTail_snd m1 (renderC cs) with he | he <;> rw [he]
    · exact h1.pCreateDir _
    · exact wf_pClear (h1.pCreateDir _) _

theorem wf_pCreateFileN {mu : FMap} {ms : List FMap} (h : WF mu) (cs : List Str) :
    WF (pCreateFileN mu ms cs).2 := by
  unfold pCreateFileN
  apply wf_andThen (wf_pEnsureN h _)
  intro _ m1 h1
  apply wf_andThen (x := (pRefuseN (m1 :: ms) (renderC cs), m1)) h1
  intro _ _ _
  exact wf_andThen (wf_pOpenW h1 _) (fun _ m2 h2 => wf_pClear h2 _)

theorem wf_pRemoveFileN {mu : FMap} {ms : List FMap} (h : WF mu) (cs : List Str) :
    WF (pRemoveFileN mu ms cs).2 := by
  unfold pRemoveFileN
  split
  · exact h
  · apply wf_andThen
    · split
      · exact h.pRemoveFile _
      · exact h
    · intro _ m1 h1; exact wf_pAddWhiteout h1 _

theorem wf_pRemoveDirN {mu : FMap} {ms : List FMap} (h : WF mu) (cs : List Str) (hne : cs ≠ []) :
    WF (pRemoveDirN mu ms cs).2 := by
  unfold pRemoveDirN
  split
  · exact h
  · split
    · split
      · exact h
      · apply wf_andThen
        · split
          · exact h.pRemoveDir _ (renderC_ne_nil hne)
          · exact h
        · intro _ m1 h1; exact wf_pAddWhiteout h1 _
    · exact h
    · exact h

end Vfs.C09
