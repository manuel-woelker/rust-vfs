/-
  For Props/C11Overlay.lean (the composite `VfsPath` operations through an overlay over n in-memory
  layers, relative to the overlay's view `oview`): the observers and `remove_file` / `remove_dir` at
  the `VfsPath` level as one-step facts about `OSt` states, and the vocabulary of a recursive
  removal: `InSub cs q` (`q` is a disciplined path at or below `renderC cs`; `below_of_ne`: a longer
  list of components renders strictly below) and `GoneP v v' S` (the paths in `S` are absent from
  `v'`, every other visible path keeps its `vcore`). What two entries that agree up to `vcore`
  share: `vcore_some`, `ftype_of_vcore`, `content_of_vcore`. Last section: the
  overlay leaves every leaf that is not one of its layers alone (`overlay_pres_leaf`), for the
  transfers between an overlay and another leaf (Props/C11OverlaySource.lean, C11OverlayTree.lean).
-/
import VfsModel.Proofs.OverlayVPath
import VfsModel.Proofs.OverlayTreeView
import VfsModel.Props.C08
namespace Vfs.C11
open Vfs Vfs.Overlay Vfs.C02 Vfs.C01 Vfs.C09 Vfs.C05

instance (v : View) (p : Str) : Decidable (VIsFile v p) :=
  decidable_of_iff ((v p).any (fun e => decide (e.ftype = .file)) = true)
    (by unfold VIsFile; cases v p <;> simp)

theorem snoc_of_ne {ts : List Str} (h : ts ≠ []) : ∃ ts' n, ts = ts' ++ [n] := by
  rcases List.eq_nil_or_concat ts with h0 | ⟨a, b, h0⟩
  · exact absurd h0 h
  · exact ⟨a, b, by rw [h0, List.concat_eq_append]⟩

theorem _root_.Vfs.C09.OpPath.snoc_cases {cs : List Str} (hp : OpPath cs) : ∃ ds n, cs = ds ++ [n] :=
  snoc_of_ne hp.ne

theorem below_of_ne (ss : List Str) {ts : List Str} (hts : ts ≠ []) :
    Wk.below (renderC ss) (renderC (ss ++ ts)) = true := by
  cases ts with
  | nil => exact absurd rfl hts
  | cons t1 ts1 =>
    rw [Wk.below_iff, renderC_append, renderC_cons]
    exact ⟨t1 ++ renderC ts1, by simp⟩

theorem _root_.Vfs.C09.OpPath.vis {cs : List Str} (hp : OpPath cs) : Vis (renderC cs) :=
  Or.inr (NR_renderC hp.ne (good_noSlash hp.good) hp.head)

theorem _root_.Vfs.C09.OpPath.prefix {cs ts : List Str} (hp : OpPath (cs ++ ts)) (hne : cs ≠ []) : OpPath cs where
  ne := hne
  good := fun c hc => hp.good c (by simp [hc])
  nowo := fun c hc => hp.nowo c (by simp [hc])
  head := by
    cases cs with
    | nil => exact absurd rfl hne
    | cons c cs => simpa using hp.head

theorem _root_.Vfs.C09.OpPath.child {cs : List Str} {n : Str} (hp : OpPath cs) (hg : GoodComp n) (hw : NoWo n) :
    OpPath (cs ++ [n]) :=
  RootOrOp.child (Or.inr hp) hg hw (fun h => absurd h hp.ne)

def InSub (cs : List Str) (q : Str) : Prop := ∃ ts, OpPath (cs ++ ts) ∧ q = renderC (cs ++ ts)

theorem InSub.vis {cs : List Str} {q : Str} (h : InSub cs q) : Vis q := by
  obtain ⟨ts, hp, rfl⟩ := h; exact hp.vis

theorem InSub.self {cs : List Str} (hp : OpPath cs) : InSub cs (renderC cs) :=
  ⟨[], by rw [List.append_nil]; exact hp, by rw [List.append_nil]⟩

theorem inSub_iff {cs : List Str} (hp : OpPath cs) (q : Str) :
    InSub cs q ↔ (OVis q ∧ Wk.within (renderC cs) q = true) := by
  constructor
  · rintro ⟨ts, hpt, rfl⟩
    refine ⟨Or.inr ⟨_, hpt, rfl⟩, ?_⟩
    unfold Wk.within
    cases ts with
    | nil => simp
    | cons t ts => rw [below_of_ne cs (List.cons_ne_nil t ts)]; simp
  · rintro ⟨hvis, hw⟩
    unfold Wk.within at hw
    rcases Bool.or_eq_true _ _ ▸ hw with h0 | h0
    · have : q = renderC cs := by simpa using h0
      rw [this]; exact InSub.self hp
    · obtain ⟨t, ht⟩ := (Wk.below_iff _ _).1 h0
      rcases hvis with rfl | ⟨cs', hcs', rfl⟩
      · simp at ht
      · -- `cs` is a proper prefix of `cs'`
        have key : ∀ (a b : List Str) (t : Str), (∀ c ∈ a, '/' ∉ c) → (∀ c ∈ b, '/' ∉ c) →
            renderC b = renderC a ++ '/' :: t → ∃ ts, b = a ++ ts := by
          intro a
          induction a with
          | nil => intro b t _ _ _; exact ⟨b, rfl⟩
          | cons x a ih =>
            intro b t ha hb heq
            cases b with
            | nil => simp at heq
            | cons y b =>
              rw [renderC_cons, renderC_cons] at heq
              simp only [List.cons_append, List.cons.injEq, true_and, List.append_assoc] at heq
              have hx := takeWhile_noSlash x (renderC a ++ '/' :: t) (ha x (by simp))
                (Or.inr (by cases a <;> simp))
              have hy := takeWhile_noSlash y (renderC b) (hb y (by simp)) (renderC_nil_or_head b)
              rw [heq, hx] at hy
              subst hy
              have heq' := List.append_cancel_left heq
              obtain ⟨ts, rfl⟩ := ih b t (fun c hc => ha c (by simp [hc]))
                (fun c hc => hb c (by simp [hc])) heq'
              exact ⟨ts, rfl⟩
        obtain ⟨ts, rfl⟩ := key cs cs' t (good_noSlash hp.good) (good_noSlash hcs'.good) ht
        exact ⟨ts, hcs', rfl⟩

theorem vcore_some {a b : Option Entry} (h : a.map vcore = b.map vcore) {e : Entry}
    (hb : b = some e) : ∃ e', a = some e' ∧ vcore e' = vcore e := by
  subst hb
  cases a with
  | none => simp at h
  | some e' => exact ⟨e', rfl, by simpa using h⟩

theorem ftype_of_vcore {e e' : Entry} (h : vcore e' = vcore e) : e'.ftype = e.ftype := by
  have := congrArg Prod.fst h; rwa [vcore_fst, vcore_fst] at this

theorem content_of_vcore {e e' : Entry} (h : vcore e' = vcore e) (hf : e.ftype = .file) :
    e'.content = e.content := by
  rw [vcore_file ((ftype_of_vcore h).trans hf), vcore_file hf] at h
  exact congrArg Prod.snd h

def GoneP (v v' : View) (S : Str → Prop) : Prop :=
  (∀ q, S q → v' q = none) ∧ (∀ q, Vis q → ¬ S q → (v' q).map vcore = (v q).map vcore)

set_option linter.unusedVariables false in
theorem present_below_dir {v : View} (hv : ViewWF v) {cs : List Str} (hcs : cs ≠ []) :
    ∀ ts : List Str, ts ≠ [] → OpPath (cs ++ ts) → v (renderC (cs ++ ts)) ≠ none →
      VIsDir v (renderC cs) :=
  fun ts hts hp hpres => hv.below_dir ts hts hp.good hp.head hpres

theorem absent_below_nondir {v : View} (hv : ViewWF v) {cs : List Str} (hcs : cs ≠ [])
    (hnd : ¬ VIsDir v (renderC cs)) {ts : List Str} (hts : ts ≠ []) (hp : OpPath (cs ++ ts)) :
    v (renderC (cs ++ ts)) = none := by
  cases h : v (renderC (cs ++ ts)) with
  | none => rfl
  | some e => exact absurd (present_below_dir hv hcs ts hts hp (by rw [h]; simp)) hnd

/-- `VfsPath::exists` through the overlay answers from the view; only the setting is used -/
theorem _root_.Vfs.OWN.vexists {u idu : Nat} {is ids : List Nat} {ms : List FMap} {w : World} {mu : FMap}
    (h : OWN w (u :: is) (idu :: ids) (mu :: ms)) (id : Nat) {cs : List Str} (hp : OpPath cs) :
    VPath.exists_ ⟨Overlay.fs (layersN (u :: is) (idu :: ids)), id, renderC cs⟩ w
      = (.ok (oview (mu :: ms) (renderC cs)).isSome, w) := by
  show (Overlay.fs (layersN (u :: is) (idu :: ids))).exists_ (renderC cs) w = _
  rw [exists_is_viewN h cs hp.ne hp.good, oview_ne (renderC_ne_nil hp.ne)]

section steps
variable {u idu : Nat} {is ids : List Nat} {ms : List FMap} {w : World} {mu : FMap}
  (st : OSt u idu is ids ms w mu) (id : Nat)
include st

theorem OSt.self_world : w.setLeafFiles u mu = w := st.own.hu.same

theorem o_exists {cs : List Str} (hp : OpPath cs) :
    VPath.exists_ ⟨Overlay.fs (layersN (u :: is) (idu :: ids)), id, renderC cs⟩ w
      = (.ok (oview (mu :: ms) (renderC cs)).isSome, w) :=
  st.own.vexists id hp

theorem o_metadata {cs : List Str} (hp : OpPath cs) {e : Entry}
    (he : oview (mu :: ms) (renderC cs) = some e) :
    VPath.metadata ⟨Overlay.fs (layersN (u :: is) (idu :: ids)), id, renderC cs⟩ w
      = (.ok e.meta, w) :=
  VPath.metadata_of_call (p := ⟨_, id, _⟩) (overlay_metadata_reports st.own hp.ne hp.good he)

theorem o_metadata_absent {cs : List Str} (hp : OpPath cs)
    (he : oview (mu :: ms) (renderC cs) = none) :
    VPath.metadata ⟨Overlay.fs (layersN (u :: is) (idu :: ids)), id, renderC cs⟩ w
      = (.err .fileNotFound (some (renderC cs)), w) :=
  VPath.metadata_of_call (p := ⟨_, id, _⟩) (overlay_absent_all_fail st.own st.inv hp he).2.1

theorem o_readDir {cs : List Str} (hp : OpPath cs)
    (hd : VIsDir (oview (mu :: ms)) (renderC cs)) :
    VPath.readDir ⟨Overlay.fs (layersN (u :: is) (idu :: ids)), id, renderC cs⟩ w
      = (.ok ((pListingN (mu :: ms) (renderC cs)).map fun n =>
          (⟨Overlay.fs (layersN (u :: is) (idu :: ids)), id, renderC cs ++ '/' :: n⟩ : VPath)), w) := by
  obtain ⟨e, he, hdir⟩ := hd
  have hspec := overlay_readDir_spec st.own st.inv cs hp.good hp.nowo
  rw [he] at hspec
  simp only [hdir, if_true] at hspec
  exact VPath.readDir_of_call (p := ⟨_, id, _⟩) hspec

theorem o_listing_mem {cs : List Str} (hp : OpPath cs) (n : Str) :
    n ∈ pListingN (mu :: ms) (renderC cs) ↔
      ('/' ∉ n ∧ oview (mu :: ms) (renderC cs ++ '/' :: n) ≠ none) := by
  rw [C05.mem_listing st.own st.inv cs n, oview_ne (by simp)]
  constructor
  · rintro ⟨a, b, _⟩
    exact ⟨a, fun h0 => by rw [h0] at b; cases b⟩
  · rintro ⟨a, b⟩
    refine ⟨a, ?_, fun h0 => absurd h0 (renderC_ne_nil hp.ne)⟩
    cases hv : viewN (mu :: ms) (renderC cs ++ '/' :: n) with
    | none => exact absurd hv b
    | some e => rfl

/-- `remove_file` on a file of the view, so it is not called on a directory of the view (`O3Free`,
the hypothesis of the contract that finding O3 of DESIGN.md Part II makes necessary) -/
theorem o_removeFile_step {cs : List Str} (hp : OpPath cs)
    (hf : VIsFile (oview (mu :: ms)) (renderC cs)) :
    ∃ mu', VPath.removeFile ⟨Overlay.fs (layersN (u :: is) (idu :: ids)), id, renderC cs⟩ w
        = (.ok (), w.setLeafFiles u mu') ∧
      OSt u idu is ids ms (w.setLeafFiles u mu') mu' ∧
      (NamesOK (mu :: ms) → NamesOK (mu' :: ms)) ∧
      VAbsent (oview (mu' :: ms)) (renderC cs) ∧
      VFrame (oview (mu :: ms)) (oview (mu' :: ms)) (renderC cs) := by
  obtain ⟨ds, n, rfl⟩ := hp.snoc_cases
  obtain ⟨r, mu', hrun, hown, inv', hc⟩ := vpath_overlay_removeFile_contractN st.own st.inv hp id
    (fun hd => not_file_and_dir hf hd)
  obtain ⟨rfl, hnamed, hframe⟩ := hc.of_pre hf
  have hop : OpOK (.removeFile (renderC (ds ++ [n]))) := ⟨ds, n, hp, rfl⟩
  exact ⟨mu', hrun, ⟨hown, inv', viewWF_of_contract st.vwf hop hc⟩,
    fun hn => namesOK_step hn hop hc, hnamed, hframe⟩

theorem o_removeDir_step {cs : List Str} (hp : OpPath cs)
    (hd : VIsDir (oview (mu :: ms)) (renderC cs))
    (hno : VNoChildren (oview (mu :: ms)) (renderC cs)) :
    ∃ mu', VPath.removeDir ⟨Overlay.fs (layersN (u :: is) (idu :: ids)), id, renderC cs⟩ w
        = (.ok (), w.setLeafFiles u mu') ∧
      OSt u idu is ids ms (w.setLeafFiles u mu') mu' ∧
      (NamesOK (mu :: ms) → NamesOK (mu' :: ms)) ∧
      VAbsent (oview (mu' :: ms)) (renderC cs) ∧
      VFrame (oview (mu :: ms)) (oview (mu' :: ms)) (renderC cs) := by
  obtain ⟨ds, n, rfl⟩ := hp.snoc_cases
  obtain ⟨r, mu', hrun, hown, inv', hc⟩ := vpath_overlay_removeDir_contractN st.own st.inv hp id
  obtain ⟨rfl, hnamed, hframe⟩ := hc.of_pre ⟨hd, hno⟩
  have hop : OpOK (.removeDir (renderC (ds ++ [n]))) := ⟨ds, n, hp, rfl⟩
  exact ⟨mu', hrun, ⟨hown, inv', viewWF_of_contract st.vwf hop hc⟩,
    fun hn => namesOK_step hn hop hc, hnamed, hframe⟩

end steps

/-! the overlay leaves every leaf that is not one of its layers alone -/

theorem ignores_leaf (s k : Nat) (L : Leaf) (hks : k ≠ s) :
    IgnoresLeaf (fun w => w.leaf? s = some L) k := by
  intro w f h
  show (w.setLeafFiles k f).leaf? s = some L
  rw [World.leaf?_setLeafFiles_ne w k s f hks]; exact h

theorem overlay_pres_leaf {u idu : Nat} {is ids : List Nat} {s : Nat} (hs : s ∉ u :: is) (L : Leaf) :
    (Overlay.fs (layersN (u :: is) (idu :: ids))).AllPreserve (fun w => w.leaf? s = some L) := by
  have hall : ∀ l ∈ layersN (u :: is) (idu :: ids),
      l.fs.AllPreserve (fun w => w.leaf? s = some L) := by
    intro l hl
    obtain ⟨k, hk, hfs⟩ := mem_layersN hl
    rw [hfs]
    exact leafFS_all_preserve k (ignores_leaf s k L (fun e => hs (e ▸ hk)))
  exact C08.overlay_all_preserve _ (.of_all (by simp [layersN]) hall)

end Vfs.C11
