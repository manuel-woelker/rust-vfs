/-
  Faithfulness calculus for C20 ("underlying failures are never reported as success").

  The fault plan of the world (`fault`, `fired`, see `faultGate`) fires at most once. An
  operation `m` is *faithful* when a fault that fires while `m` runs is not turned into `ok`:

    `Faithful m   := ∀ w, w.fired = false → (m w).2.fired = true → (m w).1.isOk = false`

  The compositional form is stronger: the outcome is *the injected error itself* (kind `.io`),
  so it is neither `ok`, nor a panic, nor an error of a kind that some caller swallows
  (`DirectoryExists` in create_dir_all, `NotSupported` in the fast paths of copy_file / move_file /
  move_dir, `FileNotFound` in OverlayFS::exists):

    `FaithfulIO m := ∀ w, w.fired = false → (m w).2.fired = true → (m w).1.isIo = true`

  `FaithfulIO` is closed under `bind` without any extra invariant: if `m` returns `ok a` then the
  fault has not fired yet when `f a` starts (otherwise `m` would have failed), so the hypothesis
  `w.fired = false` is available again for `f a`.

  `FaithfulIO` is the specification `Spec.faithful` (below; `Spec`: Proofs/Hoare.lean), so the
  operations of the `VfsPath` layer, AltrootFS and OverlayFS are instances of the statements of
  Proofs/PreservesOps.lean, the loops of copy_dir / move_dir included. The walk iterator turns an
  error into the item it yields: `FaithfulItem` is `Spec.faithful` with the item held
  (`Spec.heldItem`, Proofs/Hoare.lean). Proved here: the calculus, `FS.Faithful`, leaves and
  `faultFS`, and that a fault is visible in a collected walk (`walkAll_io_item`).
-/
import VfsModel.Proofs.PreservesOps
import VfsModel.Proofs.LeafFrame
namespace Vfs

/-! ### definitions -/

/-- C20 for one operation: if the planned fault fires while `m` runs, `m` does not return `ok` -/
def Faithful {α} (m : M α) : Prop :=
  ∀ w, w.fired = false → (m w).2.fired = true → (m w).1.isOk = false

/-- the outcome is an I/O error (the kind injected by `faultGate`) -/
def Res.isIo {α} : Res α → Bool
  | .err .io _ => true
  | _ => false

/-- outcome of an attempted call (`M.attempt`, or a constant): an I/O error, either as the value
handed to the handler or as the failure of the attempt itself -/
def Res.isIoAtt {α} : Res (Res α) → Bool
  | .ok r => r.isIo
  | .err .io _ => true
  | _ => false

/-- outcome of an iterator step: an I/O error, either as the yielded item or as the failure of
the step itself -/
def Res.isIoItem {β σ} : Res (Option (Res β) × σ) → Bool
  | .ok (some r, _) => r.isIo
  | .err .io _ => true
  | _ => false

theorem Res.isIo_not_ok {α} (r : Res α) (h : r.isIo = true) : r.isOk = false := by
  cases r <;> simp [Res.isIo, Res.isOk] at h ⊢

theorem Res.isIo_not_panic {α} (r : Res α) (h : r.isIo = true) : r.isPanic = false := by
  cases r <;> simp [Res.isIo, Res.isPanic] at h ⊢

theorem Res.isIo_kind {α} (r : Res α) (h : r.isIo = true) : r.kind? = some .io := by
  cases r with
  | err k p => cases k <;> simp [Res.isIo, Res.kind?] at h ⊢
  | _ => simp [Res.isIo] at h

theorem Res.isIo_iff {α} (r : Res α) : r.isIo = true ↔ ∃ p, r = .err .io p := by
  constructor
  · intro h
    cases r with
    | err k p => cases k <;> simp [Res.isIo] at h ⊢
    | _ => simp [Res.isIo] at h
  · rintro ⟨p, rfl⟩; rfl

theorem Res.isIo_withPath {α} (p : Str) (r : Res α) : (r.withPath p).isIo = r.isIo := by
  cases r with
  | err k q => cases k <;> rfl
  | _ => rfl

/-- strong, compositional faithfulness: a fault that fires during `m` comes out of `m` as the
injected I/O error -/
structure FaithfulIO {α} (m : M α) : Prop where
  io : ∀ w, w.fired = false → (m w).2.fired = true → (m w).1.isIo = true

/-- faithfulness of an attempted call whose outcome is inspected by a handler -/
structure FaithfulAtt {α} (m : M (Res α)) : Prop where
  io : ∀ w, w.fired = false → (m w).2.fired = true → (m w).1.isIoAtt = true

/-- faithfulness of an iterator step: if the fault fires during the step, the step yields
`some (err io ..)` or fails itself with the I/O error -/
structure FaithfulItem {β σ} (m : M (Option (Res β) × σ)) : Prop where
  io : ∀ w, w.fired = false → (m w).2.fired = true → (m w).1.isIoItem = true

theorem FaithfulIO.faithful {α} {m : M α} (h : FaithfulIO m) : Faithful m :=
  fun w hw hf => Res.isIo_not_ok _ (h.io w hw hf)

/-- a fired fault is not turned into a panic either -/
theorem FaithfulIO.no_panic {α} {m : M α} (h : FaithfulIO m) (w : World) (hw : w.fired = false)
    (hf : (m w).2.fired = true) : (m w).1.isPanic = false :=
  Res.isIo_not_panic _ (h.io w hw hf)

/-- `ok` means the plan has not fired -/
theorem Faithful.ok_not_fired {α} {m : M α} (h : Faithful m) (w : World) (hw : w.fired = false)
    (hok : (m w).1.isOk = true) : (m w).2.fired = false := by
  cases hf : (m w).2.fired with
  | false => rfl
  | true => have := h w hw hf; rw [this] at hok; cases hok


/-- `fired` cannot be both `false` and `true`; where `pre` of `Spec.faithful` (the plan is pending)
still holds at the end, the guarantee, which speaks of `fired = true`, asks nothing -/
theorem World.not_fired {w : World} (h : w.fired = false) {P : Prop} : w.fired = true → P :=
  fun h' => nomatch h.symm.trans h'

/-! ### `FaithfulIO` as a specification -/

theorem Res.isIo_iff_out {α} (r : Res α) : r.isIo = true ↔ r.out = .err .io := by
  cases r with
  | err k p => cases k <;> simp [Res.isIo, Res.out]
  | _ => simp [Res.isIo, Res.out]

/-- started with the plan pending; if the plan has fired at the end, the outcome is the injected
error -/
def Spec.faithful : Spec where
  pre w := w.fired = false
  post o w := w.fired = true → o = .err .io
  may _ := True
  may_ok := trivial
  post_of_pre _ _ _ h := World.not_fired h
  pre_of_ok w h := by
    cases hf : w.fired with
    | false => rfl
    | true => exact nomatch h hf
  pre_of_err k w hk h := by
    cases hf : w.fired with
    | false => rfl
    | true => exact absurd (Spec.Out.err.inj (h hf)) hk

instance (o : Spec.Out) : Spec.faithful.May o := ⟨trivial⟩
instance : Spec.faithful.Errs := ⟨fun _ _ => trivial⟩

theorem FaithfulIO.sat {α} {m : M α} (h : FaithfulIO m) : Spec.faithful.Sat m :=
  ⟨fun w hw hf => (Res.isIo_iff_out _).1 (h.io w hw hf)⟩

theorem FaithfulIO.of_sat {α} {m : M α} (h : Spec.faithful.Sat m) : FaithfulIO m :=
  ⟨fun w hw hf => (Res.isIo_iff_out _).2 (h.post w hw hf)⟩

/-- `FaithfulItem` is `Spec.faithful` with the item held -/
theorem FaithfulItem.of_satQ {β σ} {m : M (Option (Res β) × σ)}
    (h : Spec.faithful.SatQ m Spec.faithful.heldItem) : FaithfulItem m := by
  refine ⟨fun w hw hf => ?_⟩
  have h1 := h.post w hw
  cases hr : (m w).1 with
  | ok a =>
    rw [hr] at h1
    obtain ⟨item, s⟩ := a
    cases item with
    | none => exact World.not_fired (show (m w).2.fired = false from h1) hf
    | some r => exact (Res.isIo_iff_out r).2 (h1 hf)
  | err k p =>
    rw [hr] at h1
    obtain rfl := Spec.Out.err.inj (h1 hf)
    rfl
  | panic => rw [hr] at h1; exact nomatch h1 hf

/-! ### the calculus -/
namespace FaithfulIO

/-- an operation that cannot make the plan fire -/
theorem of_preserves {α} {m : M α} (h : Preserves (fun w => w.fired = false) m) : FaithfulIO m := by
  refine ⟨fun w hw hf => ?_⟩
  have : (m w).2.fired = false := h.pres w hw
  rw [this] at hf; cases hf

theorem pure {α} (a : α) : FaithfulIO (Pure.pure a : M α) := of_preserves (Preserves.pure a)
theorem mpure {α} (a : α) : FaithfulIO (M.pure a) := of_preserves (Preserves.pure a)
theorem ret {α} (r : Res α) : FaithfulIO (M.ret r) := of_preserves (Preserves.ret r)
theorem failK {α} (k : ErrKind) : FaithfulIO (M.failK k : M α) := of_preserves (Preserves.failK k)
theorem failAt {α} (k : ErrKind) (p : Str) : FaithfulIO (M.failAt k p : M α) :=
  of_preserves (Preserves.failAt k p)


/-- `bind`: if the fault fires in `m`, `m` fails with it and so does the bind; otherwise `m`
ends with the plan still pending and the fault fires in `f a`, which fails with it -/
theorem bindQ {α β} {m : M α} {f : α → M β} (Q : α → Prop) (hm : FaithfulIO m) (hq : Returns m Q)
    (hf : ∀ a, Q a → FaithfulIO (f a)) : FaithfulIO (m >>= f) :=
  .of_sat (.bindQ Q hm.sat hq (fun a ha => (hf a ha).sat))

theorem bind {α β} {m : M α} {f : α → M β} (hm : FaithfulIO m) (hf : ∀ a, FaithfulIO (f a)) :
    FaithfulIO (m >>= f) :=
  bindQ (fun _ => True) hm (Returns.trivial m) (fun a _ => hf a)

theorem mbind {α β} {m : M α} {f : α → M β} (hm : FaithfulIO m) (hf : ∀ a, FaithfulIO (f a)) :
    FaithfulIO (M.bind m f) := bind hm hf

theorem seq_unit {β} {m : M Unit} {f : M β} (hm : FaithfulIO m) (hf : FaithfulIO f) :
    FaithfulIO (do m; f) := bind hm (fun _ => hf)

theorem withPath {α} (p : Str) {m : M α} (hm : FaithfulIO m) : FaithfulIO (M.withPath p m) :=
  .of_sat (.withPath p hm.sat)

theorem ite {α} {c : Prop} [Decidable c] {a b : M α} (ha : FaithfulIO a) (hb : FaithfulIO b) :
    FaithfulIO (if c then a else b) := by
  split <;> assumption

end FaithfulIO

namespace FaithfulAtt

theorem ite {α} {c : Prop} [Decidable c] {a b : M (Res α)} (ha : FaithfulAtt a) (hb : FaithfulAtt b) :
    FaithfulAtt (if c then a else b) := by
  split <;> assumption

end FaithfulAtt

/-- the weak notion is closed under `bind` as well (no error kinds involved) -/
theorem Faithful.bind {α β} {m : M α} {f : α → M β} (hm : Faithful m) (hf : ∀ a, Faithful (f a)) :
    Faithful (m >>= f) := by
  intro w hw
  show ((M.bind m f) w).2.fired = true → ((M.bind m f) w).1.isOk = false
  have h1 := hm w hw
  cases hres : m w with
  | mk r w' =>
    rw [hres] at h1
    cases r with
    | ok a =>
      rw [M.bind_ok hres]
      intro hfin
      cases hfw : w'.fired with
      | false => exact hf a w' hfw hfin
      | true => have := h1 hfw; simp [Res.isOk] at this
    | err k p => rw [M.bind_err hres]; intro _; rfl
    | panic => rw [M.bind_panic hres]; intro _; rfl

theorem Faithful.pure {α} (a : α) : Faithful (Pure.pure a : M α) :=
  (FaithfulIO.pure a).faithful

/-! ### filesystems -/

/-- every method of the filesystem hands a fired fault on as the injected I/O error -/
structure FS.Faithful (fs : FS) : Prop where
  readDir : ∀ p, FaithfulIO (fs.readDir p)
  createDir : ∀ p, FaithfulIO (fs.createDir p)
  openFile : ∀ p, FaithfulIO (fs.openFile p)
  createFile : ∀ p, FaithfulIO (fs.createFile p)
  appendFile : ∀ p, FaithfulIO (fs.appendFile p)
  metadata : ∀ p, FaithfulIO (fs.metadata p)
  setCreationTime : ∀ p t, FaithfulIO (fs.setCreationTime p t)
  setModificationTime : ∀ p t, FaithfulIO (fs.setModificationTime p t)
  setAccessTime : ∀ p t, FaithfulIO (fs.setAccessTime p t)
  exists_ : ∀ p, FaithfulIO (fs.exists_ p)
  removeFile : ∀ p, FaithfulIO (fs.removeFile p)
  removeDir : ∀ p, FaithfulIO (fs.removeDir p)
  copyFile : ∀ s d, FaithfulIO (fs.copyFile s d)
  moveFile : ∀ s d, FaithfulIO (fs.moveFile s d)
  moveDir : ∀ s d, FaithfulIO (fs.moveDir s d)

/-- a filesystem none of whose methods (and handles) can make the plan fire is faithful -/
theorem FS.Faithful.of_preserves {fs : FS} (h : fs.AllPreserve (fun w => w.fired = false)) :
    fs.Faithful where
  readDir p := .of_preserves (h.readDir p)
  createDir p := .of_preserves (h.createDir p)
  openFile p := .of_preserves (h.openFile p)
  createFile p := .of_preserves (h.createFile p)
  appendFile p := .of_preserves (h.appendFile p)
  metadata p := .of_preserves (h.metadata p)
  setCreationTime p t := .of_preserves (h.setCreationTime p t)
  setModificationTime p t := .of_preserves (h.setModificationTime p t)
  setAccessTime p t := .of_preserves (h.setAccessTime p t)
  exists_ p := .of_preserves (h.exists_ p)
  removeFile p := .of_preserves (h.removeFile p)
  removeDir p := .of_preserves (h.removeDir p)
  copyFile s d := .of_preserves (h.copyFile s d)
  moveFile s d := .of_preserves (h.moveFile s d)
  moveDir s d := .of_preserves (h.moveDir s d)

theorem FS.Faithful.of_sat {fs : FS} (h : Spec.faithful.All fs) : fs.Faithful where
  readDir p := .of_sat (h.readDir p)
  createDir p := .of_sat (h.createDir p)
  openFile p := .of_sat (h.openFile p)
  createFile p := .of_sat (h.createFile p)
  appendFile p := .of_sat (h.appendFile p)
  metadata p := .of_sat (h.metadata p)
  setCreationTime p t := .of_sat (h.setCreationTime p t)
  setModificationTime p t := .of_sat (h.setModificationTime p t)
  setAccessTime p t := .of_sat (h.setAccessTime p t)
  exists_ p := .of_sat (h.exists_ p)
  removeFile p := .of_sat (h.removeFile p)
  removeDir p := .of_sat (h.removeDir p)
  copyFile s d := .of_sat (h.copyFile s d)
  moveFile s d := .of_sat (h.moveFile s d)
  moveDir s d := .of_sat (h.moveDir s d)

/-- the placeholder filesystem (every method `NotSupported`) -/
theorem FS.Faithful.default : (default : FS).Faithful :=
  .of_sat Spec.All.default

/-! ### leaves and handles never touch the plan -/

/-- the ghost fault plan is untouched by writes to a leaf -/
theorem plan_ignoresLeaf (b : Bool) (f : Option Nat) (i : Nat) :
    IgnoresLeaf (fun w => w.fired = b ∧ w.fault = f) i :=
  fun _ _ h => h

/-- **a leaf filesystem never touches `fired` / `fault`** (nor do the handles it returns) -/
theorem leafFS_keeps_plan (i : Nat) (b : Bool) (f : Option Nat) :
    (leafFS i).AllPreserve (fun w => w.fired = b ∧ w.fault = f) :=
  leafFS_all_preserve i (plan_ignoresLeaf b f i)

theorem leafFS_faithful (i : Nat) : (leafFS i).Faithful :=
  .of_preserves (leafFS_all_preserve i (fun _ _ h => h))

/-- **write handles act directly on a leaf: `write` / `flush` / `drop` never touch the plan** -/
theorem WHandle.keeps_plan (h : WHandle) (b : Bool) (f : Option Nat) :
    HandleOK (fun w => w.fired = b ∧ w.fault = f) h :=
  handle_ok_of_leaf h.leaf (plan_ignoresLeaf b f h.leaf) h rfl

theorem WHandle.keeps_unfired (h : WHandle) : HandleOK (fun w => w.fired = false) h :=
  handle_ok_of_leaf h.leaf (fun _ _ hw => hw) h rfl

theorem WHandle.write_fired (h : WHandle) (bs : Bytes) (w : World) :
    (h.write bs w).2.fired = w.fired ∧ (h.write bs w).2.fault = w.fault :=
  ((h.keeps_plan w.fired w.fault).write bs).pres w ⟨rfl, rfl⟩

theorem WHandle.flush_fired (h : WHandle) (w : World) :
    (h.flush w).2.fired = w.fired ∧ (h.flush w).2.fault = w.fault :=
  ((h.keeps_plan w.fired w.fault).flush).pres w ⟨rfl, rfl⟩

theorem WHandle.drop_fired (h : WHandle) (w : World) :
    (h.drop w).2.fired = w.fired ∧ (h.drop w).2.fault = w.fault := h.flush_fired w

theorem WHandle.faith_write (h : WHandle) (bs : Bytes) : FaithfulIO (h.write bs) :=
  .of_preserves (h.keeps_unfired.write bs)
theorem WHandle.faith_flush (h : WHandle) : FaithfulIO h.flush :=
  .of_preserves h.keeps_unfired.flush
theorem WHandle.faith_drop (h : WHandle) : FaithfulIO h.drop :=
  .of_preserves h.keeps_unfired.drop
theorem WHandle.faith_writeAllAndDrop (h : WHandle) (bs : Bytes) : FaithfulIO (h.writeAllAndDrop bs) :=
  .of_preserves (h.keeps_unfired.writeAllAndDrop bs)

/-- every write handle meets `Spec.faithful`, whichever filesystem handed it out -/
theorem WHandle.faithful_ok (h : WHandle) : Spec.faithful.HandleOK h :=
  fun b p => ⟨fun bs => (FaithfulIO.of_preserves ((h.keeps_unfired b p).1 bs)).sat,
    (FaithfulIO.of_preserves (h.keeps_unfired b p).2).sat⟩

theorem FS.Faithful.sat {fs : FS} (h : fs.Faithful) : Spec.faithful.All fs where
  readDir p := (h.readDir p).sat
  createDir p := (h.createDir p).sat
  openFile p := (h.openFile p).sat
  createFile p := (h.createFile p).sat
  appendFile p := (h.appendFile p).sat
  metadata p := (h.metadata p).sat
  setCreationTime p t := (h.setCreationTime p t).sat
  setModificationTime p t := (h.setModificationTime p t).sat
  setAccessTime p t := (h.setAccessTime p t).sat
  exists_ p := (h.exists_ p).sat
  removeFile p := (h.removeFile p).sat
  removeDir p := (h.removeDir p).sat
  copyFile s d := (h.copyFile s d).sat
  moveFile s d := (h.moveFile s d).sat
  moveDir s d := (h.moveDir s d).sat
  createHandle _ := ⟨fun _ a _ => a.faithful_ok⟩
  appendHandle _ := ⟨fun _ a _ => a.faithful_ok⟩

/-! ### the fault wrapper -/

/-- **the gate**: when the countdown is at zero the call fails with the injected error and the
inner call is not made; otherwise the inner call runs with the plan still pending -/
theorem faultGate_faithfulIO {α} {m : M α} (hm : FaithfulIO m) : FaithfulIO (faultGate m) := by
  refine ⟨fun w hw => ?_⟩
  unfold faultGate
  split
  · intro _; rfl
  · exact hm.io _ hw
  · exact hm.io w hw

theorem faultFS_faithful {inner : FS} (h : inner.Faithful) : (faultFS inner).Faithful :=
  .of_sat (faultFS_sat (fun hm => (faultGate_faithfulIO (.of_sat hm)).sat) h.sat)

/-- the recording wrapper only appends to the ghost log -/
theorem logCall_faithful (tag : Nat) (m : Method) (p p2 : Str) : FaithfulIO (logCall tag m p p2) :=
  .of_preserves ⟨fun _ h => h⟩

theorem recordFS_faithful {inner : FS} (tag : Nat) (h : inner.Faithful) : (recordFS tag inner).Faithful :=
  .of_sat (recordFS_sat tag (fun m p p2 => (logCall_faithful tag m p p2).sat) h.sat)

/-! ### the `VfsPath` layer -/
namespace VPath

theorem faith_exists (p : VPath) (h : p.fs.Faithful) : FaithfulIO p.exists_ := h.exists_ _
theorem faith_metadata (p : VPath) (h : p.fs.Faithful) : FaithfulIO p.metadata :=
  .withPath _ (h.metadata _)
theorem faith_readDir (p : VPath) (h : p.fs.Faithful) : FaithfulIO p.readDir :=
  .of_sat (sat_readDir p h.sat.obs)
theorem faith_createDir (p : VPath) (h : p.fs.Faithful) : FaithfulIO p.createDir :=
  .of_sat (sat_createDir p h.sat)
theorem faith_walkDir (p : VPath) (h : p.fs.Faithful) : FaithfulIO p.walkDir :=
  .of_sat (sat_walkDir p h.sat.obs)

theorem faith_removeDirAll (fuel : Nat) (p : VPath) (h : p.fs.Faithful) :
    FaithfulIO (removeDirAll fuel p) :=
  .of_sat (sat_removeDirAll fuel p h.sat.rm)

theorem faith_removeChildren (fuel : Nat) (l : List VPath) (h : ∀ c ∈ l, c.fs.Faithful) :
    FaithfulIO (removeChildren fuel l) :=
  .of_sat (sat_removeChildren_of fuel l (fun c hc => (h c hc).sat.rm)
    (fun c hc => (faith_removeDirAll fuel c (h c hc)).sat))

/-- `copy_file`: the fast path's error is swallowed only when its kind is `NotSupported` -/
theorem faith_copyFile (src dst : VPath) (hs : src.fs.Faithful) (hd : dst.fs.Faithful) :
    FaithfulIO (src.copyFile dst) :=
  .of_sat (sat_copyFile src dst hs.sat.obs hd.sat (fun _ => hs.sat))

/-- `move_file`: dropping the destination handle does not touch the plan, so the outcome of the
removal of the source is still the injected error if the fault fired there -/
theorem faith_moveFile (src dst : VPath) (hs : src.fs.Faithful) (hd : dst.fs.Faithful) :
    FaithfulIO (src.moveFile dst) :=
  .of_sat (sat_moveFile src dst hs.sat hd.sat
    (fun h o w _ hp hf => hp (by rw [← (h.drop_fired w).1]; exact hf)))

/-! #### walk -/

/-- **`WalkDirIterator::next`**: if the fault fires during the step (in the `read_dir` of a
pending directory or in the `metadata` of the item), the step yields `some (err io ..)` -/
theorem faith_walkNext (fs : FS) (hfs : fs.Faithful) (s : Walk) (hs : s.On fs) :
    FaithfulItem (walkNext s) :=
  .of_satQ ((satq_walkNext_obs s (fun c hc => by rw [hs.1 c hc]; exact hfs.sat.obs)
    (fun c hc => by rw [hs.2 c hc]; exact hfs.sat.obs)).mono fun _ _ h => h.1)

/-- the whole iteration: a fault that fires at any step of `walk_dir().collect()` is visible in
what is collected, as an `Err` item -/
theorem walkAll_io_item (fs : FS) (hfs : fs.Faithful) (fuel : Nat) (s : Walk) (hs : s.On fs)
    (w : World) (hw : w.fired = false) {l : List (Res VPath)} {w' : World}
    (he : walkAll fuel s w = (.ok l, w')) (hf : w'.fired = true) : ∃ x ∈ l, x.isIo = true := by
  induction fuel generalizing s w l with
  | zero => rw [walkAll_zero] at he; cases he
  | succ fuel ih =>
    rw [walkAll_succ] at he
    obtain ⟨⟨item, s'⟩, w1, hnx, he1⟩ := M.bind_ok_inv he
    have h1 := (faith_walkNext fs hfs s hs).io w hw
    have hs' : s'.On fs := ((walkNext_on fs s hs).post w _ (by rw [hnx])).2
    rw [hnx] at h1
    cases item with
    | none =>
      -- impossible: the step yielded no item, but a fault that fires in a step becomes its item
      cases he1
      exact nomatch h1 hf
    | some it =>
      obtain ⟨rest, w2, hrest, he2⟩ := M.bind_ok_inv he1
      cases he2
      cases hfw : w1.fired with
      | true => exact ⟨it, by simp, h1 hfw⟩
      | false =>
        obtain ⟨x, hx, hio⟩ := ih s' hs' w1 hfw hrest
        exact ⟨x, by simp [hx], hio⟩

/-! #### directory transfers -/

/-- `copy_dir`: its loop hands an error item of the walk on (`file?`) -/
theorem faith_copyDir (fuel : Nat) (src dst : VPath) (hs : src.fs.Faithful) (hd : dst.fs.Faithful) :
    FaithfulIO (src.copyDir fuel dst) :=
  .of_sat (sat_copyDir fuel src dst hs.sat hd.sat)

/-- `move_dir`: the fast path's error is swallowed only when its kind is `NotSupported` -/
theorem faith_moveDir (fuel : Nat) (src dst : VPath) (hs : src.fs.Faithful) (hd : dst.fs.Faithful) :
    FaithfulIO (src.moveDir fuel dst) :=
  .of_sat (sat_moveDir fuel src dst hs.sat hd.sat)

end VPath

/-! ### AltrootFS and OverlayFS -/

namespace Altroot

theorem faithful (root : VPath) (h : root.fs.Faithful) : (fs root).Faithful :=
  .of_sat (sat_all root h.sat)

end Altroot

namespace Overlay
open VPath

/-- the hypothesis on the layers -/
abbrev GoodLayers (layers : List VPath) : Prop := ∀ l ∈ layers, l.fs.Faithful

/-- every method of the overlay, for arbitrary faithful layers (any number, nested adapters) -/
theorem faithful (layers : List VPath) (hl : GoodLayers layers) : (Overlay.fs layers).Faithful :=
  .of_sat (Overlay.sat_all (.of_all (fun l hm => (hl l hm).sat)))

end Overlay

end Vfs
