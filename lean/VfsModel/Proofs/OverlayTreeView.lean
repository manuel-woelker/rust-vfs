/-
  The overlay over n in-memory layers shows a tree (`overlay_treeView`, in the sense of
  Proofs/WalkGeneric.lean): its view cut down to the root and the disciplined paths (`OVis`,
  `ovisView`), under `OWN`, `OInv`, `ViewWF` and the name discipline `NamesOK`, which every
  contract-obeying call keeps (`namesOK_step`) and which a check on the keys of the layer maps
  implies (`namesCheck`, `namesOK_of_keys`). `RootOrOp cs` (the root or a disciplined component
  list) is how the proofs address the paths of `OVis`. `overlay_viewAbsent`: on the disciplined
  paths an absent path is not-found and a file refuses `read_dir`.
  The walk theorems through this view, the histories and the examples are in
  Props/C05WalkView.lean.
-/
import VfsModel.Proofs.WalkGeneric
import VfsModel.Props.C05Walk
import VfsModel.Proofs.OverlayObservers
import VfsModel.Props.C09Contract
namespace Vfs.C05
open Vfs.Wk
open Vfs.WkG (TreeViewOn TreeView ViewAbsent IsNames)

section overlay
open Vfs.Overlay Vfs.C09 Vfs.C02 Vfs.C01

/-- the paths the overlay's tree consists of: the root and the disciplined canonical paths
(canonical, outside ".whiteout", no component ending in "_wo") -/
def OVis (k : Str) : Prop := k = [] ∨ ∃ cs, OpPath cs ∧ k = renderC cs

open Classical in
/-- the overlay's view `oview`, cut down to the root and the disciplined paths -/
noncomputable def ovisView (all : List FMap) : Str → Option Entry :=
  fun k => if OVis k then oview all k else none

theorem ovisView_of_vis {all : List FMap} {k : Str} (h : OVis k) : ovisView all k = oview all k := by
  unfold ovisView; rw [if_pos h]

theorem ovisView_some {all : List FMap} {k : Str} {e : Entry} (h : ovisView all k = some e) :
    OVis k ∧ oview all k = some e := by
  unfold ovisView at h
  split at h
  · rename_i hv; exact ⟨hv, h⟩
  · cases h

theorem ovisView_ne_none_iff {all : List FMap} {k : Str} :
    ovisView all k ≠ none ↔ (OVis k ∧ oview all k ≠ none) := by
  unfold ovisView
  split
  · rename_i hv; exact ⟨fun h => ⟨hv, h⟩, fun h => h.2⟩
  · rename_i hv; exact ⟨fun h => absurd rfl h, fun h => absurd h.1 hv⟩

def RootOrOp (cs : List Str) : Prop := cs = [] ∨ OpPath cs

theorem RootOrOp.good {cs : List Str} (h : RootOrOp cs) : ∀ c ∈ cs, GoodComp c := by
  rcases h with rfl | h
  · intro c hc; cases hc
  · exact h.good

theorem RootOrOp.nowo {cs : List Str} (h : RootOrOp cs) : ∀ c ∈ cs, NoWo c := by
  rcases h with rfl | h
  · intro c hc; cases hc
  · exact h.nowo

theorem RootOrOp.vis {cs : List Str} (h : RootOrOp cs) : OVis (renderC cs) := by
  rcases h with rfl | h
  · left; rfl
  · right; exact ⟨cs, h, rfl⟩

theorem OVis.cases {k : Str} (h : OVis k) : ∃ cs, RootOrOp cs ∧ k = renderC cs := by
  rcases h with rfl | ⟨cs, hcs, rfl⟩
  · exact ⟨[], Or.inl rfl, rfl⟩
  · exact ⟨cs, Or.inr hcs, rfl⟩

/-- a child of the root or of a disciplined path does not start in ".whiteout", the root's child
of that name excepted -/
theorem RootOrOp.head_snoc {ds : List Str} {n : Str} (h : RootOrOp ds)
    (hroot : ds = [] → n ≠ woDir) : (ds ++ [n]).head? ≠ some woDir := by
  cases ds with
  | nil =>
    intro h0
    simp only [List.nil_append, List.head?_cons, Option.some.injEq] at h0
    exact hroot rfl h0
  | cons d ds =>
    rcases h with h | h
    · cases h
    · simpa using h.head

theorem RootOrOp.child {ds : List Str} {n : Str} (h : RootOrOp ds) (hn : GoodComp n)
    (hnw : NoWo n) (hroot : ds = [] → n ≠ woDir) : OpPath (ds ++ [n]) where
  ne := by simp
  good := by
    intro c hc
    rcases List.mem_append.1 hc with hc | hc
    · exact h.good c hc
    · rw [List.mem_singleton.1 hc]; exact hn
  nowo := by
    intro c hc
    rcases List.mem_append.1 hc with hc | hc
    · exact h.nowo c hc
    · rw [List.mem_singleton.1 hc]; exact hnw
  head := h.head_snoc hroot

theorem rootOrOp_parent {ds : List Str} {n : Str} (hp : OpPath (ds ++ [n])) : RootOrOp ds := by
  by_cases hd : ds = []
  · exact Or.inl hd
  · exact Or.inr ⟨hd, hp.hds, hp.nwds, hp.dhead⟩

/-- **name discipline of the view** (a state hypothesis): below the root and below every
disciplined path, every present bare name is a canonical component that does not end in "_wo";
at the root the bookkeeping directory ".whiteout" is exempt -/
def NamesOK (all : List FMap) : Prop :=
  ∀ (ds : List Str) (n : Str), RootOrOp ds → '/' ∉ n →
    viewN all (renderC ds ++ '/' :: n) ≠ none → (ds = [] → n ≠ woDir) → GoodComp n ∧ NoWo n

theorem child_NR {ds : List Str} {n : Str} (h : RootOrOp ds) (hs : '/' ∉ n)
    (hroot : ds = [] → n ≠ woDir) : NR (renderC ds ++ '/' :: n) := by
  rw [← renderC_snoc]
  apply NR_renderC (by simp)
  · intro c hc
    rcases List.mem_append.1 hc with hc | hc
    · exact (h.good c hc).noSlash
    · rw [List.mem_singleton.1 hc]; exact hs
  · exact h.head_snoc hroot

/-- a decidable sufficient check of `NamesOK` on the keys of the layer maps: every key is the
root, lies inside ".whiteout", or has a canonical last component not ending in "_wo" -/
def namesCheck (all : List FMap) : Bool :=
  all.all fun m => m.keys.all fun k =>
    decide (k = []) || decide (firstComp k = woDir) ||
      (decide (GoodComp (afterLast '/' k)) && decide (NoWo (afterLast '/' k)))

theorem viewN_some_key {all : List FMap} {q : Str} (h : viewN all q ≠ none) :
    ∃ m ∈ all, q ∈ m.keys := by
  unfold viewN at h
  split at h
  · exact absurd rfl h
  · obtain ⟨e, he⟩ := (ne_none_iff _).1 h
    obtain ⟨k, m, hfa, hm⟩ := firstN_some he
    exact ⟨m, List.mem_of_getElem? hfa.get, (FMap.mem_keys_iff m q).2 ⟨e, hm⟩⟩

theorem namesOK_of_keys {all : List FMap} (h : namesCheck all = true) : NamesOK all := by
  intro ds n hds hs hpres hroot
  obtain ⟨m, hm, hk⟩ := viewN_some_key hpres
  unfold namesCheck at h
  rw [List.all_eq_true] at h
  have := h m hm
  rw [List.all_eq_true] at this
  have := this _ hk
  simp only [Bool.or_eq_true, Bool.and_eq_true, decide_eq_true_eq] at this
  have hnr := child_NR hds hs hroot
  rcases this with (h0 | h0) | h0
  · simp at h0
  · exact absurd h0 hnr.2
  · rw [afterLast_append_delim '/' _ n hs] at h0
    exact h0


theorem OVis.nr {k : Str} (h : OVis k) (hne : k ≠ []) : NR k := by
  rcases h with h | ⟨cs, hcs, rfl⟩
  · exact absurd h hne
  · exact NR_renderC hcs.ne (good_noSlash hcs.good) hcs.head

/-- one contract-obeying call on a disciplined path keeps the name discipline: the only path whose
presence can change is the operated one, and its last component is disciplined -/
theorem namesOK_step {all all' : List FMap} {op : Mut} {r : Res Unit} (hn : NamesOK all)
    (hop : OpOK op) (hc : VContract (oview all) op r (oview all')) : NamesOK all' := by
  intro ds n hds hs hpres hroot
  have hnr := child_NR hds hs hroot
  have hq0 : renderC ds ++ '/' :: n ≠ [] := by simp
  obtain ⟨ds', n', hp', hpath⟩ := hop
  by_cases hq : renderC ds ++ '/' :: n = op.path
  · rw [hpath, renderC_snoc] at hq
    have := congrArg (afterLast '/') hq
    rw [afterLast_append_delim '/' _ n hs, afterLast_append_delim '/' _ n' hp'.hn.noSlash] at this
    rw [this]
    exact ⟨hp'.hn, hp'.nowo n' (by simp)⟩
  · have hsame : (oview all' (renderC ds ++ '/' :: n)).map vcore
        = (oview all (renderC ds ++ '/' :: n)).map vcore := by
      cases hr : r.isOk with
      | true => exact (hc.effect hr).2 _ (Or.inr hnr) hq
      | false => exact hc.unchanged hr _ (Or.inr hnr)
    have hiff := none_of_vcore hsame
    rw [oview_ne hq0, oview_ne hq0] at hiff
    exact hn ds n hds hs (fun h0 => hpres (hiff.2 h0)) hroot

variable {w : World} {u idu : Nat} {mu : FMap} {is ids : List Nat} {ms : List FMap}
  (h : OWN w (u :: is) (idu :: ids) (mu :: ms)) (inv : OInv mu ms)
  (hv : ViewWF (oview (mu :: ms))) (hn : NamesOK (mu :: ms))

include h inv hv hn in
/-- **the overlay shows a tree**: under `OWN`, `OInv`, `ViewWF` and the name discipline, the
observers of the overlay are those of its view cut down to the disciplined paths, a well-formed
finite tree, and they leave the world unchanged -/
theorem overlay_treeView :
    TreeView (Overlay.fs (layersN (u :: is) (idu :: ids))) w (ovisView (mu :: ms)) where
  finite := by
    refine ⟨[] :: (mu :: ms).flatMap FMap.keys, fun k hk => ?_⟩
    by_cases hk0 : k = []
    · subst hk0; simp
    · have := (ovisView_ne_none_iff.1 hk).2
      rw [oview_ne hk0] at this
      obtain ⟨m, hm, hkm⟩ := viewN_some_key this
      exact List.mem_cons_of_mem _ (List.mem_flatMap.2 ⟨m, hm, hkm⟩)
  root := by
    obtain ⟨e, he, hd⟩ := rootIsDir (ms := ms) inv.root
    exact ⟨e, by rw [ovisView_of_vis (Or.inl rfl)]; exact he, hd⟩
  parent := by
    intro k e hk hne
    obtain ⟨hvis, hk⟩ := ovisView_some hk
    rcases hvis with rfl | ⟨cs, hcs, rfl⟩
    · exact absurd rfl hne
    · rcases List.eq_nil_or_concat cs with rfl | ⟨ds, n, rfl⟩
      · exact absurd rfl hcs.ne
      · rw [List.concat_eq_append] at hcs hk ⊢
        refine ⟨by rw [renderC_snoc]; simp, ?_⟩
        have := C03.viewWF_no_orphan hv hcs.ne hcs.good hcs.head (by rw [hk]; simp)
        rw [hcs.parent] at this ⊢
        obtain ⟨pe, hpe, hpd⟩ := this
        exact ⟨pe, by rw [ovisView_of_vis (rootOrOp_parent hcs).vis]; exact hpe, hpd⟩
  readDir := by
    intro w' hw' p e hp hd
    cases hw'
    obtain ⟨hvis, hp⟩ := ovisView_some hp
    obtain ⟨cs, hcs, rfl⟩ := hvis.cases
    refine ⟨pListingN (mu :: ms) (renderC cs), w, ?_, rfl, nodup_pListingN _ _, fun n => ?_⟩
    · rw [overlay_readDir_spec h inv cs hcs.good hcs.nowo, hp]
      simp only [hd, if_true]
    · rw [mem_listing h inv cs n, ovisView_ne_none_iff]
      constructor
      · rintro ⟨hs, hsome, hroot⟩
        have hpres : viewN (mu :: ms) (renderC cs ++ '/' :: n) ≠ none := by
          intro h0; rw [h0] at hsome; cases hsome
        have hroot' : cs = [] → n ≠ woDir := fun h0 => hroot (by rw [h0]; rfl)
        obtain ⟨hg, hnw⟩ := hn cs n hcs hs hpres hroot'
        refine ⟨hs, Or.inr ⟨cs ++ [n], hcs.child hg hnw hroot', (renderC_snoc cs n).symm⟩, ?_⟩
        rw [oview_ne (by simp)]
        exact hpres
      · rintro ⟨hs, hvis', hpres⟩
        rw [oview_ne (by simp)] at hpres
        refine ⟨hs, ?_, ?_⟩
        · cases hvn : viewN (mu :: ms) (renderC cs ++ '/' :: n) with
          | none => exact absurd hvn hpres
          | some e' => rfl
        · intro h0 hnwo
          rw [h0] at hvis'
          rcases hvis' with h1 | ⟨cs', hcs', h1⟩
          · simp at h1
          · have hnr := NR_renderC hcs'.ne (good_noSlash hcs'.good) hcs'.head
            rw [← h1] at hnr
            have : firstComp ([] ++ '/' :: n) = n := by
              simpa using firstComp_cons n [] hs (Or.inl rfl)
            exact hnr.2 (by rw [this]; exact hnwo)
  metadata := by
    intro w' hw' p e hp
    cases hw'
    obtain ⟨hvis, hp⟩ := ovisView_some hp
    rcases hvis with rfl | ⟨cs, hcs, rfl⟩
    · refine ⟨e.meta, w, ?_, rfl, rfl⟩
      rw [run_ometadata_rootN h]
      rw [oview_root] at hp
      rw [metadata_reports mu [] e hp]
      rfl
    · exact ⟨e.meta, w, overlay_metadata_reports h hcs.ne hcs.good hp, rfl, rfl⟩

include h inv in
/-- on the disciplined paths, absent paths are not-found and files refuse `read_dir` -/
theorem overlay_viewAbsent :
    ViewAbsent (Overlay.fs (layersN (u :: is) (idu :: ids))) (fun w' => w' = w)
      (ovisView (mu :: ms)) (fun p => ∃ cs, OpPath cs ∧ p = renderC cs) where
  absent := by
    intro w' hw' p hdom hp
    cases hw'
    obtain ⟨cs, hcs, rfl⟩ := hdom
    rw [ovisView_of_vis (Or.inr ⟨cs, hcs, rfl⟩)] at hp
    obtain ⟨_, h2, h3, _⟩ := overlay_absent_all_fail h inv hcs hp
    exact ⟨⟨none, w, h3, rfl⟩, ⟨none, w, h2, rfl⟩⟩
  file := by
    intro w' hw' p e hdom hp hf
    cases hw'
    obtain ⟨cs, hcs, rfl⟩ := hdom
    rw [ovisView_of_vis (Or.inr ⟨cs, hcs, rfl⟩)] at hp
    refine ⟨.other, none, w, ?_, rfl⟩
    rw [overlay_readDir_spec h inv cs hcs.good hcs.nowo, hp]
    simp [hf]

end overlay

end Vfs.C05
