/-
  Lemmas about the association-list finite map `FMap`.
-/
import VfsModel.Fs
namespace Vfs.FMap

@[simp] theorem find?_nil (k : Str) : find? [] k = none := rfl

theorem find?_cons (k' : Str) (v : Entry) (m : FMap) (k : Str) :
    find? ((k', v) :: m) k = if k' = k then some v else find? m k := rfl

theorem erase_cons (k' : Str) (v : Entry) (m : FMap) (k : Str) :
    erase ((k', v) :: m) k = if k' = k then erase m k else (k', v) :: erase m k := rfl

@[simp] theorem find?_erase_self (m : FMap) (k : Str) : find? (erase m k) k = none := by
  induction m with
  | nil => rfl
  | cons kv rest ih =>
    obtain ⟨k', v⟩ := kv
    rw [erase_cons]
    by_cases h : k' = k
    · simp [h, ih]
    · simp [h, find?_cons, ih]

theorem find?_erase_ne (m : FMap) (k k' : Str) (h : k' ≠ k) :
    find? (erase m k) k' = find? m k' := by
  induction m with
  | nil => rfl
  | cons kv rest ih =>
    obtain ⟨k1, v⟩ := kv
    rw [erase_cons]
    by_cases h1 : k1 = k
    · have : k1 ≠ k' := by rw [h1]; exact fun e => h e.symm
      simp [h1, ih, find?_cons]
      intro e; exact absurd e.symm h
    · simp [h1, find?_cons, ih]

@[simp] theorem find?_insert_self (m : FMap) (k : Str) (v : Entry) :
    find? (insert m k v) k = some v := by
  simp [insert, find?_cons]

theorem find?_insert_ne (m : FMap) (k k' : Str) (v : Entry) (h : k' ≠ k) :
    find? (insert m k v) k' = find? m k' := by
  simp only [insert, find?_cons]
  rw [if_neg (fun e => h e.symm), find?_erase_ne m k k' h]

theorem find?_insert (m : FMap) (k k' : Str) (v : Entry) :
    find? (insert m k v) k' = if k' = k then some v else find? m k' := by
  by_cases h : k' = k
  · subst h; simp
  · rw [if_neg h, find?_insert_ne m k k' v h]

theorem find?_erase (m : FMap) (k k' : Str) :
    find? (erase m k) k' = if k' = k then none else find? m k' := by
  by_cases h : k' = k
  · subst h; simp
  · rw [if_neg h, find?_erase_ne m k k' h]

theorem contains_iff (m : FMap) (k : Str) : contains m k = true ↔ ∃ e, find? m k = some e := by
  unfold contains
  cases find? m k <;> simp

theorem mem_keys_iff (m : FMap) (k : Str) : k ∈ keys m ↔ ∃ e, find? m k = some e := by
  induction m with
  | nil => simp [keys]
  | cons kv rest ih =>
    obtain ⟨k1, v⟩ := kv
    rw [find?_cons, show keys ((k1, v) :: rest) = k1 :: keys rest from rfl, List.mem_cons, ih]
    by_cases h : k1 = k
    · rw [if_pos h]; exact ⟨fun _ => ⟨v, rfl⟩, fun _ => Or.inl h.symm⟩
    · rw [if_neg h]; exact ⟨fun h' => h'.resolve_left (fun e => h e.symm), Or.inr⟩

/-- key lists without duplicates -/
def NodupKeys (m : FMap) : Prop := (keys m).Nodup

/-- decided on the list of keys, so that a concrete map is checked by `decide` -/
instance (m : FMap) : Decidable (NodupKeys m) := inferInstanceAs (Decidable (keys m).Nodup)

theorem keys_erase_subset (m : FMap) (k : Str) : ∀ x ∈ keys (erase m k), x ∈ keys m ∧ x ≠ k := by
  intro x hx
  obtain ⟨e, he⟩ := (mem_keys_iff _ x).1 hx
  rw [find?_erase] at he
  split at he
  · cases he
  · rename_i hne; exact ⟨(mem_keys_iff m x).2 ⟨e, he⟩, hne⟩

theorem keys_erase_sublist (m : FMap) (k : Str) : (keys (erase m k)).Sublist (keys m) := by
  induction m with
  | nil => exact List.Sublist.slnil
  | cons kv rest ih =>
    obtain ⟨k1, v⟩ := kv
    rw [erase_cons]
    split
    · exact ih.cons k1
    · exact ih.cons_cons k1

theorem nodup_erase (m : FMap) (k : Str) (h : NodupKeys m) : NodupKeys (erase m k) :=
  List.Nodup.sublist (keys_erase_sublist m k) h

theorem nodup_insert (m : FMap) (k : Str) (v : Entry) (h : NodupKeys m) :
    NodupKeys (insert m k v) := by
  unfold NodupKeys insert keys
  simp only [List.map_cons, List.nodup_cons]
  refine ⟨?_, nodup_erase m k h⟩
  intro hmem
  exact (keys_erase_subset m k k hmem).2 rfl

theorem find?_mem (m : FMap) (k : Str) (e : Entry) (h : m.find? k = some e) : (k, e) ∈ m := by
  induction m with
  | nil => simp at h
  | cons kv rest ih =>
    obtain ⟨k', v⟩ := kv
    rw [find?_cons] at h
    split at h
    · rename_i hk
      injection h with h
      subst hk; subst h; simp
    · exact List.mem_cons_of_mem _ (ih h)

/-- the flat map of a view `g` over the keys `l`: for each key of `l`, in order, what `g` holds there -/
def tab (l : List Str) (g : Str → Option Entry) : FMap :=
  l.filterMap (fun k => (g k).map (fun e => (k, e)))

theorem find?_tab (l : List Str) (g : Str → Option Entry) (q : Str) :
    (tab l g).find? q = if q ∈ l then g q else none := by
  induction l with
  | nil => rfl
  | cons a l ih =>
    unfold tab at ih ⊢
    rw [List.filterMap_cons]
    cases hg : g a with
    | none =>
      simp only [Option.map_none]
      rw [ih]
      by_cases hq : q = a
      · subst hq; simp [hg]
      · simp [hq]
    | some e =>
      simp only [Option.map_some]
      rw [find?_cons, ih]
      by_cases hq : a = q
      · subst hq; simp [hg]
      · have : ¬ q = a := fun h => hq h.symm
        simp [hq, this]

theorem nodupKeys_tab (l : List Str) (g : Str → Option Entry) (h : l.Nodup) :
    NodupKeys (tab l g) := by
  unfold NodupKeys
  induction l with
  | nil => simp [tab, keys]
  | cons a l ih =>
    have hnd := List.nodup_cons.1 h
    have e : tab (a :: l) g = match g a with
        | none => tab l g
        | some e => (a, e) :: tab l g := by
      unfold tab
      rw [List.filterMap_cons]
      cases g a <;> rfl
    rw [e]
    cases hg : g a with
    | none => exact ih hnd.2
    | some e =>
      show (a :: keys (tab l g)).Nodup
      refine List.nodup_cons.2 ⟨?_, ih hnd.2⟩
      intro hm
      obtain ⟨e', he'⟩ := (mem_keys_iff _ _).1 hm
      rw [find?_tab] at he'
      split at he'
      · rename_i hin; exact hnd.1 hin
      · cases he'

end Vfs.FMap

namespace Vfs

/-! `FMap.contains` from a lookup and back (with `FMap.contains_iff`) -/

theorem contains_of_find {m : FMap} {k : Str} {e : Entry} (h : m.find? k = some e) :
    m.contains k = true := by unfold FMap.contains; rw [h]; rfl

theorem contains_of_none {m : FMap} {k : Str} (h : m.find? k = none) :
    m.contains k = false := by unfold FMap.contains; rw [h]; rfl

theorem find?_none_of_contains {m : FMap} {k : Str} (h : m.contains k = false) :
    m.find? k = none := by
  cases hf : m.find? k with
  | none => rfl
  | some e => rw [contains_of_find hf] at h; cases h

/-- `contains` reads the map through `find?` only -/
theorem contains_eq_of_find {m m' : FMap} {q q' : Str} (h : m'.find? q' = m.find? q) :
    m'.contains q' = m.contains q := by
  unfold FMap.contains; rw [h]

end Vfs
