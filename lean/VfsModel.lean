-- model files only; proof modules are built one by one (a few property files declare a constant of
-- the same name and cannot share an importer)
import VfsModel.Adapters
import VfsModel.AsyncHandle
import VfsModel.AsyncOps
import VfsModel.AsyncWalk
import VfsModel.Basic
import VfsModel.Conc
import VfsModel.Embedded
import VfsModel.Fs
import VfsModel.Handle
import VfsModel.Leaf
import VfsModel.OverlayConc
import VfsModel.AltrootConc
import VfsModel.Path
import VfsModel.PathOps
